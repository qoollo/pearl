import Pearl.Model.Basic
import Pearl.Spec
import Pearl.Model.Index
import Pearl.Model.Store
import Pearl.Model.Ops
import Pearl.Model.Script
import Pearl.Model.Driver
import Pearl.Oracle
import Pearl.Proofs.ListLemmas
import Pearl.Proofs.IndexLemmas
import Pearl.Proofs.SpecLemmas
import Pearl.Proofs.StoreLemmas
import Pearl.Props.C01
import Pearl.Props.C02
import Pearl.Model.Worker
import Pearl.Model.Lts
import Pearl.Proofs.WorkerLemmas
import Pearl.Proofs.LtsLemmas
import Pearl.Model.WorkerTimed
import Pearl.Proofs.WorkerTimed
import Pearl.Props.C13
import Pearl.Model.ConcRW
import Pearl.Proofs.ConcRW
import Pearl.Model.ConcBytes
import Pearl.Proofs.ConcRW2
import Pearl.Proofs.ConcRWResp
import Pearl.Props.C08
import Pearl.Model.Bytes
import Pearl.Model.Crc
import Pearl.Model.Record
import Pearl.Proofs.BytesLemmas
import Pearl.Proofs.CrcLemmas
import Pearl.Proofs.RecordLemmas
import Pearl.Proofs.BlobLemmas
import Pearl.Proofs.BlobProduced
import Pearl.Proofs.BlobDemo
import Pearl.Proofs.ScanRegions
import Pearl.Props.C05
import Pearl.Proofs.MaintLemmas
import Pearl.Model.Abstract
import Pearl.Proofs.AbstractRefine
import Pearl.Props.C04
import Pearl.Model.Acct
import Pearl.Proofs.AcctLemmas
import Pearl.Proofs.AcctMoves
import Pearl.Proofs.AcctRuns
import Pearl.Proofs.AcctHarm
import Pearl.Model.AcctScript
import Pearl.Proofs.AcctDriver
import Pearl.Props.C15
import Pearl.Props.C03
import Pearl.Model.BPTree
import Pearl.Model.BPTreeBytes
import Pearl.Props.C09
import Pearl.Model.Filter
import Pearl.Model.Container
import Pearl.Model.AHash
import Pearl.Proofs.FilterLemmas
import Pearl.Proofs.ContainerLemmas
import Pearl.Props.C10
import Pearl.Gen.Consts
import Pearl.Model.Pinned
import Pearl.Tie.C01
import Pearl.Tie.C05
import Pearl.Tie.C06
import Pearl.Tie.C08
import Pearl.Tie.C09
import Pearl.Tie.C10
import Pearl.Tie.C12
import Pearl.Tie.C13
import Pearl.Tie.C14
import Pearl.Tie.C15
import Pearl.Tie.C17
import Pearl.Model.Fs
import Pearl.Proofs.FsContent
import Pearl.Proofs.FsLemmas
import Pearl.Model.SyncProto
import Pearl.Proofs.Run
import Pearl.Proofs.SyncProto
import Pearl.Proofs.SyncProto3
import Pearl.Props.C12
import Pearl.Proofs.FsAcct
import Pearl.Props.C07
import Pearl.Model.Tools
import Pearl.Model.Crash
import Pearl.Proofs.ToolsReader
import Pearl.Proofs.ToolsLemmas
import Pearl.Proofs.CrashLemmas
import Pearl.Model.ToolsWriter
import Pearl.Proofs.ToolsWriter
import Pearl.Proofs.ToolsDemo
import Pearl.Proofs.ToolsWriterBuggy
import Pearl.Props.C16
import Pearl.Model.ToolsReaderSt
import Pearl.Proofs.ToolsMany
import Pearl.Proofs.ToolsReaderSt
import Pearl.Proofs.ToolsManyDemo
import Pearl.Props.C16b
import Pearl.Proofs.CrashDemo
import Pearl.Props.C06
import Pearl.Model.Fault
import Pearl.Model.Cancel
import Pearl.Proofs.FaultLemmas
import Pearl.Proofs.CancelLemmas
import Pearl.Props.C11
import Pearl.Props.C14
import Pearl.Model.IndexValidate
import Pearl.Proofs.IndexValidateLemmas
import Pearl.Props.C03b
import Pearl.Model.FilterDriver
import Pearl.Proofs.FilterDriverLemmas
import Pearl.Proofs.ContainerStack
import Pearl.Proofs.CancelRefine
import Pearl.Proofs.CancelProduct
import Pearl.Proofs.CancelRestart
import Pearl.Model.EndToEnd
import Pearl.Proofs.EndToEndIndex
import Pearl.Proofs.EndToEndBlob
import Pearl.Proofs.EndToEndBlobOps
import Pearl.Proofs.EndToEndCont
import Pearl.Proofs.EndToEndLemmas
import Pearl.Proofs.EndToEndSteps
import Pearl.Proofs.EndToEndGhost
import Pearl.Model.EndToEndMeta
import Pearl.Proofs.EndToEndMetaBlob
import Pearl.Proofs.EndToEndMetaReadAll
import Pearl.Proofs.EndToEndMetaBytesEnc
import Pearl.Proofs.EndToEndMetaBytesSim
import Pearl.Proofs.EndToEndMetaBytesImage
import Pearl.Proofs.EndToEndMetaBytesBlob
import Pearl.Proofs.EndToEndMetaBytesStore
import Pearl.Proofs.EndToEndMetaBytesSize
import Pearl.Model.EndToEndStart
import Pearl.Proofs.EndToEndStart
import Pearl.Proofs.EndToEndStartStore
import Pearl.Proofs.EndToEndAnswers
import Pearl.Proofs.EndToEndDemo
import Pearl.Proofs.EndToEndStartOffload
import Pearl.Proofs.EndToEndStartOffloadSteps
import Pearl.Proofs.EndToEndStartOffloadBytes
import Pearl.Proofs.EndToEndStartDir
import Pearl.Model.EndToEndCfg
import Pearl.Proofs.EndToEndCfg
import Pearl.Proofs.EndToEndCfgMerge
import Pearl.Props.EndToEnd
import Pearl.Props.C10b
import Pearl.Model.CrcForce
import Pearl.Proofs.CrcForce
import Pearl.Model.EndToEndCrash
import Pearl.Proofs.EndToEndCrash
import Pearl.Proofs.EndToEndCrashRef
import Pearl.Proofs.EndToEndCrashDecide
import Pearl.Proofs.EndToEndCrashDemo
import Pearl.Proofs.EndToEndCrashServed
import Pearl.Proofs.EndToEndCrashTorn
import Pearl.Proofs.EndToEndCrashE8
import Pearl.Model.EndToEndCrashIdx
import Pearl.Proofs.EndToEndCrashIdx
import Pearl.Props.EndToEndCrash
import Pearl.Model.ToolsServe
import Pearl.Proofs.ToolsServe
import Pearl.Props.ToolsServe
import Pearl.Model.ConcCreate
import Pearl.Proofs.ConcCreate
import Pearl.Props.C15b
import Pearl.Model.CancelLoad
import Pearl.Proofs.CancelLoad
import Pearl.Props.C14b
