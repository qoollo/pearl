import Pearl.Proofs.ToolsWriter
/-
C16, the tools on a produced blob, intact or damaged (Pearl/Props/C16.lean: one damaged record; C16b.lean: several).

The blob is described slot by slot: a `Slot` is a record of the original blob together with, if it was altered,
the bytes that now stand in its place (`slotsBytes`); after the slots the file ends or a record is cut short
(`DeadEnd`).  `processTrace_slots` computes what `process_blob_with` hands to the writer on such a file
(`slotsKept`), for both values of `skip_wrong_record` and any preprocessors that do not fail (`ToolRun`);
`slots_tools` what the tool returns for every `validate_every`, `slots_validate` when `validate_blob` accepts.
Intact blobs and their migration are the case of no altered slot (`intact_tools`).  The rest is bookkeeping
between that description and the vocabulary of the C16 statements: `FlipStep` / `FlipMany` give slots
(`FlipMany.slots`), the kept records are named by the indices of the altered ones (`skipKeeps`, `dropIdxs`),
`FlipIn` is `D = [i]`, `CutIn` is intact slots and a dead end (`flipMany_tools`, `flipIn_tools`, `cutIn_tools`).
-/
namespace Pearl

/-! ### slots: a produced blob record by record, each intact or replaced by bytes that do not read -/

/-- a record of the original blob and, if it was altered, the bytes that replaced its image -/
structure Slot where
  record : Record
  bad : Option (List UInt8)

def Slot.bytes (s : Slot) (off : Nat) : List UInt8 :=
  match s.bad with
  | none => s.record.image off
  | some X => X

def slotsBytes : Nat → List Slot → List UInt8
  | _, [] => []
  | off, s :: ss => s.bytes off ++ slotsBytes (off + s.record.size) ss

def slotsSize (ss : List Slot) : Nat := (ss.map (fun s => s.record.size)).sum

/-- every slot holds a well-formed record; an altered slot has the size of the record and is a
    `BadRegion` -/
def SlotsOK (klen : Nat) : Nat → List Slot → Prop
  | _, [] => True
  | off, s :: ss => (s.record.WF klen ∧ s.record.header.timestamp < 2 ^ 64 ∧
      ∀ X, s.bad = some X → X.length = s.record.size ∧ BadRegion off X) ∧ SlotsOK klen (off + s.record.size) ss

theorem Slot.bytes_length {off : Nat} {s : Slot}
    (h : ∀ X, s.bad = some X → X.length = s.record.size ∧ BadRegion off X) (off' : Nat) :
    (s.bytes off').length = s.record.size := by
  unfold Slot.bytes
  cases hb : s.bad with
  | none => exact Record.image_length_eq_size _ _
  | some X => exact (h X hb).1

theorem slotsBytes_length {klen : Nat} : ∀ (ss : List Slot) (off : Nat), SlotsOK klen off ss →
    ∀ off', (slotsBytes off' ss).length = slotsSize ss
  | [], _, _, _ => rfl
  | s :: ss, off, h, off' => by
    simp only [slotsBytes, slotsSize, List.length_append, List.map_cons, List.sum_cons]
    rw [Slot.bytes_length h.1.2.2, slotsBytes_length ss _ h.2]
    rfl

theorem slotsBytes_append (off : Nat) (a b : List Slot) :
    slotsBytes off (a ++ b) = slotsBytes off a ++ slotsBytes (off + slotsSize a) b := by
  induction a generalizing off with
  | nil => simp [slotsBytes, slotsSize]
  | cons s a ih =>
    simp only [List.cons_append, slotsBytes, ih, List.append_assoc, slotsSize, List.map_cons, List.sum_cons,
      Nat.add_assoc]

theorem slotsOK_append {klen : Nat} (off : Nat) (a b : List Slot) :
    SlotsOK klen off (a ++ b) ↔ SlotsOK klen off a ∧ SlotsOK klen (off + slotsSize a) b := by
  induction a generalizing off with
  | nil => simp [SlotsOK, slotsSize]
  | cons s a ih =>
    simp only [List.cons_append, SlotsOK, ih, slotsSize, List.map_cons, List.sum_cons, Nat.add_assoc,
      and_assoc]

theorem slotsSize_eq (ss : List Slot) : slotsSize ss = ((ss.map Slot.record).map Record.size).sum := by
  rw [slotsSize, List.map_map]; rfl

theorem slotsSize_ge (ss : List Slot) : 57 * ss.length ≤ slotsSize ss := by
  rw [slotsSize_eq, ← List.length_map (f := Slot.record)]
  exact sum_size_ge _

theorem slotsOK_good {klen : Nat} : ∀ (Rs : List Record) (off : Nat), GoodRecs klen Rs →
    SlotsOK klen off (Rs.map (fun R => ⟨R, none⟩))
  | [], _, _ => trivial
  | R :: Rs, off, hg =>
    ⟨⟨hg.head.1, hg.head.2, fun X hX => by cases hX⟩, slotsOK_good Rs _ hg.tail⟩

theorem slotsBytes_good : ∀ (Rs : List Record) (off : Nat),
    slotsBytes off (Rs.map (fun R => ⟨R, none⟩)) = tailOf off Rs
  | [], _ => rfl
  | R :: Rs, off => by
    simp only [List.map_cons, slotsBytes, tailOf, Slot.bytes, slotsBytes_good Rs, Record.image_length_eq_size]

/-- reading stops at `p`, with and without `skip_wrong_record`: the end of the file, or a region that does not
    read and after which nothing of the file is left (a record cut short) -/
def DeadEnd (input : List UInt8) (p : Nat) : Prop :=
  p < input.length → ∃ next, input.length ≤ next ∧ DamagedAt input p next

theorem deadEnd_of_le {input : List UInt8} {p : Nat} (h : input.length ≤ p) : DeadEnd input p :=
  fun hp => absurd hp (by omega)

theorem DeadEnd.read {input : List UInt8} {p : Nat} (h : DeadEnd input p) (hp : p < input.length) (skip : Bool) :
    (∃ e, readSingleRecord input p = .error e) ∧ ∃ e, readRecord input skip p = .error e := by
  obtain ⟨next, hn, hd⟩ := h hp
  refine ⟨hd.1, ?_⟩
  cases skip
  · exact hd.readRecord_false
  · exact hd.readRecord_skip_eof hn

theorem DeadEnd.trace {input : List UInt8} {p : Nat} (h : DeadEnd input p) (skip : Bool)
    (f : ToolRecord → Except ToolErr ToolRecord) (k : Nat) : processTrace input skip f k p = [] := by
  by_cases hp : p < input.length
  · obtain ⟨e, he⟩ := (h.read hp skip).2
    exact processTrace_stop he
  · exact processTrace_eof (by omega) _ _ _

/-- what `process_blob_with` keeps of a run of slots that starts at `off`, each record with the offset it is
    read at: an intact slot is kept; at an altered slot the reader fails — without `skip_wrong_record` the loop
    stops; with it, `read_record` tries ONCE more, right after the altered slot: an intact slot there is
    kept, anything else (end of file, another altered slot) is an error and the loop stops -/
def slotsKept (skip : Bool) : Nat → List Slot → List (Nat × Record)
  | _, [] => []
  | off, ⟨R, none⟩ :: ss => (off, R) :: slotsKept skip (off + R.size) ss
  | _, ⟨_, some _⟩ :: [] => []
  | off, ⟨R, some _⟩ :: ⟨R2, none⟩ :: ss =>
    if skip then (off + R.size, R2) :: slotsKept skip (off + R.size + R2.size) ss else []
  | _, ⟨_, some _⟩ :: ⟨_, some _⟩ :: _ => []

theorem slotsKept_good (skip : Bool) : ∀ (Rs : List Record) (off : Nat),
    (slotsKept skip off (Rs.map (fun R => ⟨R, none⟩))).map Prod.snd = Rs
  | [], _ => rfl
  | R :: Rs, off => by rw [List.map_cons, slotsKept, List.map_cons, slotsKept_good skip Rs]

theorem slotsKept_fits {klen : Nat} (skip : Bool) : ∀ (ss : List Slot) (off : Nat), SlotsOK klen off ss →
    (((slotsKept skip off ss).map Prod.snd).map Record.size).sum ≤ slotsSize ss ∧
    ∀ p ∈ slotsKept skip off ss,
      p.2.WF klen ∧ p.2.header.timestamp < 2 ^ 64 ∧ p.1 + p.2.size ≤ off + slotsSize ss
  | [], _, _ => ⟨Nat.le_refl _, nofun⟩
  | ⟨R, none⟩ :: ss, off, hok => by
    obtain ⟨hs, hm⟩ := slotsKept_fits skip ss _ hok.2
    simp only [slotsKept, slotsSize, List.map_cons, List.sum_cons, List.mem_cons] at hs hm ⊢
    refine ⟨by omega, ?_⟩
    rintro p (rfl | hp)
    · exact ⟨hok.1.1, hok.1.2.1, by dsimp only; omega⟩
    · obtain ⟨h1, h2, h3⟩ := hm p hp
      exact ⟨h1, h2, by omega⟩
  | ⟨_, some _⟩ :: [], _, _ => ⟨Nat.zero_le _, nofun⟩
  | ⟨R, some _⟩ :: ⟨R2, none⟩ :: ss, off, hok => by
    cases skip
    · exact ⟨Nat.zero_le _, nofun⟩
    · obtain ⟨hs, hm⟩ := slotsKept_fits true ss _ hok.2.2
      simp only [slotsKept, ↓reduceIte, slotsSize, List.map_cons, List.sum_cons, List.mem_cons] at hs hm ⊢
      refine ⟨by omega, ?_⟩
      rintro p (rfl | hp)
      · exact ⟨hok.2.1.1, hok.2.1.2.1, by dsimp only; omega⟩
      · obtain ⟨h1, h2, h3⟩ := hm p hp
        exact ⟨h1, h2, by omega⟩
  | ⟨_, some _⟩ :: ⟨_, some _⟩ :: _, _, _ => ⟨Nat.zero_le _, nofun⟩

/-! ### the loops of the tools on slots -/

/-- a run of `process_blob_with` whose preprocessors do not fail: the blob header `b` becomes `b'`, a record
    read becomes `φ` of it, and `write_record` writes `φ` of a produced record `R` as the image of `g R` -/
structure ToolRun (fRec : Nat → ToolRecord → Except ToolErr ToolRecord)
    (fHdr : Nat → BlobHeader → Except ToolErr BlobHeader) (b b' : BlobHeader) (φ : ToolRecord → ToolRecord)
    (g : Record → Record) : Prop where
  src : b.InRange ∧ b.magicByte = BLOB_MAGIC_BYTE
  tgt : b'.InRange ∧ b'.magicByte = BLOB_MAGIC_BYTE
  hdr : fHdr b.version b = .ok b'
  pre : ∀ r, fRec b.version r = .ok (φ r)
  write : ∀ R off out, writeRecord out (φ (R.toTool off)) = out ++ (g R).image out.length
  size : ∀ R, (g R).size = R.size
  canon : ∀ r, r.Canon → (φ r).Canon

/-- `recovery_blob`: the blob header, whatever its version, and the records are copied -/
theorem ToolRun.copy {b : BlobHeader} (hb : b.InRange ∧ b.magicByte = BLOB_MAGIC_BYTE) :
    ToolRun (fun _ r => .ok r) (fun _ h => .ok h) b b id id :=
  ⟨hb, hb, rfl, fun _ => rfl, fun R off out => writeRecord_toTool out R off, fun _ => rfl, fun _ h => h⟩

theorem ToolRun.recovery : ToolRun (fun _ r => .ok r) (fun _ h => .ok h) .new .new id id :=
  .copy ⟨blobHeaderNew_inRange, rfl⟩

theorem ToolRun.migrate1 : ToolRun (migrateRecord BLOB_VERSION) (migrateBlobHeader BLOB_VERSION) .new .new id id :=
  ⟨⟨blobHeaderNew_inRange, rfl⟩, ⟨blobHeaderNew_inRange, rfl⟩, rfl, fun _ => rfl,
    fun R off out => writeRecord_toTool out R off, fun _ => rfl, fun _ h => h⟩

theorem ToolRun.migrate0 : ToolRun (migrateRecord BLOB_VERSION) (migrateBlobHeader BLOB_VERSION)
    { BlobHeader.new with version := 0 } .new (fun r => { r with header := r.header.withReversedKeyBytes })
    Record.revKey :=
  ⟨⟨by decide, rfl⟩, ⟨blobHeaderNew_inRange, rfl⟩, rfl, fun _ => rfl,
    fun R off out => writeRecord_migrated out R off, revKey_size, fun _ h => h.reversedKey⟩

/-- the writer re-addresses what it is handed: only the records matter, not where they were read -/
theorem ToolRun.foldl {fRec fHdr b b' φ g} (T : ToolRun fRec fHdr b b' φ g) :
    ∀ (l : List (Nat × Record)) (out : List UInt8),
      (l.map fun p => φ (p.2.toTool p.1)).foldl writeRecord out =
        out ++ tailOf out.length ((l.map Prod.snd).map g)
  | [], out => by simp [tailOf]
  | p :: l, out => by
    simp only [List.map_cons, List.foldl_cons, tailOf]
    rw [T.foldl l, T.write, List.length_append, List.append_assoc]

theorem read_good_slot {klen : Nat} {input pre tail : List UInt8} {off : Nat} {R : Record} {ss : List Slot}
    (hoff : pre.length = off) (hf : input = pre ++ (slotsBytes off (⟨R, none⟩ :: ss) ++ tail))
    (hlen : input.length < 2 ^ 64) (hwf : R.WF klen) (hts : R.header.timestamp < 2 ^ 64) :
    readSingleRecord input off = .ok (R.toTool off, off + R.size) ∧ off < input.length ∧
    (pre ++ R.image off).length = off + R.size ∧
    input = (pre ++ R.image off) ++ (slotsBytes (off + R.size) ss ++ tail) := by
  subst hoff
  have hf' : input = pre ++ (R.image pre.length ++ (slotsBytes (pre.length + R.size) ss ++ tail)) := by
    rw [hf]; simp only [slotsBytes, Slot.bytes, List.append_assoc]
  have hsz := Record.image_length_eq_size R pre.length
  have hle : pre.length + R.size ≤ input.length := by
    rw [hf']; simp only [List.length_append, hsz]; omega
  have hpos := size_pos R
  have hr : (R.header.final pre.length).InRange := final_inRange hwf _ hts (by omega)
  have hm : (serMeta R.mt).length < 2 ^ 64 := by unfold Record.size at hle; omega
  have hstep := readSingleRecord_image pre (slotsBytes (pre.length + R.size) ss ++ tail) R hwf pre.length rfl hr hm
  rw [← hf', hsz] at hstep
  exact ⟨hstep, by omega, by rw [List.length_append, hsz], by rw [hf', List.append_assoc]⟩

theorem damaged_slot {input pre tail : List UInt8} {off : Nat} {R : Record} {X : List UInt8} {ss : List Slot}
    (hoff : pre.length = off) (hf : input = pre ++ (slotsBytes off (⟨R, some X⟩ :: ss) ++ tail))
    (hlen : input.length < 2 ^ 64) (hX : X.length = R.size ∧ BadRegion off X) :
    DamagedAt input off (off + R.size) ∧ off < input.length ∧
    (pre ++ X).length = off + R.size ∧ input = (pre ++ X) ++ (slotsBytes (off + R.size) ss ++ tail) := by
  subst hoff
  have hf' : input = pre ++ (X ++ (slotsBytes (pre.length + R.size) ss ++ tail)) := by
    rw [hf]; simp only [slotsBytes, Slot.bytes, List.append_assoc]
  have hd := hX.2 pre (slotsBytes (pre.length + R.size) ss ++ tail) rfl (by rw [← hf']; exact hlen)
  rw [← hf', hX.1] at hd
  have hpos := size_pos R
  have hle : pre.length + R.size ≤ input.length := by
    rw [hf']; simp only [List.length_append, hX.1]; omega
  exact ⟨hd, by omega, by rw [List.length_append, hX.1], by rw [hf', List.append_assoc]⟩

/-- the loop of `process_blob_with` on a run of slots followed by a dead end, for a preprocessor that never fails.
    The fuel is "slots plus slack", `ss.length + k`: with `skip_wrong_record` one iteration may consume two slots (the
    altered one and the one read after it), so the recursive call there has one more unit of slack. -/
theorem processTrace_slots {klen : Nat} (input : List UInt8) (skip : Bool) (hlen : input.length < 2 ^ 64)
    {f : ToolRecord → Except ToolErr ToolRecord} {φ : ToolRecord → ToolRecord} (hφ : ∀ r, f r = .ok (φ r)) :
    ∀ (ss : List Slot) (pre tail : List UInt8) (off k : Nat), pre.length = off →
      input = pre ++ (slotsBytes off ss ++ tail) →
      SlotsOK klen off ss → DeadEnd input (off + slotsSize ss) →
      processTrace input skip f (ss.length + k) off =
        (slotsKept skip off ss).map fun p => φ (p.2.toTool p.1)
  | [], pre, tail, off, k, _, _, _, hend => hend.trace skip f _
  | ⟨R, none⟩ :: ss, pre, tail, off, k, hoff, hf, hok, hend => by
    obtain ⟨hstep, hlt, hl2, hf2⟩ := read_good_slot hoff hf hlen hok.1.1 hok.1.2.1
    have ih := processTrace_slots input skip hlen hφ ss _ tail _ k hl2 hf2 hok.2
      (by rw [Nat.add_assoc]; exact hend)
    rw [List.length_cons, Nat.add_right_comm, processTrace_step hlt (readRecord_of_ok hstep) (hφ _), ih,
      slotsKept, List.map_cons]
  | ⟨R, some X⟩ :: [], pre, tail, off, k, hoff, hf, hok, hend => by
    obtain ⟨hd, hlt, _, _⟩ := damaged_slot hoff hf hlen (hok.1.2.2 X rfl)
    rw [slotsKept]
    cases skip
    · obtain ⟨e, he⟩ := hd.readRecord_false
      exact processTrace_stop he
    · by_cases hn : off + R.size < input.length
      · obtain ⟨e, he⟩ := (hend.read hn true).1
        exact processTrace_stop (e := e) (by rw [hd.readRecord_skip hn]; exact he)
      · obtain ⟨e, he⟩ := hd.readRecord_skip_eof (by omega)
        exact processTrace_stop he
  | ⟨R, some X⟩ :: ⟨R2, none⟩ :: ss, pre, tail, off, k, hoff, hf, hok, hend => by
    obtain ⟨hd, hlt, hl2, hf2⟩ := damaged_slot hoff hf hlen (hok.1.2.2 X rfl)
    rw [slotsKept]
    cases skip
    · obtain ⟨e, he⟩ := hd.readRecord_false
      simp only [Bool.false_eq_true, ↓reduceIte]
      exact processTrace_stop he
    · obtain ⟨hstep, hlt2, hl3, hf3⟩ := read_good_slot hl2 hf2 hlen hok.2.1.1 hok.2.1.2.1
      have hrd : readRecord input true off = .ok (R2.toTool (off + R.size), off + R.size + R2.size) := by
        rw [hd.2.1 hlt2, hstep]
      have ih := processTrace_slots input true hlen hφ ss _ tail _ (k + 1) hl3 hf3 hok.2.2
        (by rw [Nat.add_assoc, Nat.add_assoc]; exact hend)
      simp only [↓reduceIte, List.map_cons]
      rw [show (({ record := R, bad := some X } : Slot) :: ({ record := R2, bad := none } : Slot) :: ss).length + k =
        (ss.length + (k + 1)) + 1 by simp only [List.length_cons]; omega,
        processTrace_step hlt hrd (hφ _), ih]
  | ⟨R, some X⟩ :: ⟨R2, some X2⟩ :: ss, pre, tail, off, k, hoff, hf, hok, _ => by
    obtain ⟨hd, hlt, hl2, hf2⟩ := damaged_slot hoff hf hlen (hok.1.2.2 X rfl)
    rw [slotsKept]
    cases skip
    · obtain ⟨e, he⟩ := hd.readRecord_false
      exact processTrace_stop he
    · obtain ⟨hd2, hlt2, _, _⟩ := damaged_slot hl2 hf2 hlen (hok.2.1.2.2 X2 rfl)
      obtain ⟨e, he⟩ := hd2.1
      exact processTrace_stop (e := e) (by rw [hd.2.1 hlt2, he])

/-- `process_blob_with` on a file made of slots and a dead end: what is handed to the writer, and what is
    returned, for every `validate_every` -/
theorem slots_tools {klen : Nat} {fRec fHdr b b' φ g} (T : ToolRun fRec fHdr b b' φ g) (input : List UInt8)
    (ss : List Slot) (tail : List UInt8)
    (hf : input = serBlobHeader b ++ (slotsBytes 20 ss ++ tail)) (hlen : input.length < 2 ^ 64)
    (hok : SlotsOK klen 20 ss) (hend : DeadEnd input (20 + slotsSize ss)) (skip : Bool) :
    writtenRecords input skip fRec fHdr = (slotsKept skip 20 ss).map (fun p => φ (p.2.toTool p.1)) ∧
    (∀ r ∈ writtenRecords input skip fRec fHdr, r.Canon) ∧
    processBlobWith input skip fRec fHdr =
      .ok (serBlobHeader b' ++ tailOf 20 (((slotsKept skip 20 ss).map Prod.snd).map g)) ∧
    ∀ ve, processBlobWithV ve input skip fRec fHdr =
      .ok (serBlobHeader b' ++ tailOf 20 (((slotsKept skip 20 ss).map Prod.snd).map g)) := by
  have hbl := slotsBytes_length ss 20 hok 20
  have hil : input.length = 20 + (slotsSize ss + tail.length) := by
    rw [hf, List.length_append, List.length_append, serBlobHeader_length, hbl]
  have hge := slotsSize_ge ss
  obtain ⟨k, hk⟩ : ∃ k, input.length = ss.length + k := ⟨input.length - ss.length, by omega⟩
  have htr : processTrace input skip (fRec b.version) input.length 20 =
      (slotsKept skip 20 ss).map fun p => φ (p.2.toTool p.1) := by
    conv => lhs; rw [hk]
    exact processTrace_slots (klen := klen) input skip hlen T.pre ss _ tail 20 k (serBlobHeader_length _) hf hok hend
  have hun := processBlobWith_unfold (slotsBytes 20 ss ++ tail) skip fRec fHdr b b' T.src.1 T.src.2 T.tgt.1 T.tgt.2 T.hdr
  rw [← hf] at hun
  have hwr : writtenRecords input skip fRec fHdr = (slotsKept skip 20 ss).map fun p => φ (p.2.toTool p.1) := by
    rw [hun.2]
    exact htr
  have hcan : ∀ r ∈ writtenRecords input skip fRec fHdr, r.Canon := by
    intro r hr
    rw [hwr] at hr
    obtain ⟨p, hp, rfl⟩ := List.mem_map.mp hr
    obtain ⟨hwf, hts, hfit⟩ := (slotsKept_fits skip ss 20 hok).2 p hp
    exact T.canon _ (canon_toTool hwf _ (final_inRange hwf _ hts (by rw [Record.image_length_eq_size]; omega)))
  have h0 : processBlobWith input skip fRec fHdr =
      .ok (serBlobHeader b' ++ tailOf 20 (((slotsKept skip 20 ss).map Prod.snd).map g)) := by
    rw [hun.1, processLoop_eq_trace _ _ _ _ _ _ (by omega), htr, T.foldl, serBlobHeader_length]
  refine ⟨hwr, hcan, h0, fun ve => processBlobWithV_of_ok h0 ?_ hcan⟩
  rw [List.length_append, serBlobHeader_length, tailOf_length, List.map_map,
    show Record.size ∘ g = Record.size from funext T.size]
  have := (slotsKept_fits skip ss 20 hok).1
  omega

/-- `recovery_blob` returns `out`, whatever `validate_every` -/
structure Recovers (input : List UInt8) (skip : Bool) (out : List UInt8) : Prop where
  run : recoveryBlob input skip = .ok out
  runV : ∀ ve, recoveryBlobV ve input skip = .ok out

/-- recovery of a file made of slots and a dead end, for every `validate_every` -/
theorem slots_recovery {klen : Nat} (input : List UInt8) (ss : List Slot) (tail : List UInt8)
    (hf : input = serBlobHeader ++ (slotsBytes 20 ss ++ tail)) (hlen : input.length < 2 ^ 64)
    (hok : SlotsOK klen 20 ss) (hend : DeadEnd input (20 + slotsSize ss)) (skip : Bool) :
    Recovers input skip (appendRecords serBlobHeader ((slotsKept skip 20 ss).map Prod.snd)) := by
  have := (slots_tools .recovery input ss tail hf hlen hok hend skip).2.2
  rw [List.map_id, ← serBlobHeader_length (b := .new), ← appendRecords_eq] at this
  exact ⟨this.1, this.2⟩

/-- the loop of `validate_blob` on a run of slots followed by a dead end succeeds iff no slot is altered and nothing
    follows the slots -/
theorem validateLoop_slots {klen : Nat} (input : List UInt8) (hlen : input.length < 2 ^ 64) :
    ∀ (ss : List Slot) (pre tail : List UInt8) (off k : Nat), pre.length = off →
      input = pre ++ (slotsBytes off ss ++ tail) →
      SlotsOK klen off ss → DeadEnd input (off + slotsSize ss) →
      (validateLoop input (ss.length + (k + 1)) off = .ok () ↔ (∀ s ∈ ss, s.bad = none) ∧ tail = [])
  | [], pre, tail, off, k, hoff, hf, _, hend => by
    have hl : input.length = off + tail.length := by
      rw [hf, ← hoff]; simp only [slotsBytes, List.length_append, List.length_nil, Nat.zero_add]
    by_cases ht : tail = []
    · rw [validateLoop_eof (by rw [hl, ht]; exact Nat.le_refl _)]; simp [ht]
    · have hlt : off < input.length := by have := List.length_pos_iff.mpr ht; omega
      have hend' : DeadEnd input off := hend
      obtain ⟨e, he⟩ := (hend'.read hlt false).2
      rw [List.length_nil, Nat.zero_add, validateLoop, isEof_false hlt, he]
      simp [ht]
  | ⟨R, none⟩ :: ss, pre, tail, off, k, hoff, hf, hok, hend => by
    obtain ⟨hstep, hlt, hl2, hf2⟩ := read_good_slot hoff hf hlen hok.1.1 hok.1.2.1
    have ih := validateLoop_slots input hlen ss _ tail _ k hl2 hf2 hok.2 (by rw [Nat.add_assoc]; exact hend)
    rw [List.length_cons, Nat.add_right_comm, validateLoop, isEof_false hlt, readRecord_false, hstep]
    simpa using ih
  | ⟨R, some X⟩ :: ss, pre, tail, off, k, hoff, hf, hok, _ => by
    obtain ⟨hd, hlt, _, _⟩ := damaged_slot hoff hf hlen (hok.1.2.2 X rfl)
    obtain ⟨e, he⟩ := hd.readRecord_false
    rw [List.length_cons, Nat.add_right_comm, validateLoop, isEof_false hlt, he]
    simp

/-- `validate_blob` accepts a file made of slots and a dead end iff no slot is altered and nothing follows them -/
theorem slots_validate {klen : Nat} {b : BlobHeader} (hb : b.InRange ∧ b.magicByte = BLOB_MAGIC_BYTE)
    (input : List UInt8) (ss : List Slot) (tail : List UInt8)
    (hf : input = serBlobHeader b ++ (slotsBytes 20 ss ++ tail)) (hlen : input.length < 2 ^ 64)
    (hok : SlotsOK klen 20 ss) (hend : DeadEnd input (20 + slotsSize ss)) :
    validateBlob input = .ok () ↔ (∀ s ∈ ss, s.bad = none) ∧ tail = [] := by
  have hsl : input.length = 20 + (slotsSize ss + tail.length) := by
    rw [hf, List.length_append, List.length_append, serBlobHeader_length, slotsBytes_length ss 20 hok 20]
  have hge := slotsSize_ge ss
  obtain ⟨k, hk⟩ : ∃ k, input.length = ss.length + (k + 1) := ⟨input.length - ss.length - 1, by omega⟩
  rw [← validateLoop_slots (klen := klen) input hlen ss _ tail 20 k (serBlobHeader_length b) hf hok hend, ← hk]
  conv => lhs; lhs; rw [hf, validateBlob_unfold b _ hb.1 hb.2, ← hf]

/-! ### intact files: no slot altered, nothing after them -/

theorem intact_tools {klen : Nat} {fRec fHdr b b' φ g} (T : ToolRun fRec fHdr b b' φ g) (Rs : List Record)
    (hg : GoodRecs klen Rs) (hlen : (serBlobHeader b ++ tailOf 20 Rs).length < 2 ^ 64) (skip : Bool) :
    validateBlob (serBlobHeader b ++ tailOf 20 Rs) = .ok () ∧
    (∀ r ∈ writtenRecords (serBlobHeader b ++ tailOf 20 Rs) skip fRec fHdr, r.Canon) ∧
    (writtenRecords (serBlobHeader b ++ tailOf 20 Rs) skip fRec fHdr).length = Rs.length ∧
    processBlobWith (serBlobHeader b ++ tailOf 20 Rs) skip fRec fHdr =
      .ok (serBlobHeader b' ++ tailOf 20 (Rs.map g)) ∧
    ∀ ve, processBlobWithV ve (serBlobHeader b ++ tailOf 20 Rs) skip fRec fHdr =
      .ok (serBlobHeader b' ++ tailOf 20 (Rs.map g)) := by
  have hf : serBlobHeader b ++ tailOf 20 Rs =
      serBlobHeader b ++ (slotsBytes 20 (Rs.map (fun R => ⟨R, none⟩)) ++ []) := by
    rw [slotsBytes_good, List.append_nil]
  have hok := slotsOK_good (klen := klen) Rs 20 hg
  have hend : DeadEnd (serBlobHeader b ++ tailOf 20 Rs) (20 + slotsSize (Rs.map (fun R => ⟨R, none⟩))) :=
    deadEnd_of_le (by
      rw [hf, List.length_append, List.length_append, serBlobHeader_length, slotsBytes_length _ 20 hok]
      exact Nat.le_refl _)
  obtain ⟨hw, hc, h0, hV⟩ := slots_tools T _ _ [] hf hlen hok hend skip
  rw [slotsKept_good] at h0 hV
  refine ⟨(slots_validate (klen := klen) T.src _ _ [] hf hlen hok hend).mpr ⟨fun s hs => ?_, rfl⟩, hc, ?_, h0, hV⟩
  · obtain ⟨R, _, rfl⟩ := List.mem_map.mp hs
    rfl
  · rw [hw, List.length_map, ← List.length_map (f := Prod.snd), slotsKept_good]

structure OnProduced (klen : Nat) (recs : List (Rec × List UInt8)) (skip : Bool) : Prop
    extends Recovers (blobBytes klen recs) skip (blobBytes klen recs) where
  valid : validateBlob (blobBytes klen recs) = .ok ()
  canon : ∀ r ∈ writtenRecords (blobBytes klen recs) skip (fun _ r => .ok r) (fun _ h => .ok h), r.Canon
  count : (writtenRecords (blobBytes klen recs) skip (fun _ r => .ok r) (fun _ h => .ok h)).length = recs.length

theorem produced_tools (klen : Nat) (recs : List (Rec × List UInt8)) (skip : Bool)
    (hlen : (blobBytes klen recs).length < 2 ^ 64) (hts : ∀ x ∈ recs, x.1.ts < 2 ^ 64) :
    OnProduced klen recs skip := by
  have hl := hlen
  rw [blobBytes_eq] at hl
  have := intact_tools .recovery _ (goodRecs_recordsOf klen recs hts) hl skip
  rw [List.map_id, recordsOf_length, ← blobBytes_eq] at this
  exact ⟨⟨this.2.2.2.1, this.2.2.2.2⟩, this.1, this.2.1, this.2.2.1⟩

/-- `migrate_blob` on the version-0 image of a produced blob, and on the blob -/
theorem migrate_tools (klen : Nat) (recs : List (Rec × List UInt8))
    (hlen : (blobBytes klen recs).length < 2 ^ 64) (hts : ∀ x ∈ recs, x.1.ts < 2 ^ 64) :
    (migrateBlob (blobBytesV0 klen recs) = .ok (blobBytes klen recs) ∧
      ∀ ve, migrateBlobV ve (blobBytesV0 klen recs) = .ok (blobBytes klen recs)) ∧
    migrateBlob (blobBytes klen recs) = .ok (blobBytes klen recs) ∧
    ∀ ve, migrateBlobV ve (blobBytes klen recs) = .ok (blobBytes klen recs) := by
  have hgood := goodRecs_recordsOf klen recs hts
  have hl0 := hlen
  rw [← blobBytesV0_length, blobBytesV0_eq] at hl0
  have h0 := (intact_tools .migrate0 _ (goodRecs_revKey hgood) hl0 false).2.2.2
  rw [List.map_map, show (Record.revKey ∘ Record.revKey) = id from funext revKey_revKey, List.map_id,
    ← blobBytesV0_eq, ← blobBytes_eq] at h0
  rw [blobBytes_eq] at hlen
  have h1 := (intact_tools .migrate1 _ hgood hlen false).2.2.2
  rw [List.map_id, ← blobBytes_eq] at h1
  exact ⟨h0, h1⟩

theorem otherVersion_inRange {n : Nat} (hn : n < 2 ^ 32) :
    ({ BlobHeader.new with version := n } : BlobHeader).InRange :=
  ⟨blobHeaderNew_inRange.1, hn, blobHeaderNew_inRange.2.2⟩

/-- `Header::from_file` refuses a blob header with another version, whatever follows it -/
theorem blobHeaderFromFile_version (n : Nat) (hn : n < 2 ^ 32) (hne : n ≠ BLOB_VERSION) (rest : List UInt8) :
    blobHeaderFromFile (serBlobHeader { BlobHeader.new with version := n } ++ rest) = .error .blobVersion := by
  unfold blobHeaderFromFile
  rw [← List.nil_append (serBlobHeader _ ++ rest),
    readExactAt_append (size := blobHeaderSize) (off := 0) rfl (serBlobHeader_length _)]
  have := parseBlobHeader_ser { BlobHeader.new with version := n } [] (otherVersion_inRange hn)
  rw [List.append_nil] at this
  simp only [this, validateBlobHeader]
  rw [if_neg (fun h => h rfl), if_pos hne]

/-- the records of a produced blob behind a blob header of another version: `validate_blob` accepts the file
    (it does not look at the version), `Header::from_file` refuses it -/
theorem other_version (klen : Nat) (recs : List (Rec × List UInt8))
    (hlen : (blobBytes klen recs).length < 2 ^ 64) (hts : ∀ x ∈ recs, x.1.ts < 2 ^ 64) (n : Nat) (hn : n < 2 ^ 32)
    (hne : n ≠ BLOB_VERSION) :
    validateBlob (serBlobHeader { BlobHeader.new with version := n } ++ tailOf 20 (recordsOf klen recs)) = .ok () ∧
    blobHeaderFromFile (serBlobHeader { BlobHeader.new with version := n } ++ tailOf 20 (recordsOf klen recs)) =
      .error .blobVersion := by
  rw [blobBytes_eq, List.length_append, serBlobHeader_length] at hlen
  exact ⟨(intact_tools (klen := klen) (.copy ⟨otherVersion_inRange hn, rfl⟩) _ (goodRecs_recordsOf klen recs hts)
    (by rwa [List.length_append, serBlobHeader_length]) false).1, blobHeaderFromFile_version n hn hne _⟩

theorem blobBytes_set_version7 (klen : Nat) (recs : List (Rec × List UInt8)) :
    (blobBytes klen recs).set 8 7 =
      serBlobHeader { BlobHeader.new with version := 7 } ++ tailOf 20 (recordsOf klen recs) := by
  rw [blobBytes_eq, List.set_append_left 8 7 (by decide)]
  rfl

/-- `validate_blob` does not look at the version: it accepts the version-0 image -/
theorem validateBlob_v0 (klen : Nat) (recs : List (Rec × List UInt8))
    (hlen : (blobBytes klen recs).length < 2 ^ 64) (hts : ∀ x ∈ recs, x.1.ts < 2 ^ 64) :
    validateBlob (blobBytesV0 klen recs) = .ok () := by
  rw [← blobBytesV0_length, blobBytesV0_eq] at hlen
  rw [blobBytesV0_eq]
  exact (intact_tools .migrate0 _ (goodRecs_revKey (goodRecs_recordsOf klen recs hts)) hlen false).1

/-! ### altered records: `FlipStep`, `FlipMany`, and the slots of such a file -/

theorem flip_region {klen : Nat} {R : Record} (hwf : R.WF klen) (hts : R.header.timestamp < 2 ^ 64)
    (off : Nat) {p w1 w2 s pre0 post0 : List UInt8}
    (hbase : p ++ w1 ++ s = pre0 ++ (R.image off ++ post0)) (hpre0 : pre0.length = off)
    (hl : w1.length = w2.length) (h4 : w1.length ≤ 4) (hne : w1 ≠ w2)
    (hwhere : InData (R.header.final off) p.length w1.length ∨
      InHeaderNoLen (R.header.final off) p.length w1.length) :
    ∃ a c, p = pre0 ++ a ∧ s = c ++ post0 ∧
      (a ++ w2 ++ c).length = R.size ∧ BadRegion off (a ++ w2 ++ c) := by
  have hsz : R.size = 57 + klen + (serMeta R.mt).length + R.data.length := by
    rw [Record.size, hwf.key]
  -- the window lies inside the image
  have hwin : off ≤ p.length ∧ p.length + w1.length ≤ off + R.size := by
    rcases hwhere with ⟨hd1, hd2⟩ | ⟨hh1, hh2, _⟩
    · rw [final_dataOffset hwf] at hd1 hd2
      rw [show (R.header.final off).dataSize = R.data.length from hwf.dsize] at hd2
      omega
    · rw [show (R.header.final off).blobOffset = off from rfl] at hh1 hh2
      rw [final_key, hwf.key] at hh2
      omega
  obtain ⟨a, c, hp, hI, hs⟩ := window_in_middle hbase (by omega)
    (by rw [hpre0, Record.image_length_eq_size]; exact hwin.2)
  have hXl : (a ++ w2 ++ c).length = R.size := by
    rw [← Record.image_length_eq_size R off, hI]; simp [hl]
  rw [show p.length = off + a.length by rw [hp, List.length_append, hpre0]] at hwhere
  exact ⟨a, c, hp, hs, hXl, damagedAt_flip hwf hts off a w1 w2 c hI hl h4 hne hwhere⟩

/-- `input` is `base` with at most 4 adjacent bytes altered inside the region of record `i` of the produced
    blob: inside its data, or inside its header outside the length fields.  `FlipIn` is the case
    `base = blobBytes klen recs`. -/
def FlipStep (klen : Nat) (recs : List (Rec × List UInt8)) (i : Nat) (base input : List UInt8) : Prop :=
  ∃ p w1 w2 s h, base = p ++ w1 ++ s ∧ input = p ++ w2 ++ s ∧ w1.length = w2.length ∧
    w1.length ≤ 4 ∧ w1 ≠ w2 ∧ (blobHeaders klen recs)[i]? = some h ∧
    (InData h p.length w1.length ∨ InHeaderNoLen h p.length w1.length)

theorem flipIn_iff_flipStep (klen : Nat) (recs : List (Rec × List UInt8)) (i : Nat) (input : List UInt8) :
    FlipIn klen recs i input ↔ FlipStep klen recs i (blobBytes klen recs) input := Iff.rfl

/-- one byte of `base`, inside record `i`, replaced by another; what has to be checked on a concrete file is one
    decidable conjunction -/
theorem FlipStep.set {klen : Nat} {recs : List (Rec × List UInt8)} {i : Nat} {base : List UInt8} (n : Nat)
    (w v : UInt8) (hi : i < (blobHeaders klen recs).length)
    (h : base[n]? = some w ∧ w ≠ v ∧
      (InData (blobHeaders klen recs)[i] n 1 ∨ InHeaderNoLen (blobHeaders klen recs)[i] n 1)) :
    FlipStep klen recs i base (base.set n v) := by
  obtain ⟨hw, hne, hwhere⟩ := h
  obtain ⟨hn, rfl⟩ := List.getElem?_eq_some_iff.mp hw
  refine ⟨base.take n, [base[n]], [v], base.drop (n + 1), _, ?_, ?_, rfl, Nat.le_add_left 1 3, by simpa using hne,
    List.getElem?_eq_getElem hi, ?_⟩
  · simp
  · rw [List.set_eq_take_append_cons_drop, if_pos hn, List.append_assoc, List.singleton_append]
  · rwa [List.length_take, Nat.min_eq_left (Nat.le_of_lt hn)]

/-- `input` is the produced blob with the records whose indices are listed in `D` altered, one `FlipStep`
    per listed record (so the indices are pairwise distinct; any order) -/
inductive FlipMany (klen : Nat) (recs : List (Rec × List UInt8)) : List Nat → List UInt8 → Prop
  | nil : FlipMany klen recs [] (blobBytes klen recs)
  | cons {D : List Nat} {base input : List UInt8} {i : Nat} : FlipMany klen recs D base → i ∉ D →
      FlipStep klen recs i base input → FlipMany klen recs (i :: D) input

structure SlotsFor (klen : Nat) (recs : List (Rec × List UInt8)) (D : List Nat) (input : List UInt8)
    (ss : List Slot) : Prop where
  recs : ss.map Slot.record = recordsOf klen recs
  bad : ∀ j s, ss[j]? = some s → (s.bad.isSome ↔ j ∈ D)
  file : input = serBlobHeader ++ slotsBytes 20 ss
  ok : SlotsOK klen 20 ss

theorem slotsFor_nil (klen : Nat) (recs : List (Rec × List UInt8)) (hts : ∀ x ∈ recs, x.1.ts < 2 ^ 64) :
    SlotsFor klen recs [] (blobBytes klen recs) ((recordsOf klen recs).map (fun R => ⟨R, none⟩)) := by
  refine ⟨by rw [List.map_map]; exact List.map_id _, ?_, ?_, slotsOK_good _ _ (goodRecs_recordsOf klen recs hts)⟩
  · intro j s hs
    rw [List.getElem?_map] at hs
    cases hR : (recordsOf klen recs)[j]? with
    | none => rw [hR] at hs; cases hs
    | some R => rw [hR] at hs; cases hs; simp
  · rw [slotsBytes_good, blobBytes_eq]

theorem SlotsFor.step {klen : Nat} {recs : List (Rec × List UInt8)} {D : List Nat} {base input : List UInt8}
    {ss : List Slot} {i : Nat} (h : SlotsFor klen recs D base ss) (hi : i ∉ D)
    (hflip : FlipStep klen recs i base input) : ∃ ss', SlotsFor klen recs (i :: D) input ss' := by
  obtain ⟨p, w1, w2, s, hh, hb, hin, hl, h4, hne, hhh, hwhere⟩ := hflip
  have hiR : i < (recordsOf klen recs).length := by
    have := (List.getElem?_eq_some_iff.mp hhh).1
    rwa [blobHeaders, writtenHeaders_length] at this
  have hhf := writtenHeaders_getElem? (recordsOf klen recs) i hiR
  rw [show writtenHeaders serBlobHeader (recordsOf klen recs) = blobHeaders klen recs from rfl, hhh] at hhf
  have hhf := Option.some.inj hhf
  have hlen_ss : ss.length = (recordsOf klen recs).length := by rw [← h.recs, List.length_map]
  have his : i < ss.length := by omega
  -- slot `i` is intact
  have hsi : ss[i] = ⟨(recordsOf klen recs)[i], none⟩ := by
    have h1 : ss[i].record = (recordsOf klen recs)[i] := by
      rw [← List.getElem_map Slot.record (h := by rwa [List.length_map])]; simp only [h.recs]
    have h2 : ss[i].bad = none := Option.not_isSome_iff_eq_none.mp fun hb =>
      hi ((h.bad i _ (List.getElem?_eq_getElem his)).mp hb)
    rw [← h1, ← h2]
  generalize hR : (recordsOf klen recs)[i] = R at hhf hsi
  have hsplit : ss = ss.take i ++ ⟨R, none⟩ :: ss.drop (i + 1) := by
    conv => lhs; rw [list_split_at ss i his, hsi]
  have hok := h.ok
  rw [hsplit, slotsOK_append] at hok
  obtain ⟨hok1, hokR, hok2⟩ := hok
  have hsz1 : slotsSize (ss.take i) = (tailOf 20 ((recordsOf klen recs).take i)).length := by
    rw [slotsSize_eq, tailOf_length, ← h.recs, List.map_take]
  generalize hoff : 20 + slotsSize (ss.take i) = off at hok1 hokR hok2
  rw [← hsz1, hoff] at hhf
  subst hhf
  have hwf : R.WF klen := hokR.1
  have hts : R.header.timestamp < 2 ^ 64 := hokR.2.1
  have hpre : (serBlobHeader ++ slotsBytes 20 (ss.take i)).length = off := by
    rw [List.length_append, serBlobHeader_length, slotsBytes_length _ _ hok1, hoff]
  have hbase : p ++ w1 ++ s = (serBlobHeader ++ slotsBytes 20 (ss.take i)) ++
      (R.image off ++ slotsBytes (off + R.size) (ss.drop (i + 1))) := by
    rw [← hb, h.file]
    conv => lhs; rw [hsplit, slotsBytes_append, hoff]
    simp only [slotsBytes, Slot.bytes, List.append_assoc]
  obtain ⟨a, c, hp, hs, hXl, hXbad⟩ := flip_region hwf hts off hbase hpre hl h4 hne hwhere
  refine ⟨ss.take i ++ ⟨R, some (a ++ w2 ++ c)⟩ :: ss.drop (i + 1), ?_, ?_, ?_, ?_⟩
  · conv => rhs; rw [← h.recs, hsplit]
    simp only [List.map_append, List.map_cons]
  · intro j s' hs'
    have hset : ss.take i ++ ⟨R, some (a ++ w2 ++ c)⟩ :: ss.drop (i + 1) =
        ss.set i ⟨R, some (a ++ w2 ++ c)⟩ := by
      rw [List.set_eq_take_append_cons_drop, if_pos his]
    rw [hset, List.getElem?_set] at hs'
    by_cases hij : i = j
    · subst hij
      rw [if_pos rfl, if_pos his] at hs'
      cases hs'
      simp
    · rw [if_neg hij] at hs'
      simp [h.bad j s' hs', Ne.symm hij]
  · rw [hin, hp, hs, slotsBytes_append, hoff]
    simp only [slotsBytes, Slot.bytes, List.append_assoc]
  · rw [slotsOK_append, hoff]
    exact ⟨hok1, ⟨hwf, hts, fun X hX => by cases hX; exact ⟨hXl, hXbad⟩⟩, hok2⟩

theorem FlipMany.slots {klen : Nat} {recs : List (Rec × List UInt8)} {D : List Nat} {input : List UInt8}
    (hts : ∀ x ∈ recs, x.1.ts < 2 ^ 64) (h : FlipMany klen recs D input) :
    ∃ ss, SlotsFor klen recs D input ss := by
  induction h with
  | nil => exact ⟨_, slotsFor_nil klen recs hts⟩
  | cons _ hi hstep ih =>
    obtain ⟨ss, hss⟩ := ih
    exact hss.step hi hstep

theorem SlotsFor.length_eq {klen : Nat} {recs : List (Rec × List UInt8)} {D : List Nat} {input : List UInt8}
    {ss : List Slot} (h : SlotsFor klen recs D input ss) : input.length = (blobBytes klen recs).length := by
  rw [h.file, List.length_append, serBlobHeader_length, slotsBytes_length ss 20 h.ok, slotsSize_eq, h.recs,
    blobBytes_length]

theorem SlotsFor.shape {klen : Nat} {recs : List (Rec × List UInt8)} {D : List Nat} {input : List UInt8}
    {ss : List Slot} (h : SlotsFor klen recs D input ss) :
    input = serBlobHeader ++ (slotsBytes 20 ss ++ []) ∧ DeadEnd input (20 + slotsSize ss) :=
  ⟨by rw [List.append_nil]; exact h.file, deadEnd_of_le (by
    rw [h.file, List.length_append, serBlobHeader_length, slotsBytes_length ss 20 h.ok]; exact Nat.le_refl _)⟩

/-! ### what is kept, by the indices of the altered records: `dropIdxs`, `skipKeeps` -/

/-- the list without the elements whose index (counted from `n`) is in `D` -/
def dropIdxs {α : Type} (D : List Nat) : Nat → List α → List α
  | _, [] => []
  | n, x :: xs => if n ∈ D then dropIdxs D (n + 1) xs else x :: dropIdxs D (n + 1) xs

def eraseIdxs {α : Type} (D : List Nat) (l : List α) : List α := dropIdxs D 0 l

/-- what the reader with `skip_wrong_record` keeps of a list whose elements with index in `D` (counted
    from `n`) do not read: it steps over ONE unreadable element; if the next one is unreadable too (or
    there is none) it gives up -/
def skipKeeps {α : Type} (D : List Nat) : Nat → List α → List α
  | _, [] => []
  | n, [x] => if n ∈ D then [] else [x]
  | n, x :: y :: ys =>
    if n ∈ D then (if n + 1 ∈ D then [] else y :: skipKeeps D (n + 2) ys)
    else x :: skipKeeps D (n + 1) (y :: ys)

theorem skipKeeps_cons_not_mem {α : Type} {D : List Nat} {n : Nat} (h : n ∉ D) (x : α) (xs : List α) :
    skipKeeps D n (x :: xs) = x :: skipKeeps D (n + 1) xs := by
  cases xs <;> simp [skipKeeps, h]

theorem skipKeeps_mem_mem {α : Type} {D : List Nat} {n : Nat} (h : n ∈ D) (h1 : n + 1 ∈ D) (x : α)
    (xs : List α) : skipKeeps D n (x :: xs) = [] := by
  cases xs <;> simp [skipKeeps, h, h1]

theorem skipKeeps_mem_not {α : Type} {D : List Nat} {n : Nat} (h : n ∈ D) (h1 : n + 1 ∉ D) (x y : α)
    (ys : List α) : skipKeeps D n (x :: y :: ys) = y :: skipKeeps D (n + 2) ys := by
  simp [skipKeeps, h, h1]

theorem skipKeeps_map {α β : Type} (f : α → β) (D : List Nat) : ∀ (n : Nat) (l : List α),
    (skipKeeps D n l).map f = skipKeeps D n (l.map f)
  | _, [] => rfl
  | n, [x] => by simp only [skipKeeps, List.map_cons, List.map_nil]; split <;> rfl
  | n, x :: y :: ys => by
    simp only [skipKeeps, List.map_cons]
    split
    · split
      · rfl
      · rw [List.map_cons, skipKeeps_map f D (n + 2) ys]
    · rw [List.map_cons, skipKeeps_map f D (n + 1) (y :: ys), List.map_cons]

theorem dropIdxs_map {α β : Type} (f : α → β) (D : List Nat) : ∀ (n : Nat) (l : List α),
    (dropIdxs D n l).map f = dropIdxs D n (l.map f)
  | _, [] => rfl
  | n, x :: xs => by
    simp only [dropIdxs, List.map_cons]
    split
    · exact dropIdxs_map f D (n + 1) xs
    · rw [List.map_cons, dropIdxs_map f D (n + 1) xs]

/-- no two altered records adjacent: everything else survives -/
theorem skipKeeps_separated {α : Type} {D : List Nat} (hsep : ∀ a ∈ D, a + 1 ∉ D) : ∀ (n : Nat) (l : List α),
    skipKeeps D n l = dropIdxs D n l
  | _, [] => rfl
  | n, [x] => by simp only [skipKeeps, dropIdxs]
  | n, x :: y :: ys => by
    by_cases h : n ∈ D
    · rw [skipKeeps_mem_not h (hsep n h), skipKeeps_separated hsep (n + 2) ys]
      simp only [dropIdxs, if_pos h, if_neg (hsep n h)]
    · rw [skipKeeps_cons_not_mem h, skipKeeps_separated hsep (n + 1) (y :: ys)]
      simp only [dropIdxs, if_neg h]

/-- the first adjacent pair of altered records is `c, c + 1`: nothing from `c` on survives -/
theorem skipKeeps_adjacent {α : Type} {D : List Nat} {c : Nat} (hc : c ∈ D) (hc1 : c + 1 ∈ D) :
    ∀ (l : List α) (n d : Nat), n + d = c → (∀ a, n ≤ a → a < c → a ∈ D → a + 1 ∉ D) →
      skipKeeps D n l = dropIdxs D n (l.take d)
  | [], _, _, _, _ => by simp [skipKeeps, dropIdxs]
  | [x], n, d, hnd, hmin => by
    cases d with
    | zero =>
      have : n = c := by omega
      subst this
      simp [skipKeeps, dropIdxs, hc]
    | succ d => simp [skipKeeps, dropIdxs]
  | x :: y :: ys, n, d, hnd, hmin => by
    cases d with
    | zero =>
      have : n = c := by omega
      subst this
      rw [skipKeeps_mem_mem hc hc1]; rfl
    | succ d =>
      by_cases h : n ∈ D
      · have h1 : n + 1 ∉ D := hmin n (Nat.le_refl _) (by omega) h
        cases d with
        | zero => exact absurd (by rw [show n + 1 = c by omega]; exact hc) h1
        | succ d =>
          rw [skipKeeps_mem_not h h1,
            skipKeeps_adjacent hc hc1 ys (n + 2) d (by omega) (fun a ha => hmin a (by omega))]
          simp only [List.take_succ_cons, dropIdxs, if_pos h, if_neg h1]
      · rw [skipKeeps_cons_not_mem h,
          skipKeeps_adjacent hc hc1 (y :: ys) (n + 1) d (by omega) (fun a ha => hmin a (by omega))]
        simp only [List.take_succ_cons, dropIdxs, if_neg h]

theorem dropIdxs_of_lt {α : Type} {D : List Nat} : ∀ (l : List α) (n : Nat), (∀ a ∈ D, a < n) →
    dropIdxs D n l = l
  | [], _, _ => rfl
  | x :: xs, n, h => by
    have hn : n ∉ D := fun hn => Nat.lt_irrefl _ (h n hn)
    rw [dropIdxs, if_neg hn, dropIdxs_of_lt xs (n + 1) (fun a ha => Nat.lt_succ_of_lt (h a ha))]

theorem dropIdxs_singleton {α : Type} : ∀ (l : List α) (n d : Nat), dropIdxs [n + d] n l = l.eraseIdx d
  | [], _, _ => rfl
  | x :: xs, n, 0 => by
    rw [dropIdxs, if_pos (by simp), dropIdxs_of_lt xs (n + 1) (by simp)]
    rfl
  | x :: xs, n, d + 1 => by
    rw [dropIdxs, if_neg (by simp), show n + (d + 1) = (n + 1) + d by omega, dropIdxs_singleton xs (n + 1) d]
    rfl

theorem eraseIdxs_nil {α : Type} (l : List α) : eraseIdxs [] l = l := dropIdxs_of_lt l 0 (by simp)

theorem dropIdxs_sublist {α : Type} (D : List Nat) : ∀ (n : Nat) (l : List α), (dropIdxs D n l).Sublist l
  | _, [] => List.Sublist.slnil
  | n, x :: xs => by
    rw [dropIdxs]
    split
    · exact (dropIdxs_sublist D (n + 1) xs).cons _
    · exact (dropIdxs_sublist D (n + 1) xs).cons_cons _

theorem dropIdxs_take_prefix {α : Type} {D : List Nat} : ∀ (l : List α) (n d : Nat),
    (∀ a ∈ D, n + d ≤ a) → l.take d <+: dropIdxs D n l
  | [], _, _, _ => by simp [dropIdxs]
  | x :: xs, n, 0, _ => by simp
  | x :: xs, n, d + 1, h => by
    have hn : n ∉ D := fun hn => by have := h n hn; omega
    rw [dropIdxs, if_neg hn, List.take_succ_cons, List.prefix_cons_inj]
    exact dropIdxs_take_prefix xs (n + 1) d (fun a ha => by have := h a ha; omega)

theorem mem_dropIdxs {α : Type} {D : List Nat} : ∀ (l : List α) (n d : Nat) (x : α), n + d ∉ D →
    l[d]? = some x → x ∈ dropIdxs D n l
  | [], _, _, _, _, h => by simp at h
  | y :: ys, n, 0, x, hn, h => by
    simp only [List.getElem?_cons_zero, Option.some.injEq] at h
    subst h
    rw [dropIdxs, if_neg (by simpa using hn)]
    exact List.mem_cons_self ..
  | y :: ys, n, d + 1, x, hn, h => by
    rw [List.getElem?_cons_succ] at h
    have := mem_dropIdxs ys (n + 1) d x (by rwa [show n + 1 + d = n + (d + 1) by omega]) h
    rw [dropIdxs]
    split
    · exact this
    · exact List.mem_cons_of_mem _ this

/-- the altered slots of `ss` are those whose index, counted from `n`, is in `D` -/
def BadAt (D : List Nat) (n : Nat) (ss : List Slot) : Prop :=
  ∀ j s, ss[j]? = some s → (s.bad.isSome ↔ n + j ∈ D)

theorem BadAt.tail {D : List Nat} {n : Nat} {s0 : Slot} {ss : List Slot} (hb : BadAt D n (s0 :: ss)) :
    BadAt D (n + 1) ss := by
  intro j s hs
  have := hb (j + 1) s (by rw [List.getElem?_cons_succ]; exact hs)
  rwa [show n + (j + 1) = n + 1 + j by omega] at this

theorem BadAt.head_none {D : List Nat} {n : Nat} {R : Record} {ss : List Slot} (hb : BadAt D n (⟨R, none⟩ :: ss)) :
    n ∉ D := fun h => by
  have := (hb 0 ⟨R, none⟩ rfl).mpr h
  simp at this

theorem BadAt.head_some {D : List Nat} {n : Nat} {R : Record} {X : List UInt8} {ss : List Slot}
    (hb : BadAt D n (⟨R, some X⟩ :: ss)) : n ∈ D := (hb 0 ⟨R, some X⟩ rfl).mp rfl

theorem SlotsFor.badAt {klen : Nat} {recs : List (Rec × List UInt8)} {D : List Nat} {input : List UInt8}
    {ss : List Slot} (h : SlotsFor klen recs D input ss) : BadAt D 0 ss :=
  fun j s hs => by rw [Nat.zero_add]; exact h.bad j s hs

theorem slotsKept_skip {D : List Nat} : ∀ (ss : List Slot) (n : Nat),
    BadAt D n ss →
    ∀ off, (slotsKept true off ss).map Prod.snd = skipKeeps D n (ss.map Slot.record)
  | [], _, _, _ => rfl
  | ⟨R, none⟩ :: ss, n, hb, off => by
    have h0 : n ∉ D := hb.head_none
    rw [slotsKept, List.map_cons, List.map_cons, skipKeeps_cons_not_mem h0,
      slotsKept_skip ss (n + 1) hb.tail]
  | ⟨R, some X⟩ :: [], n, hb, _ => by
    have h0 : n ∈ D := hb.head_some
    simp [slotsKept, skipKeeps, h0]
  | ⟨R, some X⟩ :: ⟨R2, none⟩ :: ss, n, hb, off => by
    have h0 : n ∈ D := hb.head_some
    have h1 : n + 1 ∉ D := hb.tail.head_none
    rw [slotsKept, if_pos rfl, List.map_cons, List.map_cons, List.map_cons, skipKeeps_mem_not h0 h1,
      slotsKept_skip ss (n + 2) hb.tail.tail]
  | ⟨R, some X⟩ :: ⟨R2, some X2⟩ :: ss, n, hb, _ => by
    have h0 : n ∈ D := hb.head_some
    have h1 : n + 1 ∈ D := hb.tail.head_some
    rw [slotsKept, List.map_cons, skipKeeps_mem_mem h0 h1]; rfl

theorem slotsKept_noskip {D : List Nat} : ∀ (ss : List Slot) (n d : Nat),
    BadAt D n ss → n + d ∈ D → (∀ a ∈ D, n + d ≤ a) →
    ∀ off, (slotsKept false off ss).map Prod.snd = (ss.map Slot.record).take d
  | [], _, _, _, _, _, _ => by simp [slotsKept]
  | ⟨R, none⟩ :: ss, n, d, hb, hd, hmin, off => by
    have h0 : n ∉ D := hb.head_none
    cases d with
    | zero => exact absurd hd h0
    | succ d =>
      rw [slotsKept, List.map_cons, List.map_cons, List.take_succ_cons,
        slotsKept_noskip ss (n + 1) d hb.tail (by rwa [show n + 1 + d = n + (d + 1) by omega])
          (fun a ha => by have := hmin a ha; omega)]
  | ⟨R, some X⟩ :: ss, n, d, hb, hd, hmin, _ => by
    have h0 : n ∈ D := hb.head_some
    have : d = 0 := by have := hmin n h0; omega
    subst this
    match ss with
    | [] => rfl
    | ⟨_, none⟩ :: _ => simp [slotsKept]
    | ⟨_, some _⟩ :: _ => simp [slotsKept]

/-! ### the C16 inputs: several altered records, one altered record, a cut blob -/

/-- recovery of a produced blob with the records listed in `D` altered (pairwise distinct, otherwise
    arbitrary), for every `validate_every`: with `skip_wrong_record` the output is the blob of
    `skipKeeps D 0 recs`; without, of the records before the least element of `D` -/
theorem flipMany_tools (klen : Nat) (recs : List (Rec × List UInt8)) (D : List Nat) (input : List UInt8)
    (hlen : (blobBytes klen recs).length < 2 ^ 64) (hts : ∀ x ∈ recs, x.1.ts < 2 ^ 64)
    (hflip : FlipMany klen recs D input) :
    Recovers input true (blobBytes klen (skipKeeps D 0 recs)) ∧
    ∀ m ∈ D, (∀ j ∈ D, m ≤ j) → Recovers input false (blobBytes klen (recs.take m)) := by
  obtain ⟨ss, hss⟩ := hflip.slots hts
  have hil := hss.length_eq
  have ht := slots_recovery (klen := klen) input ss [] hss.shape.1 (by omega) hss.ok hss.shape.2 true
  rw [slotsKept_skip ss 0 hss.badAt, hss.recs, recordsOf, ← skipKeeps_map, ← recordsOf] at ht
  refine ⟨ht, fun m hm hmin => ?_⟩
  have hf := slots_recovery (klen := klen) input ss [] hss.shape.1 (by omega) hss.ok hss.shape.2 false
  rw [slotsKept_noskip ss 0 m hss.badAt (by rwa [Nat.zero_add]) (by rwa [Nat.zero_add]), hss.recs,
    ← recordsOf_take] at hf
  exact hf

theorem error_of_ne_ok {x : Except ToolErr Unit} (h : x ≠ .ok ()) : ∃ e, x = .error e := by
  cases x with
  | error e => exact ⟨e, rfl⟩
  | ok u => exact absurd rfl h

theorem flipMany_validate (klen : Nat) (recs : List (Rec × List UInt8)) (D : List Nat) (input : List UInt8)
    (hlen : (blobBytes klen recs).length < 2 ^ 64) (hts : ∀ x ∈ recs, x.1.ts < 2 ^ 64)
    (hflip : FlipMany klen recs D input) (hD : D ≠ []) : ∃ e, validateBlob input = .error e := by
  obtain ⟨ss, hss⟩ := hflip.slots hts
  have hil := hss.length_eq
  refine error_of_ne_ok fun hv => ?_
  have hall := ((slots_validate (klen := klen) ⟨blobHeaderNew_inRange, rfl⟩ input ss [] hss.shape.1 (by omega) hss.ok
    hss.shape.2).mp hv).1
  suffices h : ∃ s ∈ ss, s.bad.isSome by
    obtain ⟨s, hs, hb⟩ := h
    rw [hall s hs] at hb; cases hb
  cases hflip with
  | nil => exact absurd rfl hD
  | @cons D' base _ i' h0 hni hstep =>
    obtain ⟨_, _, _, _, hh, _, _, _, _, _, hhh, _⟩ := hstep
    have hiR : i' < (recordsOf klen recs).length := by
      have := (List.getElem?_eq_some_iff.mp hhh).1
      rwa [blobHeaders, writtenHeaders_length] at this
    have his : i' < ss.length := by
      have : ss.length = (recordsOf klen recs).length := by rw [← hss.recs, List.length_map]
      omega
    exact ⟨ss[i'], List.getElem_mem his,
      (hss.bad i' ss[i'] (List.getElem?_eq_getElem his)).mpr (List.mem_cons_self ..)⟩

/-- `FlipIn` is `FlipMany` for `D = [i]` -/
theorem flipIn_tools (klen : Nat) (recs : List (Rec × List UInt8)) (i : Nat) (input : List UInt8)
    (hlen : (blobBytes klen recs).length < 2 ^ 64) (hts : ∀ x ∈ recs, x.1.ts < 2 ^ 64)
    (hflip : FlipIn klen recs i input) :
    (∃ e, validateBlob input = .error e) ∧ Recovers input false (blobBytes klen (recs.take i)) ∧
      Recovers input true (blobBytes klen (recs.eraseIdx i)) := by
  have hm : FlipMany klen recs [i] input := .cons .nil (by simp) hflip
  obtain ⟨h1, h3⟩ := flipMany_tools klen recs [i] input hlen hts hm
  rw [skipKeeps_separated (by simp), ← Nat.zero_add i, dropIdxs_singleton] at h1
  exact ⟨flipMany_validate klen recs [i] input hlen hts hm (by simp), h3 i (by simp) (by simp), h1⟩

/-- a produced blob cut inside record `i`: the records before it, intact, then a dead end -/
theorem cutIn_tools (klen : Nat) (recs : List (Rec × List UInt8)) (i t : Nat)
    (hlen : (blobBytes klen recs).length < 2 ^ 64) (hts : ∀ x ∈ recs, x.1.ts < 2 ^ 64)
    (hc : CutIn klen recs i t) :
    (∃ e, validateBlob ((blobBytes klen recs).take t) = .error e) ∧
    ∀ skip, Recovers ((blobBytes klen recs).take t) skip (blobBytes klen (recs.take i)) := by
  obtain ⟨⟨r, d⟩, hx⟩ : ∃ x, recs[i]? = some x := ⟨_, List.getElem?_eq_getElem hc.1⟩
  have s := producedAt klen recs i r d hx
  have hts' : (recordOf klen r d).header.timestamp < 2 ^ 64 := by
    rw [recordOf_timestamp]; exact hts _ (List.mem_of_getElem? hx)
  have hc1 := hc.2.1
  have hfits := s.fits
  have hr := s.range hlen hts'
  obtain ⟨htake, hc2⟩ := s.take_cut hc
  have hok := slotsOK_good (klen := klen) _ 20 (goodRecs_recordsOf klen (recs.take i) (fun x hx => hts x (List.mem_of_mem_take hx)))
  have hpre : blobBytes klen (recs.take i) =
      serBlobHeader ++ slotsBytes 20 ((recordsOf klen (recs.take i)).map (fun R => ⟨R, none⟩)) := by
    rw [s.pre, slotsBytes_good]
  have hpl : (blobBytes klen (recs.take i)).length =
      20 + slotsSize ((recordsOf klen (recs.take i)).map (fun R => ⟨R, none⟩)) := by
    rw [hpre, List.length_append, serBlobHeader_length, slotsBytes_length _ 20 hok]
  generalize recordOf klen r d = R at s hr htake hc2 hfits
  generalize hoff : (blobBytes klen (recs.take i)).length = off at hr htake hpl hc1 hc2 hfits
  generalize hkk : t - off = k at htake hc2
  have him := R.image_length_eq_size off
  have hXl : ((R.image off).take k).length = k := by rw [List.length_take]; omega
  have hinl : ((blobBytes klen recs).take t).length = off + k := by
    rw [htake, List.length_append, hoff, hXl]
  have hread := readSingleRecord_truncated (blobBytes klen (recs.take i)) R s.wf off hoff hr (s.mlen hlen) k
    (by omega)
  rw [← htake] at hread
  have hf : (blobBytes klen recs).take t = serBlobHeader ++
      (slotsBytes 20 ((recordsOf klen (recs.take i)).map (fun R => ⟨R, none⟩)) ++ (R.image off).take k) := by
    rw [htake, hpre, List.append_assoc]
  have hend : DeadEnd ((blobBytes klen recs).take t)
      (20 + slotsSize ((recordsOf klen (recs.take i)).map (fun R => ⟨R, none⟩))) :=
    fun _ => ⟨off + k, by omega, by rw [← hpl]; exact damagedAt_other hread (by omega)⟩
  have hlt : ((blobBytes klen recs).take t).length < 2 ^ 64 := by omega
  refine ⟨error_of_ne_ok fun hv => ?_, fun skip => ?_⟩
  · have h0 := ((slots_validate (klen := klen) ⟨blobHeaderNew_inRange, rfl⟩ _ _ _ hf hlt hok hend).mp hv).2
    rw [h0] at hXl; simp at hXl; omega
  have := slots_recovery (klen := klen) _ _ _ hf hlt hok hend skip
  rwa [slotsKept_good] at this

end Pearl
