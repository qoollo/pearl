import Pearl.Proofs.EndToEndCrashDecide
import Pearl.Model.EndToEndCrashIdx
/-
The storages, cuts and index-file directories of the crash demonstrations (`Pearl/Props/EndToEndCrash.lean`), and
what start-up leaves of them.  Where no torn tail is accepted the recovered storage has the invariant, and what the
demonstrations look at is read off its L2 store (`Yields.crashRecover`); the start-ups that accept a torn tail, and
what follows them, are facts about the bytes of one storage, stated together.
-/
namespace Pearl.E2E
open Pearl Pearl.BPTree Pearl.Container

namespace CrashDemo

/-- `Demo.cfg` (bloom filter on, groups of 2) with the default `validate_data_during_index_regen = false` … -/
def cfg : Cfg := { Demo.cfg with validateData := false }
/-- … and with data validation -/
def cfgV : Cfg := Demo.cfg

/-- blob 0 (keys 1 and 2) is closed and dumped; blob 1 is created and receives a newer record of key 1 and a record
    of key 3 -/
def ops : List COp :=
  [.write 1 5 ⟨2, 1⟩, .write 2 6 ⟨1, 2⟩, .closeActive, .settle, .createActive, .write 1 7 ⟨3, 3⟩, .write 3 8 ⟨4, 4⟩]

/-- the storage after `ops`, without data validation at index regeneration … -/
def s : CState := (CState.init cfg).run cfg ops
/-- … and with it -/
def sV : CState := (CState.init cfgV).run cfgV ops

/-- blob 1 cut at the end of its first record -/
def cutB (id : Nat) : Nat := if id = 1 then 89 else 1000
/-- blob 1 cut 11 bytes into the header of its second record -/
def cutH (id : Nat) : Nat := if id = 1 then 100 else 1000
/-- blob 1 cut inside the data of its second record (header complete) -/
def cutT (id : Nat) : Nat := if id = 1 then 150 else 1000
/-- blob 1 cut inside its blob header -/
def cutZ (id : Nat) : Nat := if id = 1 then 10 else 1000

/-- `ops`, then `delete 2` (`only_if_presented`): a deletion marker is appended to the closed blob 0 -/
def opsD : List COp := ops ++ [.delete 2 9 true]
/-- the storage after `opsD` (with data validation) -/
def sD : CState := (CState.init cfgV).run cfgV opsD

/-- blob 0 cut 3 bytes into the meta of the deletion marker -/
def cutD (id : Nat) : Nat := if id = 0 then 216 else 1000

/-- the storage recovered from the clean cut `cutB` -/
def r1 : CState := (s.crash cfg cutB).restart cfg false

/-- the storage recovered (non-validating) from the torn tail `cutT`, and the acknowledged write made on it -/
def t1 : CState := ((s.crashRecover cfg cutT false).getD s).write cfg 4 9 ⟨2, 5⟩

/-- the start-ups on crashed directories of `s` at cuts without an accepted torn tail: `cutH` — blob 1 is quarantined,
    key 1 is served from blob 0; `cutZ` — blob 1 is quarantined, blob 0 becomes the active blob unless the start-up is
    lazy -/
theorem startups_noTorn (hcfg : cfg.OK) (hops : ∀ op ∈ ops, op.OK cfg)
    (hsz : StoreSized cfg.klen ((Store.init cfg.allowDup).run (ops.map COp.abs))) :
    Yields (s.crashRecover cfg cutH false) (fun c₁ =>
      c₁.blobs.map (·.id) = [0] ∧ c₁.nextId = 2 ∧ (c₁.abs cfg).blobs.length = 1 ∧
      c₁.read cfg 1 = .ok (.found (dataOf ⟨2, 1⟩))) ∧
    Yields (s.crashRecover cfg cutZ false) (fun c₁ =>
      c₁.blobs.map (fun b => (b.id, b.index.onDisk)) = [(0, false)] ∧ c₁.nextId = 2) ∧
    Yields (s.crashRecover cfg cutZ true) (fun c₁ =>
      c₁.blobs.map (fun b => (b.id, b.index.onDisk)) = [(0, true)] ∧ c₁.active.isSome = false ∧ c₁.nextId = 2) := by
  have hs : s.abs cfg = _ ∧ CInv cfg s := run_ref hcfg ops hops hsz
  refine ⟨.crashRecover hcfg hs.2 (by decide +kernel) fun c₁ h₁ a₁ => ?_,
    .crashRecover hcfg hs.2 (by decide +kernel) fun c₁ h₁ a₁ => ?_,
    .crashRecover hcfg hs.2 (by decide +kernel) fun c₁ h₁ a₁ => ?_⟩
  · rw [read_eq hcfg h₁, blobs_map_abs cfg c₁ (·.id) (·.id) fun _ => rfl, show c₁.nextId = (c₁.abs cfg).nextId from rfl,
      a₁, hs.1]
    decide +kernel
  · rw [blobs_map_abs cfg c₁ (fun b => (b.id, b.onDisk)) (fun b => (b.id, b.index.onDisk)) fun _ => rfl,
      show c₁.nextId = (c₁.abs cfg).nextId from rfl, a₁, hs.1]
    decide +kernel
  · rw [blobs_map_abs cfg c₁ (fun b => (b.id, b.onDisk)) (fun b => (b.id, b.index.onDisk)) fun _ => rfl,
      show c₁.nextId = (c₁.abs cfg).nextId from rfl,
      show c₁.active.isSome = (c₁.abs cfg).active.isSome from Option.isSome_map.symm, a₁, hs.1]
    decide +kernel

/-- the write made after the recovery from `cutB`: the L2 store stays small, no file grows beyond 1000 bytes, and the
    answers are those of the L2 store -/
theorem r1_write (hcfg : cfg.OK) (hs : s.abs cfg = (Store.init cfg.allowDup).run (ops.map COp.abs))
    (hr : CInv cfg r1) (har : r1.abs cfg = ((s.abs cfg).crash cfg.klen cutB).restart false) :
    StoreSized cfg.klen ((r1.abs cfg).apply (COp.write 4 9 ⟨2, 5⟩).abs) ∧
    (∀ b ∈ (r1.step cfg (.write 4 9 ⟨2, 5⟩)).blobs, b.file.length ≤ 1000) ∧
    (r1.step cfg (.write 4 9 ⟨2, 5⟩)).read cfg 4 = .ok (.found (dataOf ⟨2, 5⟩)) ∧
    (r1.step cfg (.write 4 9 ⟨2, 5⟩)).read cfg 1 = .ok (.found (dataOf ⟨3, 3⟩)) := by
  have hsz : StoreSized cfg.klen ((r1.abs cfg).apply (COp.write 4 9 ⟨2, 5⟩).abs) := by
    intro b hb
    rw [file_length]
    revert b
    rw [har, hs]
    decide +kernel
  obtain ⟨ha, hi⟩ := step_ref hcfg hr _ (by decide) hsz
  refine ⟨hsz, file_length_le_of_abs hi 1000 ?_, ?_⟩
  · rw [ha, har, hs]
    decide +kernel
  · rw [read_eq hcfg hi, read_eq hcfg hi, ha, har, hs]
    decide +kernel

/-- the non-validating start-up after `cutT`, evaluated on the bytes — blob 1 is opened with the torn record indexed
    (finding E8) —, the write made on the recovered storage (`t1`) and the next start-up -/
theorem startups :
    Yields (s.crashRecover cfg cutT false) (fun c₁ =>
      c₁.blobs.map (fun b => (b.id, b.file.length, b.ghost.length)) = [(0, 155, 2), (1, 150, 1)] ∧
      c₁.read cfg 1 = .ok (.found (dataOf ⟨3, 3⟩)) ∧ c₁.read cfg 2 = .ok (.found (dataOf ⟨1, 2⟩)) ∧
      c₁.read cfg 3 = .error (.load .bincode) ∧ (c₁.contains cfg 3).toOption = some (.found 8)) ∧
    t1.blobs.map (fun b => (b.id, b.file.length)) = [(0, 155), (1, 218)] ∧
    t1.read cfg 4 = .ok (.found (dataOf ⟨2, 5⟩)) ∧ t1.read cfg 3 = .error (.load .bincode) ∧
    Yields (t1.recover cfg false) (fun c₃ =>
      c₃.blobs.map (·.id) = [0] ∧ c₃.read cfg 4 = .ok .notFound ∧ c₃.read cfg 1 = .ok (.found (dataOf ⟨2, 1⟩))) ∧
    Yields (t1.recover cfgV false) (fun c₃ => c₃.blobs.map (·.id) = [0] ∧ c₃.read cfgV 4 = .ok .notFound) ∧
    regenAll cfg (sortById t1.blobs) = none := by
  decide +kernel

/-- the validating start-up after `cutT`: blob 1 is quarantined (the torn record has data) -/
theorem startupsV_noTorn (hcfg : cfgV.OK) (hops : ∀ op ∈ ops, op.OK cfgV)
    (hsz : StoreSized cfgV.klen ((Store.init cfgV.allowDup).run (ops.map COp.abs))) :
    Yields (sV.crashRecover cfgV cutT false) (fun c₁ =>
      c₁.blobs.map (·.id) = [0] ∧ c₁.read cfgV 3 = .ok .notFound ∧ c₁.read cfgV 1 = .ok (.found (dataOf ⟨2, 1⟩))) :=
  have hs : sV.abs cfgV = _ ∧ CInv cfgV sV := run_ref hcfg ops hops hsz
  .crashRecover hcfg hs.2 (by decide +kernel) fun c₁ h₁ a₁ => by
    rw [read_eq hcfg h₁, read_eq hcfg h₁, blobs_map_abs cfgV c₁ (·.id) (·.id) fun _ => rfl, a₁, hs.1]
    decide +kernel

/-- the validating lazy start-up after `cutD` — the cut inside the meta of the deletion marker of the closed blob 0 —:
    the marker, which has no data, is accepted.  A fact about the storage `crashRecover_eq` says start-up returns -/
theorem startupsV (hd : CInv cfgV sD) :
    Yields (sD.crashRecover cfgV cutD true) (fun c₁ =>
      c₁.blobs.map (fun b => (b.id, b.file.length, b.ghost.length, b.index.onDisk)) =
        [(0, 216, 2, true), (1, 159, 2, true)] ∧
      c₁.read cfgV 1 = .ok (.found (dataOf ⟨3, 3⟩)) ∧ c₁.read cfgV 2 = .ok (.deleted 9)) := by
  rw [crashRecover_eq hd]
  decide +kernel

end CrashDemo

namespace CrashIdxDemo

def mops : List MOp := CrashDemo.ops.map COp.toM

/-- the byte-level storage the history leaves -/
def b : BState := (BState.init CrashDemo.cfg).runB CrashDemo.cfg DemoB.sha mops

def recs0 : List Rec := [⟨1, 5, false, none, ⟨2, 1⟩⟩, ⟨2, 6, false, none, ⟨1, 2⟩⟩]
def recs1 : List Rec := [⟨1, 7, false, none, ⟨3, 3⟩⟩, ⟨3, 8, false, none, ⟨4, 4⟩⟩]

/-- what the state shows of itself -/
def view (b : BState) : List (Nat × Nat × Bool) × Option Nat × Nat :=
  (b.blobs.map (fun x => (x.id, x.file.length, x.index.onDisk)), b.active.map (·.id), b.nextId)

/-- blob 0: its current index file.  Blob 1: the index file of a dump made after its first record (never made in
    this history: a left-over) — current for the blob cut at 89, stale for the intact blob -/
def dirCur : Nat → Option (List Nat)
  | 0 => dumpedImage CrashDemo.cfg DemoB.sha (recs0.take 2)
  | 1 => dumpedImage CrashDemo.cfg DemoB.sha (recs1.take 1)
  | _ => none

/-- blob 0: its index file cut at 200 of 314 bytes.  Blob 1: the index file of the dump of BOTH its records
    (`blob_size = 159`) — it says more than the blob cut at 89 holds -/
def dirMore : Nat → Option (List Nat)
  | 0 => (dumpedImage CrashDemo.cfg DemoB.sha (recs0.take 2)).map (·.take 200)
  | 1 => dumpedImage CrashDemo.cfg DemoB.sha (recs1.take 2)
  | _ => none

/-- blob 0: a dump interrupted during the header rewrite (40 bytes rewritten: the `written` byte not yet).  Blob 1: a
    dump of its first record interrupted after 50 bytes of the buffer -/
def dirHalf : Nat → Option (List Nat)
  | 0 => (dumpedParts CrashDemo.cfg (recs0.take 2)).map
      (fun p => (DumpStage.rewriting 40).bytes DemoB.sha p.1 p.2 (blobFileLen CrashDemo.cfg (recs0.take 2)))
  | 1 => (dumpedParts CrashDemo.cfg (recs1.take 1)).map
      (fun p => (DumpStage.appending 50).bytes DemoB.sha p.1 p.2 (blobFileLen CrashDemo.cfg (recs1.take 1)))
  | _ => none

/-- blob 1 cut back to the 20 bytes of its blob header -/
def cut20 (id : Nat) : Nat := if id = 1 then 20 else 1000

/-- … and an EMPTY index file next to it (a proper prefix — 0 bytes — of the image of a dump of its first record:
    `clean_file` / `create` of an interrupted dump leave exactly this) -/
def dirE : Nat → Option (List Nat)
  | 1 => (dumpedImage CrashDemo.cfg DemoB.sha (recs1.take 1)).map (·.take 0)
  | _ => none

/-- the storage the history leaves, before its translation to bytes -/
def c : CState := (CState.init CrashDemo.cfg).runM CrashDemo.cfg mops

theorem view_toB {c₁ : CState} (h₁ : CInv CrashDemo.cfg c₁) :
    view (c₁.toB DemoB.sha) =
      ((c₁.abs CrashDemo.cfg).blobs.map (fun x => (x.id, Fs.contentLen 1 x.recs, x.onDisk)),
        (c₁.abs CrashDemo.cfg).active.map (·.id), (c₁.abs CrashDemo.cfg).nextId) := by
  unfold view
  rw [blobs_view_abs h₁]
  refine congrArg (Prod.mk _) (congrArg (fun a => (a, c₁.nextId)) ?_)
  show (c₁.active.map (CBlob.toB DemoB.sha)).map (·.id) = (c₁.active.map CBlob.abs).map (·.id)
  cases c₁.active <;> rfl

/-- the start-ups with index files a crash can leave (`hCur`, `hMore`, `hHalf`) and without index files.  At the cuts
    without an accepted torn tail they are read off the L2 store of the history; at the torn cut `cutT` the start-up
    is the one without index files (`crashRecoverWithIndexes_toB`), whose result `crashRecover_eq` gives -/
theorem startups_covered (hB : BytesOK CrashDemo.cfg DemoB.sha) (hops : ∀ op ∈ mops, op.OK CrashDemo.cfg)
    (hsz : StoreIdxSized CrashDemo.cfg ((Store.init CrashDemo.cfg.allowDup).run (mops.map MOp.abs)))
    (hCur : ∀ x ∈ ((Store.init CrashDemo.cfg.allowDup).run (mops.map MOp.abs)).blobs,
      IdxAtCrash CrashDemo.cfg DemoB.sha x.recs (dirCur x.id))
    (hMore : ∀ x ∈ ((Store.init CrashDemo.cfg.allowDup).run (mops.map MOp.abs)).blobs,
      IdxAtCrash CrashDemo.cfg DemoB.sha x.recs (dirMore x.id))
    (hHalf : ∀ x ∈ ((Store.init CrashDemo.cfg.allowDup).run (mops.map MOp.abs)).blobs,
      IdxAtCrash CrashDemo.cfg DemoB.sha x.recs (dirHalf x.id)) :
    Yields (b.crashRecoverWithIndexes CrashDemo.cfg DemoB.sha CrashDemo.cutB dirCur true) (fun b₁ =>
      view b₁ = ([(0, 155, true), (1, 89, true)], none, 2) ∧
      b₁.readWithOpt CrashDemo.cfg 1 none = .ok (.found (dataOf ⟨3, 3⟩)) ∧
      b₁.readWithOpt CrashDemo.cfg 2 none = .ok (.found (dataOf ⟨1, 2⟩)) ∧
      b₁.readWithOpt CrashDemo.cfg 3 none = .ok .notFound) ∧
    Yields (b.crashRecoverWithIndexes CrashDemo.cfg DemoB.sha CrashDemo.cutB dirMore false) (fun b₁ =>
      view b₁ = ([(0, 155, true), (1, 89, false)], some 1, 2)) ∧
    Yields (b.crashRecoverWithIndexes CrashDemo.cfg DemoB.sha CrashDemo.cutH dirMore false) (fun b₁ =>
      view b₁ = ([(0, 155, false)], some 0, 2)) ∧
    Yields (b.crashRecoverWithIndexes CrashDemo.cfg DemoB.sha cut20 (fun _ => none) false) (fun b₁ =>
      view b₁ = ([(0, 155, true), (1, 20, false)], some 1, 2) ∧
      [1, 2, 3].map (fun k => b₁.readWithOpt CrashDemo.cfg k none) =
        [.ok (.found (dataOf ⟨2, 1⟩)), .ok (.found (dataOf ⟨1, 2⟩)), .ok .notFound]) ∧
    Yields (b.crashRecoverWithIndexes CrashDemo.cfg DemoB.sha cut20 (fun _ => none) true) (fun b₁ =>
      view b₁ = ([(0, 155, true), (1, 20, false)], none, 2)) ∧
    Yields (b.crashRecoverWithIndexes CrashDemo.cfg DemoB.sha CrashDemo.cutT dirHalf false) (fun b₁ =>
      view b₁ = ([(0, 155, true), (1, 150, false)], some 1, 2) ∧
      b₁.readWithOpt CrashDemo.cfg 3 none = .error (.load .bincode) ∧
      (b₁.containsWith CrashDemo.cfg 3 none).toOption = some (.found 8)) := by
  obtain ⟨hb, hr⟩ : b = c.toB DemoB.sha ∧ c.abs CrashDemo.cfg = _ ∧ CInv CrashDemo.cfg c ∧
    StoreMetaOK (c.abs CrashDemo.cfg) := runB_ref hB mops hops hsz
  have hCur := dirAtCrash_of_cut hr.2.1 CrashDemo.cutB dirCur (forall_abs_blobs.mp (hr.1 ▸ hCur)) (by decide +kernel)
  have hMoreH := dirAtCrash_of_cut hr.2.1 CrashDemo.cutH dirMore (forall_abs_blobs.mp (hr.1 ▸ hMore)) (by decide +kernel)
  have hMore := dirAtCrash_of_cut hr.2.1 CrashDemo.cutB dirMore (forall_abs_blobs.mp (hr.1 ▸ hMore)) (by decide +kernel)
  have hHalf := dirAtCrash_of_cut hr.2.1 CrashDemo.cutT dirHalf (forall_abs_blobs.mp (hr.1 ▸ hHalf)) (by decide +kernel)
  have hnone : ∀ cut, DirAtCrash CrashDemo.cfg DemoB.sha c cut (fun _ => none) := fun cut =>
    dirAtCrash_of_cut hr.2.1 cut _ (fun _ _ => .absent) (fun _ _ _ => rfl)
  have hne : c.blobs ≠ [] := by decide +kernel
  rw [hb]
  refine ⟨.crashRecoverWithIndexes hB hr.2.1 hr.2.2 (hr.1 ▸ hsz) hne hCur (by decide +kernel) fun c₁ h₁ m₁ s₁ a₁ => ?_,
    .crashRecoverWithIndexes hB hr.2.1 hr.2.2 (hr.1 ▸ hsz) hne hMore (by decide +kernel) fun c₁ h₁ m₁ s₁ a₁ => ?_,
    .crashRecoverWithIndexes hB hr.2.1 hr.2.2 (hr.1 ▸ hsz) hne hMoreH (by decide +kernel) fun c₁ h₁ m₁ s₁ a₁ => ?_,
    .crashRecoverWithIndexes hB hr.2.1 hr.2.2 (hr.1 ▸ hsz) hne (hnone _) (by decide +kernel) fun c₁ h₁ m₁ s₁ a₁ => ?_,
    .crashRecoverWithIndexes hB hr.2.1 hr.2.2 (hr.1 ▸ hsz) hne (hnone _) (by decide +kernel) fun c₁ h₁ m₁ s₁ a₁ => ?_,
    ?_⟩
  · simp only [view_toB h₁, readWithOpt_toB_abs hB h₁ m₁ s₁ _ none nofun, a₁, hr.1]
    decide +kernel
  · rw [view_toB h₁, a₁, hr.1]
    decide +kernel
  · rw [view_toB h₁, a₁, hr.1]
    decide +kernel
  · simp only [view_toB h₁, List.map_cons, List.map_nil, readWithOpt_toB_abs hB h₁ m₁ s₁ _ none nofun, a₁, hr.1]
    decide +kernel
  · rw [view_toB h₁, a₁, hr.1]
    decide +kernel
  · rw [crashRecoverWithIndexes_toB hB hr.2.1 (sized3_of_store (hr.1 ▸ hsz)) _ _ hHalf, crashRecover_eq hr.2.1]
    decide +kernel

/-- what `openIndex` says of the index files lying next to the blobs, and the start-ups evaluated on the bytes: the
    blob cut back to its header with an empty index file next to it (the case the theorems exclude) -/
theorem startups :
    Holds ((dumpedImage CrashDemo.cfg DemoB.sha recs0).map (·.length) = some 314 ∧
      (dumpedImage CrashDemo.cfg DemoB.sha recs0).map
        (fun img => [0, 83, 200, 313].map (fun t => openIndex CrashDemo.cfg 155 (img.take t)))
        = some [.rejected, .rejected, .rejected, .rejected] ∧
      ((dumpedImage CrashDemo.cfg DemoB.sha recs0).map (openIndex CrashDemo.cfg 155)).isSome = true ∧
      (dumpedImage CrashDemo.cfg DemoB.sha recs0).map (openIndex CrashDemo.cfg 155) ≠ some .rejected ∧
      (dumpedImage CrashDemo.cfg DemoB.sha recs0).map (openIndex CrashDemo.cfg 155) ≠ some .panic ∧
      (dirHalf 0).map (openIndex CrashDemo.cfg 155) = some .rejected ∧
      (dirHalf 0).map (·.length) = some 314) ∧
    Holds ((dirMore 1).map (openIndex CrashDemo.cfg 89) = some .rejected ∧
      (dirCur 1).map (openIndex CrashDemo.cfg 159) = some .rejected ∧
      ((dirCur 1).map (openIndex CrashDemo.cfg 89)).isSome = true ∧
      (dirCur 1).map (openIndex CrashDemo.cfg 89) ≠ some .rejected ∧
      (dirCur 1).map (openIndex CrashDemo.cfg 89) ≠ some .panic) ∧
    Yields (b.crashRecoverWithIndexes CrashDemo.cfg DemoB.sha cut20 dirE false) (fun b₁ =>
      view b₁ = ([(0, 155, false)], some 0, 2) ∧
      [1, 2, 3].map (fun k => b₁.readWithOpt CrashDemo.cfg k none) =
        [.ok (.found (dataOf ⟨2, 1⟩)), .ok (.found (dataOf ⟨1, 2⟩)), .ok .notFound]) ∧
    Yields (b.crashRecoverWithIndexes CrashDemo.cfg DemoB.sha cut20 dirE true) (fun b₁ =>
      view b₁ = ([(0, 155, true)], none, 2)) := by
  decide +kernel

end CrashIdxDemo

end Pearl.E2E
