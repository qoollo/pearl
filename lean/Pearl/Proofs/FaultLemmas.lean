import Pearl.Model.Fault
import Pearl.Proofs.CrashLemmas
/-
Helper lemmas for C11 (I/O fault containment): positional writes at or beyond the end of the file; what one write
step does to the file, the reservation counter and the index (`writeStep_*`, with `recLen`, `cut`); what a run keeps
(`run_invariant` and its instances); the acknowledged records of a run - their index entries, ranges, loads, and
their headers when every write succeeds or after a first fault (`run_index`, `acked_ranges`, `acked_loads`,
`acked_allOk`, `ackedHeaders_*`, `acked_first_fault`); a header's worth of zeros parses with magic byte 0
(`deserHeader_zeros`); the scan of an intact or torn blob in terms of `recLen` (`openBlob_appendRecords`,
`rawRecordsLoad_torn_tail`); and the cases of an index dump (`dumpStep_cases`).
-/
namespace Pearl.Fault
open Pearl

/-! ### positional writes at or beyond the end of the file -/

theorem pwrite_ge (file b : List UInt8) (off : Nat) (h : file.length ≤ off) :
    pwrite file off b = file ++ List.replicate (off - file.length) 0 ++ b := by
  unfold pwrite
  rw [List.take_of_length_le h, List.drop_eq_nil_of_le (by omega), List.append_nil]

theorem pwrite_ge_length (file b : List UInt8) (off : Nat) (h : file.length ≤ off) :
    (pwrite file off b).length = off + b.length := by
  rw [pwrite_ge file b off h]
  simp only [List.length_append, List.length_replicate]
  omega

theorem pwrite_twice (file b1 b2 : List UInt8) (off : Nat) (h : file.length ≤ off) :
    pwrite (pwrite file off b1) (off + b1.length) b2 =
      file ++ List.replicate (off - file.length) 0 ++ (b1 ++ b2) := by
  have hl := pwrite_ge_length file b1 off h
  rw [pwrite_ge _ b2 _ (by omega), hl, Nat.sub_self, pwrite_ge file b1 off h]
  simp

theorem writeData_ge (file : List UInt8) (off : Nat) (w : Writable) (h : file.length ≤ off) :
    writeData file off w = file ++ List.replicate (off - file.length) 0 ++ w.bytes := by
  cases w with
  | single b => exact pwrite_ge file b off h
  | double b1 b2 => exact pwrite_twice file b1 b2 off h

theorem pwritePart_ge (file b : List UInt8) (off n : Nat) (h : file.length ≤ off) :
    pwritePart file off b n =
      if n = 0 then file else file ++ List.replicate (off - file.length) 0 ++ b.take n := by
  unfold pwritePart
  split
  · rfl
  · exact pwrite_ge _ _ _ h

/-- what `write_data` leaves in the file under an outcome, when the offset is at or beyond the end:
    nothing, or the zero-filled hole followed by the first `cutOf` bytes of the image -/
theorem writeDataO_bytes (file : List UInt8) (off : Nat) (w : Writable) (o : Outcome)
    (h : file.length ≤ off) (hb : firstBuf w ≠ []) :
    (writeDataO file off w o).1 =
      if cutOf w o = 0 then file
      else file ++ List.replicate (off - file.length) 0 ++ w.bytes.take (cutOf w o) := by
  have hpos : 0 < (firstBuf w).length := List.length_pos_iff.mpr hb
  cases o with
  | ok =>
    have hne : cutOf w .ok ≠ 0 := by
      cases w <;> simp only [cutOf, Writable.bytes, firstBuf, List.length_append] at hpos ⊢ <;> omega
    rw [if_neg hne]
    simp only [writeDataO, cutOf, List.take_length]
    exact writeData_ge file off w h
  | failBefore => cases w <;> rfl
  | short n =>
    cases w with
    | single b => exact pwritePart_ge file b off n h
    | double b1 b2 =>
      show (if n ≤ b1.length then (pwritePart file off b1 n, false)
        else (pwritePart (pwrite file off b1) (off + b1.length) b2 (n - b1.length), false)).1 =
        if n = 0 then file else _ ++ List.take n (b1 ++ b2)
      split
      · next hle => rw [pwritePart_ge _ _ _ _ h, List.take_append_of_le_length hle]
      · -- the first buffer went through; the rest is a partial write right behind it
        next hle =>
        have hl := pwrite_ge_length file b1 off h
        rw [pwritePart_ge _ b2 _ _ (Nat.le_of_eq hl), if_neg (by omega), if_neg (by omega), hl, Nat.sub_self,
          pwrite_ge _ _ _ h, List.take_append, List.take_of_length_le (l := b1) (by omega)]
        simp
  | failSecond =>
    cases w with
    | single b => rfl
    | double b1 b2 =>
      simp only [firstBuf] at hpos
      show pwrite file off b1 = if b1.length = 0 then file else _ ++ List.take b1.length (b1 ++ b2)
      rw [if_neg (by omega), pwrite_ge _ _ _ h, List.take_left' rfl]

theorem writeDataO_ack (file : List UInt8) (off : Nat) (w : Writable) (o : Outcome) :
    (writeDataO file off w o).2 = decide (o = .ok) := by
  cases o <;> cases w <;> simp [writeDataO] <;> split <;> rfl

/-! ### one write step: sizes (`recLen`, `cut`), the file, the index -/

/-- bytes a record occupies in the file: `Record.size` (Pearl/Proofs/BlobLemmas.lean) under the name the C11
    statements use; `image_length_recLen`, `recLen_of_WF` -/
def recLen (r : Record) : Nat := 57 + r.header.key.length + (serMeta r.mt).length + r.data.length

/-- header + meta: the first buffer of a two-buffer record -/
def headLen (r : Record) : Nat := 57 + r.header.key.length + (serMeta r.mt).length

/-- the record is handed to the file as two buffers (`WritableData::Double`) -/
def twoBuf (maxSP : Nat) (r : Record) : Prop := ¬ recLen r ≤ maxSP

instance (maxSP : Nat) (r : Record) : Decidable (twoBuf maxSP r) := by unfold twoBuf; infer_instance

theorem image_length_recLen (r : Record) (off : Nat) : (r.image off).length = recLen r :=
  r.image_length off

theorem recLen_of_WF {klen : Nat} {r : Record} (hwf : r.WF klen) :
    recLen r = 57 + klen + (serMeta r.mt).length + r.data.length := by
  unfold recLen; rw [hwf.key]

theorem toPartial_len_recLen (r : Record) (maxSP : Nat) : (toPartial r maxSP).len = recLen r := by
  rw [toPartial_len, serHeader_length]; rfl

/-- the buffers `WritableDataCreator::create` produces -/
theorem writable_shape (r : Record) (off maxSP : Nat) :
    (writableOf (toPartial r maxSP) off).1 =
      if recLen r ≤ maxSP then .single (r.image off)
      else .double (serHeader (r.header.final off) ++ serMeta r.mt) r.data := by
  have hl : (serHeader r.header).length = 57 + r.header.key.length := serHeader_length _
  unfold writableOf toPartial recLen
  simp only [hl]
  by_cases h : 57 + r.header.key.length + (serMeta r.mt).length + r.data.length ≤ maxSP
  · rw [if_pos h, if_pos h]
    simp only [writableWith]
    rw [← hl, List.append_assoc, finalizeWith_serHeader]
    rfl
  · rw [if_neg h, if_neg h]
    simp only [writableWith]
    rw [← hl, finalizeWith_serHeader]
    rfl

theorem writable_bytes (r : Record) (off maxSP : Nat) :
    (writableOf (toPartial r maxSP) off).1.bytes = r.image off :=
  recordBytes_eq_image r off maxSP

theorem writable_firstBuf_ne (r : Record) (off maxSP : Nat) :
    firstBuf (writableOf (toPartial r maxSP) off).1 ≠ [] := by
  rw [writable_shape]
  intro h
  have := congrArg List.length h
  split at this
  · simp only [firstBuf, r.image_length, List.length_nil] at this; omega
  · simp only [firstBuf, List.length_append, serHeader_length, List.length_nil] at this; omega

/-- number of bytes of the image that reach the file -/
def cut (maxSP : Nat) (r : Record) : Outcome → Nat
  | .ok => recLen r
  | .failBefore => 0
  | .short n => n
  | .failSecond => if recLen r ≤ maxSP then 0 else headLen r

theorem cutOf_writable (r : Record) (off maxSP : Nat) (o : Outcome) :
    cutOf (writableOf (toPartial r maxSP) off).1 o = cut maxSP r o := by
  cases o with
  | ok => simp only [cutOf, cut, writable_bytes, image_length_recLen]
  | failBefore => rfl
  | short n => rfl
  | failSecond =>
    simp only [cut]
    rw [writable_shape]
    by_cases h : recLen r ≤ maxSP
    · rw [if_pos h, if_pos h]; rfl
    · rw [if_neg h, if_neg h]
      simp only [cutOf, List.length_append, serHeader_length]; rfl

theorem writeStep_size (maxSP : Nat) (st : BlobSt) (r : Record) (o : Outcome) :
    (writeStep maxSP st r o).1.file.size = st.file.size + recLen r := by
  unfold writeStep
  simp only [toPartial_len_recLen]
  split <;> rfl

theorem writeStep_bytes (maxSP : Nat) (st : BlobSt) (r : Record) (o : Outcome)
    (h : st.file.bytes.length ≤ st.file.size) :
    (writeStep maxSP st r o).1.file.bytes =
      if cut maxSP r o = 0 then st.file.bytes
      else st.file.bytes ++ List.replicate (st.file.size - st.file.bytes.length) 0 ++
        (r.image st.file.size).take (cut maxSP r o) := by
  have hb := writeDataO_bytes st.file.bytes st.file.size (writableOf (toPartial r maxSP) st.file.size).1 o h
    (writable_firstBuf_ne r _ maxSP)
  rw [cutOf_writable, writable_bytes] at hb
  unfold writeStep
  simp only
  split <;> exact hb

theorem writeStep_ack (maxSP : Nat) (st : BlobSt) (r : Record) (o : Outcome) :
    (writeStep maxSP st r o).2 = (decide (o = .ok) && !st.onDisk) := by
  unfold writeStep
  simp only [writeDataO_ack]
  split <;> simp_all

theorem writeStep_index (maxSP : Nat) (st : BlobSt) (r : Record) (o : Outcome) :
    (writeStep maxSP st r o).1.index =
      if (writeStep maxSP st r o).2 then st.index ++ [(writtenHeader r st.file.size maxSP, st.file.size)]
      else st.index := by
  unfold writeStep
  simp only
  split <;> simp_all

theorem writeStep_onDisk (maxSP : Nat) (st : BlobSt) (r : Record) (o : Outcome) :
    (writeStep maxSP st r o).1.onDisk = st.onDisk := by
  unfold writeStep; simp only; split <;> rfl

theorem writeStep_idxFile (maxSP : Nat) (st : BlobSt) (r : Record) (o : Outcome) :
    (writeStep maxSP st r o).1.idxFile = st.idxFile := by
  unfold writeStep; simp only; split <;> rfl

theorem writeStep_le (maxSP : Nat) (st : BlobSt) (r : Record) (o : Outcome)
    (h : st.file.bytes.length ≤ st.file.size) :
    (writeStep maxSP st r o).1.file.bytes.length ≤ (writeStep maxSP st r o).1.file.size := by
  rw [writeStep_size, writeStep_bytes maxSP st r o h]
  split
  · omega
  · simp only [List.length_append, List.length_replicate, List.length_take, image_length_recLen]
    omega

theorem writeStep_extends (maxSP : Nat) (st : BlobSt) (r : Record) (o : Outcome)
    (h : st.file.bytes.length ≤ st.file.size) :
    ∃ ext, (writeStep maxSP st r o).1.file.bytes = st.file.bytes ++ ext := by
  rw [writeStep_bytes maxSP st r o h]
  split
  · exact ⟨[], (List.append_nil _).symm⟩
  · exact ⟨_, List.append_assoc ..⟩

theorem readExactAt_append_right {f : List UInt8} {n off : Nat} {buf : List UInt8}
    (h : readExactAt f n off = some buf) (ext : List UInt8) : readExactAt (f ++ ext) n off = some buf := by
  by_cases hn : n = 0
  · subst hn
    have := (readExactAt_eq_some h).1
    rw [List.take_zero] at this
    subst this
    unfold readExactAt; simp
  · have hle := readExactAt_length_le h (by omega)
    have := readExactAt_of_prefix f [] ext n off hle
    rw [List.append_nil] at this
    rw [← this, h]

/-- a record that loads from a file loads, with the same result, from every extension of the file -/
theorem entryLoad_append_right {f : List UInt8} {h : RecHeader} {x : List UInt8 × List UInt8}
    (hok : entryLoad f h = .ok x) (ext : List UInt8) : entryLoad (f ++ ext) h = .ok x := by
  unfold entryLoad at hok ⊢
  split at hok
  · cases hok
  · next buf hbuf =>
    rw [readExactAt_append_right hbuf ext]
    exact hok

/-! ### a run of steps: what it keeps, its index, the acknowledged records -/

theorem run_cons (maxSP : Nat) (st : BlobSt) (r : Record) (o : Outcome) (rest : List (Record × Outcome)) :
    run maxSP st ((r, o) :: rest) = run maxSP (writeStep maxSP st r o).1 rest := rfl

theorem run_append (maxSP : Nat) (st : BlobSt) (a b : List (Record × Outcome)) :
    run maxSP st (a ++ b) = run maxSP (run maxSP st a) b := by
  induction a generalizing st with
  | nil => rfl
  | cons x a ih => obtain ⟨r, o⟩ := x; exact ih _

theorem acked_append (maxSP : Nat) (st : BlobSt) (a b : List (Record × Outcome)) :
    acked maxSP st (a ++ b) = acked maxSP st a ++ acked maxSP (run maxSP st a) b := by
  induction a generalizing st with
  | nil => rfl
  | cons x a ih =>
    obtain ⟨r, o⟩ := x
    simp only [List.cons_append, acked, run, ih, List.append_assoc]

theorem run_invariant {P : BlobSt → Prop} (maxSP : Nat)
    (hstep : ∀ st r o, P st → P (writeStep maxSP st r o).1) (st : BlobSt) (steps : List (Record × Outcome))
    (h : P st) : P (run maxSP st steps) := by
  induction steps generalizing st with
  | nil => exact h
  | cons x rest ih => exact ih _ (hstep st x.1 x.2 h)

theorem run_le (maxSP : Nat) (st : BlobSt) (steps : List (Record × Outcome))
    (h : st.file.bytes.length ≤ st.file.size) :
    (run maxSP st steps).file.bytes.length ≤ (run maxSP st steps).file.size :=
  run_invariant maxSP (writeStep_le maxSP) st steps h

theorem run_size_ge (maxSP : Nat) (st : BlobSt) (steps : List (Record × Outcome)) :
    st.file.size ≤ (run maxSP st steps).file.size :=
  run_invariant (P := fun s => st.file.size ≤ s.file.size) maxSP
    (fun s r o h => by rw [writeStep_size]; omega) st steps (Nat.le_refl _)

theorem run_extends (maxSP : Nat) (st : BlobSt) (steps : List (Record × Outcome))
    (h : st.file.bytes.length ≤ st.file.size) :
    ∃ ext, (run maxSP st steps).file.bytes = st.file.bytes ++ ext :=
  (run_invariant (P := fun s => s.file.bytes.length ≤ s.file.size ∧ ∃ ext, s.file.bytes = st.file.bytes ++ ext)
    maxSP (fun s r o ⟨hle, e1, h1⟩ => by
      obtain ⟨e2, h2⟩ := writeStep_extends maxSP s r o hle
      exact ⟨writeStep_le maxSP s r o hle, e1 ++ e2, by rw [h2, h1, List.append_assoc]⟩)
    st steps ⟨h, [], (List.append_nil _).symm⟩).2

theorem run_onDisk (maxSP : Nat) (st : BlobSt) (steps : List (Record × Outcome)) :
    (run maxSP st steps).onDisk = st.onDisk :=
  run_invariant (P := fun s => s.onDisk = st.onDisk) maxSP
    (fun s r o h => by rw [writeStep_onDisk]; exact h) st steps rfl

theorem run_idxFile (maxSP : Nat) (st : BlobSt) (steps : List (Record × Outcome)) :
    (run maxSP st steps).idxFile = st.idxFile :=
  run_invariant (P := fun s => s.idxFile = st.idxFile) maxSP
    (fun s r o h => by rw [writeStep_idxFile]; exact h) st steps rfl

theorem run_index (maxSP : Nat) (st : BlobSt) (steps : List (Record × Outcome)) :
    (run maxSP st steps).index = st.index ++ (acked maxSP st steps).map (entryOf maxSP) := by
  induction steps generalizing st with
  | nil => simp [run, acked]
  | cons x rest ih =>
    obtain ⟨r, o⟩ := x
    rw [run_cons, ih, writeStep_index]
    simp only [acked]
    cases (writeStep maxSP st r o).2
    · simp
    · simp [entryOf]

theorem acked_ranges (maxSP : Nat) (st : BlobSt) (steps : List (Record × Outcome)) :
    (∀ x ∈ acked maxSP st steps, st.file.size ≤ x.2 ∧ x.2 + recLen x.1 ≤ (run maxSP st steps).file.size) ∧
    (acked maxSP st steps).Pairwise (fun a b => a.2 + recLen a.1 ≤ b.2) := by
  induction steps generalizing st with
  | nil => simp [acked]
  | cons x rest ih =>
    obtain ⟨r, o⟩ := x
    obtain ⟨ih1, ih2⟩ := ih (writeStep maxSP st r o).1
    have hge := run_size_ge maxSP (writeStep maxSP st r o).1 rest
    rw [writeStep_size] at ih1 hge
    have ih1' : ∀ y ∈ acked maxSP (writeStep maxSP st r o).1 rest, st.file.size ≤ y.2 ∧
        y.2 + recLen y.1 ≤ (run maxSP (writeStep maxSP st r o).1 rest).file.size :=
      fun y hy => ⟨by have := ih1 y hy; omega, (ih1 y hy).2⟩
    simp only [acked, run_cons]
    cases (writeStep maxSP st r o).2
    · exact ⟨ih1', ih2⟩
    · simp only [↓reduceIte, List.singleton_append, List.forall_mem_cons, List.pairwise_cons]
      exact ⟨⟨⟨Nat.le_refl _, hge⟩, ih1'⟩, fun b hb => (ih1 b hb).1, ih2⟩

theorem recLen_pos (r : Record) : 0 < recLen r := by unfold recLen; omega

theorem writeStep_ok_bytes (maxSP : Nat) (st : BlobSt) (r : Record)
    (h : st.file.bytes.length ≤ st.file.size) :
    (writeStep maxSP st r .ok).1.file.bytes =
      st.file.bytes ++ List.replicate (st.file.size - st.file.bytes.length) 0 ++ r.image st.file.size := by
  rw [writeStep_bytes maxSP st r .ok h]
  have := recLen_pos r
  have hc : cut maxSP r .ok = recLen r := rfl
  rw [hc, if_neg (by omega), ← image_length_recLen r st.file.size, List.take_length]

theorem writeStep_ok_loads {klen : Nat} (maxSP : Nat) (st : BlobSt) (r : Record)
    (h : st.file.bytes.length ≤ st.file.size) (hwf : r.WF klen) (hm : (serMeta r.mt).length < 2 ^ 64) :
    entryLoad (writeStep maxSP st r .ok).1.file.bytes (writtenHeader r st.file.size maxSP) =
      .ok (serMeta r.mt, r.data) := by
  rw [writeStep_ok_bytes maxSP st r h, writtenHeader_eq]
  have := entryLoad_image (st.file.bytes ++ List.replicate (st.file.size - st.file.bytes.length) 0) [] r hwf
    st.file.size (by simp only [List.length_append, List.length_replicate]; omega) hm
  rw [List.append_nil] at this
  exact this

theorem acked_loads {klen : Nat} (maxSP : Nat) (st : BlobSt) (steps : List (Record × Outcome))
    (h : st.file.bytes.length ≤ st.file.size)
    (hwf : ∀ s ∈ steps, s.1.WF klen ∧ (serMeta s.1.mt).length < 2 ^ 64) :
    ∀ x ∈ acked maxSP st steps,
      entryLoad (run maxSP st steps).file.bytes (writtenHeader x.1 x.2 maxSP) = .ok (serMeta x.1.mt, x.1.data) := by
  induction steps generalizing st with
  | nil => intro x hx; cases hx
  | cons s rest ih =>
    obtain ⟨r, o⟩ := s
    have hle := writeStep_le maxSP st r o h
    have ih' := ih _ hle (fun s hs => hwf s (List.mem_cons_of_mem _ hs))
    simp only [acked, run_cons]
    cases hack : (writeStep maxSP st r o).2
    · exact ih'
    · obtain rfl : o = .ok := by
        rw [writeStep_ack] at hack
        simp only [Bool.and_eq_true, decide_eq_true_eq] at hack
        exact hack.1
      simp only [↓reduceIte, List.singleton_append, List.forall_mem_cons]
      refine ⟨?_, ih'⟩
      obtain ⟨ext, hext⟩ := run_extends maxSP _ rest hle
      obtain ⟨hw, hm⟩ := hwf (r, .ok) (List.mem_cons_self ..)
      rw [hext]
      exact entryLoad_append_right (writeStep_ok_loads maxSP st r h hw hm) ext

theorem ok_cut_ne (maxSP : Nat) (r : Record) : cut maxSP r .ok ≠ 0 := by
  have := recLen_pos r
  show recLen r ≠ 0
  omega

theorem acked_silent (maxSP : Nat) (st : BlobSt) (steps : List (Record × Outcome))
    (hs : ∀ s ∈ steps, cut maxSP s.1 s.2 = 0) : acked maxSP st steps = [] := by
  induction steps generalizing st with
  | nil => rfl
  | cons x rest ih =>
    obtain ⟨r, o⟩ := x
    have h0 : cut maxSP r o = 0 := hs (r, o) (List.mem_cons_self ..)
    have hno : o ≠ .ok := by intro h; subst h; exact ok_cut_ne maxSP r h0
    have hack : (writeStep maxSP st r o).2 = false := by
      rw [writeStep_ack]; simp [hno]
    simp only [acked, hack, Bool.false_eq_true, ↓reduceIte, List.nil_append]
    exact ih _ (fun s hs' => hs s (List.mem_cons_of_mem _ hs'))

def allOk (steps : List (Record × Outcome)) : Prop := ∀ s ∈ steps, s.2 = .ok

/-- the acknowledged records of a run whose writes all succeed, with the offsets and index headers they get: every
    step, at the offset the sizes of the records before it give -/
theorem acked_allOk (maxSP : Nat) (st : BlobSt) (steps : List (Record × Outcome)) (hd : st.onDisk = false)
    (hok : allOk steps) :
    (acked maxSP st steps).map (fun x => (x.2, x.1.header.final x.2)) = scanOf st.file.size (steps.map (·.1)) ∧
    (acked maxSP st steps).map (·.1) = steps.map (·.1) := by
  induction steps generalizing st with
  | nil => exact ⟨rfl, rfl⟩
  | cons x rest ih =>
    obtain ⟨r, o⟩ := x
    obtain rfl : o = .ok := hok (r, o) (List.mem_cons_self ..)
    have hack : (writeStep maxSP st r .ok).2 = true := by rw [writeStep_ack, hd]; rfl
    obtain ⟨i1, i2⟩ := ih (writeStep maxSP st r .ok).1 (by rw [writeStep_onDisk]; exact hd)
      (fun s hs => hok s (List.mem_cons_of_mem _ hs))
    rw [writeStep_size] at i1
    simp only [acked, hack, ↓reduceIte, List.map_cons, List.singleton_append, scanOf, image_length_recLen, i1, i2,
      and_self]

/-! ### a header's worth of zeros; the scan of an intact or torn blob in terms of `recLen` -/

theorem takeN_replicate (k n : Nat) (h : k ≤ n) :
    takeN k (List.replicate n (0 : UInt8)) = some (List.replicate k 0, List.replicate (n - k) 0) := by
  unfold takeN
  rw [if_neg (by simp; omega)]
  simp [List.take_replicate, List.drop_replicate, Nat.min_eq_left h]

theorem fromLe_zeros (k : Nat) : fromLe (List.replicate k (0 : UInt8)) = 0 := by
  induction k with
  | zero => rfl
  | succ k ih => simp [List.replicate_succ, fromLe, ih]

theorem deserHeader_zeros (n : Nat) (h : 57 ≤ n) :
    ∃ hd, deserHeader (List.replicate n 0) = some hd ∧ hd.magicByte = 0 := by
  unfold deserHeader deserVec
  simp (disch := omega) only [takeN_replicate, fromLe_zeros]
  exact ⟨_, rfl, rfl⟩

/-- FINDING E8, one step of the scan: a record image cut after its header is accepted by the scan
    without data validation, whatever follows in the file -/
theorem torn_header_accepted {klen : Nat} (P Y : List UInt8) (R : Record) (hwf : R.WF klen) (off n : Nat)
    (hoff : P.length = off) (hr : (R.header.final off).InRange) (hn : 57 + klen ≤ n) :
    readCurrentRecord false (P ++ ((R.image off).take n ++ Y)) (57 + klen) off =
      .ok (R.header.final off, none, off + recLen R) := by
  rw [readCurrentRecord_of_header false _ R hwf off hr (readExactAt_image_header P Y R hwf off n hoff hn),
    recLen_of_WF hwf]
  simp only [Bool.false_eq_true, ↓reduceIte, Nat.add_assoc]

/-- FINDING E8, whole scan: the blob ends with a record image cut after its header (`n` bytes of it,
    `57 + klen ≤ n <` its length) -/
theorem rawRecordsLoad_torn_tail {klen : Nat} (v : Bool) (Rs : List Record) (R : Record) (n : Nat)
    (hg : GoodRecs klen (Rs ++ [R]))
    (hlen : 20 + (tailOf 20 Rs).length + recLen R < 2 ^ 64)
    (hn1 : 57 + klen ≤ n) (hn2 : n < recLen R) :
    rawRecordsLoad klen v
        (serBlobHeader ++ (tailOf 20 Rs ++ (R.image (20 + (tailOf 20 Rs).length)).take n)) =
      if v = true ∧ R.data ≠ [] then .error (.load .bincode)
      else .ok (writtenHeaders serBlobHeader (Rs ++ [R])) := by
  have h := rawRecordsLoad_torn v Rs R n [] hg (by rw [image_length_recLen]; exact hlen) (by omega)
    (by rw [image_length_recLen]; exact Nat.le_of_lt hn2) (fun _ => rfl) (fun _ _ => by rw [image_length_recLen]; exact hn2)
  rwa [List.append_nil, if_neg (by omega)] at h

theorem fresh_le : fresh.file.bytes.length = fresh.file.size := rfl

theorem openBlob_appendRecords {klen : Nat} (v : Bool) (Rs : List Record) (hg : GoodRecs klen Rs)
    (hlen : (appendRecords serBlobHeader Rs).length < 2 ^ 64) :
    openBlob klen v (appendRecords serBlobHeader Rs) = .ok (writtenHeaders serBlobHeader Rs) := by
  cases Rs with
  | nil => exact openBlob_header_only klen v
  | cons R Rs' =>
    have hload := rawRecordsLoad_appendRecords v klen (R :: Rs') (by simp) hlen hg
    have hne : tailOf 20 (R :: Rs') ≠ [] := by
      intro h
      have := tailOf_length_ge 20 (R :: Rs')
      rw [h] at this; simp at this
    rw [appendRecords_eq, serBlobHeader_length] at hload ⊢
    rw [openBlob_of_load klen v _ hne, hload]

/-! ### the acknowledged headers when every write succeeds, and after a first fault; the cases of a dump -/

theorem ackedHeaders_allOk (maxSP : Nat) (steps : List (Record × Outcome)) (hok : allOk steps) :
    ackedHeaders maxSP fresh steps = writtenHeaders serBlobHeader (steps.map (·.1)) := by
  rw [writtenHeaders_eq, serBlobHeader_length, show 20 = fresh.file.size from rfl,
    ← (acked_allOk maxSP fresh steps rfl hok).1, List.map_map]
  exact List.map_congr_left fun x _ => writtenHeader_eq ..

theorem index_headers (maxSP : Nat) (steps : List (Record × Outcome)) :
    (run maxSP fresh steps).index.map (·.1) = ackedHeaders maxSP fresh steps := by
  rw [run_index]
  simp [fresh, ackedHeaders, entryOf, List.map_map]

theorem acked_first_fault (maxSP : Nat) (oks later : List (Record × Outcome)) (R : Record) (o : Outcome)
    (ho : o ≠ .ok) :
    acked maxSP fresh (oks ++ (R, o) :: later) =
      acked maxSP fresh oks ++ acked maxSP (run maxSP fresh (oks ++ [(R, o)])) later := by
  rw [acked_append, run_append]
  have hack : (writeStep maxSP (run maxSP fresh oks) R o).2 = false := by
    rw [writeStep_ack]; simp [ho]
  simp only [acked, hack, Bool.false_eq_true, ↓reduceIte, List.nil_append, run]

theorem ackedHeaders_first_fault_silent (maxSP : Nat) (oks later : List (Record × Outcome)) (R : Record)
    (o : Outcome) (hok : allOk oks) (ho : o ≠ .ok) (hsil : ∀ s ∈ later, cut maxSP s.1 s.2 = 0) :
    ackedHeaders maxSP fresh (oks ++ (R, o) :: later) = writtenHeaders serBlobHeader (oks.map (·.1)) := by
  unfold ackedHeaders
  rw [acked_first_fault maxSP oks later R o ho, acked_silent maxSP _ later hsil, List.append_nil]
  exact ackedHeaders_allOk maxSP oks hok

/-- the three outcomes of `Blob::dump`: nothing to do, an error with the state as it was, or the index moved
    into the index file -/
theorem dumpStep_cases (st : BlobSt) (o : DumpOutcome) :
    dumpStep st o = (st, true) ∨ dumpStep st o = (st, false) ∨
    (st.onDisk = false ∧ dumpStep st o =
      ({ st with index := [], onDisk := true, idxFile := some (st.index, st.file.size) }, true)) := by
  obtain ⟨f, i, d, x⟩ := st
  cases d <;> cases o <;> cases i <;> simp [dumpStep]

end Pearl.Fault
