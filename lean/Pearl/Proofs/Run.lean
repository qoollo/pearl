/-
Schedules of a partial step function: what the runners "run a list of events, stop at the first one that is not enabled"
`SyncProto.run` / `grun` / `mrun`, `Lts.runSched`, `ConcRW.runSched`, `ConcBytes.brun`, `C08.arun` and `ConcCreate.runSched`
have in common.
-/
namespace Pearl

/-- `r` runs a schedule step by step with `f` and stops at the first event that is not enabled -/
structure IsRun {σ ε : Type} (f : σ → ε → Option σ) (r : σ → List ε → Option σ) : Prop where
  nil : ∀ s, r s [] = some s
  cons : ∀ s e es, r s (e :: es) = (f s e).bind fun t => r t es

namespace IsRun
variable {σ τ ε : Type} {f : σ → ε → Option σ} {r : σ → List ε → Option σ}

theorem append (hr : IsRun f r) (s : σ) (es fs : List ε) : r s (es ++ fs) = (r s es).bind fun t => r t fs := by
  induction es generalizing s with
  | nil => simp [hr.nil]
  | cons e es ih =>
    simp only [List.cons_append, hr.cons]
    cases f s e with
    | none => rfl
    | some t => exact ih t

theorem cons_some (hr : IsRun f r) {s t : σ} {e : ε} {es : List ε} (h : r s (e :: es) = some t) :
    ∃ u, f s e = some u ∧ r u es = some t :=
  Option.bind_eq_some_iff.1 (hr.cons s e es ▸ h)

theorem induct (hr : IsRun f r) {P : σ → Prop} {Q : ε → Prop} (hstep : ∀ s e t, P s → Q e → f s e = some t → P t) :
    ∀ (evs : List ε) (s t : σ), P s → (∀ e ∈ evs, Q e) → r s evs = some t → P t := by
  intro evs
  induction evs with
  | nil => intro s t hs _ h; rw [hr.nil, Option.some.injEq] at h; exact h ▸ hs
  | cons e es ih =>
    intro s t hs hq h
    obtain ⟨u, hst, h⟩ := hr.cons_some h
    exact ih u t (hstep s e u hs (hq e (by simp)) hst) (fun e he => hq e (by simp [he])) h

theorem reach (hr : IsRun f r) {P : σ → Prop} (hstep : ∀ s e t, P s → f s e = some t → P t) {evs : List ε} {s t : σ}
    (hs : P s) (h : r s evs = some t) : P t :=
  hr.induct (Q := fun _ => True) (fun s e t hs _ => hstep s e t hs) evs s t hs (fun _ _ => trivial) h

/-- progress: while a state of `P` that is not `D`one has an enabled event (in `Q`) that lowers the measure `μ`, keeps `P`
    and relates the states by the preorder `K`, some schedule of at most `μ` such events leads from `P` to `D` -/
theorem finish (hr : IsRun f r) {μ : σ → Nat} {P D : σ → Prop} {Q : ε → Prop} {K : σ → σ → Prop}
    (hrefl : ∀ s, K s s) (htrans : ∀ {a b c}, K a b → K b c → K a c)
    (hstep : ∀ s, P s → ¬ D s → ∃ e t, f s e = some t ∧ μ t < μ s ∧ P t ∧ Q e ∧ K s t) (s : σ) (hs : P s) :
    ∃ evs t, (∀ e ∈ evs, Q e) ∧ r s evs = some t ∧ D t ∧ evs.length ≤ μ s ∧ K s t := by
  generalize hn : μ s = n
  induction n using Nat.strongRecOn generalizing s with
  | _ n ih =>
    by_cases hd : D s
    · exact ⟨[], s, by simp, hr.nil s, hd, by simp, hrefl s⟩
    · obtain ⟨e, t, hst, hlt, ht, hq, hk⟩ := hstep s hs hd
      obtain ⟨evs, u, h1, h2, h3, h4, h5⟩ := ih _ (hn ▸ hlt) t ht rfl
      exact ⟨e :: evs, u, List.forall_mem_cons.2 ⟨hq, h1⟩, by rw [hr.cons, hst]; exact h2, h3,
        by simp only [List.length_cons]; omega, htrans hk h5⟩

theorem map {g : τ → ε → Option τ} {r' : τ → List ε → Option τ} (hr : IsRun f r) (hr' : IsRun g r') {π : σ → τ}
    (hstep : ∀ s e, (f s e).map π = g (π s) e) (evs : List ε) (s : σ) : (r s evs).map π = r' (π s) evs := by
  induction evs generalizing s with
  | nil => rw [hr.nil, hr'.nil]; rfl
  | cons e es ih =>
    rw [hr.cons, hr'.cons, ← hstep]
    cases f s e with
    | none => rfl
    | some u => exact ih u

end IsRun
end Pearl
