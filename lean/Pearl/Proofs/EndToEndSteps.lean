import Pearl.Proofs.EndToEndLemmas
import Pearl.Proofs.MaintLemmas
/-
End-to-end composition: every concrete operation refines its L2 operation and keeps the invariant, along runs too.
`StoreSized` is the size side-condition of every property theorem.  The step theorems are written once
(`stepM_ref_of`): for `write` / `delete` with an optional meta (the operations of `Pearl/Model/EndToEnd.lean` are
`m = none`: `stepM_toM`, the `_none` theorems, `step_ref_of`), and for `CInvG I` with the blob invariant a parameter
(`BlobLaws`, `BlobIOLaws` of `EndToEndBlobOps.lean`).  Start-up is a scheme: `restartG ρ post` opens every blob with
`ρ` (`Keeps I ρ`), brings the last one into memory with `post` and pushes the others into a fresh container
(`initCont`); `restartG_ref_of` is its refinement theorem, `restart` the instance `ρ = MC.regenerated`, `restartWith` of
`EndToEndCfg.lean` another.  The theorems about `CInv` are the instance `blobIOLaws` (there `MC.regenerated` is `reidx`).
Then refinement along runs (`run_ref_of_step`; `run_ref`, and `runM_ref` for histories with metadata, which carries the
meta range invariant `StoreMetaOK` along).
-/
namespace Pearl.E2E
open Pearl Pearl.BPTree Pearl.Container

/-! ### the size side-condition -/

/-- every blob of the L2 state has an L5 image shorter than `2^64` bytes -/
def StoreSized (klen : Nat) (s : Store) : Prop :=
  ∀ b ∈ s.blobs, (blobBytes klen (full b.recs)).length < 2 ^ 64

/-! ### the invariant under what a step does to the state -/

theorem slotsOf_mapChildren (c : Container Combined CBlob) (f : CBlob → CBlob) :
    slotsOf (mapChildren c f) = (slotsOf c).map (Option.map f) := by
  simp only [slotsOf, mapChildren, List.map_map]
  apply List.map_congr_left
  intro o _
  cases o <;> rfl

theorem slotsOf_modifyChild (c : Container Combined CBlob) (i : Nat) (f : CBlob → CBlob) :
    slotsOf (modifyChild c i f) = (slotsOf c).modify i (Option.map f) :=
  map_modify _ _ _ _ i fun o _ => by cases o <;> rfl

theorem setChildren_inv {ops : FilterOps Combined} {ok : Combined → Prop} {c : Container Combined CBlob}
    {g : List (Option Combined)} (hinv : Container.Inv ops ok c g) (chs : List (Option (FLeaf CBlob)))
    (h : chs.length = c.children.length) : Container.Inv ops ok { c with children := chs } g :=
  hinv.refine (Container.Refines.setChildren ops ok c chs h)

/-- updating blobs in place (`iter_mut`): the invariant is kept when every blob keeps its invariant and gains no
    new key -/
theorem CInvG.mapChildren {I I' : CBlob → Prop} {cfg : Cfg} {c : CState} (hinv : CInvG I cfg c) (f : CBlob → CBlob)
    (act' : Option CBlob)
    (hwf' : (({ c with active := act', cont := mapChildren c.cont f } : CState).abs cfg).WF)
    (hact : ∀ a, act' = some a → I' a ∧ a.index.onDisk = false)
    (hf : ∀ b, some b ∈ slotsOf c.cont →
      I' (f b) ∧ ∀ r ∈ (f b).ghost, ∃ r' ∈ b.ghost, r'.key = r.key) :
    CInvG I' cfg { c with active := act', cont := mapChildren c.cont f } := by
  obtain ⟨g, hci, hcov⟩ := hinv.cont
  refine ⟨hwf', hact, ?_, g, setChildren_inv hci _ (by simp), ?_⟩
  · intro b hb
    rw [slotsOf_mapChildren] at hb
    obtain ⟨o, ho, he⟩ := List.mem_map.mp hb
    obtain ⟨b0, rfl, rfl⟩ := Option.map_eq_some_iff.mp he
    exact (hf b0 ho).1
  · intro j b hj r hr
    rw [slotsOf_mapChildren, List.getElem?_map] at hj
    obtain ⟨o, ho, he⟩ := Option.map_eq_some_iff.mp hj
    obtain ⟨b0, rfl, rfl⟩ := Option.map_eq_some_iff.mp he
    obtain ⟨r', hr', hk⟩ := (hf b0 (List.mem_of_getElem? ho)).2 r hr
    rw [← hk]
    exact hcov j b0 ho r' hr'

theorem abs_mapChildren (c : Container Combined CBlob) (f : CBlob → CBlob) (F : Blob → Blob)
    (h : ∀ b, some b ∈ slotsOf c → (f b).abs = F b.abs) :
    (slotsOf (mapChildren c f)).map (Option.map CBlob.abs) =
      ((slotsOf c).map (Option.map CBlob.abs)).map (Option.map F) := by
  rw [slotsOf_mapChildren, List.map_map, List.map_map]
  apply List.map_congr_left
  intro o ho
  cases o with
  | none => rfl
  | some b => simp [h b ho]

/-- the shape every refinement step ends in: the abstraction commutes, so the L2 well-formedness carries over -/
theorem CInvG.of_step {I I' : CBlob → Prop} {cfg : Cfg} {c c' : CState} (hinv : CInvG I cfg c) {op : Op}
    (habs : c'.abs cfg = (c.abs cfg).apply op)
    (hact : ∀ a, c'.active = some a → I' a ∧ a.index.onDisk = false)
    (hclosed : ∀ b, some b ∈ slotsOf c'.cont → I' b)
    (hcont : ContInv cfg c'.cont) : c'.abs cfg = (c.abs cfg).apply op ∧ CInvG I' cfg c' :=
  ⟨habs, by rw [habs]; exact Store.apply_WF' hinv.wf op, hact, hclosed, hcont⟩

/-- an operation refused on both sides -/
theorem CInvG.of_noop {I : CBlob → Prop} {cfg : Cfg} {c : CState} (hinv : CInvG I cfg c) {op : COp}
    (h1 : c.step cfg op = c) (h2 : (c.abs cfg).apply op.abs = c.abs cfg) :
    (c.step cfg op).abs cfg = (c.abs cfg).apply op.abs ∧ CInvG I cfg (c.step cfg op) := by
  rw [h1, h2]; exact ⟨rfl, hinv⟩

/-! ### without a meta -/

theorem toM_abs (op : COp) : op.toM.abs = op.abs := by cases op <;> rfl

theorem toM_OK {cfg : Cfg} {op : COp} (h : op.OK cfg) : op.toM.OK cfg := by
  cases op with
  | write k ts d => exact ⟨h.1, h.2, nofun⟩
  | delete k ts oip => exact ⟨h.1, h.2, nofun⟩
  | _ => trivial

theorem stepM_toM (cfg : Cfg) (c : CState) (op : COp) : c.stepM cfg op.toM = c.step cfg op := by
  cases op <;> rfl

theorem getLatestEntryM_none (cfg : Cfg) (c : CState) (k : Key) :
    c.getLatestEntryM cfg k none = c.getLatestEntry cfg k := rfl

theorem readWithOpt_none (cfg : Cfg) (c : CState) (k : Key) : c.readWithOpt cfg k none = c.read cfg k := rfl

theorem containsWith_none (cfg : Cfg) (c : CState) (k : Key) : c.containsWith cfg k none = c.contains cfg k := rfl

theorem writeWithOpt_none (cfg : Cfg) (c : CState) (k : Key) (ts : Nat) (d : Data) :
    c.writeWithOpt cfg k ts none d = c.write cfg k ts d := rfl

theorem deleteWithOpt_none (cfg : Cfg) (c : CState) (k : Key) (ts : Nat) (oip : Bool) :
    c.deleteWithOpt cfg k ts none oip = c.delete cfg k ts oip := rfl

/-! ### the operations one by one, for any blob invariant -/

section Generic
variable {cfg : Cfg} {I0 I : CBlob → Prop} {c : CState}

theorem createActive_abs (cfg : Cfg) (c : CState) : (c.createActive cfg).abs cfg = (c.abs cfg).createActive := rfl

theorem CInvG.createActive (L : BlobLaws cfg I) (hinv : CInvG I cfg c) (hnone : c.active = none) :
    CInvG I cfg (c.createActive cfg) := by
  refine (hinv.of_step (c' := c.createActive cfg) (op := .createActive) ?_ ?_ hinv.closed hinv.cont).2
  · rw [createActive_abs, Store.apply_createActive_of_none (by rw [abs_active, hnone]; rfl)]
  · intro a ha
    obtain rfl := Option.some.inj ha
    exact ⟨L.openNew _, rfl⟩

theorem ensureActive_abs (cfg : Cfg) (c : CState) : (c.ensureActive cfg).abs cfg = (c.abs cfg).ensureActive := by
  unfold CState.ensureActive Store.ensureActive
  rw [abs_active]
  cases c.active <;> rfl

theorem CInvG.ensureActive (L : BlobLaws cfg I) (hinv : CInvG I cfg c) : CInvG I cfg (c.ensureActive cfg) := by
  unfold CState.ensureActive
  cases ha : c.active with
  | none => exact hinv.createActive L ha
  | some a => exact hinv

theorem ensureActive_active (cfg : Cfg) (c : CState) : ∃ a, (c.ensureActive cfg).active = some a := by
  unfold CState.ensureActive
  cases ha : c.active with
  | none => exact ⟨_, rfl⟩
  | some a => exact ⟨a, ha⟩

theorem ensureActive_cont (cfg : Cfg) (c : CState) : (c.ensureActive cfg).cont = c.cont := by
  unfold CState.ensureActive
  cases c.active <;> rfl

/-- `Storage::write_with_optional_meta` (`Storage::write` is `m = none`); the duplicate check is the read path -/
theorem writeWithOpt_ref0_of (L : BlobIOLaws cfg I0 I) (hinv : CInvG I cfg c) (k : Key) (ts : Nat) (m : Option Meta)
    (d : Data) (hk : k < 256 ^ cfg.klen) (hts : ts < 2 ^ 64) (hm : MetaArg m (c.abs cfg)) :
    (c.writeWithOpt cfg k ts m d).abs cfg = (c.abs cfg).write k ts m d ∧
      CInvG I0 cfg (c.writeWithOpt cfg k ts m d) := by
  suffices h : (c.writeWithOpt cfg k ts m d).abs cfg = (c.abs cfg).write k ts m d ∧
      (∀ a, (c.writeWithOpt cfg k ts m d).active = some a → I0 a ∧ a.index.onDisk = false) ∧
      (c.writeWithOpt cfg k ts m d).cont = c.cont by
    obtain ⟨h1, h2, h3⟩ := h
    refine hinv.of_step (op := .write k ts m d) h1 h2 ?_ ?_
    · rw [h3]; exact fun b hb => L.toI0 (hinv.closed b hb)
    · rw [h3]; exact hinv.cont
  unfold CState.writeWithOpt Store.write
  simp only []
  rw [← ensureActive_abs cfg c]
  -- the state the write starts from
  obtain ⟨c1, hc1, hinv1, hcont1, hm1, a, ha⟩ : ∃ c1, c1 = c.ensureActive cfg ∧ CInvG I cfg c1 ∧ c1.cont = c.cont ∧
      MetaArg m (c1.abs cfg) ∧ ∃ a, c1.active = some a :=
    ⟨_, rfl, hinv.ensureActive L.toBlobLaws, ensureActive_cont cfg c,
      fun x hx => ⟨(hm x hx).1, by
        rw [ensureActive_abs]; exact Store.AllRecs.of_grow (hm x hx).2 (Store.ensureActive_grow _)⟩,
      ensureActive_active cfg c⟩
  rw [← hc1]
  have hdupE : (if cfg.allowDup = true then (Except.ok false : Except CErr Bool)
        else .ok (((c1.abs cfg).getLatestEntry k m).map (·.ts)).isFound)
      = .ok (!(c1.abs cfg).allowDup && ((c1.abs cfg).getLatestEntry k m).isFound) := by
    rw [show (c1.abs cfg).allowDup = cfg.allowDup from rfl, ReadResult.isFound_map]; cases cfg.allowDup <;> rfl
  simp only [L.containsWith_eq hinv1 k m hm1]
  rw [hdupE]
  obtain ⟨hba, hmem⟩ := hinv1.active a ha
  cases hB : (!(c1.abs cfg).allowDup && ((c1.abs cfg).getLatestEntry k m).isFound) with
  | true =>
    simp only [if_true]
    exact ⟨trivial, fun a' ha' => ⟨L.toI0 (hinv1.active a' ha').1, (hinv1.active a' ha').2⟩, hcont1⟩
  | false =>
    have hs1a : (c1.abs cfg).active = some a.abs := by rw [abs_active, ha]; rfl
    simp only [ha, hs1a, Bool.false_eq_true, if_false]
    obtain ⟨hab, hwm⟩ := writeRec_abs cfg hmem ⟨k, ts, false, m.getD none, d⟩
    refine ⟨?_, ?_, hcont1⟩
    · simp only [CState.abs, Option.map_some, hab]
    · intro a' ha'
      obtain rfl := Option.some.inj ha'
      exact ⟨L.writeRec (L.toI0 hba) hmem _ hk hts, hwm⟩

/-- `Storage::delete_with_optional_meta` (`Storage::delete` is `m = none`): the state, and the number of blobs marked
    is the number the L2 operation reports -/
theorem deleteWithOpt_ref0_of (L : BlobIOLaws cfg I0 I) (hinv : CInvG I cfg c) (k : Key) (ts : Nat) (m : Option Meta)
    (oip : Bool)
    (hk : k < 256 ^ cfg.klen) (hts : ts < 2 ^ 64) :
    ((c.deleteWithOpt cfg k ts m oip).1.abs cfg = ((c.abs cfg).delete k ts m oip).1 ∧
      CInvG I0 cfg (c.deleteWithOpt cfg k ts m oip).1) ∧
    (c.deleteWithOpt cfg k ts m oip).2 = ((c.abs cfg).delete k ts m oip).2 := by
  -- the state the deletion starts from
  obtain ⟨c0, hc0, hinv0, habs0⟩ : ∃ c0, c0 = (if oip then c else c.ensureActive cfg) ∧ CInvG I cfg c0 ∧
      c0.abs cfg = (c.abs cfg).deleteBase oip := by
    refine ⟨_, rfl, ?_, ?_⟩
    · cases oip
      · exact hinv.ensureActive L.toBlobLaws
      · exact hinv
    · unfold Store.deleteBase
      cases oip
      · exact ensureActive_abs cfg c
      · rfl
  have hblob : ∀ {b : CBlob} (oip : Bool), I b →
      I0 (b.deleteM cfg k ts m oip).1 ∧ (b.deleteM cfg k ts m oip).1.abs = (Store.blobDelete b.abs k ts m oip).1 ∧
        (b.deleteM cfg k ts m oip).2 = (Store.blobDelete b.abs k ts m oip).2 :=
    fun oip hb => L.deleteM hb k ts m oip hk hts
  unfold CState.deleteWithOpt
  simp only []
  rw [← hc0]
  refine ⟨?_, ?_⟩
  · have habs : CState.abs cfg
          { c0 with
            active := c0.active.map (fun a => (a.deleteM cfg k ts m oip).1)
            cont := mapChildren c0.cont (fun b => (b.deleteM cfg k ts m true).1) }
        = (c.abs cfg).apply (.delete k ts m oip) := by
      show _ = ((c.abs cfg).delete k ts m oip).1
      rw [Store.delete_fst_eq, ← habs0]
      apply Store.ext'
      · show (c0.active.map _).map CBlob.abs = (c0.abs cfg).active.map _
        rw [abs_active]
        cases ha : c0.active with
        | none => rfl
        | some a => simp only [Option.map_some]; rw [(hblob oip (hinv0.active a ha).1).2.1]
      · rw [abs_slots, abs_slots]
        exact abs_mapChildren c0.cont _ (fun ab => (Store.blobDelete ab k ts m true).1)
          (fun b hb => (hblob true (hinv0.closed b hb)).2.1)
      · rfl
      · rfl
    refine ⟨habs, (hinv0.mapChildren _ _ (by rw [habs]; exact Store.apply_WF' hinv.wf _) ?_ ?_)⟩
    · intro a' ha'
      cases ha : c0.active with
      | none => rw [ha] at ha'; cases ha'
      | some a =>
        rw [ha] at ha'
        obtain rfl := Option.some.inj ha'
        obtain ⟨h0, habs', _⟩ := hblob oip (hinv0.active a ha).1
        refine ⟨h0, ?_⟩
        have := congrArg Blob.onDisk habs'
        simp only [CBlob.abs] at this
        rw [this, Store.blobDelete_fst]
        split
        · rfl
        · exact (hinv0.active a ha).2
    · intro b hb
      obtain ⟨h0, habs', _⟩ := hblob true (hinv0.closed b hb)
      refine ⟨h0, ?_⟩
      intro r hr
      have hr' : r ∈ (b.deleteM cfg k ts m true).1.abs.recs := hr
      rw [habs'] at hr'
      exact Store.blobDelete_keys b.abs k ts m r hr'
  · rw [Store.delete_snd_eq, ← habs0, abs_closed, abs_active]
    congr 1
    · cases ha : c0.active with
      | none => rfl
      | some a =>
        simp only [Option.map_some]
        rw [(hblob oip (hinv0.active a ha).1).2.2]
    · rw [List.filter_map, List.length_map]
      congr 1
      apply List.filter_congr
      intro b hb
      exact (hblob true (hinv0.closed b (mem_closedBlobs.mp hb))).2.2

theorem push_facts (L : BlobLaws cfg I) (hinv : CInvG I cfg c) (a : CBlob) (ha : I a) :
    slotsOf (c.cont.push (fops cfg) (childOps cfg) a).1 = slotsOf c.cont ++ [some a] ∧
    (∀ b, some b ∈ slotsOf (c.cont.push (fops cfg) (childOps cfg) a).1 → I b) ∧
    ContInv cfg (c.cont.push (fops cfg) (childOps cfg) a).1 := by
  obtain ⟨g, hci, hcov⟩ := hinv.cont
  have hslots := push_slots (fops cfg) (childOps cfg) c.cont a (pushPanics_false c.cont g hci)
  have hinv' := Container.push_inv (combinedLaws cfg.h) (childOps cfg) c.cont g a hci
    (fun f hf => by cases hf; exact (L.core ha).wf)
  refine ⟨hslots, ?_, _, hinv', ?_⟩
  · intro b hb
    rw [hslots] at hb
    rcases List.mem_append.mp hb with h | h
    · exact hinv.closed b h
    · simp only [List.mem_singleton, Option.some.injEq] at h
      subst h; exact ha
  · intro j b hj r hr
    rw [hslots] at hj
    have hlen : g.length = (slotsOf c.cont).length := by rw [slotsOf_length]; exact hci.glen
    by_cases hlt : j < (slotsOf c.cont).length
    · rw [List.getElem?_append_left hlt] at hj
      rw [Container.getD_append_left g _ j (by omega)]
      exact hcov j b hj r hr
    · rw [List.getElem?_append_right (by omega), List.getElem?_singleton] at hj
      split at hj
      · cases hj
        obtain rfl : j = g.length := by omega
        rw [Container.getD_append_self]
        exact (L.core ha).covers r hr
      · cases hj

theorem closeActive_ref_of (L : BlobLaws cfg I) (hinv : CInvG I cfg c) :
    (c.step cfg .closeActive).abs cfg = (c.abs cfg).apply .closeActive ∧ CInvG I cfg (c.step cfg .closeActive) := by
  cases ha : c.active with
  | none =>
    exact hinv.of_noop (op := .closeActive) (by simp [CState.step, CState.closeActive, ha])
      (by simp [COp.abs, Store.apply, Store.closeActive, abs_active, ha])
  | some a =>
    have h1 : c.step cfg .closeActive =
        { c with active := none, cont := (c.cont.push (fops cfg) (childOps cfg) a).1 } := by
      simp [CState.step, CState.closeActive, ha]
    have h2 : (c.abs cfg).apply .closeActive =
        { c.abs cfg with active := none, slots := (c.abs cfg).slots ++ [some a.abs] } := by
      simp [Store.apply, Store.closeActive, abs_active, ha]
    obtain ⟨hs, hcl, hct⟩ := push_facts L hinv a (hinv.active a ha).1
    rw [h1]
    refine hinv.of_step ?_ (fun a' h => by cases h) hcl hct
    rw [h2]
    apply Store.ext'
    · rfl
    · rw [abs_slots, hs, abs_slots]; simp
    · rfl
    · rfl

theorem createActive_ref_of (L : BlobLaws cfg I) (hinv : CInvG I cfg c) :
    (c.step cfg .createActive).abs cfg = (c.abs cfg).apply .createActive ∧
      CInvG I cfg (c.step cfg .createActive) := by
  cases ha : c.active with
  | some a =>
    exact hinv.of_noop (op := .createActive) (by simp [CState.step, CState.tryCreateActive, ha])
      (by simp [COp.abs, Store.apply, Store.tryCreateActive, abs_active, ha])
  | none =>
    have h1 : c.step cfg .createActive = c.createActive cfg := by
      simp [CState.step, CState.tryCreateActive, ha]
    rw [h1, Store.apply_createActive_of_none (by rw [abs_active, ha]; rfl)]
    exact ⟨rfl, hinv.createActive L ha⟩

/-- `replace_active_blob` is `close_active_blob` (if there is an active blob) followed by `create_active_blob` -/
theorem replaceActive_ref_of (L : BlobLaws cfg I) (hinv : CInvG I cfg c) :
    (c.step cfg .replaceActive).abs cfg = (c.abs cfg).apply .replaceActive ∧
      CInvG I cfg (c.step cfg .replaceActive) := by
  have h1 : c.step cfg .replaceActive = (c.step cfg .closeActive).createActive cfg := by
    simp only [CState.step, CState.replaceActive, CState.closeActive]
    cases c.active <;> rfl
  have h2 : (c.abs cfg).apply .replaceActive = ((c.abs cfg).apply .closeActive).createActive := by
    simp only [Store.apply, Store.replaceActive, Store.closeActive]
    cases (c.abs cfg).active <;> rfl
  have hnone : (c.step cfg .closeActive).active = none := by
    cases ha : c.active <;> simp [CState.step, CState.closeActive, ha]
  obtain ⟨habs, hinv'⟩ := closeActive_ref_of L hinv
  rw [h1, h2, ← habs]
  exact ⟨rfl, hinv'.createActive L hnone⟩

theorem settle_ref_of (L : BlobLaws cfg I) (hinv : CInvG I cfg c) :
    (c.step cfg .settle).abs cfg = (c.abs cfg).apply .settle ∧ CInvG I cfg (c.step cfg .settle) := by
  -- `active := c.active` is spelt out for the shape of the state in `CInvG.mapChildren`
  have h1 : c.step cfg .settle = { c with active := c.active, cont := mapChildren c.cont (CBlob.dump cfg) } := rfl
  have habs : (c.step cfg .settle).abs cfg = (c.abs cfg).apply .settle := by
    rw [h1]
    apply Store.ext'
    · rfl
    · rw [abs_slots]
      show List.map (Option.map CBlob.abs) (slotsOf (mapChildren c.cont (CBlob.dump cfg))) = _
      rw [abs_mapChildren c.cont (CBlob.dump cfg)
        (fun ab => if ab.recs.isEmpty then ab else { ab with onDisk := true })
        (fun b hb => L.dump_abs (hinv.closed b hb)), ← abs_slots]
      rfl
    · rfl
    · rfl
  refine ⟨habs, ?_⟩
  rw [h1]
  apply hinv.mapChildren
  · rw [← h1, habs]; exact Store.apply_WF' hinv.wf .settle
  · exact hinv.active
  · intro b hb
    refine ⟨L.dump (hinv.closed b hb), ?_⟩
    intro r hr
    rw [(dump_phys cfg b).2.1] at hr
    exact ⟨r, hr, rfl⟩

/-- `get_child_mut(last_id)` + update, then `pop`: the last occupied slot is emptied and its updated blob returned -/
theorem pop_modifyChild (cont : Container Combined CBlob) (f : CBlob → CBlob) {i : Nat} {b : CBlob}
    (hls : lastSomeIdx (slotsOf cont) = some i) (hb : (slotsOf cont)[i]? = some (some b)) :
    ∃ cont', (modifyChild cont i f).pop = (cont', some (f b)) ∧ slotsOf cont' = (slotsOf cont).set i none ∧
      ∀ {ops ok g}, Container.Inv ops ok cont g → Container.Inv ops ok cont' g := by
  have hs1 : slotsOf (modifyChild cont i f) = (slotsOf cont).modify i (Option.map f) := slotsOf_modifyChild _ _ _
  have hlid1 : (modifyChild cont i f).lastId = some i := by
    rw [lastId_eq, hs1, lastSomeIdx_congr _ (slotsOf cont) (modify_map_isSome _ _ _), hls]
  have hsl1 : (slotsOf (modifyChild cont i f))[i]? = some (some (f b)) := by
    rw [hs1, List.getElem?_modify, hb]; simp
  obtain ⟨lf, hlf, hdata⟩ := slots_some_getChild hsl1
  refine ⟨{ modifyChild cont i f with children := (modifyChild cont i f).children.set i none }, ?_, ?_, ?_⟩
  · unfold Container.pop
    rw [hlid1]
    simp only []
    rw [remove_of_getChild _ i lf hlf, hdata]
  · rw [slotsOf_set_none, hs1, set_modify]
  · intro ops ok g hci
    exact setChildren_inv hci _ (by simp [modifyChild])

theorem restoreActive_ref_of (L : BlobIOLaws cfg I0 I) (hinv : CInvG I cfg c) :
    (c.step cfg .restoreActive).abs cfg = (c.abs cfg).apply .restoreActive ∧
      CInvG I cfg (c.step cfg .restoreActive) := by
  cases ha : c.active with
  | some a =>
    exact hinv.of_noop (op := .restoreActive) (by simp [CState.step, CState.restoreActive, ha])
      (by simp [COp.abs, Store.apply, Store.restoreActive, abs_active, ha])
  | none =>
    have hlp := lastPresent_map CBlob.abs (slotsOf c.cont)
    rw [← abs_slots cfg c] at hlp
    have hlid := lastId_eq c.cont
    cases hls : lastSomeIdx (slotsOf c.cont) with
    | none =>
      rw [hls] at hlp hlid
      refine hinv.of_noop (op := .restoreActive) (by simp [CState.step, CState.restoreActive, ha, hlid]) ?_
      simp only [COp.abs, Store.apply, Store.restoreActive, abs_active, ha, Option.map_none, hlp]
      rfl
    | some i =>
      rw [hls] at hlp hlid
      obtain ⟨b, hb⟩ := lastSomeIdx_some hls
      simp only [Option.bind_some, hb, Option.join_some, Option.map_some] at hlp
      obtain ⟨cont', hpop, hslots, hci'⟩ := pop_modifyChild c.cont (CBlob.loadIndex cfg) hls hb
      have h1 : c.step cfg .restoreActive = { c with active := some (b.loadIndex cfg), cont := cont' } := by
        simp only [CState.step, CState.restoreActive, ha, hlid, hpop]
      have h2 : (c.abs cfg).apply .restoreActive =
          { c.abs cfg with active := some { b.abs with onDisk := false }, slots := (c.abs cfg).slots.set i none } := by
        simp only [Store.apply, Store.restoreActive, abs_active, ha, Option.map_none, hlp]
      obtain ⟨hl, hlm⟩ := L.loadIndex (hinv.closed b (List.mem_of_getElem? hb))
      obtain ⟨hlid', hlg, _⟩ := loadIndex_phys cfg b
      obtain ⟨g, hci, hcov⟩ := hinv.cont
      have hsub : ∀ (j : Nat) (b' : CBlob), (slotsOf cont')[j]? = some (some b') → (slotsOf c.cont)[j]? = some (some b') := by
        intro j b' hj
        rw [hslots, List.getElem?_set] at hj
        split at hj
        · split at hj <;> cases hj
        · exact hj
      rw [h1]
      refine hinv.of_step ?_ ?_ ?_ ⟨g, hci' hci, fun j b' hj => hcov j b' (hsub j b' hj)⟩
      · rw [h2]
        apply Store.ext'
        · show some (b.loadIndex cfg).abs = some _
          simp only [CBlob.abs, hlid', hlg, hlm]
        · rw [abs_slots]
          show List.map (Option.map CBlob.abs) (slotsOf cont') = _
          rw [hslots, abs_slots, List.map_set]
          rfl
        · rfl
        · rfl
      · intro a' h
        obtain rfl := Option.some.inj h
        exact ⟨hl, hlm⟩
      · intro b' hb'
        obtain ⟨j, hj⟩ := List.mem_iff_getElem?.mp hb'
        exact hinv.closed b' (List.mem_of_getElem? (hsub j b' hj))

/-! ### start-up as a scheme: every blob reopened by `ρ`, the last brought into memory by `post`, the others dumped and
pushed into a fresh container -/

theorem ContInv.empty (hcfg : cfg.OK) : ContInv cfg (CState.emptyCont cfg) :=
  ⟨[], Container.new_inv _ _ cfg.group 1 hcfg.group, fun j b hj => by simp [CState.emptyCont, slotsOf_new] at hj⟩

theorem init_abs (cfg : Cfg) : (CState.init cfg).abs cfg = Store.init cfg.allowDup := rfl

theorem init_inv_of (L : BlobLaws cfg I) (hcfg : cfg.OK) : CInvG I cfg (CState.init cfg) := by
  refine ⟨by rw [init_abs]; exact Store.init_WF' _, ?_, ?_, ContInv.empty hcfg⟩
  · intro a ha
    obtain rfl := Option.some.inj ha
    exact ⟨L.openNew _, rfl⟩
  · intro b hb
    simp [CState.init, CState.createActive, CState.emptyCont, slotsOf_new] at hb

/-- `HierarchicalFilters::from_vec`: the blobs pushed into an empty container -/
def initCont (cfg : Cfg) (xs : List CBlob) : Container Combined CBlob :=
  Container.extend (fops cfg) (childOps cfg) (CState.emptyCont cfg) xs

theorem extend_facts_of (L : BlobLaws cfg I) (hcfg : cfg.OK) (xs : List CBlob) (hxs : ∀ x ∈ xs, I x) :
    slotsOf (initCont cfg xs) = xs.map some ∧ ContInv cfg (initCont cfg xs) := by
  have hnew : Container.Inv (fops cfg) Combined.WF (CState.emptyCont cfg) [] :=
    Container.new_inv _ _ cfg.group 1 hcfg.group
  have hok : ∀ x ∈ xs, okOpt Combined.WF ((childOps cfg).filterOf x) := by
    intro x hx f hf
    cases hf
    exact (L.core (hxs x hx)).wf
  have hsl : slotsOf (initCont cfg xs) = xs.map some := by
    rw [initCont, extend_slots (combinedLaws cfg.h) (childOps cfg) xs _ _ hnew hok]; rfl
  refine ⟨hsl, _, C10.node_filter_sup_extend (combinedLaws cfg.h) (childOps cfg) xs _ _ hnew hok, ?_⟩
  intro j b hj r hr
  rw [hsl, List.getElem?_map] at hj
  cases hx : xs[j]? with
  | none => rw [hx] at hj; cases hj
  | some x =>
    rw [hx] at hj
    simp only [Option.map_some, Option.some.injEq] at hj
    have hgd : ([] ++ xs.map (childOps cfg).filterOf).getD j none = some x.filter := by
      simp [List.getD_eq_getElem?_getD, hx, childOps]
    rw [hgd, hj]
    exact (L.core (hxs b (hj ▸ List.mem_of_getElem? hx))).covers r hr

/-- the common shape of the start-up functions (`Storage::init_from_existing(files, with_active)`): every blob file
    is opened (`ρ`: `Blob::from_file`, which regenerates or keeps the index); with `lazy = false` the one with the
    highest id becomes the active blob after `post` (the `load_index()` applied to it: the active blob must accept
    pushes); the others are dumped and pushed into a fresh container in id order (`HierarchicalFilters::from_vec`);
    `next_blob_id` is the highest id + 1 -/
def restartG (ρ post : CBlob → CBlob) (cfg : Cfg) (c : CState) (lazy : Bool) : CState :=
  let bs := (sortById c.blobs).map ρ
  let maxNext := bs.foldl (fun m b => max m (b.id + 1)) 0
  if lazy then
    { active := none, cont := initCont cfg (bs.map (CBlob.dump cfg)), nextId := maxNext }
  else
    match bs.getLast? with
    | none => ({ active := none, cont := CState.emptyCont cfg, nextId := 0 } : CState).createActive cfg
    | some a => { active := some (post a), cont := initCont cfg (bs.dropLast.map (CBlob.dump cfg)), nextId := maxNext }

/-- what the scheme needs from the per-blob opening function `ρ`: the invariant, the id and the records are kept
    (the index may come back in memory or on disk; `post` must bring it into memory) -/
def Keeps (I : CBlob → Prop) (ρ : CBlob → CBlob) : Prop :=
  ∀ b, I b → I (ρ b) ∧ (ρ b).id = b.id ∧ (ρ b).ghost = b.ghost

theorem dump_keeps_abs (L : BlobLaws cfg I) {ρ : CBlob → CBlob} (hρ : Keeps I ρ) {b : CBlob} (hb : I b) :
    ((ρ b).dump cfg).abs = if b.abs.recs.isEmpty then b.abs else { b.abs with onDisk := true } := by
  obtain ⟨hi, hid, hg⟩ := hρ b hb
  rw [L.dump_abs hi, show (ρ b).abs.recs = b.abs.recs from hg]
  by_cases he : b.abs.recs.isEmpty = true
  · have he' : b.ghost = [] := List.isEmpty_iff.mp he
    rw [if_pos he, if_pos he]
    simp only [CBlob.abs, hid, hg, (L.core hb).onDisk_of_empty he', (L.core hi).onDisk_of_empty (hg.trans he')]
  · rw [if_neg he, if_neg he]
    simp only [CBlob.abs, hid, hg]

/-- the container start-up builds from a list of blobs (each through `ρ`, then dumped): its L2 slots, its blobs, its
    filters -/
theorem initCont_dumped (L : BlobLaws cfg I) (hcfg : cfg.OK) {ρ : CBlob → CBlob} (hρ : Keeps I ρ)
    (l : List CBlob) (hl : ∀ b ∈ l, I b) :
    (slotsOf (initCont cfg ((l.map ρ).map (CBlob.dump cfg)))).map (Option.map CBlob.abs)
      = (l.map CBlob.abs).map (fun b => some (if b.recs.isEmpty then b else { b with onDisk := true })) ∧
    (∀ b, some b ∈ slotsOf (initCont cfg ((l.map ρ).map (CBlob.dump cfg))) → I b) ∧
    ContInv cfg (initCont cfg ((l.map ρ).map (CBlob.dump cfg))) := by
  have hdump : ∀ x ∈ (l.map ρ).map (CBlob.dump cfg), I x := by
    intro x hx
    simp only [List.map_map, List.mem_map, Function.comp_apply] at hx
    obtain ⟨b, hb, rfl⟩ := hx
    exact L.dump (hρ b (hl b hb)).1
  obtain ⟨hs, hg⟩ := extend_facts_of L hcfg _ hdump
  rw [hs]
  refine ⟨?_, ?_, hg⟩
  · simp only [List.map_map]
    apply List.map_congr_left
    intro b hb
    simp only [Function.comp_apply, Option.map_some]
    rw [dump_keeps_abs L hρ (hl b hb)]
  · intro b hb
    obtain ⟨x, hx, hxe⟩ := List.mem_map.mp hb
    cases hxe
    exact hdump _ hx

theorem restartG_ref_of (L : BlobLaws cfg I) (hcfg : cfg.OK) (hinv : CInvG I cfg c) (ρ post : CBlob → CBlob)
    (hρ : Keeps I ρ)
    (hpost : ∀ b, I b → I (post (ρ b)) ∧ (post (ρ b)).id = b.id ∧
      (post (ρ b)).ghost = b.ghost ∧ (post (ρ b)).index.onDisk = false)
    (lazy : Bool) :
    (restartG ρ post cfg c lazy).abs cfg = (c.abs cfg).apply (.restart lazy) ∧
      CInvG I cfg (restartG ρ post cfg c lazy) := by
  have hL : ∀ b ∈ sortById c.blobs, I b := fun b hb => hinv.blobInv (mem_sortById.mp hb)
  have hLabs : (sortById c.blobs).map CBlob.abs = Store.sortById (c.abs cfg).blobs := by
    rw [sortById_map, abs_blobs]
  have hmax : ((sortById c.blobs).map ρ).foldl (fun m b => max m (b.id + 1)) 0
      = ((sortById c.blobs).map CBlob.abs).foldl (fun m b => max m (b.id + 1)) 0 :=
    foldl_maxSucc_congr CBlob.id Blob.id _ _ 0 (by
      rw [List.map_map, List.map_map]
      exact List.map_congr_left fun b hb => (hρ b (hL b hb)).2.1)
  suffices h : (restartG ρ post cfg c lazy).abs cfg = (c.abs cfg).restart lazy ∧
      (∀ a, (restartG ρ post cfg c lazy).active = some a → I a ∧ a.index.onDisk = false) ∧
      (∀ b, some b ∈ slotsOf (restartG ρ post cfg c lazy).cont → I b) ∧
      ContInv cfg (restartG ρ post cfg c lazy).cont from
    hinv.of_step h.1 h.2.1 h.2.2.1 h.2.2.2
  unfold restartG Store.restart
  rw [← hLabs]
  simp only []
  cases lazy with
  | true =>
    simp only [if_true]
    obtain ⟨hs, hcl, hg⟩ := initCont_dumped L hcfg hρ _ hL
    exact ⟨Store.ext' rfl (by rw [abs_slots]; exact hs) hmax rfl, fun a h => (by cases h), hcl, hg⟩
  | false =>
    simp only [Bool.false_eq_true, if_false]
    rw [List.getLast?_map, List.getLast?_map]
    cases hlast : (sortById c.blobs).getLast? with
    | none =>
      -- no blob at all: `init` on an empty directory
      simp only [Option.map_none]
      have h0 := init_inv_of L hcfg
      exact ⟨rfl, h0.active, h0.closed, h0.cont⟩
    | some a =>
      simp only [Option.map_some]
      rw [← List.map_dropLast (f := ρ), ← List.map_dropLast (f := CBlob.abs)]
      obtain ⟨hs, hcl, hg⟩ := initCont_dumped L hcfg hρ _ fun b hb => hL b (List.dropLast_subset _ hb)
      obtain ⟨hpa, hpid, hpg, hpd⟩ := hpost a (hL a (List.mem_of_getLast? hlast))
      refine ⟨?_, ?_, hcl, hg⟩
      · apply Store.ext'
        · show some (post (ρ a)).abs = some { a.abs with onDisk := false }
          simp only [CBlob.abs, hpid, hpg, hpd]
        · rw [abs_slots]; exact hs
        · exact hmax
        · rfl
      · intro a' h
        obtain rfl := Option.some.inj h
        exact ⟨hpa, hpd⟩

theorem regenAll_eq_of {ρ : CBlob → CBlob} : ∀ (l : List CBlob), (∀ b ∈ l, regen cfg b = some (ρ b)) →
    regenAll cfg l = some (l.map ρ)
  | [], _ => rfl
  | b :: l, h => by
    simp only [regenAll, h b (by simp), regenAll_eq_of l (fun x hx => h x (by simp [hx])), List.map_cons]

theorem restart_ref_of (L : BlobIOLaws cfg I0 I) (hinv : CInvG I cfg c) (lazy : Bool) :
    (c.step cfg (.restart lazy)).abs cfg = (c.abs cfg).apply (.restart lazy) ∧
      CInvG I cfg (c.step cfg (.restart lazy)) := by
  have heq : c.step cfg (.restart lazy) = restartG (MC.regenerated cfg) id cfg c lazy := by
    show c.restart cfg lazy = _
    unfold CState.restart restartG
    rw [regenAll_eq_of _ fun b hb => (L.regen (hinv.blobInv (mem_sortById.mp hb))).1]
    rfl
  rw [heq]
  exact restartG_ref_of L.toBlobLaws L.ok hinv _ _ (fun b hb => ⟨(L.regen hb).2, rfl, rfl⟩)
    (fun b hb => ⟨(L.regen hb).2, rfl, rfl, rfl⟩) lazy

/-! ### the step theorems: without the size bounds (`_ref0_of`), and with them given `StoreSized` of the L2 result -/

/-- **refinement** (1): every concrete operation, with or without metadata, implements its L2 operation and keeps the
    invariant up to the size conditions on the blob files; only a write with a meta reads stored metas -/
theorem stepM_ref0_of (L : BlobIOLaws cfg I0 I) (hinv : CInvG I cfg c) (op : MOp) (hop : op.OK cfg)
    (hmeta : ∀ k ts x d, op = .write k ts (some x) d → StoreMetaOK (c.abs cfg)) :
    (c.stepM cfg op).abs cfg = (c.abs cfg).apply op.abs ∧ CInvG I0 cfg (c.stepM cfg op) := by
  have weaken : ∀ {c' : CState} {s : Store}, c'.abs cfg = s ∧ CInvG I cfg c' → c'.abs cfg = s ∧ CInvG I0 cfg c' :=
    fun h => ⟨h.1, h.2.mono fun _ => L.toI0⟩
  cases op with
  | write k ts m d =>
    exact writeWithOpt_ref0_of L hinv k ts m d hop.1 hop.2.1 fun x hx => ⟨hop.2.2 x hx, hmeta k ts x d (by rw [hx])⟩
  | delete k ts m oip => exact (deleteWithOpt_ref0_of L hinv k ts m oip hop.1 hop.2.1).1
  | closeActive => exact weaken (closeActive_ref_of L.toBlobLaws hinv)
  | createActive => exact weaken (createActive_ref_of L.toBlobLaws hinv)
  | restoreActive => exact weaken (restoreActive_ref_of L hinv)
  | replaceActive => exact weaken (replaceActive_ref_of L.toBlobLaws hinv)
  | settle => exact weaken (settle_ref_of L.toBlobLaws hinv)
  | restart lazy => exact weaken (restart_ref_of L hinv lazy)

/-- **refinement** (2): … and all of it when no blob file outgrows its `u64` offsets -/
theorem stepM_ref_of (L : BlobIOLaws cfg I0 I) (hinv : CInvG I cfg c) (op : MOp) (hop : op.OK cfg)
    (hmeta : ∀ k ts x d, op = .write k ts (some x) d → StoreMetaOK (c.abs cfg))
    (hsz : StoreSized cfg.klen ((c.abs cfg).apply op.abs)) :
    (c.stepM cfg op).abs cfg = (c.abs cfg).apply op.abs ∧ CInvG I cfg (c.stepM cfg op) := by
  obtain ⟨h1, h2⟩ := stepM_ref0_of L hinv op hop hmeta
  exact ⟨h1, h2.of_blobs fun b hb =>
    L.ofSize (h2.blobInv hb) (hsz b.abs (h1 ▸ mem_abs_blobs cfg hb))⟩

theorem step_ref_of (L : BlobIOLaws cfg I0 I) (hinv : CInvG I cfg c) (op : COp) (hop : op.OK cfg)
    (hsz : StoreSized cfg.klen ((c.abs cfg).apply op.abs)) :
    (c.step cfg op).abs cfg = (c.abs cfg).apply op.abs ∧ CInvG I cfg (c.step cfg op) := by
  rw [← toM_abs] at hsz ⊢
  rw [← stepM_toM]
  exact stepM_ref_of L hinv op.toM (toM_OK hop) (by cases op <;> nofun) hsz

end Generic

/-! ### the instance `blobIOLaws`: one configuration, `CInv` -/

theorem init_inv {cfg : Cfg} (hcfg : cfg.OK) : CInv cfg (CState.init cfg) := init_inv_of (blobLaws cfg) hcfg

theorem restart_ref {cfg : Cfg} {c : CState} (hcfg : cfg.OK) (hinv : CInv cfg c) (lazy : Bool) :
    (c.step cfg (.restart lazy)).abs cfg = (c.abs cfg).apply (.restart lazy) ∧
      CInv cfg (c.step cfg (.restart lazy)) :=
  restart_ref_of (blobIOLaws hcfg) hinv lazy

theorem step_ref {cfg : Cfg} {c : CState} (hcfg : cfg.OK) (hinv : CInv cfg c) (op : COp) (hop : op.OK cfg)
    (hsz : StoreSized cfg.klen ((c.abs cfg).apply op.abs)) :
    (c.step cfg op).abs cfg = (c.abs cfg).apply op.abs ∧ CInv cfg (c.step cfg op) :=
  step_ref_of (blobIOLaws hcfg) hinv op hop hsz

theorem delete_count {cfg : Cfg} {c : CState} (hcfg : cfg.OK) (hinv : CInv cfg c) (k : Key) (ts : Nat) (oip : Bool)
    (hk : k < 256 ^ cfg.klen) (hts : ts < 2 ^ 64) :
    (c.delete cfg k ts oip).2 = ((c.abs cfg).delete k ts none oip).2 :=
  (deleteWithOpt_ref0_of (blobIOLaws hcfg) hinv k ts none oip hk hts).2

theorem writeWithOpt_ref0 {cfg : Cfg} {c : CState} (hcfg : cfg.OK) (hinv : CInv cfg c)
    (hmeta : StoreMetaOK (c.abs cfg)) (k : Key) (ts : Nat) (m : Option Meta) (d : Data)
    (hk : k < 256 ^ cfg.klen) (hts : ts < 2 ^ 64) (hm : ∀ x, m = some x → MetaOK x) :
    (c.writeWithOpt cfg k ts m d).abs cfg = (c.abs cfg).write k ts m d ∧ CInv0 cfg (c.writeWithOpt cfg k ts m d) :=
  writeWithOpt_ref0_of (blobIOLaws hcfg) hinv k ts m d hk hts fun x hx => ⟨hm x hx, hmeta⟩

theorem deleteWithOpt_ref0 {cfg : Cfg} {c : CState} (hcfg : cfg.OK) (hinv : CInv cfg c) (k : Key) (ts : Nat)
    (m : Option Meta) (oip : Bool) (hk : k < 256 ^ cfg.klen) (hts : ts < 2 ^ 64) :
    (c.deleteWithOpt cfg k ts m oip).1.abs cfg = ((c.abs cfg).delete k ts m oip).1 ∧
      CInv0 cfg (c.deleteWithOpt cfg k ts m oip).1 :=
  (deleteWithOpt_ref0_of (blobIOLaws hcfg) hinv k ts m oip hk hts).1

theorem deleteWithOpt_count {cfg : Cfg} {c : CState} (hcfg : cfg.OK) (hinv : CInv cfg c) (k : Key) (ts : Nat)
    (m : Option Meta) (oip : Bool) (hk : k < 256 ^ cfg.klen) (hts : ts < 2 ^ 64) :
    (c.deleteWithOpt cfg k ts m oip).2 = ((c.abs cfg).delete k ts m oip).2 :=
  (deleteWithOpt_ref0_of (blobIOLaws hcfg) hinv k ts m oip hk hts).2

theorem stepM_ref {cfg : Cfg} {c : CState} (hcfg : cfg.OK) (hinv : CInv cfg c) (hmeta : StoreMetaOK (c.abs cfg))
    (op : MOp) (hop : op.OK cfg) (hsz : StoreSized cfg.klen ((c.abs cfg).apply op.abs)) :
    (c.stepM cfg op).abs cfg = (c.abs cfg).apply op.abs ∧ CInv cfg (c.stepM cfg op) :=
  stepM_ref_of (blobIOLaws hcfg) hinv op hop (fun _ _ _ _ _ => hmeta) hsz

theorem regenAll_eq {cfg : Cfg} (l : List CBlob) (h : ∀ b ∈ l, BlobInv cfg b) :
    regenAll cfg l = some (l.map (reidx cfg)) :=
  regenAll_eq_of l fun b hb => regen_eq (h b hb)

/-! ### along runs -/

theorem crun_nil (cfg : Cfg) (c : CState) : c.run cfg [] = c := rfl

theorem runM_toM (cfg : Cfg) : ∀ (ops : List COp) (c : CState), c.runM cfg (ops.map COp.toM) = c.run cfg ops
  | [], _ => rfl
  | op :: ops, c => by
    show (c.stepM cfg op.toM).runM cfg (ops.map COp.toM) = (c.step cfg op).run cfg ops
    rw [stepM_toM, runM_toM cfg ops]

theorem blobBytes_length_mono (klen : Nat) {recs recs' : List Rec} (h : recs <+: recs') :
    (blobBytes klen (full recs)).length ≤ (blobBytes klen (full recs')).length :=
  blobBytes_sublist_length_le klen (h.sublist.map _)

/-- blobs never shrink: a blob of a state passed through is continued by a blob of the final state -/
theorem run_take_blobs_mono {s : Store} (hwf : s.WF) (ops : List Op) (n : Nat) :
    ∀ b ∈ (s.run (ops.take n)).blobs, ∃ b' ∈ (s.run ops).blobs, b.recs <+: b'.recs := by
  intro b hb
  obtain ⟨b', hb', _, hp⟩ := Store.run_log (Store.run_WF_from hwf _) (ops.drop n) b hb
  rw [← Store.run_append, List.take_append_drop] at hb'
  exact ⟨b', hb', hp⟩

/-- … so the size condition on the final L2 state implies it on every state passed through -/
theorem storeSized_prefix (klen : Nat) {s : Store} (hwf : s.WF) (ops : List Op)
    (h : StoreSized klen (s.run ops)) (n : Nat) : StoreSized klen (s.run (ops.take n)) := by
  intro b hb
  obtain ⟨b', hb', hp⟩ := run_take_blobs_mono hwf ops n b hb
  exact Nat.lt_of_le_of_lt (blobBytes_length_mono klen hp) (h b' hb')

/-- refinement along a run from refinement of a step, for any transition system `step` with an abstraction `abs`
    to the L2 store whose steps refine the L2 operations under the size condition: from a well-formed L2 state the size
    condition is needed on the final L2 state only -/
theorem run_ref_of_step {σ ι : Type} (step : σ → ι → σ) (abs : σ → Store) (aop : ι → Op) (Inv : σ → Prop)
    (ok : ι → Prop) (klen : Nat)
    (hstep : ∀ x o, Inv x → ok o → StoreSized klen ((abs x).apply (aop o)) →
      abs (step x o) = (abs x).apply (aop o) ∧ Inv (step x o))
    (ops : List ι) (x : σ) (hinv : Inv x) (hwf : (abs x).WF) (hops : ∀ o ∈ ops, ok o)
    (hsz : StoreSized klen ((abs x).run (ops.map aop))) :
    abs (ops.foldl step x) = (abs x).run (ops.map aop) ∧ Inv (ops.foldl step x) := by
  have h := foldl_rel (astep := fun s o => s.apply (aop o)) (R := fun x s => abs x = s ∧ Inv x)
    (C := fun _ s => StoreSized klen s)
    (fun x _ o hR ho _ hC => by
      obtain ⟨rfl, hi⟩ := hR
      exact hstep x o hi ho hC)
    ops x (abs x) ⟨rfl, hinv⟩ hops (fun n _ => by
      rw [← List.foldl_map, List.map_take]
      exact storeSized_prefix klen hwf _ hsz n)
  rwa [← List.foldl_map (f := aop) (g := Store.apply)] at h

/-- **refinement along every history from the empty storage**, with the size condition stated on the final L2
    state only -/
theorem run_ref {cfg : Cfg} (hcfg : cfg.OK) (ops : List COp) (hops : ∀ op ∈ ops, op.OK cfg)
    (hsz : StoreSized cfg.klen ((Store.init cfg.allowDup).run (ops.map COp.abs))) :
    ((CState.init cfg).run cfg ops).abs cfg = (Store.init cfg.allowDup).run (ops.map COp.abs) ∧
      CInv cfg ((CState.init cfg).run cfg ops) :=
  run_ref_of_step (CState.step cfg) (CState.abs cfg) COp.abs (CInv cfg) (COp.OK cfg) cfg.klen
    (fun _ o hinv ho hsz => step_ref hcfg hinv o ho hsz) ops (CState.init cfg) (init_inv hcfg) (Store.init_WF' _) hops hsz

/-! ### runs with metadata: the stored metas stay byte strings -/

theorem storeMetaOK_iff (s : Store) : StoreMetaOK s ↔ Store.AllRecs (fun r => MetaOK r.mt) s := Iff.rfl

theorem MOp.newRec_metaOK {cfg : Cfg} {op : MOp} (h : op.OK cfg) :
    ∀ r, Store.newRec op.abs = some r → MetaOK r.mt := by
  intro r hr
  cases op with
  | write k ts m d => cases hr; exact metaOK_getD h.2.2
  | delete k ts m oip => cases hr; exact metaOK_getD h.2.2
  | closeActive | createActive | restoreActive | replaceActive | settle | restart lazy => cases hr

theorem stepM_metaOK {cfg : Cfg} {s : Store} (hwf : s.WF) (hmeta : StoreMetaOK s) (op : MOp) (hop : op.OK cfg) :
    StoreMetaOK (s.apply op.abs) :=
  Store.apply_allRecs hwf hmeta op.abs (MOp.newRec_metaOK hop)

theorem init_metaOK (d : Bool) : StoreMetaOK (Store.init d) := Store.init_allRecs _ d

/-- **refinement along every history of operations with metadata from the empty storage**, with the size
    condition stated on the final L2 state only -/
theorem runM_ref {cfg : Cfg} (hcfg : cfg.OK) (ops : List MOp) (hops : ∀ op ∈ ops, op.OK cfg)
    (hsz : StoreSized cfg.klen ((Store.init cfg.allowDup).run (ops.map MOp.abs))) :
    ((CState.init cfg).runM cfg ops).abs cfg = (Store.init cfg.allowDup).run (ops.map MOp.abs) ∧
      CInv cfg ((CState.init cfg).runM cfg ops) ∧
      StoreMetaOK (((CState.init cfg).runM cfg ops).abs cfg) :=
  run_ref_of_step (CState.stepM cfg) (CState.abs cfg) MOp.abs (fun c => CInv cfg c ∧ StoreMetaOK (c.abs cfg))
    (MOp.OK cfg) cfg.klen
    (fun _ o h ho hsz =>
      have hs := stepM_ref hcfg h.1 h.2 o ho hsz
      ⟨hs.1, hs.2, hs.1 ▸ stepM_metaOK h.1.wf h.2 o ho⟩)
    ops (CState.init cfg) ⟨init_inv hcfg, init_metaOK _⟩ (Store.init_WF' _) hops hsz

end Pearl.E2E
