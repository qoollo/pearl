import Pearl.Proofs.EndToEndMetaBytesStore
/-
Byte image of the index file: the size side-condition of `EndToEndMetaBytesStore` (`IdxSized`) from the inputs.  The index file of a blob is at most
three times as long as the blob file, plus the filter section (whose length is fixed by the configuration), plus a
constant (`fileSize_le`):
* the record headers take `n · (57 + K)` bytes, the blob file at least `20 + n · (65 + K)`;
* the nodes `build_tree` writes take at most `2 · (K + 12)` bytes per leaf (`buildTree_bytes`: a layer of `e`
  entries costs `(K + 12) · e` bytes and leaves at most `e / 2` entries to the layer above), and there are at most
  `n + 1` leaves;
* the filter section is `2K + 81 + 8 · ⌈bits / 64⌉` bytes (`serializeFilters_length`).
So `IdxSized` of every state of a history follows from a bound on the blobs of the FINAL L2 state
(`StoreIdxSized`, `idxSized_of_final`), which also gives `StoreSized`.
-/
namespace Pearl.E2E
open Pearl Pearl.BPTree Pearl.Container

theorem packLeaves_length {H : Type} (p : Params) : ∀ (m : InMem H) (o r a b : Nat),
    (packLeaves p m o r a b).length ≤ m.length + 1
  | [], _, _, _, _ => by simp [packLeaves]
  | (k, v) :: rest, o, r, a, b => by
    simp only [packLeaves]
    split
    · have := packLeaves_length p rest (o + v.length * p.rhs) (p.B - v.length * p.rhs) k o
      simp only [List.length_cons]
      omega
    · have := packLeaves_length p rest (o + v.length * p.rhs) (r - v.length * p.rhs) a b
      simp only [List.length_cons]
      omega

theorem leafTable_length_le {H : Type} (p : Params) (m : InMem H) : (leafTable p m).length ≤ m.length + 1 := by
  unfold leafTable
  cases m with
  | nil => simp
  | cons kv rest =>
    obtain ⟨k, v⟩ := kv
    exact packLeaves_length p _ _ _ _ _

theorem nodeSize_le (p : Params) (n : Nat) (hn : 1 ≤ n) : nodeSize p (n - 1) + p.K ≤ (p.K + 8) * n + 8 := by
  simp only [nodeSize, nodeMetaSize, offsetSize]
  have h1 : p.K * (n - 1) + p.K = p.K * n := by
    obtain ⟨j, rfl⟩ : ∃ j, n = j + 1 := ⟨n - 1, by omega⟩
    simp [Nat.mul_succ]
  have h2 : (n - 1 + 1) * 8 = n * 8 := by congr 1; omega
  rw [h2, Nat.add_mul]
  omega

theorem nodesBytes_level (p : Params) (base : Nat) : ∀ (Ps : List (List Entry)), (∀ P ∈ Ps, 1 ≤ P.length) →
    nodesBytes p (Ps.map (mkNode base)) ≤ (p.K + 8) * Ps.flatten.length + 8 * Ps.length
  | [], _ => by simp [nodesBytes]
  | P :: Ps, h => by
    have ih := nodesBytes_level p base Ps (fun Q hQ => h Q (by simp [hQ]))
    have h1 := nodeSize_le p P.length (h P (by simp))
    simp only [List.map_cons, nodesBytes_cons, mkNode_size, List.flatten_cons, List.length_append, List.length_cons]
    rw [Nat.mul_add]
    omega

/-- the whole node region: at most `2 · (K + 12)` bytes per entry of the bottom layer -/
theorem buildTree_bytes (p : Params) (hfan : 3 ≤ maxAmount p) (to : Nat) :
    ∀ (fuel : Nat) (es : List Entry), nodesBytes p (buildTree p fuel es to) ≤ 2 * (p.K + 12) * es.length := by
  intro fuel
  induction fuel with
  | zero => intro es; simp [buildTree, nodesBytes]
  | succ fuel ih =>
    intro es
    by_cases hsmall : es.length ≤ 1
    · rw [buildTree_small _ _ _ _ hsmall]; simp [nodesBytes]
    · rw [buildTree_succ p fuel es to (by omega), nodesBytes_append]
      have hsz : ∀ P ∈ portions (minAmount p) (maxAmount p) es, 2 ≤ P.length :=
        fun P hP => (portions_sizes p hfan es (by omega) P hP).1
      have hfl : (portions (minAmount p) (maxAmount p) es).flatten.length = es.length := by
        rw [portions_flatten]
      have hcnt : 2 * (portions (minAmount p) (maxAmount p) es).length ≤ es.length := by
        rw [← hfl]; exact flatten_length_ge _ hsz
      have hup := ih (collectNext p (portions (minAmount p) (maxAmount p) es) 0).1
      rw [collectNext_length] at hup
      have hlev := nodesBytes_level p
        (to + (collectNext p (portions (minAmount p) (maxAmount p) es) 0).2 +
          nodesBytes p (buildTree p fuel (collectNext p (portions (minAmount p) (maxAmount p) es) 0).1 to))
        (portions (minAmount p) (maxAmount p) es) (fun P hP => by have := hsz P hP; omega)
      rw [hfl] at hlev
      -- arithmetic: with `q` portions, `2 q ≤ e`
      generalize (portions (minAmount p) (maxAmount p) es).length = q at hcnt hup hlev
      generalize es.length = e at hcnt hlev ⊢
      have e1 : 2 * (p.K + 12) * q = (p.K + 12) * (2 * q) := by
        rw [Nat.mul_comm 2 (p.K + 12), Nat.mul_assoc]
      have e2 : (p.K + 12) * (2 * q) ≤ (p.K + 12) * e := Nat.mul_le_mul_left _ hcnt
      have e3 : (p.K + 8) * e + 8 * q ≤ (p.K + 12) * e := by
        have : (p.K + 12) * e = (p.K + 8) * e + 4 * e := by
          rw [show p.K + 12 = (p.K + 8) + 4 from by omega, Nat.add_mul]
        omega
      have e4 : 2 * (p.K + 12) * e = (p.K + 12) * e + (p.K + 12) * e := by
        rw [Nat.mul_comm 2 (p.K + 12), Nat.mul_assoc, Nat.mul_comm (p.K + 12) (2 * e), Nat.two_mul, Nat.add_mul,
          Nat.mul_comm e]
      omega

theorem map_length_le_leafArray {m : InMem RecHeader} (hwf : WF m) : m.length ≤ (leafArray m).length := by
  induction m with
  | nil => simp
  | cons kv rest ih =>
    obtain ⟨k, v⟩ := kv
    have hv : v ≠ [] := hwf.nonempty (k, v) (by simp)
    have hvl : 1 ≤ v.length := by
      cases v with
      | nil => exact absurd rfl hv
      | cons _ _ => simp
    have := ih hwf.tail
    simp only [leafArray_cons, List.length_append, List.length_reverse, List.length_cons]
    omega

/-- the length of the filter section of an index file, for this configuration -/
def filterLen (cfg : Cfg) : Nat := 2 * cfg.klen + 81 + 8 * ABV.itemsCount ((cfg.bloom.map (·.2)).getD 0)

/-- the bloom filter of a blob keeps the number of words it was created with -/
def BloomWords (cfg : Cfg) (c : Combined) : Prop :=
  ∀ b, c.bloom = some b → ∀ v, b.inner = some v → v.data.length ≤ ABV.itemsCount ((cfg.bloom.map (·.2)).getD 0)

theorem newFilter_words (cfg : Cfg) : BloomWords cfg (newFilter cfg) := by
  intro b hb v hv
  simp only [newFilter, Option.map_eq_some_iff] at hb
  obtain ⟨p, hp, rfl⟩ := hb
  simp only [Bloom.new, Option.some.injEq] at hv
  subst hv
  simp [hp, ABV.new]

theorem add_words (cfg : Cfg) (c : Combined) (k : Key) (h : BloomWords cfg c) : BloomWords cfg (c.add cfg.h k) := by
  intro b hb v hv
  simp only [Combined.add, Option.map_eq_some_iff] at hb
  obtain ⟨b0, hb0, rfl⟩ := hb
  unfold Bloom.add at hv
  cases hi : b0.inner with
  | none => rw [hi] at hv; simp only [] at hv; rw [hi] at hv; cases hv
  | some v0 =>
    rw [hi] at hv
    simp only [] at hv
    split at hv
    · rw [hi] at hv
      simp only [Option.some.injEq] at hv
      subst hv
      exact h b0 hb0 v0 hi
    · simp only [Option.some.injEq] at hv
      subst hv
      rw [ABV.foldl_set_length]
      exact h b0 hb0 v0 hi

theorem filterOf_words (cfg : Cfg) (recs : List Rec) : BloomWords cfg (filterOf cfg recs) :=
  filterOf_induction (P := fun _ f => BloomWords cfg f) (newFilter_words cfg)
    (fun _ f r h => add_words cfg f r.key h) recs

theorem toRawVec_length_le (v : ABV) : v.toRawVec.length ≤ v.data.length := by
  unfold ABV.toRawVec
  split <;> simp

theorem serializeFilters_length (cfg : Cfg) (c : Combined) (hw : BloomWords cfg c) (mb : List Nat) (off : Nat)
    (h : serializeFilters cfg.klen c = some (mb, off)) : mb.length ≤ filterLen cfg := by
  unfold serializeFilters at h
  cases hr : (c.bloom.getD Bloom.empty).toRaw with
  | none => rw [hr] at h; cases h
  | some bloomBuf =>
    rw [hr] at h
    simp only [Option.some.injEq, Prod.mk.injEq] at h
    obtain ⟨rfl, _⟩ := h
    have hbl : bloomBuf.length ≤ 56 + 8 * ABV.itemsCount ((cfg.bloom.map (·.2)).getD 0) := by
      unfold Bloom.toRaw Bloom.save at hr
      cases hin : (c.bloom.getD Bloom.empty).inner with
      | none => rw [hin] at hr; cases hr
      | some v =>
        rw [hin] at hr
        simp only [Option.map_some, Option.some.injEq] at hr
        subst hr
        simp only [Save.encode, List.length_append, BloomConfig.encode_length, fle64_length, wordsBytes_length]
        have hv : v.data.length ≤ ABV.itemsCount ((cfg.bloom.map (·.2)).getD 0) := by
          cases hb : c.bloom with
          | none =>
            rw [hb] at hin
            simp only [Option.getD_none, Bloom.empty, Option.some.injEq] at hin
            subst hin
            simp [ABV.new, ABV.itemsCount]
          | some b =>
            rw [hb] at hin
            exact hw b hb v hin
        have := toRawVec_length_le v
        omega
    simp only [List.length_append, fle64_length, Range.toRaw_length, filterLen]
    omega

theorem tailOf_length_ge' (klen : Nat) : ∀ (Rs : List Record) (off : Nat), (∀ R ∈ Rs, R.WF klen) →
    (65 + klen) * Rs.length ≤ (tailOf off Rs).length
  | [], _, _ => by simp [tailOf]
  | R :: Rs, off, h => by
    have ih := tailOf_length_ge' klen Rs (off + (R.image off).length) (fun x hx => h x (by simp [hx]))
    have hl := R.image_length off
    have hk := (h R (by simp)).key
    have hm := serMeta_length_ge R.mt
    simp only [tailOf, List.length_append, List.length_cons, Nat.mul_succ]
    omega

theorem blobBytes_length_ge (klen : Nat) (recs : List Rec) :
    20 + (65 + klen) * recs.length ≤ (blobBytes klen (full recs)).length := by
  rw [blobBytes_eq, List.length_append, serBlobHeader_length]
  have := tailOf_length_ge' klen (recs.map (recOf klen)) blobHeaderSize (by
    intro R hR
    obtain ⟨r, _, rfl⟩ := List.mem_map.mp hR
    exact recordOf_WF _ _ _)
  simp only [List.length_map, blobHeaderSize] at this ⊢
  omega

/-- the index file a dump writes for a blob is at most three times as long as the blob file, plus the filter
    section, plus a constant -/
theorem fileSize_le {cfg : Cfg} (hcfg : cfg.OK) (recs : List Rec) (mb : List Nat) :
    (build (Params.real cfg.klen) mb.length (indexOf (hdrsOf cfg recs))).fileSize
      ≤ 3 * (blobBytes cfg.klen (full recs)).length + mb.length + 4200 := by
  have hv := valid_real cfg.klen hcfg.klen
  have hK := hcfg.klen
  obtain ⟨n, hn⟩ : ∃ n, n = recs.length := ⟨_, rfl⟩
  have hleaves : (leafArray (indexOf (hdrsOf cfg recs))).length = n := by
    rw [(leafArray_indexOf_perm _).length_eq, hdrsOf_length, hn]
  have hkeys : (indexOf (hdrsOf cfg recs)).length ≤ n := by
    rw [← hleaves]; exact map_length_le_leafArray (indexOf_WF _)
  have htable : (leafTable (Params.real cfg.klen) (indexOf (hdrsOf cfg recs))).length ≤ n + 1 := by
    have := leafTable_length_le (Params.real cfg.klen) (indexOf (hdrsOf cfg recs))
    omega
  have hnodes := buildTree_bytes (Params.real cfg.klen) hv.fan (indexHeaderSize + mb.length + treeMetaSize)
    (leafTable (Params.real cfg.klen) (indexOf (hdrsOf cfg recs))).length
    (leafTable (Params.real cfg.klen) (indexOf (hdrsOf cfg recs)))
  have hblob := blobBytes_length_ge cfg.klen recs
  rw [← hn] at hblob
  have hfs : (build (Params.real cfg.klen) mb.length (indexOf (hdrsOf cfg recs))).fileSize
      = indexHeaderSize + mb.length + treeMetaSize
        + nodesBytes (Params.real cfg.klen) (build (Params.real cfg.klen) mb.length (indexOf (hdrsOf cfg recs))).nodes
        + (leafArray (indexOf (hdrsOf cfg recs))).length * (57 + cfg.klen) := rfl
  rw [hfs, hleaves]
  have hnodes' : nodesBytes (Params.real cfg.klen)
      (build (Params.real cfg.klen) mb.length (indexOf (hdrsOf cfg recs))).nodes
      ≤ 2 * (cfg.klen + 12) * (n + 1) :=
    Nat.le_trans hnodes (Nat.mul_le_mul_left _ htable)
  -- arithmetic in `X = (65 + K) · n`
  have a1 : (cfg.klen + 12) * n ≤ (65 + cfg.klen) * n := Nat.mul_le_mul_right _ (by omega)
  have a2 : n * (57 + cfg.klen) ≤ (65 + cfg.klen) * n := by
    rw [Nat.mul_comm n]; exact Nat.mul_le_mul_right _ (by omega)
  have a3 : 2 * (cfg.klen + 12) * (n + 1) = 2 * ((cfg.klen + 12) * n) + 2 * (cfg.klen + 12) := by
    rw [Nat.mul_assoc, Nat.mul_add, Nat.mul_one, Nat.mul_add]
  simp only [indexHeaderSize, treeMetaSize]
  omega

/-- the size side-condition of the byte-level composition, on the L2 state: three times the L5 image of every
    blob, plus the filter section, plus a constant, is below `2^64` -/
def StoreIdxSized (cfg : Cfg) (s : Store) : Prop :=
  ∀ b ∈ s.blobs, 3 * (blobBytes cfg.klen (full b.recs)).length + filterLen cfg + 4200 < 2 ^ 64

theorem StoreIdxSized.toStoreSized {cfg : Cfg} {s : Store} (h : StoreIdxSized cfg s) : StoreSized cfg.klen s := by
  intro b hb
  have := h b hb
  omega

theorem idxSized_of_store {cfg : Cfg} {c : CState} (hcfg : cfg.OK) (hinv : CInv cfg c)
    (h : StoreIdxSized cfg (c.abs cfg)) : c.IdxSized := by
  intro b hb f mb off hi
  have hbi : BlobInv cfg b := CInvG.blobInv hinv hb
  have hser := hbi.serialize hi
  have hf := (hbi.core.disk f mb off hi).2
  have hmb : mb.length ≤ filterLen cfg :=
    serializeFilters_length cfg b.filter (by rw [hbi.filter]; exact filterOf_words cfg b.ghost) mb off hser
  have hbound := h b.abs (mem_abs_blobs cfg hb)
  have hle := fileSize_le hcfg b.ghost mb
  rw [hf]
  have : (blobBytes cfg.klen (full b.abs.recs)).length = (blobBytes cfg.klen (full b.ghost)).length := rfl
  omega

theorem storeIdxSized_prefix (cfg : Cfg) {s : Store} (hwf : s.WF) (ops : List Op)
    (h : StoreIdxSized cfg (s.run ops)) (n : Nat) : StoreIdxSized cfg (s.run (ops.take n)) := by
  intro b hb
  obtain ⟨b', hb', hp⟩ := run_take_blobs_mono hwf ops n b hb
  have := h b' hb'
  have := blobBytes_length_mono cfg.klen hp
  omega

theorem idxSized_of_final {cfg : Cfg} (hcfg : cfg.OK) (ops : List MOp) (hops : ∀ op ∈ ops, op.OK cfg)
    (h : StoreIdxSized cfg ((Store.init cfg.allowDup).run (ops.map MOp.abs))) :
    ∀ n, n ≤ ops.length → ((CState.init cfg).runM cfg (ops.take n)).IdxSized := by
  intro n _
  have hpre : StoreIdxSized cfg ((Store.init cfg.allowDup).run ((ops.take n).map MOp.abs)) := by
    rw [List.map_take]
    exact storeIdxSized_prefix cfg (Store.init_WF' _) _ h n
  obtain ⟨habs, hinv, _⟩ := runM_ref hcfg (ops.take n) (fun op hop => hops op (List.mem_of_mem_take hop))
    hpre.toStoreSized
  exact idxSized_of_store hcfg hinv (by rw [habs]; exact hpre)

end Pearl.E2E
