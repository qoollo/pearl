import Pearl.Proofs.EndToEndIndex
import Pearl.Props.C05
import Pearl.Proofs.ContainerLemmas
/-
End-to-end composition: one blob.  The three physical components of a reachable blob are functions
of its record list (`BlobInv`): the file is the L5 image of the records, the index is `indexOf` of the headers
the writes pushed (held in memory, or as the L4 file image `build … (indexOf …)`), the filter is the fold of
`Combined.add` over the keys.  From this: the per-blob answer of the concrete read path is the L2 answer
(`indexLatest_rr`, through C09 for an on-disk index and C05 for `Entry::load`), `check_filter` has no false
negative (C10).  (The blob operations are in `EndToEndBlobOps.lean`.)
What does not depend on the equation for the filter is proved on `BlobCore`, which `MC.BlobInvC` of
`EndToEndCfg.lean` (filters of any geometry) implies as well.
Defined here as well: `Cfg.OK`, the side-condition on the configuration that every theorem of the composition carries,
and the relation the `_rr` theorems are stated with: `RR a c`, "the concrete answer `c` represents the L2 answer `a`"
(`Serves e r` is its case "found": the entry `e` loads the bytes of the record `r`).
-/
namespace Pearl.E2E
open Pearl Pearl.BPTree

/-! ### the file and the headers of a record list -/

theorem appendRecords_snoc : ∀ (Rs : List Record) (f : List UInt8) (R : Record),
    appendRecords f (Rs ++ [R]) = appendRecord (appendRecords f Rs) R
  | [], _, _ => rfl
  | R' :: Rs, f, R => by simp only [List.cons_append, appendRecords]; exact appendRecords_snoc Rs _ R

theorem writtenHeaders_snoc : ∀ (Rs : List Record) (f : List UInt8) (R : Record),
    writtenHeaders f (Rs ++ [R]) = writtenHeaders f Rs ++ [writtenHeader R (appendRecords f Rs).length]
  | [], _, _ => rfl
  | R' :: Rs, f, R => by
    simp only [List.cons_append, writtenHeaders, appendRecords]
    rw [writtenHeaders_snoc Rs]

theorem full_snoc (recs : List Rec) (r : Rec) : full (recs ++ [r]) = full recs ++ [(r, dataOf r.data)] := by
  simp [full]

theorem blobBytes_snoc (klen : Nat) (recs : List Rec) (r : Rec) :
    blobBytes klen (full (recs ++ [r])) = appendRecord (blobBytes klen (full recs)) (recOf klen r) := by
  unfold blobBytes
  rw [recordsOf_full, recordsOf_full, List.map_append, List.map_singleton, appendRecords_snoc]

theorem blobHeaders_snoc (klen : Nat) (recs : List Rec) (r : Rec) :
    blobHeaders klen (full (recs ++ [r])) =
      blobHeaders klen (full recs) ++ [writtenHeader (recOf klen r) (blobBytes klen (full recs)).length] := by
  unfold blobHeaders blobBytes
  rw [recordsOf_full, recordsOf_full, List.map_append, List.map_singleton, writtenHeaders_snoc]

theorem blobBytes_nil (klen : Nat) : blobBytes klen (full []) = serBlobHeader := rfl

theorem blobBytes_eq (klen : Nat) (recs : List Rec) :
    blobBytes klen (full recs) = serBlobHeader ++ tailOf blobHeaderSize (recs.map (recOf klen)) := by
  unfold blobBytes
  rw [appendRecords_eq, recordsOf_full, serBlobHeader_length]

theorem blobBytes_length_gt (klen : Nat) (recs : List Rec) (hne : recs ≠ []) :
    blobHeaderSize < (blobBytes klen (full recs)).length := by
  rw [blobBytes_eq, List.length_append, serBlobHeader_length]
  have := tailOf_length_ge blobHeaderSize (recs.map (recOf klen))
  have : 0 < recs.length := List.length_pos_iff.mpr hne
  simp only [List.length_map] at *
  omega

theorem recOf_key (klen : Nat) (r : Rec) : (recOf klen r).header.key = keyBytes klen r.key := by
  unfold recOf recordOf
  split <;> rfl

theorem hdrOf_key (klen : Nat) (r : Rec) (off : Nat) : hdrKey (hdrOf klen r off) = r.key % 256 ^ klen := by
  unfold hdrKey hdrOf RecHeader.final
  rw [finalWith_key, recOf_key, keyBytes, List.reverse_reverse, fromLe_leBytes]

theorem hdrOf_key_of_lt (klen : Nat) (r : Rec) (off : Nat) (h : r.key < 256 ^ klen) :
    hdrKey (hdrOf klen r off) = r.key := by
  rw [hdrOf_key, Nat.mod_eq_of_lt h]

theorem hdrOf_timestamp (klen : Nat) (r : Rec) (off : Nat) : (hdrOf klen r off).timestamp = r.ts := by
  unfold hdrOf recOf
  exact recordOf_timestamp klen r _

theorem hdrOf_isDeleted (klen : Nat) (r : Rec) (off : Nat) : (hdrOf klen r off).isDeleted = r.del := by
  unfold hdrOf recOf recordOf
  cases hd : r.del with
  | true =>
    simp [RecHeader.isDeleted, RecHeader.final, RecHeader.finalWith, Record.deleted, Record.create,
      RecHeader.new, markDeleted, RecHeader.updateChecksum, DELETE_FLAG]
  | false =>
    simp [RecHeader.isDeleted, RecHeader.final, RecHeader.finalWith, Record.create,
      RecHeader.new, DELETE_FLAG]

theorem writtenHeader_recOf (klen : Nat) (r : Rec) (off : Nat) :
    writtenHeader (recOf klen r) off = hdrOf klen r off := by
  rw [writtenHeader_eq]; rfl

/-- the sorted vector of key `k` as (record, offset) pairs: its first projection is the L2 vector `vecOf`,
    its image under `hdrOf` the vector of the concrete index -/
def ovecOf (klen : Nat) (recs : List Rec) (k : Key) : List (Rec × Nat) :=
  ((withOff klen blobHeaderSize recs).filter (fun p => p.1.key == k)).foldl (ins (fun p => p.1.ts)) []

theorem mem_withOff_fst {klen : Nat} {recs : List Rec} {off : Nat} {p : Rec × Nat}
    (hp : p ∈ withOff klen off recs) : p.1 ∈ recs := by
  have : p.1 ∈ (withOff klen off recs).map (·.1) := List.mem_map.mpr ⟨p, hp, rfl⟩
  rwa [withOff_fst] at this

/-- an image of the vector of a key under a map that keeps timestamps and the key test is the sorted vector of the
    images -/
theorem ovecOf_map {β : Type} (klen : Nat) (recs : List Rec) (k : Key) (g : Rec × Nat → β) (ts : β → Nat)
    (q : β → Bool) (hts : ∀ p, ts (g p) = p.1.ts)
    (hq : ∀ p ∈ withOff klen blobHeaderSize recs, q (g p) = (p.1.key == k)) :
    (ovecOf klen recs k).map g = (((withOff klen blobHeaderSize recs).map g).filter q).foldl (ins ts) [] := by
  unfold ovecOf
  rw [show (fun p : Rec × Nat => p.1.ts) = fun p => ts (g p) from funext fun p => (hts p).symm,
    foldl_ins_map g ts, List.filter_map]
  congr 2
  exact List.filter_congr fun p hp => (hq p hp).symm

theorem ovecOf_fst (klen : Nat) (recs : List Rec) (k : Key) : (ovecOf klen recs k).map (·.1) = vecOf recs k := by
  rw [ovecOf_map klen recs k Prod.fst Rec.ts (fun r => r.key == k) (fun _ => rfl) (fun _ _ => rfl),
    withOff_fst, vecOf_eq_foldl_ins]

theorem ovecOf_hdr (klen : Nat) (recs : List Rec) (k : Key) (hk : ∀ r ∈ recs, r.key < 256 ^ klen) :
    (ovecOf klen recs k).map (fun p => hdrOf klen p.1 p.2) = hvecOf (blobHeaders klen (full recs)) k := by
  rw [ovecOf_map klen recs k _ RecHeader.timestamp (fun h => hdrKey h == k) (fun p => hdrOf_timestamp klen p.1 p.2)
    (fun p hp => by rw [hdrOf_key_of_lt klen p.1 p.2 (hk _ (mem_withOff_fst hp))]), ← blobHeaders_full]
  rfl

theorem mem_ovecOf {klen : Nat} {recs : List Rec} {k : Key} {p : Rec × Nat} (hp : p ∈ ovecOf klen recs k) :
    p ∈ withOff klen blobHeaderSize recs ∧ p.1.key = k := by
  unfold ovecOf at hp
  have := (foldl_ins_perm (fun p : Rec × Nat => p.1.ts)
    ((withOff klen blobHeaderSize recs).filter (fun p => p.1.key == k)) []).mem_iff.mp hp
  rw [List.nil_append, List.mem_filter, beq_iff_eq] at this
  exact this

theorem load_of_mem (klen : Nat) (recs : List Rec) (hlen : (blobBytes klen (full recs)).length < 2 ^ 64)
    (p : Rec × Nat) (hp : p ∈ withOff klen blobHeaderSize recs) :
    entryLoad (blobBytes klen (full recs)) (hdrOf klen p.1 p.2)
      = .ok (serMeta p.1.mt, if p.1.del then [] else dataOf p.1.data) := by
  obtain ⟨i, hi⟩ := List.mem_iff_getElem?.mp hp
  have h1 : (blobHeaders klen (full recs))[i]? = some (hdrOf klen p.1 p.2) := by
    rw [blobHeaders_full, List.getElem?_map, hi]; rfl
  have h2 : (full recs)[i]? = some (p.1, dataOf p.1.data) := by
    have := congrArg (List.map fun r => (r, dataOf r.data)) (withOff_fst klen recs blobHeaderSize)
    rw [full, ← this, List.map_map, List.getElem?_map, hi]; rfl
  exact (C05.load_roundtrip klen (full recs) hlen i _ p.1 _ h1 h2).1

theorem scan_blob (klen : Nat) (v : Bool) (recs : List Rec) (hne : recs ≠ [])
    (hlen : (blobBytes klen (full recs)).length < 2 ^ 64) (hts : ∀ r ∈ recs, r.ts < 2 ^ 64) :
    rawRecordsLoad klen v (blobBytes klen (full recs)) = .ok (blobHeaders klen (full recs)) := by
  apply C05.load_roundtrip_scan_partial klen v (full recs) _ hlen
  · intro x hx
    simp only [full, List.mem_map] at hx
    obtain ⟨r, hr, rfl⟩ := hx
    exact hts r hr
  · simpa [full] using hne

theorem blobHeader_blob (klen : Nat) (recs : List Rec) :
    blobHeaderFromFile (blobBytes klen (full recs)) = .ok BlobHeader.new := by
  rw [blobBytes_eq]
  exact C05.blob_header_roundtrip _

theorem hdrsOf_length (cfg : Cfg) (recs : List Rec) : (hdrsOf cfg recs).length = recs.length := by
  unfold hdrsOf
  rw [blobHeaders_full, List.length_map, withOff_length]

theorem hdrsOf_eq_nil_iff (cfg : Cfg) (recs : List Rec) : hdrsOf cfg recs = [] ↔ recs = [] := by
  rw [← List.length_eq_zero_iff, hdrsOf_length, List.length_eq_zero_iff]

theorem hdrsOf_snoc (cfg : Cfg) (recs : List Rec) (r : Rec) :
    hdrsOf cfg (recs ++ [r]) =
      hdrsOf cfg recs ++ [hdrOf cfg.klen r (blobBytes cfg.klen (full recs)).length] := by
  unfold hdrsOf
  rw [blobHeaders_snoc, writtenHeader_recOf]

theorem hdrsOf_keys (cfg : Cfg) (recs : List Rec) (hk : ∀ r ∈ recs, r.key < 256 ^ cfg.klen) :
    (hdrsOf cfg recs).map hdrKey = recs.map (·.key) := by
  unfold hdrsOf
  rw [blobHeaders_full, List.map_map]
  conv => rhs; rw [← withOff_fst cfg.klen recs blobHeaderSize, List.map_map]
  exact List.map_congr_left fun p hp => hdrOf_key_of_lt _ _ _ (hk _ (mem_withOff_fst hp))

/-! ### facts about the filters (L3) that the blob lemmas use -/

theorem Bloom.add_bounded (h : Nat → Key → Nat) (b : Bloom) (k : Key) (hb : b.Bounded) : (b.add h k).Bounded := by
  unfold Bloom.add
  cases b.inner with
  | none => exact hb
  | some v => simp only []; split <;> exact hb

theorem Range.add_lt (r : Range) (k n : Nat) (hmin : r.min < n) (hmax : r.max < n) (hk : k < n) :
    (r.add k).min < n ∧ (r.add k).max < n := by
  unfold Range.add
  split
  · exact ⟨hk, hk⟩
  · split
    · exact ⟨hk, hmax⟩
    · split
      · exact ⟨hmin, hk⟩
      · exact ⟨hmin, hmax⟩

theorem Combined.add_sized (h : Nat → Key → Nat) (klen : Nat) (c : Combined) (k : Key) (hc : FBlob.Sized klen c)
    (hk : k < 256 ^ klen) : FBlob.Sized klen (c.add h k) := by
  obtain ⟨h1, h2, h3, h4⟩ := hc
  have hr := Range.add_lt c.range k _ h3 h4 hk
  refine ⟨?_, h2, hr.1, hr.2⟩
  intro bl hbl
  simp only [Combined.add, Option.map_eq_some_iff] at hbl
  obtain ⟨b0, hb0, rfl⟩ := hbl
  exact Bloom.add_bounded h b0 k (h1 b0 hb0)

/-- `serialize_filters` cannot fail while the bloom buffer is resident -/
theorem serializeFilters_isSome (klen : Nat) (c : Combined) (hres : ∀ bl, c.bloom = some bl → bl.inner.isSome) :
    ∃ mo, serializeFilters klen c = some mo := by
  unfold serializeFilters
  have : ∃ raw, (c.bloom.getD Bloom.empty).toRaw = some raw := by
    cases hb : c.bloom with
    | none => exact ⟨_, rfl⟩
    | some bl =>
      have := hres bl hb
      cases hi : bl.inner with
      | none => rw [hi] at this; cases this
      | some v => simp [Bloom.toRaw, Bloom.save, hi]
  obtain ⟨raw, hraw⟩ := this
  simp only [hraw]
  exact ⟨_, rfl⟩

/-- `deserialize_filters(serialize_filters())` and the `bloom_is_on` switch give the filter back (C10
    `filters_roundtrip`) -/
theorem combinedOfFile_serialize (cfg : Cfg) (c : Combined) (metaBuf : List Nat) (off : Nat) (hwf : c.WF)
    (hsz : FBlob.Sized cfg.klen c) (hon : c.bloom.isSome = cfg.bloomIsOn)
    (hs : serializeFilters cfg.klen c = some (metaBuf, off)) :
    combinedOfFile cfg.bloomIsOn metaBuf = some (c, off) := by
  unfold combinedOfFile
  rw [deserialize_serialize cfg.klen c metaBuf off hwf hsz.1 hsz.2.1 hsz.2.2.1 hsz.2.2.2 hs]
  obtain ⟨bloom, range⟩ := c
  cases bloom <;> simp [← hon]

/-- a resident, well-formed filter never looks into the file: the full check is the fast check -/
theorem contains_of_resident (h : Nat → Key → Nat) (c : Combined) (readByte : Nat → Option Nat) (x : Key)
    (hc : c.WF) (hres : ∀ bl, c.bloom = some bl → bl.inner.isSome) :
    c.contains h readByte x = c.containsFast h x := by
  unfold Combined.contains Combined.containsFast
  cases c.range.containsFast x with
  | notContains => rfl
  | needAdditionalCheck =>
    simp only [Combined.bloomFull, Combined.bloomFast]
    cases hcb : c.bloom with
    | none => rfl
    | some bl =>
      simp only []
      have hr := hres bl hcb
      cases hi : bl.inner with
      | none => rw [hi] at hr; cases hr
      | some v =>
        unfold Bloom.contains Bloom.containsFast
        cases hm : bl.containsMem h x with
        | some r => rfl
        | none =>
          simp only [Option.getD_none]
          have hv : v.bits = bl.bits := ((hc.2 bl hcb).1 v hi).2
          unfold Bloom.containsMem at hm
          rw [hi] at hm
          simp only [] at hm
          split at hm
          · rename_i hz
            unfold Bloom.containsFile
            have : (bl.bits == 0) = true := by rw [← hv]; exact hz
            rw [if_pos this]; rfl
          · split at hm <;> cases hm  -- with bits, `containsMem` of a resident buffer always answers

/-! ### the side-condition on the configuration; the filter of a record list -/

/-- the explicit range side-conditions of the layer theorems, on the configuration: key length within the
    fan-out bound of the B+tree serializer (C09, `valid_real`), a non-zero group size (C10, `push_total`), and
    bloom parameters that fit their `u64` wire fields (C10, `filters_roundtrip`) -/
structure Cfg.OK (cfg : Cfg) : Prop where
  klen : cfg.klen ≤ 2032
  group : 0 < cfg.group
  bloom : ∀ p, cfg.bloom = some p → (Bloom.new p.1 p.2).Bounded

/-- the filter after `filter.add(key)` for every record in order -/
def filterOf (cfg : Cfg) (recs : List Rec) : Combined :=
  (recs.map (·.key)).foldl (Combined.add cfg.h) (newFilter cfg)

theorem filterOf_snoc (cfg : Cfg) (recs : List Rec) (r : Rec) :
    filterOf cfg (recs ++ [r]) = (filterOf cfg recs).add cfg.h r.key := by
  simp [filterOf, List.foldl_append]

theorem filterOf_induction {cfg : Cfg} {P : List Rec → Combined → Prop} (h0 : P [] (newFilter cfg))
    (hs : ∀ recs f r, P recs f → P (recs ++ [r]) (f.add cfg.h r.key)) (recs : List Rec) :
    P recs (filterOf cfg recs) := by
  have : ∀ (l recs0 : List Rec) (f : Combined), P recs0 f →
      P (recs0 ++ l) ((l.map (·.key)).foldl (Combined.add cfg.h) f) := by
    intro l
    induction l with
    | nil => intro recs0 f h; simpa using h
    | cons r l ih =>
      intro recs0 f h
      simpa [List.append_assoc] using ih (recs0 ++ [r]) _ (hs recs0 f r h)
  simpa [filterOf] using this recs [] _ h0

/-- one more key (C10, `push` on the filter state of a blob): the filter stays well-formed and resident and covers
    the new key as well -/
theorem Combined.add_facts (cfg : Cfg) {recs : List Rec} {f : Combined}
    (hf : f.WF ∧ (∀ r ∈ recs, f.containsFast cfg.h r.key ≠ .notContains) ∧
      ∀ bl, f.bloom = some bl → bl.inner.isSome) (r : Rec) :
    (f.add cfg.h r.key).WF ∧ (∀ x ∈ recs ++ [r], (f.add cfg.h r.key).containsFast cfg.h x.key ≠ .notContains) ∧
      ∀ bl, (f.add cfg.h r.key).bloom = some bl → bl.inner.isSome := by
  obtain ⟨hwf, hcov, hres⟩ : FBlob.Inv cfg.h cfg.klen
      { keys := recs.map (·.key) ++ [r.key], filter := f.add cfg.h r.key, file := none } :=
    FBlob.push_Inv (b := { keys := recs.map (·.key), filter := f, file := none }) r.key
      ⟨hf.1, fun k hk => by obtain ⟨x, hx, rfl⟩ := List.mem_map.mp hk; exact hf.2.1 x hx, hf.2.2⟩ rfl
  refine ⟨hwf, ?_, hres⟩
  intro x hx
  rcases List.mem_append.mp hx with hx | hx
  · exact hcov _ (List.mem_append_left _ (List.mem_map_of_mem hx))
  · rw [List.mem_singleton.mp hx]
    exact hcov _ (List.mem_append_right _ (List.mem_singleton_self _))

theorem filterOf_facts (cfg : Cfg) (recs : List Rec) :
    (filterOf cfg recs).WF ∧
    (∀ r ∈ recs, (filterOf cfg recs).containsFast cfg.h r.key ≠ .notContains) ∧
    (∀ bl, (filterOf cfg recs).bloom = some bl → bl.inner.isSome) := by
  refine filterOf_induction (P := fun recs f => f.WF ∧ (∀ r ∈ recs, f.containsFast cfg.h r.key ≠ .notContains) ∧
    ∀ bl, f.bloom = some bl → bl.inner.isSome) ?_ (fun _ _ r h => Combined.add_facts cfg h r) recs
  obtain ⟨hwf, _, hres⟩ := FBlob.new_Inv cfg.h cfg.klen (cfg.bloom.map fun p => Bloom.new p.1 p.2) (by
    intro bl hbl
    simp only [Option.map_eq_some_iff] at hbl
    obtain ⟨p, _, rfl⟩ := hbl
    exact ⟨Bloom.new_WF _ _, rfl⟩)
  exact ⟨hwf, fun r hr => (by cases hr), hres⟩

theorem newFilter_sized (cfg : Cfg) (hcfg : cfg.OK) : FBlob.Sized cfg.klen (newFilter cfg) := by
  refine ⟨?_, ?_, Nat.pow_pos (by decide), Nat.pow_pos (by decide)⟩
  · intro bl hbl
    simp only [newFilter, Option.map_eq_some_iff] at hbl
    obtain ⟨p, hp, rfl⟩ := hbl
    exact hcfg.bloom p hp
  · have := hcfg.klen
    omega

theorem filterOf_sized (cfg : Cfg) (hcfg : cfg.OK) (recs : List Rec) (hk : ∀ r ∈ recs, r.key < 256 ^ cfg.klen) :
    FBlob.Sized cfg.klen (filterOf cfg recs) := by
  refine filterOf_induction (P := fun recs f => (∀ r ∈ recs, r.key < 256 ^ cfg.klen) → FBlob.Sized cfg.klen f)
    (fun _ => newFilter_sized cfg hcfg) ?_ recs hk
  intro recs f r ih hk
  exact Combined.add_sized cfg.h cfg.klen f r.key (ih fun x hx => hk x (List.mem_append_left _ hx)) (hk r (by simp))

theorem filterOf_bloom_isSome (cfg : Cfg) (recs : List Rec) :
    (filterOf cfg recs).bloom.isSome = cfg.bloomIsOn := by
  refine filterOf_induction (P := fun _ f => f.bloom.isSome = cfg.bloomIsOn) ?_ ?_ recs
  · simp [newFilter, Cfg.bloomIsOn]
  · intro _ f _ ih
    simpa [Combined.add] using ih

/-! ### the blob invariants, and `check_filter` under them -/

/-- the index component: the map of the pushed headers, in memory or as the file image built from it together
    with the serialized filter -/
def IndexInv (cfg : Cfg) (b : CBlob) : Prop :=
  match b.index with
  | .mem m => m = indexOf (hdrsOf cfg b.ghost)
  | .disk f metaBuf off =>
    b.ghost ≠ [] ∧ serializeFilters cfg.klen b.filter = some (metaBuf, off) ∧
      f = build (Params.real cfg.klen) metaBuf.length (indexOf (hdrsOf cfg b.ghost))

/-- every physical component of the blob is the image of its record list (no size condition) -/
structure BlobInv0 (cfg : Cfg) (b : CBlob) : Prop where
  key : ∀ r ∈ b.ghost, r.key < 256 ^ cfg.klen
  ts : ∀ r ∈ b.ghost, r.ts < 2 ^ 64
  file : b.file = blobBytes cfg.klen (full b.ghost)
  filter : b.filter = filterOf cfg b.ghost
  index : IndexInv cfg b

/-- … and the file has not outgrown its `u64` offsets -/
structure BlobInv (cfg : Cfg) (b : CBlob) : Prop extends BlobInv0 cfg b where
  size : b.file.length < 2 ^ 64

/-- what the blob invariants of this development (`BlobInv0`; `MC.BlobInvC0` of `EndToEndCfg.lean`, whose filter
    may have any geometry; `BlobInvO0` of `EndToEndStartOffloadSteps.lean`, whose filter may be off-loaded) say about the
    file and the index, and the part of what they say about the filter that does
    not depend on the configuration being admissible: enough for the read path and for `writeRec`, `dump`, `regen` -/
structure BlobCore (cfg : Cfg) (b : CBlob) : Prop where
  key : ∀ r ∈ b.ghost, r.key < 256 ^ cfg.klen
  ts : ∀ r ∈ b.ghost, r.ts < 2 ^ 64
  file : b.file = blobBytes cfg.klen (full b.ghost)
  wf : b.filter.WF
  covers : ∀ r ∈ b.ghost, b.filter.containsFast cfg.h r.key ≠ .notContains
  /-- only the filter of a blob with its index on disk may be off-loaded -/
  resident : b.index.onDisk = false → ∀ bl, b.filter.bloom = some bl → bl.inner.isSome
  mem : ∀ m, b.index = .mem m → m = indexOf (hdrsOf cfg b.ghost)
  disk : ∀ f metaBuf off, b.index = .disk f metaBuf off →
    b.ghost ≠ [] ∧ f = build (Params.real cfg.klen) metaBuf.length (indexOf (hdrsOf cfg b.ghost))

theorem BlobInv0.core {cfg : Cfg} {b : CBlob} (hb : BlobInv0 cfg b) : BlobCore cfg b := by
  have hf := filterOf_facts cfg b.ghost
  rw [← hb.filter] at hf
  have hidx := hb.index
  unfold IndexInv at hidx
  refine ⟨hb.key, hb.ts, hb.file, hf.1, hf.2.1, fun _ => hf.2.2, ?_, ?_⟩
  · intro m hi; rw [hi] at hidx; exact hidx
  · intro f metaBuf off hi; rw [hi] at hidx; exact ⟨hidx.1, hidx.2.2⟩

theorem BlobInv0.of_core {cfg : Cfg} {b : CBlob} (hc : BlobCore cfg b) (hf : b.filter = filterOf cfg b.ghost)
    (hs : ∀ f metaBuf off, b.index = .disk f metaBuf off →
      serializeFilters cfg.klen b.filter = some (metaBuf, off)) : BlobInv0 cfg b := by
  refine ⟨hc.key, hc.ts, hc.file, hf, ?_⟩
  unfold IndexInv
  cases hi : b.index with
  | mem m => exact hc.mem m hi
  | disk f metaBuf off => exact ⟨(hc.disk f metaBuf off hi).1, hs f metaBuf off hi, (hc.disk f metaBuf off hi).2⟩

theorem BlobCore.onDisk_of_empty {cfg : Cfg} {b : CBlob} (hb : BlobCore cfg b) (he : b.ghost = []) :
    b.index.onDisk = false := by
  cases hi : b.index with
  | mem m => rfl
  | disk f metaBuf off => exact absurd he (hb.disk f metaBuf off hi).1

/-- `contains_key_fast` of an in-memory index finds every key of the blob -/
theorem BlobCore.checkFilter_mem {cfg : Cfg} {b : CBlob} (hb : BlobCore cfg b) {m : InMem RecHeader}
    (hi : b.index = .mem m) (r : Rec) (hr : r ∈ b.ghost) : b.checkFilter cfg r.key ≠ .notContains := by
  obtain rfl := hb.mem m hi
  have hmem : r.key ∈ (hdrsOf cfg b.ghost).map hdrKey := by
    rw [hdrsOf_keys cfg b.ghost hb.key]; exact List.mem_map_of_mem hr
  obtain ⟨h, hh, hk⟩ := List.mem_map.mp hmem
  have : (hdrsOf cfg b.ghost).any (fun h => hdrKey h == r.key) = true :=
    List.any_eq_true.mpr ⟨h, hh, by simp [hk]⟩
  simp [CBlob.checkFilter, hi, indexOf_lookup_isSome, this]

/-- **C10 at blob level, for a resident filter of any geometry**: `check_filter` never answers `NotContains` for a key
    the blob holds (in memory `contains_key_fast` decides; on disk the resident filter covers the key) -/
theorem BlobCore.checkFilter_no_fn {cfg : Cfg} {b : CBlob} (hb : BlobCore cfg b)
    (hres : ∀ bl, b.filter.bloom = some bl → bl.inner.isSome) (k : Key)
    (hk : ∃ r ∈ b.ghost, r.key = k) : b.checkFilter cfg k ≠ .notContains := by
  obtain ⟨r, hr, rfl⟩ := hk
  cases hi : b.index with
  | mem m => exact hb.checkFilter_mem hi r hr
  | disk f metaBuf off =>
    simp only [CBlob.checkFilter, hi]
    rw [contains_of_resident cfg.h b.filter _ r.key hb.wf hres]
    exact hb.covers r hr

theorem BlobInv.checkFilter_no_fn {cfg : Cfg} {b : CBlob} (hb : BlobInv cfg b) (k : Key)
    (hk : ∃ r ∈ b.ghost, r.key = k) : b.checkFilter cfg k ≠ .notContains :=
  hb.core.checkFilter_no_fn (hb.filter ▸ (filterOf_facts cfg b.ghost).2.2) k hk

/-! ### the answer of one blob represents the L2 answer -/

/-- `e` is an entry of record `r`: same timestamp, and `Entry::load` returns the bytes that were written -/
def Serves (e : CEntry) (r : Rec) : Prop :=
  e.hdr.timestamp = r.ts ∧ r.del = false ∧ entryLoad e.file e.hdr = .ok (serMeta r.mt, dataOf r.data)

/-- the concrete answer `c` represents the L2 answer `a` -/
def RR : ReadResult Rec → ReadResult CEntry → Prop
  | .found r, .found e => Serves e r
  | .deleted t, .deleted t' => t = t'
  | .notFound, .notFound => True
  | _, _ => False

/-- **C09**: the index look-up, through memory or through the file image, returns the last element of the
    sorted vector of the key -/
theorem BlobCore.index_getLatest {cfg : Cfg} {b : CBlob} (hcfg : cfg.OK) (hb : BlobCore cfg b) (k : Key) :
    b.index.getLatest k = some ((hvecOf (hdrsOf cfg b.ghost) k).getLast?) := by
  cases hi : b.index with
  | mem m =>
    obtain rfl := hb.mem m hi
    simp only [CIndex.getLatest, memLatest_indexOf]
  | disk f metaBuf off =>
    obtain ⟨hne, rfl⟩ := hb.disk f metaBuf off hi
    simp only [CIndex.getLatest]
    rw [(build_read (Params.real cfg.klen) (BPTree.valid_real cfg.klen hcfg.klen) metaBuf.length
      (indexOf (hdrsOf cfg b.ghost)) (indexOf_WF _)
      (by rw [Ne, indexOf_eq_nil_iff, hdrsOf_eq_nil_iff]; exact hne) k).1]
    exact congrArg some (memLatest_indexOf _ k)

/-- the per-blob answer of the index look-up represents the L2 answer; `Entry::load` of the header found returns
    the bytes that were written (C05) -/
theorem BlobCore.indexLatest_rr {cfg : Cfg} {b : CBlob} (hcfg : cfg.OK) (hb : BlobCore cfg b)
    (hsz : b.file.length < 2 ^ 64) (k : Key) :
    ∃ x, b.indexLatest k = .ok x ∧ RR (b.abs.getLatest k) x := by
  unfold CBlob.indexLatest
  rw [hb.index_getLatest hcfg k]
  have h1 : hvecOf (hdrsOf cfg b.ghost) k = (ovecOf cfg.klen b.ghost k).map (fun p => hdrOf cfg.klen p.1 p.2) :=
    (ovecOf_hdr cfg.klen b.ghost k hb.key).symm
  have h2 : b.abs.getLatest k = latestOfVec ((ovecOf cfg.klen b.ghost k).map (·.1)) := by
    rw [ovecOf_fst]; rfl
  rw [h1, h2, List.getLast?_map]
  unfold latestOfVec
  rw [List.getLast?_map]
  cases hl : (ovecOf cfg.klen b.ghost k).getLast? with
  | none => exact ⟨_, rfl, trivial⟩
  | some p =>
    have hp := (mem_ovecOf (List.mem_of_getLast? hl)).1
    simp only [Option.map_some, hdrOf_isDeleted, hdrOf_timestamp]
    cases hd : p.1.del with
    | true => exact ⟨_, rfl, rfl⟩
    | false =>
      refine ⟨_, rfl, ?_⟩
      simp only [Bool.false_eq_true, if_false]
      refine ⟨hdrOf_timestamp _ _ _, hd, ?_⟩
      have := load_of_mem cfg.klen b.ghost (by rw [← hb.file]; exact hsz) p hp
      rw [hd] at this
      simp only [Bool.false_eq_true, if_false] at this
      rw [hb.file]; exact this

theorem BlobInv.indexLatest_rr {cfg : Cfg} {b : CBlob} (hcfg : cfg.OK) (hb : BlobInv cfg b) (k : Key) :
    ∃ x, b.indexLatest k = .ok x ∧ RR (b.abs.getLatest k) x :=
  hb.core.indexLatest_rr hcfg hb.size k

theorem RR.isFound {a : ReadResult Rec} {c : ReadResult CEntry} (h : RR a c) : c.isFound = a.isFound := by
  cases a <;> cases c <;> simp_all [RR, ReadResult.isFound]

end Pearl.E2E
