import Pearl.Model.Container
import Pearl.Proofs.FilterLemmas
/-
Helper lemmas for the container part of C10: arena bookkeeping, the invariant `Container.Inv`
(shape of the arena + "every node filter covers the push-time filters of all leaves below it"),
its preservation by `push` / `pop` / `offload`, and what `iterPossible` yields under it.
Then the instance the storage uses: `combinedLaws` (`CombinedFilter` satisfies `FilterLaws`), the blob-level
invariant `FBlob.Inv` (the filter, or the image in the index file, covers every key of the index) kept by
`push` / `dump` / `offload` / `load`, from which `check_filter` has no false negative; and the `C10.toy*`
values the examples of `Props/C10.lean` run on.
-/
namespace Pearl

variable {F C : Type}

/-- `f` does not exclude `k` -/
def FilterOps.covers (ops : FilterOps F) (f : F) (k : Key) : Prop := ops.containsFast f k ≠ .notContains

/-- `None` excludes nothing -/
def FilterOps.coversOpt (ops : FilterOps F) : Option F → Key → Prop
  | none, _ => True
  | some f, k => ops.covers f k

def okOpt (ok : F → Prop) (o : Option F) : Prop := ∀ f, o = some f → ok f

/-- what the container proofs need from the filter type, relative to a validity predicate `ok` -/
structure FilterLaws (ops : FilterOps F) (ok : F → Prop) : Prop where
  merge_ok : ∀ a b c r, ok a → ok b → ops.merge a b = (c, r) → ok c
  merge_sup : ∀ a b c k, ok a → ok b → ops.merge a b = (c, true) →
    ops.covers a k ∨ ops.covers b k → ops.covers c k
  offload_ok : ∀ a, ok a → ok (ops.offload a).1
  offload_sup : ∀ a k, ok a → ops.covers a k → ops.covers (ops.offload a).1 k

namespace Container

variable {ops : FilterOps F} {ok : F → Prop}

theorem mergeFilters_some_some (ops : FilterOps F) (d s : F) :
    mergeFilters ops (some d) (some s) = if (ops.merge d s).2 = true then some (ops.merge d s).1 else none := rfl

theorem mergeFilters_cases (ops : FilterOps F) (d s : Option F) :
    mergeFilters ops d s = none ∨
    ∃ d0 s0 r, d = some d0 ∧ s = some s0 ∧ ops.merge d0 s0 = (r, true) ∧ mergeFilters ops d s = some r := by
  cases d with
  | none => exact Or.inl rfl
  | some d0 =>
    cases s with
    | none => exact Or.inl rfl
    | some s0 =>
      rw [mergeFilters_some_some]
      cases hm : ops.merge d0 s0 with
      | mk r b =>
        cases b with
        | false => exact Or.inl (by simp)
        | true => exact Or.inr ⟨d0, s0, r, rfl, rfl, hm, by simp⟩

theorem mergeFilters_ok (laws : FilterLaws ops ok) (d s : Option F)
    (hd : okOpt ok d) (hs : okOpt ok s) : okOpt ok (mergeFilters ops d s) := by
  rcases mergeFilters_cases ops d s with e | ⟨d0, s0, r, rfl, rfl, hm, e⟩ <;> rw [e]
  · exact nofun
  · intro f hf
    cases hf
    exact laws.merge_ok d0 s0 r true (hd d0 rfl) (hs s0 rfl) hm

theorem mergeFilters_sup (laws : FilterLaws ops ok) (d s : Option F)
    (hd : okOpt ok d) (hs : okOpt ok s) (k : Key) (h : ops.coversOpt d k ∨ ops.coversOpt s k) :
    ops.coversOpt (mergeFilters ops d s) k := by
  rcases mergeFilters_cases ops d s with e | ⟨d0, s0, r, rfl, rfl, hm, e⟩ <;> rw [e]
  · trivial
  · exact laws.merge_sup d0 s0 r k (hd d0 rfl) (hs s0 rfl) hm h

theorem mergeFilters_none_left (ops : FilterOps F) (s : Option F) : mergeFilters ops none s = none := rfl

theorem mergeFilters_none_right (ops : FilterOps F) (d : Option F) : mergeFilters ops d none = none := by
  cases d <;> rfl

def appendInner (c : Container F C) (x : FInner F) : Container F C := { c with inner := c.inner ++ [some x] }

def appendChild (c : Container F C) (lf : FLeaf C) : Container F C := { c with children := c.children ++ [some lf] }

theorem getInner_lt_length {c : Container F C} {id : Nat} {x : FInner F} (h : c.getInner id = some x) :
    id < c.inner.length := by
  unfold getInner at h
  cases hh : c.inner[id]? with
  | none => rw [hh] at h; cases h
  | some o => exact (List.getElem?_eq_some_iff.mp hh).1

@[simp] theorem appendInner_root (c : Container F C) (x) : (c.appendInner x).root = c.root := rfl
@[simp] theorem appendInner_children (c : Container F C) (x) : (c.appendInner x).children = c.children := rfl
@[simp] theorem appendInner_groupSize (c : Container F C) (x) : (c.appendInner x).groupSize = c.groupSize := rfl
@[simp] theorem appendInner_length (c : Container F C) (x) :
    (c.appendInner x).inner.length = c.inner.length + 1 := by simp [appendInner]

theorem getInner_appendInner (c : Container F C) (x) (id : Nat) :
    (c.appendInner x).getInner id = if id = c.inner.length then some x else c.getInner id := by
  unfold getInner appendInner
  split
  · next h => simp [h]
  · next h =>
    rcases Nat.lt_or_gt_of_ne h with h | h
    · rw [List.getElem?_append_left h]
    · rw [List.getElem?_eq_none (by simp; omega), List.getElem?_eq_none (by omega)]

@[simp] theorem appendChild_root (c : Container F C) (x) : (c.appendChild x).root = c.root := rfl
@[simp] theorem appendChild_inner (c : Container F C) (x) : (c.appendChild x).inner = c.inner := rfl
@[simp] theorem appendChild_groupSize (c : Container F C) (x) : (c.appendChild x).groupSize = c.groupSize := rfl
@[simp] theorem appendChild_length (c : Container F C) (x) :
    (c.appendChild x).children.length = c.children.length + 1 := by simp [appendChild]
@[simp] theorem getInner_appendChild (c : Container F C) (x) (id : Nat) :
    (c.appendChild x).getInner id = c.getInner id := rfl

@[simp] theorem modifyNode_root (c : Container F C) (id f) : (c.modifyNode id f).root = c.root := rfl
@[simp] theorem modifyNode_children (c : Container F C) (id f) : (c.modifyNode id f).children = c.children := rfl
@[simp] theorem modifyNode_groupSize (c : Container F C) (id f) : (c.modifyNode id f).groupSize = c.groupSize := rfl
@[simp] theorem modifyNode_level (c : Container F C) (id f) : (c.modifyNode id f).level = c.level := rfl
@[simp] theorem modifyNode_length (c : Container F C) (id f) :
    (c.modifyNode id f).inner.length = c.inner.length := by simp [modifyNode]

theorem getInner_modifyNode (c : Container F C) (id j : Nat) (f) :
    (c.modifyNode id f).getInner j =
      if j = id then (match c.getInner id with
        | some (.node n) => some (.node (f n))
        | x => x)
      else c.getInner j := by
  unfold getInner modifyNode
  simp only [List.getElem?_modify]
  by_cases h : j = id
  · subst h
    simp only [if_true]
    rcases c.inner[j]? with _ | _ | _ | _ <;> rfl
  · simp [h, Ne.symm h]

theorem getInner_modifyNode_node (c : Container F C) (id j : Nat) (f) (n : FNode F)
    (h : c.getInner id = some (.node n)) :
    (c.modifyNode id f).getInner j = if j = id then some (.node (f n)) else c.getInner j := by
  rw [getInner_modifyNode, h]

theorem getNode_eq {c : Container F C} {id : Nat} {n : FNode F} (h : c.getInner id = some (.node n)) :
    c.getNode id = some n := by simp [getNode, h]

theorem mergeUp_none (ops : FilterOps F) (item : Option F) (fuel : Nat) (c : Container F C) :
    mergeUp ops item fuel c none = c := by
  cases fuel <;> rfl

/-- the update `add_child` applies to the node that receives the leaf -/
def addUpd (ops : FilterOps F) (item : Option F) (innerId : Nat) : FNode F → FNode F := fun n =>
  { n with
    filter := if n.children.isEmpty then initFilter item else mergeFilters ops n.filter item
    children := n.children ++ [innerId] }

/-- the update `add_child` applies to every ancestor -/
def mergeUpd (ops : FilterOps F) (item : Option F) : FNode F → FNode F := fun n =>
  { n with filter := mergeFilters ops n.filter item }

theorem addChild_eq (ops : FilterOps F) (cops : ChildOps F C) (c : Container F C) (node : Nat) (child : C) :
    addChild ops cops c node child =
      ((mergeUp ops (cops.filterOf child)
          (((c.appendInner (.leaf node c.children.length)).modifyNode node
            (addUpd ops (cops.filterOf child) c.inner.length)).inner.length + 2)
          ((c.appendInner (.leaf node c.children.length)).modifyNode node
            (addUpd ops (cops.filterOf child) c.inner.length))
          (((c.appendInner (.leaf node c.children.length)).getNode node).bind (·.parent))).appendChild
        { parent := node, data := child }, c.children.length) := rfl

/-- the arena after `add_child(node, child)` when `node` has no grandparent: the new leaf at the end, `node`
    updated by `addUpd`, its parent (if it has one) by `mergeUpd`, everything else as before.  The parent's entry is
    written `(c.getNode id).map …` because the statement does not name the parent's node (`hp` only says there is
    one); a caller that knows it (`addChild_last`: the root) turns the branch into `some (.node (mergeUpd … rd))`. -/
theorem getInner_addChild (ops : FilterOps F) (cops : ChildOps F C) (c : Container F C) (node : Nat) (child : C)
    (gn : FNode F) (h : c.getInner node = some (.node gn))
    (hp : ∀ r, gn.parent = some r → r ≠ node ∧ ∃ rd, c.getInner r = some (.node rd) ∧ rd.parent = none)
    (id : Nat) :
    (addChild ops cops c node child).1.getInner id =
      if id = node then some (.node (addUpd ops (cops.filterOf child) c.inner.length gn))
      else if id = c.inner.length then some (.leaf node c.children.length)
      else if some id = gn.parent then (c.getNode id).map (fun rd => .node (mergeUpd ops (cops.filterOf child) rd))
      else c.getInner id := by
  have hlt := getInner_lt_length h
  have h0 : (c.appendInner (.leaf node c.children.length)).getInner node = some (.node gn) := by
    rw [getInner_appendInner, if_neg (Nat.ne_of_lt hlt), h]
  rw [addChild_eq, getNode_eq h0]
  simp only [Option.bind_some, getInner_appendChild]
  cases hpar : gn.parent with
  | none =>
    simp only [mergeUp_none, reduceCtorEq, if_false]
    rw [getInner_modifyNode_node _ _ _ _ gn h0, getInner_appendInner]
  | some r =>
    obtain ⟨hne, rd, hr, hrp⟩ := hp r hpar
    have hrlt := getInner_lt_length hr
    have h1 : ((c.appendInner (.leaf node c.children.length)).modifyNode node
        (addUpd ops (cops.filterOf child) c.inner.length)).getInner r = some (.node rd) := by
      rw [getInner_modifyNode_node _ _ _ _ gn h0, if_neg hne, getInner_appendInner, if_neg (Nat.ne_of_lt hrlt), hr]
    simp only [mergeUp, getNode_eq h1, Option.bind_some, hrp, mergeUp_none, Option.some.injEq]
    rw [getInner_modifyNode_node _ _ _ _ rd h1, getInner_modifyNode_node _ _ _ _ gn h0, getInner_appendInner]
    by_cases e1 : id = node
    · simp [e1, Ne.symm hne]
    · by_cases e2 : id = c.inner.length
      · simp [e2, Nat.ne_of_gt hrlt]
      · by_cases e3 : id = r
        · subst e3; simp [e1, e2, getNode_eq hr]; rfl
        · simp [e1, e2, e3]

/-- the arena entries `ids` are the leaves of node `n` for the consecutive child ids `start, start+1, …` -/
def IsLeafRun (c : Container F C) (n : Nat) (ids : List Nat) (start : Nat) : Prop :=
  ∀ p, ∀ hp : p < ids.length, c.getInner ids[p] = some (.leaf n (start + p))

/-- `flt` covers the push-time filters `g[j]` of the children `s ≤ j < s + len`.  For a child that had no filter
    `g[j] = none`, which covers every key (`coversOpt none k = True`), so `flt` must then be `none` or cover every key
    too: that is why `none` is the only sound result of a `mergeFilters` that cannot merge. -/
def SupRange (ops : FilterOps F) (g : List (Option F)) (flt : Option F) (s len : Nat) : Prop :=
  ∀ j, s ≤ j → j < s + len → ∀ k, ops.coversOpt (g.getD j none) k → ops.coversOpt flt k

/-- the group nodes `ids` (children of the root) hold, in order, the children `s … e-1` -/
def Groups (ops : FilterOps F) (ok : F → Prop) (c : Container F C) (g : List (Option F)) :
    List Nat → Nat → Nat → Prop
  | [], s, e => s = e
  | id :: rest, s, e =>
    ∃ gn, c.getInner id = some (.node gn) ∧ gn.parent = some c.root ∧ IsLeafRun c id gn.children s ∧
      okOpt ok gn.filter ∧ SupRange ops g gn.filter s gn.children.length ∧
      Groups ops ok c g rest (s + gn.children.length) e

/-- before the root promotion: all leaves hang off the root -/
def FlatInv (ops : FilterOps F) (ok : F → Prop) (c : Container F C) (g : List (Option F)) : Prop :=
  ∃ nd, c.getInner c.root = some (.node nd) ∧ nd.parent = none ∧ IsLeafRun c c.root nd.children 0 ∧
    nd.children.length = c.children.length ∧ c.children.length < c.groupSize ∧
    okOpt ok nd.filter ∧ SupRange ops g nd.filter 0 c.children.length ∧
    (∀ id n, c.getInner id = some (.node n) → id = c.root)

/-- after the root promotion: root → groups → leaves -/
def TwoInv (ops : FilterOps F) (ok : F → Prop) (c : Container F C) (g : List (Option F)) : Prop :=
  ∃ rd, c.getInner c.root = some (.node rd) ∧ rd.parent = none ∧ rd.children ≠ [] ∧
    c.groupSize ≤ c.children.length ∧ (c.root :: rd.children).Nodup ∧
    Groups ops ok c g rd.children 0 c.children.length ∧
    okOpt ok rd.filter ∧ SupRange ops g rd.filter 0 c.children.length ∧
    (∀ id n, c.getInner id = some (.node n) → id = c.root ∨ id ∈ rd.children)

/-- the container invariant, relative to the ghost list `g` of the filters the children had when pushed
    (`g[j] = cops.filterOf child_j` at the time of `push`; slots emptied by `pop` keep their entry) -/
structure Inv (ops : FilterOps F) (ok : F → Prop) (c : Container F C) (g : List (Option F)) : Prop where
  glen : g.length = c.children.length
  gok : ∀ o ∈ g, okOpt ok o
  shape : FlatInv ops ok c g ∨ TwoInv ops ok c g

/-- every `Leaf` entry of the arena of `c` is the same entry in `c'` -/
def LeavesKept (c c' : Container F C) : Prop :=
  ∀ id p l, c.getInner id = some (.leaf p l) → c'.getInner id = some (.leaf p l)

/-- a leaf run stays one in a container that keeps the leaf entries -/
theorem IsLeafRun.frame {c c' : Container F C} {n : Nat} {ids : List Nat} {s : Nat} (hk : LeavesKept c c')
    (h : IsLeafRun c n ids s) : IsLeafRun c' n ids s :=
  fun p hp => hk _ _ _ (h p hp)

theorem IsLeafRun.snoc {c : Container F C} {n : Nat} {ids : List Nat} {s x : Nat} (h : IsLeafRun c n ids s)
    (hx : c.getInner x = some (.leaf n (s + ids.length))) : IsLeafRun c n (ids ++ [x]) s := by
  intro p hp
  by_cases hlt : p < ids.length
  · rw [List.getElem_append_left hlt]; exact h p hlt
  · have hpe : p = ids.length := by simp at hp; omega
    subst hpe
    simp [hx]

theorem IsLeafRun.nil (c : Container F C) (n s : Nat) : IsLeafRun c n [] s := fun p hp => by cases hp

/-- monotone in the filter, and only the ghost entries of the range matter -/
theorem SupRange.frame {ops : FilterOps F} {g g' : List (Option F)} {flt flt' : Option F} {s len : Nat}
    (hg : ∀ j, j < s + len → g'.getD j none = g.getD j none)
    (hf : ∀ k, ops.coversOpt flt k → ops.coversOpt flt' k) (h : SupRange ops g flt s len) :
    SupRange ops g' flt' s len := by
  intro j h1 h2 k hc
  rw [hg j h2] at hc
  exact hf k (h j h1 h2 k hc)

theorem getD_append_left (g : List (Option F)) (x : Option F) (j : Nat) (h : j < g.length) :
    (g ++ [x]).getD j none = g.getD j none := by
  simp [List.getD_eq_getElem?_getD, List.getElem?_append_left h]

theorem getD_append_self (g : List (Option F)) (x : Option F) : (g ++ [x]).getD g.length none = x := by
  simp [List.getD_eq_getElem?_getD]

theorem SupRange.snoc (laws : FilterLaws ops ok) {g : List (Option F)} {flt x : Option F} {s len : Nat}
    (he : s + len = g.length) (hf : okOpt ok flt) (hx : okOpt ok x)
    (h : SupRange ops g flt s len) : SupRange ops (g ++ [x]) (mergeFilters ops flt x) s (len + 1) := by
  intro j h1 h2 k hc
  by_cases hj : j < g.length
  · rw [getD_append_left g x j hj] at hc
    exact mergeFilters_sup laws _ _ hf hx k (Or.inl (h j h1 (by omega) k hc))
  · have : j = g.length := by omega
    subst this
    rw [getD_append_self] at hc
    exact mergeFilters_sup laws _ _ hf hx k (Or.inr hc)

theorem Groups.le {c : Container F C} {g : List (Option F)} :
    ∀ {ids : List Nat} {s e : Nat}, Groups ops ok c g ids s e → s ≤ e
  | [], s, e, h => by simp only [Groups] at h; omega
  | id :: rest, s, e, h => by
    obtain ⟨gn, _, _, _, _, _, hr⟩ := h
    have := Groups.le hr
    omega

theorem Groups.mem {c : Container F C} {g : List (Option F)} {id : Nat} :
    ∀ {ids : List Nat} {s e : Nat}, Groups ops ok c g ids s e → id ∈ ids →
      ∃ gn s', c.getInner id = some (.node gn) ∧ IsLeafRun c id gn.children s' ∧
        SupRange ops g gn.filter s' gn.children.length ∧ s ≤ s' ∧ s' + gn.children.length ≤ e
  | [], _, _, _, h => nomatch h
  | a :: rest, s, e, hG, hmem => by
    obtain ⟨gn, h1, _, h3, _, h5, hr⟩ := hG
    have hle := Groups.le hr
    rcases List.mem_cons.mp hmem with rfl | hmem
    · exact ⟨gn, s, h1, h3, h5, Nat.le_refl _, hle⟩
    · obtain ⟨gn', s', a1, a2, a3, a4, a5⟩ := Groups.mem hr hmem
      exact ⟨gn', s', a1, a2, a3, by omega, a5⟩

theorem Groups.mem_lt {c : Container F C} {g : List (Option F)} {id : Nat}
    {ids : List Nat} {s e : Nat} (hG : Groups ops ok c g ids s e) (hmem : id ∈ ids) : id < c.inner.length := by
  obtain ⟨gn, _, h, _⟩ := hG.mem hmem
  exact getInner_lt_length h

/-- the groups stay groups when their own entries are the same in `c'` (and root, leaf entries, ghost entries below `e`) -/
theorem Groups.frame {c c' : Container F C} {g g' : List (Option F)}
    (hroot : c'.root = c.root) (hk : LeavesKept c c') :
    ∀ {ids : List Nat} {s e : Nat}, (∀ id ∈ ids, c'.getInner id = c.getInner id) →
      (∀ j, j < e → g'.getD j none = g.getD j none) →
      Groups ops ok c g ids s e → Groups ops ok c' g' ids s e
  | [], s, e, _, _, h => h
  | id :: rest, s, e, hids, hg, h => by
    obtain ⟨gn, h1, h2, h3, h4, h5, hr⟩ := h
    have hle := Groups.le hr
    refine ⟨gn, ?_, ?_, h3.frame hk, h4, ?_, ?_⟩
    · rw [hids id (List.mem_cons_self ..)]; exact h1
    · rw [hroot]; exact h2
    · exact h5.frame (fun j hj => hg j (by omega)) (fun _ h => h)
    · exact Groups.frame hroot hk (fun i hi => hids i (List.mem_cons_of_mem _ hi)) hg hr

theorem Groups.append {ops : FilterOps F} {ok : F → Prop} {c : Container F C} {g : List (Option F)} :
    ∀ {a b : List Nat} {s e : Nat},
      Groups ops ok c g (a ++ b) s e ↔ ∃ m, Groups ops ok c g a s m ∧ Groups ops ok c g b m e
  | [], b, s, e => by
    simp only [List.nil_append, Groups]
    constructor
    · intro h; exact ⟨s, rfl, h⟩
    · rintro ⟨m, rfl, h⟩; exact h
  | id :: rest, b, s, e => by
    simp only [List.cons_append, Groups]
    constructor
    · rintro ⟨gn, h1, h2, h3, h4, h5, hr⟩
      obtain ⟨m, ha, hb⟩ := (Groups.append).mp hr
      exact ⟨m, ⟨gn, h1, h2, h3, h4, h5, ha⟩, hb⟩
    · rintro ⟨m, ⟨gn, h1, h2, h3, h4, h5, ha⟩, hb⟩
      exact ⟨gn, h1, h2, h3, h4, h5, (Groups.append).mpr ⟨m, ha, hb⟩⟩

theorem LeavesKept.refl (c : Container F C) : LeavesKept c c := fun _ _ _ h => h

theorem LeavesKept.trans {a b c : Container F C} (h1 : LeavesKept a b) (h2 : LeavesKept b c) : LeavesKept a c :=
  fun id p l h => h2 id p l (h1 id p l h)

theorem LeavesKept.appendInner (c : Container F C) (x) : LeavesKept c (c.appendInner x) :=
  fun id _ _ h => by rw [getInner_appendInner, if_neg (Nat.ne_of_lt (getInner_lt_length h)), h]

theorem LeavesKept.modifyNode (c : Container F C) (id f) : LeavesKept c (c.modifyNode id f) :=
  fun j p l h => by
    rw [getInner_modifyNode]
    split
    · next e => subst e; rw [h]
    · exact h

theorem LeavesKept.appendChild (c : Container F C) (x) : LeavesKept c (c.appendChild x) := fun _ _ _ h => h

def withRoot (c : Container F C) (r : Nat) : Container F C := { c with root := r }

@[simp] theorem getInner_withRoot (c : Container F C) (r id : Nat) : (c.withRoot r).getInner id = c.getInner id := rfl
@[simp] theorem withRoot_root (c : Container F C) (r : Nat) : (c.withRoot r).root = r := rfl
@[simp] theorem withRoot_children (c : Container F C) (r : Nat) : (c.withRoot r).children = c.children := rfl
@[simp] theorem withRoot_groupSize (c : Container F C) (r : Nat) : (c.withRoot r).groupSize = c.groupSize := rfl
@[simp] theorem withRoot_inner (c : Container F C) (r : Nat) : (c.withRoot r).inner = c.inner := rfl

theorem new_inv (ops : FilterOps F) (ok : F → Prop) (gs l : Nat) (hg : 0 < gs) :
    Inv ops ok (Container.new gs l : Container F C) [] := by
  refine ⟨rfl, fun o ho => (by cases ho), Or.inl ⟨{}, rfl, rfl, IsLeafRun.nil _ _ _, rfl, hg, ?_, ?_, ?_⟩⟩
  · intro f hf; cases hf
  · intro j _ h2; simp [Container.new] at h2
  · exact fun id n h => Nat.lt_one_iff.mp (getInner_lt_length h)

/-- what the merge loop leaves alone: everything but the filters of nodes -/
theorem mergeUp_frame (ops : FilterOps F) (item : Option F) :
    ∀ (fuel : Nat) (c : Container F C) (p : Option Nat),
      (mergeUp ops item fuel c p).root = c.root ∧ (mergeUp ops item fuel c p).groupSize = c.groupSize ∧
      (mergeUp ops item fuel c p).children = c.children ∧ LeavesKept c (mergeUp ops item fuel c p)
  | 0, c, _ => ⟨rfl, rfl, rfl, LeavesKept.refl c⟩
  | _ + 1, c, none => ⟨rfl, rfl, rfl, LeavesKept.refl c⟩
  | fuel + 1, c, some id => by
    obtain ⟨h1, h2, h3, h5⟩ := mergeUp_frame ops item fuel
      (c.modifyNode id (fun n => { n with filter := mergeFilters ops n.filter item })) ((c.getNode id).bind (·.parent))
    exact ⟨h1, h2, h3, (LeavesKept.modifyNode c _ _).trans h5⟩

/-- what `add_child` leaves alone, and the one slot it adds -/
theorem addChild_frame (ops : FilterOps F) (cops : ChildOps F C) (c : Container F C) (node : Nat) (child : C) :
    (addChild ops cops c node child).1.root = c.root ∧
    (addChild ops cops c node child).1.groupSize = c.groupSize ∧
    (addChild ops cops c node child).1.children.length = c.children.length + 1 ∧
    LeavesKept c (addChild ops cops c node child).1 := by
  rw [addChild_eq]
  obtain ⟨h1, h2, h3, h5⟩ := mergeUp_frame ops (cops.filterOf child)
    (((c.appendInner (.leaf node c.children.length)).modifyNode node
      (addUpd ops (cops.filterOf child) c.inner.length)).inner.length + 2)
    ((c.appendInner (.leaf node c.children.length)).modifyNode node (addUpd ops (cops.filterOf child) c.inner.length))
    (((c.appendInner (.leaf node c.children.length)).getNode node).bind (·.parent))
  refine ⟨h1, h2, ?_, ((LeavesKept.appendInner c _).trans (LeavesKept.modifyNode _ _ _)).trans h5⟩
  rw [appendChild_length, h3]; rfl

theorem gok_snoc {ok : F → Prop} {g : List (Option F)} {x : Option F} (hg : ∀ o ∈ g, okOpt ok o) (hx : okOpt ok x) :
    ∀ o ∈ g ++ [x], okOpt ok o :=
  List.forall_mem_append.mpr ⟨hg, List.forall_mem_singleton.mpr hx⟩

theorem addUpd_children_length (ops : FilterOps F) (item : Option F) (L : Nat) (nd : FNode F) :
    (addUpd ops item L nd).children.length = nd.children.length + 1 := by simp [addUpd]

theorem addUpd_sup (laws : FilterLaws ops ok) (g : List (Option F))
    (item : Option F) (L : Nat) (nd : FNode F) (s : Nat) (h1 : okOpt ok nd.filter) (h2 : okOpt ok item)
    (he : s + nd.children.length = g.length) (h : SupRange ops g nd.filter s nd.children.length) :
    okOpt ok (addUpd ops item L nd).filter ∧
    SupRange ops (g ++ [item]) (addUpd ops item L nd).filter s (nd.children.length + 1) := by
  cases hc : nd.children with
  | nil =>
    rw [hc] at he
    have hf : (addUpd ops item L nd).filter = item := by simp [addUpd, hc, initFilter]
    rw [hf]
    refine ⟨h2, fun j hj1 hj2 k hk => ?_⟩
    obtain rfl : j = g.length := by simp only [List.length_nil] at he hj2; omega
    rwa [getD_append_self] at hk
  | cons a l =>
    have hf : (addUpd ops item L nd).filter = mergeFilters ops nd.filter item := by simp [addUpd, hc]
    rw [hf, ← hc]
    exact ⟨mergeFilters_ok laws _ _ h1 h2, SupRange.snoc laws he h1 h2 h⟩

/-- `add_child(root, child)` on a flat container: everything the flat invariant says, except the size bound -/
theorem flat_addChild (laws : FilterLaws ops ok) (cops : ChildOps F C)
    (c : Container F C) (g : List (Option F)) (child : C) (hinv : Inv ops ok c g) (hflat : FlatInv ops ok c g)
    (hitem : okOpt ok (cops.filterOf child)) :
    let c1 := (addChild ops cops c c.root child).1
    c1.children.length = c.children.length + 1 ∧
    ∃ nd', c1.getInner c1.root = some (.node nd') ∧ nd'.parent = none ∧ IsLeafRun c1 c1.root nd'.children 0 ∧
      nd'.children.length = c1.children.length ∧ okOpt ok nd'.filter ∧
      SupRange ops (g ++ [cops.filterOf child]) nd'.filter 0 c1.children.length ∧
      (∀ id n, c1.getInner id = some (.node n) → id = c1.root) := by
  obtain ⟨nd, hroot, hpar, hrun, hlen, _, hok, hsup, honly⟩ := hflat
  intro c1
  obtain ⟨hr, _, hcl, hkept⟩ := addChild_frame ops cops c c.root child
  have hget := getInner_addChild ops cops c c.root child nd hroot (fun r h => by rw [hpar] at h; cases h)
  simp only [hpar, reduceCtorEq, if_false] at hget
  have hrootlt := getInner_lt_length hroot
  obtain ⟨hok', hsup'⟩ := addUpd_sup laws g (cops.filterOf child) c.inner.length nd 0 hok hitem
    (by rw [Nat.zero_add, hlen]; exact hinv.glen.symm) (by rw [hlen]; exact hsup)
  have hlen' : (addUpd ops (cops.filterOf child) c.inner.length nd).children.length = c1.children.length := by
    rw [hcl, ← hlen, addUpd_children_length]
  refine ⟨hcl, addUpd ops (cops.filterOf child) c.inner.length nd, ?_, hpar, ?_, hlen', hok', ?_, ?_⟩
  · rw [hr, hget, if_pos rfl]
  · rw [hr]
    refine (hrun.frame hkept).snoc ?_
    rw [hlen, Nat.zero_add, hget, if_neg (Nat.ne_of_gt hrootlt), if_pos rfl]
  · rw [hcl, ← hlen]; exact hsup'
  · intro id n hn
    rw [hr]
    rw [hget] at hn
    split at hn
    · assumption
    · split at hn
      · cases hn
      · exact honly id n hn

/-- the root promotion of `push` -/
def promote (c1 : Container F C) : Container F C :=
  let c2 := c1.modifyNode c1.root (fun n => { n with parent := some c1.inner.length })
  (c2.appendInner (.node { filter := ((c2.getNode c2.root).getD {}).filter, children := [c2.root], parent := none })).withRoot
    c1.inner.length

/-- after the root promotion the old root is the only group -/
theorem promote_two (c1 : Container F C) (g : List (Option F)) (nd : FNode F)
    (hnode : c1.getInner c1.root = some (.node nd)) (hrun : IsLeafRun c1 c1.root nd.children 0)
    (hlen : nd.children.length = c1.children.length) (hok : okOpt ok nd.filter)
    (hsup : SupRange ops g nd.filter 0 c1.children.length)
    (honly : ∀ id n, c1.getInner id = some (.node n) → id = c1.root) (hge : c1.groupSize ≤ c1.children.length) :
    TwoInv ops ok (promote c1) g := by
  have hrootlt := getInner_lt_length hnode
  let c2 := c1.modifyNode c1.root (fun n => { n with parent := some c1.inner.length })
  have h2 : ∀ id, c2.getInner id =
      if id = c1.root then some (.node { nd with parent := some c1.inner.length }) else c1.getInner id :=
    fun id => getInner_modifyNode_node c1 _ _ _ nd hnode
  have hprom : promote c1 =
      (c2.appendInner (.node { filter := nd.filter, children := [c1.root], parent := none })).withRoot c1.inner.length := by
    have : ((c2.getNode c2.root).getD {}).filter = nd.filter := by
      show ((c2.getNode c1.root).getD {}).filter = nd.filter
      rw [getNode_eq ((h2 _).trans (if_pos rfl))]; rfl
    unfold promote
    simp only []
    rw [this]
    rfl
  have hget : ∀ id, (promote c1).getInner id =
      if id = c1.inner.length then some (.node { filter := nd.filter, children := [c1.root], parent := none })
      else if id = c1.root then some (.node { nd with parent := some c1.inner.length }) else c1.getInner id := by
    intro id
    rw [hprom, getInner_withRoot, getInner_appendInner, modifyNode_length, h2]
  have hkept : LeavesKept c1 (promote c1) := by
    rw [hprom]; exact (LeavesKept.modifyNode c1 _ _).trans (LeavesKept.appendInner c2 _)
  rw [hprom] at hget hkept ⊢
  refine ⟨{ filter := nd.filter, children := [c1.root], parent := none }, ?_, rfl, by simp, hge, ?_, ?_, hok, hsup, ?_⟩
  · rw [hget, withRoot_root, if_pos rfl]
  · simpa using Nat.ne_of_gt hrootlt
  · refine ⟨{ nd with parent := some c1.inner.length }, ?_, rfl, hrun.frame hkept, hok, hlen ▸ hsup,
      (Nat.zero_add _).trans hlen⟩
    rw [hget, if_neg (Nat.ne_of_lt hrootlt), if_pos rfl]
  · intro id n hn
    rw [hget] at hn
    by_cases e1 : id = c1.inner.length
    · exact Or.inl e1
    · by_cases e2 : id = c1.root
      · exact Or.inr (by simp [e2])
      · rw [if_neg e1, if_neg e2] at hn; exact absurd (honly id n hn) e2

theorem addChild_last (laws : FilterLaws ops ok) (cops : ChildOps F C)
    (c : Container F C) (g : List (Option F)) (child : C) (hinv : Inv ops ok c g) (htwo : TwoInv ops ok c g)
    (hitem : okOpt ok (cops.filterOf child)) (lg : Nat) (hlast : c.lastInnerNode = some lg) :
    Inv ops ok (addChild ops cops c lg child).1 (g ++ [cops.filterOf child]) := by
  obtain ⟨rd, hroot, hrpar, hne, hgs, hnd, hgroups, hrok, hrsup, honly⟩ := htwo
  obtain ⟨pre, hrch⟩ : ∃ pre, rd.children = pre ++ [lg] := by
    simpa [lastInnerNode, getNode_eq hroot, List.getLast?_eq_some_iff] using hlast
  rw [hrch] at hgroups hnd
  obtain ⟨m, hpre, gn, hgrp, hgpar, hgrun, hgok, hgsup, hend⟩ := Groups.append.mp hgroups
  have hend : m + gn.children.length = c.children.length := hend
  have hnd' := List.nodup_cons.mp hnd
  have hne' : c.root ≠ lg := fun h => hnd'.1 (h ▸ by simp)
  have hrootlt := getInner_lt_length hroot
  have hlglt := getInner_lt_length hgrp
  obtain ⟨hr, hgsz, hcl, hkept⟩ := addChild_frame ops cops c lg child
  have hget : ∀ id, (addChild ops cops c lg child).1.getInner id =
      if id = lg then some (.node (addUpd ops (cops.filterOf child) c.inner.length gn))
      else if id = c.inner.length then some (.leaf lg c.children.length)
      else if id = c.root then some (.node (mergeUpd ops (cops.filterOf child) rd)) else c.getInner id := by
    intro id
    rw [getInner_addChild ops cops c lg child gn hgrp (fun r h => by
      rw [hgpar] at h; cases h; exact ⟨hne', rd, hroot, hrpar⟩), hgpar]
    by_cases e : id = c.root
    · subst e; simp [getNode_eq hroot]
    · simp [e]
  -- from here on only `hr … hget` are known of the result
  generalize (addChild ops cops c lg child).1 = c' at *
  obtain ⟨hgok', hgsup'⟩ := addUpd_sup laws g (cops.filterOf child) c.inner.length gn m hgok hitem
    (by rw [hend]; exact hinv.glen.symm) hgsup
  refine ⟨by rw [List.length_append, List.length_singleton, hcl, hinv.glen], gok_snoc hinv.gok hitem,
    Or.inr ⟨mergeUpd ops (cops.filterOf child) rd, ?_, hrpar, hne,
      by rw [hgsz, hcl]; exact Nat.le_succ_of_le hgs, ?_, ?_,
      mergeFilters_ok laws _ _ hrok hitem, ?_, ?_⟩⟩
  · rw [hr, hget, if_neg hne', if_neg (Nat.ne_of_lt hrootlt), if_pos rfl]
  · rw [hr]; show (c.root :: rd.children).Nodup; rw [hrch]; exact hnd
  · show Groups ops ok c' _ rd.children 0 c'.children.length
    rw [hrch, hcl]
    refine Groups.append.mpr ⟨m, Groups.frame hr hkept (fun id hid => ?_)
      (fun j hj => getD_append_left g _ j (by
        rw [hinv.glen]; exact Nat.lt_of_lt_of_le hj (Nat.le.intro hend))) hpre,
      addUpd ops (cops.filterOf child) c.inner.length gn, ?_, hr ▸ hgpar, ?_, hgok',
      by rw [addUpd_children_length]; exact hgsup', ?_⟩
    · have h1 : id ≠ lg := fun h => (List.nodup_append.mp hnd'.2).2.2 id hid lg (by simp) h
      have h2 : id ≠ c.root := fun h => hnd'.1 (h ▸ List.mem_append_left _ hid)
      rw [hget, if_neg h1, if_neg (Nat.ne_of_lt (hpre.mem_lt hid)), if_neg h2]
    · rw [hget, if_pos rfl]
    · refine (hgrun.frame hkept).snoc ?_
      rw [hend, hget, if_neg (Nat.ne_of_gt hlglt), if_pos rfl]
    · show m + (gn.children ++ [c.inner.length]).length = c.children.length + 1
      rw [List.length_append, List.length_singleton, ← Nat.add_assoc, hend]
  · rw [hcl]
    exact SupRange.snoc laws (by rw [Nat.zero_add, hinv.glen]) hrok hitem hrsup
  · intro id n hn
    rw [hr]
    show id = c.root ∨ id ∈ rd.children
    rw [hget] at hn
    by_cases e1 : id = lg
    · exact Or.inr (by rw [hrch, e1]; simp)
    · by_cases e2 : id = c.inner.length
      · rw [if_neg e1, if_pos e2] at hn; cases hn
      · by_cases e3 : id = c.root
        · exact Or.inl e3
        · rw [if_neg e1, if_neg e2, if_neg e3] at hn; exact honly id n hn

theorem lastInnerNode_of_two {c : Container F C} {g : List (Option F)}
    (htwo : TwoInv ops ok c g) : ∃ lg, c.lastInnerNode = some lg := by
  obtain ⟨rd, hroot, _, hne, _⟩ := htwo
  exact ⟨rd.children.getLast hne, by simp [lastInnerNode, getNode_eq hroot, List.getLast?_eq_some_getLast hne]⟩

/-- `new_inner_node` opens an empty group behind the others, which `Groups` admits: same ghost list -/
theorem newInnerNode_two (c : Container F C) (g : List (Option F))
    (htwo : TwoInv ops ok c g) :
    TwoInv ops ok c.newInnerNode.1 g ∧ c.newInnerNode.1.lastInnerNode = some c.inner.length := by
  obtain ⟨rd, hroot, hrpar, hne, hgs, hnd, hgroups, hrok, hrsup, honly⟩ := htwo
  have hrootlt := getInner_lt_length hroot
  have hmemlt : ∀ id ∈ rd.children, id < c.inner.length := fun id hid => hgroups.mem_lt hid
  let c0 := c.modifyNode c.root (fun n => { n with children := n.children ++ [c.inner.length] })
  let c1 := c0.appendInner (.node { parent := some c.root })
  show TwoInv ops ok c1 g ∧ c1.lastInnerNode = some c.inner.length
  have hget : ∀ id, c1.getInner id =
      if id = c.inner.length then some (.node { parent := some c.root })
      else if id = c.root then some (.node { rd with children := rd.children ++ [c.inner.length] })
      else c.getInner id := by
    intro id
    rw [getInner_appendInner, modifyNode_length, getInner_modifyNode_node c _ _ _ rd hroot]
  have hkept : LeavesKept c c1 := (LeavesKept.modifyNode c _ _).trans (LeavesKept.appendInner c0 _)
  have hrootn : c1.getInner c.root = some (.node { rd with children := rd.children ++ [c.inner.length] }) := by
    rw [hget, if_neg (Nat.ne_of_lt hrootlt), if_pos rfl]
  refine ⟨⟨{ rd with children := rd.children ++ [c.inner.length] }, hrootn, hrpar, by simp, hgs, ?_, ?_, hrok,
    hrsup, ?_⟩, ?_⟩
  · show (c.root :: (rd.children ++ [c.inner.length])).Nodup
    rw [← List.cons_append]
    refine List.nodup_append.mpr ⟨hnd, by simp, fun a ha b hb hab => ?_⟩
    rw [List.mem_singleton.mp hb] at hab
    rcases List.mem_cons.mp ha with h | h
    · exact Nat.ne_of_lt hrootlt (h.symm.trans hab)
    · exact Nat.ne_of_lt (hmemlt a h) hab
  · refine Groups.append.mpr ⟨c.children.length, Groups.frame (c := c) (c' := c1) rfl hkept (fun id hid => ?_) (fun _ _ => rfl)
      hgroups,
      { parent := some c.root }, by rw [hget, if_pos rfl], rfl, IsLeafRun.nil _ _ _, nofun, fun j h1 h2 => ?_, rfl⟩
    · rw [hget, if_neg (Nat.ne_of_lt (hmemlt id hid)), if_neg (fun h : id = c.root => (List.nodup_cons.mp hnd).1 (h ▸ hid))]
    · exact absurd h2 (Nat.not_lt.mpr h1)
  · intro id n hn
    show id = c.root ∨ id ∈ rd.children ++ [c.inner.length]
    rw [hget] at hn
    by_cases e1 : id = c.inner.length
    · exact Or.inr (by simp [e1])
    · by_cases e2 : id = c.root
      · exact Or.inl e2
      · rw [if_neg e1, if_neg e2] at hn
        exact (honly id n hn).imp_right (List.mem_append_left _)
  · show ((c1.getNode c.root).getD {}).children.getLast? = _
    rw [getNode_eq hrootn]; simp

/-- `push` keeps the invariant; the ghost list records the filter the child had.  Fewer than `group_size` children:
    into the root, which is promoted when that fills it; otherwise into the last group, a fresh one when that is
    full -/
theorem push_inv (laws : FilterLaws ops ok) (cops : ChildOps F C)
    (c : Container F C) (g : List (Option F)) (child : C) (hinv : Inv ops ok c g)
    (hitem : okOpt ok (cops.filterOf child)) :
    Inv ops ok (push ops cops c child).1 (g ++ [cops.filterOf child]) := by
  rcases hinv.shape with hflat | htwo
  · have hlt : c.children.length < c.groupSize := by
      obtain ⟨_, _, _, _, _, h, _⟩ := hflat; exact h
    obtain ⟨hcl, nd, hnode, hpar, hrun, hlen, hok, hsup, honly⟩ := flat_addChild laws cops c g child hinv hflat hitem
    have e : (push ops cops c child).1 =
        if (addChild ops cops c c.root child).1.children.length ≥ (addChild ops cops c c.root child).1.groupSize
        then promote (addChild ops cops c c.root child).1 else (addChild ops cops c c.root child).1 := by
      unfold push
      rw [if_pos hlt]
      simp only []
      split <;> rfl
    rw [e]
    -- from here on only what `flat_addChild` says is known of the result
    generalize (addChild ops cops c c.root child).1 = c1 at *
    have hglen : (g ++ [cops.filterOf child]).length = c1.children.length := by
      rw [List.length_append, List.length_singleton, hcl, hinv.glen]
    split
    · next hge =>
      exact ⟨hglen, gok_snoc hinv.gok hitem, Or.inr (promote_two c1 _ nd hnode hrun hlen hok hsup honly hge)⟩
    · next hge =>
      exact ⟨hglen, gok_snoc hinv.gok hitem,
        Or.inl ⟨nd, hnode, hpar, hrun, hlen, Nat.lt_of_not_ge hge, hok, hsup, honly⟩⟩
  · have hge : ¬ c.children.length < c.groupSize := by
      obtain ⟨_, _, _, _, h, _⟩ := htwo; exact Nat.not_lt.mpr h
    obtain ⟨lg, hlast⟩ := lastInnerNode_of_two htwo
    have e : (push ops cops c child).1 =
        if ((c.getNode lg).getD {}).children.length ≥ c.groupSize
        then (addChild ops cops c.newInnerNode.1 c.newInnerNode.2 child).1 else (addChild ops cops c lg child).1 := by
      unfold push
      rw [if_neg hge, hlast]
      simp only []
      split <;> rfl
    rw [e]
    split
    · obtain ⟨h1, h2⟩ := newInnerNode_two c g htwo
      exact addChild_last laws cops c.newInnerNode.1 g child ⟨hinv.glen, hinv.gok, Or.inr h1⟩ h1 hitem _ h2
    · exact addChild_last laws cops c g child hinv htwo hitem lg hlast

/-- `c'` has the arena shape of `c`; node filters of `c'` cover what those of `c` covered -/
structure Refines (ops : FilterOps F) (ok : F → Prop) (c c' : Container F C) : Prop where
  root : c'.root = c.root
  groupSize : c'.groupSize = c.groupSize
  clen : c'.children.length = c.children.length
  ilen : c'.inner.length = c.inner.length
  leaves : LeavesKept c c'
  nodes : ∀ id n, c.getInner id = some (.node n) → ∃ n', c'.getInner id = some (.node n') ∧
    n'.children = n.children ∧ n'.parent = n.parent ∧ (okOpt ok n.filter → okOpt ok n'.filter) ∧
    (∀ k, okOpt ok n.filter → ops.coversOpt n.filter k → ops.coversOpt n'.filter k)
  back : ∀ id n', c'.getInner id = some (.node n') → ∃ n, c.getInner id = some (.node n)

theorem Refines.refl (ops : FilterOps F) (ok : F → Prop) (c : Container F C) : Refines ops ok c c :=
  ⟨rfl, rfl, rfl, rfl, LeavesKept.refl c, fun _ n h => ⟨n, h, rfl, rfl, id, fun _ _ h => h⟩, fun _ n h => ⟨n, h⟩⟩

theorem Refines.trans {a b c : Container F C} (h1 : Refines ops ok a b)
    (h2 : Refines ops ok b c) : Refines ops ok a c := by
  refine ⟨h2.root.trans h1.root, h2.groupSize.trans h1.groupSize, h2.clen.trans h1.clen, h2.ilen.trans h1.ilen,
    h1.leaves.trans h2.leaves, ?_, ?_⟩
  · intro id n hn
    obtain ⟨n1, e1, c1, p1, o1, s1⟩ := h1.nodes id n hn
    obtain ⟨n2, e2, c2, p2, o2, s2⟩ := h2.nodes id n1 e1
    exact ⟨n2, e2, c2.trans c1, p2.trans p1, fun h => o2 (o1 h), fun k hk hc => s2 k (o1 hk) (s1 k hk hc)⟩
  · intro id n' hn
    obtain ⟨n1, e1⟩ := h2.back id n' hn
    exact h1.back id n1 e1

theorem Refines.setChildren (ops : FilterOps F) (ok : F → Prop) (c : Container F C)
    (chs : List (Option (FLeaf C))) (h : chs.length = c.children.length) :
    Refines ops ok c { c with children := chs } :=
  ⟨rfl, rfl, h, rfl, fun _ _ _ h => h, fun _ n h => ⟨n, h, rfl, rfl, id, fun _ _ h => h⟩, fun _ n h => ⟨n, h⟩⟩

theorem Refines.offloadNode (laws : FilterLaws ops ok) (c : Container F C)
    (p : Nat) (flt : Option F) (n0 : FNode F) (hn0 : c.getInner p = some (.node n0))
    (hflt : flt = n0.filter.map (fun f => (ops.offload f).1)) :
    Refines ops ok c (c.modifyNode p (fun n => { n with filter := flt })) := by
  subst hflt
  have hget := fun id => getInner_modifyNode_node c p id
    (fun n => { n with filter := n0.filter.map (fun f => (ops.offload f).1) }) n0 hn0
  refine ⟨rfl, rfl, rfl, modifyNode_length .., LeavesKept.modifyNode c _ _, fun id n hn => ?_, fun id n' hn => ?_⟩
  · rw [hget]
    by_cases hid : id = p
    · subst hid
      obtain rfl : n0 = n := by rw [hn0] at hn; cases hn; rfl
      refine ⟨_, if_pos rfl, rfl, rfl, fun hok f hf => ?_, fun k hok hc => ?_⟩
      · obtain ⟨f0, hf0, rfl⟩ := Option.map_eq_some_iff.mp hf
        exact laws.offload_ok f0 (hok f0 hf0)
      · cases hnf : n0.filter with
        | none => trivial
        | some f0 => rw [hnf] at hc; exact laws.offload_sup f0 k (hok f0 hnf) hc
    · exact ⟨n, (if_neg hid).trans hn, rfl, rfl, fun h => h, fun _ _ h => h⟩
  · rw [hget] at hn
    by_cases hid : id = p
    · exact ⟨n0, hid ▸ hn0⟩
    · rw [if_neg hid] at hn; exact ⟨n', hn⟩

theorem Groups.refine {ops : FilterOps F} {ok : F → Prop} {c c' : Container F C} {g : List (Option F)}
    (hr : Refines ops ok c c') :
    ∀ {ids : List Nat} {s e : Nat}, Groups ops ok c g ids s e → Groups ops ok c' g ids s e
  | [], _, _, h => h
  | id :: rest, s, e, h => by
    obtain ⟨gn, h1, h2, h3, h4, h5, hrest⟩ := h
    obtain ⟨gn', e1, ec, ep, eo, es⟩ := hr.nodes id gn h1
    refine ⟨gn', e1, by rw [ep, hr.root]; exact h2, by rw [ec]; exact h3.frame hr.leaves, eo h4, ?_, ?_⟩
    · rw [ec]; exact h5.frame (fun _ _ => rfl) (fun k hk => es k h4 hk)
    · rw [ec]; exact Groups.refine hr hrest

theorem Inv.refine {ops : FilterOps F} {ok : F → Prop} {c c' : Container F C} {g : List (Option F)}
    (hinv : Inv ops ok c g) (hr : Refines ops ok c c') : Inv ops ok c' g := by
  refine ⟨hinv.glen.trans hr.clen.symm, hinv.gok, ?_⟩
  rcases hinv.shape with h | h
  · left
    obtain ⟨nd, h1, h2, h3, h4, h5, h6, h7, h8⟩ := h
    obtain ⟨nd', e1, ec, ep, eo, es⟩ := hr.nodes _ nd h1
    refine ⟨nd', by rw [hr.root]; exact e1, by rw [ep]; exact h2, ?_, by rw [ec, hr.clen]; exact h4,
      by rw [hr.clen, hr.groupSize]; exact h5, eo h6, ?_, ?_⟩
    · rw [ec, hr.root]; exact h3.frame hr.leaves
    · rw [hr.clen]; exact h7.frame (fun _ _ => rfl) (fun k hk => es k h6 hk)
    · intro id n hn
      obtain ⟨n0, hn0⟩ := hr.back id n hn
      rw [hr.root]; exact h8 id n0 hn0
  · right
    obtain ⟨rd, h1, h2, h3, h4, h5, h6, h7, h8, h9⟩ := h
    obtain ⟨rd', e1, ec, ep, eo, es⟩ := hr.nodes _ rd h1
    refine ⟨rd', by rw [hr.root]; exact e1, by rw [ep]; exact h2, by rw [ec]; exact h3,
      by rw [hr.clen, hr.groupSize]; exact h4, by rw [ec, hr.root]; exact h5, ?_, eo h7, ?_, ?_⟩
    · rw [ec, hr.clen]; exact Groups.refine hr h6
    · rw [hr.clen]; exact h8.frame (fun _ _ => rfl) (fun k hk => es k h7 hk)
    · intro id n hn
      obtain ⟨n0, hn0⟩ := hr.back id n hn
      rw [hr.root, ec]; exact h9 id n0 hn0

theorem remove_refines (ops : FilterOps F) (ok : F → Prop) (c : Container F C) (id : Nat) :
    Refines ops ok c (c.remove id).1 := by
  unfold remove
  split
  · exact Refines.setChildren ops ok c _ (by simp)
  · exact Refines.refl ops ok c

theorem pop_refines (ops : FilterOps F) (ok : F → Prop) (c : Container F C) : Refines ops ok c c.pop.1 := by
  unfold pop
  split
  · exact remove_refines ops ok c _
  · exact Refines.refl ops ok c

theorem offloadChildren_length (cops : ChildOps F C) (needed level selfLevel : Nat) :
    ∀ (chs : List (Option (FLeaf C))) (freed : Nat) (ps : List Nat),
      (offloadChildren cops needed level selfLevel chs freed ps).1.length = chs.length
  | [], _, _ => rfl
  | none :: rest, freed, ps => by
    simp only [offloadChildren, List.length_cons]
    rw [offloadChildren_length cops needed level selfLevel rest freed ps]
  | some lf :: rest, freed, ps => by
    simp only [offloadChildren]
    split
    · rfl
    · simp only [List.length_cons]
      rw [offloadChildren_length cops needed level selfLevel rest _ _]

theorem offloadRound_refines (laws : FilterLaws ops ok) (needed : Nat) :
    ∀ (ps : List Nat) (c : Container F C) (freed : Nat) (np : List Nat),
      Refines ops ok c (offloadRound ops needed ps c freed np).1
  | [], c, _, _ => Refines.refl ops ok c
  | p :: ps, c, freed, np => by
    simp only [offloadRound]
    split
    · exact Refines.refl ops ok c
    · cases hn : c.getNode p with
      | none => simp only []; exact offloadRound_refines laws needed ps c freed np
      | some n =>
        simp only []
        have hin : c.getInner p = some (.node n) := by
          unfold getNode at hn
          split at hn
          · rename_i n' h; cases hn; exact h
          · cases hn
        refine Refines.trans (Refines.offloadNode laws c p _ n hin ?_) (offloadRound_refines laws needed ps _ _ _)
        cases n.filter <;> rfl

theorem offloadNodes_refines (laws : FilterLaws ops ok) (needed : Nat) :
    ∀ (fuel : Nat) (c : Container F C) (freed : Nat) (ps : List Nat),
      Refines ops ok c (offloadNodes ops needed fuel c freed ps).1
  | 0, c, _, _ => Refines.refl ops ok c
  | fuel + 1, c, freed, [] => Refines.refl ops ok c
  | fuel + 1, c, freed, p :: ps => by
    simp only [offloadNodes]
    have h1 := offloadRound_refines laws needed (p :: ps) c freed []
    split
    · exact h1
    · exact h1.trans (offloadNodes_refines laws needed fuel _ _ _)

theorem offload_refines (laws : FilterLaws ops ok) (cops : ChildOps F C)
    (c : Container F C) (needed level : Nat) : Refines ops ok c (offload ops cops c needed level).1 := by
  unfold offload
  simp only []
  have h0 := Refines.setChildren ops ok c (offloadChildren cops needed level c.level c.children 0 []).1
    (offloadChildren_length cops needed level c.level c.children 0 [])
  split
  · exact h0
  · split
    · exact h0
    · exact h0.trans (offloadNodes_refines laws needed _ _ _ _)

/-- slot `j` of the children vector holds a child (it was not removed) -/
def present (c : Container F C) (j : Nat) : Bool := (c.getChild j).isSome

theorem walk_leaf {ops : FilterOps F} {c : Container F C} {rev : Bool} {k : Key} {f lid n j : Nat}
    (h : c.getInner lid = some (.leaf n j)) :
    walk ops c rev k (f + 1) lid = if present c j then [j] else [] := by
  simp only [walk, h]; rfl

theorem accepts_leaf {ops : FilterOps F} {c : Container F C} {k : Key} {lid n j : Nat}
    (h : c.getInner lid = some (.leaf n j)) : accepts ops c k lid = present c j := by
  simp only [accepts, h, present]

theorem walk_node {ops : FilterOps F} {c : Container F C} {rev : Bool} {k : Key} {f id : Nat} {nd : FNode F}
    (h : c.getInner id = some (.node nd)) :
    walk ops c rev k (f + 1) id =
      ((if rev then nd.children.reverse else nd.children).filter (accepts ops c k)).flatMap (walk ops c rev k f) := by
  simp only [walk, h]

theorem IsLeafRun.of_cons {c : Container F C} {n a : Nat} {rest : List Nat} {s : Nat}
    (h : IsLeafRun c n (a :: rest) s) : c.getInner a = some (.leaf n s) ∧ IsLeafRun c n rest (s + 1) :=
  ⟨h 0 (Nat.zero_lt_succ _), fun p hp => Nat.add_right_comm s 1 p ▸ h (p + 1) (Nat.succ_lt_succ hp)⟩

theorem walk_rev (ops : FilterOps F) (c : Container F C) (k : Key) :
    ∀ (f id : Nat), walk ops c true k f id = (walk ops c false k f id).reverse
  | 0, _ => rfl
  | f + 1, id => by
    cases h : c.getInner id with
    | none => simp [walk, h]
    | some x =>
      cases x with
      | leaf n j => rw [walk_leaf h, walk_leaf h]; split <;> rfl
      | node nd =>
        rw [walk_node h, walk_node h]
        simp only [if_true, Bool.false_eq_true, if_false, List.filter_reverse, List.flatMap_reverse]
        congr 2
        exact funext fun x => by rw [Function.comp, walk_rev ops c k f x, List.reverse_reverse]

theorem walk_present (ops : FilterOps F) (c : Container F C) (rev : Bool) (k : Key) :
    ∀ (f id : Nat), ∀ j ∈ walk ops c rev k f id, present c j = true
  | 0, _, _, hj => nomatch hj
  | f + 1, id, j, hj => by
    cases h : c.getInner id with
    | none => simp [walk, h] at hj
    | some x =>
      cases x with
      | leaf n l =>
        rw [walk_leaf h] at hj
        split at hj
        · next hp => rw [List.mem_singleton.mp hj]; exact hp
        · cases hj
      | node nd =>
        rw [walk_node h] at hj
        obtain ⟨x, _, hx⟩ := List.mem_flatMap.mp hj
        exact walk_present ops c rev k f x j hx

theorem walk_leafRun (ops : FilterOps F) (c : Container F C) (k : Key) (n f : Nat) :
    ∀ (ids : List Nat) (s : Nat), IsLeafRun c n ids s →
      (ids.filter (accepts ops c k)).flatMap (walk ops c false k (f + 1)) =
        (List.range' s ids.length).filter (present c)
  | [], _, _ => rfl
  | a :: rest, s, h => by
    obtain ⟨h0, hr⟩ := h.of_cons
    have ih := walk_leafRun ops c k n f rest (s + 1) hr
    simp only [List.length_cons, List.range'_succ, List.filter_cons, accepts_leaf h0]
    cases hp : present c s
    · simpa using ih
    · simp only [if_true, List.flatMap_cons, walk_leaf h0, hp, ih]
      rfl

theorem accepts_node_of_covers {ops : FilterOps F} {c : Container F C} {k : Key} {id : Nat} {nd : FNode F}
    (h : c.getInner id = some (.node nd)) (hc : ops.coversOpt nd.filter k) : accepts ops c k id = true := by
  simp only [accepts, h]
  cases hf : nd.filter with
  | none => rfl
  | some f =>
    rw [hf] at hc
    simp only [Option.map_some, bne_iff_ne, ne_eq, Option.some.injEq]
    exact hc

/-- forward walk over the group nodes `ids` -/
def groupsOut (ops : FilterOps F) (c : Container F C) (k : Key) (f : Nat) (ids : List Nat) : List Nat :=
  (ids.filter (accepts ops c k)).flatMap (walk ops c false k (f + 2))

theorem groupsOut_cons {ops : FilterOps F} {c : Container F C} {k : Key} {f id : Nat} {rest : List Nat}
    {gn : FNode F} {s : Nat} (hn : c.getInner id = some (.node gn)) (hrun : IsLeafRun c id gn.children s) :
    groupsOut ops c k f (id :: rest) =
      (if accepts ops c k id then (List.range' s gn.children.length).filter (present c) else []) ++
        groupsOut ops c k f rest := by
  simp only [groupsOut, List.filter_cons]
  split
  · rw [List.flatMap_cons, walk_node hn]
    simp only [Bool.false_eq_true, if_false]
    rw [walk_leafRun ops c k id f gn.children s hrun]
  · rfl

/-- the forward walk over groups that hold the slots `s … e-1` yields them in ascending order, and among the
    present ones every slot whose push-time filter covers the key -/
theorem groupsOut_spec (ops : FilterOps F) (ok : F → Prop) (c : Container F C) (g : List (Option F)) (k : Key)
    (f : Nat) : ∀ (ids : List Nat) (s e : Nat), Groups ops ok c g ids s e →
      (groupsOut ops c k f ids).Sublist (List.range' s (e - s)) ∧
      ∀ j, s ≤ j → j < e → present c j = true → ops.coversOpt (g.getD j none) k → j ∈ groupsOut ops c k f ids
  | [], s, e, h => ⟨by simp [groupsOut], fun j h1 h2 => by simp only [Groups] at h; omega⟩
  | id :: rest, s, e, h => by
    obtain ⟨gn, hn, _, hrun, _, hsup, hr⟩ := h
    have hle := Groups.le hr
    obtain ⟨ih1, ih2⟩ := groupsOut_spec ops ok c g k f rest _ e hr
    rw [groupsOut_cons hn hrun]
    refine ⟨?_, fun j h1 h2 hp hc => ?_⟩
    · rw [show e - s = gn.children.length + (e - (s + gn.children.length)) by omega, ← List.range'_append_1]
      refine List.Sublist.append ?_ ih1
      split
      · exact List.filter_sublist
      · exact List.nil_sublist _
    · by_cases hj : j < s + gn.children.length
      · apply List.mem_append_left
        rw [accepts_node_of_covers hn (hsup j h1 hj k hc), if_pos rfl]
        exact List.mem_filter.mpr ⟨List.mem_range'_1.mpr ⟨h1, hj⟩, hp⟩
      · exact List.mem_append_right _ (ih2 j (Nat.le_of_not_lt hj) h2 hp hc)

theorem iterPossible_rev (ops : FilterOps F) (c : Container F C) (k : Key) :
    iterPossible ops c true k = (iterPossible ops c false k).reverse :=
  walk_rev ops c k _ _

theorem iterPossible_present (ops : FilterOps F) (c : Container F C) (rev : Bool) (k : Key) :
    ∀ j ∈ iterPossible ops c rev k, present c j = true :=
  walk_present ops c rev k _ _

/-- under the invariant the forward iterator yields slots in ascending order, and among the present ones every
    slot whose push-time filter covers the key -/
theorem iterPossible_spec (c : Container F C) (g : List (Option F)) (k : Key)
    (hinv : Inv ops ok c g) :
    (iterPossible ops c false k).Sublist (List.range c.children.length) ∧
    (∀ j, present c j = true → ops.coversOpt (g.getD j none) k → j ∈ iterPossible ops c false k) := by
  have hlt : ∀ j, present c j = true → j < c.children.length := fun j hp => by
    unfold present getChild at hp
    cases hh : c.children[j]? with
    | none => rw [hh] at hp; cases hp
    | some o => exact (List.getElem?_eq_some_iff.mp hh).1
  unfold iterPossible
  rw [List.range_eq_range']
  rcases hinv.shape with h | h
  · obtain ⟨nd, hroot, _, hrun, hlen, _, _, _, _⟩ := h
    rw [walk_node hroot]
    simp only [Bool.false_eq_true, if_false]
    rw [walk_leafRun ops c k c.root c.inner.length nd.children 0 hrun, hlen]
    exact ⟨List.filter_sublist, fun j hp _ =>
      List.mem_filter.mpr ⟨List.mem_range'_1.mpr ⟨Nat.zero_le _, (Nat.zero_add _).symm ▸ hlt j hp⟩, hp⟩⟩
  · obtain ⟨rd, hroot, _, _, _, _, hgroups, _, _, _⟩ := h
    have hL := getInner_lt_length hroot
    obtain ⟨f, hf⟩ : ∃ f, c.inner.length + 1 = f + 2 := ⟨c.inner.length - 1, by omega⟩
    rw [walk_node hroot]
    simp only [Bool.false_eq_true, if_false]
    rw [hf]
    obtain ⟨h1, h2⟩ := groupsOut_spec ops ok c g k f rd.children 0 _ hgroups
    exact ⟨h1, fun j hp hc => h2 j (Nat.zero_le _) (hlt j hp) hp hc⟩

theorem leavesBelow_leaf {c : Container F C} {f id n j : Nat} (h : c.getInner id = some (.leaf n j)) :
    leavesBelow c (f + 1) id = [j] := by
  rw [leavesBelow]; simp only [h]

theorem leavesBelow_node {c : Container F C} {f id : Nat} {nd : FNode F} (h : c.getInner id = some (.node nd)) :
    leavesBelow c (f + 1) id = nd.children.flatMap (leavesBelow c f) := by
  rw [leavesBelow]; simp only [h]

theorem leavesBelow_leafRun (c : Container F C) (n f : Nat) :
    ∀ (ids : List Nat) (s : Nat), IsLeafRun c n ids s →
      ids.flatMap (leavesBelow c (f + 1)) = List.range' s ids.length
  | [], _, _ => rfl
  | a :: rest, s, h => by
    obtain ⟨h0, hr⟩ := h.of_cons
    rw [List.flatMap_cons, List.length_cons, List.range'_succ, leavesBelow_leaf h0,
      leavesBelow_leafRun c n f rest (s + 1) hr]
    rfl

/-- the filter of a node of the arena (if it has one) covers the push-time filter of every leaf below the node,
    removed ones included -/
theorem node_filter_sup_arena (c : Container F C) (g : List (Option F))
    (hinv : Inv ops ok c g) (id : Nat) (nd : FNode F) (hn : c.getInner id = some (.node nd)) :
    ∀ j ∈ leavesBelow c (c.inner.length + 2) id, ∀ k, ops.coversOpt (g.getD j none) k → ops.coversOpt nd.filter k := by
  intro j hj k hc
  rcases hinv.shape with h | h
  · obtain ⟨rd, hroot, _, hrun, hlen, _, _, hsup, honly⟩ := h
    cases honly id nd hn
    obtain rfl : nd = rd := by rw [hroot] at hn; cases hn; rfl
    rw [leavesBelow_node hroot, leavesBelow_leafRun c c.root c.inner.length _ 0 hrun, hlen] at hj
    exact hsup j (Nat.zero_le _) (List.mem_range'_1.mp hj).2 k hc
  · obtain ⟨rd, hroot, _, _, _, _, hgroups, _, hsup, honly⟩ := h
    have hL := getInner_lt_length hroot
    -- the leaves below a group are the slots of its run
    have hgrp : ∀ f gid, gid ∈ rd.children → ∀ j ∈ leavesBelow c (f + 2) gid, ∃ gn s,
        c.getInner gid = some (.node gn) ∧ SupRange ops g gn.filter s gn.children.length ∧
          s ≤ j ∧ j < s + gn.children.length ∧ s + gn.children.length ≤ c.children.length := by
      intro f gid hgid j hj
      obtain ⟨gn, s, h1, h2, h3, _, h5⟩ := hgroups.mem hgid
      rw [leavesBelow_node h1, leavesBelow_leafRun c gid f gn.children s h2] at hj
      exact ⟨gn, s, h1, h3, (List.mem_range'_1.mp hj).1, (List.mem_range'_1.mp hj).2, h5⟩
    rcases honly id nd hn with rfl | hmem
    · obtain rfl : nd = rd := by rw [hroot] at hn; cases hn; rfl
      rw [leavesBelow_node hroot] at hj
      obtain ⟨gid, hgid, hj⟩ := List.mem_flatMap.mp hj
      obtain ⟨f, hf⟩ : ∃ f, c.inner.length + 1 = f + 2 := ⟨c.inner.length - 1, by omega⟩
      rw [hf] at hj
      obtain ⟨_, _, _, _, _, h4, h5⟩ := hgrp f gid hgid j hj
      exact hsup j (Nat.zero_le _) (by rw [Nat.zero_add]; exact Nat.lt_of_lt_of_le h4 h5) k hc
    · obtain ⟨gn, s, h1, h3, h4, h5, _⟩ := hgrp _ id hmem j hj
      obtain rfl : nd = gn := by rw [h1] at hn; cases hn; rfl
      exact h3 j h4 h5 k hc

/-- under the invariant `push` never reaches its `unwrap()` on an empty root -/
theorem pushPanics_false (c : Container F C) (g : List (Option F))
    (hinv : Inv ops ok c g) : c.pushPanics = false := by
  unfold pushPanics
  rcases hinv.shape with h | h
  · obtain ⟨_, _, _, _, _, hlt, _⟩ := h
    simp [hlt]
  · obtain ⟨lg, hl⟩ := lastInnerNode_of_two h
    simp [hl]

theorem foldl_add_notContains (l : List FilterResult) (a : FilterResult) :
    l.foldl (· + ·) a = .notContains ↔ a = .notContains ∧ ∀ x ∈ l, x = .notContains := by
  induction l generalizing a with
  | nil => simp
  | cons x xs ih =>
    rw [List.foldl_cons, ih]
    cases a <;> cases x <;> simp [HAdd.hAdd, Add.add]

/-- the container's own `check_filter` says "not contains" only if every present child whose push-time filter
    covers the key says so -/
theorem checkFilter_no_fn (cops : ChildOps F C) (c : Container F C)
    (g : List (Option F)) (k : Key) (hinv : Inv ops ok c g) (j : Nat) (lf : FLeaf C)
    (hj : c.getChild j = some lf) (hc : ops.coversOpt (g.getD j none) k)
    (hchild : cops.checkFilter lf.data k ≠ .notContains) :
    checkFilter ops cops c k ≠ .notContains := by
  intro h
  unfold checkFilter at h
  rw [foldl_add_notContains] at h
  have hmem := (iterPossible_spec c g k hinv).2 j (by simp [present, hj]) hc
  exact hchild (h.2 _ (List.mem_filterMap.mpr ⟨j, hmem, by simp [hj]⟩))

end Container

theorem combinedLaws (h : Nat → Key → Nat) : FilterLaws (combinedOps h) Combined.WF where
  merge_ok := fun a b c r ha hb hm => Combined.merge_WF a b c r ha hb hm
  merge_sup := fun a b c k ha hb hm hx => Combined.merge_sup h a b c k ha hb hm hx
  offload_ok := fun a ha => Combined.offload_WF a ha
  offload_sup := fun a k _ hx => Combined.offload_containsFast h a k hx

namespace FBlob

/-- invariant of the filter state of a blob: while the index is in memory the (resident) filter covers every key
    of the index; once dumped, the file holds the image of a filter `c0` that covers every key and the blob's
    filter is `c0`, possibly with its bloom buffer off-loaded -/
def Inv (h : Nat → Key → Nat) (keyLen : Nat) (b : FBlob) : Prop :=
  match b.file with
  | none => b.filter.WF ∧ (∀ k ∈ b.keys, b.filter.containsFast h k ≠ .notContains) ∧
      (∀ bl, b.filter.bloom = some bl → bl.inner.isSome)
  | some (metaBuf, off) => ∃ c0 : Combined, serializeFilters keyLen c0 = some (metaBuf, off) ∧ c0.WF ∧
      (∀ k ∈ b.keys, c0.containsFast h k ≠ .notContains) ∧ (b.filter = c0 ∨ b.filter = c0.offload.1)

variable {h : Nat → Key → Nat} {keyLen : Nat}

theorem filter_of_inv {b : FBlob} (hb : b.Inv h keyLen) :
    b.filter.WF ∧ ∀ k ∈ b.keys, b.filter.containsFast h k ≠ .notContains := by
  unfold Inv at hb
  split at hb
  · exact ⟨hb.1, hb.2.1⟩
  · obtain ⟨c0, _, hwf, hcov, e | e⟩ := hb <;> rw [e]
    · exact ⟨hwf, hcov⟩
    · exact ⟨Combined.offload_WF c0 hwf, fun k hk => Combined.offload_containsFast h c0 k (hcov k hk)⟩

theorem filter_WF {b : FBlob} (hb : b.Inv h keyLen) : b.filter.WF :=
  (filter_of_inv hb).1

/-- the filter handed to the container (`get_filter_fast`) covers every key of the blob -/
theorem filter_covers {b : FBlob} (hb : b.Inv h keyLen) (k : Key)
    (hk : k ∈ b.keys) : b.filter.containsFast h k ≠ .notContains :=
  (filter_of_inv hb).2 k hk

theorem new_Inv (h : Nat → Key → Nat) (keyLen : Nat) (bloom : Option Bloom)
    (hbl : ∀ bl, bloom = some bl → bl.WF ∧ bl.inner.isSome) :
    Inv h keyLen { keys := [], filter := { bloom := bloom, range := Range.new } } :=
  ⟨⟨Range.new_WF, fun bl hb => (hbl bl hb).1⟩, nofun, fun bl hb => (hbl bl hb).2⟩

theorem push_Inv {b b' : FBlob} (k : Key) (hb : b.Inv h keyLen)
    (hp : b.push h k = some b') : b'.Inv h keyLen := by
  unfold push at hp
  cases hf : b.file with
  | some mo => rw [hf] at hp; cases hp
  | none =>
    rw [hf] at hp
    cases hp
    unfold Inv at hb ⊢
    rw [hf] at hb
    obtain ⟨hwf, hcov, hres⟩ := hb
    refine ⟨Combined.add_WF h _ k hwf, fun x hx => ?_, fun bl hbl => ?_⟩
    · rcases List.mem_append.mp hx with hx | hx
      · exact Combined.add_mono h _ k x (hcov x hx)
      · rw [List.mem_singleton.mp hx]
        exact Combined.add_contains h _ k hwf
    · obtain ⟨b0, hb0, rfl⟩ := Option.map_eq_some_iff.mp hbl
      rcases Bloom.add_cases h b0 k with ⟨e, _⟩ | ⟨_, _, _, e⟩ <;> rw [e]
      · exact hres b0 hb0
      · rfl

theorem dump_Inv {b b' : FBlob} (hb : b.Inv h keyLen)
    (hd : b.dump keyLen = some b') : b'.Inv h keyLen := by
  unfold dump at hd
  cases hf : b.file with
  | some mo => rw [hf] at hd; cases hd; exact hb
  | none =>
    rw [hf] at hd
    simp only at hd
    split at hd
    · cases hd; exact hb
    · obtain ⟨mo, hs, rfl⟩ := Option.map_eq_some_iff.mp hd
      unfold Inv at hb ⊢
      rw [hf] at hb
      exact ⟨b.filter, hs, hb.1, hb.2.1, Or.inl rfl⟩

theorem offload_Inv {b : FBlob} (hb : b.Inv h keyLen) :
    b.offload.1.Inv h keyLen := by
  unfold offload
  cases hf : b.file with
  | none => exact hb
  | some mo =>
    unfold Inv at hb ⊢
    rw [hf] at hb
    obtain ⟨c0, hs, hwf, hcov, hor⟩ := hb
    refine ⟨c0, hs, hwf, hcov, Or.inr ?_⟩
    rcases hor with e | e <;> simp only [e]
    obtain ⟨bloom, range⟩ := c0
    cases bloom <;> rfl

/-- a blob never answers "not contains" for a key of its index: in memory the index is consulted, on disk the
    filters are, the bloom buffer - resident or off-loaded - being probed in the file -/
theorem checkFilter_no_fn {b : FBlob} (hb : b.Inv h keyLen) (k : Key)
    (hk : k ∈ b.keys) : b.checkFilter h k ≠ .notContains := by
  unfold checkFilter
  unfold Inv at hb
  cases hf : b.file with
  | none => simp [hk]
  | some mo =>
    rw [hf] at hb
    obtain ⟨c0, hs, hwf, hcov, hor⟩ := hb
    simp only
    rw [Combined.contains_file_eq h keyLen c0 mo.1 mo.2 hwf hs k _ hor]
    exact hcov k hk

theorem checkFilterFast_no_fn {b : FBlob} (hb : b.Inv h keyLen) (k : Key)
    (hk : k ∈ b.keys) : b.checkFilterFast h k ≠ .notContains := by
  unfold checkFilterFast
  cases hf : b.file with
  | none => simp [hk]
  | some mo => exact filter_covers hb k hk

/-- the fields of the filter fit their wire types for keys of `keyLen` bytes -/
def Sized (keyLen : Nat) (c : Combined) : Prop :=
  (∀ bl, c.bloom = some bl → bl.Bounded) ∧ 2 * keyLen + 17 < 2 ^ 64 ∧
    c.range.min < 256 ^ keyLen ∧ c.range.max < 256 ^ keyLen

/-- `load`: the filter read back from the file covers every key of the index again (it is the dumped filter,
    up to the `bloom_is_on` switch: a disabled bloom is dropped, a missing one is read as the empty bloom) -/
theorem load_Inv {b b' : FBlob} (bloomIsOn : Bool) (hb : b.Inv h keyLen)
    (hsz : Sized keyLen b.filter) (hl : b.load bloomIsOn = some b') : b'.Inv h keyLen := by
  unfold load at hl
  cases hf : b.file with
  | none => rw [hf] at hl; cases hl; exact hb
  | some mo =>
    rw [hf] at hl
    unfold Inv at hb
    rw [hf] at hb
    obtain ⟨c0, hs, hwf, hcov, hor⟩ := hb
    have hsz0 : Sized keyLen c0 := by
      rcases hor with e | e <;> rw [e] at hsz
      · exact hsz
      · rw [Combined.offload_eq] at hsz
        exact ⟨fun bl hbl => hsz.1 bl.offload.1 (by simp [hbl]), hsz.2⟩
    have hrt := deserialize_serialize keyLen c0 mo.1 mo.2 hwf hsz0.1 hsz0.2.1 hsz0.2.2.1 hsz0.2.2.2 hs
    simp only [combinedOfFile, hrt, Option.map_some, Option.some.injEq] at hl
    subst hl
    -- the bloom filter read back: the dumped one, or the empty one, which excludes nothing
    have hbl : ∀ bl, (if bloomIsOn then some (c0.bloom.getD Bloom.empty) else none) = some bl →
        bl.WF ∧ bl.inner.isSome ∧ ∀ k, (∀ b0, c0.bloom = some b0 → b0.containsMem h k ≠ some .notContains) →
          bl.containsMem h k ≠ some .notContains := by
      intro bl e
      cases bloomIsOn with
      | false => cases e
      | true =>
        cases e
        cases hcb : c0.bloom with
        | none => exact ⟨Bloom.empty_WF, rfl, fun _ _ => by simp [Bloom.empty, Bloom.containsMem, ABV.new]⟩
        | some b0 =>
          obtain ⟨v, hv⟩ := serializeFilters_resident hs b0 hcb
          exact ⟨hwf.2 b0 hcb, by simp [hv], fun _ hk => hk b0 rfl⟩
    refine ⟨⟨hwf.1, fun bl e => (hbl bl e).1⟩, fun k hk => ?_, fun bl e => (hbl bl e).2.1⟩
    have := (Combined.containsFast_ne_notContains ..).mp (hcov k hk)
    exact (Combined.containsFast_ne_notContains ..).mpr ⟨this.1, fun bl e => (hbl bl e).2.2 k this.2⟩

end FBlob

namespace C10

def toy : Nat → Key → Nat := fun j k => 7 * k + 13 * j

def toyCfg : BloomConfig := { elements := 10, hashersCount := 2, maxBufBitsCount := 100, bufIncreaseStep := 1, fprBits := 0 }

/-- the blob that results from pushing the keys `ks` into an empty in-memory index -/
def toyBlob (ks : List Key) : FBlob :=
  ks.foldl (fun b k => (b.push toy k).getD b)
    { keys := [], filter := { bloom := some (Bloom.new toyCfg 100), range := Range.new } }

theorem toyBlob_inv (ks : List Key) : (toyBlob ks).Inv toy 1 := by
  unfold toyBlob
  have h0 : FBlob.Inv toy 1 { keys := [], filter := { bloom := some (Bloom.new toyCfg 100), range := Range.new } } :=
    FBlob.new_Inv toy 1 _ (fun bl hbl => by cases hbl; exact ⟨Bloom.new_WF _ _, rfl⟩)
  generalize ({ keys := [], filter := { bloom := some (Bloom.new toyCfg 100), range := Range.new } } : FBlob) = b0 at h0
  induction ks generalizing b0 with
  | nil => exact h0
  | cons k ks ih =>
    simp only [List.foldl_cons]
    apply ih
    cases hp : b0.push toy k with
    | none => exact h0
    | some b' => exact FBlob.push_Inv k h0 hp

end C10

end Pearl
