import Pearl.Model.Filter
/-
The filters of C10, each operation characterised once and the no-false-negative facts derived from that:
* bit vector: `get` is `testBit`; `set` keeps set bits; the little-endian image puts bit `i` of word `i / 64`
  at bit `i % 8` of byte `i / 8` (`file_probe_bit`), so probing the file reads the bit the memory test reads;
* bloom: `add` is the identity on a filter that cannot answer, else sets the probed bits (`add_cases`);
  `checked_add_assign` refuses or or-s word-wise (`merge_cases`); the saved image decodes to the filter
  (`Save.decode_encode`, `fromRaw_toRaw`);
* range: two initialised ranges merge into their hull; on a well-formed range `add` is the merge with a one-point
  range, so every fact about `add` follows from one about `merge_with`;
* combined: the fast check passes iff the range and the bloom filter (if any) pass; against the index file it was
  dumped into, the full check of the resident or off-loaded filter equals the fast check of the resident one.
The `WF` predicates say what the Rust types guarantee by construction (word counts, `u64` range, `min ≤ max`).
-/
namespace Pearl

theorem and_two_pow_eq (w j : Nat) : w &&& 2 ^ j = if w.testBit j then 2 ^ j else 0 := by
  apply Nat.eq_of_testBit_eq
  intro i
  rw [Nat.testBit_and, Nat.testBit_two_pow]
  by_cases hij : j = i
  · subst hij; cases w.testBit j <;> simp
  · cases w.testBit j <;> simp [hij]

/-- the Rust mask test `(w & (1 << j)) != 0` is `testBit` -/
theorem mask_test (w j : Nat) : (w &&& (1 <<< j) != 0) = w.testBit j := by
  rw [Nat.one_shiftLeft, and_two_pow_eq]
  cases w.testBit j <;> simp

@[simp] theorem fle64_length (n : Nat) : (fle64 n).length = 8 := by simp [fle64]

theorem unle_map_range (k n : Nat) :
    unle ((List.range k).map (fun j => (n >>> (8 * j)) % 256)) = n % 256 ^ k := by
  induction k generalizing n with
  | zero => simp [unle, Nat.mod_one]
  | succ k ih =>
    have hs : ∀ j, n >>> (8 * (j + 1)) = (n / 256) >>> (8 * j) := fun j => by
      rw [Nat.mul_add, Nat.add_comm, Nat.shiftRight_add, Nat.shiftRight_eq_div_pow n]
    rw [List.range_succ_eq_map, List.map_cons, List.map_map, unle]
    simp only [Function.comp_def, Nat.succ_eq_add_one, hs, ih]
    rw [Nat.pow_succ, Nat.mul_comm (256 ^ k), Nat.mod_mul]; rfl

theorem unle_le64 (n : Nat) (h : n < 2 ^ 64) : unle (fle64 n) = n := by
  rw [fle64, unle_map_range]; exact Nat.mod_eq_of_lt h

theorem fle64_getElem? (n p : Nat) : (fle64 n)[p]? = if p < 8 then some ((n >>> (8 * p)) % 256) else none := by
  unfold fle64
  rw [List.getElem?_map]
  by_cases h : p < 8
  · rw [List.getElem?_range h]; simp [h]
  · rw [List.getElem?_eq_none (by simp; omega)]; simp [h]

theorem wordsBytes_cons (w : Nat) (ws : List Nat) : wordsBytes (w :: ws) = fle64 w ++ wordsBytes ws := by
  simp [wordsBytes]

theorem wordsBytes_append (a b : List Nat) : wordsBytes (a ++ b) = wordsBytes a ++ wordsBytes b := by
  simp [wordsBytes]

@[simp] theorem wordsBytes_length (ws : List Nat) : (wordsBytes ws).length = 8 * ws.length := by
  induction ws with
  | nil => simp [wordsBytes]
  | cons w ws ih => rw [wordsBytes_cons, List.length_append, ih, fle64_length, List.length_cons]; omega

theorem wordsBytes_getElem? (ws : List Nat) (p : Nat) :
    (wordsBytes ws)[p]? = (ws[p / 8]?).map (fun w => (w >>> (8 * (p % 8))) % 256) := by
  induction ws generalizing p with
  | nil => simp [wordsBytes]
  | cons w ws ih =>
    rw [wordsBytes_cons, List.getElem?_append, fle64_length]
    split
    · next h => rw [fle64_getElem?, if_pos h, Nat.div_eq_of_lt h, Nat.mod_eq_of_lt h]; rfl
    · next h =>
      obtain ⟨q, rfl⟩ : ∃ q, p = q + 8 := ⟨p - 8, by omega⟩
      rw [ih, Nat.add_sub_cancel, Nat.add_div_right _ (by decide), Nat.add_mod_right, List.getElem?_cons_succ]

theorem file_probe_bit (ws : List Nat) (i : Nat) :
    getBitU8 ((wordsBytes ws).getD (i >>> 3) 0) (1 <<< (i % 8))
      = ((ws.getD (i / 64) 0) &&& (1 <<< (i % 64)) != 0) := by
  have hs : i >>> 3 = i / 8 := Nat.shiftRight_eq_div_pow i 3
  have h0 : i / 8 / 8 = i / 64 := Nat.div_div_eq_div_mul i 8 8
  have h2 : 8 * (i / 8 % 8) + i % 8 = i % 64 := (Nat.add_comm ..).trans (Nat.mod_mul (a := 8) (b := 8)).symm
  rw [getBitU8, mask_test, mask_test, List.getD_eq_getElem?_getD, List.getD_eq_getElem?_getD, wordsBytes_getElem?,
    hs, h0]
  cases ws[i / 64]? with
  | none => simp
  | some w =>
    simp only [Option.map_some, Option.getD_some]
    rw [show (256 : Nat) = 2 ^ 8 from rfl, Nat.testBit_mod_two_pow, Nat.testBit_shiftRight, h2]
    simp [Nat.mod_lt i (by decide : 0 < 8)]

namespace ABV

/-- shape invariant of an `AtomicBitVec`: exactly `items_count(bits)` words, each a `u64` -/
def WF (v : ABV) : Prop := v.data.length = itemsCount v.bits ∧ ∀ w ∈ v.data, w < 2 ^ 64

theorem get_eq (v : ABV) (i : Nat) : v.get i = (v.data.getD (i / 64) 0).testBit (i % 64) := mask_test _ _

theorem offset_lt {bits i : Nat} (h : i < bits) : i / 64 < itemsCount bits := by
  unfold itemsCount; split <;> omega

theorem itemsCount_le (bits : Nat) : itemsCount bits ≤ bits := by
  unfold itemsCount; split <;> omega

@[simp] theorem set_bits (v : ABV) (i : Nat) : (v.set i).bits = v.bits := rfl

@[simp] theorem set_length (v : ABV) (i : Nat) : (v.set i).data.length = v.data.length := by
  simp [set, offsetAndMask]

theorem get_set_self (v : ABV) (i : Nat) (h : i / 64 < v.data.length) : (v.set i).get i = true := by
  rw [get_eq]
  simp only [set, offsetAndMask, List.getD_eq_getElem?_getD, List.getElem?_modify]
  rw [List.getElem?_eq_getElem h]
  simp [Nat.one_shiftLeft]

theorem get_set_of_get (v : ABV) (i j : Nat) (h : v.get j = true) : (v.set i).get j = true := by
  rw [get_eq] at h ⊢
  simp only [set, offsetAndMask, List.getD_eq_getElem?_getD, List.getElem?_modify] at h ⊢
  cases hw : v.data[j / 64]? with
  | none => rw [hw] at h; simp at h
  | some w =>
    rw [hw] at h
    by_cases hij : i / 64 = j / 64 <;> simp_all

theorem set_WF (v : ABV) (i : Nat) (h : v.WF) : (v.set i).WF := by
  refine ⟨(set_length v i).trans h.1, fun w hw => ?_⟩
  simp only [set, offsetAndMask] at hw
  obtain ⟨j, hj, rfl⟩ := List.getElem_of_mem hw
  rw [List.getElem_modify]
  have hlt : v.data[j]'(by simpa using hj) < 2 ^ 64 := h.2 _ (List.getElem_mem _)
  split
  · refine Nat.or_lt_two_pow hlt ?_
    rw [Nat.one_shiftLeft]; exact Nat.pow_lt_pow_right (by decide) (by omega)
  · exact hlt

theorem foldl_set_induct {P : ABV → Prop} (hs : ∀ v i, P v → P (v.set i)) (is : List Nat) (v : ABV) (h : P v) :
    P (is.foldl set v) := by
  induction is generalizing v with
  | nil => exact h
  | cons i is ih => exact ih _ (hs v i h)

theorem foldl_set_bits (is : List Nat) (v : ABV) : (is.foldl set v).bits = v.bits :=
  foldl_set_induct (P := fun u => u.bits = v.bits) (fun _ _ h => h) is v rfl

theorem foldl_set_length (is : List Nat) (v : ABV) : (is.foldl set v).data.length = v.data.length :=
  foldl_set_induct (P := fun u => u.data.length = v.data.length) (fun u i h => (set_length u i).trans h) is v rfl

theorem get_foldl_set_of_get (is : List Nat) (v : ABV) (j : Nat) (h : v.get j = true) :
    (is.foldl set v).get j = true :=
  foldl_set_induct (fun u i => get_set_of_get u i j) is v h

theorem foldl_set_WF (is : List Nat) (v : ABV) (h : v.WF) : (is.foldl set v).WF :=
  foldl_set_induct set_WF is v h

theorem get_foldl_set_mem (is : List Nat) (v : ABV) (i : Nat) (hi : i ∈ is)
    (hb : ∀ p ∈ is, p / 64 < v.data.length) : (is.foldl set v).get i = true := by
  induction is generalizing v with
  | nil => cases hi
  | cons a is ih =>
    rw [List.foldl_cons]
    rcases List.mem_cons.mp hi with rfl | hmem
    · exact get_foldl_set_of_get _ _ _ (get_set_self v i (hb i (List.mem_cons_self ..)))
    · exact ih (v.set a) hmem (fun p hp => by rw [set_length]; exact hb p (List.mem_cons_of_mem _ hp))

theorem new_WF (bits : Nat) : (new bits).WF :=
  ⟨by simp [new], fun w hw => (List.mem_replicate.mp hw).2 ▸ Nat.two_pow_pos 64⟩

theorem new_get (bits i : Nat) : (new bits).get i = false := by
  rw [get_eq]
  simp only [new, List.getD_eq_getElem?_getD, List.getElem?_replicate]
  split <;> simp

theorem orWith_eq_some {v o r : ABV} (h : v.orWith o = some r) :
    v.bits = o.bits ∧ r = { v with data := List.zipWith (· ||| ·) v.data o.data } := by
  unfold orWith at h
  split at h
  · cases h
  · next hb => cases h; exact ⟨by simpa using hb, rfl⟩

theorem orWith_get (v o r : ABV) (hl : v.data.length = o.data.length) (h : v.orWith o = some r) (i : Nat) :
    r.get i = (v.get i || o.get i) := by
  obtain ⟨_, rfl⟩ := orWith_eq_some h
  simp only [get_eq, List.getD_eq_getElem?_getD, List.getElem?_zipWith]
  by_cases hi : i / 64 < v.data.length
  · rw [List.getElem?_eq_getElem hi, List.getElem?_eq_getElem (hl ▸ hi)]; simp
  · rw [List.getElem?_eq_none (by omega), List.getElem?_eq_none (by omega)]; simp

theorem orWith_WF (v o r : ABV) (hv : v.WF) (ho : o.WF) (h : v.orWith o = some r) : r.WF := by
  obtain ⟨hb, rfl⟩ := orWith_eq_some h
  refine ⟨?_, fun w hw => ?_⟩
  · simp only [List.length_zipWith]; rw [hv.1, ho.1, hb]; simp
  · obtain ⟨j, hj, rfl⟩ := List.getElem_of_mem hw
    rw [List.getElem_zipWith]
    exact Nat.or_lt_two_pow (hv.2 _ (List.getElem_mem _)) (ho.2 _ (List.getElem_mem _))

theorem toRawVec_cases (v : ABV) : v.toRawVec = [] ∨ v.toRawVec = v.data := by
  unfold toRawVec; split <;> simp

theorem fromRawSlice_toRawVec (v : ABV) (h : v.WF) : fromRawSlice v.toRawVec v.bits = some v := by
  obtain ⟨d, b⟩ := v
  obtain ⟨hl, _⟩ := h
  simp only [fromRawSlice, toRawVec] at hl ⊢
  by_cases hb : b = 0
  · subst hb; cases d <;> simp_all [itemsCount]
  · simp [hb, ← hl]

theorem fromRawSlice_WF (raw : List Nat) (bits : Nat) (v : ABV) (hr : ∀ w ∈ raw, w < 2 ^ 64)
    (h : fromRawSlice raw bits = some v) : v.WF ∧ v.bits = bits := by
  simp only [fromRawSlice] at h
  split at h
  · cases h
  · cases h
    exact ⟨⟨by simp only [List.length_take]; omega, fun w hw => hr w (List.mem_of_mem_take hw)⟩, rfl⟩

end ABV

namespace Bloom

/-- invariant of a `Bloom` value: the bit vector (when resident) is well-shaped and as long as `bits_count`;
    the hasher count is the configured one -/
def WF (b : Bloom) : Prop :=
  (∀ v, b.inner = some v → v.WF ∧ v.bits = b.bits) ∧ b.k = b.cfg.hashersCount

theorem positions_lt {h : Nat → Key → Nat} {k len : Nat} {key : Key} (hl : 0 < len) {p : Nat}
    (hp : p ∈ positions h k len key) : p < len := by
  simp only [positions, List.mem_map] at hp
  obtain ⟨j, _, rfl⟩ := hp
  exact Nat.mod_lt _ hl

theorem new_WF (cfg : BloomConfig) (bits : Nat) : (new cfg bits).WF :=
  ⟨fun v hv => by cases hv; exact ⟨ABV.new_WF bits, rfl⟩, rfl⟩

theorem empty_WF : empty.WF := new_WF BloomConfig.empty 0

theorem clear_WF (b : Bloom) (hb : b.WF) : b.clear.WF :=
  ⟨fun v hv => by cases hv; exact ⟨ABV.new_WF _, rfl⟩, hb.2⟩

theorem offload_WF (b : Bloom) (hb : b.WF) : b.offload.1.WF :=
  ⟨fun v hv => (by cases hv), hb.2⟩

theorem containsMem_eq_notContains (h : Nat → Key → Nat) (b : Bloom) (key : Key) :
    b.containsMem h key = some .notContains ↔
      ∃ v, b.inner = some v ∧ v.bits ≠ 0 ∧ ∃ p ∈ positions h b.k v.bits key, v.get p = false := by
  unfold containsMem
  cases b.inner with
  | none => simp
  | some v =>
    by_cases hz : v.bits = 0
    · simp [hz]
    · simp [hz, List.all_eq_true]

/-- `add` does nothing to a filter that is off-loaded or has no bits (and such a filter answers nothing);
    otherwise it sets the probed bits of the resident vector -/
theorem add_cases (h : Nat → Key → Nat) (b : Bloom) (key : Key) :
    (b.add h key = b ∧ ∀ x, b.containsMem h x = none) ∨
    ∃ v, b.inner = some v ∧ v.bits ≠ 0 ∧
      b.add h key = { b with inner := some ((positions h b.k v.bits key).foldl ABV.set v) } := by
  unfold add containsMem
  cases b.inner with
  | none => exact Or.inl ⟨rfl, fun _ => rfl⟩
  | some v =>
    by_cases hz : v.bits = 0
    · exact Or.inl (by simp [hz])
    · exact Or.inr ⟨v, rfl, hz, by simp [hz]⟩

theorem add_WF (h : Nat → Key → Nat) (b : Bloom) (key : Key) (hb : b.WF) : (b.add h key).WF := by
  rcases add_cases h b key with ⟨e, _⟩ | ⟨v, hv, _, e⟩ <;> rw [e]
  · exact hb
  · refine ⟨fun v' hv' => ?_, hb.2⟩
    cases hv'
    exact ⟨ABV.foldl_set_WF _ _ (hb.1 v hv).1, (ABV.foldl_set_bits _ _).trans (hb.1 v hv).2⟩

theorem add_contains (h : Nat → Key → Nat) (b : Bloom) (key : Key) (hb : b.WF) :
    (b.add h key).containsMem h key ≠ some .notContains := by
  rcases add_cases h b key with ⟨e, hn⟩ | ⟨v, hv, hz, e⟩ <;> rw [e]
  · rw [hn]; exact nofun
  · rw [Ne, containsMem_eq_notContains]
    rintro ⟨_, ⟨rfl⟩, _, p, hp, hg⟩
    rw [ABV.foldl_set_bits] at hp
    rw [ABV.get_foldl_set_mem _ v p hp (fun q hq => by
      rw [(hb.1 v hv).1.1]; exact ABV.offset_lt (positions_lt (Nat.pos_of_ne_zero hz) hq))] at hg
    cases hg

theorem add_mono (h : Nat → Key → Nat) (b : Bloom) (x y : Key)
    (hx : b.containsMem h x ≠ some .notContains) :
    (b.add h y).containsMem h x ≠ some .notContains := by
  rcases add_cases h b y with ⟨e, _⟩ | ⟨v, hv, hz, e⟩ <;> rw [e]
  · exact hx
  · rw [Ne, containsMem_eq_notContains] at hx ⊢
    rintro ⟨_, ⟨rfl⟩, _, p, hp, hg⟩
    rw [ABV.foldl_set_bits] at hp
    refine hx ⟨v, hv, hz, p, hp, ?_⟩
    cases hgv : v.get p with
    | false => rfl
    | true => rw [ABV.get_foldl_set_of_get _ _ _ hgv] at hg; cases hg

/-- `checked_add_assign` either refuses and leaves `self` alone, or or-s two resident vectors of equal length
    under equal hasher counts -/
theorem merge_cases (b o : Bloom) :
    b.merge o = (b, false) ∨
    ∃ v w r, b.inner = some v ∧ o.inner = some w ∧ b.k = o.k ∧ v.bits = w.bits ∧ v.orWith w = some r ∧
      b.merge o = ({ b with inner := some r }, true) := by
  unfold merge
  split
  · exact Or.inl rfl
  · next hk =>
    split
    · next v w hv hw =>
      split
      · next hbits =>
        split
        · next r hr => exact Or.inr ⟨v, w, r, hv, hw, by simpa using hk, by simpa using hbits, hr, rfl⟩
        · exact Or.inl rfl
      · exact Or.inl rfl
    · exact Or.inl rfl

theorem merge_ok (b o c : Bloom) (hm : b.merge o = (c, true)) :
    ∃ v w r, b.inner = some v ∧ o.inner = some w ∧ b.k = o.k ∧ v.bits = w.bits ∧ v.orWith w = some r ∧
      c = { b with inner := some r } := by
  rcases merge_cases b o with e | ⟨v, w, r, hv, hw, hk, hbits, hr, e⟩ <;> rw [e] at hm <;> cases hm
  exact ⟨v, w, r, hv, hw, hk, hbits, hr, rfl⟩

theorem merge_WF (b o c : Bloom) (ok : Bool) (hb : b.WF) (ho : o.WF) (hm : b.merge o = (c, ok)) : c.WF := by
  rcases merge_cases b o with e | ⟨v, w, r, hv, hw, _, _, hr, e⟩ <;> rw [e] at hm <;> cases hm
  · exact hb
  · refine ⟨fun r' hr' => ?_, hb.2⟩
    cases hr'
    exact ⟨ABV.orWith_WF v w r (hb.1 v hv).1 (ho.1 w hw).1 hr, (ABV.orWith_eq_some hr).2 ▸ (hb.1 v hv).2⟩

theorem merge_sup (h : Nat → Key → Nat) (b o c : Bloom) (x : Key) (hb : b.WF) (ho : o.WF)
    (hm : b.merge o = (c, true))
    (hx : b.containsMem h x ≠ some .notContains ∨ o.containsMem h x ≠ some .notContains) :
    c.containsMem h x ≠ some .notContains := by
  obtain ⟨v, w, r, hv, hw, hk, hbits, hr, rfl⟩ := merge_ok b o c hm
  have hlen : v.data.length = w.data.length := by rw [(hb.1 v hv).1.1, (ho.1 w hw).1.1, hbits]
  have hrb : r.bits = v.bits := (ABV.orWith_eq_some hr).2 ▸ rfl
  simp only [Ne, containsMem_eq_notContains] at hx ⊢
  rintro ⟨_, ⟨rfl⟩, hz, p, hp, hg⟩
  rw [hrb] at hz hp
  rw [ABV.orWith_get v w _ hlen hr, Bool.or_eq_false_iff] at hg
  rcases hx with hx | hx
  · exact hx ⟨v, hv, hz, p, hp, hg.1⟩
  · exact hx ⟨w, hw, hbits ▸ hz, p, hk ▸ hbits ▸ hp, hg.2⟩

theorem containsFast_eq_notContains (h : Nat → Key → Nat) (b : Bloom) (key : Key) :
    b.containsFast h key = .notContains ↔ b.containsMem h key = some .notContains := by
  unfold containsFast
  cases b.containsMem h key with
  | none => simp [default]
  | some r => simp

/-- `true ↦ NeedAdditionalCheck`, `false ↦ NotContains` -/
def FilterResult.ofBool (b : Bool) : FilterResult := bif b then .needAdditionalCheck else .notContains

theorem probeFile_eq (readByte : Nat → Option Nat) (start : Nat) (ws : List Nat) (is : List Nat)
    (hread : ∀ p, p < 8 * ws.length → readByte (start + p) = (wordsBytes ws)[p]?)
    (hin : ∀ i ∈ is, i / 64 < ws.length) :
    probeFile readByte start is =
      FilterResult.ofBool (is.all (fun i => (ws.getD (i / 64) 0) &&& (1 <<< (i % 64)) != 0)) := by
  induction is with
  | nil => rfl
  | cons i is ih =>
    have hi := hin i (List.mem_cons_self ..)
    have h8 : i >>> 3 < 8 * ws.length := by rw [Nat.shiftRight_eq_div_pow]; omega
    have hlen : i >>> 3 < (wordsBytes ws).length := by rw [wordsBytes_length]; exact h8
    have hbit := file_probe_bit ws i
    rw [List.getD_eq_getElem?_getD, List.getElem?_eq_getElem hlen, Option.getD_some] at hbit
    simp only [probeFile, offsetAndMaskU8, hread _ h8, List.getElem?_eq_getElem hlen, hbit, List.all_cons,
      ih (fun j hj => hin j (List.mem_cons_of_mem _ hj))]
    cases (ws.getD (i / 64) 0 &&& 1 <<< (i % 64) != 0) <;> rfl

/-- probing the saved image answers like the resident vector -/
theorem containsFile_eq_containsFast (h : Nat → Key → Nat) (b : Bloom) (v : ABV) (key : Key)
    (hb : b.WF) (hi : b.inner = some v) (readByte : Nat → Option Nat)
    (hread : ∀ p, p < 8 * v.toRawVec.length →
      readByte (b.bufferStartPosition + p) = (wordsBytes v.toRawVec)[p]?) :
    b.containsFile h readByte key = b.containsFast h key := by
  obtain ⟨hv, hbits⟩ := hb.1 v hi
  unfold containsFile containsFast containsMem
  rw [hi, ← hbits]
  by_cases hz : v.bits = 0
  · simp [hz, default]
  · have hf : (v.bits == 0) = false := by simpa using hz
    have hraw : v.toRawVec = v.data := by simp [ABV.toRawVec, hf]
    rw [hraw] at hread
    simp only [hf, Bool.false_eq_true, if_false]
    rw [probeFile_eq readByte _ v.data _ hread (fun i hi' => by
      rw [hv.1]; exact ABV.offset_lt (positions_lt (Nat.pos_of_ne_zero hz) hi'))]
    show FilterResult.ofBool ((positions h b.k v.bits key).all v.get) = _
    cases (positions h b.k v.bits key).all v.get <;> rfl

/-- what `containsFile` looks at is kept by `offload` -/
theorem containsFile_offload (h : Nat → Key → Nat) (b : Bloom) (readByte : Nat → Option Nat) (key : Key) :
    b.offload.1.containsFile h readByte key = b.containsFile h readByte key := rfl

theorem containsFast_offload (h : Nat → Key → Nat) (b : Bloom) (key : Key) :
    b.offload.1.containsFast h key = .needAdditionalCheck := rfl

/-- with the saved image behind it, the full check of the filter - resident or off-loaded - answers like the
    fast check of the resident one -/
theorem contains_file_eq (h : Nat → Key → Nat) (b : Bloom) (v : ABV) (key : Key)
    (hb : b.WF) (hi : b.inner = some v) (readByte : Nat → Option Nat)
    (hread : ∀ p, p < 8 * v.toRawVec.length →
      readByte (b.bufferStartPosition + p) = (wordsBytes v.toRawVec)[p]?)
    (b' : Bloom) (hb' : b' = b ∨ b' = b.offload.1) : b'.contains h readByte key = b.containsFast h key := by
  have hf := containsFile_eq_containsFast h b v key hb hi readByte hread
  rcases hb' with rfl | rfl
  · unfold contains
    cases hm : b'.containsMem h key with
    | some r => simp [containsFast, hm]
    | none => exact hf
  · exact hf

end Bloom

/-! ### the saved image of a bloom filter (`Save`): layout, and decoding inverts encoding -/

@[simp] theorem BloomConfig.encode_length (c : BloomConfig) : c.encode.length = 40 := by
  simp [BloomConfig.encode]

/-- in `bincode(Save)` the words start at `serialized_size(config) + 8` -/
theorem Save.drop_encode (s : Save) :
    s.encode.drop (s.config.serializedSize + 8) = wordsBytes s.buf ++ fle64 s.bitsCount := by
  unfold Save.encode
  rw [List.append_assoc (s.config.encode ++ fle64 s.buf.length)]
  exact List.drop_left' (by simp [BloomConfig.serializedSize])

theorem Bloom.save_eq_some {b : Bloom} {sv : Save} (hs : b.save = some sv) :
    ∃ v, b.inner = some v ∧ sv = { config := b.cfg, buf := v.toRawVec, bitsCount := v.bits } := by
  simp only [Bloom.save, Option.map_eq_some_iff] at hs
  obtain ⟨v, hv, rfl⟩ := hs
  exact ⟨v, hv, rfl⟩

theorem readWords_wordsBytes (ws rest : List Nat) (hw : ∀ w ∈ ws, w < 2 ^ 64) :
    readWords ws.length (wordsBytes ws ++ rest) = some (ws, rest) := by
  induction ws with
  | nil => rfl
  | cons w ws ih =>
    have h8 : ¬ (fle64 w ++ (wordsBytes ws ++ rest)).length < 8 := by simp
    rw [wordsBytes_cons, List.length_cons, List.append_assoc]
    simp only [readWords, h8, if_false, List.take_left' (fle64_length w), List.drop_left' (fle64_length w)]
    rw [ih (fun x hx => hw x (List.mem_cons_of_mem _ hx)), unle_le64 w (hw w (List.mem_cons_self ..))]

/-- every field of a `Save` fits its wire type -/
def Save.Bounded (s : Save) : Prop :=
  s.config.elements < 2 ^ 64 ∧ s.config.hashersCount < 2 ^ 64 ∧ s.config.maxBufBitsCount < 2 ^ 64 ∧
  s.config.bufIncreaseStep < 2 ^ 64 ∧ s.config.fprBits < 2 ^ 64 ∧ s.buf.length < 2 ^ 64 ∧
  (∀ w ∈ s.buf, w < 2 ^ 64) ∧ s.bitsCount < 2 ^ 64

theorem Save.decode_encode (s : Save) (trailing : List Nat) (hs : s.Bounded) :
    Save.decode (s.encode ++ trailing) = some s := by
  obtain ⟨h1, h2, h3, h4, h5, h6, h7, h8⟩ := hs
  have e1 := readWords_wordsBytes [s.config.elements, s.config.hashersCount, s.config.maxBufBitsCount,
      s.config.bufIncreaseStep, s.config.fprBits, s.buf.length]
      (wordsBytes s.buf ++ (wordsBytes [s.bitsCount] ++ trailing)) (by simpa using ⟨h1, h2, h3, h4, h5, h6⟩)
  have e2 := readWords_wordsBytes s.buf (wordsBytes [s.bitsCount] ++ trailing) h7
  have e3 := readWords_wordsBytes [s.bitsCount] trailing (by simpa using h8)
  simp only [List.length_cons, List.length_nil, Nat.zero_add, Nat.reduceAdd] at e1 e3
  have e : s.encode = wordsBytes [s.config.elements, s.config.hashersCount, s.config.maxBufBitsCount,
      s.config.bufIncreaseStep, s.config.fprBits, s.buf.length] ++ (wordsBytes s.buf ++ (wordsBytes [s.bitsCount] ++ [])) := by
    simp [Save.encode, BloomConfig.encode, wordsBytes, List.append_assoc]
  rw [e]
  simp only [List.append_assoc, List.nil_append, Save.decode, e1, e2, e3]

theorem Bloom.fromSave_save (b : Bloom) (sv : Save) (hb : b.WF) (hs : b.save = some sv) :
    Bloom.fromSave sv = some b := by
  obtain ⟨v, hi, rfl⟩ := Bloom.save_eq_some hs
  obtain ⟨hv, hbits⟩ := hb.1 v hi
  obtain ⟨inner, bits, k, cfg⟩ := b
  have hk : k = cfg.hashersCount := hb.2
  cases hi; cases hbits; subst hk
  simp only [Bloom.fromSave, ABV.fromRawSlice_toRawVec v hv, Option.map_some]

/-- the scalar fields of a bloom filter fit their wire type -/
def Bloom.Bounded (b : Bloom) : Prop :=
  (b.cfg.elements < 2 ^ 64 ∧ b.cfg.hashersCount < 2 ^ 64 ∧ b.cfg.maxBufBitsCount < 2 ^ 64 ∧
      b.cfg.bufIncreaseStep < 2 ^ 64 ∧ b.cfg.fprBits < 2 ^ 64) ∧ b.bits < 2 ^ 64

theorem Bloom.empty_Bounded : Bloom.empty.Bounded := by
  refine ⟨⟨?_, ?_, ?_, ?_, ?_⟩, ?_⟩ <;> exact Nat.two_pow_pos 64

theorem Bloom.save_bounded (b : Bloom) (sv : Save) (hb : b.WF) (hs : b.save = some sv) (hbd : b.Bounded) :
    sv.Bounded := by
  obtain ⟨v, hi, rfl⟩ := Bloom.save_eq_some hs
  obtain ⟨hv, hvb⟩ := hb.1 v hi
  obtain ⟨⟨c1, c2, c3, c4, c5⟩, hbits⟩ := hbd
  have hraw : v.toRawVec.length < 2 ^ 64 ∧ ∀ w ∈ v.toRawVec, w < 2 ^ 64 := by
    rcases v.toRawVec_cases with e | e <;> rw [e]
    · exact ⟨Nat.two_pow_pos 64, nofun⟩
    · exact ⟨hv.1 ▸ Nat.lt_of_le_of_lt (ABV.itemsCount_le _) (hvb ▸ hbits), hv.2⟩
  exact ⟨c1, c2, c3, c4, c5, hraw.1, hraw.2, hvb ▸ hbits⟩

theorem Bloom.fromRaw_toRaw (b : Bloom) (bs trailing : List Nat) (hb : b.WF) (hs : b.toRaw = some bs)
    (hbd : b.Bounded) : Bloom.fromRaw (bs ++ trailing) = some b := by
  simp only [Bloom.toRaw, Option.map_eq_some_iff] at hs
  obtain ⟨sv, hsv, rfl⟩ := hs
  rw [Bloom.fromRaw, Save.decode_encode sv trailing (Bloom.save_bounded b sv hb hsv hbd)]
  exact Bloom.fromSave_save b sv hb hsv

namespace Range

/-- an initialised range is non-empty (true of every value built by `new`/`add`/`merge`; a value read from
    a file is whatever the file says) -/
def WF (r : Range) : Prop := r.init = true → r.min ≤ r.max

theorem contains_iff (r : Range) (k : Key) : r.contains k = true ↔ r.init = true ∧ r.min ≤ k ∧ k ≤ r.max := by
  simp [contains, and_assoc]

theorem new_WF : new.WF := nofun

theorem mergeWith_empty_right {r o : Range} (ho : o.init = false) : r.mergeWith o = r := by
  simp [mergeWith, ho]

theorem mergeWith_empty_left {r o : Range} (hr : r.init = false) (ho : o.init = true) : r.mergeWith o = o := by
  obtain ⟨mn', mx', i'⟩ := o
  cases ho
  simp [mergeWith, hr]

theorem mergeWith_hull (r o : Range) (hr : r.init = true) (ho : o.init = true) :
    (r.mergeWith o).init = true ∧ (r.mergeWith o).min = Nat.min r.min o.min ∧
      (r.mergeWith o).max = Nat.max r.max o.max := by
  obtain ⟨mn, mx, i⟩ := r
  obtain ⟨mn', mx', i'⟩ := o
  cases hr; cases ho
  have e : mergeWith ⟨mn, mx, true⟩ ⟨mn', mx', true⟩ =
      ⟨if mn' < mn then mn' else mn, if mx' > mx then mx' else mx, true⟩ := by
    by_cases h1 : mn' < mn <;> by_cases h2 : mx' > mx <;> simp [mergeWith, h1, h2]
  rw [e]
  refine ⟨rfl, ?_, ?_⟩ <;> simp only <;> split
  · next h => exact (Nat.min_eq_right (Nat.le_of_lt h)).symm
  · next h => exact (Nat.min_eq_left (Nat.le_of_not_lt h)).symm
  · next h => exact (Nat.max_eq_right (Nat.le_of_lt h)).symm
  · next h => exact (Nat.max_eq_left (Nat.le_of_not_lt h)).symm

theorem mergeWith_sup (r o : Range) (x : Key) (h : r.contains x = true ∨ o.contains x = true) :
    (r.mergeWith o).contains x = true := by
  simp only [contains_iff] at h ⊢
  cases ho : o.init
  · rw [mergeWith_empty_right ho]; simpa [ho] using h
  · cases hr : r.init
    · rw [mergeWith_empty_left hr ho]; simpa [hr] using h
    · obtain ⟨e1, e2, e3⟩ := mergeWith_hull r o hr ho
      rw [e1, e2, e3]
      rcases h with ⟨_, h1, h2⟩ | ⟨_, h1, h2⟩
      · exact ⟨rfl, Nat.le_trans (Nat.min_le_left ..) h1, Nat.le_trans h2 (Nat.le_max_left ..)⟩
      · exact ⟨rfl, Nat.le_trans (Nat.min_le_right ..) h1, Nat.le_trans h2 (Nat.le_max_right ..)⟩

theorem mergeWith_WF (r o : Range) (hr : r.WF) (ho : o.WF) : (r.mergeWith o).WF := by
  cases ho' : o.init
  · rw [mergeWith_empty_right ho']; exact hr
  · cases hr' : r.init
    · rw [mergeWith_empty_left hr' ho']; exact ho
    · obtain ⟨_, e2, e3⟩ := mergeWith_hull r o hr' ho'
      intro _
      rw [e2, e3]
      exact Nat.le_trans (Nat.min_le_left ..) (Nat.le_trans (hr hr') (Nat.le_max_left ..))

/-- on a well-formed range `add` is the merge with the one-point range (the `else if` chain of `add` and the two
    independent tests of `merge_with` differ only when `min > max`) -/
theorem add_eq_mergeWith (r : Range) (k : Key) (h : r.WF) : r.add k = r.mergeWith ⟨k, k, true⟩ := by
  obtain ⟨mn, mx, i⟩ := r
  cases i
  · rfl
  · have hle : mn ≤ mx := h rfl
    by_cases h1 : k < mn
    · have h2 : ¬ k > mx := Nat.not_lt.mpr (Nat.le_trans (Nat.le_of_lt h1) hle)
      simp [add, mergeWith, h1, h2]
    · simp [add, mergeWith, h1]

theorem add_WF (r : Range) (k : Key) (h : r.WF) : (r.add k).WF := by
  rw [add_eq_mergeWith r k h]; exact mergeWith_WF _ _ h (fun _ => Nat.le_refl k)

theorem add_contains (r : Range) (k : Key) (h : r.WF) : (r.add k).contains k = true := by
  rw [add_eq_mergeWith r k h]; exact mergeWith_sup _ _ _ (Or.inr (by simp [contains]))

theorem add_mono (r : Range) (k x : Key) (h : r.contains x = true) : (r.add k).contains x = true := by
  have hw : r.WF := fun _ => Nat.le_trans ((contains_iff r x).mp h).2.1 ((contains_iff r x).mp h).2.2
  rw [add_eq_mergeWith r k hw]; exact mergeWith_sup _ _ _ (Or.inl h)

theorem clear_contains (r : Range) (x : Key) : r.clear.contains x = false := by
  simp [clear, contains]

theorem containsFast_eq_notContains (r : Range) (k : Key) :
    r.containsFast k = .notContains ↔ r.contains k = false := by
  unfold containsFast; cases r.contains k <;> simp

@[simp] theorem keyBytes_length (n : Nat) (k : Key) : (keyBytes n k).length = n := by
  induction n generalizing k with
  | zero => rfl
  | succ n ih => simp [keyBytes, ih]

theorem keyOfBytes_keyBytes (n : Nat) (k : Key) : keyOfBytes (keyBytes n k) = k % 256 ^ n := by
  induction n generalizing k with
  | zero => simp [keyBytes, keyOfBytes, Nat.mod_one]
  | succ n ih =>
    have := ih (k / 256)
    unfold keyOfBytes at this ⊢
    rw [keyBytes, List.foldl_append, List.foldl_cons, List.foldl_nil, this, Nat.pow_succ,
      Nat.mul_comm (256 ^ n) 256, Nat.mod_mul, Nat.mul_comm, Nat.add_comm]

theorem readWords_one (n : Nat) (rest : List Nat) (h : n < 2 ^ 64) :
    readWords 1 (fle64 n ++ rest) = some ([n], rest) := by
  simpa [wordsBytes] using readWords_wordsBytes [n] rest (by simpa using h)

@[simp] theorem toRaw_length (keyLen : Nat) (r : Range) : (r.toRaw keyLen).length = 2 * keyLen + 17 := by
  simp [toRaw]; omega

theorem fromRaw_toRaw (keyLen : Nat) (r : Range) (trailing : List Nat) (hk : keyLen < 2 ^ 64)
    (hmin : r.min < 256 ^ keyLen) (hmax : r.max < 256 ^ keyLen) :
    fromRaw (toRaw keyLen r ++ trailing) = some r := by
  have e : toRaw keyLen r ++ trailing = fle64 keyLen ++ (keyBytes keyLen r.min ++ (fle64 keyLen ++
      (keyBytes keyLen r.max ++ ((if r.init then 1 else 0) :: trailing)))) := by
    simp [toRaw, List.append_assoc]
  have l1 : ¬ (keyBytes keyLen r.min ++ (fle64 keyLen ++
      (keyBytes keyLen r.max ++ ((if r.init then 1 else 0) :: trailing)))).length < keyLen := by
    simp
  have l2 : ¬ (keyBytes keyLen r.max ++ ((if r.init then 1 else 0) :: trailing)).length < keyLen := by
    simp
  rw [e, fromRaw, readWords_one keyLen _ hk]
  simp only
  rw [if_neg l1, List.drop_left' (keyBytes_length _ _), List.take_left' (keyBytes_length _ _),
    readWords_one keyLen _ hk]
  simp only
  rw [if_neg l2, List.drop_left' (keyBytes_length _ _), List.take_left' (keyBytes_length _ _)]
  simp only [keyOfBytes_keyBytes, Nat.mod_eq_of_lt hmin, Nat.mod_eq_of_lt hmax]
  obtain ⟨mn, mx, i⟩ := r
  cases i <;> rfl

end Range

/-! ### the filters in the meta buffer of the index file: where `serializeFilters` puts the words of the bloom filter
    (that `deserializeFilters` reads back what was written is `deserialize_serialize`, after `Combined.WF`) -/

theorem serializeFilters_eq (keyLen : Nat) (c : Combined) (metaBuf : List Nat) (off : Nat)
    (hs : serializeFilters keyLen c = some (metaBuf, off)) :
    ∃ sv, (c.bloom.getD Bloom.empty).save = some sv ∧ off = 8 + (c.range.toRaw keyLen).length ∧
      metaBuf = fle64 (c.range.toRaw keyLen).length ++ c.range.toRaw keyLen ++ sv.encode := by
  simp only [serializeFilters] at hs
  split at hs
  · cases hs
  · next buf hbuf =>
    cases hs
    simp only [Bloom.toRaw, Option.map_eq_some_iff] at hbuf
    obtain ⟨sv, hsv, rfl⟩ := hbuf
    exact ⟨sv, hsv, rfl, rfl⟩

theorem serializeFilters_resident {keyLen : Nat} {c : Combined} {mo : List Nat × Nat}
    (hs : serializeFilters keyLen c = some mo) (b : Bloom) (hc : c.bloom = some b) : ∃ v, b.inner = some v := by
  obtain ⟨sv, hsv, _⟩ := serializeFilters_eq keyLen c mo.1 mo.2 hs
  rw [hc] at hsv
  obtain ⟨v, hv, _⟩ := Bloom.save_eq_some hsv
  exact ⟨v, hv⟩

/-- position of the word image in the meta buffer: `bloom_offset + buffer_start_position` -/
theorem serializeFilters_drop (keyLen : Nat) (c : Combined) (b : Bloom) (v : ABV) (metaBuf : List Nat) (off : Nat)
    (hc : c.bloom = some b) (hi : b.inner = some v)
    (hs : serializeFilters keyLen c = some (metaBuf, off)) :
    off = 8 + (c.range.toRaw keyLen).length ∧
    metaBuf.drop (off + b.bufferStartPosition) = wordsBytes v.toRawVec ++ fle64 v.bits := by
  obtain ⟨sv, hsv, hoff, hm⟩ := serializeFilters_eq keyLen c metaBuf off hs
  rw [hc] at hsv
  obtain ⟨v', hv', rfl⟩ := Bloom.save_eq_some hsv
  cases hi.symm.trans hv'
  refine ⟨hoff, ?_⟩
  rw [hm, hoff, ← List.drop_drop, List.drop_left' (by simp)]
  exact Save.drop_encode _

theorem metaReadByte_serializeFilters (keyLen : Nat) (c : Combined) (b : Bloom) (v : ABV) (metaBuf : List Nat)
    (off : Nat) (hc : c.bloom = some b) (hi : b.inner = some v)
    (hs : serializeFilters keyLen c = some (metaBuf, off)) (p : Nat) (hp : p < 8 * v.toRawVec.length) :
    metaReadByte metaBuf off (b.bufferStartPosition + p) = (wordsBytes v.toRawVec)[p]? := by
  have hd := (serializeFilters_drop keyLen c b v metaBuf off hc hi hs).2
  have : metaBuf[b.bufferStartPosition + p + off]? = (metaBuf.drop (off + b.bufferStartPosition))[p]? := by
    rw [List.getElem?_drop]; congr 1; omega
  rw [metaReadByte, this, hd, List.getElem?_append_left (by simpa using hp)]

/-! ### the combined filter: range and optional bloom filter together -/

namespace Combined

def WF (c : Combined) : Prop := c.range.WF ∧ ∀ b, c.bloom = some b → b.WF

theorem containsFast_ne_notContains (h : Nat → Key → Nat) (c : Combined) (k : Key) :
    c.containsFast h k ≠ .notContains ↔
      c.range.contains k = true ∧ ∀ b, c.bloom = some b → b.containsMem h k ≠ some .notContains := by
  unfold containsFast Range.containsFast
  cases c.range.contains k
  · simp
  · unfold bloomFast
    cases c.bloom with
    | none => simp
    | some b => simp [Bloom.containsFast_eq_notContains]

theorem add_WF (h : Nat → Key → Nat) (c : Combined) (k : Key) (hc : c.WF) : (c.add h k).WF := by
  refine ⟨Range.add_WF _ _ hc.1, fun b hb => ?_⟩
  obtain ⟨b0, hb0, rfl⟩ := Option.map_eq_some_iff.mp hb
  exact Bloom.add_WF h b0 k (hc.2 b0 hb0)

theorem add_contains (h : Nat → Key → Nat) (c : Combined) (k : Key) (hc : c.WF) :
    (c.add h k).containsFast h k ≠ .notContains := by
  refine (containsFast_ne_notContains ..).mpr ⟨Range.add_contains _ _ hc.1, fun b hb => ?_⟩
  obtain ⟨b0, hb0, rfl⟩ := Option.map_eq_some_iff.mp hb
  exact Bloom.add_contains h b0 k (hc.2 b0 hb0)

theorem add_mono (h : Nat → Key → Nat) (c : Combined) (k x : Key)
    (hx : c.containsFast h x ≠ .notContains) : (c.add h k).containsFast h x ≠ .notContains := by
  rw [containsFast_ne_notContains] at hx ⊢
  refine ⟨Range.add_mono _ _ _ hx.1, fun b hb => ?_⟩
  obtain ⟨b0, hb0, rfl⟩ := Option.map_eq_some_iff.mp hb
  exact Bloom.add_mono h b0 x k (hx.2 b0 hb0)

theorem bloomMerge_some {a o : Option Bloom} {r : Bloom} {ok : Bool} (hm : bloomMerge a o = (some r, ok)) :
    (a = some r ∧ ok = false) ∨ ∃ x y, a = some x ∧ o = some y ∧ x.merge y = (r, ok) := by
  unfold bloomMerge at hm
  split at hm
  · next x y => cases hm; exact Or.inr ⟨x, y, rfl, rfl, rfl⟩
  · cases hm
  · cases hm; exact Or.inl ⟨rfl, rfl⟩

theorem merge_eq (c o : Combined) :
    c.merge o = ({ bloom := (bloomMerge c.bloom o.bloom).1, range := c.range.mergeWith o.range },
      (bloomMerge c.bloom o.bloom).2) := rfl

theorem merge_WF (c o r : Combined) (ok : Bool) (hc : c.WF) (ho : o.WF) (hm : c.merge o = (r, ok)) : r.WF := by
  rw [merge_eq] at hm
  cases hm
  refine ⟨Range.mergeWith_WF _ _ hc.1 ho.1, fun b hb => ?_⟩
  rcases bloomMerge_some (Prod.ext hb rfl) with ⟨e, _⟩ | ⟨x, y, hx, hy, e⟩
  · exact hc.2 b e
  · exact Bloom.merge_WF x y b _ (hc.2 x hx) (ho.2 y hy) e

theorem merge_sup (h : Nat → Key → Nat) (c o r : Combined) (x : Key) (hc : c.WF) (ho : o.WF)
    (hm : c.merge o = (r, true))
    (hx : c.containsFast h x ≠ .notContains ∨ o.containsFast h x ≠ .notContains) :
    r.containsFast h x ≠ .notContains := by
  rw [merge_eq] at hm
  injection hm with hr hok
  subst hr
  simp only [containsFast_ne_notContains] at hx ⊢
  refine ⟨Range.mergeWith_sup _ _ _ (hx.imp And.left And.left), fun b hb => ?_⟩
  rcases bloomMerge_some (Prod.ext hb hok) with ⟨_, e⟩ | ⟨y, z, hy, hz, e⟩
  · cases e
  · exact Bloom.merge_sup h y z b x (hc.2 y hy) (ho.2 z hz) e (hx.imp (·.2 y hy) (·.2 z hz))

theorem offload_eq (c : Combined) :
    c.offload.1 = { c with bloom := c.bloom.map (fun b => b.offload.1) } := by
  obtain ⟨bloom, range⟩ := c
  cases bloom <;> rfl

theorem offload_containsFast (h : Nat → Key → Nat) (c : Combined) (x : Key)
    (hx : c.containsFast h x ≠ .notContains) : c.offload.1.containsFast h x ≠ .notContains := by
  rw [containsFast_ne_notContains] at hx ⊢
  rw [offload_eq]
  refine ⟨hx.1, fun b hb => ?_⟩
  obtain ⟨b0, _, rfl⟩ := Option.map_eq_some_iff.mp hb
  exact nofun

theorem offload_WF (c : Combined) (hc : c.WF) : c.offload.1.WF := by
  rw [offload_eq]
  refine ⟨hc.1, fun b hb => ?_⟩
  obtain ⟨b0, hb0, rfl⟩ := Option.map_eq_some_iff.mp hb
  exact Bloom.offload_WF b0 (hc.2 b0 hb0)

/-- against the index file it was dumped into, the full check of the filter - resident or off-loaded - answers
    exactly like the fast check of the resident filter -/
theorem contains_file_eq (h : Nat → Key → Nat) (keyLen : Nat) (c : Combined) (metaBuf : List Nat) (off : Nat)
    (hc : c.WF) (hs : serializeFilters keyLen c = some (metaBuf, off)) (x : Key)
    (c' : Combined) (hc' : c' = c ∨ c' = c.offload.1) :
    c'.contains h (metaReadByte metaBuf off) x = c.containsFast h x := by
  obtain ⟨f, hf, rfl⟩ : ∃ f : Bloom → Bloom, (∀ b, f b = b ∨ f b = b.offload.1) ∧
      c' = { c with bloom := c.bloom.map f } := by
    rcases hc' with rfl | rfl
    · exact ⟨id, fun _ => Or.inl rfl, by simp⟩
    · exact ⟨fun b => b.offload.1, fun _ => Or.inr rfl, offload_eq c⟩
  unfold contains containsFast
  cases c.range.containsFast x with
  | notContains => rfl
  | needAdditionalCheck =>
    cases hcb : c.bloom with
    | none => rfl
    | some b =>
      obtain ⟨v, hi⟩ := serializeFilters_resident hs b hcb
      exact Bloom.contains_file_eq h b v x (hc.2 b hcb) hi _
        (fun p hp => metaReadByte_serializeFilters keyLen c b v metaBuf off hcb hi hs p hp) (f b) (hf b)

theorem contains_offload_eq (h : Nat → Key → Nat) (keyLen : Nat) (c : Combined) (metaBuf : List Nat) (off : Nat)
    (hc : c.WF) (hs : serializeFilters keyLen c = some (metaBuf, off)) (x : Key) :
    c.offload.1.contains h (metaReadByte metaBuf off) x = c.containsFast h x :=
  contains_file_eq h keyLen c metaBuf off hc hs x _ (Or.inr rfl)

end Combined

/-- what `dump` writes is what `from_file` / `load` read back -/
theorem deserialize_serialize (keyLen : Nat) (c : Combined) (metaBuf : List Nat) (off : Nat)
    (hc : c.WF) (hbd : ∀ b, c.bloom = some b → b.Bounded) (hk : 2 * keyLen + 17 < 2 ^ 64)
    (hmin : c.range.min < 256 ^ keyLen) (hmax : c.range.max < 256 ^ keyLen)
    (hs : serializeFilters keyLen c = some (metaBuf, off)) :
    deserializeFilters metaBuf = some (c.bloom.getD Bloom.empty, c.range, off) := by
  have hB : (c.bloom.getD Bloom.empty).WF ∧ (c.bloom.getD Bloom.empty).Bounded := by
    cases hcb : c.bloom with
    | none => exact ⟨Bloom.empty_WF, Bloom.empty_Bounded⟩
    | some b => exact ⟨hc.2 b hcb, hbd b hcb⟩
  simp only [serializeFilters] at hs
  cases hraw : (c.bloom.getD Bloom.empty).toRaw with
  | none => rw [hraw] at hs; cases hs
  | some bloomBuf =>
    rw [hraw] at hs
    cases hs
    have hlen : ¬ (fle64 (c.range.toRaw keyLen).length ++ c.range.toRaw keyLen ++ bloomBuf).length < 8 := by
      simp
    have hlen2 : ¬ (c.range.toRaw keyLen ++ bloomBuf).length < (c.range.toRaw keyLen).length := by
      simp
    have e1 := Bloom.fromRaw_toRaw _ bloomBuf [] hB.1 hraw hB.2
    have e2 := Range.fromRaw_toRaw keyLen c.range [] (by omega) hmin hmax
    rw [List.append_nil] at e1 e2
    rw [deserializeFilters, if_neg hlen]
    simp only [List.append_assoc]
    rw [List.take_left' (fle64_length _), List.drop_left' (fle64_length _), unle_le64 _ (by simpa using hk),
      if_neg hlen2, List.drop_left, List.take_left, e1, e2, Range.toRaw_length, Nat.add_comm (2 * keyLen + 17) 8]

end Pearl
