import Pearl.Proofs.CancelRefine
/-
Lemmas for C14: `delete_in_closed` drives the delete futures of the closed blobs through
`FuturesUnordered` (src/storage/core.rs): when the storage-level future is dropped, SEVERAL per-blob deletes
can be suspended, each at its own await, each with its own detached closure, and all those closures finish.

The state of the cancelled `delete_in_closed` is a CUT VECTOR `cuts : Nat → Nat`: for the closed blob in slot
`i`, `cuts i` = the number of segments its own `Blob::delete` future has completed.  The product state
(`cancelClosedProduct`) cuts every blob's future at its own point.  This concurrent `delete_in_closed` is DEFINED here
(`cancelBlob`, `cancelClosedProduct`, `cancelDeleteProduct`); Pearl/Model/Cancel.lean has the sequential `deleteSegments`.
This file proves that the product state applies to every closed blob the kind of cut its own future made (`product_eq`;
slot by slot, against the blob's own cancelled future: `Pearl.C14.cancel_delete_product_states`), that the order in which the
effects of the different futures land is irrelevant (`product_perm`, `interleaving_product`), its L2 views, the
invariant, and that the sequential model of `deleteSegments` is the special case of "staircase" cut vectors.
-/
namespace Pearl.Cancel
open Pearl

/-! ### the product state and its normal form: every closed blob gets the kind of cut its own future made (`product_eq`) -/

/-- the `Blob::delete` future of the closed blob `p.2` in slot `p.1`, dropped after `k` segments, on its own -/
def cancelBlob (c : Cfg) (a : DArgs) (k : Nat) (p : Nat × CBlob) (s : CStore) : CStore :=
  cancelAfter k (blobDeleteItems c (CStore.onSlot p.1) a true p.2) s

/-- THE PRODUCT STATE: every closed blob's own future is cut at its own point (`cuts i` for the blob in
    slot `i`), and the closure each of them had handed to `spawn_blocking` finishes (`cancelAfter`).
    The effects are applied in the order of the list; `product_perm` / `interleaving_product`: any other order, and
    any interleaving of the individual actions, gives the same state. -/
def cancelClosedProduct (c : Cfg) (a : DArgs) (cuts : Nat → Nat) (L : List (Nat × CBlob)) (s : CStore) :
    CStore :=
  L.foldl (fun s p => cancelBlob c a (cuts p.1) p s) s

/-- the state of `Storage::delete` dropped inside `delete_in_closed` with cut vector `cuts`: the part before
    (`delS2`: active blob created if needed, `delete_in_active` completed, `blobs.write()` taken) is sequential -/
def cancelDeleteProduct (c : Cfg) (a : DArgs) (cuts : Nat → Nat) (s0 : CStore) : CStore :=
  cancelClosedProduct c a cuts (closedWithSlots (delS1 a s0)) (delS2 c a s0)

/-- the product state given by the KIND of cut of every slot -/
def prodState (c : Cfg) (a : DArgs) (kinds : Nat → Cut) (s : CStore) : CStore :=
  mapSlots (fun i b => cutB c a b (kinds i) b) s

/-- the kind of cut the vector `cuts` means for slot `i` of `s` -/
def kindAt (c : Cfg) (a : DArgs) (s : CStore) (cuts : Nat → Nat) (i : Nat) : Cut :=
  match s.slots[i]? with
  | some (some b) => cutOf c a true b (cuts i)
  | _ => .untouched

theorem cancelBlob_eq (c : Cfg) (a : DArgs) (k : Nat) (p : Nat × CBlob) (s : CStore) :
    cancelBlob c a k p s = CStore.onSlot p.1 (cutB c a p.2 (cutOf c a true p.2 k)) s :=
  (cancel_blobDelete ..).trans (cutOn_eq (onSlot_sel p.1) ..)

theorem product_eq (c : Cfg) (a : DArgs) (cuts : Nat → Nat) (s0 : CStore) :
    cancelDeleteProduct c a cuts s0 =
      prodState c a (kindAt c a (delS2 c a s0) cuts) (delS2 c a s0) := by
  unfold cancelDeleteProduct prodState cancelClosedProduct
  simp only [cancelBlob_eq]
  rw [foldl_onSlot_closed (fun i b0 => cutB c a b0 (cutOf c a true b0 (cuts i))) _ _ (by rw [delS2_eq])]
  apply mapSlots_congr
  intro i b hb
  unfold kindAt
  rw [hb]

/-- the product state depends on the cut vector at the slots that hold a closed blob only -/
theorem product_congr (c : Cfg) (a : DArgs) (cuts cuts' : Nat → Nat) (s0 : CStore)
    (h : ∀ (i : Nat) (b : CBlob), (delS2 c a s0).slots[i]? = some (some b) → cuts i = cuts' i) :
    cancelDeleteProduct c a cuts s0 = cancelDeleteProduct c a cuts' s0 := by
  rw [product_eq, product_eq]
  apply mapSlots_congr
  intro i b hb
  unfold kindAt
  rw [hb]
  simp only
  rw [h i b hb]

theorem onSlot_slot (i : Nat) (f : CBlob → CBlob) (s : CStore) (j : Nat) :
    (CStore.onSlot i f s).slots[j]? = if i = j then (s.slots[j]?).map (·.map f) else s.slots[j]? := by
  unfold CStore.onSlot
  simp only [List.getElem?_modify]
  split <;> cases s.slots[j]? <;> simp

theorem product_slot (c : Cfg) (a : DArgs) (cuts : Nat → Nat) (s0 : CStore) (i : Nat) (b : CBlob)
    (hb : (delS2 c a s0).slots[i]? = some (some b)) :
    (cancelDeleteProduct c a cuts s0).slots[i]? =
      some (some (cutB c a b (cutOf c a true b (cuts i)) b)) := by
  rw [product_eq, prodState, mapSlots_slot, hb]
  simp only [Option.map_some, kindAt, hb]

/-! ### every combination of possible kinds is reached by some cut vector (`product_reaches`) -/

/-- a cut that leaves the blob in the state `kind` -/
def cutFor (b : CBlob) : Cut → Nat
  | .untouched => 0
  | .orphan => preAwaits true b
  | .done => preAwaits true b + 1

/-- `Blob::delete` with `only_if_presented` starts with the await of `index.get_latest` -/
theorem cutOf_zero (c : Cfg) (a : DArgs) (b : CBlob) : cutOf c a true b 0 = .untouched :=
  if_pos (Or.inr (Nat.lt_add_right _ Nat.zero_lt_one))

theorem cutOf_cutFor (c : Cfg) (a : DArgs) (b : CBlob) (kind : Cut) (hv : kind.Valid c a true b) :
    cutOf c a true b (cutFor b kind) = kind := by
  cases kind with
  | untouched => exact cutOf_zero c a b
  | orphan =>
    unfold cutOf
    rw [if_neg (by rw [hv.1]; simp [cutFor]), if_pos ⟨hv.2, rfl⟩]
  | done => exact (cutOf_gt c a true b _ (Nat.lt_succ_self _)).trans (by rw [show needMarker a true b = true from hv]; rfl)

/-- every slot's kind is possible on the blob of that slot -/
def KindsValid (c : Cfg) (a : DArgs) (kinds : Nat → Cut) (s : CStore) : Prop :=
  ∀ i b, s.slots[i]? = some (some b) → (kinds i).Valid c a true b

theorem kindAt_valid (c : Cfg) (a : DArgs) (s : CStore) (cuts : Nat → Nat) :
    KindsValid c a (kindAt c a s cuts) s := by
  intro i b hb
  unfold kindAt
  rw [hb]
  exact cutOf_valid c a true b (cuts i)

/-- the cut vector that realises `kinds` -/
def cutsFor (s : CStore) (kinds : Nat → Cut) (i : Nat) : Nat :=
  match s.slots[i]? with
  | some (some b) => cutFor b (kinds i)
  | _ => 0

theorem product_reaches (c : Cfg) (a : DArgs) (kinds : Nat → Cut) (s0 : CStore)
    (hv : KindsValid c a kinds (delS2 c a s0)) :
    cancelDeleteProduct c a (cutsFor (delS2 c a s0) kinds) s0 = prodState c a kinds (delS2 c a s0) := by
  rw [product_eq]
  apply mapSlots_congr
  intro i b hb
  unfold kindAt cutsFor
  rw [hb]
  simp only
  rw [cutOf_cutFor c a b (kinds i) (hv i b hb)]

/-! ### the invariant in every product state -/

theorem cancelDeleteProduct_inv {c : Cfg} (a : DArgs) (cuts : Nat → Nat) (s0 : CStore)
    (h : StoreInv c s0) (hm : (serMeta a.entry.1.mt).length < 2 ^ 64) :
    StoreInv c (cancelDeleteProduct c a cuts s0) := by
  have h2 := delS2_inv a s0 h hm
  rw [product_eq]
  refine ⟨h2.active, fun b hb => ?_, h2.stray⟩
  obtain ⟨i, b0, hb0, rfl⟩ := mem_mapSlots hb
  exact cutB_inv a b0 _ hm (h2.closed b0 (List.mem_of_getElem? hb0))

/-! ### the L2 views of a product state; the sequential delete restricted to a subset of the slots (`delClosedOn`) -/

/-- L2: apply `G i` to the blob in slot `i` -/
def mapSlotsL2 (G : Nat → Blob → Blob) (S : Store) : Store :=
  { S with slots := S.slots.zipIdx.map (fun p => p.1.map (G p.2)) }

theorem mapSlotsL2_slot (G : Nat → Blob → Blob) (S : Store) (i : Nat) :
    (mapSlotsL2 G S).slots[i]? = (S.slots[i]?).map (·.map (G i)) := by
  unfold mapSlotsL2
  simp only [List.getElem?_map, List.getElem?_zipIdx, Option.map_map, Nat.zero_add]
  rfl

/-- the L2 store under a view of the blobs: `toStore` is `view CBlob.toBlob` (what the indexes know), `regen` is
    `view CBlob.regenBlob` (what the files hold) -/
def CStore.view (v : CBlob → Blob) (s : CStore) : Store :=
  { active := s.active.map v, slots := s.slots.map (·.map v), nextId := s.nextId, allowDup := s.allowDup }

theorem view_mapSlots (v : CBlob → Blob) (F : Nat → CBlob → CBlob) (G : Nat → Blob → Blob) (s : CStore)
    (h : ∀ i b, s.slots[i]? = some (some b) → v (F i b) = G i (v b)) :
    (mapSlots F s).view v = mapSlotsL2 G (s.view v) := by
  unfold CStore.view mapSlotsL2
  congr 1
  apply List.ext_getElem?
  intro i
  simp only [List.getElem?_map, mapSlots_slot, List.getElem?_zipIdx, Option.map_map, Nat.zero_add]
  match hs : s.slots[i]? with
  | none | some none => rfl
  | some (some b) => simp [h i b hs]

theorem toStore_prodState (c : Cfg) (a : DArgs) (kinds : Nat → Cut) (s : CStore) :
    (prodState c a kinds s).toStore = mapSlotsL2 (fun i => viewB a (kinds i)) s.toStore :=
  view_mapSlots CBlob.toBlob _ _ s (fun i b _ => toBlob_cutB c a b (kinds i))

theorem regen_prodState (c : Cfg) (a : DArgs) (kinds : Nat → Cut) (s : CStore) :
    (prodState c a kinds s).regen = mapSlotsL2 (fun i => fileB a (kinds i)) s.regen :=
  view_mapSlots CBlob.regenBlob _ _ s (fun i b _ => regenBlob_cutB c a b (kinds i))

/-- the completed `delete_in_closed` restricted to the closed blobs in the slots of `M` -/
def delClosedOn (c : Cfg) (a : DArgs) (M : Nat → Bool) (s : CStore) : CStore :=
  mapSlots (fun i b => if M i then delB c a true b else b) s

/-- L2: `Store.delete`'s treatment of the closed blobs, restricted to the slots of `M` -/
def deleteClosedOn (a : DArgs) (M : Nat → Bool) (S : Store) : Store :=
  mapSlotsL2 (fun i B => if M i then (Store.blobDelete B a.k a.ts a.m true).1 else B) S

/-- L2: the marker appended to the closed blobs in the slots of `M` -/
def markOn (a : DArgs) (M : Nat → Bool) (S : Store) : Store :=
  mapSlotsL2 (fun i B => if M i then Store.mark a.k a.ts a.m B else B) S

theorem toStore_delClosedOn (c : Cfg) (a : DArgs) (M : Nat → Bool) (s : CStore) :
    (delClosedOn c a M s).toStore = deleteClosedOn a M s.toStore := by
  refine view_mapSlots CBlob.toBlob _ _ s fun i b _ => ?_
  cases M i
  · rfl
  · exact toBlob_delB c a true b

theorem delClosedOn_all (c : Cfg) (a : DArgs) (s0 : CStore) :
    delClosedOn c a (fun _ => true) (delS2 c a s0) = runItems (deleteSegments c a s0) s0 := by
  unfold delClosedOn
  simp only [↓reduceIte]
  rw [mapSlots_const, delete_run, delS2_eq]

theorem delClosedOn_none (c : Cfg) (a : DArgs) (s : CStore) : delClosedOn c a (fun _ => false) s = s := by
  unfold delClosedOn
  simp only [Bool.false_eq_true, ↓reduceIte]
  rw [mapSlots_const]
  simp only [Option.map_id_fun', List.map_id_fun', id]

/-- the blobs whose marker is written AND indexed -/
def doneSet (kinds : Nat → Cut) (i : Nat) : Bool := decide (kinds i = .done)

/-- the blobs whose marker reached the file -/
def fileSet (kinds : Nat → Cut) (i : Nat) : Bool := decide (kinds i ≠ .untouched)

theorem doneSet_sub_fileSet (kinds : Nat → Cut) (i : Nat) (h : doneSet kinds i = true) :
    fileSet kinds i = true := by
  unfold doneSet at h
  unfold fileSet
  simp only [decide_eq_true_eq] at h
  simp [h]

theorem fileSet_sub_target (c : Cfg) (a : DArgs) (kinds : Nat → Cut) (s : CStore)
    (hv : KindsValid c a kinds s) (i : Nat) (b : CBlob) (hb : s.slots[i]? = some (some b))
    (h : fileSet kinds i = true) : needMarker a true b = true := by
  have := hv i b hb
  unfold fileSet at h
  cases hk : kinds i with
  | untouched => simp [hk] at h
  | orphan => rw [hk] at this; exact this.1
  | done => rw [hk] at this; exact this

theorem fileSet_eq_doneSet (c : Cfg) (a : DArgs) (kinds : Nat → Cut) (s : CStore)
    (hv : KindsValid c a kinds s) (hd : c.detached (entryLen c a.entry) = false)
    (i : Nat) (b : CBlob) (hb : s.slots[i]? = some (some b)) : fileSet kinds i = doneSet kinds i := by
  have := hv i b hb
  unfold fileSet doneSet
  cases hk : kinds i with
  | untouched => rfl
  | orphan =>
    rw [hk] at this
    have h2 : c.detached (entryLen c a.entry) = true := this.2
    rw [hd] at h2
    cases h2
  | done => rfl

/-! ### `forgetS`: equal up to where the indexes reside, hence `QEq`; the two views of a product state as subset deletes -/

/-- forget where the index of the blob resides -/
def forgetB (B : Blob) : Blob := { B with onDisk := false }

/-- forget where the indexes reside -/
def forgetS (S : Store) : Store :=
  { S with active := S.active.map forgetB, slots := S.slots.map (·.map forgetB) }

theorem closed_forgetS (S : Store) : (forgetS S).closed = S.closed.map forgetB :=
  filterMap_id_map forgetB S.slots

theorem blobs_forgetS (S : Store) : (forgetS S).blobs = S.blobs.map forgetB := by
  unfold Store.blobs
  rw [closed_forgetS, List.map_append]
  exact congrArg (_ ++ ·) Option.toList_map

theorem visit_forgetS (S : Store) : (forgetS S).visit = S.visit.map forgetB := by
  rw [Store.visit_eq, Store.visit_eq, blobs_forgetS, List.map_reverse]

theorem getLatestEntry_forgetS (S : Store) (k : Key) (m : Option Meta) :
    (forgetS S).getLatestEntry k m = S.getLatestEntry k m := by
  have hB : ∀ b : Blob, (forgetB b).getLatestEntry k m = b.getLatestEntry k m := by
    intro b; cases m <;> rfl
  rw [Store.getLatestEntry_eq_foldr, Store.getLatestEntry_eq_foldr, blobs_forgetS, List.foldr_map]
  simp only [hB]

theorem readAllMarked_forgetS (S : Store) (k : Key) : (forgetS S).readAllMarked k = S.readAllMarked k := by
  unfold Store.readAllMarked
  rw [visit_forgetS, List.map_map]
  rfl

theorem qeq_forgetS (S : Store) : QEq S (forgetS S) :=
  QEq.of_entries (fun k m => (getLatestEntry_forgetS S k m).symm) (fun k => (readAllMarked_forgetS S k).symm)
    (by unfold Store.recordsCount; rw [blobs_forgetS, List.map_map]; rfl) rfl

theorem qeq_of_forget {A B : Store} (h : forgetS A = forgetS B) : QEq A B :=
  (qeq_forgetS A).trans (by rw [h]; exact (qeq_forgetS B).symm)

theorem forgetS_mapSlotsL2_congr (G G' : Nat → Blob → Blob) (S : Store)
    (h : ∀ i B, S.slots[i]? = some (some B) → forgetB (G i B) = forgetB (G' i B)) :
    forgetS (mapSlotsL2 G S) = forgetS (mapSlotsL2 G' S) := by
  unfold forgetS
  have : (mapSlotsL2 G S).slots.map (·.map forgetB) = (mapSlotsL2 G' S).slots.map (·.map forgetB) := by
    apply List.ext_getElem?
    intro i
    simp only [List.getElem?_map, mapSlotsL2_slot]
    match hs : S.slots[i]? with
    | none | some none => rfl
    | some (some B) => simp [h i B hs]
  rw [this]
  rfl

theorem toStore_slot (s : CStore) (i : Nat) : s.toStore.slots[i]? = (s.slots[i]?).map (·.map CBlob.toBlob) := by
  unfold CStore.toStore
  simp only [List.getElem?_map]

/-- this session's view of a cut blob: unchanged up to where its index resides outside `doneSet`, `Store.blobDelete`
    of itself inside -/
theorem toBlob_cutB_doneSet (c : Cfg) (a : DArgs) (kinds : Nat → Cut) (i : Nat) (b : CBlob)
    (hv : (kinds i).Valid c a true b) :
    (doneSet kinds i = false ∧ forgetB (cutB c a b (kinds i) b).toBlob = forgetB b.toBlob) ∨
    (doneSet kinds i = true ∧
      (cutB c a b (kinds i) b).toBlob = (Store.blobDelete b.toBlob a.k a.ts a.m true).1) := by
  rw [toBlob_cutB]
  unfold doneSet
  generalize kinds i = kind at hv ⊢
  cases kind with
  | untouched => exact Or.inl ⟨rfl, rfl⟩
  | orphan => exact Or.inl ⟨rfl, rfl⟩
  | done =>
    have hn : (!true || (b.toBlob.getLatest a.k).isFound) = true := hv
    refine Or.inr ⟨rfl, ?_⟩
    rw [Store.blobDelete_fst, hn]
    rfl

theorem toStore_prodState_subset (c : Cfg) (a : DArgs) (kinds : Nat → Cut) (s : CStore)
    (hv : KindsValid c a kinds s) :
    forgetS (prodState c a kinds s).toStore = forgetS (delClosedOn c a (doneSet kinds) s).toStore := by
  rw [toStore_prodState, toStore_delClosedOn]
  apply forgetS_mapSlotsL2_congr
  intro i B hB
  rw [toStore_slot] at hB
  match hs : s.slots[i]? with
  | none | some none => rw [hs] at hB; cases hB
  | some (some b) =>
    rw [hs] at hB
    obtain rfl := Option.some.inj (Option.some.inj hB)
    rw [← toBlob_cutB c a b]
    rcases toBlob_cutB_doneSet c a kinds i b (hv i b hs) with ⟨hd, h⟩ | ⟨hd, h⟩ <;> rw [hd]
    · exact h
    · exact congrArg forgetB h

theorem regen_prodState_markOn (c : Cfg) (a : DArgs) (kinds : Nat → Cut) (s : CStore) :
    (prodState c a kinds s).regen = markOn a (fileSet kinds) s.regen := by
  rw [regen_prodState]
  unfold markOn fileSet
  congr 1
  funext i B
  cases kinds i <;> rfl

theorem regen_delClosedOn (c : Cfg) (a : DArgs) (M : Nat → Bool) (s : CStore)
    (hM : ∀ i b, s.slots[i]? = some (some b) → M i = true → needMarker a true b = true) :
    (delClosedOn c a M s).regen = markOn a M s.regen := by
  refine view_mapSlots CBlob.regenBlob _ _ s fun i b hb => ?_
  cases hMi : M i
  · rfl
  · simp only [↓reduceIte]
    show (delF c a true b b).regenBlob = _
    rw [delF_eq_cutB, hM i b hb hMi]
    exact regenBlob_cutB c a b .done

theorem regen_prodState_subset (c : Cfg) (a : DArgs) (kinds : Nat → Cut) (s : CStore)
    (hv : KindsValid c a kinds s) :
    (prodState c a kinds s).regen = (delClosedOn c a (fileSet kinds) s).regen := by
  rw [regen_prodState_markOn, regen_delClosedOn]
  exact fileSet_sub_target c a kinds s hv

/-! ### the sequential model: its cancel states are the product states at staircase cut vectors -/

/-- the items of the delete future of one closed blob -/
def closedItems (c : Cfg) (a : DArgs) (p : Nat × CBlob) : List (Item CStore) :=
  blobDeleteItems c (CStore.onSlot p.1) a true p.2

theorem cancelBlob_full (c : Cfg) (a : DArgs) (k : Nat) (hk : 3 ≤ k) (p : Nat × CBlob) (s : CStore) :
    cancelBlob c a k p s = runItems (closedItems c a p) s :=
  cancelAfter_ge _ k s (Nat.le_trans (awaits_blobDelete_le c _ a true p.2)
    (Nat.le_trans (Nat.succ_le_succ (preAwaits_le true p.2)) hk))

theorem cancelBlob_zero (c : Cfg) (a : DArgs) (p : Nat × CBlob) (s : CStore) : cancelBlob c a 0 p s = s := by
  unfold cancelBlob
  rw [cancel_blobDelete, cutOf_zero]
  rfl

theorem product_full (c : Cfg) (a : DArgs) (cuts : Nat → Nat) (L : List (Nat × CBlob)) (s : CStore)
    (h : ∀ q ∈ L, 3 ≤ cuts q.1) :
    cancelClosedProduct c a cuts L s = runItems (L.map (closedItems c a)).flatten s := by
  rw [runItems_flatten_map]
  induction L generalizing s with
  | nil => rfl
  | cons p L ih =>
    unfold cancelClosedProduct
    rw [List.foldl_cons, cancelBlob_full c a _ (h p (List.mem_cons_self ..))]
    exact ih _ (fun q hq => h q (List.mem_cons_of_mem _ hq))

theorem product_zero (c : Cfg) (a : DArgs) (cuts : Nat → Nat) (L : List (Nat × CBlob)) (s : CStore)
    (h : ∀ q ∈ L, cuts q.1 = 0) : cancelClosedProduct c a cuts L s = s := by
  induction L generalizing s with
  | nil => rfl
  | cons p L ih =>
    unfold cancelClosedProduct
    rw [List.foldl_cons, h p (List.mem_cons_self ..), cancelBlob_zero]
    exact ih _ (fun q hq => h q (List.mem_cons_of_mem _ hq))

/-- the cut vector of the sequential model: the blobs in the slots before `j` completed (3 is past the last await of
    any closed blob's future: `preAwaits_le`, `cancelBlob_full`), the blob in slot `j` is cut at `k`, the later ones
    have not started -/
def staircase (j k : Nat) (i : Nat) : Nat := if i < j then 3 else if i = j then k else 0

theorem closedWithSlots_sorted (s : CStore) : (closedWithSlots s).Pairwise (fun x y => x.1 < y.1) := by
  have hidx : (s.slots.zipIdx).Pairwise (fun p q => p.2 < q.2) :=
    List.pairwise_map.mp (List.zipIdx_map_snd 0 s.slots ▸ List.pairwise_lt_range')
  refine hidx.filterMap _ (fun p q hpq x hx y hy => ?_)
  obtain ⟨_, _, rfl⟩ := Option.map_eq_some_iff.mp hx
  obtain ⟨_, _, rfl⟩ := Option.map_eq_some_iff.mp hy
  exact hpq

theorem product_staircase (c : Cfg) (a : DArgs) (k : Nat) (L1 L2 : List (Nat × CBlob)) (p : Nat × CBlob)
    (s : CStore) (hs : (L1 ++ p :: L2).Pairwise (fun x y => x.1 < y.1)) :
    cancelClosedProduct c a (staircase p.1 k) (L1 ++ p :: L2) s =
      cancelBlob c a k p (runItems (L1.map (closedItems c a)).flatten s) := by
  obtain ⟨_, h2, h3⟩ := List.pairwise_append.mp hs
  obtain ⟨h4, _⟩ := List.pairwise_cons.mp h2
  have hfull := product_full c a (staircase p.1 k) L1 s (fun q hq => by
    unfold staircase; rw [if_pos (h3 q hq p (List.mem_cons_self ..))]; exact Nat.le_refl _)
  have hzero := fun s' => product_zero c a (staircase p.1 k) L2 s' (fun q hq => by
    have := h4 q hq
    unfold staircase
    rw [if_neg (by omega), if_neg (by omega)])
  unfold cancelClosedProduct at hfull hzero ⊢
  rw [List.foldl_append, hfull, List.foldl_cons, hzero, show staircase p.1 k p.1 = k by simp [staircase]]

theorem staircase_product (c : Cfg) (a : DArgs) (s0 : CStore) (j : Nat)
    (hj : j < (closedWithSlots (delS1 a s0)).length) (k : Nat) :
    cancelDeleteProduct c a (staircase ((closedWithSlots (delS1 a s0))[j]).1 k) s0 =
      cancelBlob c a k ((closedWithSlots (delS1 a s0))[j])
        (runItems ((delClosedItems c a (delS1 a s0)).take j).flatten (delS2 c a s0)) := by
  have hsplit := (List.take_append_drop j (closedWithSlots (delS1 a s0))).symm
  rw [← List.getElem_cons_drop hj] at hsplit
  unfold cancelDeleteProduct delClosedItems
  rw [← List.map_take]
  have := product_staircase c a k _ _ _ (delS2 c a s0) (hsplit ▸ closedWithSlots_sorted (delS1 a s0))
  rw [← hsplit] at this
  exact this

theorem closed_cancel_is_staircase (c : Cfg) (a : DArgs) (s0 t : CStore)
    (h : CancelStates (delClosedItems c a (delS1 a s0)).flatten (delS2 c a s0) t) :
    t = cancelDeleteProduct c a (fun _ => 0) s0 ∨
    ∃ j, ∃ hj : j < (closedWithSlots (delS1 a s0)).length, ∃ k,
      t = cancelDeleteProduct c a (staircase ((closedWithSlots (delS1 a s0))[j]).1 k) s0 := by
  rcases cancelStates_flatten _ _ _ h with h1 | ⟨j, hj, k, hk⟩
  · exact Or.inl (h1.trans (product_zero c a _ _ _ (fun _ _ => rfl)).symm)
  · have hj' : j < (closedWithSlots (delS1 a s0)).length := by simpa [delClosedItems] using hj
    refine Or.inr ⟨j, hj', k, ?_⟩
    rw [staircase_product c a s0 j hj' k, ← hk]
    simp [delClosedItems, cancelBlob]

/-! ### the order in which the futures are taken does not matter (`product_perm`) -/

theorem onSlot_comm (i j : Nat) (hij : i ≠ j) (f g : CBlob → CBlob) (s : CStore) :
    CStore.onSlot i f (CStore.onSlot j g s) = CStore.onSlot j g (CStore.onSlot i f s) := by
  unfold CStore.onSlot
  simp only
  congr 1
  apply List.ext_getElem?
  intro n
  simp only [List.getElem?_modify]
  cases s.slots[n]? with
  | none => rfl
  | some o =>
    by_cases h1 : i = n <;> by_cases h2 : j = n <;> simp [h1, h2]
    omega

theorem cancelBlob_comm (c : Cfg) (a : DArgs) (k1 k2 : Nat) (p q : Nat × CBlob) (hpq : p.1 ≠ q.1)
    (s : CStore) :
    cancelBlob c a k2 q (cancelBlob c a k1 p s) = cancelBlob c a k1 p (cancelBlob c a k2 q s) := by
  simp only [cancelBlob_eq]
  exact onSlot_comm _ _ (fun h => hpq h.symm) _ _ _

theorem slot_ne {L : List (Nat × CBlob)} (hnd : L.Pairwise (fun x y => x.1 ≠ y.1)) {i j : Nat}
    (hi : i < L.length) (hj : j < L.length) (hij : i ≠ j) : L[i].1 ≠ L[j].1 := by
  have hn : (L.map (·.1)).Nodup := List.pairwise_map.mpr hnd
  intro h
  exact hij ((List.getElem_inj (h₀ := by simpa using hi) (h₁ := by simpa using hj) hn).mp (by simpa using h))

theorem product_perm (c : Cfg) (a : DArgs) (cuts : Nat → Nat) (L L' : List (Nat × CBlob))
    (hp : L.Perm L') (hnd : L.Pairwise (fun x y => x.1 ≠ y.1)) (s : CStore) :
    cancelClosedProduct c a cuts L s = cancelClosedProduct c a cuts L' s := by
  unfold cancelClosedProduct
  apply List.Perm.foldl_eq' hp
  intro x hx y hy z
  obtain ⟨i, hi, rfl⟩ := List.getElem_of_mem hx
  obtain ⟨j, hj, rfl⟩ := List.getElem_of_mem hy
  by_cases hij : i = j
  · subst hij; rfl
  · exact cancelBlob_comm c a _ _ _ _ (slot_ne hnd hi hj hij) z

theorem closedWithSlots_nodup (s : CStore) : (closedWithSlots s).Pairwise (fun x y => x.1 ≠ y.1) :=
  (closedWithSlots_sorted s).imp (fun h => Nat.ne_of_lt h)

/-! ### nor does any interleaving of their actions (`interleaving_product`) -/

/-- the actions (closures handed to `spawn_blocking`, synchronous code) a future dropped after `k` segments
    has performed, in order -/
def effects {σ : Type} : Nat → List (Item σ) → List (σ → σ)
  | _, [] => []
  | k, .sync f :: rest => f :: effects k rest
  | 0, .await c :: _ => [c.getD id]
  | k + 1, .await c :: rest => c.getD id :: effects k rest

def runActs {σ : Type} (l : List (σ → σ)) (s : σ) : σ := l.foldl (fun s f => f s) s

theorem effects_sync {σ : Type} (k : Nat) (f : σ → σ) (rest : List (Item σ)) :
    effects k (.sync f :: rest) = f :: effects k rest := by
  cases k <;> rfl

theorem cancelAfter_eq_effects {σ : Type} (k : Nat) (items : List (Item σ)) (s : σ) :
    cancelAfter k items s = runActs (effects k items) s := by
  induction items generalizing k s with
  | nil => cases k <;> rfl
  | cons i rest ih =>
    cases i with
    | sync f => rw [cancelAfter_sync, effects_sync, ih]; rfl
    | await cl =>
      cases k with
      | zero => rfl
      | succ k => exact ih k _

/-- `l` is an interleaving of the lists `Ls`: it takes, step by step, the next element of one of them -/
inductive Interleaving {α : Type} : List (List α) → List α → Prop
  | done {Ls : List (List α)} : (∀ L ∈ Ls, L = []) → Interleaving Ls []
  | step {Ls : List (List α)} {l : List α} (j : Nat) (x : α) (rest : List α) :
      Ls[j]? = some (x :: rest) → Interleaving (Ls.set j rest) l → Interleaving Ls (x :: l)

theorem runActs_append {σ : Type} (l1 l2 : List (σ → σ)) (s : σ) :
    runActs (l1 ++ l2) s = runActs l2 (runActs l1 s) := by
  unfold runActs
  rw [List.foldl_append]

theorem runActs_comm {σ : Type} (x : σ → σ) (l : List (σ → σ)) (h : ∀ g ∈ l, ∀ s, x (g s) = g (x s)) (s : σ) :
    x (runActs l s) = runActs l (x s) := by
  induction l generalizing s with
  | nil => rfl
  | cons g l ih =>
    exact (ih (fun g' hg' => h g' (List.mem_cons_of_mem _ hg')) (g s)).trans
      (congrArg (runActs l) (h g (List.mem_cons_self ..) s))

/-- the head of list `j` can be done first if it commutes with the actions of the lists before `j` -/
theorem runActs_flatten_set {σ : Type} (Ls : List (List (σ → σ))) (j : Nat) (x : σ → σ) (rest : List (σ → σ))
    (hj : Ls[j]? = some (x :: rest))
    (hx : ∀ i < j, ∀ g ∈ (Ls[i]?).getD [], ∀ s, x (g s) = g (x s)) (s : σ) :
    runActs Ls.flatten s = runActs (Ls.set j rest).flatten (x s) := by
  induction Ls generalizing j s with
  | nil => cases hj
  | cons L Ls ih =>
    cases j with
    | zero => cases Option.some.inj hj; rfl
    | succ j =>
      rw [List.set_cons_succ, List.flatten_cons, List.flatten_cons, runActs_append, runActs_append,
        ih j hj (fun i hi => hx (i + 1) (Nat.succ_lt_succ hi)), runActs_comm x L (hx 0 (Nat.zero_lt_succ j))]

theorem interleaving_runActs {σ : Type} (Ls : List (List (σ → σ))) (l : List (σ → σ))
    (h : Interleaving Ls l)
    (hc : ∀ i j : Nat, i ≠ j → ∀ f ∈ (Ls[i]?).getD [], ∀ g ∈ (Ls[j]?).getD [], ∀ s, f (g s) = g (f s))
    (s : σ) : runActs l s = runActs Ls.flatten s := by
  induction h generalizing s with
  | done hall => rw [List.flatten_eq_nil_iff.mpr hall]
  | @step Ls l j x rest hj _ ih =>
    have hxj : x ∈ (Ls[j]?).getD [] := by rw [hj]; exact List.mem_cons_self ..
    -- the lists that remain hold actions of the lists there were
    have sub : ∀ n : Nat, ∀ u ∈ ((Ls.set j rest)[n]?).getD [], u ∈ (Ls[n]?).getD [] := by
      intro n u hu
      rw [List.getElem?_set] at hu
      split at hu
      · next hn =>
        subst hn
        split at hu
        · rw [hj]; exact List.mem_cons_of_mem _ hu
        · cases hu
      · exact hu
    show runActs l (x s) = _
    rw [ih (fun i k hik f hf g hg => hc i k hik f (sub i f hf) g (sub k g hg)) (x s)]
    exact (runActs_flatten_set Ls j x rest hj (fun i hi g hg => hc j i (Nat.ne_of_gt hi) x hxj g hg) s).symm

theorem effects_mem_run {σ : Type} (k : Nat) (items : List (Item σ)) (f : σ → σ)
    (hf : f ∈ effects k items) : ∃ it ∈ items, f = it.run := by
  induction items generalizing k with
  | nil => cases k <;> cases hf
  | cons i rest ih =>
    have tail : ∀ k, f ∈ effects k rest → ∃ it ∈ i :: rest, f = it.run := fun k h =>
      let ⟨it, hit, e⟩ := ih k h
      ⟨it, List.mem_cons_of_mem _ hit, e⟩
    cases i with
    | sync g =>
      rw [effects_sync] at hf
      rcases List.mem_cons.mp hf with rfl | hf
      · exact ⟨_, List.mem_cons_self .., rfl⟩
      · exact tail k hf
    | await cl =>
      cases k with
      | zero => exact ⟨_, List.mem_cons_self .., List.mem_singleton.mp hf⟩
      | succ k =>
        rcases List.mem_cons.mp hf with rfl | hf
        · exact ⟨_, List.mem_cons_self .., rfl⟩
        · exact tail k hf

theorem blobDelete_item_form {on : (CBlob → CBlob) → CStore → CStore} (hsel : BlobSel on) (c : Cfg)
    (a : DArgs) (oip : Bool) (b0 : CBlob) :
    ∀ it ∈ blobDeleteItems c on a oip b0, ∃ g, it.run = on g := by
  have hplain : ∀ it : Item CStore, it = .await none → ∃ g, it.run = on g :=
    fun it h => ⟨id, h ▸ funext fun s => (hsel.id s).symm⟩
  have hsync : ∀ (it : Item CStore) g, it = .sync (on g) → ∃ g, it.run = on g := fun _ g h => ⟨g, h ▸ rfl⟩
  intro it hit
  cases hn : needMarker a oip b0
  · rw [blobDeleteItems_noMarker c on a oip b0 hn] at hit
    exact hplain it (Plain.ite _ plain1 Plain.nil it hit)
  · rw [blobDeleteItems_marker c on a oip b0 hn] at hit
    rcases List.mem_append.mp hit with h | h
    · exact hplain it (plain_replicate _ it h)
    rcases List.mem_append.mp h with h | h
    · split at h
      · exact hsync it _ (List.mem_singleton.mp h)
      · cases h
    · unfold recWriteItems at h
      split at h
      · rcases List.mem_cons.mp h with rfl | h
        · exact ⟨_, rfl⟩
        · exact hsync it _ (List.mem_singleton.mp h)
      · rcases List.mem_cons.mp h with rfl | h
        · exact hsync _ _ rfl
        · exact hsync it _ (List.mem_singleton.mp h)

theorem mem_getD_map {α β : Type} {F : α → List β} {L : List α} {i : Nat} {f : β}
    (h : f ∈ ((L.map F)[i]?).getD []) : ∃ hi : i < L.length, f ∈ F L[i] := by
  rw [List.getElem?_map] at h
  match hL : L[i]? with
  | none => rw [hL] at h; cases h
  | some p =>
    obtain ⟨hi, rfl⟩ := List.getElem?_eq_some_iff.mp hL
    rw [hL] at h
    exact ⟨hi, h⟩

theorem runActs_product (c : Cfg) (a : DArgs) (cuts : Nat → Nat) (L : List (Nat × CBlob)) (s : CStore) :
    runActs (L.map (fun p => effects (cuts p.1) (closedItems c a p))).flatten s =
      cancelClosedProduct c a cuts L s := by
  induction L generalizing s with
  | nil => rfl
  | cons p L ih =>
    rw [List.map_cons, List.flatten_cons, runActs_append, ← cancelAfter_eq_effects, ih]
    rfl

theorem interleaving_product (c : Cfg) (a : DArgs) (cuts : Nat → Nat) (L : List (Nat × CBlob))
    (hnd : L.Pairwise (fun x y => x.1 ≠ y.1)) (l : List (CStore → CStore))
    (h : Interleaving (L.map (fun p => effects (cuts p.1) (closedItems c a p))) l) (s : CStore) :
    runActs l s = cancelClosedProduct c a cuts L s := by
  rw [← runActs_product]
  apply interleaving_runActs _ _ h
  intro i j hij f hf g hg s'
  obtain ⟨hi, hf⟩ := mem_getD_map hf
  obtain ⟨hj, hg⟩ := mem_getD_map hg
  obtain ⟨it1, hit1, rfl⟩ := effects_mem_run _ _ _ hf
  obtain ⟨it2, hit2, rfl⟩ := effects_mem_run _ _ _ hg
  obtain ⟨g1, hg1⟩ := blobDelete_item_form (onSlot_sel _) c a true _ it1 hit1
  obtain ⟨g2, hg2⟩ := blobDelete_item_form (onSlot_sel _) c a true _ it2 hit2
  rw [hg1, hg2]
  exact onSlot_comm _ _ (slot_ne hnd hi hj hij) _ _ _

/-! ### cut vectors given per blob id -/

/-- a cut vector given per BLOB ID, as a cut vector per slot (the slot number identifies a closed blob even in a
    state whose blob ids are not known to be distinct; every theorem about `cancelDeleteProduct` is for all cut
    vectors, in particular for these) -/
def cutsOfIds (s : CStore) (f : Nat → Nat) (i : Nat) : Nat :=
  match s.slots[i]? with
  | some (some b) => f b.id
  | _ => 0

end Pearl.Cancel
