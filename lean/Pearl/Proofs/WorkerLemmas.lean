import Pearl.Model.Worker
import Pearl.Proofs.ListLemmas
/-
Lemmas about the worker model (`Pearl/Model/Worker.lean`): every arm of `process_msg` once (`ArmEnd`), one iteration per
message and policy, the loop machine; the property theorems are in `Pearl/Props/C13.lean`.
-/
namespace Pearl

/-! ### what a finished dump task and a rotation do to the closed blobs -/

/-- a finished dump task has put the index of every closed non-empty blob on disk -/
theorem closed_settle (s : Store) :
    s.settle.closed = s.closed.map (fun b => if b.recs.isEmpty then b else { b with onDisk := true }) :=
  filterMap_id_map _ s.slots

theorem settle_onDisk {s : Store} {b : Blob} (h : b ∈ s.settle.closed) (hne : b.recs ≠ []) : b.onDisk = true := by
  rw [closed_settle] at h
  obtain ⟨b0, _, rfl⟩ := List.mem_map.1 h
  split
  · rename_i he; rw [if_pos he] at hne; simp_all
  · rfl

theorem settle_preserves {s : Store} {b : Blob} (h : b ∈ s.closed) :
    ∃ b' ∈ s.settle.closed, b'.id = b.id ∧ b'.recs = b.recs :=
  ⟨_, closed_settle s ▸ List.mem_map_of_mem h, by split <;> exact ⟨rfl, rfl⟩⟩

theorem mem_closed_replaceActive {s : Store} {a : Blob} (h : s.active = some a) : a ∈ s.replaceActive.closed := by
  simp [Store.closed, Store.replaceActive, Store.createActive, h]

/-! ### the arms of `process_msg` -/

namespace Worker

theorem tryRunDump_eq (w : WState) : tryRunDump w = ({ w with dumpRunning := true }, !w.dumpRunning) := by
  obtain ⟨st, al, df, dr, fr⟩ := w
  cases dr <;> rfl

theorem tryRunDump_store (w : WState) : (tryRunDump w).1.store = w.store := by rw [tryRunDump_eq]

theorem tryRunDump_dumpRunning (w : WState) : (tryRunDump w).1.dumpRunning = true := by rw [tryRunDump_eq]

theorem tryRunDump_deferred (w : WState) : (tryRunDump w).1.deferred = w.deferred := by rw [tryRunDump_eq]

theorem processDeferred_eq (w : WState) :
    processDeferred w = if w.deferred then { w with dumpRunning := true, deferred := w.dumpRunning } else w := by
  obtain ⟨st, al, df, dr, fr⟩ := w
  cases df <;> cases dr <;> rfl

theorem processE_tryUpdate_notFull {lim : Limits} {w : WState}
    (h : ∀ a, w.store.active = some a → lim.full a = false) :
    processE lim w (.op .tryUpdateActiveBlob none) = .ok w := by
  have : tryUpdateActive lim w = (w, false) := by
    unfold tryUpdateActive
    split
    · rfl
    · rename_i a hact; rw [h a hact]; rfl
  simp only [processE, processOp, predOk, this]
  rfl

/-- how an arm of `process_msg` can end: with the worker as alive as before, or with the error of
    `create_active_blob` / `close_active_blob` / `restore_active_blob` -/
def ArmEnd (w : WState) (t : OpType) : Except ErrKind WState → Prop
  | .ok w' => w'.alive = w.alive
  | .error e =>
    (t = .createActiveBlob ∧ w.store.tryCreateActive = .error e) ∨
    (t = .closeActiveBlob ∧ w.store.closeActive = .error e) ∨
    (t = .restoreActiveBlob ∧ w.store.restoreActive = .error e)

theorem armEnd_dump {w : WState} {t : OpType} (w1 : WState) (h : w1.alive = w.alive) :
    ArmEnd w t (match tryRunDump w1 with
      | (w2, started) => if started then .ok w2 else .ok (deferDump w2)) := by
  rw [tryRunDump_eq]
  dsimp only
  split <;> exact h

theorem processOp_armEnd (lim : Limits) (w : WState) (t : OpType) (pred : Option BlobPred) :
    ArmEnd w t (processOp lim w t pred) := by
  unfold processOp
  split
  · exact rfl
  · cases t with
    | createActiveBlob =>
      cases h : w.store.tryCreateActive with
      | error e => exact .inl ⟨rfl, h⟩
      | ok s => exact rfl
    | closeActiveBlob =>
      cases h : w.store.closeActive with
      | error e => exact .inr (.inl ⟨rfl, h⟩)
      | ok s => exact rfl
    | restoreActiveBlob =>
      cases h : w.store.restoreActive with
      | error e => exact .inr (.inr ⟨rfl, h⟩)
      | ok s => exact rfl
    | forceUpdateActiveBlob => exact rfl
    | tryDumpBlobIndexes => exact armEnd_dump w rfl
    | tryUpdateActiveBlob =>
      have ha : (tryUpdateActive lim w).1.alive = w.alive := by
        unfold tryUpdateActive; split
        · rfl
        · split <;> rfl
      dsimp only
      split
      · split
        · exact ha
        · exact armEnd_dump _ ha
      · exact ha
    | deferredDumpBlobIndexes => exact rfl
    | tryFsyncData => show (tryRunFsync w).1.alive = _; unfold tryRunFsync; split <;> rfl

theorem processE_alive {lim : Limits} {w w' : WState} {m : Msg}
    (h : processE lim w m = .ok w') : w'.alive = w.alive := by
  cases m with
  | op t pred => have := processOp_armEnd lim w t pred; rwa [show processOp lim w t pred = _ from h] at this
  | deadlineDue => cases h; rw [processDeferred_eq]; split <;> rfl
  | dumpDone => cases h; split <;> rfl
  | fsyncDone => cases h; rfl

/-- `process_defered` has no failing path: the `?` that still leads from it to `panic!` is never taken.
    The same holds for the two task-completion events. -/
theorem processE_nonop_ok (lim : Limits) (w : WState) (m : Msg) (h : ∀ t pred, m ≠ .op t pred) :
    ∃ w', processE lim w m = .ok w' := by
  cases m with
  | op t pred => exact absurd rfl (h t pred)
  | deadlineDue => exact ⟨_, rfl⟩
  | dumpDone => exact ⟨_, rfl⟩
  | fsyncDone => exact ⟨_, rfl⟩

end Worker

open Worker

/-! ### one iteration and a run of the loop under an error policy -/

theorem processMsgWith_dead (p : ErrorPolicy) (lim : Limits) (w : WState) (m : Msg) (h : w.alive = false) :
    processMsgWith p lim w m = w := by
  simp [processMsgWith, h]

theorem runWorkerWith_dead (p : ErrorPolicy) (lim : Limits) (w : WState) (msgs : List Msg) (h : w.alive = false) :
    runWorkerWith p lim w msgs = w := by
  induction msgs with
  | nil => rfl
  | cons m ms ih => simp only [runWorkerWith, List.foldl_cons, processMsgWith_dead p lim w m h]; exact ih

theorem runWorkerWith_nil (p : ErrorPolicy) (lim : Limits) (w : WState) : runWorkerWith p lim w [] = w := rfl

theorem runWorkerWith_cons (p : ErrorPolicy) (lim : Limits) (w : WState) (m : Msg) (ms : List Msg) :
    runWorkerWith p lim w (m :: ms) = runWorkerWith p lim (processMsgWith p lim w m) ms := rfl

theorem runWorkerWith_append (p : ErrorPolicy) (lim : Limits) (w : WState) (a b : List Msg) :
    runWorkerWith p lim w (a ++ b) = runWorkerWith p lim (runWorkerWith p lim w a) b := by
  simp [runWorkerWith, List.foldl_append]

theorem processMsgWith_continue_alive (lim : Limits) (w : WState) (m : Msg) (h : w.alive = true) :
    (processMsgWith .logAndContinue lim w m).alive = true := by
  unfold processMsgWith
  simp only [h, Bool.not_true, Bool.false_eq_true, ↓reduceIte]
  cases he : processE lim w m with
  | error e => simpa using h
  | ok w' => simp only; rw [processE_alive he]; exact h

theorem processMsgWith_continue_error (lim : Limits) (w : WState) (m : Msg) (e : ErrKind)
    (he : processE lim w m = .error e) : processMsgWith .logAndContinue lim w m = w := by
  unfold processMsgWith
  split
  · rfl
  · simp [he]

theorem processMsgWith_panic_error (lim : Limits) (w : WState) (m : Msg) (e : ErrKind)
    (ha : w.alive = true) (he : processE lim w m = .error e) : (processMsgWith .panic lim w m).alive = false := by
  simp [processMsgWith, ha, he]

theorem processMsgWith_ok (p : ErrorPolicy) (lim : Limits) (w w' : WState) (m : Msg)
    (ha : w.alive = true) (he : processE lim w m = .ok w') : processMsgWith p lim w m = w' := by
  simp [processMsgWith, ha, he]

/-- the `TryDumpBlobIndexes` arm since the repair of E27: a task is running afterwards, and the request is
    registered as deferred if it could not start one -/
theorem processMsgWith_tryDump (p : ErrorPolicy) (lim : Limits) {w : WState} (ha : w.alive = true) :
    processMsgWith p lim w (.op .tryDumpBlobIndexes none) =
      { w with dumpRunning := true, deferred := w.deferred || w.dumpRunning } := by
  refine processMsgWith_ok p lim w _ _ ha ?_
  obtain ⟨st, al, df, dr, fr⟩ := w
  cases dr <;> cases df <;> rfl

/-- the `TryUpdateActiveBlob` arm on a full active blob: the blob is replaced, and its index dump is started at
    once unless one is already registered as deferred -/
theorem processMsgWith_tryUpdate_full (p : ErrorPolicy) {lim : Limits} {w : WState} {a : Blob} (ha : w.alive = true)
    (hact : w.store.active = some a) (hfull : lim.full a = true) :
    processMsgWith p lim w (.op .tryUpdateActiveBlob none) =
      { w with store := w.store.replaceActive, dumpRunning := w.dumpRunning || !w.deferred,
               deferred := w.deferred || w.dumpRunning } := by
  refine processMsgWith_ok p lim w _ _ ha ?_
  obtain ⟨st, al, df, dr, fr⟩ := w
  simp only [processE, processOp, predOk, tryUpdateActive, show st.active = some a from hact, hfull]
  cases dr <;> cases df <;> rfl

theorem processMsgWith_dumpDone (p : ErrorPolicy) (lim : Limits) {w : WState} (ha : w.alive = true) :
    processMsgWith p lim w .dumpDone =
      if w.dumpRunning then { w with store := w.store.settle, dumpRunning := false } else w :=
  processMsgWith_ok p lim w _ _ ha rfl

theorem processMsgWith_deadlineDue (p : ErrorPolicy) (lim : Limits) {w : WState} (ha : w.alive = true) :
    processMsgWith p lim w .deadlineDue =
      if w.deferred then { w with dumpRunning := true, deferred := w.dumpRunning } else w :=
  processMsgWith_ok p lim w _ _ ha (congrArg _ (processDeferred_eq w))

/-- whatever is pending - a running dump task, a deferred dump, or both - is carried out: nothing is left pending
    and a dump task has run to its end -/
theorem runWorkerWith_flush (p : ErrorPolicy) (lim : Limits) {w : WState} (ha : w.alive = true)
    (h : w.dumpRunning = true ∨ w.deferred = true) :
    ∃ s, runWorkerWith p lim w [.dumpDone, .deadlineDue, .dumpDone] =
      { w with store := s.settle, dumpRunning := false, deferred := false } ∧
      (s = w.store ∨ s = w.store.settle) := by
  obtain ⟨st, al, df, dr, fr⟩ := w
  simp only at ha h
  subst ha
  cases df <;> cases dr <;>
    simp [runWorkerWith, processMsgWith_dumpDone, processMsgWith_deadlineDue] at h ⊢
  · exact ⟨_, rfl, .inl rfl⟩
  · exact ⟨_, rfl, .inl rfl⟩
  · exact ⟨_, rfl, .inr rfl⟩

/-! ### the loop as a small-step machine computes `shutdownWith` -/

theorem loopN_not_running (p : ErrorPolicy) (lim : Limits) (n : Nat) (c : Cfg) (h : c.phase ≠ .running) :
    loopN p lim n c = c := by
  induction n generalizing c with
  | zero => rfl
  | succ n ih =>
    have : loopStep p lim c = c := by
      unfold loopStep
      split
      · rename_i hp; exact absurd hp h
      · rfl
    simp only [loopN, this]; exact ih c h

theorem loopN_spec (p : ErrorPolicy) (lim : Limits) (q : List Msg) (w : WState) (ha : w.alive = true) :
    let c := loopN p lim (q.length + 1) { w := w, queue := q, phase := .running }
    c.w = shutdownWith p lim w q ∧
    c.phase = (if (runWorkerWith p lim w q).alive then Phase.stopped else Phase.panicked) := by
  induction q generalizing w with
  | nil =>
    simp [loopN, loopStep, shutdownWith, runWorkerWith, ha]
  | cons m ms ih =>
    show
      (loopN p lim (ms.length + 1) (loopStep p lim { w := w, queue := m :: ms, phase := .running })).w =
        shutdownWith p lim w (m :: ms) ∧
      (loopN p lim (ms.length + 1) (loopStep p lim { w := w, queue := m :: ms, phase := .running })).phase =
        (if (runWorkerWith p lim w (m :: ms)).alive then Phase.stopped else Phase.panicked)
    rw [show loopStep p lim { w := w, queue := m :: ms, phase := .running } =
          { w := processMsgWith p lim w m, queue := ms,
            phase := if (processMsgWith p lim w m).alive then .running else .panicked } from rfl]
    cases hal : (processMsgWith p lim w m).alive with
    | true =>
      have := ih (processMsgWith p lim w m) hal
      simp only [↓reduceIte, shutdownWith, runWorkerWith_cons] at this ⊢
      exact this
    | false =>
      have hdead := runWorkerWith_dead p lim _ ms hal
      rw [loopN_not_running p lim _ _ (by simp)]
      simp [shutdownWith, runWorkerWith_cons, hdead, hal]

end Pearl
