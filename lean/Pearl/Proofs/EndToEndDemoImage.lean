import Pearl.Proofs.EndToEndMetaBytesBlob
/-
The index file with an inner node of the demonstrations of `Pearl/Props/EndToEnd.lean`: its image, opened, simulates the
structured file (`image_sim`), so what the look-ups find in the bytes is what they find in the structured file.
-/
namespace Pearl.E2E
open Pearl Pearl.BPTree

/-- the header of key `k`: 80 of them, keys of one byte, make two leaves under a root node (4764 bytes) -/
def DemoB.hd (k : Nat) : RecHeader :=
  { magicByte := RECORD_MAGIC_BYTE, key := [UInt8.ofNat k], metaSize := 8, dataSize := 1, flags := 0,
    blobOffset := 20 + 67 * k, timestamp := k, dataChecksum := 0, headerChecksum := 0 }
def DemoB.m80 : InMem RecHeader := indexOf ((List.range 80).map DemoB.hd)
def DemoB.F80 : IndexFile RecHeader := build (Params.real 1) 0 DemoB.m80
def DemoB.img80 : List Nat := imageOf (fun _ => List.replicate 32 0) DemoB.F80 [] 5400

namespace DemoB

theorem hd_ok : ∀ h ∈ (List.range 80).map hd, HdrOK 1 h := by
  intro h hh
  obtain ⟨i, hi, rfl⟩ := List.mem_map.mp hh
  have hi' : i < 80 := List.mem_range.mp hi
  refine ⟨rfl, rfl, show RECORD_MAGIC_BYTE < 2 ^ 64 by decide, show 1 < 2 ^ 64 by decide,
    show 8 < 2 ^ 64 by decide, show 1 < 2 ^ 64 by decide, ?_, ?_⟩
  · show 20 + 67 * i < 2 ^ 64
    omega
  · show i < 2 ^ 64
    omega

theorem size80 : F80.fileSize < 2 ^ 64 := by decide +kernel

theorem sim80 : Sim 1 5400 [] F80 (openedImage 1 [] m80 (List.replicate 32 0) 5400) :=
  image_sim 1 [] m80 (by decide) (indexOf_WF _) (List.replicate 32 0) (by decide) 5400 (by decide)
    (indexOf_keys_lt _ hd_ok) (indexOf_leaf_ok _ hd_ok) size80

theorem fromFile_img80 : BIdx.fromFile img80 = some (openedImage 1 [] m80 (List.replicate 32 0) 5400) :=
  fromFile_image 1 [] m80 (by decide) _ (by decide) 5400 size80

theorem img80_length : img80.length = F80.fileSize :=
  (rawFile_bytes_length 1 [] m80 (by decide) _ (by decide) 5400).1

theorem getLatest80 (k : Nat) :
    BIdx.getLatest 1 (openedImage 1 [] m80 (List.replicate 32 0) 5400) k = F80.getLatest k :=
  have hst := (build_read (Params.real 1) (valid_real 1 (by decide)) 0 m80 (indexOf_WF _) (by decide +kernel) k).1
  (getLatest_sim sim80 k _ hst).trans hst.symm

theorem findByKey80 (k : Nat) :
    BIdx.findByKey 1 (openedImage 1 [] m80 (List.replicate 32 0) 5400) k = F80.findByKey k :=
  have hst := (build_read (Params.real 1) (valid_real 1 (by decide)) 0 m80 (indexOf_WF _) (by decide +kernel) k).2
  (findByKey_sim sim80 k _ hst).trans hst.symm

end DemoB

end Pearl.E2E
