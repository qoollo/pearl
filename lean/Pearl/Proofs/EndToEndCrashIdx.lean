import Pearl.Model.EndToEndCrashIdx
import Pearl.Proofs.EndToEndStartStore
import Pearl.Proofs.EndToEndCrashServed
/-
Crash recovery with index files.

* the index file at every written length: every content the two-phase dump of `from_records` can leave on disk
  (`DumpStage.bytes`) and every proper prefix of a finished image is REJECTED by `IndexStruct::from_file`
  (`openIndex`) — for every blob size, never `accepted`, never `panic` — except the finished image itself;
* `Blob::from_file` (with the quarantine decision of `read_blobs`) on the CUT file of a blob of a reachable state,
  for every index-file content a crash can leave next to it (`fromFileQ_crash`);
* the storage: `Storage::init` with quarantine on the crashed directory WITH index files
  (`BState.crashRecoverWithIndexes`), for every index-file content a crash can leave (`IdxAtCrash`), returns the
  very storage the start-up with the index files REMOVED returns (`CState.crashRecover`, translated to bytes);
* side conditions of the recovered storage (the index files it writes are shorter than `2^64` bytes), the
  header-only condition in terms of the cut, and the list-level half of "`recoverWithIndexes` returns what
  `restartWithIndexes` returns" (`readBlobsIdx_of_startAllB`; the statement is `recover_with_indexes_extends_restart`
  of `Pearl/Props/EndToEndCrash.lean`).
The condition "no index file next to a blob cut back to its 20 header bytes" has three shapes: on the length of the cut
file (`hho` of `fromFileQ_crash`, the form the proof needs), as the field `DirAtCrash.headerOnly`, and on the cut
(`h20` of the Props theorems, the form a caller can check); `dirAtCrash_of_cut` turns the last into the second.
-/
namespace Pearl.E2E
open Pearl Pearl.BPTree Pearl.Container

section
variable {cfg : Cfg} {sha : List Nat → List Nat}

/-! ### list surgery: a header rewritten in place -/

/-- `write_all_at(0, A)` interrupted after `j` bytes over a file `B ++ R` whose first part has the length of `A` -/
theorem overwrite_prefix : ∀ (A B R : List Nat) (j : Nat), A.length = B.length →
    A.take j ++ (B ++ R).drop (A.take j).length = (A.take j ++ B.drop j) ++ R
  | [], [], R, j, _ => by simp
  | [], _ :: _, _, _, h => by simp at h
  | _ :: _, [], _, _, h => by simp at h
  | a :: A, b :: B, R, 0, _ => by simp
  | a :: A, b :: B, R, j + 1, h => by
    have ih := overwrite_prefix A B R j (by simpa using h)
    simp only [List.take_succ_cons, List.length_cons, List.cons_append, List.drop_succ_cons] at ih ⊢
    rw [ih]

/-- two headers that differ in one byte: a partial rewrite leaves the old one or the new one -/
theorem take_drop_one_byte (a b : Nat) (S : List Nat) : ∀ (P : List Nat) (j : Nat),
    (P ++ a :: S).take j ++ (P ++ b :: S).drop j = if j ≤ P.length then P ++ b :: S else P ++ a :: S
  | [], 0 => by simp
  | [], j + 1 => by simp
  | p :: P, 0 => by simp
  | p :: P, j + 1 => by
    have ih := take_drop_one_byte a b S P j
    simp only [List.cons_append, List.take_succ_cons, List.drop_succ_cons, List.length_cons,
      Nat.add_le_add_iff_right] at ih ⊢
    rw [ih]
    split <;> rfl

/-! ### the images, as header ++ body -/

theorem imageOfUnwritten_eq_V (sha : List Nat → List Nat) (f : IndexFile RecHeader) (mb : List Nat) (bs : Nat) :
    imageOfUnwritten sha f mb bs =
      indexHeaderBytesV (rawFile f) (imageHash sha f mb bs) 12 bs ++ indexBodyBytes (rawFile f) mb := rfl

theorem headerWritten_eq_V (sha : List Nat → List Nat) (f : IndexFile RecHeader) (mb : List Nat) (bs : Nat) :
    headerWritten sha f mb bs = indexHeaderBytesV (rawFile f) (imageHash sha f mb bs) 13 bs := rfl

/-- **phase 2 is atomic**: the file with the first `j` bytes of the header rewritten is the phase-1 buffer (the
    `written` byte, offset 72, not reached) or the finished image -/
theorem rewriting_bytes (sha : List Nat → List Nat) (f : IndexFile RecHeader) (mb : List Nat) (bs j : Nat)
    (hh : (imageHash sha f mb bs).length = 32) :
    (DumpStage.rewriting j).bytes sha f mb bs =
      if j ≤ 72 then imageOfUnwritten sha f mb bs else imageOf sha f mb bs := by
  obtain ⟨P, S, hP, hV⟩ := BPTree.indexHeaderBytesV_split (rawFile f) (imageHash sha f mb bs) bs [] hh
  simp only [List.append_nil] at hV
  simp only [DumpStage.bytes, headerWritten_eq_V, imageOfUnwritten_eq_V, imageOf_eq_V]
  rw [overwrite_prefix _ _ _ _ (by
    rw [indexHeaderBytesV_length _ _ _ _ hh, indexHeaderBytesV_length _ _ _ _ hh]), hV 13, hV 12,
    take_drop_one_byte, hP]
  split <;> rfl

/-! ### `openIndex` on every prefix of every image of the family -/

theorem dumpedParts_eq {recs : List Rec} (h : RecsOK cfg recs) :
    dumpedParts cfg recs =
      if recs = [] then none
      else (serializeFilters cfg.klen (filterOf cfg recs)).map (fun p => (fileRecs cfg recs p.1, p.1)) := by
  unfold dumpedParts
  rw [writtenB_form h]
  by_cases hne : recs = []
  · subst hne; rfl
  · simp only [hdrs_isEmpty hne, if_neg hne]
    rfl

theorem dumpedImage_eq_parts (sha : List Nat → List Nat) {recs : List Rec} (h : RecsOK cfg recs) :
    dumpedImage cfg sha recs =
      (dumpedParts cfg recs).map (fun p => DumpStage.done.bytes sha p.1 p.2 (blobFileLen cfg recs)) := by
  rw [dumpedImage_eq sha h, dumpedParts_eq h, blobFileLen_eq h]
  by_cases hne : recs = []
  · rw [if_pos hne, if_pos hne]; rfl
  · rw [if_neg hne, if_neg hne]
    cases serializeFilters cfg.klen (filterOf cfg recs) <;> rfl

theorem dumpedParts_some {recs : List Rec} (h : RecsOK cfg recs) {f : IndexFile RecHeader} {mb : List Nat}
    (hp : dumpedParts cfg recs = some (f, mb)) :
    recs ≠ [] ∧ f = fileRecs cfg recs mb ∧ ∃ off, serializeFilters cfg.klen (filterOf cfg recs) = some (mb, off) := by
  rw [dumpedParts_eq h] at hp
  by_cases hne : recs = []
  · rw [if_pos hne] at hp; cases hp
  · rw [if_neg hne] at hp
    cases hs : serializeFilters cfg.klen (filterOf cfg recs) with
    | none => rw [hs] at hp; cases hp
    | some q =>
      obtain ⟨mb', off⟩ := q
      rw [hs] at hp
      simp only [Option.map_some, Option.some.injEq, Prod.mk.injEq] at hp
      obtain ⟨h1, h2⟩ := hp
      subst h2
      exact ⟨hne, h1.symm, off, rfl⟩

/-- every PROPER PREFIX of an image the storage dumped — the empty file, a cut inside the header, the header only, a
    cut inside the filters, the tree meta, the tree, the record headers — is rejected, for every blob size -/
theorem dumped_prefix_rejected (hB : BytesOK cfg sha) {recs : List Rec} (hok : RecsOK cfg recs)
    (h3 : Sized3 cfg recs) {img : List Nat} (hi : dumpedImage cfg sha recs = some img) (blobSize t : Nat)
    (ht : t < img.length) : openIndex cfg blobSize (img.take t) = .rejected := by
  obtain ⟨_, mb, off, hs, rfl⟩ := dumpedImage_some hok hi
  have hsize := fileRecs_size hB.ok h3 hs
  unfold imageRecs at ht ⊢
  rw [imageOf_eq_V, fileRecs_built] at ht ⊢
  exact openIndex_family_rejected hB mb _ _ (hB.shaLen _) hsize 13 _ blobSize t (Or.inl ht)

/-- every prefix of the phase-1 buffer, the complete buffer included (the `written` bit is clear), is rejected -/
theorem unwritten_prefix_rejected (hB : BytesOK cfg sha) {recs : List Rec} (hok : RecsOK cfg recs)
    (h3 : Sized3 cfg recs) {f : IndexFile RecHeader} {mb : List Nat} (hp : dumpedParts cfg recs = some (f, mb))
    (bs blobSize t : Nat) : openIndex cfg blobSize ((imageOfUnwritten sha f mb bs).take t) = .rejected := by
  obtain ⟨_, rfl, off, hs⟩ := dumpedParts_some hok hp
  have hsize := fileRecs_size hB.ok h3 hs
  rw [imageOfUnwritten_eq_V, fileRecs_built]
  exact openIndex_family_rejected hB mb _ _ (hB.shaLen _) hsize 12 _ blobSize t (Or.inr (Or.inl (by decide)))

/-- **every stage of the two-phase dump**: the content of the index file is the finished image, or it is rejected
    whatever the size of the blob file -/
theorem dump_stage_cases (hB : BytesOK cfg sha) {recs : List Rec} (hok : RecsOK cfg recs) (h3 : Sized3 cfg recs)
    {f : IndexFile RecHeader} {mb : List Nat} (hp : dumpedParts cfg recs = some (f, mb)) (st : DumpStage) :
    dumpedImage cfg sha recs = some (st.bytes sha f mb (blobFileLen cfg recs)) ∨
    ∀ blobSize, openIndex cfg blobSize (st.bytes sha f mb (blobFileLen cfg recs)) = .rejected := by
  have hdone : dumpedImage cfg sha recs = some (DumpStage.done.bytes sha f mb (blobFileLen cfg recs)) := by
    rw [dumpedImage_eq_parts sha hok, hp]; rfl
  have hunw : ∀ blobSize, openIndex cfg blobSize (imageOfUnwritten sha f mb (blobFileLen cfg recs)) = .rejected := by
    intro blobSize
    have := unwritten_prefix_rejected hB hok h3 hp (blobFileLen cfg recs) blobSize
      (imageOfUnwritten sha f mb (blobFileLen cfg recs)).length
    rwa [List.take_length] at this
  cases st with
  | appending t => exact Or.inr fun blobSize => unwritten_prefix_rejected hB hok h3 hp _ blobSize t
  | rewriting j =>
    rw [rewriting_bytes sha f mb _ j (hB.shaLen _)]
    by_cases hj : j ≤ 72
    · rw [if_pos hj]; exact Or.inr hunw
    · rw [if_neg hj]; exact Or.inl hdone
  | done => exact Or.inl hdone

/-! ### `fromFileQ` against `fromFileB` and `openBlob` -/

theorem ofInit_ne_ok (o : InitOutcome) (y : BBlob) : StartOutcome.ofInit o ≠ .ok y := by
  cases o <;> intro h <;> cases h

/-- the `ok` arm of `fromFileQ` IS `fromFileB` (`Blob::from_file` of `Pearl/Model/EndToEndStart.lean`) -/
theorem fromFileQ_ok_iff (cfg : Cfg) (x : BBlob) (idx : Option (List Nat)) (y : BBlob) :
    fromFileQ cfg x idx = .ok y ↔ fromFileB cfg x idx = some y := by
  have key : ∀ (b : BBlob) (c : Bool),
      ((if (c || decide (x.file.length > blobHeaderSize)) = true then
          match b.index with
          | .disk .. => StartOutcome.ok b
          | .mem _ =>
            match rawRecordsLoad cfg.klen cfg.validateData b.file with
            | .error e => .ofInit (classifyScanErr e)
            | .ok hs => .ok (hs.foldl (fun b h => (b.indexPush cfg (hdrKey h) h).getD b) b)
        else .ok b) = .ok y) ↔
      ((if (c || decide (x.file.length > blobHeaderSize)) = true then tryRegenerateB cfg b else some b) = some y) := by
    intro b c
    unfold tryRegenerateB
    split
    · cases hi : b.index with
      | disk img off =>
        simp only []
        constructor <;> (intro h; cases h; rfl)
      | mem m =>
        simp only []
        cases rawRecordsLoad cfg.klen cfg.validateData b.file with
        | error e =>
          simp only []
          constructor
          · intro h; exact absurd h (ofInit_ne_ok _ _)
          · intro h; cases h
        | ok hs =>
          simp only []
          constructor <;> (intro h; cases h; rfl)
    · constructor <;> (intro h; cases h; rfl)
  unfold fromFileQ fromFileB
  cases blobHeaderFromFile x.file with
  | error e =>
    simp only []
    constructor
    · intro h; exact absurd h (ofInit_ne_ok _ _)
    · intro h; cases h
  | ok _ =>
    simp only []
    cases idx with
    | none => exact key _ false
    | some img =>
      simp only []
      cases openIndex cfg x.file.length img with
      | accepted flt off => exact key _ false
      | rejected => exact key { x with index := .mem [], filter := newFilter cfg } true
      | panic =>
        simp only []
        constructor <;> (intro h; cases h)

/-- an unreadable blob header: the index file is not even looked at -/
theorem fromFileQ_header_err (cfg : Cfg) (x : BBlob) (idx : Option (List Nat)) {e : BlobHeaderErr}
    (h : blobHeaderFromFile x.file = .error e) : fromFileQ cfg x idx = .ofInit (classifyHeaderErr e) := by
  unfold fromFileQ
  rw [h]

/-- a rejected index file next to a blob file that is longer than its header: as without an index file -/
theorem fromFileQ_rejected (cfg : Cfg) (x : BBlob) (img : List Nat)
    (hr : openIndex cfg x.file.length img = .rejected) (hlen : x.file.length > blobHeaderSize) :
    fromFileQ cfg x (some img) = fromFileQ cfg x none := by
  unfold fromFileQ
  cases blobHeaderFromFile x.file with
  | error e => rfl
  | ok _ => simp only [hr, hlen, Bool.true_or, Bool.false_or, decide_true, if_true]

/-- without an index file: the quarantine of `openBlob` (`Pearl/Model/Crash.lean`) -/
theorem fromFileQ_none_quarantine (cfg : Cfg) (x : BBlob)
    (h : openBlob cfg.klen cfg.validateData x.file = .quarantine) : fromFileQ cfg x none = .quarantine := by
  unfold openBlob at h
  unfold fromFileQ
  cases hh : blobHeaderFromFile x.file with
  | error e =>
    rw [hh] at h
    simp only [] at h ⊢
    rw [h]; rfl
  | ok _ =>
    rw [hh] at h
    simp only [Bool.false_or] at h ⊢
    by_cases hl : blobHeaderSize < x.file.length
    · have hl' : x.file.length > blobHeaderSize := hl
      rw [if_pos hl] at h
      simp only [hl', decide_true, if_true]
      cases hs : rawRecordsLoad cfg.klen cfg.validateData x.file with
      | error e =>
        rw [hs] at h
        simp only [] at h ⊢
        rw [h]; rfl
      | ok hs' => rw [hs] at h; cases h
    · rw [if_neg hl] at h; cases h

theorem fromFileQ_accepted (cfg : Cfg) (x : BBlob) (img : List Nat) (flt : Combined) (off : Nat)
    (ha : openIndex cfg x.file.length img = .accepted flt off) (hh : ∃ h, blobHeaderFromFile x.file = .ok h) :
    fromFileQ cfg x (some img) = .ok { x with index := .disk img off, filter := flt } :=
  (fromFileQ_ok_iff cfg x _ _).2 (fromFileB_accepted cfg x img flt off ha hh)

/-! ### the index file against the cut blob file -/

/-- a complete dumped image against a blob file of `L` bytes: rejected, or `L` is the size it was dumped for -/
theorem openIndex_dumped (hB : BytesOK cfg sha) {p : List Rec} (hp : RecsOK cfg p) (h3 : Sized3 cfg p)
    {img : List Nat} (hi : dumpedImage cfg sha p = some img) (L : Nat) :
    openIndex cfg L img = .rejected ∨
    ∃ mb off, p ≠ [] ∧ serializeFilters cfg.klen (filterOf cfg p) = some (mb, off) ∧
      img = imageRecs cfg sha p mb ∧ L = Fs.contentLen cfg.klen p := by
  obtain ⟨hne, mb, off, hs, rfl⟩ := dumpedImage_some hp hi
  by_cases hL : L = (blobBytes cfg.klen (full p)).length
  · right
    exact ⟨mb, off, hne, hs, rfl, by rw [hL, file_length]⟩
  · left
    exact openIndex_stale hB hp h3 hs L hL

/-- **every index-file content a crash can leave, against a blob file of ANY length `L`**: it is rejected — never
    a panic — unless it is the complete image of a dump made when the blob held `recs.take m` AND `L` is exactly the
    length of the blob file of those records.  In particular (`blob_size` check, both directions): an index that
    describes more records than the cut blob file holds, or fewer, is rejected. -/
theorem openIndex_at_crash (hB : BytesOK cfg sha) {recs : List Rec} (hok : RecsOK cfg recs) (h3 : Sized3 cfg recs)
    {img : List Nat} (hc : IdxAtCrash cfg sha recs (some img)) (L : Nat) :
    openIndex cfg L img = .rejected ∨
    ∃ m mb off, m ≤ recs.length ∧ recs.take m ≠ [] ∧
      serializeFilters cfg.klen (filterOf cfg (recs.take m)) = some (mb, off) ∧
      img = imageRecs cfg sha (recs.take m) mb ∧ L = Fs.contentLen cfg.klen (recs.take m) := by
  have hpre : ∀ m, recs.take m <+: recs := fun m => List.take_prefix m recs
  cases hc with
  | dumped m _ hm h =>
    rcases openIndex_dumped hB (hok.prefix (hpre m)) (h3.prefix (hpre m)) h L with hr | ⟨mb, off, h1, h2, h4, h5⟩
    · exact Or.inl hr
    · exact Or.inr ⟨m, mb, off, hm, h1, h2, h4, h5⟩
  | truncated m img' t hm h ht =>
    exact Or.inl (dumped_prefix_rejected hB (hok.prefix (hpre m)) (h3.prefix (hpre m)) h L t ht)
  | interrupted m f mb st hm h =>
    rcases dump_stage_cases hB (hok.prefix (hpre m)) (h3.prefix (hpre m)) h st with hd | hr
    · rcases openIndex_dumped hB (hok.prefix (hpre m)) (h3.prefix (hpre m)) hd L with hr | ⟨mb', off, h1, h2, h4, h5⟩
      · exact Or.inl hr
      · exact Or.inr ⟨m, mb', off, hm, h1, h2, h4, h5⟩
    · exact Or.inl (hr L)

theorem reidx_recovered (cfg : Cfg) (b : CBlob) (t n : Nat) : reidx cfg (recovered cfg b t n n) = recovered cfg b t n n := by
  unfold reidx recovered
  simp only []
  rw [hdrsOf_take]

theorem cutKind_of_length_boundary {b : CBlob} (hb : BlobInv cfg b) {t m : Nat} (hm : m ≤ b.ghost.length)
    (hL : (b.file.take t).length = Fs.contentLen cfg.klen (b.ghost.take m)) :
    cutKind cfg.klen b.ghost t = .clean m := by
  have hfl := hb.file_length
  by_cases ht : t < b.file.length
  · rw [List.length_take, Nat.min_eq_left (Nat.le_of_lt ht)] at hL
    rw [hL]; exact cutKind_boundary cfg.klen b.ghost m hm
  · -- the whole file survives: the boundary is its end
    rw [List.length_take, Nat.min_eq_right (by omega), hfl] at hL
    have h1 := complete_boundary cfg.klen b.ghost m hm
    rw [← hL, complete_of_ge cfg.klen b.ghost _ (Nat.le_refl _)] at h1
    rw [← h1]
    exact cutKind_of_ge cfg.klen b.ghost t (by omega)

/-- **`Blob::from_file` on the cut file of a blob, with every index-file content a crash can leave next to it**
    (`IdxAtCrash`; `hho`: no index file lies next to a file that is cut back to the bare blob header — see
    `crash_index_beside_header_only`): the blob is quarantined exactly when it is without the index file, and
    otherwise the blob returned starts as the one returned without the index file -/
theorem fromFileQ_crash (hB : BytesOK cfg sha) {b : CBlob} (hb : BlobInv cfg b) (h3 : Sized3 cfg b.ghost) (t : Nat)
    {idx : Option (List Nat)} (hc : IdxAtCrash cfg sha b.ghost idx)
    (hho : (b.file.take t).length = blobHeaderSize → idx = none) :
    (fate cfg.klen cfg.validateData b.ghost t = .quarantined →
      fromFileQ cfg ((b.crash cfg t).toB sha) idx = .quarantine) ∧
    (∀ n torn, fate cfg.klen cfg.validateData b.ghost t = .opened n torn →
      ∃ x, fromFileQ cfg ((b.crash cfg t).toB sha) idx = .ok x ∧
        StartsAsB cfg sha x ((recovered cfg b t n (if torn then n + 1 else n)).toB sha)) := by
  have hXf : ((b.crash cfg t).toB sha).file = b.file.take t := rfl
  have hfl := hb.file_length
  -- without the index file
  have hq : fate cfg.klen cfg.validateData b.ghost t = .quarantined →
      fromFileQ cfg ((b.crash cfg t).toB sha) none = .quarantine := fun h =>
    fromFileQ_none_quarantine cfg _ (by rw [hXf]; exact openBlob_quarantined hb h)
  have ho : ∀ n torn, fate cfg.klen cfg.validateData b.ghost t = .opened n torn →
      ∃ x, fromFileQ cfg ((b.crash cfg t).toB sha) none = .ok x ∧
        StartsAsB cfg sha x ((recovered cfg b t n (if torn then n + 1 else n)).toB sha) := by
    intro n torn h
    refine ⟨_, (fromFileQ_ok_iff cfg _ _ _).2 ?_, ⟨rfl, rfl, rfl⟩⟩
    rw [fromFileB_none, regen_toB, regen_crash_opened hb h]
    rfl
  cases idx with
  | none => exact ⟨hq, ho⟩
  | some img =>
    by_cases h20 : t < blobHeaderSize
    · -- the blob header is cut: the index file is not looked at
      have hshort : (b.file.take t).length < 20 := by
        rw [List.length_take]; have : blobHeaderSize = 20 := rfl; omega
      have he := blobHeaderFromFile_short _ hshort
      have heq : fromFileQ cfg ((b.crash cfg t).toB sha) (some img) = fromFileQ cfg ((b.crash cfg t).toB sha) none := by
        rw [fromFileQ_header_err cfg _ _ (by rw [hXf]; exact he),
          fromFileQ_header_err cfg _ _ (by rw [hXf]; exact he)]
      rw [heq]
      exact ⟨hq, ho⟩
    · have hge : blobHeaderSize ≤ (b.file.take t).length := by
        rw [List.length_take, hfl]
        have := contentLen_ge cfg.klen b.ghost
        omega
      have hgt : (b.file.take t).length > blobHeaderSize := by
        rcases Nat.lt_or_ge blobHeaderSize (b.file.take t).length with h | h
        · exact h
        · have := hho (by omega)
          cases this
      rcases openIndex_at_crash hB hb.recsOK h3 hc (b.file.take t).length with
        hrej | ⟨m, mb, off, hm, hne, hs, himg, hL⟩
      · -- rejected: as without the index file
        rw [fromFileQ_rejected cfg _ img (by rw [hXf]; exact hrej) (by rw [hXf]; exact hgt)]
        exact ⟨hq, ho⟩
      · -- the image of the dump of `ghost.take m`, and the cut file has exactly the length of that blob file
        have hk := cutKind_of_length_boundary hb hm hL
        have hfile := crash_file_clean hb.toBlobInv0 hk
        have hfate : fate cfg.klen cfg.validateData b.ghost t = .opened m false := by
          unfold fate; rw [hk]
        have hb' := recovered_inv hb hk
        have hg' : (recovered cfg b t m m).ghost = b.ghost.take m := rfl
        have h3' : Sized3 cfg (recovered cfg b t m m).ghost := h3.prefix (List.take_prefix m b.ghost)
        have hacc := openIndex_current hB hb' (by rw [hg']; exact hne) h3' (by rw [hg']; exact hs)
        have hsd := startsAs_dumped hB hb' (by rw [hg']; exact hne) h3' (by rw [hg']; exact hs)
        unfold StartsAs at hsd
        rw [reidx_recovered] at hsd
        refine ⟨fun h => (by rw [hfate] at h; cases h), fun n' torn' h => ?_⟩
        rw [hfate] at h
        cases h
        rw [himg]
        refine ⟨_, fromFileQ_accepted cfg _ _ _ off hacc ⟨_, by rw [hXf, hfile]; exact blobHeader_blob _ _⟩, ?_⟩
        exact hsd

/-! ### the crash commutes with the translation to bytes -/

theorem crashBlob_toB (cfg : Cfg) (sha : List Nat → List Nat) (b : CBlob) (t : Nat) :
    (b.crash cfg t).toB sha = (b.toB sha).crash cfg t := rfl

theorem crash_toB (cfg : Cfg) (sha : List Nat → List Nat) (c : CState) (cut : Nat → Nat) :
    (c.crash cfg cut).toB sha = (c.toB sha).crash cfg cut := by
  unfold CState.crash BState.crash CState.toB
  simp only []
  rw [mapChildrenB_mapData sha c.cont (fun b => b.crash cfg (cut b.id)) (fun b => b.crash cfg (cut b.id))
    (fun b _ => rfl)]
  congr 1
  cases c.active <;> rfl

/-! ### `read_blobs` and the rest of `init` with index files, on the crashed directory -/

/-- `read_blobs` with index files on the crashed directory: blob by blob what `fate` says, as without index files -/
theorem readBlobsIdx_crash (hB : BytesOK cfg sha) (cut : Nat → Nat) (dir : Nat → Option (List Nat)) :
    ∀ (l : List CBlob),
    (∀ b ∈ l, BlobInv cfg b ∧ Sized3 cfg b.ghost ∧ IdxAtCrash cfg sha b.ghost (dir b.id) ∧
      ((b.file.take (cut b.id)).length = blobHeaderSize → dir b.id = none)) →
    ∃ xs, readBlobsIdx cfg dir (l.map (fun b => (b.crash cfg (cut b.id)).toB sha)) = some xs ∧
      AllStartB cfg sha xs ((l.filterMap (surv cfg cut)).map (CBlob.toB sha))
  | [], _ => ⟨[], rfl, .nil⟩
  | b :: l, h => by
    obtain ⟨hb, h3, hc, hho⟩ := h b (by simp)
    obtain ⟨xs, hxs, hall⟩ := readBlobsIdx_crash hB cut dir l (fun x hx => h x (by simp [hx]))
    obtain ⟨hq, ho⟩ := fromFileQ_crash hB hb h3 (cut b.id) hc hho
    have hid : ((b.crash cfg (cut b.id)).toB sha).id = b.id := rfl
    simp only [List.map_cons, readBlobsIdx, hid, List.filterMap_cons]
    cases hf : fate cfg.klen cfg.validateData b.ghost (cut b.id) with
    | quarantined =>
      rw [hq hf]
      simp only [surv, hf]
      exact ⟨xs, hxs, hall⟩
    | opened n torn =>
      obtain ⟨x, hx, hs⟩ := ho n torn hf
      rw [hx]
      simp only [surv, hf, hxs, List.map_cons]
      exact ⟨x :: xs, rfl, .cons hs hall⟩

theorem ofBlobsIdx_of_allStart {xs : List BBlob} {bs : List CBlob}
    (hall : AllStartB cfg sha xs (bs.map (CBlob.toB sha))) (maxNext : Nat) (lazy : Bool) :
    BState.ofBlobsIdx cfg sha xs maxNext lazy = some ((CState.ofBlobs cfg bs maxNext lazy).toB sha) := by
  unfold BState.ofBlobsIdx CState.ofBlobs
  cases lazy with
  | true =>
    simp only [if_true]
    rw [hall.map_dump, map_dump_toB, extend_toB]
    rfl
  | false =>
    simp only [Bool.false_eq_true, if_false]
    rcases hall.getLast with ⟨h1, h2⟩ | ⟨a, y, h1, h2, h3⟩
    · rw [List.getLast?_map] at h2
      cases hl : bs.getLast? with
      | none => rw [h1]; rfl
      | some a => rw [hl] at h2; cases h2
    · rw [List.getLast?_map] at h2
      cases hl : bs.getLast? with
      | none => rw [hl] at h2; cases h2
      | some b =>
        rw [hl] at h2
        simp only [Option.map_some, Option.some.injEq] at h2
        subst h2
        rw [h1]
        simp only [h3.2.1]
        have hd := hall.dropLast.map_dump
        rw [← List.map_dropLast, map_dump_toB] at hd
        rw [hd, extend_toB]
        rfl

/-! ### crash + start-up with index files = crash + start-up without -/

/-- the hypotheses on the directory of index files after the crash -/
structure DirAtCrash (cfg : Cfg) (sha : List Nat → List Nat) (c : CState) (cut : Nat → Nat)
    (dir : Nat → Option (List Nat)) : Prop where
  /-- next to every blob file: nothing, a complete image of an earlier (or the latest) dump, a proper prefix of one,
      or any stage of an interrupted dump -/
  choice : ∀ b ∈ c.blobs, IdxAtCrash cfg sha b.ghost (dir b.id)
  /-- no index file lies next to a blob file that the crash cut back to the bare blob header -/
  headerOnly : ∀ b ∈ c.blobs, (b.file.take (cut b.id)).length = blobHeaderSize → dir b.id = none

theorem crashRecoverWithIndexes_toB (hB : BytesOK cfg sha) {c : CState} (hinv : CInv cfg c)
    (h3 : ∀ b ∈ c.blobs, Sized3 cfg b.ghost) (cut : Nat → Nat) (dir : Nat → Option (List Nat))
    (hdir : DirAtCrash cfg sha c cut dir) (lazy : Bool) :
    (c.toB sha).crashRecoverWithIndexes cfg sha cut dir lazy =
      (c.crashRecover cfg cut lazy).map (CState.toB sha) := by
  obtain ⟨xs, hxs, hall⟩ := readBlobsIdx_crash hB cut dir c.blobs (fun b hb =>
    ⟨CInvG.blobInv hinv hb, h3 b hb, hdir.choice b hb, hdir.headerOnly b hb⟩)
  have hmax : (List.map (CBlob.toB sha) (c.blobs.map (fun b => b.crash cfg (cut b.id)))).foldl
      (fun m b => max m (b.id + 1)) 0 = maxNextId c.blobs := by
    unfold maxNextId
    apply foldl_maxSucc_congr BBlob.id CBlob.id
    rw [List.map_map, List.map_map]
    rfl
  unfold BState.crashRecoverWithIndexes BState.recoverWithIndexes
  rw [← crash_toB, blobs_toB, sortByIdB_map, sortById_crash_blobs hinv, List.map_map]
  have hcomp : (CBlob.toB sha ∘ fun (b : CBlob) => b.crash cfg (cut b.id)) =
      fun (b : CBlob) => (b.crash cfg (cut b.id)).toB sha := rfl
  rw [hcomp, hxs]
  simp only []
  rw [← hcomp, ← List.map_map, hmax, ofBlobsIdx_of_allStart hall, crashRecover_eq hinv cut lazy]
  rfl

/-! ### an index file implies a record -/

/-- every index-file content of `IdxAtCrash` stems from a dump, and nothing is dumped for a blob without records -/
theorem idxAtCrash_ne_nil {recs : List Rec} (hok : RecsOK cfg recs) {img : List Nat}
    (hc : IdxAtCrash cfg sha recs (some img)) : recs ≠ [] := by
  have hpre : ∀ m, recs.take m <+: recs := fun m => List.take_prefix m recs
  have key : ∀ m, recs.take m ≠ [] → recs ≠ [] := by
    intro m h h0; rw [h0] at h; simp at h
  cases hc with
  | dumped m _ hm h => exact key m (dumpedImage_some (hok.prefix (hpre m)) h).1
  | truncated m img' t hm h ht => exact key m (dumpedImage_some (hok.prefix (hpre m)) h).1
  | interrupted m f mb st hm h => exact key m (dumpedParts_some (hok.prefix (hpre m)) h).1

/-- a blob of a state satisfying the invariant that has an index file holds a record -/
theorem ghost_ne_nil_of_index {c : CState} (hinv : CInv cfg c) {dir : Nat → Option (List Nat)}
    (hchoice : ∀ b ∈ c.blobs, IdxAtCrash cfg sha b.ghost (dir b.id)) {b : CBlob} (hb : b ∈ c.blobs)
    {img : List Nat} (hd : dir b.id = some img) : b.ghost ≠ [] := by
  have hc := hchoice b hb
  rw [hd] at hc
  exact idxAtCrash_ne_nil (CInvG.blobInv hinv hb).recsOK hc

/-- the condition "no index file next to a blob file cut back to the bare header" in terms of the cut alone: the
    only such cut is `cut id = 20` (a blob that HAS an index file has records) -/
theorem dirAtCrash_of_cut {c : CState} (hinv : CInv cfg c) (cut : Nat → Nat) (dir : Nat → Option (List Nat))
    (hchoice : ∀ b ∈ c.blobs, IdxAtCrash cfg sha b.ghost (dir b.id))
    (h20 : ∀ b ∈ c.blobs, cut b.id = blobHeaderSize → dir b.id = none) : DirAtCrash cfg sha c cut dir := by
  refine ⟨hchoice, fun b hb hlen => ?_⟩
  cases hd : dir b.id with
  | none => rfl
  | some img =>
    have hgt := file_length_gt (CInvG.blobInv hinv hb) (ghost_ne_nil_of_index hinv hchoice hb hd)
    rw [List.length_take] at hlen
    rw [h20 b hb (by omega)] at hd
    cases hd

/-- … in particular when the blob file was synced before the dump that wrote (or began to write) the index file
    (`Blob::dump`: `fsyncdata` of the blob, then `index.dump`): the cut is beyond the first record -/
theorem dirAtCrash_of_synced {c : CState} (hinv : CInv cfg c) (cut : Nat → Nat) (dir : Nat → Option (List Nat))
    (hchoice : ∀ b ∈ c.blobs, IdxAtCrash cfg sha b.ghost (dir b.id))
    (hsync : ∀ b ∈ c.blobs, (dir b.id).isSome = true → Fs.contentLen cfg.klen (b.ghost.take 1) ≤ cut b.id) :
    DirAtCrash cfg sha c cut dir := by
  apply dirAtCrash_of_cut hinv cut dir hchoice
  intro b hb h20
  cases hd : dir b.id with
  | none => rfl
  | some img =>
    exfalso
    have hs := hsync b hb (by rw [hd]; rfl)
    have hpos : 0 < b.ghost.length := List.length_pos_iff.mpr (ghost_ne_nil_of_index hinv hchoice hb hd)
    rw [contentLen_take_succ cfg.klen b.ghost 0 hpos] at hs
    have := recLen_ge cfg.klen b.ghost[0]
    have := contentLen_ge cfg.klen (b.ghost.take 0)
    omega

/-! ### the choices, in the form a directory is written down -/

/-- whatever the dump of `recs.take m` left (nothing, for `m = 0`) -/
theorem IdxAtCrash.of_dumped_take (cfg : Cfg) (sha : List Nat → List Nat) (recs : List Rec) (m : Nat)
    (hm : m ≤ recs.length) : IdxAtCrash cfg sha recs (dumpedImage cfg sha (recs.take m)) := by
  cases hd : dumpedImage cfg sha (recs.take m) with
  | none => exact .absent
  | some img => exact .dumped m img hm hd

/-- … cut at `t`, short of its length -/
theorem IdxAtCrash.of_truncated_take (cfg : Cfg) (sha : List Nat → List Nat) (recs : List Rec) (m t : Nat)
    (hm : m ≤ recs.length) (ht : ∀ img, dumpedImage cfg sha (recs.take m) = some img → t < img.length) :
    IdxAtCrash cfg sha recs ((dumpedImage cfg sha (recs.take m)).map (·.take t)) := by
  cases hd : dumpedImage cfg sha (recs.take m) with
  | none => exact .absent
  | some img => exact .truncated m img t hm hd (ht img hd)

/-- … interrupted at the stage `st` -/
theorem IdxAtCrash.of_interrupted_take (cfg : Cfg) (sha : List Nat → List Nat) (recs : List Rec) (m : Nat)
    (st : DumpStage) (hm : m ≤ recs.length) :
    IdxAtCrash cfg sha recs ((dumpedParts cfg (recs.take m)).map
      (fun p => st.bytes sha p.1 p.2 (blobFileLen cfg (recs.take m)))) := by
  cases hd : dumpedParts cfg (recs.take m) with
  | none => exact .absent
  | some p => exact .interrupted m p.1 p.2 st hm hd

/-! ### the recovered storage: its index files are short enough -/

theorem recovered_idxSized (hcfg : cfg.OK) {c : CState} (hinv : CInv cfg c) (h3 : ∀ b ∈ c.blobs, Sized3 cfg b.ghost)
    (hne : c.blobs ≠ []) (cut : Nat → Nat) (lazy : Bool) {c₁ : CState}
    (hc₁ : c.crashRecover cfg cut lazy = some c₁) : StoreIdxSized cfg (c₁.abs cfg) := by
  refine forall_abs_blobs.mpr fun b₁ hb₁ => ?_
  show Sized3 cfg b₁.ghost
  rcases mem_crashRecover hcfg hinv cut lazy hc₁ hb₁ with ⟨b, hb, n, _, _, _, _, hg⟩ | ⟨_, rfl⟩
  · rw [hg]
    exact (h3 b hb).prefix (List.take_prefix _ _)
  · obtain ⟨b0, hb0⟩ := List.exists_mem_of_ne_nil _ hne
    exact (h3 b0 hb0).prefix List.nil_prefix

/-! ### `read_blobs` with quarantine returns what `read_blobs` without returns, when that succeeds -/

theorem foldl_indexPushB_id (cfg : Cfg) : ∀ (hs : List RecHeader) (b : BBlob),
    (hs.foldl (fun b h => (b.indexPush cfg (hdrKey h) h).getD b) b).id = b.id
  | [], _ => rfl
  | h :: hs, b => by
    simp only [List.foldl_cons]
    rw [foldl_indexPushB_id cfg hs]
    unfold BBlob.indexPush
    cases b.index <;> rfl

theorem fromFileB_id {x y : BBlob} {idx : Option (List Nat)} (h : fromFileB cfg x idx = some y) : y.id = x.id := by
  have key : ∀ (b : BBlob), tryRegenerateB cfg b = some y → y.id = b.id := by
    intro b hb
    unfold tryRegenerateB at hb
    cases hi : b.index with
    | disk img off => rw [hi] at hb; cases hb; rfl
    | mem m =>
      rw [hi] at hb
      simp only [] at hb
      cases hl : rawRecordsLoad cfg.klen cfg.validateData b.file with
      | error e => rw [hl] at hb; cases hb
      | ok hs => rw [hl] at hb; cases hb; exact foldl_indexPushB_id cfg hs b
  have key2 : ∀ (b : BBlob) (cnd : Bool), (if cnd = true then tryRegenerateB cfg b else some b) = some y →
      y.id = b.id := by
    intro b cnd hb
    cases cnd with
    | true => exact key b hb
    | false => cases hb; rfl
  unfold fromFileB at h
  cases hh : blobHeaderFromFile x.file with
  | error e => rw [hh] at h; cases h
  | ok _ =>
    rw [hh] at h
    simp only [] at h
    cases idx with
    | none => exact key2 { x with index := .mem [], filter := newFilter cfg } _ h
    | some img =>
      simp only [] at h
      cases ho : openIndex cfg x.file.length img with
      | accepted flt off => rw [ho] at h; exact key2 { x with index := .disk img off, filter := flt } _ h
      | rejected => rw [ho] at h; exact key2 { x with index := .mem [], filter := newFilter cfg } _ h
      | panic => rw [ho] at h; cases h

/-- when every `Blob::from_file` succeeds (`read_blobs` of `restartWithIndexes`), nothing is quarantined -/
theorem readBlobsIdx_of_startAllB (dir : Nat → Option (List Nat)) : ∀ (l bs : List BBlob),
    startAllB cfg dir l = some bs → readBlobsIdx cfg dir l = some bs ∧ bs.map (·.id) = l.map (·.id)
  | [], bs, h => by
    simp only [startAllB, Option.some.injEq] at h
    subst h
    exact ⟨rfl, rfl⟩
  | b :: l, bs, h => by
    simp only [startAllB] at h
    cases hf : fromFileB cfg b (dir b.id) with
    | none => rw [hf] at h; cases h
    | some b' =>
      cases hl : startAllB cfg dir l with
      | none => rw [hf, hl] at h; cases h
      | some bs' =>
        rw [hf, hl] at h
        cases h
        obtain ⟨ih1, ih2⟩ := readBlobsIdx_of_startAllB dir l bs' hl
        simp only [readBlobsIdx, (fromFileQ_ok_iff cfg b _ b').2 hf, ih1, List.map_cons, ih2, fromFileB_id hf]
        exact ⟨trivial, trivial⟩

end
end Pearl.E2E
