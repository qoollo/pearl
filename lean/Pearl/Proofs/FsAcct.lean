import Pearl.Proofs.FsLemmas
import Pearl.Proofs.AcctHarm
/-
The two file-level models tell the same story.

* `Pearl/Model/Fs.lean` (L6): every operation emits a trace of file events and keeps per-file counters;
* `Pearl/Model/Acct.lean`: the work directory as maps id ↦ length (blob files) and id ↦ index file.

Part 1 (`dirOfTrace`): the blob-file lengths obtained by replaying a trace WITHOUT any check (create = empty file,
write at `off` of `len` = extend to `max size (off + len)`) are, for the trace of any `Fs.run`, the `size` counters
`Fs` keeps: the trace is complete.

Part 2: the operation alphabets (`tr : FsState → FsOp → List AOp`; a rotation runs its dump pass unless a deferred
dump is registered, a `force` goes ahead iff its predicate holds of the active blob, `fsync` / queries / `close` are
no directory-level operation, `restart` and `open` of a closed storage are a restart without damage and without
`ignore_corrupted`), and the simulation: `R0 c f a` relates an `FsState` and an `Acct.State` — same L2 store, both
structural invariants, same index files with the same `blob_size` field; every building block of `Fs.prog`
(`ensureActiveP`, `appendActiveP`, `newBlobP`, `dumpPassP`, `deleteCoreP`, `closeP`, `openP`, …) is matched by the
block of `Acct.step` (`Acct.Blk`: `ensure`, `writeRec`, `replace`, `dump`, `marks`, `close`, `reopen`, …;
`Pearl/Proofs/AcctMoves.lean`).  The blob-file lengths agree as a CONSEQUENCE of the relation (`R0.blobs`).

Part 3, whole runs: the directory-level history of a run is free of damage (`toAOps_noDamage`), so the blob files are
numbered `0 … next_blob_id - 1` (`Acct.run_ids_full`) and the ids created in the trace are that list (`createdIds_run`).
-/
namespace Pearl
namespace Fs

/-! ## Part 1: the directory a trace leaves behind -/

/-- one event applied to the lengths of the blob files, without any check: a create makes an empty file, a write at
    `off` of `len` extends the file to `max size (off + len)` (a write to a file that was never created is not a
    `pwrite` the implementation can issue; it is ignored); syncs, opens and index-file events change no length -/
def dirStep (m : FsModel) : Event → FsModel
  | .create (.blob id) => m.set id 0
  | .write (.blob id) off len =>
    match m id with
    | some sz => m.set id (max sz (off + len))
    | none => m
  | _ => m

def dirOfTraceFrom (m : FsModel) (t : List Event) : FsModel := t.foldl dirStep m

/-- blob id ↦ length of the blob file after replaying the trace on an empty directory -/
def dirOfTrace (t : List Event) : FsModel := dirOfTraceFrom (fun _ => none) t

theorem dirOfTraceFrom_cons (m : FsModel) (e : Event) (t : List Event) :
    dirOfTraceFrom m (e :: t) = dirOfTraceFrom (dirStep m e) t := rfl

theorem dirOfTraceFrom_append (m : FsModel) (t u : List Event) :
    dirOfTraceFrom m (t ++ u) = dirOfTraceFrom (dirOfTraceFrom m t) u := by
  simp [dirOfTraceFrom, List.foldl_append]

/-- on an event the append-only file system accepts, the unchecked replay does what the checked one does, and no
    file gets shorter or disappears -/
theorem fsAccept_some {m m' : FsModel} {e : Event} (h : fsAccept m e = some m') :
    dirStep m e = m' ∧ ∀ id l, m id = some l → ∃ l', m' id = some l' ∧ l ≤ l' := by
  have keep : ∀ id l, m id = some l → ∃ l', m id = some l' ∧ l ≤ l' := fun _ l hl => ⟨l, hl, Nat.le_refl _⟩
  unfold fsAccept at h
  split at h
  · -- creation of a file that does not exist
    rename_i j
    split at h <;> cases h
    refine ⟨rfl, fun id l hl => ⟨l, ?_, Nat.le_refl _⟩⟩
    have : id ≠ j := by rintro rfl; simp_all
    simp [this, hl]
  · -- a write at the end
    rename_i j off len
    split at h
    · rename_i sz hsz
      split at h <;> cases h
      subst off
      refine ⟨by simp [dirStep, hsz, Nat.max_eq_right], fun id l hl => ?_⟩
      by_cases hid : id = j
      · subst hid; exact ⟨sz + len, by simp, by simp_all⟩
      · exact ⟨l, by simp [hid, hl], Nat.le_refl _⟩
    · cases h
  · split at h
    · split at h <;> cases h
      exact ⟨rfl, keep⟩
    · cases h
  · split at h <;> cases h
    exact ⟨rfl, keep⟩
  · cases h
    refine ⟨?_, keep⟩
    unfold dirStep
    split <;> simp_all

theorem replay_spec : ∀ (t : List Event) {m m' : FsModel}, replay m t = some m' →
    dirOfTraceFrom m t = m' ∧ ∀ id l, m id = some l → ∃ l', m' id = some l' ∧ l ≤ l'
  | [], m, m', h => by
    simp only [replay, Option.some.injEq] at h
    subst h; exact ⟨rfl, fun _ l hl => ⟨l, hl, Nat.le_refl _⟩⟩
  | e :: t, m, m', h => by
    simp only [replay] at h
    cases ha : fsAccept m e with
    | none => rw [ha] at h; cases h
    | some m1 =>
      rw [ha, Option.bind_some] at h
      obtain ⟨h1, g1⟩ := fsAccept_some ha
      obtain ⟨h2, g2⟩ := replay_spec t h
      refine ⟨by rw [dirOfTraceFrom_cons, h1, h2], fun id l hl => ?_⟩
      obtain ⟨l1, hl1, hle1⟩ := g1 id l hl
      obtain ⟨l2, hl2, hle2⟩ := g2 id l1 hl1
      exact ⟨l2, hl2, Nat.le_trans hle1 hle2⟩

variable (dup : Bool) (limit klen : Nat) (unc rs : Bool)

/-- The trace is complete: replaying the trace of any run, without any check, gives every blob file exactly the
    length the `size` counter of `Fs` says — every byte the counters know about was emitted as a write — and it is the
    final state of the append-only acceptor. -/
theorem dirOfTrace_run (ops : List FsOp) :
    (∀ id, dirOfTrace (run dup limit klen unc rs ops).2 id = szOf (run dup limit klen unc rs ops).1.disk id) ∧
      replay (fun _ => none) (run dup limit klen unc rs ops).2 = some (dirOfTrace (run dup limit klen unc rs ops).2) := by
  obtain ⟨m, hm, hag⟩ := (run_diskInv dup limit klen unc rs ops).replay
  unfold dirOfTrace
  rw [(replay_spec _ hm).1]
  exact ⟨fun id => hag id, hm⟩

theorem run_trace_prefix (ops more : List FsOp) :
    ∃ u, (run dup limit klen unc rs (ops ++ more)).2 = (run dup limit klen unc rs ops).2 ++ u := by
  rw [run_append]
  exact (runFrom_plain more _).imp fun _ h => h.1

theorem dirOfTrace_grows (ops more : List FsOp) (id l : Nat)
    (h : dirOfTrace (run dup limit klen unc rs ops).2 id = some l) :
    ∃ l', dirOfTrace (run dup limit klen unc rs (ops ++ more)).2 id = some l' ∧ l ≤ l' := by
  obtain ⟨u, hu⟩ := run_trace_prefix dup limit klen unc rs ops more
  have h1 := (dirOfTrace_run dup limit klen unc rs ops).2
  have h2 := (dirOfTrace_run dup limit klen unc rs (ops ++ more)).2
  rw [hu, replay_append, h1, Option.bind_some] at h2
  rw [← hu] at h2
  exact (replay_spec u h2).2 id l h

/-! ## Part 2: the correspondence

### the disk side: which actions touch an index file, and the components of the building blocks of `Fs.prog` -/

/-- does the action write an index file -/
def Act.dumpsIdx : Act → Bool
  | .dump _ true => true
  | _ => false

def NoDump (as : List Act) : Prop := ∀ a ∈ as, a.dumpsIdx = false

theorem exec_idx_of_noDump (d : Disk) {a : Act} (h : a.dumpsIdx = false) : (d.exec a).1.idx = d.idx := by
  cases a with
  | dump id w =>
    cases w with
    | true => simp [Act.dumpsIdx] at h
    | false => simp only [Disk.exec]; split <;> rfl
  | createBlob | append | syncBlob | openBlob | openIdx => simp only [Disk.exec]; split <;> rfl

theorem runActs_idx_of_noDump (d : Disk) {as : List Act} (h : NoDump as) : (d.runActs as).1.idx = d.idx := by
  induction as generalizing d with
  | nil => rfl
  | cons a as ih =>
    rw [runActs_cons, ih _ (All.tail h), exec_idx_of_noDump d (All.head h)]

theorem NoDump.append {l1 l2 : List Act} (h1 : NoDump l1) (h2 : NoDump l2) : NoDump (l1 ++ l2) :=
  All.append h1 h2

/-- a batch of dumps of existing blob files: no length changes, and the index file of `j` is (re)written, with the
    current length of the blob file in its `blob_size` field, iff some dump of `j` carries an index -/
theorem runActs_dumps (w : Blob → Bool) : ∀ (L : List Blob) (d : Disk), (∀ b ∈ L, (d.files b.id).isSome) →
    ∀ j, (d.runActs (L.map fun b => Act.dump b.id (w b))).1.idx j =
      if L.any (fun b => b.id == j && w b) then szOf d j else d.idx j
  | [], d, _, j => by simp
  | x :: L, d, h, j => by
    obtain ⟨fx, hfx⟩ := Option.isSome_iff_exists.1 (h x (List.mem_cons_self ..))
    have hs1 : ∀ i, szOf (d.exec (.dump x.id (w x))).1 i = szOf d i := exec_szOf_of_quiet d rfl rfl
    have hf1 : ∀ b ∈ L, ((d.exec (.dump x.id (w x))).1.files b.id).isSome := by
      intro b hb
      rw [isSome_files_eq_szOf, hs1, ← isSome_files_eq_szOf]
      exact h b (List.mem_cons_of_mem _ hb)
    have hi1 : (d.exec (.dump x.id (w x))).1.idx j = if (x.id == j && w x) then szOf d j else d.idx j := by
      simp only [Disk.exec, hfx]
      cases hw : w x with
      | false => simp
      | true =>
        simp only [if_true, Disk.setIdx, Bool.and_true, beq_iff_eq]
        by_cases hj : j = x.id
        · subst hj; simp [szOf, hfx]
        · have : ¬ x.id = j := fun e => hj e.symm
          simp [hj, this]
    rw [List.map_cons, runActs_cons, runActs_dumps w L _ hf1 j, hs1, hi1, List.any_cons]
    cases (x.id == j && w x) <;> simp

theorem seq_fst (p q : Prog) (s : FsState) : ((p ⨾ q) s).1 = (q (p s).1).1 := rfl
theorem acts_store (g : FsState → List Act) (s : FsState) : (acts g s).1.store = s.store := rfl
theorem acts_disk (g : FsState → List Act) (s : FsState) : (acts g s).1.disk = (s.disk.runActs (g s)).1 := rfl
theorem acts_deferred (g : FsState → List Act) (s : FsState) : (acts g s).1.deferred = s.deferred := rfl
theorem applyP_store (op : Op) (s : FsState) : (applyP op s).1.store = s.store.apply op := rfl
theorem applyP_disk (op : Op) (s : FsState) : (applyP op s).1.disk = s.disk := rfl
theorem applyP_deferred (op : Op) (s : FsState) : (applyP op s).1.deferred = s.deferred := rfl

theorem newBlobP_store (op : Op) (s : FsState) : (newBlobP op s).1.store = s.store.apply op := rfl
theorem newBlobP_deferred (op : Op) (s : FsState) : (newBlobP op s).1.deferred = s.deferred := rfl
theorem newBlobP_idx (op : Op) (s : FsState) : (newBlobP op s).1.disk.idx = s.disk.idx :=
  runActs_idx_of_noDump s.disk (All.cons rfl All.nil)

theorem ensureActiveP_idx (s : FsState) : (ensureActiveP s).1.disk.idx = s.disk.idx := by
  unfold ensureActiveP
  rw [cond_eq]
  split
  · exact newBlobP_idx _ s
  · rfl

theorem ensureActiveP_deferred (s : FsState) : (ensureActiveP s).1.deferred = s.deferred := by
  unfold ensureActiveP
  rw [cond_eq]
  split <;> rfl

end Fs

namespace FsAcct
open Fs

/-- the directory-level operations a driver-level operation stands for, in the state it is issued in: a rotation
    runs its dump pass unless a deferred dump is registered; `force` goes ahead iff its predicate holds of the active
    blob; `free` and `settle` are a dump pass; `fsync`, queries and `close` touch no length and no index file of the
    directory model (what `close` dumps is written by the `restart` that follows it); `restart`, and `open` of a closed
    storage, are a restart without damage and without `ignore_corrupted`; a closed storage ignores everything else -/
def tr (f : FsState) : FsOp → List Acct.AOp
  | .write k ts m d rot => if f.isOpen then [.write k ts m d rot (!f.deferred)] else []
  | .delete k ts m oip => if f.isOpen then [.delete k ts m oip] else []
  | .closeActive => if f.isOpen then [.closeActive] else []
  | .createActive => if f.isOpen then [.createActive] else []
  | .restoreActive => if f.isOpen then [.restoreActive] else []
  | .force pred => if f.isOpen then [.force (pred f.store.activeStat)] else []
  | .free => if f.isOpen then [.settle] else []
  | .settle => if f.isOpen then [.settle] else []
  | .fsync => []
  | .restart lazy => if f.isOpen then [.restart lazy false []] else []
  | .close => []
  | .open lazy => if f.isOpen then [] else [.restart lazy false []]
  | .query => []

/-- the directory-level history of a list of driver-level operations -/
def trFrom : FsState → List FsOp → List Acct.AOp
  | _, [] => []
  | f, op :: ops => tr f op ++ trFrom (emit f op).1 ops

/-- … from `init` on an empty directory -/
def toAOps (dup : Bool) (limit klen : Nat) (unc rs : Bool) (ops : List FsOp) : List Acct.AOp :=
  trFrom (init dup limit klen unc rs).1 ops

variable (dup : Bool) (limit klen : Nat) (unc rs : Bool)

theorem runFrom_fst_indep (s : FsState) (t t' : List Event) (ops : List FsOp) :
    (runFrom (s, t) ops).1 = (runFrom (s, t') ops).1 := by
  induction ops generalizing s t t' with
  | nil => rfl
  | cons o os ih => rw [runFrom_cons, runFrom_cons]; exact ih _ _ _

theorem trFrom_append (f : FsState) (ops more : List FsOp) :
    trFrom f (ops ++ more) = trFrom f ops ++ trFrom (runFrom (f, []) ops).1 more := by
  induction ops generalizing f with
  | nil => rfl
  | cons op ops ih =>
    rw [List.cons_append, trFrom, trFrom, ih, List.append_assoc, runFrom_cons]
    rw [runFrom_fst_indep (emit f op).1 [] ([] ++ (emit f op).2)]

theorem tr_noDamage (f : FsState) (op : FsOp) : ∀ o ∈ tr f op, Acct.NoDamage o := by
  intro o ho
  cases op <;> simp only [tr] at ho <;> (try split at ho) <;>
    first
      | (cases ho; done)
      | (rw [List.mem_singleton] at ho; subst ho; first | trivial | rfl)

theorem trFrom_noDamage : ∀ (f : FsState) (ops : List FsOp), ∀ o ∈ trFrom f ops, Acct.NoDamage o
  | _, [], o, ho => by cases ho
  | f, op :: ops, o, ho => by
    rw [trFrom, List.mem_append] at ho
    rcases ho with h | h
    · exact tr_noDamage f op o h
    · exact trFrom_noDamage _ ops o h

/-- the simulation relation: same L2 store, the structural invariants of both models, a directory in which nothing
    was ever quarantined or skipped, and the same index files with the same `blob_size` field -/
structure R0 (c : Acct.Cfg) (f : FsState) (a : Acct.State) : Prop where
  store : a.store = f.store
  klen : f.klen = c.klen
  inv : Acct.Inv c a
  clean : Acct.Clean a
  coh : Coh f
  full : Full f
  idx : ∀ id, (Acct.get a.dir.idx id).map (·.blobSize) = f.disk.idx id

/-- the blob files and their lengths agree, as a consequence -/
theorem R0.blobs {c : Acct.Cfg} {f : FsState} {a : Acct.State} (h : R0 c f a) (id : Nat) :
    Acct.get a.dir.blobs id = szOf f.disk id := by
  by_cases hb : ∃ b ∈ f.store.blobs, b.id = id
  · obtain ⟨b, hb, rfl⟩ := hb
    have h1 := h.full (b.id, b.recs) (List.mem_map_of_mem (f := fun b => (b.id, b.recs)) hb)
    have ob := h.inv.ok b (by rw [h.store]; exact hb)
    rw [h1, ob.file, ob.size, h.klen]
  · have h1 : szOf f.disk id = none := by
      cases hs : szOf f.disk id with
      | none => rfl
      | some l =>
        have : (f.disk.files id).isSome := by rw [isSome_files_eq_szOf, hs]; rfl
        exact absurd (h.coh.dom id this) hb
    rw [h1]
    apply Acct.get_eq_none_iff.2
    intro hk
    rcases (h.inv.files id).1 hk with hx | hx
    · rw [h.store] at hx; exact hb hx
    · rw [h.clean.1] at hx; cases hx

theorem R0.size {c : Acct.Cfg} {f : FsState} {a : Acct.State} (h : R0 c f a) {b : Blob} (hb : b ∈ f.store.blobs) :
    szOf f.disk b.id = some (a.fsz b.id) := by
  have ob := h.inv.ok b (by rw [h.store]; exact hb)
  rw [← h.blobs, ob.file]

theorem R0.next {c : Acct.Cfg} {f f' : FsState} {a a' : Acct.State} (h : R0 c f a)
    (hst : a'.store = f'.store) (hk : f'.klen = f.klen) (hinv : Acct.Inv c a') (hq : Acct.sameQ a a')
    (hg : Coh f' ∧ Full f')
    (hidx : ∀ id, (Acct.get a'.dir.idx id).map (·.blobSize) = f'.disk.idx id) : R0 c f' a' :=
  ⟨hst, hk.trans h.klen, hinv, hq.clean h.clean, hg.1, hg.2, hidx⟩

theorem R0.good {c : Acct.Cfg} {f : FsState} {a : Acct.State} (h : R0 c f a) {p : Prog} (hp : Good p) :
    Coh (p f).1 ∧ Full (p f).1 := (hp f h.coh h.full).2

/-- `Fs`: a batch of dumps of held blobs `L`, the dump of `b` carrying an index iff `w b`; `Acct`: the index files of
    `L.filter w` are created or replaced, each with the `File::size()` of its blob in the `blob_size` field.  The index
    files agree afterwards. -/
theorem idx_agree_replace {c : Acct.Cfg} {f : FsState} {a : Acct.State} (h : R0 c f a) (d : Disk)
    (hsz : ∀ j, szOf d j = szOf f.disk j) (hidx : d.idx = f.disk.idx) (L : List Blob) (w : Blob → Bool)
    (hL : ∀ b ∈ L, b ∈ f.store.blobs) (F : Blob → Acct.IdxFile) (hF : ∀ b ∈ L, (F b).blobSize = a.fsz b.id)
    (id : Nat) :
    (Acct.get (Acct.del a.dir.idx (fun i => (L.filter w).any (·.id == i)) ++
        (L.filter w).map (fun b => (b.id, F b))) id).map (·.blobSize) =
      (d.runActs (L.map fun b => Act.dump b.id (w b))).1.idx id := by
  have hex : ∀ b ∈ L, (d.files b.id).isSome := by
    intro b hb
    rw [isSome_files_eq_szOf, hsz, h.size (hL b hb)]; rfl
  rw [Acct.get_replace, runActs_dumps w L d hex id]
  cases hf : (L.filter w).find? (·.id == id) with
  | some t =>
    have ht := List.mem_filter.1 (List.mem_of_find?_eq_some hf)
    have hid : t.id = id := by simpa using List.find?_some hf
    have hany : L.any (fun b => b.id == id && w b) = true :=
      List.any_eq_true.2 ⟨t, ht.1, by simp [hid, ht.2]⟩
    simp only [hany, if_true, Option.map_some]
    rw [hsz, ← hid, h.size (hL t ht.1), hF t ht.1]
  | none =>
    have hany : L.any (fun b => b.id == id && w b) = false := by
      rw [Bool.eq_false_iff]
      intro hc
      obtain ⟨b, hb, hbw⟩ := List.any_eq_true.1 hc
      simp only [Bool.and_eq_true, beq_iff_eq] at hbw
      have := List.find?_eq_none.1 hf b (List.mem_filter.2 ⟨hb, hbw.2⟩)
      simp [hbw.1] at this
    simp only [hany, Bool.false_eq_true, if_false]
    rw [hidx]; exact h.idx id

section pieces
variable {c : Acct.Cfg} {f : FsState} {a : Acct.State}

/-- `ensure_active_blob_exists` -/
theorem sim_ensureActive (h : R0 c f a) : R0 c (ensureActiveP f).1 (Acct.ensureActive a) :=
  h.next (by rw [Acct.ensureActive_store, ensureActiveP_store, h.store]) (ensureActiveP_klen f)
    (Acct.inv_ensureActive h.inv) (Acct.sameQ_ensureActive a) (h.good .ensureActiveP)
    (fun id => by rw [Acct.ensureActive_idx, ensureActiveP_idx]; exact h.idx id)

/-- a batch of actions that creates nothing, appends nothing and dumps no index (fsyncs, opens) -/
theorem sim_quiet (h : R0 c f a) {g : FsState → List Act} (hg : Good (acts g)) (h3 : NoDump (g f)) :
    R0 c (acts g f).1 a :=
  h.next h.store rfl h.inv (Acct.sameQ.refl a) (h.good hg)
    (fun id => by rw [acts_disk, runActs_idx_of_noDump _ h3]; exact h.idx id)

/-- `Safe::replace_active_blob` with a fresh blob -/
theorem sim_replace (h : R0 c f a) :
    R0 c (newBlobP .replaceActive f).1 { Acct.newBlobFile a with store := a.store.apply .replaceActive } :=
  h.next (by rw [newBlobP_store, ← h.store]) rfl (Acct.inv_replace h.inv) ⟨rfl, rfl⟩
    (h.good .replaceActive)
    (fun id => by rw [newBlobP_idx]; exact h.idx id)

theorem dumpTargets_eq (st : Store) :
    Acct.dumpTargets st = (st.closed.filter (fun b => !b.onDisk)).filter (fun b => !b.recs.isEmpty) := by
  unfold Acct.dumpTargets
  rw [List.filter_filter]
  congr 1
  funext b
  exact Bool.and_comm _ _

/-- one pass of `Safe::try_dump_old_blob_indexes` -/
theorem sim_dumpPass (h : R0 c f a) : R0 c (dumpPassP f).1 (Acct.dumpPass c a) := by
  refine h.next ?_ rfl (Acct.inv_dumpPass h.inv) (Acct.sameQ_dumpPass c a) (h.good .dumpPassP) ?_
  · show a.store.apply .settle = f.store.apply .settle
    rw [h.store]
  · intro id
    show (Acct.get (Acct.del _ _ ++ List.map _ _) id).map Acct.IdxFile.blobSize =
      (f.disk.runActs (dumpActs f.store)).1.idx id
    rw [dumpTargets_eq, h.store]
    exact idx_agree_replace h f.disk (fun _ => rfl) rfl _ (fun b => !b.recs.isEmpty)
      (fun b hb => Acct.mem_blobs_of_closed (List.mem_filter.1 hb).1) _ (fun _ _ => rfl) id

/-- `Inner::close_active_blob`: the active blob is pushed into the container -/
theorem sim_applyClose (h : R0 c f a) :
    R0 c (applyP .closeActive f).1 { a with store := a.store.apply .closeActive } :=
  h.next (by rw [applyP_store, ← h.store]) rfl
    (Acct.Blk.inv h.inv (b := .l2 .closeActive) (.inl rfl))
    ⟨rfl, rfl⟩ (h.good (.applyP fun st _ _ => Store.history_closeActive st)) h.idx

/-- `Inner::restore_active_blob` -/
theorem sim_applyRestore (h : R0 c f a) : R0 c (applyP .restoreActive f).1 (Acct.restoreActive a) :=
  h.next (by rw [applyP_store, ← h.store]; rfl) rfl (Acct.inv_restoreActive h.inv) ⟨rfl, rfl⟩
    (h.good (.applyP fun st _ _ => Store.history_restoreActive st)) h.idx

/-- `Blob::write` into the active blob: the block between `ensure_active_blob_exists` and the rotation -/
theorem sim_appendActive (h : R0 c f a) {x : Blob} (hx : f.store.active = some x) (k : Key) (ts : Nat)
    (m : Option Meta) (d : Data)
    (hrej : (!f.store.allowDup && (f.store.getLatestEntry k m).isFound) = false) :
    R0 c (appendActiveP k ts m d f).1 ((Acct.Blk.writeRec k ts m d).run c a) := by
  have hxa : a.store.active = some x := by rw [h.store]; exact hx
  have hinv := Acct.Blk.inv h.inv (b := .writeRec k ts m d) ⟨⟨x, hxa⟩, by rw [h.store]; exact hrej⟩
  have hw : (Acct.Blk.writeRec k ts m d).run c a =
      { Acct.appendWhere a (· == x.id) (recLen c.klen (writeRec k ts m d)) with
        store := a.store.apply (.write k ts m d) } := by
    simp only [Acct.Blk.run, hxa]
  refine h.next ?_ rfl hinv ?_ (goodAt_appendActive h.coh h.full hx k ts m d hrej).2 ?_
  · rw [hw]
    show a.store.apply (.write k ts m d) = f.store.apply (.write k ts m d)
    rw [h.store]
  · rw [hw]; exact ⟨rfl, rfl⟩
  · intro id
    rw [hw]
    show (Acct.get a.dir.idx id).map (·.blobSize) = (f.disk.runActs _).1.idx id
    rw [runActs_idx_of_noDump]
    · exact h.idx id
    · simp only [hx]; exact All.cons rfl All.nil

/-- `Storage::delete_with_optional_meta` after `ensure_active_blob_exists` -/
theorem sim_deleteCore (h : R0 c f a) (k : Key) (ts : Nat) (m : Option Meta) (oip : Bool)
    (hP : oip = true ∨ f.store.active.isSome = true) :
    R0 c (deleteCoreP k ts m oip f).1 ((Acct.Blk.marks k ts m oip).run c a) := by
  have hinv := Acct.Blk.inv h.inv (b := .marks k ts m oip) (show _ ∨ a.store.active.isSome = true by rw [h.store]; exact hP)
  refine h.next ?_ rfl hinv ⟨rfl, rfl⟩ (goodAt_deleteCore h.coh h.full k ts m oip hP).2 ?_
  · show a.store.apply (.delete k ts m oip) = f.store.apply (.delete k ts m oip)
    rw [h.store]
  · intro id
    show (Acct.get a.dir.idx id).map (·.blobSize) = (f.disk.runActs (deleteActs f.klen f.store k ts m oip)).1.idx id
    rw [runActs_idx_of_noDump _ (all_deleteActs (fun _ _ => rfl) _ _ _ _ _ _)]
    exact h.idx id

/-- `Storage::close`: the active blob is dumped -/
theorem sim_close (h : R0 c f a) : R0 c (closeP f).1 (Acct.closeSession c a) := by
  refine h.next (by rw [Acct.closeSession_store]; exact h.store) rfl (Acct.inv_closeSession h.inv)
    ⟨Acct.closeSession_ignored c a, Acct.closeSession_corrupted c a⟩ (h.good .closeP) ?_
  intro id
  cases hx : f.store.active with
  | none =>
    have hxa : a.store.active = none := by rw [h.store]; exact hx
    have e1 : Acct.closeSession c a = a := by unfold Acct.closeSession; rw [hxa]
    have e2 : (closeP f).1.disk = (f.disk.runActs []).1 := by
      show (f.disk.runActs _).1 = _
      simp only [hx]
    rw [e1, e2]; exact h.idx id
  | some x =>
    have hxa : a.store.active = some x := by rw [h.store]; exact hx
    have hmem : x ∈ f.store.blobs := Acct.mem_blobs_of_active hx
    have hod : x.onDisk = false := h.inv.activeMem x hxa
    have e2 : (closeP f).1.disk = (f.disk.runActs ([x].map fun b => Act.dump b.id (!b.recs.isEmpty))).1 := by
      show (f.disk.runActs _).1 = _
      simp only [hx, List.map_cons, List.map_nil]
    have hex : ∀ b ∈ [x], (f.disk.files b.id).isSome := by
      intro b hb; rw [List.mem_singleton] at hb; subst hb; exact file_of_active h.full hx
    rw [e2, runActs_dumps (fun b => !b.recs.isEmpty) [x] f.disk hex id]
    unfold Acct.closeSession
    simp only [hxa, hod, Bool.not_false, Bool.true_and, List.any_cons, List.any_nil, Bool.or_false]
    cases hr : x.recs.isEmpty with
    | true => simp only [Bool.not_true, Bool.false_eq_true, if_false, Bool.and_false]; exact h.idx id
    | false =>
      simp only [Bool.not_false, if_true, Bool.and_true, beq_iff_eq]
      rw [Acct.get_put]
      by_cases hj : id = x.id
      · subst hj
        simp only [if_true, Option.map_some]
        rw [h.size hmem]; rfl
      · have : ¬ x.id = id := fun e => hj e.symm
        simp only [hj, this, if_false]; exact h.idx id

/-- `FileIndex::validate` gives the same answer in both models -/
theorem idxValid_agree (h : R0 c f a) (id : Nat) : Acct.idxValid a.dir id = Fs.idxValid f.disk id := by
  have h1 := h.idx id
  have h2 := h.blobs id
  unfold szOf at h2
  unfold Acct.idxValid Fs.idxValid
  cases hg : Acct.get a.dir.idx id <;> cases hb : Acct.get a.dir.blobs id <;>
    cases hd : f.disk.idx id <;> cases hf : f.disk.files id <;> simp_all

theorem acct_restart_idx (c : Acct.Cfg) (a : Acct.State) (lazy ignore : Bool) (bad : List Nat)
    (hne : (Acct.keys (Acct.closeSession c a).dir.blobs).isEmpty = false) :
    (Acct.restart c a lazy ignore bad).dir.idx =
      (Acct.initCore c (Acct.closeSession c a) lazy ignore bad).dir.idx := by
  rw [Acct.restart_eq, hne, if_neg Bool.false_ne_true]
  split
  · rfl
  · exact Acct.ensureActive_idx _

/-- `init_from_existing` after `Storage::close`, nothing damaged: `f1` is the closed storage, `a` the directory-level
    state BEFORE `closeSession` (`Acct.restart` closes the session itself) -/
theorem sim_open {f1 : FsState} (h1 : R0 c f1 (Acct.closeSession c a)) (hinv : Acct.Inv c a)
    (hcl : Acct.Clean a) (lazy : Bool) :
    R0 c (openP lazy f1).1 (Acct.restart c a lazy false []) := by
  obtain ⟨hst, hcl'⟩ := Acct.restart_store_clean hinv hcl lazy false
  have hs1 : f1.store = a.store := by rw [← h1.store, Acct.closeSession_store]
  refine ⟨?_, h1.klen, Acct.inv_restart hinv lazy false [], hcl', (h1.good (.openP lazy)).1,
    (h1.good (.openP lazy)).2, ?_⟩
  · rw [hst, ← hs1]; rfl
  · intro id
    -- the directory-level side
    have hwf1 : (Acct.closeSession c a).store.WF := h1.inv.wf
    have hne : (Acct.keys (Acct.closeSession c a).dir.blobs).isEmpty = false := by
      obtain ⟨b, hb⟩ := List.exists_mem_of_ne_nil _ h1.coh.ne
      exact List.isEmpty_eq_false_iff_exists_mem.2 ⟨_, (h1.inv.files b.id).2 (Or.inl ⟨b, h1.store ▸ hb, rfl⟩)⟩
    have hu : Acct.unreadable (Acct.closeSession c a) [] = [] := Acct.unreadable_clean h1.clean.1
    rw [acct_restart_idx c a lazy false [] hne]
    have hsort : Store.sortById f1.store.blobs = f1.store.blobs := Store.sortById_of_sorted _ h1.coh.wf.1
    -- the trace-level side
    have e2 : (openP lazy f1).1.disk = (f1.disk.runActs (openActs f1.disk f1.store lazy)).1 := rfl
    rw [e2]
    unfold openActs
    simp only [hsort]
    rw [runActs_append]
    simp only
    -- the closed blobs
    generalize hrest : (if lazy = true then f1.store.blobs else f1.store.blobs.dropLast) = rest
    have hrest_sub : ∀ b ∈ rest, b ∈ f1.store.blobs := by
      intro b hb
      rw [← hrest] at hb
      cases lazy with
      | true => exact hb
      | false => exact (List.dropLast_sublist _).subset hb
    have hcl : (if lazy = true then Acct.keptBlobs (Acct.closeSession c a) []
        else (Acct.keptBlobs (Acct.closeSession c a) []).dropLast) = rest := by
      rw [Acct.keptBlobs_clean hwf1 hu, h1.store]; exact hrest
    have hdir := Acct.dirAfterRead_clean hu false
    show (Acct.get (Acct.del _ _ ++ List.map _ _) id).map Acct.IdxFile.blobSize = _
    rw [hcl, hdir]
    have hfil : List.filter (fun b => !Acct.idxValid (Acct.closeSession c a).dir b.id && !b.recs.isEmpty) rest =
        (rest.filter (fun b => !Fs.idxValid f1.disk b.id)).filter (fun b => !b.recs.isEmpty) := by
      rw [List.filter_filter]
      congr 1
      funext b
      rw [idxValid_agree h1 b.id, Bool.and_comm]
    rw [hfil]
    refine idx_agree_replace h1 _
      (fun j => runActs_szOf_of_quiet _ (all_opens (fun _ => rfl) (fun _ => rfl) _ _)
        (all_opens (fun _ => rfl) (fun _ => rfl) _ _) j)
      (runActs_idx_of_noDump _ (all_opens (fun _ => rfl) (fun _ => rfl) _ _)) _ (fun b => !b.recs.isEmpty)
      (fun b hb => hrest_sub b (List.mem_filter.1 hb).1) _ ?_ id
    intro b hb
    have hbm := hrest_sub b (List.mem_filter.1 hb).1
    have ob := h1.inv.ok b (by rw [h1.store]; exact hbm)
    show Acct.blobFileLen (Acct.closeSession c a).dir b.id = _
    unfold Acct.blobFileLen
    rw [ob.file]; rfl

/-- `Inner::fsyncdata` changes no length and no index file -/
theorem sim_fsyncCheck (h : R0 c f a) : R0 c (fsyncCheckP f).1 a :=
  sim_quiet h .fsyncCheckP (All.ofOption fun _ _ => All.ite (fun _ => All.cons rfl All.nil) fun _ => All.nil)

theorem sim_fsync (h : R0 c f a) : R0 c (fsyncP f).1 a :=
  sim_quiet h (good_prog .fsync) (All.ofOption fun _ _ => All.ite (fun _ => All.cons rfl All.nil) fun _ => All.nil)

/-- `TryUpdateActiveBlob` taking effect: the dump pass runs unless a deferred dump is registered -/
theorem sim_rotate (h : R0 c f a) : R0 c (rotateP f).1 (Acct.rotate c a (!f.deferred)) := by
  have h3 := sim_replace h
  have hd : (newBlobP .replaceActive f).1.deferred = f.deferred := rfl
  show R0 c (Fs.cond (fun s => s.deferred) skip dumpPassP (newBlobP .replaceActive f).1).1 _
  rw [cond_eq, hd]
  unfold Acct.rotate
  cases f.deferred with
  | true => exact h3
  | false => exact sim_dumpPass h3

/-- `Storage::write_with_optional_meta` -/
theorem sim_write (h : R0 c f a) (k : Key) (ts : Nat) (m : Option Meta) (d : Data) (rot : Bool) :
    R0 c (writeP k ts m d rot f).1 (Acct.write c a k ts m d rot (!f.deferred)) := by
  have h1 := sim_ensureActive h
  have hd1 := ensureActiveP_deferred f
  have ha1 := ensureActiveP_active f
  rw [Acct.write_eq, writeP_eq]
  show R0 c (Fs.cond _ skip _ (ensureActiveP f).1).1 _
  generalize (ensureActiveP f).1 = f1 at h1 hd1 ha1
  generalize Acct.ensureActive a = a1 at h1
  rw [cond_eq, h1.store]
  cases hrej : (!f1.store.allowDup && (f1.store.getLatestEntry k m).isFound) with
  | true => exact h1
  | false =>
    obtain ⟨x, hx⟩ := Option.isSome_iff_exists.1 ha1
    have h2 := sim_appendActive h1 hx k ts m d hrej
    have hd2 : (appendActiveP k ts m d f1).1.deferred = f.deferred := hd1
    simp only [Bool.false_eq_true, if_false]
    show R0 c ((if rot then rotateP else fsyncCheckP) (appendActiveP k ts m d f1).1).1 _
    cases rot with
    | true =>
      simp only [if_true]
      rw [← hd2]; exact sim_rotate h2
    | false =>
      simp only [Bool.false_eq_true, if_false]
      exact sim_fsyncCheck h2

/-- `Storage::delete_with_optional_meta` -/
theorem sim_delete (h : R0 c f a) (k : Key) (ts : Nat) (m : Option Meta) (oip : Bool) :
    R0 c (deleteP k ts m oip f).1 (Acct.delete c a k ts m oip) := by
  rw [deleteP_eq]
  show R0 c (fsyncCheckP (deleteCoreP k ts m oip ((if oip then skip else ensureActiveP) f).1).1).1
    ((Acct.Blk.marks k ts m oip).run c (if oip then a else Acct.ensureActive a))
  cases oip with
  | true => exact sim_fsyncCheck (sim_deleteCore h k ts m true (Or.inl rfl))
  | false =>
    simp only [Bool.false_eq_true, if_false]
    exact sim_fsyncCheck (sim_deleteCore (sim_ensureActive h) k ts m false (Or.inr (ensureActiveP_active f)))

/-- `try_close_active_blob` -/
theorem sim_closeActive (h : R0 c f a) : R0 c (closeActiveP f).1 (Acct.closeActive c a) := by
  have h1 := sim_quiet h .syncActive (All.ofOption fun _ _ => All.cons rfl All.nil)
  exact sim_dumpPass (sim_applyClose h1)

/-- `restore_active_blob` -/
theorem sim_restoreActive (h : R0 c f a) : R0 c (restoreActiveP f).1 (Acct.restoreActive a) := by
  unfold restoreActiveP
  rw [cond_eq]
  cases hok : restoreOk f.store with
  | true =>
    simp only [if_true]
    have h1 := sim_applyRestore h
    show R0 c (Fs.cond (fun s => s.restoreSyncsOverLimit) fsyncCheckP skip (applyP .restoreActive f).1).1 _
    rw [cond_eq]
    split
    · exact sim_fsyncCheck h1
    · exact h1
  | false =>
    simp only [Bool.false_eq_true, if_false]
    have : a.store.apply .restoreActive = a.store := by
      rw [h.store]
      unfold restoreOk at hok
      simp only [Store.apply]
      split at hok
      · cases hok
      · rename_i e he; rw [he]
    have e : Acct.restoreActive a = a := by
      unfold Acct.restoreActive; rw [this]
    rw [e]; exact h

/-- `force_update_active_blob(pred)` -/
theorem sim_force (h : R0 c f a) (pred : BlobPred) :
    R0 c (forceP pred f).1 (Acct.force c a (pred f.store.activeStat)) := by
  unfold forceP Acct.force
  show R0 c (dumpPassP (Fs.cond (fun s => pred s.store.activeStat) (newBlobP .replaceActive) skip f).1).1 _
  rw [cond_eq]
  cases pred f.store.activeStat with
  | true => exact sim_dumpPass (sim_replace h)
  | false => exact sim_dumpPass h

theorem settle_of_not_pending {st : Store} (hp : pending st = false) : st.apply .settle = st := by
  show st.settle = st
  unfold Store.settle
  have : st.slots.map (fun o => o.map (fun b => if b.recs.isEmpty then b else { b with onDisk := true })) =
      st.slots := by
    conv => rhs; rw [← List.map_id st.slots]
    apply List.map_congr_left
    intro o ho
    cases o with
    | none => rfl
    | some b =>
      simp only [Option.map_some, id]
      cases hr : b.recs.isEmpty with
      | true => rfl
      | false =>
        have hb : b ∈ st.closed := by
          unfold Store.closed; exact List.mem_filterMap.2 ⟨some b, ho, rfl⟩
        unfold pending at hp
        have := List.any_eq_false.1 hp b hb
        simp only [hr, Bool.not_false, Bool.true_and, Bool.not_eq_true', Bool.not_eq_false] at this
        simp only [Bool.false_eq_true, if_false]
        cases b; simp_all
  rw [this]

/-- the `settle` command: a dump pass that, when no index is pending, changes nothing on either side -/
theorem sim_settle (h : R0 c f a) : R0 c (settleP f).1 (Acct.dumpPass c a) := by
  unfold settleP
  rw [cond_eq]
  cases hp : pending f.store with
  | true => exact sim_dumpPass h
  | false =>
    simp only [Bool.false_eq_true, if_false]
    have hts : Acct.dumpTargets a.store = [] := by
      unfold Acct.dumpTargets
      rw [List.filter_eq_nil_iff, h.store]
      intro b hb
      unfold pending at hp
      have := List.any_eq_false.1 hp b hb
      simp only [Bool.and_eq_true, not_and, Bool.not_eq_true'] at this ⊢
      intro h1
      cases hr : b.recs.isEmpty with
      | true => simp
      | false => simp [hr, h1] at this
    refine h.next ?_ rfl (Acct.inv_dumpPass h.inv) (Acct.sameQ_dumpPass c a) ⟨h.coh, h.full⟩ ?_
    · show a.store.apply .settle = f.store
      rw [h.store]; exact settle_of_not_pending hp
    · intro id
      rw [Acct.get_dumpPass_idx, hts]
      exact h.idx id

end pieces

theorem keepsOpen {p : Prog} (h : Built False p) (s : FsState) : (p s).1.isOpen = s.isOpen := by
  induction h generalizing s with
  | skip | acts _ | applyP _ | deferred _ | replaceActive => rfl
  | flags hF _ _ => exact hF.elim
  | ensureActive => unfold ensureActiveP; rw [cond_eq]; split <;> rfl
  | seq _ _ hp hq => rw [seq_fst, hq, hp]
  | cond _ _ _ hp hq =>
    rw [cond_eq]; split
    · exact hp s
    · exact hq s

/-- the relation along a run: while the storage is closed, the directory model has not yet been told (`Acct.restart`
    closes the session itself), so it is its `closeSession` that matches -/
def R (c : Acct.Cfg) (f : FsState) (a : Acct.State) : Prop :=
  if f.isOpen then R0 c f a
  else R0 c f (Acct.closeSession c a) ∧ Acct.Inv c a ∧ Acct.Clean a

/-- the directory-level state the trace-level state is compared with -/
def eff (c : Acct.Cfg) (f : FsState) (a : Acct.State) : Acct.State :=
  if f.isOpen then a else Acct.closeSession c a

theorem R.r0 {c : Acct.Cfg} {f : FsState} {a : Acct.State} (h : R c f a) : R0 c f (eff c f a) := by
  unfold R at h; unfold eff
  split
  · rw [if_pos ‹_›] at h; exact h
  · rw [if_neg ‹_›] at h; exact h.1

theorem R.of_open {c : Acct.Cfg} {f : FsState} {a : Acct.State} (ho : f.isOpen = true) (h : R0 c f a) : R c f a := by
  unfold R; rw [if_pos ho]; exact h

theorem acct_runFrom_one (c : Acct.Cfg) (a : Acct.State) (op : Acct.AOp) :
    Acct.runFrom c a [op] = Acct.step c a op := rfl

/-- one driver-level operation against the directory-level operations it stands for -/
theorem emit_sim {c : Acct.Cfg} {f : FsState} {a : Acct.State} (h : R c f a) (op : FsOp) :
    R c (emit f op).1 (Acct.runFrom c a (tr f op)) := by
  unfold emit
  cases ho : f.isOpen with
  | true =>
    have h0 : R0 c f a := by unfold R at h; rw [if_pos ho] at h; exact h
    -- an operation that does not close the storage leaves it open
    have hko (op : FsOp) (hn : ¬op.closes) : (prog op f).1.isOpen = true :=
      (keepsOpen (built_prog op fun h => (hn h).elim) f).trans ho
    cases op <;> simp only [tr, ho, if_true, acct_runFrom_one]
    case write k ts m d rot => exact R.of_open (hko _ id) (sim_write h0 k ts m d rot)
    case delete k ts m oip => exact R.of_open (hko _ id) (sim_delete h0 k ts m oip)
    case closeActive => exact R.of_open (hko _ id) (sim_closeActive h0)
    case createActive => exact R.of_open (hko _ id) (sim_ensureActive h0)
    case restoreActive => exact R.of_open (hko _ id) (sim_restoreActive h0)
    case force pred => exact R.of_open (hko _ id) (sim_force h0 pred)
    case free => exact R.of_open (hko _ id) (sim_dumpPass h0)
    case settle => exact R.of_open (hko _ id) (sim_settle h0)
    case fsync => exact R.of_open (hko _ id) (sim_fsync h0)
    case restart lazy => exact R.of_open rfl (sim_open (sim_close h0) h0.inv h0.clean lazy)
    case close =>
      unfold R
      rw [if_neg (by show ¬ false = true; simp)]
      exact ⟨sim_close h0, h0.inv, h0.clean⟩
    case «open» lazy => exact R.of_open ho h0
    case query => exact R.of_open ho h0
  | false =>
    -- a closed storage ignores everything but `open`
    have h0 : R0 c f (Acct.closeSession c a) ∧ Acct.Inv c a ∧ Acct.Clean a := by
      unfold R at h; rw [if_neg (by rw [ho]; simp)] at h; exact h
    cases op <;> simp only [tr, ho, Bool.false_eq_true, if_false, acct_runFrom_one]
    case «open» lazy => exact R.of_open rfl (sim_open h0.1 h0.2.1 h0.2.2 lazy)
    all_goals exact h

theorem runFrom_sim {c : Acct.Cfg} : ∀ (ops : List FsOp) {f : FsState} {a : Acct.State} (t : List Event),
    R c f a → R c (Fs.runFrom (f, t) ops).1 (Acct.runFrom c a (trFrom f ops))
  | [], _, _, _, h => h
  | op :: ops, f, a, t, h => by
    rw [Fs.runFrom_cons, trFrom, Acct.runFrom_append]
    exact runFrom_sim ops _ (emit_sim h op)

theorem init_sim (c : Acct.Cfg) (dup : Bool) (limit klen : Nat) (unc rs : Bool) (hk : c.klen = klen) :
    R c (Fs.init dup limit klen unc rs).1 (Acct.init dup) := by
  have hc := init_coh dup limit klen unc rs
  have hf := init_full dup limit klen unc rs
  rw [init_eq] at hc hf ⊢
  apply R.of_open rfl
  exact ⟨rfl, hk.symm, Acct.inv_init c dup, ⟨rfl, rfl⟩, hc, hf, fun _ => rfl⟩

theorem run_sim (c : Acct.Cfg) (dup : Bool) (limit klen : Nat) (unc rs : Bool) (hk : c.klen = klen)
    (ops : List FsOp) :
    R c (Fs.run dup limit klen unc rs ops).1 (Acct.run c dup (toAOps dup limit klen unc rs ops)) := by
  unfold Fs.run Acct.run toAOps
  exact runFrom_sim ops _ (init_sim c dup limit klen unc rs hk)

/-- along a run both models hold the same L2 store and list the same blob files with the same lengths (while the storage
    is closed `Acct` lags by `closeSession`, which touches neither) -/
theorem run_same (c : Acct.Cfg) (dup : Bool) (limit klen : Nat) (unc rs : Bool) (hk : c.klen = klen)
    (ops : List FsOp) :
    (Acct.run c dup (toAOps dup limit klen unc rs ops)).store = (Fs.run dup limit klen unc rs ops).1.store ∧
      ∀ id, Acct.get (Acct.run c dup (toAOps dup limit klen unc rs ops)).dir.blobs id =
        szOf (Fs.run dup limit klen unc rs ops).1.disk id := by
  have h := (run_sim c dup limit klen unc rs hk ops).r0
  unfold eff at h
  split at h
  · exact ⟨h.store, h.blobs⟩
  · exact ⟨(Acct.closeSession_store c _).symm.trans h.store, fun id => by rw [← Acct.closeSession_blobs c]; exact h.blobs id⟩

/-! ## Part 3: consequences for whole runs -/

theorem toAOps_noDamage (ops : List FsOp) :
    ∀ o ∈ toAOps dup limit klen unc rs ops, Acct.NoDamage o :=
  trFrom_noDamage _ ops

theorem toAOps_append (ops more : List FsOp) :
    toAOps dup limit klen unc rs (ops ++ more) =
      toAOps dup limit klen unc rs ops ++ trFrom (Fs.run dup limit klen unc rs ops).1 more := by
  unfold toAOps Fs.run
  rw [trFrom_append]
  congr 2
  exact runFrom_fst_indep _ _ _ ops

/-- the ids of the blob files created in the trace of a run are `0, 1, …, next_blob_id - 1`, in this order: what the
    creation log of the directory model says (`Acct.GInv.created`) -/
theorem createdIds_run (ops : List FsOp) :
    createdIds (Fs.run dup limit klen unc rs ops).2 = List.range (Fs.run dup limit klen unc rs ops).1.store.nextId := by
  let c : Acct.Cfg := ⟨klen, fun _ => 0⟩
  obtain ⟨hst, hb⟩ := run_same c dup limit klen unc rs rfl ops
  have hinv := Fs.run_inv dup limit klen unc rs ops
  apply eq_range_of_sorted hinv.sorted
  intro i
  have hfull := Acct.run_ids_full c dup (toAOps dup limit klen unc rs ops) i
  rw [(Acct.run_clean c dup _ (toAOps_noDamage dup limit klen unc rs ops)).2.2] at hfull
  rw [← hst, hfull, or_iff_left List.not_mem_nil, ← Acct.get_isSome_iff, hb i, ← isSome_files_eq_szOf]
  constructor
  · intro hi; exact hinv.exist i hi
  · intro hi
    -- a file that exists starts, in the trace, with its creation (`DiskInv.hdr`)
    exact mem_createdIds.2 (List.mem_filter.1 ((((Fs.run_diskInv dup limit klen unc rs ops).hdr i).2 fun hn => by
      rw [hn] at hi; cases hi).subset List.mem_cons_self)).1

end FsAcct
end Pearl
