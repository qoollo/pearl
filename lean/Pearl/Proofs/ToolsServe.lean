import Pearl.Model.ToolsServe
import Pearl.Props.EndToEnd
import Pearl.Proofs.EndToEndCrashE8
import Pearl.Proofs.ToolsMany
/-
Start-up on a directory whose single blob file is the file the storage's record writer produces for a record list
(`blobBytes klen (full S)`; not the tools' `BlobWriter`).  The vocabulary of the statements of
`Pearl/Props/ToolsServe.lean` is defined here: `openedBlob`, `Fits`, `openedState`, `Serves1`, `OpensServing`
(`startOn`, `startOutcome` are in `Pearl/Model/ToolsServe.lean`).  Start-up on a produced file opens it and serves its
records (`startOn_produced`, `opensServing_produced`); conversely a file that start-up opens into a state with the
invariant and the one-blob history is a produced file (`produced_of_serves`).

The bridge between the two record types: C16 talks about `Rec × List UInt8` (a record with its explicit data bytes), the
storage about `Rec` whose value is `(len, seed)` with the bytes `dataOf`.  The map is `full` (`Pearl/Proofs/EndToEndIndex.lean`):
`full S = S.map (fun r => (r, dataOf r.data))`.  The composition theorems are about blobs of the form `full g`.
-/
namespace Pearl.E2E
open Pearl Pearl.BPTree Pearl.Container

theorem full_eraseIdx (recs : List Rec) (i : Nat) : full (recs.eraseIdx i) = (full recs).eraseIdx i := by
  simp only [full, List.eraseIdx_eq_take_drop_succ, List.map_append, List.map_take, List.map_drop]

theorem full_mem {recs : List Rec} {r : Rec} (h : r ∈ recs) : (r, dataOf r.data) ∈ full recs :=
  List.mem_map.mpr ⟨r, h, rfl⟩

theorem full_ts {g : List Rec} (hts : ∀ r ∈ g, r.ts < 2 ^ 64) : ∀ x ∈ full g, x.1.ts < 2 ^ 64 :=
  fun _ hx => hts _ (mem_full hx)

/-- the blob `Blob::from_file` returns for the file `blobBytes klen (full S)` found as blob file `id`: the index and the
    filter regenerated by the scan -/
def openedBlob (cfg : Cfg) (id : Nat) (S : List Rec) : CBlob :=
  { id := id, file := blobBytes cfg.klen (full S), index := .mem (indexOf (hdrsOf cfg S)),
    filter := filterOf cfg S, ghost := S }

/-- the range conditions under which a record list is the content of a blob of the storage: keys fit `K::LEN` bytes,
    timestamps a `u64`, and the file its `u64` offsets -/
structure Fits (cfg : Cfg) (S : List Rec) : Prop where
  key : ∀ r ∈ S, r.key < 256 ^ cfg.klen
  ts : ∀ r ∈ S, r.ts < 2 ^ 64
  size : (blobBytes cfg.klen (full S)).length < 2 ^ 64

theorem openedBlob_inv {cfg : Cfg} {S : List Rec} (h : Fits cfg S) (id : Nat) : BlobInv cfg (openedBlob cfg id S) where
  key := h.key
  ts := h.ts
  file := rfl
  filter := rfl
  index := by unfold IndexInv openedBlob; rfl
  size := h.size

theorem Fits.sublist {cfg : Cfg} {g S : List Rec} (h : Fits cfg g) (hs : S.Sublist g) : Fits cfg S :=
  ⟨fun r hr => h.key r (hs.subset hr), fun r hr => h.ts r (hs.subset hr),
    Nat.lt_of_le_of_lt (blobBytes_sublist_length_le cfg.klen (hs.map _)) h.size⟩

theorem Fits.take {cfg : Cfg} {g : List Rec} (h : Fits cfg g) (i : Nat) : Fits cfg (g.take i) :=
  h.sublist (List.take_sublist _ _)

theorem Fits.eraseIdx {cfg : Cfg} {g : List Rec} (h : Fits cfg g) (i : Nat) : Fits cfg (g.eraseIdx i) :=
  h.sublist (List.eraseIdx_sublist _ _)

/-- `Blob::from_file` (no index file) on a produced file, whatever the history variable `gh` of the directory entry -/
theorem regen_ofFile {cfg : Cfg} {S : List Rec} (h : Fits cfg S) (id : Nat) (gh : List Rec) :
    openBlob cfg.klen cfg.validateData (blobBytes cfg.klen (full S)) = .ok (hdrsOf cfg S) ∧
    regen cfg (CBlob.ofFile cfg id (blobBytes cfg.klen (full S)) gh) = some { openedBlob cfg id S with ghost := gh } := by
  have ho : openBlob cfg.klen cfg.validateData (blobBytes cfg.klen (full S)) = .ok (hdrsOf cfg S) :=
    openBlob_inv (openedBlob_inv h id) cfg.validateData
  refine ⟨ho, ?_⟩
  rw [regen_of_openBlob]
  show (match openBlob cfg.klen cfg.validateData (blobBytes cfg.klen (full S)) with
    | .ok hs => some { CBlob.ofFile cfg id (blobBytes cfg.klen (full S)) gh with
        index := .mem (indexOf hs), filter := (hs.map hdrKey).foldl (Combined.add cfg.h) (newFilter cfg) }
    | _ => none) = _
  rw [ho]
  simp only []
  have hflt : ((hdrsOf cfg S).map hdrKey).foldl (Combined.add cfg.h) (newFilter cfg) = filterOf cfg S := by
    unfold filterOf; rw [hdrsOf_keys cfg S h.key]
  rw [hflt]
  rfl

theorem dirOne_blobs (cfg : Cfg) (file : List UInt8) (gh : List Rec) :
    (CState.dirOne cfg file gh).blobs = [CBlob.ofFile cfg 0 file gh] := by
  unfold CState.blobs CState.dirOne CState.emptyCont
  simp [closedBlobs, Container.new]

/-- the storage `init` builds from the one opened blob -/
def openedState (cfg : Cfg) (S : List Rec) (lazy : Bool) : CState :=
  CState.ofBlobs cfg [openedBlob cfg 0 S] 1 lazy

theorem sortById_singleton (b : CBlob) : sortById [b] = [b] := rfl

theorem maxNextId_ofFile (cfg : Cfg) (file : List UInt8) (gh : List Rec) :
    maxNextId [CBlob.ofFile cfg 0 file gh] = 1 := rfl

/-- **start-up on a produced file**: `read_blobs` opens it (nothing quarantined), `init` with quarantine and
    `CState.restart` agree, the state satisfies the invariant and abstracts to the L2 store with one blob that holds
    exactly the records of the file -/
theorem startOn_produced {cfg : Cfg} (hcfg : cfg.OK) {S : List Rec} (h : Fits cfg S) (lazy : Bool) :
    startOn cfg (blobBytes cfg.klen (full S)) S lazy = some (openedState cfg S lazy) ∧
    (CState.dirOne cfg (blobBytes cfg.klen (full S)) S).restart cfg lazy = openedState cfg S lazy ∧
    CInv cfg (openedState cfg S lazy) ∧
    (openedState cfg S lazy).abs cfg = Store.oneBlob cfg.allowDup S lazy := by
  obtain ⟨ho, hr⟩ := regen_ofFile h 0 S
  have hr' : regen cfg (CBlob.ofFile cfg 0 (blobBytes cfg.klen (full S)) S) = some (openedBlob cfg 0 S) := hr
  have hrec : startOn cfg (blobBytes cfg.klen (full S)) S lazy = some (openedState cfg S lazy) := by
    unfold startOn CState.recover
    rw [dirOne_blobs, sortById_singleton, maxNextId_ofFile]
    have : readBlobs cfg [CBlob.ofFile cfg 0 (blobBytes cfg.klen (full S)) S] = some [openedBlob cfg 0 S] := by
      simp only [readBlobs]
      rw [show (CBlob.ofFile cfg 0 (blobBytes cfg.klen (full S)) S).file = blobBytes cfg.klen (full S) from rfl, ho]
      simp only [hr']
    rw [this]
    rfl
  have hall : regenAll cfg (sortById (CState.dirOne cfg (blobBytes cfg.klen (full S)) S).blobs) =
      some [openedBlob cfg 0 S] := by
    rw [dirOne_blobs, sortById_singleton]
    simp only [regenAll, hr']
  have hres := recover_eq_restart cfg _ lazy _ hall
  have hres' : (CState.dirOne cfg (blobBytes cfg.klen (full S)) S).restart cfg lazy = openedState cfg S lazy := by
    unfold startOn at hrec
    rw [hrec] at hres
    exact (Option.some.inj hres).symm
  obtain ⟨habs, hinv⟩ := ofBlobs_ref hcfg [openedBlob cfg 0 S] 1 lazy
    (fun b hb => by
      rw [List.mem_singleton] at hb; subst hb
      exact ⟨openedBlob_inv h 0, rfl⟩)
    (by simp) (fun b hb => by
      rw [List.mem_singleton] at hb; subst hb
      show 0 < 1
      omega)
  exact ⟨hrec, hres', hinv, habs⟩

theorem oneBlob_history (d : Bool) (S : List Rec) (lazy : Bool) : (Store.oneBlob d S lazy).history = [(0, S)] := by
  unfold Store.oneBlob
  rw [Store.history_eq_map, Store.ofBlobs_blobs d _ 1 lazy (Or.inl (by simp))]
  rfl

theorem storeMetaOK_of_history {s : Store} {S : List Rec} (hh : s.history = [(0, S)])
    (hm : ∀ r ∈ S, MetaOK r.mt) : StoreMetaOK s := by
  intro b hb r hr
  have : (b.id, b.recs) ∈ s.history := List.mem_map.mpr ⟨b, hb, rfl⟩
  rw [hh, List.mem_singleton] at this
  have h2 : b.recs = S := congrArg Prod.snd this
  rw [h2] at hr
  exact hm r hr

theorem oneBlob_metaOK (d : Bool) (S : List Rec) (lazy : Bool) (hm : ∀ r ∈ S, MetaOK r.mt) :
    StoreMetaOK (Store.oneBlob d S lazy) :=
  storeMetaOK_of_history (oneBlob_history d S lazy) hm

/-- **start-up does not read the history variable**: whatever `ghost` the directory entry carries, the physical part of
    the started storage is the same -/
theorem startOn_ghost_irrelevant (cfg : Cfg) (file : List UInt8) (gh gh' : List Rec) (lazy : Bool) :
    (startOn cfg file gh lazy).map CState.eraseGhost = (startOn cfg file gh' lazy).map CState.eraseGhost :=
  recover_phys_congr cfg (CState.dirOne cfg file gh) (CState.dirOne cfg file gh') rfl lazy

theorem latest_found_mem {S : List Rec} {k : Key} {p : PRec} (h : Spec.latest [(0, S)] k = .found p) :
    p.r ∈ S ∧ p.r.key = k ∧ p.r.del = false := by
  unfold Spec.latest at h
  split at h
  · cases h
  · next q l hq =>
    have hmem : q ∈ Spec.all [(0, S)] k := by rw [hq]; exact List.mem_cons_self
    rw [Spec.all_eq_sortedBy, mem_sortedBy, positioned_singleton] at hmem
    split at h
    · cases h
    · next hd =>
      cases h
      refine ⟨?_, by simpa using hmem.2, by simpa using hd⟩
      have := positionedFrom_map_r 0 S 0
      rw [← this]
      exact List.mem_map.mpr ⟨_, hmem.1, rfl⟩

/-- **the storage serves the records `S` of its single blob `0`**: the state satisfies the invariant, its L2 history is
    `[(0, S)]`, and every query is answered, without error, per `Spec` on that history, values as `dataOf` bytes -/
structure Serves1 (cfg : Cfg) (c : CState) (S : List Rec) : Prop where
  inv : CInv cfg c
  history : (c.abs cfg).history = [(0, S)]
  read : ∀ k, c.read cfg k = .ok ((Spec.latest [(0, S)] k).map (fun p => dataOf p.r.data))
  contains : ∀ k, c.contains cfg k = .ok ((Spec.latest [(0, S)] k).map (·.r.ts))
  readWith : (∀ r ∈ S, MetaOK r.mt) → ∀ k m, MetaOK m →
    c.readWith cfg k m = .ok ((Spec.readWith [(0, S)] k m).map (fun p => dataOf p.r.data)) ∧
    c.containsWith cfg k (some m) = .ok ((Spec.readWith [(0, S)] k m).map (·.r.ts))
  readAll : ∀ k,
    (∃ es, c.readAllMarked cfg k = .ok es ∧ es.map entryView = (Spec.allCut [(0, S)] k).map (fun p => recView p.r)) ∧
    (∃ es, c.readAll cfg k = .ok es ∧ es.map entryView = (Spec.allLive [(0, S)] k).map (fun p => recView p.r))

theorem serves1_of_inv {cfg : Cfg} (hcfg : cfg.OK) {c : CState} {S : List Rec} (hinv : CInv cfg c)
    (hh : (c.abs cfg).history = [(0, S)]) : Serves1 cfg c S := by
  refine ⟨hinv, hh, fun k => ?_, fun k => ?_, fun hm k m hmm => ?_, fun k => ?_⟩
  · rw [(read_of_inv hcfg c hinv k).1, hh]
  · rw [(read_of_inv hcfg c hinv k).2, hh]
  · have := read_with_of_inv hcfg c hinv (storeMetaOK_of_history hh hm) k m hmm
    rw [hh] at this
    exact ⟨this.2.1, this.2.2⟩
  · have := read_all_of_inv hcfg c hinv k
    rw [hh] at this
    exact this

theorem Serves1.read_original {cfg : Cfg} {c : CState} {S : List Rec} (h : Serves1 cfg c S) (k : Key) (bytes : List UInt8)
    (hr : c.read cfg k = .ok (.found bytes)) : ∃ r ∈ S, r.key = k ∧ r.del = false ∧ bytes = dataOf r.data := by
  rw [h.read k] at hr
  cases hl : Spec.latest [(0, S)] k with
  | found p =>
    rw [hl] at hr
    obtain ⟨h1, h2, h3⟩ := latest_found_mem hl
    refine ⟨p.r, h1, h2, h3, ?_⟩
    simp only [ReadResult.map, Except.ok.injEq, ReadResult.found.injEq] at hr
    exact hr.symm
  | deleted t => rw [hl] at hr; simp [ReadResult.map] at hr
  | notFound => rw [hl] at hr; simp [ReadResult.map] at hr

/-- the answer of the specification on a one-blob history, as the (computable) L2 look-up -/
theorem latest_oneBlob (S : List Rec) (k : Key) :
    (Spec.latest [(0, S)] k).map (·.r) = (Store.oneBlob true S true).read k none := by
  have hwf : (Store.oneBlob true S true).WF :=
    Store.ofBlobs_WF true _ 1 true (by simp) (fun b hb => by
      rw [List.mem_singleton] at hb; subst hb
      show 0 < 1
      omega)
  rw [Pearl.read_eq_spec hwf k, oneBlob_history]

/-- `read` through the L2 look-up (for evaluation on concrete blobs) -/
theorem Serves1.read_l2 {cfg : Cfg} {c : CState} {S : List Rec} (h : Serves1 cfg c S) (k : Key) :
    c.read cfg k = .ok (((Store.oneBlob true S true).read k none).map (fun r => dataOf r.data)) := by
  rw [h.read k, ← latest_oneBlob, ReadResult.map_map]

theorem startOn_serves {cfg : Cfg} (hcfg : cfg.OK) {S : List Rec} (h : Fits cfg S) (lazy : Bool) :
    Serves1 cfg (openedState cfg S lazy) S := by
  obtain ⟨_, _, hinv, habs⟩ := startOn_produced hcfg h lazy
  exact serves1_of_inv hcfg hinv (by rw [habs, oneBlob_history])

/-- the file is refused with an error that is not to be saved (`BlobVersion`): `init` FAILS; nothing is moved to the
    corrupted directory; `CState.restart` ("a failed `init` leaves the state as it is") returns the directory -/
theorem startOn_fail (cfg : Cfg) (file : List UInt8) (gh : List Rec) (lazy : Bool)
    (h : startOutcome cfg file = .fail) :
    startOn cfg file gh lazy = none ∧
    (CState.dirOne cfg file gh).restart cfg lazy = CState.dirOne cfg file gh := by
  have h' : openBlob cfg.klen cfg.validateData (CBlob.ofFile cfg 0 file gh).file = .fail := h
  constructor
  · unfold startOn CState.recover
    rw [dirOne_blobs, sortById_singleton]
    simp only [readBlobs, h']
  · unfold CState.restart
    rw [dirOne_blobs, sortById_singleton]
    have : regen cfg (CBlob.ofFile cfg 0 file gh) = none := by rw [regen_of_openBlob, h']
    simp only [regenAll, this]

/-- the file is quarantined: start-up succeeds WITHOUT it — an empty storage whose next blob id is `1` -/
theorem startOn_quarantine (cfg : Cfg) (file : List UInt8) (gh : List Rec) (lazy : Bool)
    (h : startOutcome cfg file = .quarantine) :
    startOn cfg file gh lazy = some (CState.ofBlobs cfg [] 1 lazy) := by
  have h' : openBlob cfg.klen cfg.validateData (CBlob.ofFile cfg 0 file gh).file = .quarantine := h
  unfold startOn CState.recover
  rw [dirOne_blobs, sortById_singleton, maxNextId_ofFile]
  simp only [readBlobs, h']

/-- the tool output `out` is a valid blob — the file the storage's record writer produces for `S` —, `read_blobs` opens it with exactly the
    headers of `S` (not quarantined, no failure), `init` (and `CState.restart`) on the directory that holds `out` as
    its single blob file `0` returns `openedState`, which abstracts to the L2 store with the one blob `(0, S)` and serves
    `S` (`Serves1`); and none of this depends on the history variable of the directory entry -/
structure OpensServing (cfg : Cfg) (out : List UInt8) (S : List Rec) (lazy : Bool) : Prop where
  bytes : out = blobBytes cfg.klen (full S)
  valid : validateBlob out = .ok ()
  outcome : startOutcome cfg out = .ok (hdrsOf cfg S)
  start : startOn cfg out S lazy = some (openedState cfg S lazy)
  restart : (CState.dirOne cfg out S).restart cfg lazy = openedState cfg S lazy
  abs : (openedState cfg S lazy).abs cfg = Store.oneBlob cfg.allowDup S lazy
  serves : Serves1 cfg (openedState cfg S lazy) S
  ghost : ∀ gh, (startOn cfg out gh lazy).map CState.eraseGhost = some (openedState cfg S lazy).eraseGhost

theorem opensServing_produced {cfg : Cfg} (hcfg : cfg.OK) {S : List Rec} (h : Fits cfg S) (lazy : Bool) :
    OpensServing cfg (blobBytes cfg.klen (full S)) S lazy := by
  obtain ⟨h1, h2, h3, h4⟩ := startOn_produced hcfg h lazy
  refine ⟨rfl, (produced_tools cfg.klen (full S) false h.size (full_ts h.ts)).valid, (regen_ofFile h 0 S).1,
    h1, h2, h4, startOn_serves hcfg h lazy, fun gh => ?_⟩
  rw [startOn_ghost_irrelevant cfg _ gh S lazy, h1]
  rfl

theorem dump_file (cfg : Cfg) (b : CBlob) : (b.dump cfg).file = b.file ∧ (b.dump cfg).filter = b.filter := by
  unfold CBlob.dump
  split
  · exact ⟨rfl, rfl⟩
  · split
    · exact ⟨rfl, rfl⟩
    · split <;> exact ⟨rfl, rfl⟩

theorem foldl_add_WF (cfg : Cfg) (ks : List Key) : (ks.foldl (Combined.add cfg.h) (newFilter cfg)).WF := by
  have := (filterOf_facts cfg (ks.map (fun k => ({ key := k, ts := 0, del := false, mt := none, data := ⟨0, 0⟩ } : Rec)))).1
  unfold filterOf at this
  rw [List.map_map] at this
  have hid : ((fun r : Rec => r.key) ∘ fun k => ({ key := k, ts := 0, del := false, mt := none, data := ⟨0, 0⟩ } : Rec)) = id := rfl
  rw [hid, List.map_id] at this
  exact this

/-- when `init` succeeds on the one-file directory, either the file was quarantined and the storage is empty, or the file
    is — unchanged — the file of a blob of the started storage -/
theorem startOn_blob_file {cfg : Cfg} (hcfg : cfg.OK) {x : List UInt8} {gh : List Rec} {lazy : Bool} {c : CState}
    (hs : startOn cfg x gh lazy = some c) :
    (startOutcome cfg x = .quarantine ∧ c = CState.ofBlobs cfg [] 1 lazy) ∨
    (∃ hs b, startOutcome cfg x = .ok hs ∧ b ∈ c.blobs ∧ b.file = x) := by
  cases ho : startOutcome cfg x with
  | fail => rw [(startOn_fail cfg x gh lazy ho).1] at hs; cases hs
  | quarantine =>
    rw [startOn_quarantine cfg x gh lazy ho] at hs
    exact Or.inl ⟨rfl, (Option.some.inj hs).symm⟩
  | ok hdrs =>
    refine Or.inr ⟨hdrs, ?_⟩
    have ho' : openBlob cfg.klen cfg.validateData (CBlob.ofFile cfg 0 x gh).file = .ok hdrs := ho
    have hr := regen_of_openBlob cfg (CBlob.ofFile cfg 0 x gh)
    rw [ho'] at hr
    simp only [] at hr
    unfold startOn CState.recover at hs
    rw [dirOne_blobs, sortById_singleton, maxNextId_ofFile] at hs
    simp only [readBlobs, ho', hr] at hs
    have hc := (Option.some.inj hs).symm
    subst hc
    cases lazy with
    | false =>
      refine ⟨{ CBlob.ofFile cfg 0 x gh with
        index := .mem (indexOf hdrs), filter := (hdrs.map hdrKey).foldl (Combined.add cfg.h) (newFilter cfg) },
        rfl, ?_, rfl⟩
      unfold CState.ofBlobs CState.blobs
      simp
    | true =>
      let b' : CBlob := { CBlob.ofFile cfg 0 x gh with
        index := .mem (indexOf hdrs), filter := (hdrs.map hdrKey).foldl (Combined.add cfg.h) (newFilter cfg) }
      refine ⟨b'.dump cfg, rfl, ?_, (dump_file cfg b').1⟩
      have hnew : Container.Inv (fops cfg) Combined.WF (CState.emptyCont cfg) [] :=
        Container.new_inv _ _ cfg.group 1 hcfg.group
      have hok : ∀ y ∈ [b'.dump cfg], okOpt Combined.WF ((childOps cfg).filterOf y) := by
        intro y hy f hf
        rw [List.mem_singleton] at hy
        subst hy
        cases hf
        show (b'.dump cfg).filter.WF
        rw [(dump_file cfg b').2]
        exact foldl_add_WF cfg _
      have hsl := extend_slots (combinedLaws cfg.h) (childOps cfg) [b'.dump cfg] _ _ hnew hok
      unfold CState.ofBlobs CState.blobs
      simp only [if_true, Option.toList_none, List.append_nil, List.map_cons, List.map_nil]
      rw [mem_closedBlobs]
      show some (b'.dump cfg) ∈ slotsOf (Container.extend (fops cfg) (childOps cfg) (CState.emptyCont cfg) [b'.dump cfg])
      rw [hsl]
      simp

theorem ofBlobs_nil_history (cfg : Cfg) (lazy : Bool) (S : List Rec) :
    ((CState.ofBlobs cfg [] 1 lazy).abs cfg).history ≠ [(0, S)] := by
  cases lazy with
  | true => intro h; cases h
  | false => intro h; cases h

/-- **the converse of `startOn_produced`**: if `init` on the directory that holds `x` as its single blob file returns a
    state that satisfies the invariant and whose L2 history is `[(0, S)]` — whatever the history variable `gh` of the
    directory entry —, then `x` IS the file the storage's record writer produces for `S`, and `S` fits -/
theorem produced_of_serves {cfg : Cfg} (hcfg : cfg.OK) {x : List UInt8} {gh : List Rec} {lazy : Bool} {c : CState}
    {S : List Rec} (hs : startOn cfg x gh lazy = some c) (hinv : CInv cfg c)
    (hh : (c.abs cfg).history = [(0, S)]) : x = blobBytes cfg.klen (full S) ∧ Fits cfg S := by
  rcases startOn_blob_file hcfg hs with ⟨_, rfl⟩ | ⟨_, b, _, hb, hf⟩
  · exact absurd hh (ofBlobs_nil_history cfg lazy S)
  · have hbi : BlobInv cfg b := CInvG.blobInv hinv hb
    have hmem : (b.id, b.ghost) ∈ (c.abs cfg).history := by
      rw [Store.history_eq_map, abs_blobs, List.map_map]
      exact List.mem_map.mpr ⟨b, hb, rfl⟩
    rw [hh, List.mem_singleton] at hmem
    have hg : b.ghost = S := congrArg Prod.snd hmem
    rw [← hg, ← hf]
    exact ⟨hbi.file, hbi.key, hbi.ts, by rw [← hbi.file]; exact hbi.size⟩

end Pearl.E2E
