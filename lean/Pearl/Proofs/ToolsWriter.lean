import Pearl.Model.ToolsWriter
import Pearl.Proofs.ToolsLemmas
/-
The `BlobWriter` model with read-back validation (C16, `validate_every ≠ 0`).  A record that is canonical
(`ToolRecord.Canon`) reads back as itself after `write_record`; the writer's invariant (`Writer.Inv`) says the
cache holds exactly the records written since `written - written_cached`; so with the real writer operations
a run never fails in the read-back and writes what the `validate_every = 0` model writes
(`runW_real`, `processBlobWithV_eq`).  The writer's side of a run is a function of the records handed to it
(`runW`, `processRunW_eq`); it and the header phase (`processBlobWithW_cases`) are stated for any writer
operations, the seeded variants included.  A record of a produced blob, as the reader returns it, is canonical
(`canon_toTool`), also after `migrate`; so a result of the `validate_every = 0` model about such records holds for
every `validate_every` (`processBlobWithV_of_ok`).
-/
namespace Pearl

/-! ### canonical records: what `write_record` writes reads back as itself -/

/-- what `write_record` + `read_single_record` need for the record to come back unchanged: the header's
    sizes are those of the re-serialised meta and of the data, the data checksum matches, the meta
    re-serialises canonically, and the `u64` fields are `u64`s -/
structure ToolRecord.Canon (r : ToolRecord) : Prop where
  magic : r.header.magicByte = RECORD_MAGIC_BYTE
  klen : r.header.key.length < 2 ^ 64
  ts : r.header.timestamp < 2 ^ 64
  msize : r.header.metaSize = (serMetaEntries r.mt).length
  dsize : r.header.dataSize = r.data.length
  dcrc : crc32c r.data = r.header.dataChecksum
  mrt : deserMeta (serMetaEntries r.mt) = some r.mt

/-- the record `write_record` pushes into the cache -/
def ToolRecord.addressed (r : ToolRecord) (off : Nat) : ToolRecord :=
  { r with header := r.header.final off }

theorem recordImage_length (r : ToolRecord) (off : Nat) :
    (Writer.recordImage r off).length =
      57 + r.header.key.length + (serMetaEntries r.mt).length + r.data.length := by
  simp only [Writer.recordImage, List.length_append, serHeader_length, final_key]
  omega

theorem recordImage_length_indep (r : ToolRecord) (a b : Nat) :
    (Writer.recordImage r a).length = (Writer.recordImage r b).length := by
  rw [recordImage_length, recordImage_length]

theorem recordImage_pos (r : ToolRecord) (off : Nat) : 57 ≤ (Writer.recordImage r off).length := by
  rw [recordImage_length]; omega

theorem tools_writeRecord_eq (out : List UInt8) (r : ToolRecord) :
    Pearl.writeRecord out r = out ++ Writer.recordImage r out.length := rfl

theorem ToolRecord.Canon.final_inRange {r : ToolRecord} (hc : r.Canon) (off : Nat)
    (hlen : off + (Writer.recordImage r off).length < 2 ^ 64) : (r.header.final off).InRange := by
  rw [recordImage_length] at hlen
  have h1 := hc.msize
  have h2 := hc.dsize
  refine ⟨?_, ?_, ?_, ?_, ?_, ?_⟩
  · show r.header.magicByte < 2 ^ 64
    rw [hc.magic]; decide
  · show r.header.key.length < 2 ^ 64
    exact hc.klen
  · show r.header.metaSize < 2 ^ 64
    omega
  · show r.header.dataSize < 2 ^ 64
    omega
  · show off < 2 ^ 64
    omega
  · exact hc.ts

theorem readSingleRecord_recordImage (pre post : List UInt8) (r : ToolRecord) (hc : r.Canon)
    (off : Nat) (hoff : pre.length = off) (hlen : off + (Writer.recordImage r off).length < 2 ^ 64) :
    readSingleRecord (pre ++ (Writer.recordImage r off ++ post)) off =
      .ok (r.addressed off, off + (Writer.recordImage r off).length) := by
  rw [recordImage_length, Writer.recordImage,
    readSingleRecord_region pre post _ _ _ _ off hoff (hc.final_inRange off hlen) hc.msize hc.dsize hc.mrt,
    headerValidate_final _ _ hc.magic,
    (dataChecksumAudit_ok (h := r.header.final off)).mpr hc.dcrc]
  simp only [ToolRecord.addressed, final_key, Nat.add_assoc]

/-! ### a run of records in the file and in the cache; the read-back loop on it -/

/-- the bytes of the records `rs` written one after the other starting at `off` -/
def imagesOf : Nat → List ToolRecord → List UInt8
  | _, [] => []
  | off, r :: rs => Writer.recordImage r off ++ imagesOf (off + (Writer.recordImage r off).length) rs

/-- what the cache holds after these writes -/
def cachedOf : Nat → List ToolRecord → List ToolRecord
  | _, [] => []
  | off, r :: rs => r.addressed off :: cachedOf (off + (Writer.recordImage r off).length) rs

theorem imagesOf_append (off : Nat) (rs1 rs2 : List ToolRecord) :
    imagesOf off (rs1 ++ rs2) = imagesOf off rs1 ++ imagesOf (off + (imagesOf off rs1).length) rs2 := by
  induction rs1 generalizing off with
  | nil => simp [imagesOf]
  | cons r rs ih =>
    simp only [List.cons_append, imagesOf, ih, List.append_assoc, List.length_append]
    rw [Nat.add_assoc]

theorem cachedOf_append (off : Nat) (rs1 rs2 : List ToolRecord) :
    cachedOf off (rs1 ++ rs2) = cachedOf off rs1 ++ cachedOf (off + (imagesOf off rs1).length) rs2 := by
  induction rs1 generalizing off with
  | nil => simp [imagesOf, cachedOf]
  | cons r rs ih =>
    simp only [List.cons_append, imagesOf, cachedOf, ih, List.length_append]
    rw [Nat.add_assoc]

theorem cachedOf_length (off : Nat) (rs : List ToolRecord) : (cachedOf off rs).length = rs.length := by
  induction rs generalizing off with
  | nil => rfl
  | cons r rs ih => simp [cachedOf, ih]

theorem cachedOf_eq_nil {off : Nat} {rs : List ToolRecord} : cachedOf off rs = [] ↔ rs = [] := by
  cases rs <;> simp [cachedOf]

theorem imagesOf_length_ge (off : Nat) (rs : List ToolRecord) : 57 * rs.length ≤ (imagesOf off rs).length := by
  induction rs generalizing off with
  | nil => simp [imagesOf]
  | cons r rs ih =>
    simp only [imagesOf, List.length_append, List.length_cons]
    have := ih (off + (Writer.recordImage r off).length)
    have := recordImage_pos r off
    omega

/-- the read-back loop of `validate_written_records` succeeds on a run of canonical records, wherever
    the run lies in the file and whatever follows it -/
theorem readback_imagesOf (rs : List ToolRecord) :
    ∀ (base post : List UInt8), (∀ r ∈ rs, r.Canon) →
      base.length + (imagesOf base.length rs).length < 2 ^ 64 →
      Writer.readback (base ++ (imagesOf base.length rs ++ post)) (cachedOf base.length rs) base.length =
        .ok (base.length + (imagesOf base.length rs).length) := by
  induction rs with
  | nil => intro base post _ _; simp [imagesOf, cachedOf, Writer.readback]
  | cons r rs ih =>
    intro base post hc hlen
    simp only [imagesOf, List.length_append] at hlen
    have hstep := readSingleRecord_recordImage base
      (imagesOf (base.length + (Writer.recordImage r base.length).length) rs ++ post) r
      (hc r (List.mem_cons_self ..)) base.length rfl (by omega)
    have hrest := ih (base ++ Writer.recordImage r base.length) post
      (fun x hx => hc x (List.mem_cons_of_mem _ hx))
      (by simp only [List.length_append]; omega)
    simp only [List.length_append] at hrest
    simp only [imagesOf, cachedOf, Writer.readback, List.append_assoc]
    rw [hstep]
    simp only [ne_eq, not_true_eq_false, ↓reduceIte]
    simp only [List.append_assoc] at hrest
    rw [hrest, List.length_append, Nat.add_assoc]

/-! ### the writer's invariant -/

/-- cursor, `written` and the length of the file coincide; if there is a cache, it holds the records written
    since `written - written_cached`, and they are canonical -/
structure Writer.Inv (w : Writer) : Prop where
  cur : w.cursor = w.file.length
  wr : w.written = w.file.length
  cached : ∀ c, w.cache = some c → ∃ base rs, w.file = base ++ imagesOf base.length rs ∧
    c = cachedOf base.length rs ∧ w.writtenCached = (imagesOf base.length rs).length ∧ ∀ r ∈ rs, r.Canon

theorem Writer.writeRecord_file {w : Writer} (hi : w.Inv) (r : ToolRecord) :
    (w.writeRecord r).file = Pearl.writeRecord w.file r := by
  simp only [Writer.writeRecord, hi.cur, hi.wr, pwrite_end]
  rfl

theorem Writer.writeRecord_cache_isSome (w : Writer) (r : ToolRecord) :
    (w.writeRecord r).cache.isSome = w.cache.isSome := by
  unfold Writer.writeRecord
  cases w.cache <;> rfl

/-- `write_record` on a writer whose cache holds the run `rs` written after `base` -/
theorem Writer.writeRecord_run {w : Writer} (hcur : w.cursor = w.file.length)
    (hwr : w.written = w.file.length) {base : List UInt8} {rs : List ToolRecord}
    (hfile : w.file = base ++ imagesOf base.length rs) (hc : w.cache = some (cachedOf base.length rs))
    (hwc : w.writtenCached = (imagesOf base.length rs).length) (r : ToolRecord) :
    (w.writeRecord r).file = base ++ imagesOf base.length (rs ++ [r]) ∧
    (w.writeRecord r).cache = some (cachedOf base.length (rs ++ [r])) ∧
    (w.writeRecord r).writtenCached = (imagesOf base.length (rs ++ [r])).length := by
  have hlen : w.file.length = base.length + (imagesOf base.length rs).length := by
    rw [hfile, List.length_append]
  refine ⟨?_, ?_, ?_⟩
  · simp only [Writer.writeRecord, hcur, pwrite_end]
    rw [imagesOf_append, hwr, hlen, hfile, List.append_assoc]
    simp only [imagesOf, List.append_nil]
  · simp only [Writer.writeRecord, hc]
    rw [cachedOf_append, hwr, hlen]
    rfl
  · simp only [Writer.writeRecord, hc, hwc]
    rw [imagesOf_append, List.length_append, hwr, hlen]
    simp only [imagesOf, List.append_nil]

theorem Writer.Inv.writeRecord {w : Writer} (hi : w.Inv) {r : ToolRecord}
    (hc : w.cache.isSome → r.Canon) : (w.writeRecord r).Inv := by
  have hf := Writer.writeRecord_file hi r
  rw [tools_writeRecord_eq] at hf
  refine ⟨?_, ?_, ?_⟩
  · rw [hf]; simp only [Writer.writeRecord, hi.cur, hi.wr, List.length_append]
  · rw [hf]; simp only [Writer.writeRecord, hi.wr, List.length_append]
  · intro c hcache
    cases hw : w.cache with
    | none => simp [Writer.writeRecord, hw] at hcache
    | some c0 =>
      obtain ⟨base, rs, hfile, hc0, hwc, hcan⟩ := hi.cached c0 hw
      obtain ⟨h1, h2, h3⟩ := Writer.writeRecord_run hi.cur hi.wr hfile (hc0 ▸ hw) hwc r
      exact ⟨base, rs ++ [r], h1, Option.some.inj (hcache.symm.trans h2), h3, List.forall_mem_append.mpr
        ⟨hcan, List.forall_mem_singleton.mpr (hc (by rw [hw]; rfl))⟩⟩

theorem Writer.Inv.clearCache {w : Writer} (hi : w.Inv) : w.clearCache.Inv := by
  unfold Writer.clearCache
  cases hw : w.cache with
  | none => simpa only using hi
  | some c0 =>
    refine ⟨hi.cur, hi.wr, ?_⟩
    intro c hc
    simp only [Option.some.injEq] at hc
    exact ⟨w.file, [], by simp [imagesOf], by simp [cachedOf, hc], by simp [imagesOf], by simp⟩

theorem Writer.clearCache_file (w : Writer) : w.clearCache.file = w.file := by
  unfold Writer.clearCache; cases w.cache <;> rfl

theorem Writer.clearCache_cache_isSome (w : Writer) : w.clearCache.cache.isSome = w.cache.isSome := by
  unfold Writer.clearCache
  cases h : w.cache <;> simp [h]

/-- the read-back comparison never fails on what the writer itself wrote, as a statement about states: in a
    state that satisfies the invariant, `validate_written_records` succeeds and changes nothing -/
theorem Writer.Inv.validate_ok {w : Writer} (hi : w.Inv) (hlen : w.cache.isSome → w.file.length < 2 ^ 64) :
    w.validateWrittenRecords = .ok w := by
  unfold Writer.validateWrittenRecords
  cases hw : w.cache with
  | none => rfl
  | some c =>
    simp only
    have hlen := hlen (by rw [hw]; rfl)
    obtain ⟨base, rs, hfile, hc, hwc, hcan⟩ := hi.cached c hw
    have hl : w.file.length = base.length + (imagesOf base.length rs).length := by
      rw [hfile, List.length_append]
    split
    · rfl
    · rw [if_neg (by rw [hi.wr, hwc]; omega)]
      have hstart : w.written - w.writtenCached = base.length := by rw [hi.wr, hwc]; omega
      have hrb := readback_imagesOf rs base [] hcan (by omega)
      rw [List.append_nil, ← hfile, ← hc] at hrb
      rw [hstart, hrb]
      simp only
      have hcw : w.written = w.cursor := by rw [hi.wr, hi.cur]
      cases w
      simp only at hcw hw ⊢
      subst hcw hw
      rfl

theorem validateAndClear_real {w : Writer} (hi : w.Inv) (hlen : w.cache.isSome → w.file.length < 2 ^ 64) :
    validateAndClear .real w = .ok w.clearCache := by
  unfold validateAndClear
  rw [hi.validate_ok hlen]
  rfl

/-! ### a run as a function of the records handed to the writer (`runW`); the real writer -/

theorem foldl_writeRecord_eq (t : List ToolRecord) (out : List UInt8) :
    t.foldl Pearl.writeRecord out = out ++ imagesOf out.length t := by
  induction t generalizing out with
  | nil => simp [imagesOf]
  | cons r t ih =>
    simp only [List.foldl_cons, imagesOf]
    rw [ih, tools_writeRecord_eq, List.length_append, List.append_assoc]

theorem foldl_writeRecord_length_le (t : List ToolRecord) (out : List UInt8) :
    out.length ≤ (t.foldl Pearl.writeRecord out).length := by
  rw [foldl_writeRecord_eq, List.length_append]
  exact Nat.le_add_right _ _

/-- the writer's side of the loop of `process_blob_with`, and what follows the loop, as a function of the
    records handed to `write_record` (`count`: how many were written before) -/
def runW (ops : WriterOps) (ve : Nat) : List ToolRecord → Nat → Writer → Except WriterErr (List UInt8)
  | [], _, w => finishW ops ve w
  | r :: rs, count, w =>
    if ve ≠ 0 ∧ (count + 1) % ve = 0 then
      match validateAndClear ops (ops.write w r) with
      | .error e => .error e
      | .ok w2 => runW ops ve rs (count + 1) w2
    else runW ops ve rs (count + 1) (ops.write w r)

/-- a run is `runW` on the trace: the writer does not see the reader -/
theorem processRunW_eq (ops : WriterOps) (ve : Nat) (input : List UInt8) (skip : Bool)
    (f : ToolRecord → Except ToolErr ToolRecord) : ∀ (fuel pos count : Nat) (w : Writer),
      input.length ≤ pos + fuel →
      processRunW ops ve input skip f fuel pos count w = runW ops ve (processTrace input skip f fuel pos) count w := by
  intro fuel
  induction fuel with
  | zero =>
    intro pos count w hf
    rw [processRunW, processLoopW, isEof_true (by omega)]
    rfl
  | succ fuel ih =>
    intro pos count w hf
    unfold processRunW
    rw [processLoopW, processTrace]
    by_cases heof : isEof input pos = true
    · rw [if_pos heof, if_pos heof]; rfl
    · rw [if_neg heof, if_neg heof]
      rcases readRecord_cases input skip pos with ⟨r, pos', h, hl⟩ | ⟨e, h, _⟩
      · rw [h]
        simp only
        cases f r with
        | error e => rfl
        | ok r' =>
          simp only [runW]
          by_cases hc : ve ≠ 0 ∧ (count + 1) % ve = 0
          · rw [if_pos hc, if_pos hc]
            cases validateAndClear ops (ops.write w r') with
            | error e => rfl
            | ok w2 => exact ih pos' (count + 1) w2 (by omega)
          · rw [if_neg hc, if_neg hc]
            exact ih pos' (count + 1) _ (by omega)
      · rw [h]
        rfl

theorem WriterOps.real_write : WriterOps.real.write = Writer.writeRecord := rfl

theorem finishW_real {ve : Nat} {w : Writer} (hi : w.Inv) (hlen : w.cache.isSome → w.file.length < 2 ^ 64) :
    finishW .real ve w = .ok w.file := by
  unfold finishW
  split
  · rw [validateAndClear_real hi hlen]
    exact congrArg Except.ok (Writer.clearCache_file w)
  · rfl

/-- the two hypotheses on the records are needed only if there is a cache (`validate_every ≠ 0`) -/
theorem runW_real (ve : Nat) : ∀ (t : List ToolRecord) (count : Nat) (w : Writer), w.Inv →
    (w.cache.isSome → ∀ r ∈ t, r.Canon) →
    (w.cache.isSome → (t.foldl Pearl.writeRecord w.file).length < 2 ^ 64) →
    runW .real ve t count w = .ok (t.foldl Pearl.writeRecord w.file)
  | [], _, _, hi, _, hsz => finishW_real hi hsz
  | r' :: t, count, w, hi, hcan, hsz => by
    have hi1 : (w.writeRecord r').Inv := hi.writeRecord (fun hs => hcan hs r' (List.mem_cons_self ..))
    have hf1 := Writer.writeRecord_file hi r'
    have hs1 := Writer.writeRecord_cache_isSome w r'
    have hcan1 : (w.writeRecord r').cache.isSome → ∀ x ∈ t, x.Canon :=
      fun hs x hx => hcan (hs1 ▸ hs) x (List.mem_cons_of_mem _ hx)
    have hsz1 : (w.writeRecord r').cache.isSome →
        (t.foldl Pearl.writeRecord (w.writeRecord r').file).length < 2 ^ 64 :=
      fun hs => by rw [hf1]; exact hsz (hs1 ▸ hs)
    rw [List.foldl_cons, ← hf1, runW, WriterOps.real_write]
    split
    · rw [validateAndClear_real hi1
        (fun hs => Nat.lt_of_le_of_lt (foldl_writeRecord_length_le _ _) (hsz1 hs))]
      have hs2 := Writer.clearCache_cache_isSome (w.writeRecord r')
      simp only
      rw [runW_real ve t (count + 1) _ hi1.clearCache (fun hs => hcan1 (hs2 ▸ hs))
        (fun hs => by rw [Writer.clearCache_file]; exact hsz1 (hs2 ▸ hs)), Writer.clearCache_file]
    · exact runW_real ve t (count + 1) _ hi1 hcan1 hsz1

/-! ### the header phase; the whole tool for every `validate_every` -/

theorem pwrite_nil_zero (b : List UInt8) : pwrite [] 0 b = b := by simp [pwrite]

/-- the writer after a successful `write_header` on the fresh file -/
def Writer.afterHeader (c : Bool) (out : List UInt8) : Writer :=
  { file := out, cursor := 20, written := 20, writtenCached := 0, cache := if c then some [] else none }

theorem Writer.writeHeader_fromPath (c : Bool) (b : BlobHeader) :
    (Writer.fromPath c).writeHeader b =
      match Pearl.writeHeader b with
      | .error e => .error (.tool e)
      | .ok out => .ok (Writer.afterHeader c out) := by
  unfold Writer.writeHeader Pearl.writeHeader Writer.fromPath
  simp only [pwrite_nil_zero]
  cases readBlobHeader (serBlobHeader b) with
  | error e => rfl
  | ok x =>
    obtain ⟨b', p⟩ := x
    simp only
    by_cases hb : b' = b
    · simp [hb, Writer.afterHeader, blobHeaderSize]
    · simp [hb]

theorem writeHeader_out {b : BlobHeader} {out : List UInt8} (h : Pearl.writeHeader b = .ok out) :
    out = serBlobHeader b := by
  unfold Pearl.writeHeader at h
  simp only at h
  split at h
  · cases h
  · split at h
    · cases h; rfl
    · cases h

theorem Writer.afterHeader_inv (c : Bool) {out : List UInt8} (h : out.length = 20) :
    (Writer.afterHeader c out).Inv := by
  refine ⟨by simp [Writer.afterHeader, h], by simp [Writer.afterHeader, h], ?_⟩
  intro c0 hc0
  refine ⟨out, [], by simp [imagesOf, Writer.afterHeader], ?_, by simp [imagesOf, Writer.afterHeader], by simp⟩
  cases c <;> simp [Writer.afterHeader] at hc0
  simp [cachedOf, hc0]

/-- the records a run of `process_blob_with` hands to `write_record` -/
def writtenRecords (input : List UInt8) (skip : Bool)
    (fRec : Nat → ToolRecord → Except ToolErr ToolRecord)
    (fHdr : Nat → BlobHeader → Except ToolErr BlobHeader) : List ToolRecord :=
  match readBlobHeader input with
  | .error _ => []
  | .ok (hdr, pos) =>
    match fHdr hdr.version hdr with
    | .error _ => []
    | .ok hdr' =>
      match Pearl.writeHeader hdr' with
      | .error _ => []
      | .ok _ => processTrace input skip (fRec hdr.version) input.length pos

theorem processBlobWithW_cases (input : List UInt8) (skip : Bool)
    (fRec : Nat → ToolRecord → Except ToolErr ToolRecord)
    (fHdr : Nat → BlobHeader → Except ToolErr BlobHeader) :
    (∃ e, processBlobWith input skip fRec fHdr = .error e ∧ writtenRecords input skip fRec fHdr = [] ∧
      ∀ ops ve, processBlobWithW ops ve input skip fRec fHdr = .error (.tool e)) ∨
    (∃ (v : Nat) (o : List UInt8), o.length = 20 ∧
      writtenRecords input skip fRec fHdr = processTrace input skip (fRec v) input.length 20 ∧
      processBlobWith input skip fRec fHdr =
        .ok ((processTrace input skip (fRec v) input.length 20).foldl Pearl.writeRecord o) ∧
      ∀ ops ve, processBlobWithW ops ve input skip fRec fHdr =
        runW ops ve (processTrace input skip (fRec v) input.length 20) 0 (Writer.afterHeader (ve != 0) o)) := by
  unfold processBlobWith writtenRecords processBlobWithW
  cases hrb : readBlobHeader input with
  | error e => exact Or.inl ⟨e, rfl, rfl, fun _ _ => rfl⟩
  | ok x =>
    obtain ⟨hdr, pos⟩ := x
    have hpos := readBlobHeader_ok hrb
    subst hpos
    simp only
    cases hfh : fHdr hdr.version hdr with
    | error e => exact Or.inl ⟨e, rfl, rfl, fun _ _ => rfl⟩
    | ok hdr' =>
      simp only
      cases hwh : Pearl.writeHeader hdr' with
      | error e =>
        refine Or.inl ⟨e, rfl, rfl, fun _ ve => ?_⟩
        rw [Writer.writeHeader_fromPath, hwh]
      | ok o =>
        have ho : o.length = 20 := by rw [writeHeader_out hwh, serBlobHeader_length]
        refine Or.inr ⟨hdr.version, o, ho, rfl,
          processLoop_eq_trace input skip (fRec hdr.version) input.length 20 o (by omega), fun _ ve => ?_⟩
        rw [Writer.writeHeader_fromPath, hwh]
        exact processRunW_eq _ _ _ _ _ _ _ _ _ (by omega)

theorem processBlobWith_eq_written {input : List UInt8} {skip : Bool}
    {fRec : Nat → ToolRecord → Except ToolErr ToolRecord}
    {fHdr : Nat → BlobHeader → Except ToolErr BlobHeader} {out : List UInt8}
    (h : processBlobWith input skip fRec fHdr = .ok out) :
    ∃ o, o.length = 20 ∧ out = o ++ imagesOf 20 (writtenRecords input skip fRec fHdr) := by
  rcases processBlobWithW_cases input skip fRec fHdr with ⟨e, h1, _, _⟩ | ⟨v, o, ho, h1, h2, _⟩
  · rw [h1] at h
    cases h
  · rw [h2, foldl_writeRecord_eq, ho, ← h1] at h
    exact ⟨o, ho, (Except.ok.inj h).symm⟩

/-- `validate_every` does not change what the tools return, in general form: whatever the batch size, `process_blob_with` with the read-back
    validation returns what the `validate_every = 0` model returns, provided the records handed to the
    writer are canonical and the output stays below 2^64 bytes.  (Without the first hypothesis the
    statement is false: `C16.validate_every_relevant_for_noncanonical_meta`.)  For `validate_every = 0`
    nothing is assumed. -/
theorem processBlobWithV_eq (ve : Nat) (input : List UInt8) (skip : Bool)
    (fRec : Nat → ToolRecord → Except ToolErr ToolRecord)
    (fHdr : Nat → BlobHeader → Except ToolErr BlobHeader)
    (hcan : ve ≠ 0 → ∀ r ∈ writtenRecords input skip fRec fHdr, r.Canon)
    (hsz : ve ≠ 0 → ∀ out, processBlobWith input skip fRec fHdr = .ok out → out.length < 2 ^ 64) :
    processBlobWithV ve input skip fRec fHdr = liftW (processBlobWith input skip fRec fHdr) := by
  unfold processBlobWithV
  rcases processBlobWithW_cases input skip fRec fHdr with ⟨e, h1, _, h⟩ | ⟨v, o, ho, h1, h2, h⟩
  · rw [h, h1]
    rfl
  · have hve : (Writer.afterHeader (ve != 0) o).cache.isSome → ve ≠ 0 := by
      intro hs hz
      subst hz
      cases hs
    rw [h1] at hcan
    rw [h, h2, runW_real ve _ 0 _ (Writer.afterHeader_inv _ ho) (fun hs => hcan (hve hs))
      (fun hs => hsz (hve hs) _ h2)]
    rfl

/-! ### records of a produced blob are canonical; `process_blob_with` past the blob header -/

theorem canon_toTool {klen : Nat} {R : Record} (hwf : R.WF klen) (off : Nat)
    (hr : (R.header.final off).InRange) : (R.toTool off).Canon := by
  obtain ⟨_, h2, h3, _, _, h6⟩ := hr
  have hms : (serMeta R.mt).length < 2 ^ 64 := by
    have : (R.header.final off).metaSize = (serMeta R.mt).length := hwf.msize
    omega
  refine ⟨hwf.magic, h2, h6, ?_, hwf.dsize, hwf.dcrc.symm, ?_⟩
  · show R.header.metaSize = (serMetaEntries (metaEntries R.mt)).length
    rw [serMetaEntries_metaEntries]; exact hwf.msize
  · show deserMeta (serMetaEntries (metaEntries R.mt)) = some (metaEntries R.mt)
    have := deserMeta_serMeta R.mt hms
    rwa [← serMetaEntries_metaEntries] at this

/-- reversing the key bytes (`Record::migrate` from version 0) keeps a record canonical -/
theorem ToolRecord.Canon.reversedKey {r : ToolRecord} (hc : r.Canon) :
    ToolRecord.Canon { r with header := r.header.withReversedKeyBytes } := by
  refine ⟨hc.magic, ?_, hc.ts, hc.msize, hc.dsize, hc.dcrc, hc.mrt⟩
  show (r.header.key.reverse).length < 2 ^ 64
  rw [List.length_reverse]
  exact hc.klen

/-- `process_blob_with` past the blob header: the loop it runs and the records it hands to the writer -/
theorem processBlobWith_unfold (rest : List UInt8) (skip : Bool)
    (fRec : Nat → ToolRecord → Except ToolErr ToolRecord)
    (fHdr : Nat → BlobHeader → Except ToolErr BlobHeader) (b b' : BlobHeader)
    (hr : b.InRange) (hm : b.magicByte = BLOB_MAGIC_BYTE)
    (hr' : b'.InRange) (hm' : b'.magicByte = BLOB_MAGIC_BYTE) (hfh : fHdr b.version b = .ok b') :
    processBlobWith (serBlobHeader b ++ rest) skip fRec fHdr =
      processLoop (serBlobHeader b ++ rest) skip (fRec b.version) (serBlobHeader b ++ rest).length 20
        (serBlobHeader b') ∧
    writtenRecords (serBlobHeader b ++ rest) skip fRec fHdr =
      processTrace (serBlobHeader b ++ rest) skip (fRec b.version) (serBlobHeader b ++ rest).length 20 := by
  unfold processBlobWith writtenRecords
  rw [readBlobHeader_ser b _ hr hm]
  simp only [hfh, writeHeader_ok b' hr' hm', and_self]

/-- a result of the `validate_every = 0` model holds for every batch size once the records handed to the
    writer are canonical -/
theorem processBlobWithV_of_ok {ve : Nat} {input : List UInt8} {skip : Bool}
    {fRec : Nat → ToolRecord → Except ToolErr ToolRecord}
    {fHdr : Nat → BlobHeader → Except ToolErr BlobHeader} {out : List UInt8}
    (h : processBlobWith input skip fRec fHdr = .ok out) (hlen : out.length < 2 ^ 64)
    (hcan : ∀ r ∈ writtenRecords input skip fRec fHdr, r.Canon) :
    processBlobWithV ve input skip fRec fHdr = .ok out := by
  rw [processBlobWithV_eq ve input skip fRec fHdr (fun _ => hcan)
    (fun _ o ho => by rw [h] at ho; cases ho; exact hlen), h]
  rfl

end Pearl
