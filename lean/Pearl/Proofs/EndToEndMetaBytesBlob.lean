import Pearl.Proofs.EndToEndMetaBytesImage
import Pearl.Proofs.EndToEndCont
import Pearl.Proofs.EndToEndSteps
/-
Byte image of the index file: one blob, on top of `EndToEndMetaBytesImage` (`fromFile_image`, `image_sim`) and the
structured look-ups under `BlobInv`.  For a blob that satisfies `BlobInv` and whose index file (if it is
on disk) is shorter than `2^64` bytes, every access to the index gives the same result through the byte image as
through the structured file: `get_latest`, `get_all_with_deletion_marker`, `check_filter` (`read_meta_at`),
`load_index` (`get_records_headers`, `read_meta`), and with them every blob operation (`toB` commutes).
-/
namespace Pearl.E2E
open Pearl Pearl.BPTree Pearl.Container

/-- standing hypotheses of the byte-level composition: the configuration side-conditions and a 32-byte hash -/
structure BytesOK (cfg : Cfg) (sha : List Nat → List Nat) : Prop where
  ok : cfg.OK
  shaLen : ∀ l, (sha l).length = 32

/-- the index file of the blob, if there is one, is shorter than `2^64` bytes (its header fields and the offsets in
    its nodes are `u64`) -/
def CBlob.IdxSized (b : CBlob) : Prop := ∀ f mb off, b.index = .disk f mb off → f.fileSize < 2 ^ 64

def CState.IdxSized (c : CState) : Prop := ∀ b ∈ c.blobs, b.IdxSized

theorem leafArray_memPush_perm (k : Nat) (h : RecHeader) : ∀ (m : InMem RecHeader),
    (leafArray (memPush k h m)).Perm (h :: leafArray m)
  | [] => .refl _
  | (k', v) :: rest => by
    simp only [memPush]
    split
    · exact .refl _
    · split
      · rw [leafArray_cons, leafArray_cons, vecPush_eq_ins]
        exact ((List.reverse_perm _).trans ((ins_perm _ v h).trans (.cons _ (List.reverse_perm v).symm))).append_right _
      · rw [leafArray_cons, leafArray_cons]
        exact ((leafArray_memPush_perm k h rest).append_left _).trans List.perm_middle

theorem leafArray_indexOf_perm (hs : List RecHeader) : (leafArray (indexOf hs)).Perm hs := by
  have : ∀ (hs : List RecHeader) (acc : InMem RecHeader),
      (leafArray (hs.foldl (fun m h => memPush (hdrKey h) h m) acc)).Perm (leafArray acc ++ hs) := by
    intro hs
    induction hs with
    | nil => intro acc; rw [List.append_nil]; exact .refl _
    | cons h hs ih =>
      intro acc
      exact (ih _).trans (((leafArray_memPush_perm _ h acc).append_right hs).trans List.perm_middle.symm)
  exact this hs []

theorem indexOf_leaf_ok {K : Nat} (hs : List RecHeader) (hq : ∀ h ∈ hs, HdrOK K h) :
    ∀ h ∈ leafArray (indexOf hs), HdrOK K h :=
  fun h hh => hq h ((leafArray_indexOf_perm hs).mem_iff.mp hh)

theorem indexOf_keys_lt {K : Nat} (hs : List RecHeader) (hq : ∀ h ∈ hs, HdrOK K h) :
    ∀ kv ∈ indexOf hs, kv.1 < 256 ^ K := by
  intro kv hkv
  have hwf := indexOf_WF hs
  obtain ⟨x, hx⟩ := List.exists_mem_of_ne_nil _ (hwf.nonempty kv hkv)
  have hxl : x ∈ leafArray (indexOf hs) := List.mem_flatMap.mpr ⟨kv, hkv, List.mem_reverse.mpr hx⟩
  rw [← show hkey x = kv.1 from hwf.keys kv hkv x hx]
  exact hdrKey_lt (indexOf_leaf_ok hs hq x hxl).key

theorem toB_file (sha : List Nat → List Nat) (b : CBlob) : (b.toB sha).file = b.file := rfl

theorem toB_filter (sha : List Nat → List Nat) (b : CBlob) : (b.toB sha).filter = b.filter := rfl

theorem toB_index_mem {b : CBlob} {m : InMem RecHeader} (sha : List Nat → List Nat) (hi : b.index = .mem m) :
    (b.toB sha).index = .mem m := by
  show b.index.toB sha b.file.length = _
  rw [hi]; rfl

theorem toB_index_disk {b : CBlob} {f : IndexFile RecHeader} {mb : List Nat} {off : Nat} (sha : List Nat → List Nat)
    (hi : b.index = .disk f mb off) : (b.toB sha).index = .disk (imageOf sha f mb b.file.length) off := by
  show b.index.toB sha b.file.length = _
  rw [hi]; rfl

section Disk
variable {cfg : Cfg} {sha : List Nat → List Nat}

/-- the index file of a blob with its index on disk: its image is opened, and the opened image simulates it -/
theorem BlobInv.disk_sim (hB : BytesOK cfg sha) {b : CBlob} (hb : BlobInv cfg b) (hs : b.IdxSized)
    {f : IndexFile RecHeader} {mb : List Nat} {off : Nat} (hi : b.index = .disk f mb off) :
    ∃ x, BIdx.fromFile (imageOf sha f mb b.file.length) = some x ∧ Sim cfg.klen b.file.length mb f x := by
  obtain ⟨_, rfl⟩ := hb.core.disk f mb off hi
  have hsz := hs _ mb off hi
  have hok := hdrsOf_ok hb
  exact ⟨_, fromFile_image cfg.klen mb _ hB.ok.klen _ (hB.shaLen _) b.file.length hsz,
    image_sim cfg.klen mb _ hB.ok.klen (indexOf_WF _) _ (hB.shaLen _) b.file.length hb.size
      (indexOf_keys_lt _ hok) (indexOf_leaf_ok _ hok) hsz⟩

theorem index_getLatest_toB (hB : BytesOK cfg sha) {b : CBlob} (hb : BlobInv cfg b) (hs : b.IdxSized) (k : Key) :
    (b.toB sha).index.getLatest cfg.klen k = b.index.getLatest k := by
  cases hi : b.index with
  | mem m => rw [toB_index_mem sha hi]; rfl
  | disk f mb off =>
    obtain ⟨x, hx, sim⟩ := hb.disk_sim hB hs hi
    have hst : f.getLatest k = some (hvecOf (hdrsOf cfg b.ghost) k).getLast? := by
      rw [← hb.core.index_getLatest hB.ok k, hi]; rfl
    rw [toB_index_disk sha hi]
    simp only [BIndex.getLatest, CIndex.getLatest, hx, Option.bind_some, getLatest_sim sim k _ hst, hst]

theorem index_getAllMarked_toB (hB : BytesOK cfg sha) {b : CBlob} (hb : BlobInv cfg b) (hs : b.IdxSized) (k : Key) :
    (b.toB sha).index.getAllMarked cfg.klen k = b.index.getAllMarked k := by
  cases hi : b.index with
  | mem m => rw [toB_index_mem sha hi]; rfl
  | disk f mb off =>
    obtain ⟨x, hx, sim⟩ := hb.disk_sim hB hs hi
    have hst := hb.core.findByKey_disk hB.ok hi k
    rw [toB_index_disk sha hi]
    simp only [BIndex.getAllMarked, CIndex.getAllMarked, hx, Option.bind_some, findByKey_sim sim k _ hst, hst]

theorem checkFilter_toB (hB : BytesOK cfg sha) {b : CBlob} (hb : BlobInv cfg b) (hs : b.IdxSized) (k : Key) :
    (b.toB sha).checkFilter cfg k = b.checkFilter cfg k := by
  unfold BBlob.checkFilter CBlob.checkFilter
  cases hi : b.index with
  | mem m => rw [toB_index_mem sha hi]
  | disk f mb off =>
    obtain ⟨x, hx, sim⟩ := hb.disk_sim hB hs hi
    rw [toB_index_disk sha hi]
    simp only [hx, Option.bind_some, readMetaAt_sim sim]
    rfl

theorem loadIndex_toB (hB : BytesOK cfg sha) {b : CBlob} (hb : BlobInv cfg b) (hs : b.IdxSized) :
    (b.toB sha).loadIndex cfg = (b.loadIndex cfg).toB sha := by
  unfold BBlob.loadIndex CBlob.loadIndex
  cases hi : b.index with
  | mem m => rw [toB_index_mem sha hi]
  | disk f mb off =>
    obtain ⟨x, hx, sim⟩ := hb.disk_sim hB hs hi
    have hload : f.load = some (indexOf (hdrsOf cfg b.ghost)) := by
      rw [(hb.core.disk f mb off hi).2]; exact build_load _ _ _ (indexOf_WF _)
    have hloadB : BIdx.load cfg.klen (b.toB sha).file.length x = some _ := load_sim sim _ hload
    rw [toB_index_disk sha hi]
    simp only [hx, hload, hloadB, readMeta_sim sim, Option.bind_some]
    cases combinedOfFile cfg.bloomIsOn mb with
    | none => rfl
    | some p => rfl

end Disk

theorem indexPush_toB (cfg : Cfg) (sha : List Nat → List Nat) (b : CBlob) (k : Key) (h : RecHeader) :
    (b.toB sha).indexPush cfg k h = (b.indexPush cfg k h).map (CBlob.toB sha) := by
  unfold BBlob.indexPush CBlob.indexPush
  cases hi : b.index with
  | mem m => rw [toB_index_mem sha hi]; rfl
  | disk f mb off => rw [toB_index_disk sha hi]; rfl

theorem writeRec_toB (cfg : Cfg) (sha : List Nat → List Nat) (b : CBlob) (r : Rec) (hm : b.index.onDisk = false) :
    (b.toB sha).writeRec cfg r = (b.writeRec cfg r).toB sha := by
  cases hi : b.index with
  | disk f mb off => rw [hi] at hm; cases hm
  | mem m =>
    simp only [BBlob.writeRec, CBlob.writeRec, CBlob.toB, hi, CIndex.toB, BBlob.indexPush, CBlob.indexPush]

theorem dump_toB (cfg : Cfg) (sha : List Nat → List Nat) (b : CBlob) :
    (b.toB sha).dump cfg sha = (b.dump cfg).toB sha := by
  unfold CBlob.dump BBlob.dump
  cases hi : b.index with
  | disk f mb off => rw [toB_index_disk sha hi]
  | mem m =>
    rw [toB_index_mem sha hi, toB_filter]
    simp only []
    split
    · rfl
    · cases serializeFilters cfg.klen b.filter <;> rfl

theorem foldl_indexPush_toB (cfg : Cfg) (sha : List Nat → List Nat) : ∀ (hs : List RecHeader) (b : CBlob),
    hs.foldl (fun b h => (b.indexPush cfg (hdrKey h) h).getD b) (b.toB sha)
      = (hs.foldl (fun b h => (b.indexPush cfg (hdrKey h) h).getD b) b).toB sha
  | [], _ => rfl
  | h :: hs, b => by
    rw [List.foldl_cons, List.foldl_cons, ← foldl_indexPush_toB cfg sha hs, indexPush_toB]
    cases b.indexPush cfg (hdrKey h) h <;> rfl

theorem regen_toB (cfg : Cfg) (sha : List Nat → List Nat) (b : CBlob) :
    regenB cfg (b.toB sha) = (regen cfg b).map (CBlob.toB sha) := by
  unfold regenB regen
  rw [toB_file]
  cases blobHeaderFromFile b.file with
  | error e => rfl
  | ok _ =>
    simp only []
    split
    · cases rawRecordsLoad cfg.klen cfg.validateData b.file with
      | error e => rfl
      | ok hs =>
        exact congrArg some (foldl_indexPush_toB cfg sha hs { b with index := .mem [], filter := newFilter cfg })
    · rfl

section Reads
variable {cfg : Cfg} {sha : List Nat → List Nat}

theorem indexLatest_toB (hB : BytesOK cfg sha) {b : CBlob} (hb : BlobInv cfg b) (hs : b.IdxSized) (k : Key) :
    (b.toB sha).indexLatest cfg k = b.indexLatest k := by
  unfold BBlob.indexLatest CBlob.indexLatest
  rw [index_getLatest_toB hB hb hs k]
  rfl

theorem readAllEntriesMarked_toB (hB : BytesOK cfg sha) {b : CBlob} (hb : BlobInv cfg b) (hs : b.IdxSized) (k : Key) :
    (b.toB sha).readAllEntriesMarked cfg k = b.readAllEntriesMarked k := by
  unfold BBlob.readAllEntriesMarked CBlob.readAllEntriesMarked
  rw [index_getAllMarked_toB hB hb hs k]
  rfl

theorem getLatestEntryM_toB (hB : BytesOK cfg sha) {b : CBlob} (hb : BlobInv cfg b) (hs : b.IdxSized) (k : Key)
    (m : Option Meta) : (b.toB sha).getLatestEntryM cfg k m = b.getLatestEntryM cfg k m := by
  unfold BBlob.getLatestEntryM CBlob.getLatestEntryM BBlob.getEntryWithMeta CBlob.getEntryWithMeta
  rw [checkFilter_toB hB hb hs k, indexLatest_toB hB hb hs k, index_getAllMarked_toB hB hb hs k]
  rfl

theorem deleteM_toB (hB : BytesOK cfg sha) {b : CBlob} (hb : BlobInv cfg b) (hs : b.IdxSized) (k : Key) (ts : Nat)
    (m : Option Meta) (oip : Bool) :
    (b.toB sha).deleteM cfg k ts m oip = ((b.deleteM cfg k ts m oip).1.toB sha, (b.deleteM cfg k ts m oip).2) := by
  unfold BBlob.deleteM CBlob.deleteM
  rw [indexLatest_toB hB hb hs k, loadIndex_toB hB hb hs, writeRec_toB cfg sha _ _ (loadIndex_inv hB.ok hb).2]
  simp only []
  generalize (!oip || _) = go
  cases go <;> rfl

end Reads

end Pearl.E2E
