import Pearl.Proofs.FaultLemmas
/-
Region-by-region description of the blob file a run of (possibly failing) write steps leaves behind, and of
the start-up scan over it (C11 start-up after any sequence of steps).

`fileBody` (the file after the blob header, region by region) with `run_fileBody`; `scanRegions` (what the scan
returns on it) with `rawLoop_visited`, `openBlob_visited`, under hypotheses about the regions the scan visits
(`Visited`; `visited_of_good` from `NoAccident` and well-formed records throughout); how `scanRegions` goes through
steps that left a complete header and stops at one that did not (`scanRegions_good_append`, `scanRegions_stop`,
`scanRegions_ok_prefix`); the forms of "no zero-padding accident" (`NoAccident`, `NoPadAccidentAll`); and that the
acknowledged headers are among those of all steps (`ackedHeaders_sublist`).
-/
namespace Pearl.Fault
open Pearl

/-! ## the file after a run of write steps, region by region -/

/-- total reservation of a list of steps (what they add to `FileInner::size`) -/
def regionsLen : List (Record × Outcome) → Nat
  | [] => 0
  | (r, _) :: rest => recLen r + regionsLen rest

theorem regionsLen_append (a b : List (Record × Outcome)) :
    regionsLen (a ++ b) = regionsLen a + regionsLen b := by
  induction a with
  | nil => simp [regionsLen]
  | cons x a ih => obtain ⟨r, o⟩ := x; simp only [List.cons_append, regionsLen, ih]; omega

theorem run_size (maxSP : Nat) (st : BlobSt) (steps : List (Record × Outcome)) :
    (run maxSP st steps).file.size = st.file.size + regionsLen steps := by
  induction steps generalizing st with
  | nil => rfl
  | cons x rest ih =>
    obtain ⟨r, o⟩ := x
    rw [run_cons, ih, writeStep_size]; simp only [regionsLen]; omega

/-- The content of the file from offset `off` on, when the steps are given the reservations
    `off, off + recLen r₁, …`: every step owns the region of `recLen r` bytes it reserved; the region holds
    the first `cut` bytes of the record image; it is zero-filled up to its end IF a later step wrote
    something (a positional write beyond the end of the file fills the hole with zeros), otherwise the file
    ends right after the last byte written. -/
def fileBody (maxSP : Nat) : Nat → List (Record × Outcome) → List UInt8
  | _, [] => []
  | off, (r, o) :: rest =>
    if fileBody maxSP (off + recLen r) rest = [] then (r.image off).take (cut maxSP r o)
    else (r.image off).take (cut maxSP r o) ++ List.replicate (recLen r - cut maxSP r o) 0 ++
      fileBody maxSP (off + recLen r) rest

theorem fileBody_cons (maxSP off : Nat) (r : Record) (o : Outcome) (rest : List (Record × Outcome)) :
    fileBody maxSP off ((r, o) :: rest) =
      if fileBody maxSP (off + recLen r) rest = [] then (r.image off).take (cut maxSP r o)
      else (r.image off).take (cut maxSP r o) ++ List.replicate (recLen r - cut maxSP r o) 0 ++
        fileBody maxSP (off + recLen r) rest := rfl

theorem take_image_ne_nil (r : Record) (off c : Nat) (hc : c ≠ 0) : (r.image off).take c ≠ [] := by
  intro h
  have := congrArg List.length h
  have hp := recLen_pos r
  simp only [List.length_take, image_length_recLen, List.length_nil] at this
  omega

theorem take_image_length (r : Record) (off c : Nat) :
    ((r.image off).take c).length = min c (recLen r) := by
  rw [List.length_take, image_length_recLen]

/-- the region of a record of which `c` bytes were written, zero-filled to its end by a later write -/
def paddedImage (r : Record) (off c : Nat) : List UInt8 :=
  (r.image off).take c ++ List.replicate (recLen r - c) 0

theorem paddedImage_length (r : Record) (off c : Nat) : (paddedImage r off c).length = recLen r := by
  unfold paddedImage
  simp only [List.length_append, take_image_length, List.length_replicate]; omega

theorem fileBody_eq_nil_iff (maxSP off : Nat) (steps : List (Record × Outcome)) :
    fileBody maxSP off steps = [] ↔ ∀ s ∈ steps, cut maxSP s.1 s.2 = 0 := by
  induction steps generalizing off with
  | nil => simp [fileBody]
  | cons x rest ih =>
    obtain ⟨r, o⟩ := x
    simp only [fileBody, List.mem_cons, forall_eq_or_imp]
    by_cases htl : fileBody maxSP (off + recLen r) rest = []
    · rw [if_pos htl]
      constructor
      · intro h
        refine ⟨?_, (ih _).mp htl⟩
        apply Classical.byContradiction
        intro hc
        exact take_image_ne_nil r off _ hc h
      · intro h; rw [h.1, List.take_zero]
    · rw [if_neg htl]
      constructor
      · intro h
        exact absurd (List.append_eq_nil_iff.mp h).2 htl
      · intro h; exact absurd ((ih _).mpr h.2) htl

theorem fileBody_ne_nil_iff (maxSP off : Nat) (steps : List (Record × Outcome)) :
    fileBody maxSP off steps ≠ [] ↔ ∃ s ∈ steps, cut maxSP s.1 s.2 ≠ 0 := by
  simp [fileBody_eq_nil_iff]

/-- one step, with the file padded with zeros up to the reservation counter before and after: the step
    adds its zero-filled region -/
theorem writeStep_padded (maxSP : Nat) (st : BlobSt) (r : Record) (o : Outcome)
    (h : st.file.bytes.length ≤ st.file.size) :
    (writeStep maxSP st r o).1.file.bytes ++ List.replicate ((writeStep maxSP st r o).1.file.size -
        (writeStep maxSP st r o).1.file.bytes.length) 0 =
      st.file.bytes ++ List.replicate (st.file.size - st.file.bytes.length) 0 ++
        paddedImage r st.file.size (cut maxSP r o) := by
  rw [writeStep_size, writeStep_bytes maxSP st r o h]
  unfold paddedImage
  split
  · next hc =>
    rw [hc, List.take_zero, List.nil_append, Nat.sub_zero, List.append_assoc, List.replicate_append_replicate]
    congr 2; omega
  · simp only [List.length_append, List.length_replicate, take_image_length, List.append_assoc]
    congr 4; omega

/-- the file after a run, in terms of `fileBody`: unchanged if nothing was written, otherwise the old
    content, the zero-filled hole up to the old reservation counter, and the regions -/
theorem run_fileBody (maxSP : Nat) (st : BlobSt) (steps : List (Record × Outcome))
    (h : st.file.bytes.length ≤ st.file.size) :
    (run maxSP st steps).file.bytes =
      if fileBody maxSP st.file.size steps = [] then st.file.bytes
      else st.file.bytes ++ List.replicate (st.file.size - st.file.bytes.length) 0 ++
        fileBody maxSP st.file.size steps := by
  induction steps generalizing st with
  | nil => simp [fileBody, run]
  | cons x rest ih =>
    obtain ⟨r, o⟩ := x
    rw [run_cons, ih _ (writeStep_le maxSP st r o h), writeStep_size, fileBody_cons]
    by_cases htl : fileBody maxSP (st.file.size + recLen r) rest = []
    · rw [if_pos htl, if_pos htl, writeStep_bytes maxSP st r o h]
      by_cases hc : cut maxSP r o = 0
      · rw [if_pos hc, hc, List.take_zero, if_pos rfl]
      · rw [if_neg hc, if_neg (take_image_ne_nil r _ _ hc)]
    · rw [if_neg htl, if_neg htl, if_neg (fun h0 => htl (List.append_eq_nil_iff.mp h0).2),
        ← writeStep_size maxSP st r o, writeStep_padded maxSP st r o h, writeStep_size]
      simp only [paddedImage, List.append_assoc]

theorem fresh_run_fileBody (maxSP : Nat) (steps : List (Record × Outcome)) :
    (run maxSP fresh steps).file.bytes = serBlobHeader ++ fileBody maxSP 20 steps := by
  rw [run_fileBody maxSP fresh steps (Nat.le_of_eq fresh_le)]
  show (if fileBody maxSP 20 steps = [] then serBlobHeader
    else serBlobHeader ++ List.replicate (20 - (serBlobHeader).length) 0 ++ fileBody maxSP 20 steps) = _
  split
  · next h => rw [h, List.append_nil]
  · rw [serBlobHeader_length]; simp

/-- unless the file ends inside the region of the first step, it holds the whole region -/
theorem fileBody_cons_whole (maxSP off : Nat) (r : Record) (o : Outcome) (rest : List (Record × Outcome))
    (h : ¬ (fileBody maxSP (off + recLen r) rest = [] ∧ cut maxSP r o < recLen r)) :
    fileBody maxSP off ((r, o) :: rest) =
      paddedImage r off (cut maxSP r o) ++ fileBody maxSP (off + recLen r) rest := by
  rw [fileBody_cons]
  split
  · next h0 =>
    have hle : recLen r ≤ cut maxSP r o := Nat.le_of_not_lt fun hlt => h ⟨h0, hlt⟩
    unfold paddedImage
    rw [h0, Nat.sub_eq_zero_of_le hle, List.replicate_zero, List.append_nil, List.append_nil]
  · rfl

theorem fileBody_cons_full (maxSP off : Nat) (r : Record) (o : Outcome) (rest : List (Record × Outcome))
    (h : recLen r ≤ cut maxSP r o) :
    fileBody maxSP off ((r, o) :: rest) = r.image off ++ fileBody maxSP (off + recLen r) rest := by
  rw [fileBody_cons_whole _ _ _ _ _ (fun h' => absurd h'.2 (Nat.not_lt.mpr h))]
  unfold paddedImage
  rw [List.take_of_length_le (by rw [image_length_recLen]; exact h), Nat.sub_eq_zero_of_le h,
    List.replicate_zero, List.append_nil]

theorem fileBody_allOk_append (maxSP : Nat) (oks rest : List (Record × Outcome)) (hok : allOk oks)
    (off : Nat) :
    fileBody maxSP off (oks ++ rest) = tailOf off (oks.map (·.1)) ++
      fileBody maxSP (off + (tailOf off (oks.map (·.1))).length) rest := by
  induction oks generalizing off with
  | nil => simp [tailOf]
  | cons x oks ih =>
    obtain ⟨r, o⟩ := x
    obtain rfl : o = .ok := hok (r, o) (List.mem_cons_self ..)
    rw [List.cons_append, fileBody_cons_full _ _ _ _ _ (Nat.le_refl _),
      ih (fun s hs => hok s (List.mem_cons_of_mem _ hs))]
    simp only [List.map_cons, tailOf, List.length_append, image_length_recLen, List.append_assoc,
      Nat.add_assoc]

theorem fresh_run_allOk_append (maxSP : Nat) (oks rest : List (Record × Outcome)) (hok : allOk oks) :
    (run maxSP fresh (oks ++ rest)).file.bytes = serBlobHeader ++ (tailOf 20 (oks.map (·.1)) ++
      fileBody maxSP (20 + (tailOf 20 (oks.map (·.1))).length) rest) := by
  rw [fresh_run_fileBody, fileBody_allOk_append maxSP oks rest hok]

/-! ## one turn of the scan at a region: less than a header was written (`PadBad`, `stopErr`), or at least the header
(`paddedData`) -/

/-- the bytes the scan reads as a header at a region of which only `c` bytes (less than a header) were
    written and which was zero-filled by a later write -/
def paddedHdr (klen : Nat) (r : Record) (off c : Nat) : List UInt8 :=
  (r.image off).take c ++ List.replicate (57 + klen - c) 0

/-- no zero-padding accident: the zero-padded header prefix does not parse to a header that passes
    `Header::validate` -/
def PadBad (klen : Nat) (r : Record) (off c : Nat) : Prop :=
  ∀ h, deserHeader (paddedHdr klen r off c) = some h → headerValidate h ≠ .ok ()

instance (klen : Nat) (r : Record) (off c : Nat) : Decidable (PadBad klen r off c) :=
  match hd : deserHeader (paddedHdr klen r off c) with
  | none => isTrue (by intro h hh; rw [hd] at hh; cases hh)
  | some x =>
    if hv : headerValidate x = .ok () then isFalse (fun hb => hb x hd hv)
    else isTrue (by intro h hh; rw [hd] at hh; cases hh; exact hv)

/-- the error the scan stops with at such a region -/
def stopErr (klen : Nat) (r : Record) (off c : Nat) : LoadErr :=
  match deserHeader (paddedHdr klen r off c) with
  | none => .bincode
  | some h =>
    match headerValidate h with
    | .error e => e
    | .ok _ => .bincode

theorem headerValidate_magic0 (h : RecHeader) (hm : h.magicByte = 0) :
    headerValidate h = .error .recordMagicByte := by
  unfold headerValidate
  rw [if_pos (by rw [hm]; decide)]

theorem stop_hole (klen : Nat) (r : Record) (off : Nat) :
    PadBad klen r off 0 ∧ stopErr klen r off 0 = .recordMagicByte := by
  obtain ⟨hd, hp, hm⟩ := deserHeader_zeros (57 + klen) (by omega)
  have hpd : paddedHdr klen r off 0 = List.replicate (57 + klen) 0 := by
    simp [paddedHdr]
  constructor
  · intro h hh
    rw [hpd, hp] at hh
    cases hh
    rw [headerValidate_magic0 _ hm]
    intro h'; cases h'
  · unfold stopErr
    rw [hpd, hp]
    simp only [headerValidate_magic0 _ hm]

theorem stop_padded (v : Bool) (klen : Nat) (P rest : List UInt8) (r : Record) (off c : Nat)
    (hoff : P.length = off) (hc : c < 57 + klen) (hrl : 57 + klen ≤ recLen r) (hbad : PadBad klen r off c) :
    readCurrentRecord v (P ++ (paddedImage r off c ++ rest)) (57 + klen) off =
      .error (.load (stopErr klen r off c)) := by
  have hsplit : paddedImage r off c =
      paddedHdr klen r off c ++ List.replicate (recLen r - (57 + klen)) 0 := by
    unfold paddedImage paddedHdr
    rw [List.append_assoc, List.replicate_append_replicate]
    congr 2; omega
  have hl : (paddedHdr klen r off c).length = 57 + klen := by
    unfold paddedHdr
    simp only [List.length_append, take_image_length, List.length_replicate]; omega
  unfold readCurrentRecord stopErr
  rw [hsplit, List.append_assoc, readExactAt_append hoff hl]
  cases hd : deserHeader (paddedHdr klen r off c) with
  | none => simp only [hd]
  | some h =>
    cases hv : headerValidate h with
    | error e => simp only [hd, hv]
    | ok u => exact absurd hv (hbad h hd)

/-- the data bytes the validating scan reads for a record of which `c` bytes were written and whose
    region was zero-filled -/
def paddedData (r : Record) (c : Nat) : List UInt8 :=
  r.data.take (c - headLen r) ++ List.replicate (r.data.length - (c - headLen r)) 0

theorem paddedData_length (r : Record) (c : Nat) : (paddedData r c).length = r.data.length := by
  unfold paddedData
  simp only [List.length_append, List.length_take, List.length_replicate]; omega

theorem paddedData_full (r : Record) (c : Nat) (h : recLen r ≤ c) : paddedData r c = r.data := by
  have : r.data.length ≤ c - headLen r := by unfold recLen at h; unfold headLen; omega
  unfold paddedData
  rw [List.take_of_length_le this, show r.data.length - (c - headLen r) = 0 by omega]
  simp

theorem paddedData_nil (r : Record) (c : Nat) (h : r.data = []) : paddedData r c = [] := by
  unfold paddedData; rw [h]; simp

theorem paddedImage_drop (r : Record) (off c : Nat) :
    (paddedImage r off c).drop (headLen r) = paddedData r c := by
  have hrl : recLen r = headLen r + r.data.length := rfl
  have him : r.image off = (serHeader (r.header.final off) ++ serMeta r.mt) ++ r.data := by
    rw [image_eq, List.append_assoc]
  have hhm : (serHeader (r.header.final off) ++ serMeta r.mt).length = headLen r := by
    rw [List.length_append, serHeader_length]; rfl
  generalize serHeader (r.header.final off) ++ serMeta r.mt = HM at him hhm
  unfold paddedImage paddedData
  rw [him]
  by_cases hc : c ≤ headLen r
  · rw [List.take_append_of_le_length (by omega), List.drop_append,
      List.drop_eq_nil_of_le (by rw [List.length_take]; omega), List.nil_append, List.length_take,
      List.drop_replicate, show c - headLen r = 0 by omega, List.take_zero, List.nil_append]
    congr 1; omega
  · rw [List.take_append, List.take_of_length_le (by omega), hhm, List.append_assoc, List.drop_left' hhm]
    congr 2; rw [hrl]; omega

theorem readCurrentRecord_padded {klen : Nat} (v : Bool) (P X : List UInt8) (r : Record)
    (hwf : r.WF klen) (off c : Nat) (hoff : P.length = off) (hr : (r.header.final off).InRange)
    (hc : 57 + klen ≤ c) :
    readCurrentRecord v (P ++ (paddedImage r off c ++ X)) (57 + klen) off =
      .ok (r.header.final off, if v then some (paddedData r c) else none, off + recLen r) := by
  have hrl := recLen_of_WF hwf
  have hhl : headLen r = 57 + klen + (serMeta r.mt).length := by unfold headLen; rw [hwf.key]
  have hhdr : readExactAt (P ++ (paddedImage r off c ++ X)) (57 + klen) off =
      some (serHeader (r.header.final off)) := by
    unfold paddedImage
    rw [List.append_assoc]
    exact readExactAt_image_header P _ r hwf off c hoff hc
  have hdata : readExactAt (P ++ (paddedImage r off c ++ X)) r.data.length
      (off + (57 + klen) + (serMeta r.mt).length) = some (paddedData r c) := by
    have : P ++ (paddedImage r off c ++ X) =
        (P ++ (paddedImage r off c).take (headLen r)) ++ (paddedData r c ++ X) := by
      conv => lhs; rw [← List.take_append_drop (headLen r) (paddedImage r off c), paddedImage_drop]
      simp only [List.append_assoc]
    rw [this]
    exact readExactAt_append (by
      rw [List.length_append, List.length_take, paddedImage_length, hoff]; omega) (paddedData_length r c)
  rw [readCurrentRecord_of_header v _ r hwf off hr hhdr, hdata, hrl]
  cases v <;> simp only [Bool.false_eq_true, ↓reduceIte, Nat.add_assoc]

/-! ## the scan over the regions: `scanRegions`, and the hypotheses under which the loop returns it

The hypothesis "no zero-padding accident" has one atom and four wrappings.  `PadBad klen r off c` is the atom: the
`c`-byte prefix of `r`'s header, padded with zeros to header size, does not parse to a header that validates.
`Visited` (below) asks it of the one short region the scan reaches that a later write zero-filled, and asks
well-formedness only of the regions before it: it is what `rawLoop_visited` / `openBlob_visited` need, and the
weakest.  `NoAccident` asks `PadBad` at the first short region and nothing of the records; with `GoodRecs` on all
steps and the size bound it gives `Visited` (`visited_of_good`).  `NoPadAccidentAll` asks `PadBad` at every short
step and gives `NoAccident` (`noAccident_of_all`, `noAccident_of_all_prefix`).  The inline hypothesis
`∀ h, deserHeader (paddedHeader ..) = some h → headerValidate h ≠ .ok ()` of Props/C11.lean is `PadBad` unfolded
(`C11.paddedHeader_eq`).  To cite: `C11.restart_good_silent` / `C11.restart_short_region` when nothing is known of
the records the scan does not reach; the theorems with `GoodRecs` on all steps are their instances. -/

/-- with data validation, what stops the scan at a region whose header was accepted (`none` = nothing):
    if the region is complete or was zero-filled by a later write, the data bytes read are `paddedData`
    and must have the checksum of the real data; if the file ends inside the region, reading the data
    hits the end of the file (unless there is no data to read) -/
def dataStop (r : Record) (c : Nat) (more : Prop) [Decidable more] : Option LoadErr :=
  if recLen r ≤ c ∨ more then
    if crc32c (paddedData r c) = crc32c r.data then none else some .recordDataChecksum
  else if r.data = [] then none else some .bincode

/-- What the scan loop returns when it is started at the beginning of the region of the first step, on a
    file that continues with `fileBody maxSP off steps`:
    * nothing was written from here on: the file ends here, the scan is over;
    * less than a header was written in this region: the scan stops with an error — `Bincode` if the file
      ends inside the header, otherwise whatever the zero-padded header gives (`stopErr`;
      `RecordMagicByte` for a hole, see `stop_hole`);
    * at least the header was written: the header is accepted (E8), with data validation subject to
      `dataStop`, and the scan continues at the NEXT REGION `off + recLen r` -/
def scanRegions (klen maxSP : Nat) (v : Bool) :
    Nat → List (Record × Outcome) → Except ScanErr (List (Nat × RecHeader))
  | _, [] => .ok []
  | off, (r, o) :: rest =>
    if cut maxSP r o = 0 ∧ fileBody maxSP (off + recLen r) rest = [] then .ok []
    else if cut maxSP r o < 57 + klen then
      .error (.load (if fileBody maxSP (off + recLen r) rest = [] then .bincode
        else stopErr klen r off (cut maxSP r o)))
    else
      match (if v then dataStop r (cut maxSP r o) (fileBody maxSP (off + recLen r) rest ≠ []) else none) with
      | some e => .error (.load e)
      | none =>
        match scanRegions klen maxSP v (off + recLen r) rest with
        | .error e => .error e
        | .ok l => .ok ((off, r.header.final off) :: l)

/-- The only hypothesis about accidents: AT THE FIRST STEP THAT LEFT LESS THAN A HEADER (the scan never
    gets past it), if it left something and a later step wrote, the zero-padded header prefix must not
    validate. Steps before it (complete headers) and after it are unconstrained. -/
def NoAccident (klen maxSP : Nat) : Nat → List (Record × Outcome) → Prop
  | _, [] => True
  | off, (r, o) :: rest =>
    if cut maxSP r o < 57 + klen then
      0 < cut maxSP r o → fileBody maxSP (off + recLen r) rest ≠ [] → PadBad klen r off (cut maxSP r o)
    else NoAccident klen maxSP (off + recLen r) rest

instance decNoAccident (klen maxSP : Nat) :
    ∀ (off : Nat) (steps : List (Record × Outcome)), Decidable (NoAccident klen maxSP off steps)
  | _, [] => isTrue trivial
  | off, (r, o) :: rest =>
    if h : cut maxSP r o < 57 + klen then
      decidable_of_iff (0 < cut maxSP r o → fileBody maxSP (off + recLen r) rest ≠ [] →
        PadBad klen r off (cut maxSP r o)) (by simp only [NoAccident, if_pos h])
    else
      have := decNoAccident klen maxSP (off + recLen r) rest
      decidable_of_iff (NoAccident klen maxSP (off + recLen r) rest) (by simp only [NoAccident, if_neg h])

theorem scanRegions_of_nil (klen maxSP : Nat) (v : Bool) (off : Nat) (steps : List (Record × Outcome))
    (h : fileBody maxSP off steps = []) : scanRegions klen maxSP v off steps = .ok [] := by
  cases steps with
  | nil => rfl
  | cons x rest =>
    obtain ⟨r, o⟩ := x
    have hall := (fileBody_eq_nil_iff maxSP off _).mp h
    have h1 : cut maxSP r o = 0 := hall (r, o) (List.mem_cons_self ..)
    have h2 : fileBody maxSP (off + recLen r) rest = [] :=
      (fileBody_eq_nil_iff maxSP _ rest).mpr (fun s hs => hall s (List.mem_cons_of_mem _ hs))
    simp only [scanRegions, h1, h2, and_self, ↓reduceIte]

theorem audit_padded {klen : Nat} (r : Record) (hwf : r.WF klen) (off c : Nat) :
    dataChecksumAudit (r.header.final off) (paddedData r c) =
      if crc32c (paddedData r c) = crc32c r.data then .ok () else .error .recordDataChecksum := by
  unfold dataChecksumAudit
  have : (r.header.final off).dataChecksum = crc32c r.data := hwf.dcrc
  rw [this]

/-- what the scan needs, and only of the regions it visits: a region with a complete header holds a record as the
    storage builds it, at an offset that fits `u64`; where it stops at a zero-filled region that region is at least a
    header long and its padded header is no accident -/
def Visited (klen maxSP : Nat) : Nat → List (Record × Outcome) → Prop
  | _, [] => True
  | off, (r, o) :: rest =>
    if cut maxSP r o < 57 + klen then
      fileBody maxSP (off + recLen r) rest ≠ [] →
        57 + klen ≤ recLen r ∧ (0 < cut maxSP r o → PadBad klen r off (cut maxSP r o))
    else r.WF klen ∧ (r.header.final off).InRange ∧ Visited klen maxSP (off + recLen r) rest

/-- the scan loop on `P ++ fileBody maxSP off steps`, started at `off = |P|`, returns `scanRegions … off steps`;
    `fuel` only has to cover the rest of the file at 57 bytes per record -/
theorem rawLoop_visited (klen maxSP : Nat) (v : Bool) (steps : List (Record × Outcome)) :
    ∀ (off : Nat) (P : List UInt8) (fuel : Nat), P.length = off → Visited klen maxSP off steps →
      (P ++ fileBody maxSP off steps).length ≤ off + 57 * fuel →
      rawLoop v (P ++ fileBody maxSP off steps) (57 + klen) fuel off =
        scanRegions klen maxSP v off steps := by
  induction steps with
  | nil =>
    intro off P fuel hoff _ _
    simp only [fileBody, List.append_nil, scanRegions]
    exact rawLoop_end v P _ fuel off (by omega)
  | cons x rest ih =>
    obtain ⟨r, o⟩ := x
    intro off P fuel hoff hV hfuel
    simp only [scanRegions, Visited] at hV ⊢
    have hrp := recLen_pos r
    by_cases hend : fileBody maxSP (off + recLen r) rest = [] ∧ cut maxSP r o < 57 + klen
    · -- the file ends in this region, with less than a header
      obtain ⟨htl, hch⟩ := hend
      rw [fileBody_cons, if_pos htl] at hfuel ⊢
      generalize cut maxSP r o = c at hfuel hch ⊢
      by_cases hc0 : c = 0
      · rw [if_pos ⟨hc0, htl⟩, hc0, List.take_zero, List.append_nil]
        exact rawLoop_end v _ _ fuel off (by omega)
      · have hpos := List.length_pos_iff.mpr (take_image_ne_nil r off c hc0)
        rw [List.length_append] at hfuel
        obtain ⟨fuel, rfl⟩ : ∃ f, fuel = f + 1 := ⟨fuel - 1, by omega⟩
        rw [if_neg (fun h => hc0 h.1), if_pos hch, if_pos htl, rawLoop,
          if_pos (by rw [List.length_append]; omega), stop_torn_header v P r off c klen hoff hch]
    by_cases hin : fileBody maxSP (off + recLen r) rest = [] ∧ cut maxSP r o < recLen r
    · -- the file ends inside this region, after the header
      obtain ⟨htl, hlt⟩ := hin
      have hch : ¬ cut maxSP r o < 57 + klen := fun h => hend ⟨htl, h⟩
      obtain ⟨hwf, hr, _⟩ := (if_neg hch ▸ hV :)
      rw [fileBody_cons, if_pos htl] at hfuel ⊢
      generalize cut maxSP r o = c at hfuel hlt hch ⊢
      have hFl : (P ++ (r.image off).take c).length = off + c := by
        rw [List.length_append, take_image_length, hoff]; omega
      rw [hFl] at hfuel
      obtain ⟨fuel, rfl⟩ : ∃ f, fuel = f + 1 := ⟨fuel - 1, by omega⟩
      have hds : dataStop r c (fileBody maxSP (off + recLen r) rest ≠ []) =
          if r.data = [] then none else some .bincode := by
        unfold dataStop
        rw [if_neg (fun h => h.elim (by omega) (· htl))]
      rw [if_neg (fun h => hch (by omega)), if_neg hch, scanRegions_of_nil klen maxSP v _ rest htl, hds,
        ← List.append_nil ((r.image off).take c),
        rawLoop_torn_body v P [] r hwf off c (fuel + 1) hoff hr (Nat.succ_pos _) (by omega)
          (by rw [image_length_recLen]; exact Nat.le_of_lt hlt) (fun _ _ => by rw [image_length_recLen]; exact hlt)]
      cases v
      · simp only [Bool.false_eq_true, false_and, ↓reduceIte]
      · by_cases hd : r.data = []
        · simp only [hd, ne_eq, not_true_eq_false, and_false, ↓reduceIte]
        · simp only [hd, ne_eq, not_false_eq_true, and_self, ↓reduceIte]
    · -- the whole region is in the file: zero-filled by a later write, or complete
      rw [fileBody_cons_whole maxSP off r o rest hin] at hfuel ⊢
      generalize cut maxSP r o = c at hV hin hend hfuel ⊢
      have hFl : (P ++ (paddedImage r off c ++ fileBody maxSP (off + recLen r) rest)).length =
          off + recLen r + (fileBody maxSP (off + recLen r) rest).length := by
        simp only [List.length_append, paddedImage_length, hoff]; omega
      rw [hFl] at hfuel
      obtain ⟨fuel, rfl⟩ : ∃ f, fuel = f + 1 := ⟨fuel - 1, by omega⟩
      by_cases hch : c < 57 + klen
      · have htl : fileBody maxSP (off + recLen r) rest ≠ [] := fun h => hend ⟨h, hch⟩
        obtain ⟨hrl, hpad⟩ := (if_pos hch ▸ hV :) htl
        have hbad : PadBad klen r off c := by
          by_cases hc0 : c = 0
          · rw [hc0]; exact (stop_hole klen r off).1
          · exact hpad (by omega)
        rw [if_neg (fun h => htl h.2), if_pos hch, if_neg htl, rawLoop, if_pos (by rw [hFl]; omega),
          stop_padded v klen P _ r off c hoff hch hrl hbad]
      · obtain ⟨hwf, hr, hV'⟩ := (if_neg hch ▸ hV :)
        have hrl := recLen_of_WF hwf
        have hrest := ih (off + recLen r) (P ++ paddedImage r off c) fuel
          (by rw [List.length_append, paddedImage_length, hoff]) hV'
          (by rw [List.append_assoc, hFl]; omega)
        rw [List.append_assoc] at hrest
        have hds : dataStop r c (fileBody maxSP (off + recLen r) rest ≠ []) =
            if crc32c (paddedData r c) = crc32c r.data then none else some .recordDataChecksum := by
          unfold dataStop
          rw [if_pos (Decidable.or_iff_not_imp_right.mpr fun h =>
            Nat.le_of_not_lt fun hlt => hin ⟨Decidable.not_not.mp h, hlt⟩)]
        rw [if_neg (fun h => hch (by omega)), if_neg hch, rawLoop, if_pos (by rw [hFl]; omega),
          readCurrentRecord_padded v P _ r hwf off c hoff hr (by omega)]
        cases v
        · simp only [Bool.false_eq_true, ↓reduceIte, hrest]
          rfl
        · simp only [↓reduceIte, audit_padded r hwf off c, hrest, hds]
          by_cases hcrc : crc32c (paddedData r c) = crc32c r.data
          · simp only [hcrc, ↓reduceIte]
            rfl
          · simp only [hcrc, ↓reduceIte]

theorem visited_good_append {klen maxSP : Nat} (good rest : List (Record × Outcome))
    (hgood : ∀ s ∈ good, 57 + klen ≤ cut maxSP s.1 s.2) (hg : GoodRecs klen (good.map (·.1))) (off : Nat)
    (hsz : off + regionsLen good < 2 ^ 64) (h : Visited klen maxSP (off + regionsLen good) rest) :
    Visited klen maxSP off (good ++ rest) := by
  induction good generalizing off with
  | nil => exact h
  | cons x good ih =>
    obtain ⟨r, o⟩ := x
    simp only [regionsLen] at hsz h
    simp only [List.cons_append, Visited]
    rw [if_neg (Nat.not_lt.mpr (hgood (r, o) (List.mem_cons_self ..)))]
    obtain ⟨hwf, hts⟩ : r.WF klen ∧ r.header.timestamp < 2 ^ 64 := hg.head
    exact ⟨hwf, final_inRange hwf off hts (by rw [image_length_recLen]; omega),
      ih (fun s hs => hgood s (List.mem_cons_of_mem _ hs)) hg.tail _ (by omega) (by rwa [Nat.add_assoc])⟩

theorem visited_of_good {klen maxSP : Nat} (steps : List (Record × Outcome)) (off : Nat)
    (hg : GoodRecs klen (steps.map (·.1))) (hna : NoAccident klen maxSP off steps)
    (hsz : off + regionsLen steps < 2 ^ 64) : Visited klen maxSP off steps := by
  induction steps generalizing off with
  | nil => trivial
  | cons x rest ih =>
    obtain ⟨r, o⟩ := x
    simp only [regionsLen] at hsz
    simp only [Visited, NoAccident] at hna ⊢
    obtain ⟨hwf, hts⟩ : r.WF klen ∧ r.header.timestamp < 2 ^ 64 := hg.head
    split
    · next hc =>
      rw [if_pos hc] at hna
      exact fun hne => ⟨by rw [recLen_of_WF hwf]; omega, fun h0 => hna h0 hne⟩
    · next hc =>
      rw [if_neg hc] at hna
      exact ⟨hwf, final_inRange hwf off hts (by rw [image_length_recLen]; omega), ih _ hg.tail hna (by omega)⟩

/-- `Blob::from_file` (no index file) on the file any sequence of steps leaves opens the blob with the headers
    `scanRegions` lists, or quarantines it when `scanRegions` stops with an error -/
theorem openBlob_visited (klen maxSP : Nat) (v : Bool) (steps : List (Record × Outcome))
    (hV : Visited klen maxSP 20 steps) :
    openBlob klen v (serBlobHeader ++ fileBody maxSP 20 steps) =
      match scanRegions klen maxSP v 20 steps with
      | .error _ => .quarantine
      | .ok l => .ok (l.map (·.2)) := by
  by_cases hnil : fileBody maxSP 20 steps = []
  · rw [hnil, List.append_nil, openBlob_header_only, scanRegions_of_nil klen maxSP v 20 steps hnil]
    rfl
  · have hloop := rawLoop_visited klen maxSP v steps 20 serBlobHeader
      (serBlobHeader ++ fileBody maxSP 20 steps).length (serBlobHeader_length _) hV (by omega)
    have hload : ∀ e0, rawStart klen (serBlobHeader ++ fileBody maxSP 20 steps) = .error e0 →
        ∃ e, scanRegions klen maxSP v 20 steps = .error e := by
      intro e0 hst
      cases steps with
      | nil => exact absurd rfl hnil
      | cons x rest =>
        obtain ⟨r, o⟩ := x
        by_cases hch : cut maxSP r o < 57 + klen
        · simp only [scanRegions]
          rw [if_neg (fun h => hnil (by rw [fileBody_cons, if_pos h.2, h.1, List.take_zero])), if_pos hch]
          exact ⟨_, rfl⟩
        · simp only [Visited] at hV
          obtain ⟨hwf, hr, _⟩ := (if_neg hch ▸ hV :)
          have hk : klen < 2 ^ 64 := hwf.key ▸ hr.2.1
          rw [fileBody_cons] at hst
          split at hst
          · rw [rawStart_of_prefix r hwf hk (List.take_prefix_take_left (by omega))] at hst
            cases hst
          · rw [rawStart_of_prefix r hwf hk ((List.take_prefix_take_left (by omega)).trans
              ((List.prefix_append _ _).trans (List.prefix_append _ _)))] at hst
            cases hst
    cases hst : rawStart klen (serBlobHeader ++ fileBody maxSP 20 steps) with
    | error e0 =>
      obtain ⟨e, he⟩ := hload e0 hst
      rw [he, openBlob_quarantine_of_load_error klen v _ e0 hnil (by unfold rawRecordsLoad rawRecordsScan; rw [hst])]
    | ok hsz' =>
      obtain rfl := rawStart_ok hst
      have hload : rawRecordsLoad klen v (serBlobHeader ++ fileBody maxSP 20 steps) =
          match scanRegions klen maxSP v 20 steps with
          | .error e => .error e
          | .ok l => .ok (l.map (·.2)) := by
        unfold rawRecordsLoad rawRecordsScan
        rw [hst]
        simp only
        rw [show blobHeaderSize = 20 from rfl, hloop]
        cases scanRegions klen maxSP v 20 steps <;> rfl
      cases hsr : scanRegions klen maxSP v 20 steps with
      | error e =>
        rw [hsr] at hload
        exact openBlob_quarantine_of_load_error klen v _ e hnil hload
      | ok l =>
        rw [hsr] at hload
        rw [openBlob_of_load klen v _ hnil, hload]

/-! ## `scanRegions` through steps that left a complete header, and where it stops -/

theorem tailOf_length_regionsLen (off : Nat) (steps : List (Record × Outcome)) :
    (tailOf off (steps.map (·.1))).length = regionsLen steps := by
  induction steps generalizing off with
  | nil => rfl
  | cons x rest ih =>
    obtain ⟨r, o⟩ := x
    simp only [List.map_cons, tailOf, List.length_append, image_length_recLen, ih, regionsLen]

theorem scanRegions_cons_of_header (klen maxSP : Nat) (v : Bool) (off : Nat) (r : Record) (o : Outcome)
    (rest : List (Record × Outcome)) (hc : 57 + klen ≤ cut maxSP r o) :
    scanRegions klen maxSP v off ((r, o) :: rest) =
      match (if v then dataStop r (cut maxSP r o) (fileBody maxSP (off + recLen r) rest ≠ []) else none) with
      | some e => .error (.load e)
      | none =>
        match scanRegions klen maxSP v (off + recLen r) rest with
        | .error e => .error e
        | .ok l => .ok ((off, r.header.final off) :: l) := by
  simp only [scanRegions]
  rw [if_neg (by omega), if_neg (by omega)]

theorem scanRegions_cons_ok {klen maxSP : Nat} {v : Bool} {off : Nat} {r : Record} {o : Outcome}
    {rest : List (Record × Outcome)} {l : List (Nat × RecHeader)}
    (h : scanRegions klen maxSP v off ((r, o) :: rest) = .ok l) :
    l = [] ∨ 57 + klen ≤ cut maxSP r o ∧ ∃ l', scanRegions klen maxSP v (off + recLen r) rest = .ok l' ∧
      l = (off, r.header.final off) :: l' := by
  simp only [scanRegions] at h
  split at h
  · cases h; exact Or.inl rfl
  · split at h
    · cases h
    · next hc =>
      split at h
      · cases h
      · split at h
        · cases h
        · next l' hl' => cases h; exact Or.inr ⟨by omega, l', hl', rfl⟩

theorem dataStop_none (r : Record) (c : Nat) (more : Prop) [Decidable more]
    (h : recLen r ≤ c ∨ r.data = []) : dataStop r c more = none := by
  unfold dataStop
  rcases h with h | h
  · rw [if_pos (Or.inl h), paddedData_full r c h, if_pos rfl]
  · rw [paddedData_nil r c h, h]
    simp

/-- with data validation the run must have left complete records or records without data: then only meta
    bytes can be missing, which no scan reads -/
theorem scanRegions_good_append (klen maxSP : Nat) (v : Bool) (good rest : List (Record × Outcome))
    (hgood : ∀ s ∈ good, 57 + klen ≤ cut maxSP s.1 s.2)
    (hdata : v = true → ∀ s ∈ good, recLen s.1 ≤ cut maxSP s.1 s.2 ∨ s.1.data = []) (off : Nat) :
    scanRegions klen maxSP v off (good ++ rest) =
      match scanRegions klen maxSP v (off + regionsLen good) rest with
      | .error e => .error e
      | .ok l => .ok (scanOf off (good.map (·.1)) ++ l) := by
  induction good generalizing off with
  | nil =>
    simp only [List.nil_append, regionsLen, Nat.add_zero, List.map_nil, scanOf]
    cases scanRegions klen maxSP v off rest <;> rfl
  | cons x good ih =>
    obtain ⟨r, o⟩ := x
    have hds : (if v = true then
        dataStop r (cut maxSP r o) (fileBody maxSP (off + recLen r) (good ++ rest) ≠ []) else none) = none := by
      cases v
      · rfl
      · exact dataStop_none r _ _ (hdata rfl (r, o) (List.mem_cons_self ..))
    rw [List.cons_append, scanRegions_cons_of_header _ _ _ _ _ _ _ (hgood (r, o) (List.mem_cons_self ..)), hds,
      ih (fun s hs => hgood s (List.mem_cons_of_mem _ hs))
        (fun hv s hs => hdata hv s (List.mem_cons_of_mem _ hs))]
    simp only [List.map_cons, scanOf, regionsLen, image_length_recLen, Nat.add_assoc]
    cases scanRegions klen maxSP v (off + (recLen r + regionsLen good)) rest <;> rfl

theorem scanRegions_good_append_error (klen maxSP : Nat) (v : Bool) (good rest : List (Record × Outcome))
    (hgood : ∀ s ∈ good, 57 + klen ≤ cut maxSP s.1 s.2) (off : Nat) (e : ScanErr)
    (h : scanRegions klen maxSP v (off + regionsLen good) rest = .error e) :
    ∃ e', scanRegions klen maxSP v off (good ++ rest) = .error e' := by
  induction good generalizing off with
  | nil => exact ⟨e, h⟩
  | cons x good ih =>
    obtain ⟨r, o⟩ := x
    rw [List.cons_append, scanRegions_cons_of_header _ _ _ _ _ _ _ (hgood (r, o) (List.mem_cons_self ..))]
    split
    · exact ⟨_, rfl⟩
    · obtain ⟨e', he'⟩ := ih (fun s hs => hgood s (List.mem_cons_of_mem _ hs)) (off + recLen r)
        (by rw [Nat.add_assoc]; exact h)
      rw [he']
      exact ⟨_, rfl⟩

theorem scanRegions_stop (klen maxSP : Nat) (v : Bool) (off : Nat) (R : Record) (o : Outcome)
    (later : List (Record × Outcome)) (hc : cut maxSP R o < 57 + klen)
    (hw : cut maxSP R o ≠ 0 ∨ ∃ s ∈ later, cut maxSP s.1 s.2 ≠ 0) :
    ∃ e, scanRegions klen maxSP v off ((R, o) :: later) = .error (.load e) := by
  simp only [scanRegions]
  rw [if_neg (fun h => hw.elim (· h.1) ((fileBody_ne_nil_iff ..).mpr · h.2)), if_pos hc]
  exact ⟨_, rfl⟩

theorem scanRegions_offsets_lt (klen maxSP : Nat) (v : Bool) (a b : List (Record × Outcome)) (R : Record)
    (o : Outcome) (hc : cut maxSP R o < 57 + klen) (off : Nat) (l : List (Nat × RecHeader))
    (h : scanRegions klen maxSP v off (a ++ (R, o) :: b) = .ok l) :
    ∀ x ∈ l, x.2.blobOffset < off + regionsLen a := by
  induction a generalizing off l with
  | nil =>
    rcases scanRegions_cons_ok h with rfl | ⟨hc', _⟩
    · intro x hx; cases hx
    · omega
  | cons y a ih =>
    obtain ⟨r, o'⟩ := y
    rcases scanRegions_cons_ok h with rfl | ⟨_, l', hl', rfl⟩
    · intro x hx; cases hx
    · intro x hx
      have hp := recLen_pos r
      simp only [regionsLen]
      rcases List.mem_cons.mp hx with rfl | hx
      · show off < _; omega
      · have := ih _ _ hl' x hx; omega

/-- what the scan returns is a prefix of the headers of ALL steps (acknowledged or not) -/
theorem scanRegions_ok_prefix (klen maxSP : Nat) (v : Bool) (steps : List (Record × Outcome)) (off : Nat)
    (l : List (Nat × RecHeader)) (h : scanRegions klen maxSP v off steps = .ok l) :
    l <+: scanOf off (steps.map (·.1)) := by
  induction steps generalizing off l with
  | nil => simp only [scanRegions] at h; cases h; exact List.nil_prefix
  | cons y rest ih =>
    obtain ⟨r, o⟩ := y
    rcases scanRegions_cons_ok h with rfl | ⟨_, l', hl', rfl⟩
    · exact List.nil_prefix
    · simp only [List.map_cons, scanOf, image_length_recLen]
      exact (List.cons_prefix_cons).mpr ⟨rfl, ih _ _ hl'⟩

/-! ## `NoAccident` along a run, and from `NoPadAccidentAll` -/

theorem noAccident_good_append (klen maxSP : Nat) (good rest : List (Record × Outcome))
    (hgood : ∀ s ∈ good, 57 + klen ≤ cut maxSP s.1 s.2) (off : Nat) :
    NoAccident klen maxSP off (good ++ rest) ↔ NoAccident klen maxSP (off + regionsLen good) rest := by
  induction good generalizing off with
  | nil => simp [regionsLen]
  | cons x good ih =>
    obtain ⟨r, o⟩ := x
    have hc : 57 + klen ≤ cut maxSP r o := hgood (r, o) (List.mem_cons_self ..)
    simp only [List.cons_append, NoAccident, regionsLen]
    rw [if_neg (by omega), ih (fun s hs => hgood s (List.mem_cons_of_mem _ hs)), Nat.add_assoc]

/-- "no zero-padding accident at any failed step": every step that left a non-empty proper prefix of its
    header has a zero-padded prefix that does not validate -/
def NoPadAccidentAll (klen maxSP off : Nat) (steps : List (Record × Outcome)) : Prop :=
  ∀ a r o b, steps = a ++ (r, o) :: b → 0 < cut maxSP r o → cut maxSP r o < 57 + klen →
    PadBad klen r (off + regionsLen a) (cut maxSP r o)

theorem NoPadAccidentAll.head {klen maxSP off : Nat} {r : Record} {o : Outcome} {rest : List (Record × Outcome)}
    (h : NoPadAccidentAll klen maxSP off ((r, o) :: rest)) (h0 : 0 < cut maxSP r o)
    (hc : cut maxSP r o < 57 + klen) : PadBad klen r off (cut maxSP r o) := by
  simpa [regionsLen] using h [] r o rest rfl h0 hc

theorem NoPadAccidentAll.tail {klen maxSP off : Nat} {r : Record} {o : Outcome} {rest : List (Record × Outcome)}
    (h : NoPadAccidentAll klen maxSP off ((r, o) :: rest)) :
    NoPadAccidentAll klen maxSP (off + recLen r) rest := fun a r2 o2 b heq h0 hlt => by
  simpa [regionsLen, Nat.add_assoc] using h ((r, o) :: a) r2 o2 b (by rw [heq]; rfl) h0 hlt

theorem noAccident_of_all_prefix (klen maxSP : Nat) (a b : List (Record × Outcome)) (R : Record) (o : Outcome)
    (hc : cut maxSP R o < 57 + klen) (off : Nat) (hall : NoPadAccidentAll klen maxSP off (a ++ [(R, o)])) :
    NoAccident klen maxSP off (a ++ (R, o) :: b) := by
  induction a generalizing off with
  | nil =>
    simp only [List.nil_append, NoAccident]
    rw [if_pos hc]
    exact fun h0 _ => hall.head h0 hc
  | cons y a ih =>
    obtain ⟨r, o'⟩ := y
    simp only [List.cons_append, NoAccident]
    split
    · next hc' => exact fun h0 _ => hall.head h0 hc'
    · exact ih _ hall.tail

theorem noAccident_of_all (klen maxSP : Nat) (steps : List (Record × Outcome)) (off : Nat)
    (hall : NoPadAccidentAll klen maxSP off steps) : NoAccident klen maxSP off steps := by
  induction steps generalizing off with
  | nil => trivial
  | cons y rest ih =>
    obtain ⟨r, o⟩ := y
    simp only [NoAccident]
    split
    · next hc => exact fun h0 _ => hall.head h0 hc
    · exact ih _ hall.tail

/-! ## the acknowledged headers are among the headers of all steps -/

theorem ok_cut_ge {klen : Nat} (maxSP : Nat) (r : Record) (hwf : r.WF klen) : 57 + klen ≤ cut maxSP r .ok := by
  show 57 + klen ≤ recLen r
  rw [recLen_of_WF hwf]; omega

theorem ackedHeaders_sublist (maxSP : Nat) (st : BlobSt) (steps : List (Record × Outcome)) :
    (ackedHeaders maxSP st steps).Sublist ((scanOf st.file.size (steps.map (·.1))).map (·.2)) := by
  induction steps generalizing st with
  | nil => exact List.Sublist.slnil
  | cons x rest ih =>
    obtain ⟨r, o⟩ := x
    have ih' := ih (writeStep maxSP st r o).1
    rw [writeStep_size] at ih'
    unfold ackedHeaders at ih' ⊢
    simp only [acked, List.map_append, List.map_cons, scanOf, image_length_recLen]
    split
    · simp only [List.map_cons, List.map_nil, List.singleton_append]
      rw [writtenHeader_eq]
      exact List.Sublist.cons_cons _ ih'
    · simp only [List.map_nil, List.nil_append]
      exact List.Sublist.cons _ ih'

end Pearl.Fault
