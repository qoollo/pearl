import Pearl.Proofs.ToolsReader
/-
Lemmas for the offline tools (C16) that speak of no particular blob.

* The loop of `process_blob_with` is summarised by the list of records it hands to the writer (`processTrace`); the
  output of the `validate_every = 0` model is that list written out (`processLoop_eq_trace`), and the loop bound is
  never the reason for an error (`processLoop_ne_fuel` .. `migrateBlob_ne_fuel`).  What the list is on a produced
  blob, intact or damaged: `Proofs/ToolsMany.lean`.
* The C16 input "record `i` altered": `InData` / `InHeaderNoLen` / `FlipIn`, and `damagedAt_flip`.
* The blob header: reading back a serialised one (`readBlobHeader_ser`, `writeHeader_ok`, `validateBlob_unfold`),
  a short or altered one (`parseBlobHeader_short`, `tools_header_error`, `magicFlip_header`).
* The version-0 image of a produced blob (`Record.revKey`, `blobBytesV0`).

The vocabulary of produced blobs and their prefixes (`GoodRecs`, `ProducedAt`, `CutIn`, `IsBoundary`,
`produced_addressable`) is in `Proofs/BlobProduced.lean`.
-/
namespace Pearl

/-! ### the loop of `process_blob_with` as a trace of records -/

/-- the records `process_blob_with` passes to `write_record`, in order (same loop as `processLoop`) -/
def processTrace (input : List UInt8) (skip : Bool) (f : ToolRecord → Except ToolErr ToolRecord) :
    Nat → Nat → List ToolRecord
  | 0, _ => []
  | fuel+1, pos =>
    if isEof input pos then []
    else
      match readRecord input skip pos with
      | .error _ => []
      | .ok (r, pos') =>
        match f r with
        | .error _ => []
        | .ok r' => r' :: processTrace input skip f fuel pos'

theorem processTrace_eof {input : List UInt8} {pos : Nat} (h : input.length ≤ pos) (skip : Bool)
    (f : ToolRecord → Except ToolErr ToolRecord) (k : Nat) : processTrace input skip f k pos = [] := by
  cases k <;> simp [processTrace, isEof_true h]

theorem processTrace_step {input : List UInt8} {skip : Bool} {f : ToolRecord → Except ToolErr ToolRecord}
    {pos pos' k : Nat} {r r' : ToolRecord} (hlt : pos < input.length)
    (hrd : readRecord input skip pos = .ok (r, pos')) (hf : f r = .ok r') :
    processTrace input skip f (k + 1) pos = r' :: processTrace input skip f k pos' := by
  rw [processTrace, isEof_false hlt, hrd]
  simp only [Bool.false_eq_true, ↓reduceIte, hf]

theorem processTrace_stop {input : List UInt8} {skip : Bool} {f : ToolRecord → Except ToolErr ToolRecord}
    {pos k : Nat} {e : ToolErr} (hrd : readRecord input skip pos = .error e) :
    processTrace input skip f k pos = [] := by
  cases k with
  | zero => rfl
  | succ k =>
    rw [processTrace, hrd]
    split <;> rfl

theorem processLoop_eq_trace (input : List UInt8) (skip : Bool) (f : ToolRecord → Except ToolErr ToolRecord) :
    ∀ (fuel pos : Nat) (out : List UInt8), input.length ≤ pos + fuel →
      processLoop input skip f fuel pos out =
        .ok ((processTrace input skip f fuel pos).foldl Pearl.writeRecord out) := by
  intro fuel
  induction fuel with
  | zero =>
    intro pos out hf
    rw [processLoop, isEof_true (by omega)]
    rfl
  | succ fuel ih =>
    intro pos out hf
    rw [processLoop, processTrace]
    split
    · rfl
    · rcases readRecord_cases input skip pos with ⟨r, pos', h, hl⟩ | ⟨e, h, _⟩
      · rw [h]
        simp only
        cases hfr : f r with
        | error e => rfl
        | ok r' =>
          simp only
          rw [ih pos' _ (by omega)]
          rfl
      · rw [h]
        rfl

/-! ### the loop bounds are never the reason for an error -/

theorem processLoop_ne_fuel (input : List UInt8) (skip : Bool)
    (f : ToolRecord → Except ToolErr ToolRecord) (fuel pos : Nat) (out : List UInt8)
    (hf : input.length ≤ pos + fuel) : processLoop input skip f fuel pos out ≠ .error .fuel := by
  rw [processLoop_eq_trace input skip f fuel pos out hf]
  nofun

theorem processBlobWith_ne_fuel (input : List UInt8) (skip : Bool)
    (fRec : Nat → ToolRecord → Except ToolErr ToolRecord)
    (fHdr : Nat → BlobHeader → Except ToolErr BlobHeader)
    (hH : ∀ v b, fHdr v b ≠ .error .fuel) : processBlobWith input skip fRec fHdr ≠ .error .fuel := by
  unfold processBlobWith
  split
  · next e he => intro c; cases c; exact readBlobHeader_ne_fuel _ he
  · next hdr pos he =>
    split
    · next e he2 => intro c; cases c; exact hH _ _ he2
    · split
      · next e he3 => intro c; cases c; exact writeHeader_ne_fuel _ he3
      · exact processLoop_ne_fuel _ _ _ _ _ _ (by omega)

theorem recoveryBlob_ne_fuel (input : List UInt8) (skip : Bool) : recoveryBlob input skip ≠ .error .fuel :=
  processBlobWith_ne_fuel _ _ _ _ (fun _ _ c => by cases c)

theorem migrateBlob_ne_fuel (input : List UInt8) (target : Nat) : migrateBlob input target ≠ .error .fuel := by
  apply processBlobWith_ne_fuel
  intro v b
  unfold migrateBlobHeader
  split
  · intro c; cases c
  · split <;> (intro c; cases c)

/-! ### a record of a produced blob with at most 4 adjacent bytes altered -/

/-- the window `[p, p + w)` of the file lies inside the data of the record with index header `h` -/
def InData (h : RecHeader) (p w : Nat) : Prop :=
  h.dataOffset ≤ p ∧ p + w ≤ h.dataOffset + h.dataSize

instance (h : RecHeader) (p w : Nat) : Decidable (InData h p w) := by
  unfold InData; infer_instance

/-- the window `[p, p + w)` lies inside the serialised header of the record with index header `h`, and
    outside the three length fields (key length: bytes 8..16, meta_size and data_size: the 16 bytes
    after the key) -/
def InHeaderNoLen (h : RecHeader) (p w : Nat) : Prop :=
  h.blobOffset ≤ p ∧ p + w ≤ h.blobOffset + (57 + h.key.length) ∧
  (p + w ≤ h.blobOffset + 8 ∨ (h.blobOffset + 16 ≤ p ∧ p + w ≤ h.blobOffset + 16 + h.key.length) ∨
    h.blobOffset + 32 + h.key.length ≤ p)

instance (h : RecHeader) (p w : Nat) : Decidable (InHeaderNoLen h p w) := by
  unfold InHeaderNoLen; infer_instance

/-- `input` is the produced blob with at most 4 adjacent bytes altered inside record `i`: inside its data,
    or inside its header outside the length fields -/
def FlipIn (klen : Nat) (recs : List (Rec × List UInt8)) (i : Nat) (input : List UInt8) : Prop :=
  ∃ p w1 w2 s h, blobBytes klen recs = p ++ w1 ++ s ∧ input = p ++ w2 ++ s ∧ w1.length = w2.length ∧
    w1.length ≤ 4 ∧ w1 ≠ w2 ∧ (blobHeaders klen recs)[i]? = some h ∧
    (InData h p.length w1.length ∨ InHeaderNoLen h p.length w1.length)

/-- the image of a record at `off` with at most 4 adjacent bytes altered, inside the data or inside the
    header outside the length fields, is a damaged record of the same size, whatever surrounds it (`BadRegion`): in
    the data the data checksum fails (`crc32c_window_split`), in the header `header_window` applies -/
theorem damagedAt_flip {klen : Nat} {R : Record} (hwf : R.WF klen) (hts : R.header.timestamp < 2 ^ 64)
    (off : Nat) (a w1 w2 c : List UInt8) (hI : R.image off = a ++ w1 ++ c) (hl : w1.length = w2.length)
    (h4 : w1.length ≤ 4) (hne : w1 ≠ w2)
    (hwhere : InData (R.header.final off) (off + a.length) w1.length ∨
      InHeaderNoLen (R.header.final off) (off + a.length) w1.length) :
    BadRegion off (a ++ w2 ++ c) := by
  intro pre post hpre hlen
  have him := R.image_length off
  rw [hwf.key] at him
  have hXl : (a ++ w2 ++ c).length = (R.image off).length := by
    rw [hI]; simp only [List.length_append, hl]
  rw [hXl]
  have hr : (R.header.final off).InRange := final_inRange hwf off hts (by
    simp only [List.length_append] at hlen hXl ⊢; omega)
  have hkl : (R.header.final off).key.length = klen := hwf.key
  have hms : (R.header.final off).metaSize = (serMeta R.mt).length := hwf.msize
  have hds : (R.header.final off).dataSize = R.data.length := hwf.dsize
  rw [him]
  rcases hwhere with ⟨hd1, hd2⟩ | ⟨hh1, hh2, hh3⟩
  · -- inside the data
    rw [final_dataOffset hwf] at hd1 hd2
    rw [hds] at hd2
    have hX : a ++ w1 ++ c = (serHeader (R.header.final off) ++ serMeta R.mt) ++ (R.data ++ []) := by
      rw [← hI, image_eq]; simp only [List.append_assoc, List.append_nil]
    obtain ⟨d1, d2, hp, hdata, hs⟩ := window_in_middle hX
      (by simp only [List.length_append, serHeader_length, hkl]; omega)
      (by simp only [List.length_append, serHeader_length, hkl]; omega)
    rw [List.append_nil] at hs
    have hDl : (d1 ++ w2 ++ d2).length = R.data.length := by
      rw [hdata]; simp only [List.length_append, hl]
    have hcrc : crc32c (d1 ++ w2 ++ d2) ≠ (R.header.final off).dataChecksum := by
      rw [show (R.header.final off).dataChecksum = R.header.dataChecksum from rfl, hwf.dcrc, hdata]
      exact (crc32c_window_split d1 w1 w2 d2 hl h4 hne).symm
    have hinX : a ++ w2 ++ c = serHeader (R.header.final off) ++ (serMeta R.mt ++ (d1 ++ w2 ++ d2)) := by
      rw [hp, hs]; simp only [List.append_assoc]
    have hd := damagedAt_parts pre post (R.header.final off) R.mt (d1 ++ w2 ++ d2) off hpre hr hms
      (by rw [hds, hDl]) (by rw [← hinX]; exact hlen) (Or.inr hcrc)
    rw [← hinX, hkl, hDl] at hd
    simpa only [Nat.add_assoc] using hd
  · -- inside the header
    rw [show (R.header.final off).blobOffset = off from rfl] at hh1 hh2 hh3
    rw [hkl] at hh2 hh3
    have hX : a ++ w1 ++ c = [] ++ (serHeader (R.header.final off) ++ (serMeta R.mt ++ R.data)) := by
      rw [← hI, image_eq]; rfl
    obtain ⟨a', c', hp, hH, hs⟩ := window_in_middle hX (Nat.zero_le _)
      (by rw [serHeader_length, hkl]; simp only [List.length_nil]; omega)
    rw [List.nil_append] at hp
    subst hp
    obtain ⟨hser, hr', hkl', hms', hds', hbad⟩ := header_window (R.header.final off) hr hkl
      (headerValidate_final _ _ hwf.magic) (a ++ w2 ++ c') a.length w1.length h4
      (by rw [hH]; simp only [List.length_append, hl])
      (by rw [hH]; exact window_hout a w1 w2 c' hl)
      (by rw [hH]; intro he; simp only [List.append_assoc, List.append_cancel_left_eq,
            List.append_cancel_right_eq] at he; exact hne he.symm)
      (by omega)
    have hinX : a ++ w2 ++ c = serHeader (hdrOfBytes klen (a ++ w2 ++ c')) ++ (serMeta R.mt ++ R.data) := by
      rw [hser, hs]; simp only [List.append_assoc]
    have hd := damagedAt_parts pre post (hdrOfBytes klen (a ++ w2 ++ c')) R.mt R.data off
      hpre hr' (by rw [hms', hms]) (by rw [hds', hds]) (by rw [← hinX]; exact hlen)
      (hbad.imp id fun hb2 he => hb2 (he.symm.trans hwf.dcrc.symm))
    rw [← hinX, hkl'] at hd
    simpa only [Nat.add_assoc] using hd

/-! ### the blob header -/

theorem readBlobHeader_ser (b : BlobHeader) (rest : List UInt8) (hr : b.InRange)
    (hm : b.magicByte = BLOB_MAGIC_BYTE) : readBlobHeader (serBlobHeader b ++ rest) = .ok (b, 20) := by
  unfold readBlobHeader
  rw [parseBlobHeader_ser b rest hr]
  simp [validateWithoutVersion, hm, blobHeaderSize]

theorem writeHeader_ok (b : BlobHeader) (hr : b.InRange) (hm : b.magicByte = BLOB_MAGIC_BYTE) :
    writeHeader b = .ok (serBlobHeader b) := by
  unfold writeHeader
  have := readBlobHeader_ser b [] hr hm
  rw [List.append_nil] at this
  simp [this]

theorem validateBlob_unfold (b : BlobHeader) (rest : List UInt8) (hr : b.InRange)
    (hm : b.magicByte = BLOB_MAGIC_BYTE) :
    validateBlob (serBlobHeader b ++ rest) =
      validateLoop (serBlobHeader b ++ rest) (serBlobHeader b ++ rest).length 20 := by
  unfold validateBlob
  rw [readBlobHeader_ser b rest hr hm]

theorem parseBlobHeader_short {l : List UInt8} (h : l.length < 20) : parseBlobHeader l = none := by
  unfold parseBlobHeader
  split
  · rfl
  · next m r h0 =>
    obtain ⟨e0, l0⟩ := takeN_some h0
    split
    · rfl
    · next v r1 h1 =>
      obtain ⟨e1, l1⟩ := takeN_some h1
      split
      · rfl
      · next f r2 h2 =>
        obtain ⟨e2, l2⟩ := takeN_some h2
        subst e2 e1 e0
        simp only [List.length_append] at h
        omega

theorem readBlobHeader_magic {file : List UInt8} {x : BlobHeader × Nat}
    (h : readBlobHeader file = .ok x) : fromLe (file.take 8) = BLOB_MAGIC_BYTE := by
  unfold readBlobHeader at h
  split at h
  · cases h
  · next b hp =>
    by_cases hm' : b.magicByte = BLOB_MAGIC_BYTE
    · rw [← hm']
      unfold parseBlobHeader at hp
      split at hp
      · cases hp
      · next m r h0 =>
        obtain ⟨e0, l0⟩ := takeN_some h0
        split at hp
        · cases hp
        · split at hp
          · cases hp
          · simp only [Option.some.injEq] at hp
            subst hp
            rw [e0, List.take_left' l0]
    · simp [validateWithoutVersion, hm'] at h

theorem tools_header_error {file : List UInt8} {e : ToolErr} (h : readBlobHeader file = .error e) :
    validateBlob file = .error e ∧ (∀ skip, recoveryBlob file skip = .error e) ∧
    ∀ target, migrateBlob file target = .error e := by
  refine ⟨?_, fun skip => ?_, fun target => ?_⟩
  · unfold validateBlob; rw [h]
  · unfold recoveryBlob processBlobWith; rw [h]
  · unfold migrateBlob processBlobWith; rw [h]

theorem blobBytes_magic (klen : Nat) (recs : List (Rec × List UInt8)) :
    (blobBytes klen recs).take 8 = le64 BLOB_MAGIC_BYTE := by
  rw [blobBytes_eq]
  have : serBlobHeader = le64 BLOB_MAGIC_BYTE ++ (le32 BLOB_VERSION ++ le64 0) := rfl
  rw [this, List.append_assoc, List.take_left' (le64_length _)]

theorem magicFlip_header (klen : Nat) (recs : List (Rec × List UInt8)) (p w1 w2 s : List UInt8)
    (hb : blobBytes klen recs = p ++ w1 ++ s) (hl : w1.length = w2.length) (hne : w1 ≠ w2)
    (h8 : p.length + w1.length ≤ 8) : ∃ e, readBlobHeader (p ++ w2 ++ s) = .error e := by
  cases hres : readBlobHeader (p ++ w2 ++ s) with
  | error e => exact ⟨e, rfl⟩
  | ok x =>
    exfalso
    have hm := readBlobHeader_magic hres
    have h0 := blobBytes_magic klen recs
    have hlen := blobBytes_length_ge klen recs
    rw [hb] at h0 hlen
    have hl1 : ((p ++ w1 ++ s).take 8).length = 8 := by
      rw [List.length_take]; omega
    have hl2 : ((p ++ w2 ++ s).take 8).length = 8 := by
      rw [List.length_take]; simp only [List.length_append] at hlen ⊢; omega
    have heq : (p ++ w2 ++ s).take 8 = (p ++ w1 ++ s).take 8 := by
      apply fromLe_inj (by rw [hl1, hl2])
      rw [hm, h0, fromLe_le64 (by decide)]
    have e1 : ∀ w : List UInt8, w.length = w1.length →
        (p ++ w ++ s).take 8 = p ++ w ++ s.take (8 - (p ++ w).length) := by
      intro w hw
      rw [List.take_append, List.take_of_length_le (by simp only [List.length_append]; omega)]
    rw [e1 w2 hl.symm, e1 w1 rfl] at heq
    have hpw : (p ++ w2).length = (p ++ w1).length := by simp [hl]
    rw [hpw, List.append_cancel_right_eq, List.append_cancel_left_eq] at heq
    exact hne heq.symm

/-! ### the version-0 image of a produced blob -/

/-- the record with its key bytes in the version-0 order (`Header::with_reversed_key_bytes` undoes it) -/
def Record.revKey (R : Record) : Record :=
  { R with header := { R.header with key := R.header.key.reverse } }

/-- the version-0 image of a produced blob: version field 0, every key reversed, checksums accordingly -/
def blobBytesV0 (klen : Nat) (recs : List (Rec × List UInt8)) : List UInt8 :=
  appendRecords (serBlobHeader { BlobHeader.new with version := 0 }) ((recordsOf klen recs).map Record.revKey)

theorem revKey_revKey (R : Record) : R.revKey.revKey = R := by
  cases R with
  | mk h m d => cases h; simp [Record.revKey]

theorem revKey_size (R : Record) : R.revKey.size = R.size := by
  simp [Record.revKey, Record.size]

theorem revKey_WF {klen : Nat} {R : Record} (h : R.WF klen) : R.revKey.WF klen :=
  ⟨h.magic, by simp [Record.revKey, h.key], h.msize, h.dsize, h.dcrc⟩

theorem goodRecs_revKey {klen : Nat} {Rs : List Record} (h : GoodRecs klen Rs) :
    GoodRecs klen (Rs.map Record.revKey) := by
  intro R hR
  obtain ⟨R0, hR0, rfl⟩ := List.mem_map.mp hR
  exact ⟨revKey_WF (h R0 hR0).1, (h R0 hR0).2⟩

theorem writeRecord_migrated (out : List UInt8) (R : Record) (off : Nat) :
    writeRecord out { header := (R.toTool off).header.withReversedKeyBytes, mt := (R.toTool off).mt,
                      data := (R.toTool off).data } = out ++ R.revKey.image out.length := by
  unfold writeRecord Record.image Record.toTool
  simp only [serMetaEntries_metaEntries]
  rfl

theorem blobBytesV0_eq (klen : Nat) (recs : List (Rec × List UInt8)) :
    blobBytesV0 klen recs = serBlobHeader { BlobHeader.new with version := 0 } ++
      tailOf 20 ((recordsOf klen recs).map Record.revKey) := by
  rw [blobBytesV0, appendRecords_eq, serBlobHeader_length]

theorem blobBytesV0_length (klen : Nat) (recs : List (Rec × List UInt8)) :
    (blobBytesV0 klen recs).length = (blobBytes klen recs).length := by
  rw [blobBytesV0_eq, blobBytes_length, List.length_append, serBlobHeader_length, tailOf_length,
    List.map_map, show (Record.size ∘ Record.revKey) = Record.size from funext revKey_size]

/-- the two images differ in the version field of the blob header -/
theorem blobBytesV0_ne (klen : Nat) (recs : List (Rec × List UInt8)) :
    blobBytesV0 klen recs ≠ blobBytes klen recs := by
  rw [blobBytesV0_eq, blobBytes_eq]
  intro h
  have := (List.append_inj h (by rw [serBlobHeader_length, serBlobHeader_length])).1
  revert this
  decide


end Pearl

