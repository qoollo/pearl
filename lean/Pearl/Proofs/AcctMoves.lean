import Pearl.Proofs.AcctLemmas
/-
`Acct.step` with a log of the blob files created and moved (`stepC`), what a step does to the blob files (`FileStep`),
and every operation, `restart` included, as a list of blocks computed from the state it is issued in (`blocks`,
`step_blocks`, `stepC_log`): what holds of each block (`Blk.inv`, `Blk.fileStep`) holds of every operation.  The blocks
of every operation but `restart` leave the index files, `ignored` and `corrupted` alone up to a final dump pass
(`sameQ`, `Clean`, `Blk.quiet` / `Blk.same` / `runB_same`, `step_pre`).
-/
namespace Pearl
namespace Acct

/-- result of an instrumented operation: the state, the blob files renamed into `corrupted`, the blob files
    created (in order) -/
structure Logged where
  st : State
  moved : List Nat := []
  created : List Nat := []

def ensureActiveC (s : State) : Logged :=
  match s.store.active with
  | some _ => { st := s }
  | none => { st := { newBlobFile s with store := s.store.apply .createActive }, created := [s.store.nextId] }

def rotateC (c : Cfg) (s : State) (dmp : Bool) : Logged :=
  let s1 := { newBlobFile s with store := s.store.apply .replaceActive }
  { st := if dmp then dumpPass c s1 else s1, created := [s.store.nextId] }

def writeC (c : Cfg) (s : State) (k : Key) (ts : Nat) (m : Option Meta) (d : Data) (rot dmp : Bool) : Logged :=
  let l0 := ensureActiveC s
  let s0 := l0.st
  if !s0.store.allowDup && (s0.store.getLatestEntry k m).isFound then l0
  else
    match s0.store.active with
    | none => l0
    | some a =>
      let s1 := { appendWhere s0 (· == a.id) (Fs.recLen c.klen (Fs.writeRec k ts m d)) with
                  store := s0.store.apply (.write k ts m d) }
      if rot then { st := (rotateC c s1 dmp).st, created := l0.created ++ (rotateC c s1 dmp).created }
      else { st := s1, created := l0.created }

def deleteC (c : Cfg) (s : State) (k : Key) (ts : Nat) (m : Option Meta) (oip : Bool) : Logged :=
  let l0 : Logged := if oip then { st := s } else ensureActiveC s
  let s0 := l0.st
  let tg := delTargets s0.store k oip
  { st := { appendWhere s0 (fun id => tg.any (·.id == id)) (Fs.recLen c.klen (Fs.markerRec k ts m)) with
            store := s0.store.apply (.delete k ts m oip) }
    created := l0.created }

def forceC (c : Cfg) (s : State) (go : Bool) : Logged :=
  if go then { st := dumpPass c { newBlobFile s with store := s.store.apply .replaceActive },
               created := [s.store.nextId] }
  else { st := dumpPass c s }

def initNewC (s : State) : Logged := { st := initNew s, created := [maxNext s.dir.corrupted] }

/-- `initExisting` + log: `save_corrupted_blob` renames every unreadable blob file unless `ignore_corrupted` -/
def initExistingC (c : Cfg) (s : State) (lazy ignore : Bool) (bad : List Nat) : Logged :=
  let s1 := initCore c s lazy ignore bad
  let mv := if ignore then [] else unreadable s bad
  if !lazy && s1.store.active.isNone then
    { st := { newBlobFile s1 with
              store := { s1.store with active := some { id := s1.store.nextId, recs := [] }
                                       nextId := s1.store.nextId + 1 } }
      moved := mv, created := [s1.store.nextId] }
  else { st := s1, moved := mv }

def restartC (c : Cfg) (s : State) (lazy ignore : Bool) (bad : List Nat) : Logged :=
  let s1 := closeSession c s
  if (keys s1.dir.blobs).isEmpty then initNewC s1 else initExistingC c s1 lazy ignore bad

def stepC (c : Cfg) (s : State) : AOp → Logged
  | .write k ts m d rot dmp => writeC c s k ts m d rot dmp
  | .delete k ts m oip => deleteC c s k ts m oip
  | .closeActive => { st := closeActive c s }
  | .createActive => ensureActiveC s
  | .restoreActive => { st := restoreActive s }
  | .force go => forceC c s go
  | .settle => { st := dumpPass c s }
  | .restart lazy ignore bad => restartC c s lazy ignore bad

theorem rotateC_st (c : Cfg) (s : State) (dmp : Bool) : (rotateC c s dmp).st = rotate c s dmp := rfl

/-- every id in either directory is below `next_blob_id` (the clause `below` of `Acct.Inv`) -/
def Below (s : State) : Prop := ∀ i, i ∈ keys s.dir.blobs ∨ i ∈ s.dir.corrupted → i < s.store.nextId

theorem Inv.toBelow {c : Cfg} {s : State} (h : Inv c s) : Below s := h.below

/-- `s'` comes from `s` by: renaming the blob files `mv` into `corrupted`, creating the blob files `cr`, and
    growing blob files in place -/
structure FileStep (s s' : State) (mv cr : List Nat) : Prop where
  /-- a blob file that is not moved is still there, under its id, at least as long -/
  keep : ∀ i v, get s.dir.blobs i = some v → i ∉ mv → ∃ v', get s'.dir.blobs i = some v' ∧ v ≤ v'
  /-- the blob files afterwards: the old ones that were not moved, and the created ones -/
  files : ∀ i, i ∈ keys s'.dir.blobs ↔ (i ∈ keys s.dir.blobs ∧ i ∉ mv) ∨ i ∈ cr
  /-- `corrupted` gets exactly the moved files -/
  corr : s'.dir.corrupted = s.dir.corrupted ++ mv
  mvFiles : ∀ i ∈ mv, i ∈ keys s.dir.blobs
  mvNodup : mv.Nodup
  /-- the files created are numbered `next_blob_id`, `next_blob_id + 1`, … -/
  ids : cr = List.range' s.store.nextId cr.length
  /-- and `next_blob_id` moves by the number of files created -/
  next : s'.store.nextId = s.store.nextId + cr.length

namespace FileStep

theorem same {s s' : State} (hb : s'.dir.blobs = s.dir.blobs) (hc : s'.dir.corrupted = s.dir.corrupted)
    (hn : s'.store.nextId = s.store.nextId) : FileStep s s' [] [] :=
  { keep := fun i v hv _ => ⟨v, by rw [hb]; exact hv, Nat.le_refl _⟩
    files := fun i => by rw [hb]; simp
    corr := by rw [hc]; simp
    mvFiles := fun i hi => by cases hi
    mvNodup := List.nodup_nil
    ids := rfl
    next := by rw [hn]; rfl }

theorem append {s s' : State} (P : Nat → Bool) (f : Nat → Nat)
    (hb : s'.dir.blobs = mapIf s.dir.blobs P (fun id l => max l (f id)))
    (hc : s'.dir.corrupted = s.dir.corrupted) (hn : s'.store.nextId = s.store.nextId) : FileStep s s' [] [] :=
  { keep := fun i v hv _ => by
      refine ⟨if P i = true then max v (f i) else v, by rw [hb, get_mapIf, hv]; rfl, ?_⟩
      split
      · exact Nat.le_max_left _ _
      · exact Nat.le_refl _
    files := fun i => by rw [hb, keys_mapIf]; simp
    corr := by rw [hc]; simp
    mvFiles := fun i hi => by cases hi
    mvNodup := List.nodup_nil
    ids := rfl
    next := by rw [hn]; rfl }

theorem newBlob {s s' : State} (hbel : Below s) (v : Nat)
    (hb : s'.dir.blobs = put s.dir.blobs s.store.nextId v)
    (hc : s'.dir.corrupted = s.dir.corrupted) (hn : s'.store.nextId = s.store.nextId + 1) :
    FileStep s s' [] [s.store.nextId] :=
  { keep := fun i w hw _ => by
      have hlt : i < s.store.nextId := hbel i (Or.inl (mem_keys_of_get hw))
      refine ⟨w, ?_, Nat.le_refl _⟩
      rw [hb, get_put, if_neg (Nat.ne_of_lt hlt)]; exact hw
    files := fun i => by
      rw [hb, mem_keys_put]
      simp only [List.not_mem_nil, not_false_eq_true, and_true, List.mem_singleton]
      exact Or.comm
    corr := by rw [hc]; simp
    mvFiles := fun i hi => by cases hi
    mvNodup := List.nodup_nil
    ids := rfl
    next := by rw [hn]; rfl }

/-- first `h1`, then `h2`, provided no file created by the first is moved by the second -/
theorem trans {s s' s'' : State} {mv cr mv' cr' : List Nat} (h1 : FileStep s s' mv cr) (h2 : FileStep s' s'' mv' cr')
    (hd : ∀ i ∈ mv', i ∉ cr) : FileStep s s'' (mv ++ mv') (cr ++ cr') :=
  have hold : ∀ i ∈ mv', i ∈ keys s.dir.blobs ∧ i ∉ mv := fun i hi =>
    ((h1.files i).1 (h2.mvFiles i hi)).resolve_right (hd i hi)
  { keep := fun i v hv hm => by
      rw [List.mem_append, not_or] at hm
      obtain ⟨v', hv', hle⟩ := h1.keep i v hv hm.1
      obtain ⟨v'', hv'', hle'⟩ := h2.keep i v' hv' hm.2
      exact ⟨v'', hv'', Nat.le_trans hle hle'⟩
    files := fun i => by
      rw [h2.files, h1.files, List.mem_append, List.mem_append, not_or]
      constructor
      · rintro (⟨⟨hk, hm⟩ | hc, hm'⟩ | hc')
        · exact Or.inl ⟨hk, hm, hm'⟩
        · exact Or.inr (Or.inl hc)
        · exact Or.inr (Or.inr hc')
      · rintro (⟨hk, hm, hm'⟩ | hc | hc')
        · exact Or.inl ⟨Or.inl ⟨hk, hm⟩, hm'⟩
        · exact Or.inl ⟨Or.inr hc, fun hm' => hd i hm' hc⟩
        · exact Or.inr hc'
    corr := by rw [h2.corr, h1.corr, List.append_assoc]
    mvFiles := fun i hi => (List.mem_append.1 hi).elim (h1.mvFiles i) fun hi => (hold i hi).1
    mvNodup := List.nodup_append.2 ⟨h1.mvNodup, h2.mvNodup, fun a ha b hb e => (hold b hb).2 (e ▸ ha)⟩
    ids := by
      rw [List.length_append, ← List.range'_append_1, ← h1.ids, ← h1.next, ← h2.ids]
    next := by rw [h2.next, h1.next, List.length_append]; omega }

theorem created_fresh {s s' : State} {mv cr : List Nat} (h : FileStep s s' mv cr) (hb : Below s) :
    ∀ i ∈ cr, s.store.nextId ≤ i ∧ i ∉ keys s.dir.blobs ∧ i ∉ s.dir.corrupted ∧ i ∈ keys s'.dir.blobs := by
  intro i hi
  have hge : s.store.nextId ≤ i := by
    have := hi; rw [h.ids, List.mem_range'_1] at this; exact this.1
  refine ⟨hge, fun hk => ?_, fun hk => ?_, (h.files i).2 (Or.inr hi)⟩
  · exact Nat.lt_irrefl _ (Nat.lt_of_lt_of_le (hb i (Or.inl hk)) hge)
  · exact Nat.lt_irrefl _ (Nat.lt_of_lt_of_le (hb i (Or.inr hk)) hge)

end FileStep

/-- `ignored` and `corrupted` only change at a restart -/
def sameQ (s s' : State) : Prop := s'.ignored = s.ignored ∧ s'.dir.corrupted = s.dir.corrupted

theorem sameQ.refl (s : State) : sameQ s s := ⟨rfl, rfl⟩
theorem sameQ.trans {a b c : State} (h1 : sameQ a b) (h2 : sameQ b c) : sameQ a c :=
  ⟨h2.1.trans h1.1, h2.2.trans h1.2⟩

/-- nothing was ever quarantined or skipped -/
def Clean (s : State) : Prop := s.ignored = [] ∧ s.dir.corrupted = []

theorem sameQ.clean {s s' : State} (q : sameQ s s') (h : Clean s) : Clean s' := ⟨q.1.trans h.1, q.2.trans h.2⟩

theorem sameQ_ensureActive (s : State) : sameQ s (ensureActive s) := by
  unfold ensureActive; split <;> exact ⟨rfl, rfl⟩

theorem sameQ_dumpPass (c : Cfg) (s : State) : sameQ s (dumpPass c s) := ⟨rfl, rfl⟩

theorem closeSession_store (c : Cfg) (s : State) : (closeSession c s).store = s.store := by
  unfold closeSession; split <;> (try split) <;> rfl

theorem closeSession_blobs (c : Cfg) (s : State) : (closeSession c s).dir.blobs = s.dir.blobs := by
  unfold closeSession; split <;> (try split) <;> rfl

theorem closeSession_ignored (c : Cfg) (s : State) : (closeSession c s).ignored = s.ignored := by
  unfold closeSession; split <;> (try split) <;> rfl

theorem closeSession_corrupted (c : Cfg) (s : State) : (closeSession c s).dir.corrupted = s.dir.corrupted := by
  unfold closeSession; split <;> (try split) <;> rfl

/-- with no blob file in the work directory, `next_blob_id` is one above the greatest quarantined id: `init_new`
    numbers its blob `next_blob_id` -/
theorem maxNext_corrupted_of_empty {c : Cfg} {s : State} (h : Inv c s) (he : keys s.dir.blobs = []) :
    maxNext s.dir.corrupted = s.store.nextId := by
  have := h.maxNext_eq
  rwa [he] at this

/-! ### every operation as a list of blocks -/

/-- the pieces the operations are made of -/
inductive Blk where
  /-- `ensure_active_blob_exists` -/
  | ensure
  /-- `Safe::replace_active_blob` with a fresh blob -/
  | replace
  /-- one pass of `try_dump_old_blob_indexes` -/
  | dump
  /-- a change of the store alone (`close_active_blob`, `restore_active_blob`) -/
  | l2 (op : Op)
  /-- the record of a write appended to the active blob -/
  | writeRec (k : Key) (ts : Nat) (m : Option Meta) (d : Data)
  /-- the deletion markers appended -/
  | marks (k : Key) (ts : Nat) (m : Option Meta) (oip : Bool)
  /-- `Storage::close` -/
  | close
  | initNew
  /-- `read_blobs`: the only block that moves files -/
  | reopen (lazy ignore : Bool) (bad : List Nat)

def Blk.run (c : Cfg) (s : State) : Blk → State
  | .ensure => ensureActive s
  | .replace => { newBlobFile s with store := s.store.apply .replaceActive }
  | .dump => dumpPass c s
  | .l2 op => { s with store := s.store.apply op }
  | .writeRec k ts m d =>
    match s.store.active with
    | none => s
    | some a =>
      { appendWhere s (· == a.id) (Fs.recLen c.klen (Fs.writeRec k ts m d)) with
        store := s.store.apply (.write k ts m d) }
  | .marks k ts m oip =>
    { appendWhere s (fun id => (delTargets s.store k oip).any (·.id == id)) (Fs.recLen c.klen (Fs.markerRec k ts m)) with
      store := s.store.apply (.delete k ts m oip) }
  | .close => closeSession c s
  | .initNew => Acct.initNew s
  | .reopen lazy ignore bad => Acct.reopen s lazy ignore bad

/-- when a block may run -/
def Blk.Ok (s : State) : Blk → Prop
  | .l2 op => op = .closeActive ∨ op = .restoreActive
  | .writeRec k _ m _ =>
    (∃ a, s.store.active = some a) ∧ (!s.store.allowDup && (s.store.getLatestEntry k m).isFound) = false
  | .marks _ _ _ oip => oip = true ∨ s.store.active.isSome = true
  | .initNew => keys s.dir.blobs = []
  | _ => True

/-- the blob files a block creates -/
def Blk.cr (s : State) : Blk → List Nat
  | .ensure => match s.store.active with | some _ => [] | none => [s.store.nextId]
  | .replace => [s.store.nextId]
  | .initNew => [maxNext s.dir.corrupted]
  | _ => []

/-- the blob files a block renames into `corrupted` -/
def Blk.mv (s : State) : Blk → List Nat
  | .reopen _ ignore bad => if ignore then [] else unreadable s bad
  | _ => []

/-- the blocks of an operation issued in state `s` (`Acct.l2`, in `Pearl/Proofs/AcctRuns.lean`, lists the L2 operations of
    the same operation in the same shape) -/
def blocks (s : State) : AOp → List Blk
  | .write k ts m d rot dmp =>
    .ensure ::
      (if s.store.dedups k m then []
       else .writeRec k ts m d :: (if rot then .replace :: (if dmp then [.dump] else []) else []))
  | .delete k ts m oip => (if oip then [] else [.ensure]) ++ [.marks k ts m oip]
  | .closeActive => [.l2 .closeActive, .dump]
  | .createActive => [.ensure]
  | .restoreActive => [.l2 .restoreActive]
  | .force go => (if go then [.replace] else []) ++ [.dump]
  | .settle => [.dump]
  | .restart lazy ignore bad =>
    .close ::
      (if (keys s.dir.blobs).isEmpty then [.initNew]
       else .reopen lazy ignore bad :: .dump :: (if lazy then [] else [.ensure]))

def runB (c : Cfg) (s : State) (bs : List Blk) : State := bs.foldl (Blk.run c) s

/-- every block is enabled when its turn comes -/
def OkAll (c : Cfg) : State → List Blk → Prop
  | _, [] => True
  | s, b :: bs => b.Ok s ∧ OkAll c (b.run c s) bs

def crs (c : Cfg) : State → List Blk → List Nat
  | _, [] => []
  | s, b :: bs => b.cr s ++ crs c (b.run c s) bs

def mvs (c : Cfg) : State → List Blk → List Nat
  | _, [] => []
  | s, b :: bs => b.mv s ++ mvs c (b.run c s) bs

theorem dedup_ensureActive (s : State) (k : Key) (m : Option Meta) :
    (!(ensureActive s).store.allowDup && ((ensureActive s).store.getLatestEntry k m).isFound) = s.store.dedups k m := by
  unfold Store.dedups
  rw [ensureActive_store, Store.ensureActive_allowDup]

/-- `write`: `ensure_active_blob_exists`; unless the write is refused as a duplicate, the record, then the rotation -/
theorem write_eq (c : Cfg) (s : State) (k : Key) (ts : Nat) (m : Option Meta) (d : Data) (rot dmp : Bool) :
    write c s k ts m d rot dmp =
      if !(ensureActive s).store.allowDup && ((ensureActive s).store.getLatestEntry k m).isFound then ensureActive s
      else if rot then rotate c ((Blk.writeRec k ts m d).run c (ensureActive s)) dmp
      else (Blk.writeRec k ts m d).run c (ensureActive s) := by
  obtain ⟨a, ha⟩ := ensureActive_active s
  simp only [write, ha, Blk.run]

theorem step_blocks (c : Cfg) (s : State) (op : AOp) :
    step c s op = runB c s (blocks s op) ∧ OkAll c s (blocks s op) := by
  cases op with
  | write k ts m d rot dmp =>
    obtain ⟨a, ha⟩ := ensureActive_active s
    have hcond := dedup_ensureActive s k m
    rw [show step c s (.write k ts m d rot dmp) = write c s k ts m d rot dmp from rfl, write_eq, hcond]
    simp only [blocks]
    cases hd : s.store.dedups k m with
    -- `OkAll` has one component per block; all but those of `writeRec`, `marks`, `l2`, `initNew` are `True` (`Blk.Ok`)
    | true => exact ⟨rfl, trivial, trivial⟩
    | false =>
      have hw : (Blk.writeRec k ts m d).Ok (ensureActive s) := ⟨⟨a, ha⟩, hcond.trans hd⟩
      cases rot with
      | false => exact ⟨rfl, trivial, hw, trivial⟩
      | true =>
        cases dmp with
        | false => exact ⟨rfl, trivial, hw, trivial, trivial⟩
        | true => exact ⟨rfl, trivial, hw, trivial, trivial, trivial⟩
  | delete k ts m oip =>
    cases oip with
    | true => exact ⟨rfl, Or.inl rfl, trivial⟩
    | false =>
      obtain ⟨a, ha⟩ := ensureActive_active s
      exact ⟨rfl, trivial, Or.inr (show (ensureActive s).store.active.isSome = true by rw [ha]; rfl), trivial⟩
  | closeActive => exact ⟨rfl, Or.inl rfl, trivial, trivial⟩
  | createActive => exact ⟨rfl, trivial, trivial⟩
  | restoreActive => exact ⟨rfl, Or.inr rfl, trivial⟩
  | force go =>
    cases go with
    | false => exact ⟨rfl, trivial, trivial⟩
    | true => exact ⟨rfl, trivial, trivial, trivial⟩
  | settle => exact ⟨rfl, trivial, trivial⟩
  | restart lazy ignore bad =>
    simp only [step, restart, initExisting, blocks, ← closeSession_blobs c s]
    split
    · rename_i he
      exact ⟨rfl, trivial, List.isEmpty_iff.1 he, trivial⟩
    · rw [initCore_eq]
      refine ⟨?_, trivial, trivial, trivial, by cases lazy <;> trivial⟩
      show _ = runB c (dumpPass c (reopen (closeSession c s) lazy ignore bad)) (if lazy = true then [] else [.ensure])
      generalize dumpPass c (reopen (closeSession c s) lazy ignore bad) = s1
      cases lazy with
      | true => rfl
      | false =>
        show _ = ensureActive s1
        unfold ensureActive
        cases ha : s1.store.active with
        | some a => rfl
        | none => rw [Store.apply_createActive_of_none ha]; rfl

/-- `restart` in the vocabulary of the model: `close`, then `init_new` or `initCore` and — unless lazy —
    `ensure_active_blob_exists` -/
theorem restart_eq (c : Cfg) (s : State) (lazy ignore : Bool) (bad : List Nat) :
    restart c s lazy ignore bad =
      if (keys (closeSession c s).dir.blobs).isEmpty then initNew (closeSession c s)
      else if lazy then initCore c (closeSession c s) lazy ignore bad
      else ensureActive (initCore c (closeSession c s) lazy ignore bad) := by
  refine (step_blocks c s (.restart lazy ignore bad)).1.trans ?_
  rw [closeSession_blobs]
  show runB c s (.close :: if _ then _ else _) = _
  split
  · rfl
  · rw [initCore_eq]; cases lazy <;> rfl

theorem ensureActiveC_eq (s : State) : ensureActiveC s = { st := ensureActive s, created := Blk.cr s .ensure } := by
  unfold ensureActiveC ensureActive Blk.cr
  cases s.store.active <;> rfl

/-- the instrumented step logs what the blocks move and create -/
theorem stepC_log (c : Cfg) (s : State) (op : AOp) :
    stepC c s op =
      { st := runB c s (blocks s op), moved := mvs c s (blocks s op), created := crs c s (blocks s op) } := by
  cases op with
  | write k ts m d rot dmp =>
    obtain ⟨a, ha⟩ := ensureActive_active s
    simp only [stepC, writeC, ensureActiveC_eq, dedup_ensureActive, ha, blocks]
    cases s.store.dedups k m with
    | true => simp [runB, mvs, crs, Blk.mv, Blk.run]
    | false =>
      cases rot with
      | false => simp [runB, mvs, crs, Blk.mv, Blk.cr, Blk.run, ha]
      | true => cases dmp <;> simp [runB, mvs, crs, Blk.mv, Blk.cr, Blk.run, ha, rotateC]
  | delete k ts m oip =>
    cases oip with
    | true => simp [stepC, deleteC, blocks, runB, mvs, crs, Blk.mv, Blk.cr, Blk.run]
    | false => simp [stepC, deleteC, ensureActiveC_eq, blocks, runB, mvs, crs, Blk.mv, Blk.cr, Blk.run]
  | closeActive => rfl
  | createActive => simp [stepC, ensureActiveC_eq, blocks, runB, mvs, crs, Blk.mv, Blk.run]
  | restoreActive => rfl
  | force go => cases go <;> rfl
  | settle => rfl
  | restart lazy ignore bad =>
    simp only [stepC, restartC, initExistingC, initNewC, blocks, ← closeSession_blobs c s]
    split
    · rfl
    · rw [initCore_eq]
      cases lazy with
      | true => simp [runB, mvs, crs, Blk.mv, Blk.cr, Blk.run]
      | false =>
        simp only [Bool.false_eq_true, if_false, runB, List.foldl, mvs, crs, Blk.mv, Blk.cr, Blk.run, List.append_nil,
          List.nil_append]
        generalize dumpPass c (reopen (closeSession c s) false ignore bad) = s1
        unfold ensureActive
        cases ha : s1.store.active with
        | some a => rfl
        | none => simp [Store.apply_createActive_of_none ha]; rfl

theorem stepC_st (c : Cfg) (s : State) (op : AOp) : (stepC c s op).st = step c s op := by
  rw [stepC_log, (step_blocks c s op).1]

/-! ### what holds of each block holds of every operation -/

theorem Blk.inv {c : Cfg} {s : State} (h : Inv c s) : ∀ {b : Blk}, b.Ok s → Inv c (b.run c s)
  | .ensure, _ => inv_ensureActive h
  | .replace, _ => inv_replace h
  | .dump, _ => inv_dumpPass h
  | .l2 _, .inl rfl =>
    have ⟨hbl, hn, hact⟩ := Store.closeActive_blobs s.store
    h.store_weaker _ (by rw [hbl]) (fun b' hb' => ⟨b', hbl ▸ hb', rfl, rfl, id⟩) hn
      (fun a ha => by rw [hact] at ha; cases ha)
  | .l2 _, .inr rfl => inv_restoreActive h
  | .writeRec k ts m d, ⟨⟨a, ha⟩, hd⟩ => by
    simp only [Blk.run, ha]; exact inv_writeRec h ha k ts m d hd
  | .marks k ts m oip, hb => inv_deleteMarks h k ts m oip hb
  | .close, _ => inv_closeSession h
  | .initNew, hb =>
    inv_initNew (List.map_eq_nil_iff.1 hb)
      (List.map_eq_nil_iff.1 (List.eq_nil_iff_forall_not_mem.2 fun i hi => by
        have := h.idxFiles i hi; rw [hb] at this; cases this)) h.corrNodup
  | .reopen lazy ignore bad, _ => inv_reopen h lazy ignore bad

theorem inv_runB {c : Cfg} : ∀ (bs : List Blk) {s : State}, Inv c s → OkAll c s bs → Inv c (runB c s bs)
  | [], _, h, _ => h
  | _ :: bs, _, h, hk => inv_runB bs (Blk.inv h hk.1) hk.2

theorem inv_step {c : Cfg} {s : State} (h : Inv c s) (op : AOp) : Inv c (step c s op) :=
  (step_blocks c s op).1 ▸ inv_runB _ h (step_blocks c s op).2

theorem inv_restart {c : Cfg} {s : State} (h : Inv c s) (lazy ignore : Bool) (bad : List Nat) :
    Inv c (restart c s lazy ignore bad) :=
  inv_step h (.restart lazy ignore bad)

def Blk.creates : Blk → Bool
  | .ensure | .replace | .initNew => true
  | _ => false

def Blk.moves : Blk → Bool
  | .reopen _ _ _ => true
  | _ => false

/-- no block that moves files comes after one that creates a file -/
def ordered : List Blk → Bool
  | [] => true
  | b :: bs => (!b.creates || bs.all (!·.moves)) && ordered bs

theorem blocks_ordered (s : State) (op : AOp) : ordered (blocks s op) = true := by
  cases op with
  | write k ts m d rot dmp => simp only [blocks]; cases s.store.dedups k m <;> cases rot <;> cases dmp <;> rfl
  | delete k ts m oip => cases oip <;> rfl
  | force go => cases go <;> rfl
  | restart lazy ignore bad => simp only [blocks]; cases (keys s.dir.blobs).isEmpty <;> cases lazy <;> rfl
  | _ => rfl

theorem mvs_of_still {c : Cfg} : ∀ (bs : List Blk) (s : State), bs.all (!·.moves) = true → mvs c s bs = []
  | [], _, _ => rfl
  | b :: bs, s, h => by
    rw [List.all_cons, Bool.and_eq_true] at h
    rw [mvs, mvs_of_still bs _ h.2]
    cases b <;> first | rfl | cases h.1

theorem Blk.fileStep {c : Cfg} {s : State} (h : Inv c s) :
    ∀ {b : Blk}, b.Ok s → FileStep s (b.run c s) (b.mv s) (b.cr s)
  | .ensure, _ => by
    unfold Blk.run Blk.cr ensureActive
    cases ha : s.store.active with
    | some a => exact FileStep.same rfl rfl rfl
    | none =>
      exact FileStep.newBlob h.below blobHeaderSize rfl rfl (by
        show (s.store.apply .createActive).nextId = _
        rw [Store.apply_createActive_of_none ha]; rfl)
  | .replace, _ => FileStep.newBlob h.below blobHeaderSize rfl rfl (Store.nextId_replaceActive _)
  | .dump, _ => FileStep.same rfl rfl rfl
  | .l2 _, .inl rfl => FileStep.same rfl rfl (Store.closeActive_blobs s.store).2.1
  | .l2 _, .inr rfl => FileStep.same rfl rfl (Store.restoreActive_blobs s.store).2
  | .writeRec k ts m d, ⟨⟨a, ha⟩, hd⟩ => by
    simp only [Blk.run, ha]
    exact FileStep.append (· == a.id) (fun id => s.fsz id + Fs.recLen c.klen (Fs.writeRec k ts m d)) rfl rfl
      (by rw [show s.store.apply (.write k ts m d) = _ from Store.write_of_active ha k ts m d hd])
  | .marks k ts m oip, hb =>
    FileStep.append (fun id => (delTargets s.store k oip).any (·.id == id))
      (fun id => s.fsz id + Fs.recLen c.klen (Fs.markerRec k ts m)) rfl rfl
      ((Store.delete_nextId s.store k ts m oip).trans (by rw [deleteBase_of hb]))
  | .close, _ =>
    FileStep.same (closeSession_blobs c s) (closeSession_corrupted c s) (by rw [Blk.run, closeSession_store])
  | .initNew, hb => by
    have hm := maxNext_corrupted_of_empty h hb
    show FileStep s (Acct.initNew s) [] [maxNext s.dir.corrupted]
    rw [hm]
    exact FileStep.newBlob h.below blobHeaderSize (by rw [← hm]; rfl) rfl (by rw [← hm]; rfl)
  | .reopen lazy ignore bad, _ =>
    { keep := fun i v hv hm => by
        refine ⟨v, ?_, Nat.le_refl _⟩
        show get (dirAfterRead s ignore bad).blobs i = some v
        rw [get_dirAfterRead_blobs, if_neg (show i ∉ (if ignore then [] else unreadable s bad) from hm)]; exact hv
      files := fun i => by
        show i ∈ keys (dirAfterRead s ignore bad).blobs ↔ _
        rw [mem_keys_dirAfterRead_blobs]
        simp only [Blk.mv, Blk.cr, List.not_mem_nil, or_false]
      corr := dirAfterRead_corrupted h ignore bad
      mvFiles := fun i hi => by
        cases ignore with
        | true => simp [Blk.mv] at hi
        | false => exact (mem_unreadable.1 hi).1
      mvNodup := by
        cases ignore with
        | true => exact List.nodup_nil
        | false => exact h.filesNodup.sublist List.filter_sublist
      ids := rfl
      next := initCore_nextId h lazy ignore bad }

theorem fileStep_runB {c : Cfg} : ∀ (bs : List Blk) {s : State}, Inv c s → OkAll c s bs → ordered bs = true →
    FileStep s (runB c s bs) (mvs c s bs) (crs c s bs)
  | [], _, _, _, _ => FileStep.same rfl rfl rfl
  | b :: bs, s, h, hk, ho => by
    rw [ordered, Bool.and_eq_true, Bool.or_eq_true, Bool.not_eq_true'] at ho
    refine (Blk.fileStep h hk.1).trans (fileStep_runB bs (Blk.inv h hk.1) hk.2 ho.2) fun i hi => ?_
    rcases ho.1 with hc | hs
    · intro hcr
      cases b <;> first | exact absurd hc (by decide) | cases hcr
    · rw [mvs_of_still bs _ hs] at hi; cases hi

/-- every operation, from a state with the invariant: nothing vanishes but what is quarantined, nothing shrinks,
    the files created are numbered from `next_blob_id` on -/
theorem stepC_fileStep {c : Cfg} {s : State} (h : Inv c s) (op : AOp) :
    FileStep s (stepC c s op).st (stepC c s op).moved (stepC c s op).created := by
  rw [stepC_log]
  exact fileStep_runB _ h (step_blocks c s op).2 (blocks_ordered s op)

theorem step_fileStep {c : Cfg} {s : State} (h : Inv c s) (op : AOp) :
    FileStep s (step c s op) (stepC c s op).moved (stepC c s op).created :=
  stepC_st c s op ▸ stepC_fileStep h op

theorem AOp.restart_or (op : AOp) :
    (∃ lazy ignore bad, op = .restart lazy ignore bad) ∨ ∀ lazy ignore bad, op ≠ .restart lazy ignore bad := by
  cases op with
  | restart lazy ignore bad => exact Or.inl ⟨lazy, ignore, bad, rfl⟩
  | _ => exact Or.inr fun _ _ _ e => nomatch e

/-- the blocks that create no index file and leave `ignored` and `corrupted` alone: all but the dump pass and the
    blocks of a restart -/
def Blk.quiet : Blk → Bool
  | .ensure | .replace | .l2 _ | .writeRec .. | .marks .. => true
  | _ => false

theorem Blk.same {c : Cfg} {s : State} : ∀ {b : Blk}, b.quiet = true →
    (b.run c s).dir.idx = s.dir.idx ∧ sameQ s (b.run c s)
  | .ensure, _ => ⟨ensureActive_idx s, sameQ_ensureActive s⟩
  | .replace, _ => ⟨rfl, rfl, rfl⟩
  | .l2 _, _ => ⟨rfl, rfl, rfl⟩
  | .marks .., _ => ⟨rfl, rfl, rfl⟩
  | .writeRec .., _ => by simp only [Blk.run]; cases s.store.active <;> exact ⟨rfl, rfl, rfl⟩

theorem runB_same {c : Cfg} : ∀ (bs : List Blk) (s : State), bs.all Blk.quiet = true →
    (runB c s bs).dir.idx = s.dir.idx ∧ sameQ s (runB c s bs)
  | [], s, _ => ⟨rfl, sameQ.refl s⟩
  | b :: bs, s, h => by
    rw [List.all_cons, Bool.and_eq_true] at h
    have h1 := Blk.same (c := c) (s := s) h.1
    have h2 := runB_same (c := c) bs (b.run c s) h.2
    exact ⟨h2.1.trans h1.1, h1.2.trans h2.2⟩

/-- an operation other than `restart`: quiet blocks, then at most the dump pass -/
theorem blocks_quiet (s : State) (op : AOp) (hr : ∀ lazy ignore bad, op ≠ .restart lazy ignore bad) :
    (blocks s op).all Blk.quiet = true ∨
      ((blocks s op).dropLast.all Blk.quiet = true ∧ (blocks s op).getLast? = some .dump) := by
  cases op with
  | write k ts m d rot dmp =>
    simp only [blocks]
    cases s.store.dedups k m <;> cases rot <;> cases dmp <;> first | exact Or.inl rfl | exact Or.inr ⟨rfl, rfl⟩
  | delete k ts m oip => cases oip <;> exact Or.inl rfl
  | force go => cases go <;> exact Or.inr ⟨rfl, rfl⟩
  | restart lazy ignore bad => exact absurd rfl (hr _ _ _)
  | closeActive | settle => exact Or.inr ⟨rfl, rfl⟩
  | createActive | restoreActive => exact Or.inl rfl

theorem OkAll.prefix {c : Cfg} : ∀ {as bs : List Blk} {s : State}, OkAll c s (as ++ bs) → OkAll c s as
  | [], _, _, _ => trivial
  | _ :: _, _, _, h => ⟨h.1, OkAll.prefix h.2⟩

/-- an operation other than `restart`: a state `pre` with the index files, `ignored` and `corrupted` of before, then at
    most the dump pass -/
theorem step_pre {c : Cfg} {s : State} (op : AOp) (hr : ∀ lazy ignore bad, op ≠ .restart lazy ignore bad) :
    ∃ pre, (Inv c s → Inv c pre) ∧ pre.dir.idx = s.dir.idx ∧ sameQ s pre ∧
      (step c s op = pre ∨ step c s op = dumpPass c pre) := by
  obtain ⟨heq, hok⟩ := step_blocks c s op
  rcases blocks_quiet s op hr with hq | ⟨hq, hl⟩
  · exact ⟨_, fun h => inv_runB _ h hok, (runB_same _ s hq).1, (runB_same _ s hq).2, Or.inl heq⟩
  · have hb : (blocks s op).dropLast ++ [.dump] = blocks s op := by
      have := dropLast_append_getLast?_toList (blocks s op)
      rwa [hl] at this
    rw [← hb] at heq hok
    refine ⟨runB c s (blocks s op).dropLast, fun h => inv_runB _ h hok.prefix, (runB_same _ s hq).1,
      (runB_same _ s hq).2, Or.inr ?_⟩
    rw [heq, runB, List.foldl_append]; rfl

theorem sameQ_step (c : Cfg) (s : State) (op : AOp) (hr : ∀ lazy ignore bad, op ≠ .restart lazy ignore bad) :
    sameQ s (step c s op) := by
  obtain ⟨pre, _, _, hq, e⟩ := step_pre (c := c) (s := s) op hr
  rcases e with e | e <;> rw [e]
  · exact hq
  · exact hq.trans (sameQ_dumpPass c pre)

end Acct
end Pearl
