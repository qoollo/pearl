import Pearl.Proofs.EndToEndLemmas
/-
End-to-end composition, `read_all_with_deletion_marker` / `read_all`: under the invariant the concrete path
(per blob `get_all_with_deletion_marker` through the vector or the index file, over the active blob and the
children `iter_possible_childs_rev` yields; cross-blob stable sort by timestamp; global cut after the first
marker) returns entries that are, one by one and in order, entries of the records `Store.readAllMarked` /
`Store.readAll` return (`readAllMarked_rr`, `readAll_rr`).

The concrete list and the L2 list are the two projections of one list of pairs `(record, entry)`; the merge
(`mergeBy`) is generic in the element type and commutes with maps that keep the timestamp and the marker flag.
-/
namespace Pearl.E2E
open Pearl Pearl.BPTree Pearl.Container

/-- `entries.last().map(|e| e.is_deleted()).unwrap_or(false)` -/
def lastDelBy {α : Type} (del : α → Bool) (l : List α) : Bool :=
  match l.getLast? with
  | some h => del h
  | none => false

/-- the tail of `read_all_with_deletion_marker` for any element type -/
def mergeBy {α : Type} (ts : α → Nat) (del : α → Bool) (per : List (List α)) : List α :=
  let affected := (per.filter (fun l => !l.isEmpty)).length
  let delPresent := per.any (lastDelBy del)
  let all := per.flatten
  if affected > 1 then
    let sorted := sortDescBy ts all
    if delPresent then cutBy del sorted else sorted
  else all

theorem insertEntryDesc_eq (x : CEntry) : ∀ (l : List CEntry),
    insertEntryDesc x l = insertDescBy (fun e : CEntry => e.hdr.timestamp) x l
  | [] => rfl
  | y :: ys => by simp only [insertEntryDesc, insertDescBy, insertEntryDesc_eq x ys]

theorem sortEntriesDesc_eq (l : List CEntry) :
    sortEntriesDesc l = sortDescBy (fun e : CEntry => e.hdr.timestamp) l := by
  unfold sortEntriesDesc sortDescBy
  induction l with
  | nil => rfl
  | cons x xs ih => rw [List.foldr_cons, List.foldr_cons, ih, insertEntryDesc_eq]

theorem mergeEntries_eq (per : List (List CEntry)) :
    mergeEntries per = mergeBy (fun e => e.hdr.timestamp) (fun e => e.hdr.isDeleted) per := by
  unfold mergeEntries mergeBy
  simp only [sortEntriesDesc_eq, cutEntries_eq]
  rw [List.any_congr rfl (q := lastDelBy fun e : CEntry => e.hdr.isDeleted)]
  intro l; unfold lastDelBy; cases l.getLast? <;> rfl

theorem readAllMarkedL_eq (per : List (List Rec)) : readAllMarkedL per = mergeBy Rec.ts Rec.del per := by
  unfold readAllMarkedL mergeBy
  simp only [sortDesc_eq, cutHdrs_eq]
  rw [List.any_congr rfl (q := lastDelBy Rec.del)]
  intro l; unfold lastDelBy; cases l.getLast? <;> rfl

theorem mergeBy_map {α β : Type} (g : α → β) (ts : β → Nat) (del : β → Bool) (per : List (List α)) :
    mergeBy ts del (per.map (List.map g)) = (mergeBy (fun a => ts (g a)) (fun a => del (g a)) per).map g := by
  have h1 : ((per.map (List.map g)).filter (fun l => !l.isEmpty)).length =
      (per.filter (fun l => !l.isEmpty)).length := by
    rw [List.filter_map, List.length_map]
    congr 1
    apply List.filter_congr
    intro l _
    simp
  have h2 : (per.map (List.map g)).any (lastDelBy del) = per.any (lastDelBy (fun a => del (g a))) := by
    rw [List.any_map]
    congr 1
    funext l
    simp only [Function.comp_apply, lastDelBy, List.getLast?_map]
    cases l.getLast? <;> rfl
  have h3 : (per.map (List.map g)).flatten = per.flatten.map g := by rw [List.map_flatten]
  unfold mergeBy
  simp only [h1, h2, h3]
  rw [← sortDescBy_map g ts, cutBy_map]
  split
  · split <;> rfl
  · rfl

theorem any_filter_nonempty {α : Type} (del : α → Bool) : ∀ (per : List (List α)),
    (per.filter (fun l => !l.isEmpty)).any (lastDelBy del) = per.any (lastDelBy del)
  | [] => rfl
  | [] :: ls => by simpa [lastDelBy] using any_filter_nonempty del ls
  | (a :: as) :: ls => by
    simp only [List.filter_cons, List.isEmpty_cons, Bool.not_false, if_true, List.any_cons,
      any_filter_nonempty del ls]

theorem mergeBy_subset {α : Type} (ts : α → Nat) (del : α → Bool) (per : List (List α)) :
    ∀ x ∈ mergeBy ts del per, x ∈ per.flatten := by
  intro x hx
  unfold mergeBy at hx
  simp only [] at hx
  split at hx
  · split at hx
    · exact (sortDescBy_perm ts _).mem_iff.mp (mem_of_mem_cutBy hx)
    · exact (sortDescBy_perm ts _).mem_iff.mp hx
  · exact hx

theorem mergeBy_filter_nonempty {α : Type} (ts : α → Nat) (del : α → Bool) (per : List (List α)) :
    mergeBy ts del (per.filter (fun l => !l.isEmpty)) = mergeBy ts del per := by
  have h1 : (per.filter (fun l => !l.isEmpty)).filter (fun l => !l.isEmpty) = per.filter (fun l => !l.isEmpty) := by
    rw [List.filter_filter]
    apply List.filter_congr
    intro l _
    simp
  have h2 := any_filter_nonempty del per
  have h3 := List.flatten_filter_not_isEmpty (L := per)
  unfold mergeBy
  simp only [h1, h2, h3]

theorem map_filter_nonempty {α β : Type} (g : α → List β) (p : α → Bool) : ∀ (l : List α),
    (∀ x ∈ l, p x = false → g x = []) →
    ((l.filter p).map g).filter (fun l => !l.isEmpty) = (l.map g).filter (fun l => !l.isEmpty)
  | [], _ => rfl
  | x :: xs, h => by
    have ih := map_filter_nonempty g p xs (fun y hy => h y (by simp [hy]))
    cases hp : p x with
    | true => simp only [List.filter_cons, hp, if_true, List.map_cons, ih]
    | false =>
      have := h x (by simp) hp
      simp only [List.filter_cons, hp, Bool.false_eq_true, if_false, List.map_cons, this, List.isEmpty_nil,
        Bool.not_true, ih]

/-- the cut list of key `k` in blob `b`: records with their offsets, and the blob file -/
def cutOf (klen : Nat) (b : CBlob) (k : Key) : List ((Rec × Nat) × List UInt8) :=
  (ocut klen b.ghost k).map (fun p => (p, b.file))

/-- the entry of a record at an offset of a file -/
def entryAt (klen : Nat) (t : (Rec × Nat) × List UInt8) : CEntry := ⟨hdrOf klen t.1.1 t.1.2, t.2⟩

/-- the entry is an entry of the record: key, timestamp, marker flag, and `Entry::load` returns the meta bytes and
    the data that were written.  This is the general relation (markers included); `Serves` of `EndToEndBlob.lean` is
    its part for a found record, without the key; `entryView` / `recView` below are its two sides as functions
    (`views_eq`) -/
def EntryOf (x : Rec × CEntry) : Prop :=
  hdrKey x.2.hdr = x.1.key ∧ x.2.hdr.timestamp = x.1.ts ∧ x.2.hdr.isDeleted = x.1.del ∧
    entryLoad x.2.file x.2.hdr = .ok (serMeta x.1.mt, if x.1.del then [] else dataOf x.1.data)

theorem BlobCore.cutOf_entryOf {cfg : Cfg} {b : CBlob} (hb : BlobCore cfg b) (hsz : b.file.length < 2 ^ 64) (k : Key) :
    ∀ t ∈ cutOf cfg.klen b k, EntryOf (t.1.1, entryAt cfg.klen t) := by
  intro t ht
  obtain ⟨p, hp, rfl⟩ := List.mem_map.mp ht
  have hmem := (mem_ocut hp).1
  refine ⟨hdrOf_key_of_lt _ _ _ (hb.key _ (mem_withOff_fst hmem)), hdrOf_timestamp _ _ _, hdrOf_isDeleted _ _ _, ?_⟩
  have := load_of_mem cfg.klen b.ghost (by rw [← hb.file]; exact hsz) p hmem
  rw [← hb.file] at this
  exact this

theorem BlobCore.readAllEntriesMarked_eq {cfg : Cfg} {b : CBlob} (hcfg : cfg.OK) (hb : BlobCore cfg b) (k : Key) :
    b.readAllEntriesMarked k = .ok ((cutOf cfg.klen b k).map (entryAt cfg.klen)) := by
  unfold CBlob.readAllEntriesMarked CBlob.toEntries cutOf
  rw [hb.getAllMarked_ocut hcfg k]
  simp only [List.map_map]
  rfl

theorem getAllCut_cutOf (klen : Nat) (b : CBlob) (k : Key) :
    b.abs.getAllCut k = (cutOf klen b k).map (·.1.1) := by
  rw [getAllCut_ocut klen]
  unfold cutOf
  rw [List.map_map]
  rfl

theorem collectEntries_ok (f : CBlob → Except CErr (List CEntry)) (g : CBlob → List CEntry) :
    ∀ (l : List CBlob), (∀ b ∈ l, f b = .ok (g b)) → collectEntries f l = .ok (l.map g)
  | [], _ => rfl
  | b :: l, h => by
    simp only [collectEntries, h b (by simp), collectEntries_ok f g l (fun x hx => h x (by simp [hx])), List.map_cons]

theorem getAllCut_nil_of_no_key {b : Blob} {k : Key} (h : ∀ r ∈ b.recs, r.key ≠ k) : b.getAllCut k = [] := by
  unfold Blob.getAllCut allCutOfVec Blob.vec
  rw [vecOf_eq_nil_iff.mpr h]
  rfl

/-- the L2 `read_all_with_deletion_marker` computed over the consulted blobs only (C10: a blob that is not
    yielded by `iter_possible_childs_rev` does not hold the key) -/
theorem readAllMarked_consulted {I : CBlob → Prop} {cfg : Cfg} {c : CState} (hinv : CInvG I cfg c) (k : Key) :
    (c.abs cfg).readAllMarked k =
      mergeBy Rec.ts Rec.del ((c.consulted cfg k).map (fun b => b.abs.getAllCut k)) := by
  let L := (c.consulted cfg k).map CBlob.abs
  have hLeq : L = _ := sublist_eq_filter (consulted_abs_sublist hinv k) (visit_nodup hinv.wf)
  rw [Store.readAllMarked_def, readAllMarkedL_eq]
  have hcm : (c.consulted cfg k).map (fun b => b.abs.getAllCut k) = L.map (fun ab => ab.getAllCut k) := by
    simp only [L, List.map_map]; rfl
  rw [hcm, ← mergeBy_filter_nonempty, ← mergeBy_filter_nonempty (per := L.map _)]
  congr 1
  conv => rhs; rw [hLeq]
  symm
  apply map_filter_nonempty
  intro ab hab hnot
  apply getAllCut_nil_of_no_key
  intro r hr hk
  obtain ⟨b, hbc, rfl⟩ := mem_consulted_of_key hinv hab hr hk
  rw [List.contains_iff_mem.mpr (List.mem_map.mpr ⟨b, hbc, rfl⟩)] at hnot
  cases hnot

/-- **`read_all_with_deletion_marker`, composed**: the concrete answer and the L2 answer are the two projections of
    one list of (record, entry) pairs, each entry being an entry of its record -/
theorem BlobIOLaws.readAllMarked_rr {I0 I : CBlob → Prop} {cfg : Cfg} {c : CState} (L : BlobIOLaws cfg I0 I)
    (hinv : CInvG I cfg c) (k : Key) :
    ∃ Z : List (Rec × CEntry), c.readAllMarked cfg k = .ok (Z.map (·.2)) ∧
      (c.abs cfg).readAllMarked k = Z.map (·.1) ∧ ∀ x ∈ Z, EntryOf x := by
  have hcons : ∀ b ∈ c.consulted cfg k, I b := fun b hb => hinv.blobInv (mem_consulted_blobs hb)
  let QQ := (c.consulted cfg k).map (fun b => cutOf cfg.klen b k)
  have hgood : ∀ t ∈ QQ.flatten, EntryOf (t.1.1, entryAt cfg.klen t) := by
    intro t ht
    obtain ⟨l, hl, htl⟩ := List.mem_flatten.mp ht
    obtain ⟨b, hb, rfl⟩ := List.mem_map.mp hl
    exact (L.core (hcons b hb)).cutOf_entryOf (L.size (hcons b hb)) k t htl
  -- the merge is done once, on the records; timestamp and marker flag of an entry are those of its record
  have hts : (fun t => (entryAt cfg.klen t).hdr.timestamp) = fun t => t.1.1.ts :=
    funext fun t => hdrOf_timestamp _ _ _
  have hdel : (fun t => (entryAt cfg.klen t).hdr.isDeleted) = fun t => t.1.1.del :=
    funext fun t => hdrOf_isDeleted _ _ _
  refine ⟨(mergeBy (fun t => t.1.1.ts) (fun t => t.1.1.del) QQ).map (fun t => (t.1.1, entryAt cfg.klen t)), ?_, ?_, ?_⟩
  · unfold CState.readAllMarked
    rw [collectEntries_ok _ (fun b => (cutOf cfg.klen b k).map (entryAt cfg.klen)) _
      (fun b hb => (L.core (hcons b hb)).readAllEntriesMarked_eq L.ok k)]
    have : (c.consulted cfg k).map (fun b => (cutOf cfg.klen b k).map (entryAt cfg.klen))
        = QQ.map (List.map (entryAt cfg.klen)) := by
      simp only [QQ, List.map_map]; rfl
    simp only [mergeEntries_eq, this, mergeBy_map, hts, hdel, List.map_map]
    rfl
  · rw [readAllMarked_consulted hinv k]
    have : (c.consulted cfg k).map (fun b => b.abs.getAllCut k) = QQ.map (List.map (·.1.1)) := by
      simp only [QQ, List.map_map]
      exact List.map_congr_left fun b _ => getAllCut_cutOf cfg.klen b k
    rw [this, mergeBy_map, List.map_map]
    rfl
  · intro x hx
    obtain ⟨t, ht, rfl⟩ := List.mem_map.mp hx
    exact hgood t (mergeBy_subset _ _ QQ t ht)

theorem BlobIOLaws.readAll_rr {I0 I : CBlob → Prop} {cfg : Cfg} {c : CState} (L : BlobIOLaws cfg I0 I)
    (hinv : CInvG I cfg c) (k : Key) :
    ∃ Z : List (Rec × CEntry), c.readAll cfg k = .ok (Z.map (·.2)) ∧
      (c.abs cfg).readAll k = Z.map (·.1) ∧ ∀ x ∈ Z, EntryOf x := by
  obtain ⟨Z, hc, ha, hgood⟩ := L.readAllMarked_rr hinv k
  unfold CState.readAll
  rw [Store.readAll_def, hc, ha]
  unfold stripLastR
  simp only [List.getLast?_map]
  cases hl : Z.getLast? with
  | none => exact ⟨Z, rfl, rfl, hgood⟩
  | some z =>
    have hz : z.2.hdr.isDeleted = z.1.del := (hgood z (List.mem_of_getLast? hl)).2.2.1
    simp only [Option.map_some, hz]
    cases z.1.del with
    | false => exact ⟨Z, rfl, rfl, hgood⟩
    | true =>
      refine ⟨Z.dropLast, ?_, ?_, fun x hx => hgood x (List.dropLast_subset _ hx)⟩
      · simp only [if_true, List.length_map]
        rw [← List.map_take, ← List.dropLast_eq_take]
      · simp only [if_true, List.map_dropLast]

theorem readAllMarked_rr {cfg : Cfg} {c : CState} (hcfg : cfg.OK) (hinv : CInv cfg c) (k : Key) :
    ∃ Z : List (Rec × CEntry), c.readAllMarked cfg k = .ok (Z.map (·.2)) ∧
      (c.abs cfg).readAllMarked k = Z.map (·.1) ∧ ∀ x ∈ Z, EntryOf x :=
  (blobIOLaws hcfg).readAllMarked_rr hinv k

theorem readAll_rr {cfg : Cfg} {c : CState} (hcfg : cfg.OK) (hinv : CInv cfg c) (k : Key) :
    ∃ Z : List (Rec × CEntry), c.readAll cfg k = .ok (Z.map (·.2)) ∧
      (c.abs cfg).readAll k = Z.map (·.1) ∧ ∀ x ∈ Z, EntryOf x :=
  (blobIOLaws hcfg).readAll_rr hinv k

/-- what the caller gets from an entry: key, timestamp, marker flag, and the result of `Entry::load` -/
def entryView (e : CEntry) : Nat × Nat × Bool × Except LoadErr (List UInt8 × List UInt8) :=
  (hdrKey e.hdr, e.hdr.timestamp, e.hdr.isDeleted, entryLoad e.file e.hdr)

/-- the same of a record of the history: `Entry::load` returns the serialized meta and the bytes of the value (a
    marker has no data) -/
def recView (r : Rec) : Nat × Nat × Bool × Except LoadErr (List UInt8 × List UInt8) :=
  (r.key, r.ts, r.del, .ok (serMeta r.mt, if r.del then [] else dataOf r.data))

theorem views_eq : ∀ (Z : List (Rec × CEntry)), (∀ x ∈ Z, EntryOf x) →
    (Z.map (·.2)).map entryView = (Z.map (·.1)).map recView
  | [], _ => rfl
  | x :: Z, h => by
    obtain ⟨h1, h2, h3, h4⟩ := h x (by simp)
    simp only [List.map_cons, views_eq Z (fun y hy => h y (by simp [hy]))]
    congr 1
    simp only [entryView, recView, h1, h2, h3, h4]

end Pearl.E2E
