import Pearl.Model.Fs
import Pearl.Proofs.MaintLemmas
/-
`Fs.contentLen` (the length of a blob file holding the given records) on the empty list and on an appended record:
what the file-level proofs (`FsLemmas`, `AcctLemmas`, `AcctMoves`, `AcctRuns`, `ConcRW2`,
`EndToEndCrash`) share about it; and an accepted `write` in terms of
`Fs.writeRec`.
-/
namespace Pearl.Fs

theorem contentLen_nil (klen : Nat) : contentLen klen [] = blobHeaderSize := by simp [contentLen]

theorem contentLen_append (klen : Nat) (recs : List Rec) (r : Rec) :
    contentLen klen (recs ++ [r]) = contentLen klen recs + recLen klen r := by
  simp [contentLen, Nat.add_assoc]

end Pearl.Fs

namespace Pearl.Store

theorem write_of_active {s : Store} {a : Blob} (ha : s.active = some a) (k : Key) (ts : Nat)
    (m : Option Meta) (d : Data) (hd : (!s.allowDup && (s.getLatestEntry k m).isFound) = false) :
    s.write k ts m d = { s with active := some (a.append (Fs.writeRec k ts m d)) } := by
  simp only [Store.write, ensureActive_of_some ha, hd, ha]
  rfl

end Pearl.Store
