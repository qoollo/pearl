import Pearl.Proofs.EndToEndStartOffloadBytes
import Pearl.Proofs.AcctHarm
/-
End-to-end composition: the storage WITH its directory of index files (`stepD`, `runD` of
`Pearl/Model/EndToEndStart.lean`).  The index files a history leaves behind are always absent, current or stale
(`DirInv`), so the real start-up — which reads them — is the start-up of the model that regenerates every index:
`runD` and `runBO` reach the same storage.
-/
namespace Pearl.E2E
open Pearl Pearl.BPTree Pearl.Container

section
variable {cfg : Cfg} {sha : List Nat → List Nat}

/-! ### what lies next to a blob -/

/-- the index file of an L2 blob: for an on-disk index the image dumped for its records; else none, or the image dumped
    for a prefix of its records (strict: stale; all of them: the index was loaded again and nothing appended yet) -/
def DirOK (cfg : Cfg) (sha : List Nat → List Nat) (x : Blob) (o : Option (List Nat)) : Prop :=
  (x.onDisk = true → o.isSome = true ∧ o = dumpedImage cfg sha x.recs) ∧
  (x.onDisk = false → o = none ∨
    ∃ n, n ≤ x.recs.length ∧ o.isSome = true ∧ o = dumpedImage cfg sha (x.recs.take n))

/-- the invariant of the directory: every blob has such a file, and there are no index files without a blob -/
structure DirInv (cfg : Cfg) (sha : List Nat → List Nat) (s : Store) (dir : Nat → Option (List Nat)) : Prop where
  blob : ∀ x ∈ s.blobs, DirOK cfg sha x (dir x.id)
  free : ∀ id, (∀ x ∈ s.blobs, x.id ≠ id) → dir id = none

theorem DirOK.choice {x : Blob} {o : Option (List Nat)} (h : DirOK cfg sha x o) : IdxChoice cfg sha x.recs o := by
  cases hd : x.onDisk with
  | true =>
    obtain ⟨hs, he⟩ := h.1 hd
    obtain ⟨img, rfl⟩ := Option.isSome_iff_exists.1 hs
    exact .current img he.symm
  | false =>
    rcases h.2 hd with rfl | ⟨n, hn, hs, he⟩
    · exact .absent
    · obtain ⟨img, rfl⟩ := Option.isSome_iff_exists.1 hs
      by_cases hlt : n < x.recs.length
      · exact .stale n img hlt he.symm
      · have : x.recs.take n = x.recs := List.take_of_length_le (by omega)
        rw [this] at he
        exact .current img he.symm

theorem dumpedImage_nil (cfg : Cfg) (sha : List Nat → List Nat) : dumpedImage cfg sha [] = none := rfl

theorem DirOK.empty {x : Blob} {o : Option (List Nat)} (h : DirOK cfg sha x o) (he : x.recs = []) : o = none := by
  cases hd : x.onDisk with
  | true =>
    obtain ⟨hs, h2⟩ := h.1 hd
    rw [he, dumpedImage_nil] at h2
    exact h2
  | false =>
    rcases h.2 hd with h0 | ⟨n, _, _, h2⟩
    · exact h0
    · rw [he, List.take_nil, dumpedImage_nil] at h2
      exact h2

/-! ### the index file a blob of the byte-level storage holds -/

theorem image_of_disk {c : CState} (h : CInvO cfg c) {y : CBlob} (hy : y ∈ c.blobs) (hd : y.index.onDisk = true) :
    ∃ img off, (y.toB sha).index = .disk img off ∧ dumpedImage cfg sha y.ghost = some img := by
  have hR := h.blobInv hy
  have hri : (y.reload cfg).index = y.index := rfl
  cases hi : y.index with
  | mem m => rw [hi] at hd; cases hd
  | disk f mb off =>
    obtain ⟨hne, hs, hf, _⟩ := hR.disk_file (hri.trans hi)
    have hok : RecsOK cfg y.ghost := hR.recsOK
    have hne' : y.ghost ≠ [] := hne
    have hs' : serializeFilters cfg.klen (filterOf cfg y.ghost) = some (mb, off) := hs
    refine ⟨imageOf sha f mb y.file.length, off, by simp only [CBlob.toB, hi, CIndex.toB], ?_⟩
    rw [dumpedImage_eq sha hok, if_neg hne', hs', hf, show y.file = _ from hR.file]
    rfl

theorem index_of_mem (sha : List Nat → List Nat) {y : CBlob} (hd : y.index.onDisk = false) :
    ∃ m, (y.toB sha).index = .mem m := by
  cases hi : y.index with
  | mem m => exact ⟨m, by simp only [CBlob.toB, hi, CIndex.toB]⟩
  | disk f mb off => rw [hi] at hd; cases hd

theorem dirAfter_blob {c : CState} (h : CInvO cfg c) (dir : Nat → Option (List Nat)) {y : CBlob} (hy : y ∈ c.blobs) :
    (y.index.onDisk = true →
      (dirAfter dir (c.toB sha) y.id).isSome = true ∧ dirAfter dir (c.toB sha) y.id = dumpedImage cfg sha y.ghost) ∧
    (y.index.onDisk = false → dirAfter dir (c.toB sha) y.id = dir y.id) := by
  have hwf : (c.abs cfg).WF := (cinvO_iff.mp h).wf
  have hfind : (c.toB sha).blobs.find? (fun x => x.id == y.id) = some (y.toB sha) := by
    rw [blobs_toB]
    have hp : ((c.blobs.map (CBlob.toB sha)).map (·.id)).Pairwise (· < ·) := by
      rw [List.map_map]; exact ids_pairwise hwf
    exact find?_key_of_mem (fun x : BBlob => x.id) (hp.imp Nat.ne_of_lt) (List.mem_map.mpr ⟨y, hy, rfl⟩)
  unfold dirAfter
  rw [hfind]
  constructor
  · intro hd
    obtain ⟨img, off, hi, himg⟩ := image_of_disk (sha := sha) h hy hd
    simp only [hi, himg]
    exact ⟨rfl, trivial⟩
  · intro hd
    obtain ⟨m, hi⟩ := index_of_mem sha hd
    simp only [hi]

theorem dirAfter_free (sha : List Nat → List Nat) (c : CState) (dir : Nat → Option (List Nat)) (id : Nat)
    (hid : ∀ y ∈ c.blobs, y.id ≠ id) : dirAfter dir (c.toB sha) id = dir id := by
  unfold dirAfter
  rw [blobs_toB, find?_key_none (fun x : BBlob => x.id)]
  intro x hx
  obtain ⟨y, hy, rfl⟩ := List.mem_map.mp hx
  exact hid y hy

/-! ### where the blobs of the next L2 state come from -/

theorem applyAbs_bwd {s : Store} (hwf : s.WF) (hne : s.blobs ≠ []) (op : OOp) :
    ∀ b' ∈ (op.applyAbs s).blobs,
      (∃ b ∈ s.blobs, b'.id = b.id ∧ b.recs <+: b'.recs) ∨ (∀ b ∈ s.blobs, b.id ≠ b'.id) := by
  intro b' hb'
  have hself : ∀ b' ∈ s.blobs, (∃ b ∈ s.blobs, b'.id = b.id ∧ b.recs <+: b'.recs) :=
    fun b' hb' => ⟨b', hb', rfl, List.prefix_refl _⟩
  cases op with
  | offloadBlob j => exact Or.inl (hself b' hb')
  | offloadBuffer n l => exact Or.inl (hself b' hb')
  | op o =>
    have hnr : ∀ (o' : Op), (∀ lazy, o' ≠ .restart lazy) → ∀ b' ∈ (s.apply o').blobs,
        (∃ b ∈ s.blobs, b'.id = b.id ∧ b.recs <+: b'.recs) ∨ (∀ b ∈ s.blobs, b.id ≠ b'.id) := by
      intro o' ho' b' hb'
      rcases (Acct.store_apply_ext hwf o' ho').2 b' hb' with h | h
      · exact Or.inl h
      · right
        intro b hb e
        have := hwf.2 b hb
        omega
    cases o with
    | restart lazy =>
      have hh := (Store.restart_of_ne_nil hwf lazy hne).1
      have : (b'.id, b'.recs) ∈ (s.restart lazy).history := List.mem_map.mpr ⟨b', hb', rfl⟩
      rw [hh] at this
      obtain ⟨b, hb, he⟩ := List.mem_map.mp this
      simp only [Prod.mk.injEq] at he
      exact Or.inl ⟨b, hb, he.1.symm, by rw [he.2]; exact List.prefix_refl _⟩
    | _ => exact hnr _ (by intro l; simp [MOp.abs]) b' hb'

theorem applyAbs_fwd {s : Store} (hwf : s.WF) (op : OOp) :
    ∀ b ∈ s.blobs, ∃ b' ∈ (op.applyAbs s).blobs, b'.id = b.id := by
  intro b hb
  cases op with
  | offloadBlob j => exact ⟨b, hb, rfl⟩
  | offloadBuffer n l => exact ⟨b, hb, rfl⟩
  | op o =>
    obtain ⟨b', hb', hid, _⟩ := Store.apply_log' hwf o.abs b hb
    exact ⟨b', hb', hid⟩

theorem take_of_prefix {α : Type} {l₁ l₂ : List α} (h : l₁ <+: l₂) {n : Nat} (hn : n ≤ l₁.length) :
    l₂.take n = l₁.take n := by
  obtain ⟨t, rfl⟩ := h
  exact List.take_append_of_le_length hn

/-- **the directory invariant is kept by every operation** -/
theorem dirInv_step {c c' : CState} (h : CInvO cfg c) (h' : CInvO cfg c') (hne : (c.abs cfg).blobs ≠ [])
    (op : OOp) (habs' : c'.abs cfg = op.applyAbs (c.abs cfg)) {dir : Nat → Option (List Nat)}
    (hd : DirInv cfg sha (c.abs cfg) dir) : DirInv cfg sha (c'.abs cfg) (dirAfter dir (c'.toB sha)) := by
  have hwf : (c.abs cfg).WF := (cinvO_iff.mp h).wf
  constructor
  · intro x' hx'
    have hx'' := hx'
    rw [abs_blobs] at hx'
    obtain ⟨y', hy', rfl⟩ := List.mem_map.mp hx'
    obtain ⟨hon, hoff⟩ := dirAfter_blob (sha := sha) h' dir hy'
    refine ⟨fun hdisk => hon hdisk, fun hmem => ?_⟩
    have hdir : dirAfter dir (c'.toB sha) y'.abs.id = dir y'.id := hoff hmem
    rw [hdir]
    rw [habs'] at hx''
    rcases applyAbs_bwd hwf hne op y'.abs hx'' with ⟨x, hx, hid, hpre⟩ | hfresh
    · have hid' : y'.id = x.id := hid
      have hk := hd.blob x hx
      rw [hid']
      cases hxd : x.onDisk with
      | true =>
        obtain ⟨hs, he⟩ := hk.1 hxd
        right
        refine ⟨x.recs.length, hpre.length_le, hs, ?_⟩
        rw [he, take_of_prefix hpre (Nat.le_refl _), List.take_length]
      | false =>
        rcases hk.2 hxd with h0 | ⟨n, hn, hs, he⟩
        · exact Or.inl h0
        · right
          refine ⟨n, Nat.le_trans hn hpre.length_le, hs, ?_⟩
          rw [he, take_of_prefix hpre hn]
    · left
      exact hd.free y'.id (fun x hx => hfresh x hx)
  · intro id hid
    rw [dirAfter_free sha c' dir id (fun y hy => hid y.abs (mem_abs_blobs cfg hy))]
    apply hd.free
    intro x hx e
    obtain ⟨x', hx', hid'⟩ := applyAbs_fwd hwf op x hx
    rw [← habs'] at hx'
    exact hid x' hx' (by rw [hid', e])

/-! ### the storage with its directory is the storage of the model -/

theorem DirInv.dirChoice {c : CState} {dir : Nat → Option (List Nat)} (hd : DirInv cfg sha (c.abs cfg) dir) :
    DirChoice cfg sha c dir :=
  dirChoice_of_abs (fun x hx => (hd.blob x hx).choice)

theorem DirInv.not_besideEmpty {c : CState} {dir : Nat → Option (List Nat)} (hd : DirInv cfg sha (c.abs cfg) dir) :
    ¬ IndexBesideEmpty c dir := by
  rw [indexBesideEmpty_iff cfg]
  rintro ⟨x, hx, he, hs⟩
  rw [(hd.blob x hx).empty he] at hs
  cases hs

/-- one operation on the storage with its directory: the storage moves as in the model, whatever the directory
    (satisfying the invariant) holds; in particular the REAL start-up, which reads the index files, is the start-up of
    the model, which regenerates every index -/
theorem stepD_eq (hB : BytesOK cfg sha) {c : CState} (h : CInvO cfg c) (hmeta : StoreMetaOK (c.abs cfg))
    (hne : (c.abs cfg).blobs ≠ []) (h3 : StoreIdxSized cfg (c.abs cfg)) {dir : Nat → Option (List Nat)}
    (hd : DirInv cfg sha (c.abs cfg) dir) (op : OOp) :
    stepD cfg sha (c.toB sha, dir) op = ((c.stepO cfg op).toB sha, dirAfter dir ((c.stepO cfg op).toB sha)) := by
  have hg := goodB_of_store hB h h3
  have hgen : ∀ op' : OOp, (c.toB sha).stepBO cfg sha op' = (c.stepO cfg op').toB sha :=
    fun op' => (stepO_toB hB hg op').symm
  cases op with
  | offloadBlob j => simp only [stepD, hgen]
  | offloadBuffer n l => simp only [stepD, hgen]
  | op o =>
    cases o with
    | restart lazy =>
      obtain ⟨h1, h2⟩ := restartWithIndexes_of_invO hB h hmeta hne h3 dir hd.dirChoice lazy
      cases hr : (c.toB sha).restartWithIndexes cfg sha dir lazy with
      | none => exact absurd (h1.mp hr) hd.not_besideEmpty
      | some b' =>
        obtain ⟨_, e3, _, _⟩ := h2 b' hr
        simp only [stepD, hr]
        rw [e3]
        rfl
    | _ => simp only [stepD, hgen]

theorem applyAbs_blobs_ne_nil {s : Store} (hwf : s.WF) (hne : s.blobs ≠ []) (op : OOp) :
    (op.applyAbs s).blobs ≠ [] := by
  obtain ⟨b, hb⟩ := List.exists_mem_of_ne_nil _ hne
  obtain ⟨b', hb', _⟩ := applyAbs_fwd hwf op b hb
  exact List.ne_nil_of_mem hb'

theorem dirInv_init (cfg : Cfg) (sha : List Nat → List Nat) :
    DirInv cfg sha ((CState.init cfg).abs cfg) (fun _ => none) := by
  refine ⟨fun x hx => ⟨fun hd => ?_, fun _ => Or.inl rfl⟩, fun _ _ => rfl⟩
  rw [init_abs] at hx
  simp [Store.init, Store.createActive, Store.blobs, Store.closed] at hx
  subst hx
  cases hd

/-- **the storage with its directory, from the empty directory**: for every history with off-loading calls and
    restarts anywhere, the storage `runD` reaches — every restart reading the index files the history left — is the
    storage `runBO` reaches, whose restarts ignore them -/
theorem runD_eq (hB : BytesOK cfg sha) (ops : List OOp) (hops : ∀ op ∈ ops, op.OK cfg)
    (hsz : StoreIdxSized cfg ((Store.init cfg.allowDup).run ((OOp.erase ops).map MOp.abs))) :
    ∃ dir', runD cfg sha (BState.init cfg, fun _ => none) ops = ((BState.init cfg).runBO cfg sha ops, dir') ∧
      DirInv cfg sha ((Store.init cfg.allowDup).run ((OOp.erase ops).map MOp.abs)) dir' := by
  obtain ⟨habs, _, _, h1, h2, _⟩ := runO_rel (bstep := stepD cfg sha) (Sz := StoreIdxSized cfg)
    (Q := fun c st => st.1 = c.toB sha ∧ DirInv cfg sha (c.abs cfg) st.2 ∧ (c.abs cfg).blobs ≠ []) hB.ok
    (fun _ h => h.toStoreSized) (fun hwf l n h => storeIdxSized_prefix cfg hwf l h n)
    (fun c st op hi hm h3 hi' ha hq => by
      obtain ⟨b, dir⟩ := st
      obtain ⟨rfl, hd, hne⟩ := hq
      rw [stepD_eq hB hi hm hne h3 hd op]
      exact ⟨rfl, dirInv_step hi hi' hne op ha hd, ha ▸ applyAbs_blobs_ne_nil (cinvO_iff.mp hi).wf hne op⟩)
    ops (CState.init cfg) (BState.init cfg, fun _ => none) (init_inv hB.ok).toCInvO
    (by rw [init_abs]; exact init_metaOK _)
    ⟨rfl, dirInv_init cfg sha, by rw [init_abs]; exact Store.init_blobs_ne_nil _⟩ hops
    (by rw [init_abs]; exact hsz)
  refine ⟨_, Prod.ext ?_ rfl, ?_⟩
  · rw [runBO_eq hB ops hops hsz]
    exact h1
  · rw [← init_abs cfg, ← habs]
    exact h2

end
end Pearl.E2E
