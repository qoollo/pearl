import Pearl.Model.Cancel
import Pearl.Proofs.FaultLemmas
import Pearl.Proofs.StoreLemmas
/-
Lemmas for C14 (cancellation safety): how cancellation points compose, the states a cancelled creation, write or
`Blob::delete` can leave (the latter exactly, for every await: `cancel_blobDelete`), their L2 views and when two L2 stores
answer alike (`QEq`), the invariant that ties the file of a blob to its record list (`BlobInv`, `StoreInv`), what the proofs
need of a blob selector (`BlobSel`), and the part of `Storage::delete` before `delete_in_closed` (`DelHead`).
-/
namespace Pearl.Cancel
open Pearl

/-! ### items: running, cancelling, counting awaits; `CancelStates`; awaits that leave the state alone (`Plain`) -/

theorem runItems_cons {σ : Type} (i : Item σ) (rest : List (Item σ)) (s : σ) :
    runItems (i :: rest) s = runItems rest (i.run s) := rfl

theorem runItems_append {σ : Type} (a b : List (Item σ)) (s : σ) :
    runItems (a ++ b) s = runItems b (runItems a s) :=
  List.foldl_append ..

theorem runItems_flatten_map {σ α : Type} (f : α → List (Item σ)) (L : List α) (s : σ) :
    runItems (L.map f).flatten s = L.foldl (fun s p => runItems (f p) s) s := by
  induction L generalizing s with
  | nil => rfl
  | cons p L ih => rw [List.map_cons, List.flatten_cons, runItems_append, ih, List.foldl_cons]

theorem awaits_append {σ : Type} (a b : List (Item σ)) : awaits (a ++ b) = awaits a + awaits b := by
  induction a with
  | nil => exact (Nat.zero_add _).symm
  | cons i a ih => cases i <;> simp only [List.cons_append, awaits, ih, Nat.add_right_comm]

theorem cancelAfter_nil {σ : Type} (k : Nat) (s : σ) : cancelAfter k ([] : List (Item σ)) s = s := by
  cases k <;> rfl

theorem cancelAfter_sync {σ : Type} (k : Nat) (f : σ → σ) (rest : List (Item σ)) (s : σ) :
    cancelAfter k (.sync f :: rest) s = cancelAfter k rest (f s) := by
  cases k <;> rfl

theorem cancelAfter_ge {σ : Type} (items : List (Item σ)) (k : Nat) (s : σ) (h : awaits items ≤ k) :
    cancelAfter k items s = runItems items s := by
  induction items generalizing k s with
  | nil => exact cancelAfter_nil k s
  | cons i rest ih =>
    cases i with
    | sync f => rw [cancelAfter_sync]; exact ih k (f s) h
    | await c =>
      cases k with
      | zero => exact absurd h (Nat.not_succ_le_zero _)
      | succ k => exact ih k _ (Nat.le_of_succ_le_succ h)

theorem forall_cancelAfter {σ : Type} {P : σ → Prop} (items : List (Item σ)) (s : σ)
    (h : ∀ k ≤ awaits items, P (cancelAfter k items s)) (k : Nat) : P (cancelAfter k items s) := by
  rcases Nat.le_total k (awaits items) with hk | hk
  · exact h k hk
  · rw [cancelAfter_ge items k s hk, ← cancelAfter_ge items _ s (Nat.le_refl _)]
    exact h _ (Nat.le_refl _)

theorem cancelAfter_append {σ : Type} (a b : List (Item σ)) (k : Nat) (s : σ) :
    cancelAfter k (a ++ b) s =
      if k < awaits a then cancelAfter k a s else cancelAfter (k - awaits a) b (runItems a s) := by
  induction a generalizing k s with
  | nil => rfl
  | cons i rest ih =>
    cases i with
    | sync f => simp only [List.cons_append, cancelAfter_sync, ih]; rfl
    | await c =>
      cases k with
      | zero => simp [awaits, cancelAfter]
      | succ k =>
        show cancelAfter k (rest ++ b) ((c.getD id) s) = _
        rw [ih, runItems_cons]
        simp only [awaits, Nat.add_lt_add_iff_right, Nat.add_sub_add_right]
        rfl

/-- the states a cancellation can leave -/
def CancelStates {σ : Type} (items : List (Item σ)) (s t : σ) : Prop := ∃ k, cancelAfter k items s = t

theorem cancelStates_run {σ : Type} (items : List (Item σ)) (s : σ) : CancelStates items s (runItems items s) :=
  ⟨awaits items, cancelAfter_ge _ _ _ (Nat.le_refl _)⟩

theorem cancelStates_nil {σ : Type} {s t : σ} (h : CancelStates ([] : List (Item σ)) s t) : t = s := by
  obtain ⟨k, rfl⟩ := h
  exact cancelAfter_nil k s

theorem cancelStates_append {σ : Type} {a b : List (Item σ)} {s t : σ}
    (h : CancelStates (a ++ b) s t) : CancelStates a s t ∨ CancelStates b (runItems a s) t := by
  obtain ⟨k, hk⟩ := h
  rw [cancelAfter_append] at hk
  split at hk
  · exact Or.inl ⟨k, hk⟩
  · exact Or.inr ⟨_, hk⟩

theorem cancelStates_flatten {σ : Type} (Ls : List (List (Item σ))) (s t : σ)
    (h : CancelStates Ls.flatten s t) :
    t = s ∨ ∃ j, ∃ hj : j < Ls.length, CancelStates Ls[j] (runItems (Ls.take j).flatten s) t := by
  induction Ls generalizing s with
  | nil => exact Or.inl (cancelStates_nil h)
  | cons L Ls ih =>
    rcases cancelStates_append (List.flatten_cons ▸ h) with h1 | h2
    · exact Or.inr ⟨0, Nat.zero_lt_succ _, h1⟩
    · rcases ih _ h2 with h3 | ⟨j, hj, h3⟩
      · exact Or.inr ⟨0, Nat.zero_lt_succ _, h3 ▸ cancelStates_run L s⟩
      · refine Or.inr ⟨j + 1, Nat.succ_lt_succ hj, ?_⟩
        simp only [List.getElem_cons_succ, List.take_succ_cons, List.flatten_cons]
        rw [runItems_append]
        exact h3

/-- awaits without a closure and without code in between leave the state alone -/
def Plain {σ : Type} (items : List (Item σ)) : Prop := ∀ i ∈ items, i = Item.await none

theorem Plain.nil {σ : Type} : Plain ([] : List (Item σ)) := fun _ h => nomatch h

theorem plain_replicate {σ : Type} (n : Nat) : Plain (List.replicate n (Item.await none : Item σ)) :=
  fun _ hi => (List.mem_replicate.mp hi).2

theorem Plain.ite {σ : Type} (b : Bool) {l1 l2 : List (Item σ)} (h1 : Plain l1) (h2 : Plain l2) :
    Plain (if b then l1 else l2) := by
  cases b
  · exact h2
  · exact h1

theorem plain1 {σ : Type} : Plain ([.await none] : List (Item σ)) := plain_replicate 1
theorem plain2 {σ : Type} : Plain ([.await none, .await none] : List (Item σ)) := plain_replicate 2

theorem plain_cancel {σ : Type} (items : List (Item σ)) (hp : Plain items) (k : Nat) (s : σ) :
    cancelAfter k items s = s := by
  induction items generalizing k with
  | nil => exact cancelAfter_nil k s
  | cons i rest ih =>
    rw [hp i (List.mem_cons_self ..)]
    cases k with
    | zero => rfl
    | succ k => exact ih (fun j hj => hp j (List.mem_cons_of_mem _ hj)) k

theorem plain_run {σ : Type} (items : List (Item σ)) (hp : Plain items) (s : σ) : runItems items s = s :=
  (cancelAfter_ge items _ s (Nat.le_refl _)).symm.trans (plain_cancel items hp _ s)

theorem Plain.cancelStates_append {σ : Type} {a b : List (Item σ)} {s t : σ} (hp : Plain a)
    (h : CancelStates (a ++ b) s t) : t = s ∨ CancelStates b s t := by
  rcases Cancel.cancelStates_append h with ⟨k, hk⟩ | h
  · exact Or.inl (hk.symm.trans (plain_cancel a hp k s))
  · exact Or.inr (plain_run a hp s ▸ h)

/-! ### the states a cancelled creation of the active blob and a cancelled write leave -/

/-- the 0-byte file of a cancelled creation -/
def sFile (s0 : CStore) : CStore := createFile s0.nextId (bumpId s0)
/-- the blob file with its header, not installed -/
def sHdr (s0 : CStore) : CStore := writeHdr (sFile s0)
/-- the new active blob installed -/
def sNew (s0 : CStore) : CStore := install (sHdr s0)

theorem openNew_run (c : Cfg) (s0 : CStore) : runItems (openNewItems c s0.nextId) s0 = sNew s0 := by
  unfold openNewItems
  cases c.currentThread <;> rfl

theorem openNew_cancelStates (c : Cfg) (s0 t : CStore)
    (h : CancelStates (openNewItems c s0.nextId) s0 t) : t = sFile s0 ∨ t = sHdr s0 ∨ t = sNew s0 := by
  obtain ⟨k, rfl⟩ := h
  unfold openNewItems
  cases c.currentThread
  · rcases k with _ | _ | k
    · exact Or.inl rfl
    · exact Or.inr (Or.inl rfl)
    · exact Or.inr (Or.inr (cancelAfter_nil k _))
  · rcases k with _ | _ | _ | k
    · exact Or.inl rfl
    · exact Or.inr (Or.inl rfl)
    · exact Or.inr (Or.inl rfl)
    · exact Or.inr (Or.inr (cancelAfter_nil k _))

theorem create_run (c : Cfg) (s0 : CStore) : runItems (createItems c s0.nextId) s0 = sNew s0 :=
  openNew_run c s0

theorem create_cancelStates (c : Cfg) (s0 t : CStore)
    (h : CancelStates (createItems c s0.nextId) s0 t) :
    t = s0 ∨ t = sFile s0 ∨ t = sHdr s0 ∨ t = sNew s0 :=
  (plain2.cancelStates_append h).imp_right (openNew_cancelStates c s0 t)

theorem recWrite_run (c : Cfg) (on : (CBlob → CBlob) → CStore → CStore) (x : RecB) (s : CStore) :
    runItems (recWriteItems c on x) s = on (CBlob.pushWritten c x) (on (CBlob.fileWrite c x) s) := by
  unfold recWriteItems
  split <;> rfl

/-- only the await of a detached write closure separates the file write from the push -/
theorem cancel_recWrite (c : Cfg) (on : (CBlob → CBlob) → CStore → CStore) (x : RecB) (k : Nat)
    (s : CStore) :
    cancelAfter k (recWriteItems c on x) s =
      if c.detached (entryLen c x) = true ∧ k = 0 then on (CBlob.fileWrite c x) s
      else on (CBlob.pushWritten c x) (on (CBlob.fileWrite c x) s) := by
  unfold recWriteItems
  cases c.detached (entryLen c x)
  · simp only [Bool.false_eq_true, false_and, ↓reduceIte]
    cases k <;> rfl
  · rcases k with _ | k
    · rfl
    · simp only [↓reduceIte, Nat.add_eq_zero_iff, Nat.succ_ne_self, and_false]
      cases k <;> rfl

/-- the write is refused as a duplicate -/
def isDup (c : Cfg) (a : WArgs) (s0 : CStore) : Bool :=
  !(afterCreate c s0).allowDup && ((afterCreate c s0).toStore.getLatestEntry a.k a.m).isFound

/-- the record's bytes are in the file of the active blob, its index does not know it -/
def sOrphan (c : Cfg) (a : WArgs) (s0 : CStore) : CStore :=
  CStore.onActive (CBlob.fileWrite c a.entry) (afterCreate c s0)

/-- the write took effect -/
def sFull (c : Cfg) (a : WArgs) (s0 : CStore) : CStore :=
  CStore.onActive (CBlob.pushWritten c a.entry) (sOrphan c a s0)

theorem afterCreate_none (c : Cfg) (s0 : CStore) (h : s0.active = none) : afterCreate c s0 = sNew s0 := by
  unfold afterCreate; rw [h]; exact create_run c s0

theorem afterCreate_some (c : Cfg) (s0 : CStore) {b : CBlob} (h : s0.active = some b) :
    afterCreate c s0 = s0 := by
  unfold afterCreate; rw [h]; rfl

/-- the creation part of `writeSegments` -/
def writeHead (c : Cfg) (s0 : CStore) : List (Item CStore) :=
  if s0.active.isNone then createItems c s0.nextId else [ .await none ]

theorem writeHead_run (c : Cfg) (s0 : CStore) : runItems (writeHead c s0) s0 = afterCreate c s0 := by
  unfold writeHead afterCreate
  split <;> rfl

theorem writeHead_cancelStates (c : Cfg) (s0 t : CStore) (h : CancelStates (writeHead c s0) s0 t) :
    t = s0 ∨ (s0.active = none ∧ (t = sFile s0 ∨ t = sHdr s0)) ∨ t = afterCreate c s0 := by
  unfold writeHead at h
  cases hact : s0.active with
  | none =>
    rw [hact] at h
    rcases create_cancelStates c s0 t h with h | h | h | h
    · exact Or.inl h
    · exact Or.inr (Or.inl ⟨rfl, Or.inl h⟩)
    · exact Or.inr (Or.inl ⟨rfl, Or.inr h⟩)
    · exact Or.inr (Or.inr (h.trans (afterCreate_none c s0 hact).symm))
  | some b =>
    rw [hact] at h
    obtain ⟨k, rfl⟩ := h
    exact Or.inl (plain_cancel _ plain1 k s0)

/-- the awaits of the duplicate check (`contains_with`) -/
def dupCheck (c : Cfg) (s0 : CStore) : List (Item CStore) :=
  if (afterCreate c s0).allowDup then [] else [ .await none, .await none ]

theorem plain_dupCheck (c : Cfg) (s0 : CStore) : Plain (dupCheck c s0) := Plain.ite _ Plain.nil plain2

theorem writeSegments_eq (c : Cfg) (a : WArgs) (s0 : CStore) :
    writeSegments c a s0 = writeHead c s0 ++ (dupCheck c s0 ++
      (if isDup c a s0 then []
       else [ .await none, .await none ] ++ (recWriteItems c CStore.onActive a.entry ++ [ .await none ]))) := by
  unfold writeSegments writeHead dupCheck isDup
  simp only [List.append_assoc]

theorem write_run (c : Cfg) (a : WArgs) (s0 : CStore) :
    runItems (writeSegments c a s0) s0 = if isDup c a s0 then afterCreate c s0 else sFull c a s0 := by
  rw [writeSegments_eq, runItems_append, writeHead_run, runItems_append, plain_run _ (plain_dupCheck c s0)]
  cases isDup c a s0
  · simp only [Bool.false_eq_true, ↓reduceIte]
    rw [runItems_append, plain_run _ plain2, runItems_append, recWrite_run, plain_run _ plain1]
    rfl
  · rfl

theorem write_cancelStates (c : Cfg) (a : WArgs) (s0 t : CStore)
    (h : CancelStates (writeSegments c a s0) s0 t) :
    t = s0 ∨ (s0.active = none ∧ (t = sFile s0 ∨ t = sHdr s0)) ∨ t = afterCreate c s0 ∨
    (isDup c a s0 = false ∧ c.detached (entryLen c a.entry) = true ∧ t = sOrphan c a s0) ∨
    (isDup c a s0 = false ∧ t = sFull c a s0) := by
  rw [writeSegments_eq] at h
  rcases cancelStates_append h with h | h
  · exact (writeHead_cancelStates c s0 t h).imp_right (Or.imp_right Or.inl)
  rw [writeHead_run] at h
  refine Or.inr (Or.inr ?_)
  rcases (plain_dupCheck c s0).cancelStates_append h with h | h
  · exact Or.inl h
  cases hdup : isDup c a s0 <;> rw [hdup] at h
  · rcases plain2.cancelStates_append h with h | h
    · exact Or.inl h
    rcases cancelStates_append h with ⟨k, rfl⟩ | ⟨k, rfl⟩
    · rw [cancel_recWrite]
      split
      · next hd => exact Or.inr (Or.inl ⟨rfl, hd.1, rfl⟩)
      · exact Or.inr (Or.inr ⟨rfl, rfl⟩)
    · rw [plain_cancel _ plain1, recWrite_run]
      exact Or.inr (Or.inr ⟨rfl, rfl⟩)
  · exact Or.inl (cancelStates_nil h)

/-- the await at which the write closure is handed to `spawn_blocking` -/
theorem write_orphan_at (c : Cfg) (a : WArgs) (s0 : CStore) (hdup : isDup c a s0 = false)
    (hd : c.detached (entryLen c a.entry) = true) :
    cancelAfter (awaits (writeHead c s0) + (awaits (dupCheck c s0) + 2)) (writeSegments c a s0) s0 =
      sOrphan c a s0 := by
  rw [writeSegments_eq, cancelAfter_append, if_neg (by omega), writeHead_run, cancelAfter_append,
    if_neg (by omega), plain_run _ (plain_dupCheck c s0), hdup]
  simp only [Bool.false_eq_true, ↓reduceIte, Nat.add_sub_cancel_left]
  unfold recWriteItems
  rw [hd]
  rfl

/-! ### the L2 views (`toStore`, `regen`) of those states -/

/-- the only trace of a cancelled creation in the L2 state: a blob id is used up -/
def bumpS (S : Store) : Store := { S with nextId := S.nextId + 1 }

theorem toStore_sNew (s0 : CStore) : (sNew s0).toStore = s0.toStore.createActive := rfl
theorem regen_sNew (s0 : CStore) : (sNew s0).regen = s0.regen.createActive := rfl

theorem afterCreate_active (c : Cfg) (s0 : CStore) : ∃ b, (afterCreate c s0).active = some b := by
  cases h : s0.active with
  | none => rw [afterCreate_none c s0 h]; exact ⟨_, rfl⟩
  | some b => rw [afterCreate_some c s0 h]; exact ⟨b, h⟩

theorem toStore_afterCreate (c : Cfg) (s0 : CStore) :
    (afterCreate c s0).toStore = s0.toStore.ensureActive := by
  unfold Store.ensureActive
  cases h : s0.active with
  | none => rw [afterCreate_none c s0 h, show s0.toStore.active = none from congrArg (Option.map _) h]; rfl
  | some b => rw [afterCreate_some c s0 h, show s0.toStore.active = some b.toBlob from congrArg (Option.map _) h]

theorem regen_afterCreate (c : Cfg) (s0 : CStore) :
    (afterCreate c s0).regen = s0.regen.ensureActive := by
  unfold Store.ensureActive
  cases h : s0.active with
  | none => rw [afterCreate_none c s0 h, show s0.regen.active = none from congrArg (Option.map _) h]; rfl
  | some b => rw [afterCreate_some c s0 h, show s0.regen.active = some b.regenBlob from congrArg (Option.map _) h]

theorem toStore_sOrphan (c : Cfg) (a : WArgs) (s0 : CStore) :
    (sOrphan c a s0).toStore = (afterCreate c s0).toStore := by
  unfold sOrphan CStore.onActive CStore.toStore
  cases (afterCreate c s0).active <;> rfl

theorem regen_sOrphan (c : Cfg) (a : WArgs) (s0 : CStore) :
    (sOrphan c a s0).regen = (sFull c a s0).regen := by
  unfold sFull CStore.onActive CStore.regen
  cases (sOrphan c a s0).active <;> rfl

theorem toStore_sFull (c : Cfg) (a : WArgs) (s0 : CStore) (hdup : isDup c a s0 = false) :
    (sFull c a s0).toStore = s0.toStore.write a.k a.ts a.m a.d := by
  obtain ⟨b, hb⟩ := afterCreate_active c s0
  unfold Store.write
  simp only
  rw [← toStore_afterCreate c s0,
    show (!(afterCreate c s0).toStore.allowDup &&
      ((afterCreate c s0).toStore.getLatestEntry a.k a.m).isFound) = false from hdup]
  unfold sFull sOrphan CStore.onActive
  simp [CStore.toStore, hb, CBlob.toBlob, CBlob.pushWritten, CBlob.push, CBlob.fileWrite, Blob.append, WArgs.entry]

/-! ### `QEq`: two L2 stores answer alike -/

/-- two L2 states answer every key query of Store.lean alike, and hold the same number of records -/
def QEq (A B : Store) : Prop :=
  (∀ k m, A.read k m = B.read k m) ∧ (∀ k, A.contains k = B.contains k) ∧
  (∀ k, A.readAll k = B.readAll k) ∧ (∀ k, A.readAllMarked k = B.readAllMarked k) ∧
  A.recordsCount = B.recordsCount ∧ A.allowDup = B.allowDup

theorem QEq.refl (A : Store) : QEq A A := ⟨fun _ _ => rfl, fun _ => rfl, fun _ => rfl, fun _ => rfl, rfl, rfl⟩

theorem QEq.symm {A B : Store} (h : QEq A B) : QEq B A :=
  ⟨fun k m => (h.1 k m).symm, fun k => (h.2.1 k).symm, fun k => (h.2.2.1 k).symm,
    fun k => (h.2.2.2.1 k).symm, h.2.2.2.2.1.symm, h.2.2.2.2.2.symm⟩

theorem QEq.trans {A B C : Store} (h1 : QEq A B) (h2 : QEq B C) : QEq A C :=
  ⟨fun k m => (h1.1 k m).trans (h2.1 k m), fun k => (h1.2.1 k).trans (h2.2.1 k),
    fun k => (h1.2.2.1 k).trans (h2.2.2.1 k), fun k => (h1.2.2.2.1 k).trans (h2.2.2.2.1 k),
    h1.2.2.2.2.1.trans h2.2.2.2.2.1, h1.2.2.2.2.2.trans h2.2.2.2.2.2⟩

/-- `read`, `contains` and `readAll` are functions of `getLatestEntry` and `readAllMarked` -/
theorem QEq.of_entries {A B : Store} (hget : ∀ k m, A.getLatestEntry k m = B.getLatestEntry k m)
    (hmarked : ∀ k, A.readAllMarked k = B.readAllMarked k) (hcount : A.recordsCount = B.recordsCount)
    (hdup : A.allowDup = B.allowDup) : QEq A B :=
  ⟨hget, fun k => by unfold Store.contains; rw [hget], fun k => by unfold Store.readAll; rw [hmarked],
    hmarked, hcount, hdup⟩

theorem qeq_bump (S : Store) : QEq S (bumpS S) := QEq.of_entries (fun _ _ => rfl) (fun _ => rfl) rfl rfl

/-- a new, empty active blob changes no answer (only `blobsCount`, `nextId`, `recordsCountInActive`) -/
theorem qeq_createActive (S : Store) (h : S.active = none) : QEq S S.createActive := by
  refine QEq.of_entries ?_ ?_ ?_ rfl
  · intro k m
    rw [Store.getLatestEntry_eq_foldr, Store.getLatestEntry_eq_foldr, Store.blobs_createActive h, List.foldr_append]
    exact congrArg (List.foldr _ · S.blobs) (by cases m <;> rfl)
  · intro k
    unfold Store.readAllMarked
    rw [Store.visit_eq, Store.visit_eq, Store.blobs_createActive h]
    have : ({ id := S.nextId, recs := [] } : Blob).getAllCut k = [] := rfl
    simp [this]
  · simp [Store.recordsCount, Store.blobs_createActive h, Blob.count]

theorem qeq_ensureActive (S : Store) : QEq S S.ensureActive := by
  unfold Store.ensureActive
  cases h : S.active with
  | none => exact qeq_createActive S h
  | some b => exact QEq.refl S

theorem latest_notFound (r : ReadResult Rec) : (ReadResult.notFound : ReadResult Rec).latest r = r :=
  ReadResult.latest_notFound_left r

/-! ### the invariants `BlobInv` (a blob file and its index) and `StoreInv`, through creation and write -/

/-- the header of the index entry `e` = (record, offset it was pushed with) -/
def hdrOf (c : Cfg) (e : RecB × Nat) : RecHeader :=
  writtenHeader (recordOf c.klen e.1.1 e.1.2) e.2 c.maxSP

structure BlobInv (c : Cfg) (b : CBlob) : Prop where
  /-- the file is the blob of the ghost record list: it parses completely -/
  bytes : b.file.bytes = blobBytes c.klen b.frecs
  /-- no reservation gap -/
  size : b.file.size = b.file.bytes.length
  /-- what the index knows is in the file, in the same order -/
  sub : (b.idx.map (·.1)).Sublist b.frecs
  /-- every indexed record loads with its bytes -/
  loads : ∀ e ∈ b.idx, entryLoad b.file.bytes (hdrOf c e) =
    .ok (serMeta e.1.1.mt, (recordOf c.klen e.1.1 e.1.2).data)

theorem fileWrite_bytes (c : Cfg) (x : RecB) (b : CBlob) (hs : b.file.size = b.file.bytes.length) :
    (b.fileWrite c x).file.bytes =
      b.file.bytes ++ (recordOf c.klen x.1 x.2).image b.file.bytes.length := by
  unfold CBlob.fileWrite
  simp only
  rw [hs, writeData_end]
  exact congrArg (b.file.bytes ++ ·) (recordBytes_eq_image _ _ _)

theorem fileWrite_length (c : Cfg) (y : RecB) (b : CBlob) (hs : b.file.size = b.file.bytes.length) :
    (b.fileWrite c y).file.bytes.length = b.file.bytes.length + entryLen c y ∧
    (b.fileWrite c y).file.size = (b.fileWrite c y).file.bytes.length ∧ 0 < entryLen c y := by
  have hl : entryLen c y = Fault.recLen (recordOf c.klen y.1 y.2) := Fault.toPartial_len_recLen _ _
  have hlen : (b.fileWrite c y).file.bytes.length = b.file.bytes.length + entryLen c y := by
    rw [fileWrite_bytes c y b hs, List.length_append, Fault.image_length_recLen, hl]
  refine ⟨hlen, ?_, hl ▸ Fault.recLen_pos _⟩
  rw [hlen, ← hs]
  rfl

theorem BlobInv.fileWrite {c : Cfg} {b : CBlob} (h : BlobInv c b) (x : RecB) : BlobInv c (b.fileWrite c x) := by
  have hb := fileWrite_bytes c x b h.size
  refine ⟨?_, (fileWrite_length c x b h.size).2.1, h.sub.trans (List.sublist_append_left _ _), ?_⟩
  · rw [hb, show (b.fileWrite c x).frecs = b.frecs ++ [(x.1, x.2)] from rfl, blobBytes_snoc, h.bytes]
    simp only [Record.image, recordOf_mt, recordOf_data, List.append_assoc]
  · intro e he
    rw [hb]
    exact Fault.entryLoad_append_right (h.loads e he) _

theorem BlobInv.writePush {c : Cfg} {b : CBlob} (h : BlobInv c b) (x : RecB)
    (hm : (serMeta x.1.mt).length < 2 ^ 64) :
    BlobInv c ((b.fileWrite c x).push x b.file.size) := by
  have h1 := h.fileWrite x
  refine ⟨h1.bytes, h1.size, ?_, ?_⟩
  · show ((b.idx ++ [(x, b.file.size)]).map (·.1)).Sublist (b.frecs ++ [x])
    rw [List.map_append]
    exact h.sub.append (List.Sublist.refl _)
  · intro e he
    rcases List.mem_append.mp he with he | he
    · exact h1.loads e he
    · rw [List.mem_singleton.mp he]
      show entryLoad (b.fileWrite c x).file.bytes (writtenHeader (recordOf c.klen x.1 x.2) b.file.size c.maxSP) = _
      rw [fileWrite_bytes c x b h.size, writtenHeader_eq, h.size]
      have := entryLoad_image b.file.bytes [] (recordOf c.klen x.1 x.2) (recordOf_WF c.klen x.1 x.2)
        b.file.bytes.length rfl (by rw [recordOf_mt]; exact hm)
      rw [List.append_nil, recordOf_mt] at this
      exact this

theorem pushWritten_fileWrite (c : Cfg) (x : RecB) (b : CBlob) :
    (b.fileWrite c x).pushWritten c x = (b.fileWrite c x).push x b.file.size := by
  unfold CBlob.pushWritten CBlob.lastOffset
  rw [show (b.fileWrite c x).file.size = b.file.size + (toPartial (recordOf c.klen x.1 x.2) c.maxSP).len from rfl,
    Nat.add_sub_cancel]

theorem BlobInv.writePushWritten {c : Cfg} {b : CBlob} (h : BlobInv c b) (x : RecB)
    (hm : (serMeta x.1.mt).length < 2 ^ 64) : BlobInv c ((b.fileWrite c x).pushWritten c x) := by
  rw [pushWritten_fileWrite]; exact h.writePush x hm

theorem BlobInv.loadIndex {c : Cfg} {b : CBlob} (h : BlobInv c b) : BlobInv c b.loadIndex :=
  ⟨h.bytes, h.size, h.sub, h.loads⟩

theorem BlobInv.new (c : Cfg) (id : Nat) :
    BlobInv c { id := id, file := ⟨serBlobHeader, blobHeaderSize⟩ } :=
  ⟨rfl, rfl, List.Sublist.refl _, fun _ he => nomatch he⟩

/-- a blob file that is not part of the storage: empty (creation cancelled before the header was
    written) or just the header -/
def StrayOk (f : Fault.FFile) : Prop := (f.bytes = [] ∨ f.bytes = serBlobHeader) ∧ f.size = f.bytes.length

structure StoreInv (c : Cfg) (s : CStore) : Prop where
  active : ∀ b, s.active = some b → BlobInv c b
  closed : ∀ b, some b ∈ s.slots → BlobInv c b
  stray : ∀ p ∈ s.stray, StrayOk p.2

theorem hdrFile_eq : (⟨pwrite [] 0 serBlobHeader, 0 + blobHeaderSize⟩ : Fault.FFile) = ⟨serBlobHeader, blobHeaderSize⟩ := by
  rw [show pwrite [] 0 serBlobHeader = serBlobHeader from pwrite_end [] serBlobHeader, Nat.zero_add]

theorem StoreInv.sFile {c : Cfg} {s0 : CStore} (h : StoreInv c s0) : StoreInv c (sFile s0) :=
  ⟨h.active, h.closed, fun p hp => by
    rcases List.mem_cons.mp hp with rfl | hp
    · exact ⟨Or.inl rfl, rfl⟩
    · exact h.stray p hp⟩

theorem StoreInv.sHdr {c : Cfg} {s0 : CStore} (h : StoreInv c s0) : StoreInv c (sHdr s0) :=
  ⟨h.active, h.closed, fun p hp => by
    rcases List.mem_cons.mp hp with rfl | hp
    · show StrayOk ⟨pwrite [] 0 serBlobHeader, 0 + blobHeaderSize⟩
      rw [hdrFile_eq]
      exact ⟨Or.inr rfl, rfl⟩
    · exact h.stray p hp⟩

theorem StoreInv.sNew {c : Cfg} {s0 : CStore} (h : StoreInv c s0) : StoreInv c (sNew s0) :=
  ⟨fun b hb => by
    have : b = { id := s0.nextId, file := ⟨pwrite [] 0 serBlobHeader, 0 + blobHeaderSize⟩ } :=
      (Option.some.inj hb).symm
    rw [this, hdrFile_eq]
    exact BlobInv.new c s0.nextId,
   h.closed, h.stray⟩

theorem StoreInv.afterCreate {c : Cfg} {s0 : CStore} (h : StoreInv c s0) : StoreInv c (afterCreate c s0) := by
  cases hact : s0.active with
  | none => rw [afterCreate_none c s0 hact]; exact h.sNew
  | some b => rw [afterCreate_some c s0 hact]; exact h

theorem StoreInv.onActive {c : Cfg} {s : CStore} (h : StoreInv c s) (f : CBlob → CBlob)
    (hf : ∀ b, s.active = some b → BlobInv c (f b)) : StoreInv c (CStore.onActive f s) :=
  ⟨fun b hb => by
    obtain ⟨b0, hb0, rfl⟩ := Option.map_eq_some_iff.mp hb
    exact hf b0 hb0,
   h.closed, h.stray⟩

theorem StoreInv.sOrphan {c : Cfg} {s0 : CStore} (h : StoreInv c s0) (a : WArgs) :
    StoreInv c (sOrphan c a s0) :=
  h.afterCreate.onActive _ (fun b hb => (h.afterCreate.active b hb).fileWrite _)

theorem onActive_comp (f g : CBlob → CBlob) (s : CStore) :
    CStore.onActive f (CStore.onActive g s) = CStore.onActive (f ∘ g) s := by
  unfold CStore.onActive
  simp only [Option.map_map]

theorem sFull_eq (c : Cfg) (a : WArgs) (s0 : CStore) :
    sFull c a s0 = CStore.onActive (fun b => (b.fileWrite c a.entry).pushWritten c a.entry)
      (Cancel.afterCreate c s0) :=
  onActive_comp ..

theorem StoreInv.sFull {c : Cfg} {s0 : CStore} (h : StoreInv c s0) (a : WArgs)
    (hm : (serMeta a.entry.1.mt).length < 2 ^ 64) : StoreInv c (sFull c a s0) := by
  rw [sFull_eq]
  exact h.afterCreate.onActive _ (fun b' hb' => (h.afterCreate.active b' hb').writePushWritten _ hm)

theorem write_cancel_inv (c : Cfg) (a : WArgs) (s0 t : CStore) (h : StoreInv c s0)
    (hm : (serMeta a.entry.1.mt).length < 2 ^ 64)
    (ht : CancelStates (writeSegments c a s0) s0 t) : StoreInv c t := by
  rcases write_cancelStates c a s0 t ht with rfl | ⟨_, rfl | rfl⟩ | rfl | ⟨_, _, rfl⟩ | ⟨_, rfl⟩
  · exact h
  · exact h.sFile
  · exact h.sHdr
  · exact h.afterCreate
  · exact h.sOrphan a
  · exact h.sFull a hm

theorem StoreInv.write_run {c : Cfg} {s : CStore} (h : StoreInv c s) (a : WArgs)
    (hm : (serMeta a.entry.1.mt).length < 2 ^ 64) : StoreInv c (runItems (writeSegments c a s) s) :=
  write_cancel_inv c a s _ h hm (cancelStates_run _ _)

theorem write_before_views (c : Cfg) (s0 t : CStore)
    (h : t = s0 ∨ t = sFile s0 ∨ t = sHdr s0 ∨ t = afterCreate c s0) :
    QEq s0.toStore t.toStore ∧ QEq s0.regen t.regen ∧ (StoreInv c s0 → StoreInv c t) := by
  rcases h with rfl | rfl | rfl | rfl
  · exact ⟨QEq.refl _, QEq.refl _, id⟩
  · exact ⟨qeq_bump _, qeq_bump _, StoreInv.sFile⟩
  · exact ⟨qeq_bump _, qeq_bump _, StoreInv.sHdr⟩
  · exact ⟨toStore_afterCreate c s0 ▸ qeq_ensureActive _, regen_afterCreate c s0 ▸ qeq_ensureActive _,
      StoreInv.afterCreate⟩

/-! ### `BlobSel`: what the proofs need of a selector `on` (`CStore.onActive`, `CStore.onSlot i`) -/

/-- `on` applies a function to one blob of the storage -/
structure BlobSel (on : (CBlob → CBlob) → CStore → CStore) : Prop where
  id : ∀ s, on id s = s
  comp : ∀ f g s, on f (on g s) = on (f ∘ g) s
  inv : ∀ (c : Cfg) f s, StoreInv c s → (∀ b, BlobInv c b → BlobInv c (f b)) → StoreInv c (on f s)

theorem onActive_sel : BlobSel CStore.onActive where
  id s := by cases s; simp [CStore.onActive]
  comp := onActive_comp
  inv c f s h hf := h.onActive f (fun b hb => hf b (h.active b hb))

theorem onSlot_sel (i : Nat) : BlobSel (CStore.onSlot i) where
  id s := by
    cases s
    simp only [CStore.onSlot, Option.map_id_fun, List.modify_id]
  comp f g s := by
    unfold CStore.onSlot
    simp only [List.modify_modify_eq]
    congr 2
    funext o
    cases o <;> rfl
  inv c f s h hf := by
    refine ⟨h.active, ?_, h.stray⟩
    intro b hb
    obtain ⟨j, hj, hget⟩ := List.mem_iff_getElem.mp hb
    simp only [CStore.onSlot, List.getElem_modify] at hget
    simp only [CStore.onSlot, List.length_modify] at hj
    split at hget
    · cases hs : s.slots[j] with
      | none => rw [hs] at hget; cases hget
      | some b0 =>
        rw [hs] at hget
        rw [← Option.some.inj hget]
        exact hf b0 (h.closed b0 (hs ▸ List.getElem_mem hj))
    · exact h.closed b (hget ▸ List.getElem_mem hj)

/-! ### `Blob::delete` cut at an await: the three kinds of `Cut`, the exact state (`cancel_blobDelete`), views, invariant

What a (cut or completed) `Blob::delete` does is written at two levels.  On the storage, through any selector `on`:
`loaded` (the `load_index` step only), `markerOrphan`, `markerDone`, and `cutOn` (the three kinds in one function).
On the blob alone: `loadSel b0` (the `load_index` step only, as a function of the blob), `loadedB b0 = loadSel b0 b0`,
`cutB` (the three kinds; `cutOn = on (cutB ..)` for a `BlobSel`), and in Pearl/Proofs/CancelRefine.lean `delF` / `delB`
(the completed delete: `cutB` at `.done` or `.untouched`). -/

/-- a marker is due on this blob -/
def needMarker (a : DArgs) (oip : Bool) (b0 : CBlob) : Bool := !oip || (b0.toBlob.getLatest a.k).isFound

/-- the state once the index of the blob is in memory -/
def loaded (on : (CBlob → CBlob) → CStore → CStore) (b0 : CBlob) (s : CStore) : CStore :=
  if b0.onDisk then on CBlob.loadIndex s else s

/-- the marker's bytes are in the file of the blob, its index does not know it -/
def markerOrphan (c : Cfg) (on : (CBlob → CBlob) → CStore → CStore) (a : DArgs) (b0 : CBlob) (s : CStore) :
    CStore := on (CBlob.fileWrite c a.entry) (loaded on b0 s)

/-- the marker is written and indexed -/
def markerDone (c : Cfg) (on : (CBlob → CBlob) → CStore → CStore) (a : DArgs) (b0 : CBlob) (s : CStore) :
    CStore := on (CBlob.pushWritten c a.entry) (markerOrphan c on a b0 s)

/-- the states a cancelled `Blob::delete` can leave on its blob -/
def BlobDeleteState (c : Cfg) (on : (CBlob → CBlob) → CStore → CStore) (a : DArgs) (oip : Bool)
    (b0 : CBlob) (s t : CStore) : Prop :=
  t = s ∨
  (needMarker a oip b0 = true ∧ c.detached (entryLen c a.entry) = true ∧ t = markerOrphan c on a b0 s) ∨
  (needMarker a oip b0 = true ∧ t = markerDone c on a b0 s)

/-- the three things a cancelled `Blob::delete` can have done to its blob -/
inductive Cut where
  /-- nothing -/
  | untouched
  /-- the marker's bytes are in the file (written by the detached closure), the index does not know it -/
  | orphan
  /-- the marker is written and indexed -/
  | done
deriving DecidableEq, Repr, Inhabited

/-- `load_index` if the blob, as the operation found it, had its index on disk -/
def loadSel (b0 : CBlob) : CBlob → CBlob := if b0.onDisk then CBlob.loadIndex else id

/-- the effect on the blob (`b0` = the blob as the operation found it) -/
def cutB (c : Cfg) (a : DArgs) (b0 : CBlob) : Cut → CBlob → CBlob
  | .untouched => id
  | .orphan => fun b => (loadSel b0 b).fileWrite c a.entry
  | .done => fun b => ((loadSel b0 b).fileWrite c a.entry).pushWritten c a.entry

/-- which of them are possible on this blob -/
def Cut.Valid (c : Cfg) (a : DArgs) (oip : Bool) (b0 : CBlob) : Cut → Prop
  | .untouched => True
  | .orphan => needMarker a oip b0 = true ∧ c.detached (entryLen c a.entry) = true
  | .done => needMarker a oip b0 = true

instance (c : Cfg) (a : DArgs) (oip : Bool) (b0 : CBlob) (k : Cut) : Decidable (k.Valid c a oip b0) := by
  cases k <;> unfold Cut.Valid <;> infer_instance

/-- number of awaits of `Blob::delete` before `write_mut`: `index.get_latest(key).await` when
    `only_if_presented`, `load_index().await` when the index is on disk -/
def preAwaits (oip : Bool) (b0 : CBlob) : Nat := (if oip then 1 else 0) + (if b0.onDisk then 1 else 0)

/-- what the future of `Blob::delete`, dropped at its await number `k`, did -/
def cutOf (c : Cfg) (a : DArgs) (oip : Bool) (b0 : CBlob) (k : Nat) : Cut :=
  if needMarker a oip b0 = false ∨ k < preAwaits oip b0 then .untouched
  else if c.detached (entryLen c a.entry) = true ∧ k = preAwaits oip b0 then .orphan
  else .done

theorem cutOf_valid (c : Cfg) (a : DArgs) (oip : Bool) (b0 : CBlob) (k : Nat) :
    (cutOf c a oip b0 k).Valid c a oip b0 := by
  unfold cutOf
  split
  · trivial
  · next h1 =>
    have hn : needMarker a oip b0 = true := by
      cases h : needMarker a oip b0
      · exact absurd (Or.inl h) h1
      · rfl
    split
    · next h2 => exact ⟨hn, h2.1⟩
    · exact hn

theorem preAwaits_le (oip : Bool) (b : CBlob) : preAwaits oip b ≤ 2 := by
  unfold preAwaits
  cases oip <;> cases b.onDisk <;> decide

theorem cutOf_gt (c : Cfg) (a : DArgs) (oip : Bool) (b0 : CBlob) (k : Nat) (hk : preAwaits oip b0 < k) :
    cutOf c a oip b0 k = if needMarker a oip b0 then .done else .untouched := by
  unfold cutOf
  cases needMarker a oip b0
  · rfl
  · rw [if_neg (by simp; omega), if_neg (by omega)]; rfl

/-- the state of the storage for each of the three (general `on`) -/
def cutOn (c : Cfg) (on : (CBlob → CBlob) → CStore → CStore) (a : DArgs) (b0 : CBlob) : Cut → CStore → CStore
  | .untouched, s => s
  | .orphan, s => markerOrphan c on a b0 s
  | .done, s => markerDone c on a b0 s

/-- `Blob::delete` when a marker is due: the plain awaits, `load_index`, `write_mut` -/
theorem blobDeleteItems_marker (c : Cfg) (on : (CBlob → CBlob) → CStore → CStore) (a : DArgs) (oip : Bool)
    (b0 : CBlob) (hn : needMarker a oip b0 = true) :
    blobDeleteItems c on a oip b0 = List.replicate (preAwaits oip b0) (.await none) ++
      ((if b0.onDisk then [ .sync (on CBlob.loadIndex) ] else []) ++ recWriteItems c on a.entry) := by
  unfold blobDeleteItems preAwaits
  rw [show (!oip || (b0.toBlob.getLatest a.k).isFound) = true from hn]
  cases oip <;> cases b0.onDisk <;> rfl

theorem blobDeleteItems_noMarker (c : Cfg) (on : (CBlob → CBlob) → CStore → CStore) (a : DArgs) (oip : Bool)
    (b0 : CBlob) (hn : needMarker a oip b0 = false) :
    blobDeleteItems c on a oip b0 = if oip then [ .await none ] else [] := by
  unfold blobDeleteItems
  rw [show (!oip || (b0.toBlob.getLatest a.k).isFound) = false from hn]
  exact List.append_nil _

theorem awaits_replicate {σ : Type} (n : Nat) : awaits (List.replicate n (Item.await none : Item σ)) = n := by
  induction n with
  | zero => rfl
  | succ n ih => rw [List.replicate_succ]; exact congrArg (· + 1) ih

theorem cancelAfter_loadSync (on : (CBlob → CBlob) → CStore → CStore) (b0 : CBlob) (j : Nat)
    (rest : List (Item CStore)) (s : CStore) :
    cancelAfter j ((if b0.onDisk then [ Item.sync (on CBlob.loadIndex) ] else []) ++ rest) s =
      cancelAfter j rest (loaded on b0 s) := by
  unfold loaded
  cases b0.onDisk
  · rfl
  · exact cancelAfter_sync ..

/-- the future of `Blob::delete` dropped at await `k` did `cutOf k` to its blob and nothing else, whatever `on` selects -/
theorem cancel_blobDelete (c : Cfg) (on : (CBlob → CBlob) → CStore → CStore) (a : DArgs) (oip : Bool)
    (b0 : CBlob) (k : Nat) (s : CStore) :
    cancelAfter k (blobDeleteItems c on a oip b0) s = cutOn c on a b0 (cutOf c a oip b0 k) s := by
  unfold cutOf
  cases hn : needMarker a oip b0
  · rw [if_pos (Or.inl rfl), blobDeleteItems_noMarker c on a oip b0 hn]
    exact plain_cancel _ (Plain.ite _ plain1 Plain.nil) k s
  · rw [blobDeleteItems_marker c on a oip b0 hn, cancelAfter_append, awaits_replicate,
      plain_cancel _ (plain_replicate _), plain_run _ (plain_replicate _)]
    by_cases hk : k < preAwaits oip b0
    · rw [if_pos hk, if_pos (Or.inr hk)]; rfl
    · rw [if_neg hk, if_neg (show ¬(true = false ∨ k < preAwaits oip b0) by simp [hk]), cancelAfter_loadSync, cancel_recWrite]
      simp only [show k - preAwaits oip b0 = 0 ↔ k = preAwaits oip b0 by omega]
      split <;> rfl

theorem blobDelete_cancelStates (c : Cfg) (on : (CBlob → CBlob) → CStore → CStore) (a : DArgs) (oip : Bool)
    (b0 : CBlob) (s t : CStore) (h : CancelStates (blobDeleteItems c on a oip b0) s t) :
    BlobDeleteState c on a oip b0 s t := by
  obtain ⟨k, rfl⟩ := h
  rw [cancel_blobDelete]
  have hv := cutOf_valid c a oip b0 k
  generalize cutOf c a oip b0 k = kind at hv ⊢
  cases kind with
  | untouched => exact Or.inl rfl
  | orphan => exact Or.inr (Or.inl ⟨hv.1, hv.2, rfl⟩)
  | done => exact Or.inr (Or.inr ⟨hv, rfl⟩)

theorem awaits_blobDelete_le (c : Cfg) (on : (CBlob → CBlob) → CStore → CStore) (a : DArgs) (oip : Bool)
    (b0 : CBlob) : awaits (blobDeleteItems c on a oip b0) ≤ preAwaits oip b0 + 1 := by
  cases hn : needMarker a oip b0
  · rw [blobDeleteItems_noMarker c on a oip b0 hn]
    unfold preAwaits
    cases oip <;> simp [awaits]
  · -- the plain awaits, no await in `load_index`'s assignment, at most the await of the write closure
    have h1 : awaits (if b0.onDisk then [ Item.sync (on CBlob.loadIndex) ] else []) = 0 := by
      cases b0.onDisk <;> rfl
    have h2 : awaits (recWriteItems c on a.entry) ≤ 1 := by
      unfold recWriteItems
      split
      · exact Nat.le_refl 1
      · exact Nat.zero_le 1
    rw [blobDeleteItems_marker c on a oip b0 hn, awaits_append, awaits_replicate, awaits_append, h1]
    omega

theorem blobDelete_run (c : Cfg) (on : (CBlob → CBlob) → CStore → CStore) (a : DArgs) (oip : Bool)
    (b0 : CBlob) (s : CStore) :
    runItems (blobDeleteItems c on a oip b0) s =
      cutOn c on a b0 (if needMarker a oip b0 then .done else .untouched) s := by
  rw [← cancelAfter_ge _ _ s (awaits_blobDelete_le c on a oip b0), cancel_blobDelete,
    cutOf_gt c a oip b0 _ (Nat.lt_succ_self _)]

theorem loaded_eq {on : (CBlob → CBlob) → CStore → CStore} (hsel : BlobSel on) (b0 : CBlob) (s : CStore) :
    loaded on b0 s = on (loadSel b0) s := by
  unfold loaded loadSel
  cases b0.onDisk
  · exact (hsel.id s).symm
  · rfl

theorem cutOn_eq {on : (CBlob → CBlob) → CStore → CStore} (hsel : BlobSel on) (c : Cfg) (a : DArgs)
    (b0 : CBlob) (kind : Cut) (s : CStore) : cutOn c on a b0 kind s = on (cutB c a b0 kind) s := by
  cases kind with
  | untouched => exact (hsel.id s).symm
  | orphan =>
    show on (CBlob.fileWrite c a.entry) (loaded on b0 s) = _
    rw [loaded_eq hsel, hsel.comp]; rfl
  | done =>
    show on (CBlob.pushWritten c a.entry) (on (CBlob.fileWrite c a.entry) (loaded on b0 s)) = _
    rw [loaded_eq hsel, hsel.comp, hsel.comp]; rfl

theorem cutB_inv {c : Cfg} (a : DArgs) (b0 : CBlob) (kind : Cut) (hm : (serMeta a.entry.1.mt).length < 2 ^ 64)
    {b : CBlob} (hb : BlobInv c b) : BlobInv c (cutB c a b0 kind b) := by
  have hl : BlobInv c (loadSel b0 b) := by
    unfold loadSel
    cases b0.onDisk
    · exact hb
    · exact hb.loadIndex
  cases kind with
  | untouched => exact hb
  | orphan => exact hl.fileWrite _
  | done => exact hl.writePushWritten _ hm

theorem cutOn_inv {c : Cfg} {on : (CBlob → CBlob) → CStore → CStore} (hsel : BlobSel on) (a : DArgs)
    (b0 : CBlob) (kind : Cut) (s : CStore) (h : StoreInv c s) (hm : (serMeta a.entry.1.mt).length < 2 ^ 64) :
    StoreInv c (cutOn c on a b0 kind s) := by
  rw [cutOn_eq hsel]
  exact hsel.inv c _ s h (fun _ hb => cutB_inv a b0 kind hm hb)

theorem blobDeleteState_inv {c : Cfg} {on : (CBlob → CBlob) → CStore → CStore} (hsel : BlobSel on)
    (a : DArgs) (oip : Bool) (b0 : CBlob) (s t : CStore) (h : StoreInv c s)
    (hm : (serMeta a.entry.1.mt).length < 2 ^ 64) (ht : BlobDeleteState c on a oip b0 s t) :
    StoreInv c t := by
  rcases ht with rfl | ⟨_, _, rfl⟩ | ⟨_, rfl⟩
  · exact h
  · exact cutOn_inv hsel a b0 .orphan _ h hm
  · exact cutOn_inv hsel a b0 .done _ h hm

/-- the `load_index` step of `Blob::delete` on the blob it was computed from (`loadSel_self`) -/
def loadedB (b0 : CBlob) : CBlob := if b0.onDisk then b0.loadIndex else b0

theorem loadSel_self (b : CBlob) : loadSel b b = loadedB b := by
  unfold loadSel loadedB
  cases b.onDisk <;> rfl

/-- what THIS session sees of a blob whose delete was cut: nothing new; nothing new (the index, if it was on
    disk, is in memory now); the marker -/
def viewB (a : DArgs) : Cut → Blob → Blob
  | .untouched, B => B
  | .orphan, B => { B with onDisk := false }
  | .done, B => Store.mark a.k a.ts a.m B

/-- what a start that regenerates the index from the blob file sees: the marker iff the closure reached the
    file -/
def fileB (a : DArgs) : Cut → Blob → Blob
  | .untouched, B => B
  | _, B => Store.mark a.k a.ts a.m B

theorem toBlob_cutB (c : Cfg) (a : DArgs) (b : CBlob) (kind : Cut) :
    (cutB c a b kind b).toBlob = viewB a kind b.toBlob := by
  cases kind <;> unfold cutB viewB loadSel <;> cases hod : b.onDisk <;>
    simp [CBlob.toBlob, CBlob.pushWritten, CBlob.push, CBlob.fileWrite, CBlob.loadIndex, DArgs.entry, hod,
      Store.mark, Store.marker]

theorem regenBlob_cutB (c : Cfg) (a : DArgs) (b : CBlob) (kind : Cut) :
    (cutB c a b kind b).regenBlob = fileB a kind b.regenBlob := by
  cases kind <;> unfold cutB fileB loadSel <;> cases hod : b.onDisk <;>
    simp [CBlob.regenBlob, CBlob.pushWritten, CBlob.push, CBlob.fileWrite, CBlob.loadIndex, DArgs.entry,
      Store.mark, Store.marker]

theorem toBlob_markerDone (c : Cfg) (a : DArgs) (oip : Bool) (b0 : CBlob) :
    (if needMarker a oip b0 then ((loadedB b0).fileWrite c a.entry).pushWritten c a.entry else b0).toBlob =
      (Store.blobDelete b0.toBlob a.k a.ts a.m oip).1 := by
  rw [Store.blobDelete_fst, show (!oip || (b0.toBlob.getLatest a.k).isFound) = needMarker a oip b0 from rfl]
  cases needMarker a oip b0
  · rfl
  · rw [← loadSel_self]; exact toBlob_cutB c a b0 .done

/-! ### `Storage::delete` up to `delete_in_closed`: its pieces and the states a cancellation there leaves (`DelHead`) -/

def needCreate (a : DArgs) (s0 : CStore) : Bool := !a.oip && s0.active.isNone

/-- the state once `delete` holds an active blob (or knows it needs none) -/
def delS1 (a : DArgs) (s0 : CStore) : CStore := if needCreate a s0 then sNew s0 else s0

/-- `delete_in_active` -/
def delActiveItems (c : Cfg) (a : DArgs) (s1 : CStore) : List (Item CStore) :=
  match s1.active with
  | some b => [ .await none ] ++ blobDeleteItems c CStore.onActive a a.oip b
  | none => []

/-- the state after `delete_in_active` -/
def delS2 (c : Cfg) (a : DArgs) (s0 : CStore) : CStore := runItems (delActiveItems c a (delS1 a s0)) (delS1 a s0)

/-- `delete_in_closed`, blob by blob -/
def delClosedItems (c : Cfg) (a : DArgs) (s1 : CStore) : List (List (Item CStore)) :=
  (closedWithSlots s1).map (fun p => blobDeleteItems c (CStore.onSlot p.1) a true p.2)

/-- `ensure_active_blob_exists` inside `delete` -/
def delCreateItems (c : Cfg) (a : DArgs) (s0 : CStore) : List (Item CStore) :=
  if needCreate a s0 then [ .await none ] ++ openNewItems c s0.nextId else []

theorem delCreate_run (c : Cfg) (a : DArgs) (s0 : CStore) : runItems (delCreateItems c a s0) s0 = delS1 a s0 := by
  unfold delCreateItems delS1
  cases needCreate a s0
  · rfl
  · exact openNew_run c s0

theorem deleteSegments_eq (c : Cfg) (a : DArgs) (s0 : CStore) :
    deleteSegments c a s0 = [ .await none ] ++ (delCreateItems c a s0 ++
      (delActiveItems c a (delS1 a s0) ++ ([ .await none ] ++ (delClosedItems c a (delS1 a s0)).flatten))) := by
  have h1 : (if needCreate a s0 then runItems (createItems c s0.nextId) s0 else s0) = delS1 a s0 := by
    unfold delS1; rw [create_run]
  unfold deleteSegments
  simp only
  rw [show (!a.oip && s0.active.isNone) = needCreate a s0 from rfl, h1]
  unfold delActiveItems delClosedItems delCreateItems
  simp only [List.append_assoc]
  rfl

/-- the states of a `Storage::delete` dropped before `delete_in_active` is done -/
def DelHead (c : Cfg) (a : DArgs) (s0 t : CStore) : Prop :=
  t = s0 ∨ (needCreate a s0 = true ∧ (t = sFile s0 ∨ t = sHdr s0)) ∨ t = delS1 a s0 ∨
  ∃ b, (delS1 a s0).active = some b ∧ BlobDeleteState c CStore.onActive a a.oip b (delS1 a s0) t

/-- a cancelled `Storage::delete`: a state of the part before `delete_in_closed`, or the cancellation point lies in
    `delete_in_closed` -/
theorem delete_cancel_head (c : Cfg) (a : DArgs) (s0 t : CStore)
    (h : CancelStates (deleteSegments c a s0) s0 t) :
    DelHead c a s0 t ∨ t = delS2 c a s0 ∨
      CancelStates (delClosedItems c a (delS1 a s0)).flatten (delS2 c a s0) t := by
  rw [deleteSegments_eq] at h
  rcases plain1.cancelStates_append h with h | h
  · exact Or.inl (Or.inl h)
  rcases cancelStates_append h with h | h
  · -- inside the creation of the active blob
    refine Or.inl ?_
    unfold delCreateItems at h
    cases hn : needCreate a s0 <;> rw [hn] at h
    · exact Or.inl (cancelStates_nil h)
    · rcases plain1.cancelStates_append h with h | h
      · exact Or.inl h
      · rcases openNew_cancelStates c s0 t h with h | h | h
        · exact Or.inr (Or.inl ⟨hn, Or.inl h⟩)
        · exact Or.inr (Or.inl ⟨hn, Or.inr h⟩)
        · exact Or.inr (Or.inr (Or.inl (by unfold delS1; rw [hn]; exact h)))
  rw [delCreate_run] at h
  rcases cancelStates_append h with h | h
  · -- inside `delete_in_active`
    unfold delActiveItems at h
    cases hact : (delS1 a s0).active with
    | none => rw [hact] at h; exact Or.inl (Or.inr (Or.inr (Or.inl (cancelStates_nil h))))
    | some b =>
      rw [hact] at h
      rcases plain1.cancelStates_append h with h | h
      · exact Or.inl (Or.inr (Or.inr (Or.inl h)))
      · exact Or.inl (Or.inr (Or.inr (Or.inr ⟨b, hact, blobDelete_cancelStates _ _ _ _ _ _ _ h⟩)))
  exact Or.inr (plain1.cancelStates_append h)

theorem delS1_inv {c : Cfg} (a : DArgs) (s0 : CStore) (h : StoreInv c s0) : StoreInv c (delS1 a s0) := by
  unfold delS1; split
  · exact h.sNew
  · exact h

theorem delS2_inv {c : Cfg} (a : DArgs) (s0 : CStore) (h : StoreInv c s0)
    (hm : (serMeta a.entry.1.mt).length < 2 ^ 64) : StoreInv c (delS2 c a s0) := by
  unfold delS2 delActiveItems
  cases (delS1 a s0).active with
  | none => exact delS1_inv a s0 h
  | some b =>
    exact blobDeleteState_inv onActive_sel a a.oip b _ _ (delS1_inv a s0 h) hm
      (blobDelete_cancelStates _ _ _ _ _ _ _ (cancelStates_run _ _))

end Pearl.Cancel
