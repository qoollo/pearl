import Pearl.Proofs.EndToEndStart
import Pearl.Proofs.EndToEndSteps
import Pearl.Proofs.EndToEndMetaReadAll
/-
End-to-end composition, start-up WITH index files: the storage.  `restartWithIndexes` on the
translation of a reachable structured state, for every directory of index files that are current, stale or rejected:
it fails exactly when an index file lies next to a blob without records, and otherwise the storage it returns IS the
storage `BState.restart` (start-up without index files) returns.  Start-up reads the id and the file of a closed blob
only, so the state need not satisfy the invariant itself: it is enough that every blob stands as one that does
(`Stands`, `restartWithIndexes_toB_of`).  The last part holds the vocabulary the end-to-end statements about `BState`
are written in: `SameViews`, `SameAnswers` (two storages answer every query alike), `L2Answers` (a storage answers as
an L2 store), and `L2Answers.same`, which gives the first from the second.
-/
namespace Pearl.E2E
open Pearl Pearl.BPTree Pearl.Container

section
variable {cfg : Cfg} {sha : List Nat → List Nat}

/-- the blobs `Blob::from_file` returned, one for each blob of the state, each starting as the regenerated one -/
inductive AllStart (cfg : Cfg) (sha : List Nat → List Nat) : List BBlob → List CBlob → Prop where
  | nil : AllStart cfg sha [] []
  | cons {x : BBlob} {b : CBlob} {xs : List BBlob} {bs : List CBlob} (h : StartsAs cfg sha x b)
      (t : AllStart cfg sha xs bs) : AllStart cfg sha (x :: xs) (b :: bs)

/-- the blobs of `BState.restart` after regeneration -/
def regenerated (cfg : Cfg) (sha : List Nat → List Nat) (l : List CBlob) : List BBlob :=
  l.map (fun b => (reidx cfg b).toB sha)

/-- the blob `x` that `Blob::from_file` returned WITH the index file starts as the blob `y` it returns WITHOUT:
    the same blob after `dump`, `y` after `load_index`, the same id -/
def StartsAsB (cfg : Cfg) (sha : List Nat → List Nat) (x y : BBlob) : Prop :=
  x.dump cfg sha = y.dump cfg sha ∧ loadIndexOrRegenB cfg x = some y ∧ x.id = y.id

/-- the blobs `read_blobs` returned with the index files against those it returns without, pairwise -/
inductive AllStartB (cfg : Cfg) (sha : List Nat → List Nat) : List BBlob → List BBlob → Prop where
  | nil : AllStartB cfg sha [] []
  | cons {x y : BBlob} {xs ys : List BBlob} (h : StartsAsB cfg sha x y) (t : AllStartB cfg sha xs ys) :
      AllStartB cfg sha (x :: xs) (y :: ys)

theorem AllStartB.map_dump {xs ys : List BBlob} (h : AllStartB cfg sha xs ys) :
    xs.map (BBlob.dump cfg sha) = ys.map (BBlob.dump cfg sha) := by
  induction h with
  | nil => rfl
  | cons h _ ih => simp only [List.map_cons]; rw [h.1, ih]

theorem AllStartB.dropLast {xs ys : List BBlob} (h : AllStartB cfg sha xs ys) :
    AllStartB cfg sha xs.dropLast ys.dropLast := by
  induction h with
  | nil => exact .nil
  | @cons x y xs ys hx t ih =>
    cases t with
    | nil => exact .nil
    | cons hy t' =>
      simp only [List.dropLast_cons_cons]
      exact .cons hx ih

theorem AllStartB.getLast {xs ys : List BBlob} (h : AllStartB cfg sha xs ys) :
    (xs.getLast? = none ∧ ys.getLast? = none) ∨
      ∃ a y, xs.getLast? = some a ∧ ys.getLast? = some y ∧ StartsAsB cfg sha a y := by
  induction h with
  | nil => exact Or.inl ⟨rfl, rfl⟩
  | @cons x y xs ys hx t ih =>
    right
    cases t with
    | nil => exact ⟨x, y, rfl, rfl, hx⟩
    | cons hy t' =>
      rcases ih with ⟨h1, _⟩ | ⟨a, y', h1, h2, h3⟩
      · simp at h1
      · refine ⟨a, y', ?_, ?_, h3⟩
        · rw [List.getLast?_cons_cons]; exact h1
        · rw [List.getLast?_cons_cons]; exact h2

theorem AllStartB.ids {xs ys : List BBlob} (h : AllStartB cfg sha xs ys) : xs.map (·.id) = ys.map (·.id) := by
  induction h with
  | nil => rfl
  | cons h _ ih => simp only [List.map_cons]; rw [h.2.2, ih]

theorem AllStart.toB {xs : List BBlob} {bs : List CBlob} (h : AllStart cfg sha xs bs) :
    AllStartB cfg sha xs (regenerated cfg sha bs) := by
  induction h with
  | nil => exact .nil
  | cons h _ ih => exact .cons h ih

theorem AllStart.length {xs : List BBlob} {bs : List CBlob} (h : AllStart cfg sha xs bs) : xs.length = bs.length := by
  induction h with
  | nil => rfl
  | cons _ _ ih => simp [ih]

/-- what start-up knows of the closed blob `b`: a blob `ρ b` with the invariant that has its id, file and records (`b`
    itself; for a blob whose filter is off-loaded, the blob with the filter back in memory) -/
def Stands (cfg : Cfg) (ρ : CBlob → CBlob) (b : CBlob) : Prop :=
  BlobInv cfg (ρ b) ∧ (ρ b).id = b.id ∧ (ρ b).file = b.file ∧ (ρ b).ghost = b.ghost

theorem startAllB_spec (ρ : CBlob → CBlob) (dir : Nat → Option (List Nat)) : ∀ (l : List CBlob),
    (∀ b ∈ l, (b.ghost = [] ∧ (dir b.id).isSome = true → fromFileB cfg (b.toB sha) (dir b.id) = none) ∧
      (¬ (b.ghost = [] ∧ (dir b.id).isSome = true) →
        ∃ x, fromFileB cfg (b.toB sha) (dir b.id) = some x ∧ StartsAs cfg sha x (ρ b))) →
    ((∃ b ∈ l, b.ghost = [] ∧ (dir b.id).isSome = true) → startAllB cfg dir (l.map (CBlob.toB sha)) = none) ∧
    ((¬ ∃ b ∈ l, b.ghost = [] ∧ (dir b.id).isSome = true) →
      ∃ xs, startAllB cfg dir (l.map (CBlob.toB sha)) = some xs ∧ AllStart cfg sha xs (l.map ρ))
  | [], _ => by
    refine ⟨?_, fun _ => ⟨[], rfl, .nil⟩⟩
    rintro ⟨b, hb, _⟩
    cases hb
  | b :: l, h => by
    obtain ⟨ih1, ih2⟩ := startAllB_spec ρ dir l (fun x hx => h x (by simp [hx]))
    obtain ⟨hb1, hb2⟩ := h b (by simp)
    have hid : (b.toB sha).id = b.id := rfl
    simp only [List.map_cons, startAllB, hid]
    constructor
    · rintro ⟨x, hx, hbad⟩
      rcases List.mem_cons.mp hx with rfl | hx
      · rw [hb1 hbad]
      · rw [ih1 ⟨x, hx, hbad⟩]
        cases fromFileB cfg (b.toB sha) (dir b.id) <;> rfl
    · intro hno
      obtain ⟨x, hx, hs⟩ := hb2 (fun hbad => hno ⟨b, by simp, hbad⟩)
      obtain ⟨xs, hxs, hall⟩ := ih2 (fun ⟨y, hy, hbad⟩ => hno ⟨y, by simp [hy], hbad⟩)
      exact ⟨x :: xs, by rw [hx, hxs], .cons hs hall⟩

/-- the start-up without index files regenerates every blob from its file -/
theorem regenAllB_of (ρ : CBlob → CBlob) : ∀ (l : List CBlob), (∀ b ∈ l, Stands cfg ρ b) →
    regenAllB cfg (l.map (CBlob.toB sha)) = some (regenerated cfg sha (l.map ρ))
  | [], _ => rfl
  | b :: l, h => by
    obtain ⟨hb, hid, hfile, _⟩ := h b (by simp)
    simp only [List.map_cons, regenAllB, regenerated, regenAllB_of ρ l fun x hx => h x (by simp [hx]),
      regenB_of_file cfg (x := b.toB sha) (y := (ρ b).toB sha) hid.symm hfile.symm, regenB_toB hb]

/-- what the directory holds next to the blob files of the state `c`: for every blob no index file, or (i) the
    image dumped for its current records, or (ii) the image dumped for a strict prefix of them, or (iii) bytes the
    validation rejects -/
def DirChoice (cfg : Cfg) (sha : List Nat → List Nat) (c : CState) (dir : Nat → Option (List Nat)) : Prop :=
  ∀ b ∈ c.blobs, IdxChoice cfg sha b.ghost (dir b.id)

/-- an index file lies next to a blob file that holds no record -/
def IndexBesideEmpty (c : CState) (dir : Nat → Option (List Nat)) : Prop :=
  ∃ b ∈ c.blobs, b.ghost = [] ∧ (dir b.id).isSome = true

/-- **start-up with index files against start-up without**, for a state every blob of which stands as a blob with
    the invariant (`Stands`): for every directory of current / stale / rejected index files, `restartWithIndexes` fails
    exactly when an index file lies next to a blob without records, and otherwise returns the very storage
    `BState.restart` returns -/
theorem restartWithIndexes_toB_of (hB : BytesOK cfg sha) {c : CState} (ρ : CBlob → CBlob)
    (hρ : ∀ b ∈ c.blobs, Stands cfg ρ b) (h3 : ∀ b ∈ c.blobs, Sized3 cfg b.ghost) (dir : Nat → Option (List Nat))
    (hdir : DirChoice cfg sha c dir) (lazy : Bool) :
    (IndexBesideEmpty c dir → (c.toB sha).restartWithIndexes cfg sha dir lazy = none) ∧
    (¬ IndexBesideEmpty c dir →
      (c.toB sha).restartWithIndexes cfg sha dir lazy = some ((c.toB sha).restart cfg sha lazy)) := by
  obtain ⟨hfail, hok⟩ := startAllB_spec (cfg := cfg) (sha := sha) ρ dir (sortById c.blobs) (fun b hb => by
    obtain ⟨hb', hid, hfile, hg⟩ := hρ b (mem_sortById.mp hb)
    have := fromFileB_choice hB hb' (hg ▸ h3 b (mem_sortById.mp hb)) (hg ▸ hid ▸ hdir b (mem_sortById.mp hb))
    rwa [fromFileB_of_file cfg (x := (ρ b).toB sha) (y := b.toB sha) _ hid hfile, hg, hid] at this)
  have hiff : (∃ b ∈ sortById c.blobs, b.ghost = [] ∧ (dir b.id).isSome = true) ↔ IndexBesideEmpty c dir := by
    unfold IndexBesideEmpty
    constructor
    · rintro ⟨b, hb, h⟩; exact ⟨b, mem_sortById.mp hb, h⟩
    · rintro ⟨b, hb, h⟩; exact ⟨b, mem_sortById.mpr hb, h⟩
  constructor
  · intro hbad
    unfold BState.restartWithIndexes
    rw [blobs_toB, sortByIdB_map, hfail (hiff.mpr hbad)]
  · intro hno
    obtain ⟨xs, hxs, hall⟩ := hok (fun h => hno (hiff.mp h))
    have hallB := hall.toB
    have hmax : xs.foldl (fun m b => max m (b.id + 1)) 0
        = (regenerated cfg sha ((sortById c.blobs).map ρ)).foldl (fun m b => max m (b.id + 1)) 0 :=
      foldl_maxSucc_congr BBlob.id BBlob.id _ _ 0 hallB.ids
    unfold BState.restartWithIndexes BState.restart
    rw [blobs_toB, sortByIdB_map, hxs, regenAllB_of ρ _ fun b hb => hρ b (mem_sortById.mp hb)]
    simp only []
    cases lazy with
    | true =>
      simp only [if_true]
      rw [hallB.map_dump, hmax]
    | false =>
      simp only [Bool.false_eq_true, if_false]
      rcases hallB.getLast with ⟨h1, h2⟩ | ⟨a, y, h1, h2, h3'⟩
      · rw [h1, h2]
      · rw [h1, h2]
        simp only [h3'.2.1]
        rw [hallB.dropLast.map_dump, hmax]

/-! ### sizes, and what it means that two storages answer alike -/

theorem storeIdxSized_of_history {s s' : Store} (hh : s'.history = s.history) (h : StoreIdxSized cfg s) :
    StoreIdxSized cfg s' := by
  intro b' hb'
  have : (b'.id, b'.recs) ∈ s'.history := List.mem_map.mpr ⟨b', hb', rfl⟩
  rw [hh] at this
  obtain ⟨b, hb, he⟩ := List.mem_map.mp this
  simp only [Prod.mk.injEq] at he
  rw [← he.2]
  exact h b hb

theorem sized3_of_store {c : CState} (h : StoreIdxSized cfg (c.abs cfg)) : ∀ b ∈ c.blobs, Sized3 cfg b.ghost :=
  forall_abs_blobs.mp h

/-- the two lists of entries have the same views (key, timestamp, marker flag, what `Entry::load` returns) -/
def SameViews (r r' : Except CErr (List CEntry)) : Prop :=
  ∃ es es', r = .ok es ∧ r' = .ok es' ∧ es'.map entryView = es.map entryView

theorem dirChoice_of_abs {c : CState} {dir : Nat → Option (List Nat)}
    (h : ∀ x ∈ (c.abs cfg).blobs, IdxChoice cfg sha x.recs (dir x.id)) : DirChoice cfg sha c dir :=
  forall_abs_blobs.mp h

theorem indexBesideEmpty_iff (cfg : Cfg) (c : CState) (dir : Nat → Option (List Nat)) :
    IndexBesideEmpty c dir ↔ ∃ x ∈ (c.abs cfg).blobs, x.recs = [] ∧ (dir x.id).isSome = true := by
  unfold IndexBesideEmpty
  rw [abs_blobs]
  constructor
  · rintro ⟨b, hb, h⟩
    exact ⟨b.abs, List.mem_map.mpr ⟨b, hb, rfl⟩, h⟩
  · rintro ⟨x, hx, h⟩
    obtain ⟨b, hb, rfl⟩ := List.mem_map.mp hx
    exact ⟨b, hb, h⟩

/-- every answer of the storage `b'` is the answer of `b` -/
def SameAnswers (cfg : Cfg) (b b' : BState) : Prop :=
  ∀ k : Key,
    (∀ m, (∀ x, m = some x → MetaOK x) → b'.readWithOpt cfg k m = b.readWithOpt cfg k m) ∧
    (∀ m, (∀ x, m = some x → MetaOK x) → b'.containsWith cfg k m = b.containsWith cfg k m) ∧
    SameViews (b.readAllMarked cfg k) (b'.readAllMarked cfg k) ∧
    SameViews (b.readAll cfg k) (b'.readAll cfg k)

/-- for the key `k`, every read of the byte-level storage `b` returns without error what the L2 store `s` answers
    (the two entry lists: pairwise the entries of the L2 records) -/
def L2Answers (cfg : Cfg) (b : BState) (s : Store) (k : Key) : Prop :=
  (∀ m, (∀ x, m = some x → MetaOK x) → b.readWithOpt cfg k m = .ok ((s.read k m).map (fun r => dataOf r.data))) ∧
  (∀ m, (∀ x, m = some x → MetaOK x) → b.containsWith cfg k m = .ok ((s.getLatestEntry k m).map (·.ts))) ∧
  (∃ Z : List (Rec × CEntry), b.readAllMarked cfg k = .ok (Z.map (·.2)) ∧ s.readAllMarked k = Z.map (·.1) ∧
    ∀ x ∈ Z, EntryOf x) ∧
  (∃ Z : List (Rec × CEntry), b.readAll cfg k = .ok (Z.map (·.2)) ∧ s.readAll k = Z.map (·.1) ∧ ∀ x ∈ Z, EntryOf x)

theorem L2Answers.same {b b' : BState} {s s' : Store} (h : ∀ k, L2Answers cfg b s k) (h' : ∀ k, L2Answers cfg b' s' k)
    (hans : ∀ k, s'.readAllMarked k = s.readAllMarked k ∧ s'.readAll k = s.readAll k ∧
      ∀ m, s'.getLatestEntry k m = s.getLatestEntry k m) :
    SameAnswers cfg b b' := by
  intro k
  obtain ⟨a1, a2, ⟨Z, a3, a3', a3z⟩, ⟨Y, a4, a4', a4z⟩⟩ := h k
  obtain ⟨b1, b2, ⟨Z', b3, b3', b3z⟩, ⟨Y', b4, b4', b4z⟩⟩ := h' k
  obtain ⟨e1, e2, e3⟩ := hans k
  refine ⟨fun m hm => ?_, fun m hm => ?_, ?_, ?_⟩
  · rw [a1 m hm, b1 m hm]
    unfold Store.read
    rw [e3 m]
  · rw [a2 m hm, b2 m hm, e3 m]
  · refine ⟨_, _, a3, b3, ?_⟩
    rw [views_eq Z a3z, views_eq Z' b3z, ← a3', ← b3', e1]
  · refine ⟨_, _, a4, b4, ?_⟩
    rw [views_eq Y a4z, views_eq Y' b4z, ← a4', ← b4', e2]

end
end Pearl.E2E
