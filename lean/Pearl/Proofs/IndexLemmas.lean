import Pearl.Model.Index
import Pearl.Proofs.ListLemmas
/-
The in-memory index vector (`push`, `vecOf`): wherever the linear scan of `push` starts, as long as
the start is admissible, the new header lands after the last one with a timestamp `≤` its own, so
`push` is stable insertion (`ins`, stated for any element type and key so that it also applies to
records with positions attached) and `vecOf` is the stable sort of the key's records.
-/
namespace Pearl

/-- stable insertion by key `f`, after every element with a key `≤` the new one -/
def ins {α} (f : α → Nat) (v : List α) (h : α) : List α :=
  v.takeWhile (fun a => decide (f a ≤ f h)) ++ h :: v.dropWhile (fun a => decide (f a ≤ f h))

/-- ascending by key `f`, ties related by `R` -/
def AscBy {α} (f : α → Nat) (R : α → α → Prop) (a b : α) : Prop := f a < f b ∨ (f a = f b ∧ R a b)

/-- `x` put after the longest prefix of `l` satisfying `p`: stable insertion into an ascending list
    (`ins`, `p a = f a ≤ f x`) and into a descending one (`insertDescBy` of `StoreLemmas.lean`,
    `p a = f x < f a`) -/
def insAfter {α} (p : α → Bool) (x : α) (l : List α) : List α := l.takeWhile p ++ x :: l.dropWhile p

theorem insAfter_perm {α} (p : α → Bool) (x : α) (l : List α) : (insAfter p x l).Perm (x :: l) := by
  refine List.perm_middle.trans (List.Perm.cons _ ?_)
  rw [List.takeWhile_append_dropWhile]

theorem insAfter_map {α β} (g : α → β) (p : β → Bool) (x : α) (l : List α) :
    (insAfter (fun a => p (g a)) x l).map g = insAfter p (g x) (l.map g) := by
  simp [insAfter, List.takeWhile_map, List.dropWhile_map, Function.comp_def]

theorem insAfter_pairwise {α} {R : α → α → Prop} {p : α → Bool} {x : α} {l : List α}
    (hl : l.Pairwise R) (h1 : ∀ a ∈ l.takeWhile p, R a x) (h2 : ∀ b ∈ l.dropWhile p, R x b) :
    (insAfter p x l).Pairwise R := by
  rw [← List.takeWhile_append_dropWhile (p := p) (l := l), List.pairwise_append] at hl
  exact List.pairwise_append.2 ⟨hl.1, List.pairwise_cons.2 ⟨h2, hl.2.1⟩,
    fun a ha b hb => (List.mem_cons.1 hb).elim (· ▸ h1 a ha) (hl.2.2 a ha b)⟩

theorem ins_perm {α} (f : α → Nat) (v : List α) (h : α) : (ins f v h).Perm (h :: v) :=
  insAfter_perm _ h v

theorem mem_ins {α} {f : α → Nat} {v : List α} {h a : α} : a ∈ ins f v h ↔ a = h ∨ a ∈ v := by
  rw [(ins_perm f v h).mem_iff]; simp

theorem ins_map {α β} (g : α → β) (f : β → Nat) (v : List α) (h : α) :
    (ins (fun a => f (g a)) v h).map g = ins f (v.map g) (g h) :=
  insAfter_map g (fun b => decide (f b ≤ f (g h))) h v

theorem foldl_ins_map {α β} (g : α → β) (f : β → Nat) (l acc : List α) :
    (l.foldl (ins (fun a => f (g a))) acc).map g = (l.map g).foldl (ins f) (acc.map g) := by
  induction l generalizing acc with
  | nil => rfl
  | cons x xs ih => simp only [List.foldl_cons, List.map_cons]; rw [ih, ins_map]

theorem lt_of_mem_dropWhile {α} {f : α → Nat} {R : α → α → Prop} {t : Nat} {v : List α}
    (hv : v.Pairwise (AscBy f R)) : ∀ x ∈ v.dropWhile (fun a => decide (f a ≤ t)), t < f x := by
  intro x hx
  obtain ⟨c, hc, h⟩ := mem_dropWhile_cases hv x hx
  have : t < f c := by simpa using hc
  rcases h with rfl | h | h <;> omega

theorem le_of_mem_takeWhile {α} {f : α → Nat} {t : Nat} {v : List α} :
    ∀ x ∈ v.takeWhile (fun a => decide (f a ≤ t)), f x ≤ t := fun x hx => by
  simpa using of_mem_takeWhile x hx

theorem AscBy.of_le {α} {f : α → Nat} {R : α → α → Prop} {a b : α} (h : f a ≤ f b) (hR : R a b) :
    AscBy f R a b := by
  by_cases e : f a = f b
  · exact .inr ⟨e, hR⟩
  · exact .inl (by omega)

/-- insertion keeps `AscBy f R` order provided everything already present is `R`-related to the
    new element (e.g. "was appended earlier") -/
theorem ins_pairwise {α} {f : α → Nat} {R : α → α → Prop} {v : List α} {h : α}
    (hv : v.Pairwise (AscBy f R)) (hR : ∀ a ∈ v, R a h) : (ins f v h).Pairwise (AscBy f R) :=
  insAfter_pairwise hv
    (fun a ha => .of_le (le_of_mem_takeWhile a ha) (hR a ((List.takeWhile_prefix _).subset ha)))
    fun b hb => .inl (lt_of_mem_dropWhile hv b hb)

theorem foldl_ins_pairwise {α} {f : α → Nat} {R : α → α → Prop} :
    ∀ (l acc : List α), acc.Pairwise (AscBy f R) → l.Pairwise R → (∀ a ∈ acc, ∀ b ∈ l, R a b) →
      (l.foldl (ins f) acc).Pairwise (AscBy f R)
  | [], acc, hacc, _, _ => hacc
  | x :: xs, acc, hacc, hl, hx => by
    rw [List.pairwise_cons] at hl
    simp only [List.foldl_cons]
    refine foldl_ins_pairwise xs _ (ins_pairwise hacc fun a ha => hx a ha x (by simp)) hl.2 ?_
    intro a ha b hb
    rcases mem_ins.1 ha with rfl | ha
    · exact hl.1 b hb
    · exact hx a ha b (by simp [hb])

theorem foldl_ins_perm {α} (f : α → Nat) :
    ∀ (l acc : List α), (l.foldl (ins f) acc).Perm (acc ++ l)
  | [], acc => by simp
  | x :: xs, acc => by
    simp only [List.foldl_cons]
    refine (foldl_ins_perm f xs _).trans ?_
    refine ((ins_perm f acc x).append_right xs).trans ?_
    simpa using (List.perm_middle (a := x) (l₁ := acc) (l₂ := xs)).symm

theorem skipLEAux_eq (ts : Nat) (l : List Rec) (pos : Nat) :
    skipLEAux ts l pos = pos + (l.takeWhile (fun r => decide (r.ts ≤ ts))).length := by
  induction l generalizing pos with
  | nil => simp [skipLEAux]
  | cons r rs ih =>
    simp only [skipLEAux]
    split
    · rename_i h; rw [ih, List.takeWhile_cons_of_pos (by simpa using h)]; simp; omega
    · rename_i h; rw [List.takeWhile_cons_of_neg (by simpa using h)]; simp

theorem skipLE_of_admissible {v : List Rec} {ts st : Nat} (h : Admissible v ts st) :
    skipLE v ts st = (v.takeWhile (fun r => decide (r.ts ≤ ts))).length := by
  unfold skipLE
  rw [skipLEAux_eq, takeWhile_eq_take_append _ st v h.1 (fun a ha => by simpa using h.2 a ha)]
  simp [List.length_take, Nat.min_eq_left h.1]

theorem admissible_zero (v : List Rec) (ts : Nat) : Admissible v ts 0 := by
  simp [Admissible]

/-- any two admissible starts of the linear scan give the same vector -/
theorem pushAt_start_independent {v : List Rec} {h : Rec} {st st' : Nat}
    (hst : Admissible v h.ts st) (hst' : Admissible v h.ts st') : pushAt v h st = pushAt v h st' := by
  unfold pushAt
  rw [skipLE_of_admissible hst, skipLE_of_admissible hst']

/-- whatever admissible start the `len > 4` binary-search branch returns on a sorted vector, the
    result is that of the linear scan from `0` (`pushAt_start_independent`, which does not ask for
    a sorted vector) -/
theorem push_start_independent {v : List Rec} {h : Rec} {st : Nat}
    (_hv : v.Pairwise (fun a b => a.ts ≤ b.ts)) (hst : Admissible v h.ts st) :
    pushAt v h st = pushAt v h 0 :=
  pushAt_start_independent hst (admissible_zero v h.ts)

theorem searchStart_admissible (v : List Rec) (ts : Nat) : Admissible v ts (searchStart v ts) := by
  unfold searchStart
  split
  · refine ⟨(List.takeWhile_prefix _).length_le, ?_⟩
    intro r hr
    have hpre : (v.takeWhile fun r => decide (r.ts < ts)) <+: v := List.takeWhile_prefix _
    have e := (List.prefix_iff_eq_take.1 hpre).symm
    rw [e] at hr
    have := of_mem_takeWhile r hr
    simp at this
    omega
  · exact admissible_zero v ts

/-- `push` is stable insertion by timestamp, wherever its scan starts -/
theorem push_eq (v : List Rec) (h : Rec) : push v h = ins Rec.ts v h := by
  rw [push, pushAt_start_independent (searchStart_admissible v h.ts) (admissible_zero v h.ts), pushAt,
    skipLE_of_admissible (admissible_zero v h.ts), insertIdx_takeWhile_length]
  rfl

theorem push_perm (v : List Rec) (h : Rec) : (push v h).Perm (h :: v) := by
  rw [push_eq]; exact ins_perm _ _ _

theorem ascBy_true_iff {a b : Rec} : AscBy Rec.ts (fun _ _ => True) a b ↔ a.ts ≤ b.ts := by
  unfold AscBy; simp only [and_true]; omega

theorem push_sorted {v : List Rec} (h : Rec) (hv : v.Pairwise (fun a b => a.ts ≤ b.ts)) :
    (push v h).Pairwise (fun a b => a.ts ≤ b.ts) := by
  rw [push_eq]
  have hv' : v.Pairwise (AscBy Rec.ts (fun _ _ => True)) := hv.imp ascBy_true_iff.2
  exact (ins_pairwise hv' (fun _ _ => trivial)).imp ascBy_true_iff.1

theorem vecOf_eq_foldl_ins (recs : List Rec) (k : Key) :
    vecOf recs k = (recs.filter (fun r => r.key == k)).foldl (ins Rec.ts) [] :=
  congrArg (fun f => List.foldl f [] _) (funext fun v => funext (push_eq v))

theorem vecOf_nil (k : Key) : vecOf [] k = [] := rfl

theorem vecOf_append_singleton (recs : List Rec) (r : Rec) (k : Key) :
    vecOf (recs ++ [r]) k =
      if r.key == k then
        (vecOf recs k).takeWhile (fun x => decide (x.ts ≤ r.ts)) ++
          r :: (vecOf recs k).dropWhile (fun x => decide (x.ts ≤ r.ts))
      else vecOf recs k := by
  unfold vecOf
  rw [List.filter_append]
  by_cases hk : (r.key == k) = true
  · simp only [hk, List.filter_cons_of_pos, List.filter_nil, List.foldl_append, List.foldl_cons,
      List.foldl_nil, if_true]
    exact push_eq _ r
  · simp [hk]

theorem vecOf_perm (recs : List Rec) (k : Key) :
    (vecOf recs k).Perm (recs.filter (fun r => r.key == k)) := by
  rw [vecOf_eq_foldl_ins]
  simpa using foldl_ins_perm Rec.ts (recs.filter (fun r => r.key == k)) []

theorem vecOf_sorted (recs : List Rec) (k : Key) :
    (vecOf recs k).Pairwise (fun a b => a.ts ≤ b.ts) := by
  rw [vecOf_eq_foldl_ins]
  have := foldl_ins_pairwise (f := Rec.ts) (R := fun _ _ => True)
    (recs.filter (fun r => r.key == k)) [] List.Pairwise.nil
    (List.pairwise_of_forall (fun _ _ => trivial)) (by simp)
  exact this.imp ascBy_true_iff.1

theorem mem_vecOf {recs : List Rec} {k : Key} {r : Rec} :
    r ∈ vecOf recs k ↔ r ∈ recs ∧ r.key = k := by
  rw [(vecOf_perm recs k).mem_iff]; simp

theorem vecOf_eq_nil_iff {recs : List Rec} {k : Key} :
    vecOf recs k = [] ↔ ∀ r ∈ recs, r.key ≠ k := by
  rw [List.eq_nil_iff_forall_not_mem]
  constructor
  · intro h r hr hk; exact h r (mem_vecOf.2 ⟨hr, hk⟩)
  · intro h r hr; exact h r (mem_vecOf.1 hr).1 (mem_vecOf.1 hr).2

end Pearl
