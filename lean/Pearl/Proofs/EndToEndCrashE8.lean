import Pearl.Proofs.EndToEndCrashTorn
import Pearl.Proofs.EndToEndGhost
/-
End-to-end crash recovery: finding E8 on the composed storage, and the history variable.

The tail record `n` of a blob `b₀` is cut inside its meta / data, its header is complete, and start-up accepts it
(`fate … = .opened n true`: the scan does not validate data, or the record has no data).  A torn tail can be left in
the active blob, and also in a closed blob (a deletion marker appended by `delete`), and with `init_lazy` every blob
ends up in the container; so `b₀` may be any blob and `lazy` is arbitrary.  The recovered storage `c₁` is compared
with `c₂`, the storage recovered from the crash in which that record had been written completely (`cutPlus`): `c₂`
satisfies `CInv` (so it answers per `Spec` on the history that contains the torn record), and `c₁` is `c₂` with the
cut file in the blob of that id (`CState.mapBlobs (refileId …)`), wherever that blob sits (active, or a child of the
container, dumped or not).  Hence `contains` answers alike, and `read` answers alike or fails with `Bincode` — it
never returns other bytes (`torn_recover_any`).  For the active blob and `lazy = false`, `c₁` is `c₂` with another
active blob (`torn_recover`), and the read of the torn record's key fails when the read path ranks it first: the
record is not a deletion marker, no earlier record of its key in the active blob and no record of its key in a
closed blob has a greater timestamp (`crash_torn_tail_E8_read_fails` of `Pearl/Props/EndToEndCrash.lean`, from
`torn_active_answer`, `getLatestEntry_ts`, `foldEntries_bound` here).

The history variable `ghost` is pure instrumentation for crash + start-up too: for ANY state (no invariant) the
physical part (files, indexes, filters, container, `next_blob_id`) of the crashed directory and of the recovered
storage is a function of the physical part of the state before the crash (`crashRecover_ghost_irrelevant`).
-/
namespace Pearl.E2E
open Pearl Pearl.BPTree Pearl.Container

/-- the cut at which record `n` of blob `a` is complete and nothing after it is -/
def cutPlus (cfg : Cfg) (a : CBlob) (n : Nat) (cut : Nat → Nat) : Nat → Nat :=
  fun id => if id = a.id then Fs.contentLen cfg.klen (a.ghost.take (n + 1)) else cut id

theorem blobs_of_active {c : CState} {a : CBlob} (ha : c.active = some a) :
    c.blobs = closedBlobs c.cont ++ [a] := by
  unfold CState.blobs; rw [ha]; rfl

theorem closed_id_ne {I : CBlob → Prop} {cfg : Cfg} {c : CState} (hinv : CInvG I cfg c) {a : CBlob}
    (ha : c.active = some a) {b : CBlob} (hb : b ∈ closedBlobs c.cont) : b.id ≠ a.id := by
  have hs := ids_pairwise hinv.wf
  rw [blobs_of_active ha, List.map_append, List.pairwise_append] at hs
  have := hs.2.2 b.id (List.mem_map.mpr ⟨b, hb, rfl⟩) a.id (by simp)
  omega

theorem surv_cutPlus_of_ne (cfg : Cfg) (a : CBlob) (n : Nat) (cut : Nat → Nat) (b : CBlob) (h : b.id ≠ a.id) :
    surv cfg (cutPlus cfg a n cut) b = surv cfg cut b := by
  unfold surv cutPlus
  rw [if_neg h]

theorem fate_boundary (klen : Nat) (v : Bool) (recs : List Rec) (m : Nat) (hm : m ≤ recs.length) :
    fate klen v recs (Fs.contentLen klen (recs.take m)) = .opened m false := by
  unfold fate
  rw [cutKind_boundary klen recs m hm]

theorem surv_cutPlus_self (cfg : Cfg) (a : CBlob) (n : Nat) (cut : Nat → Nat) (hn : n < a.ghost.length) :
    surv cfg (cutPlus cfg a n cut) a =
      some (recovered cfg a (Fs.contentLen cfg.klen (a.ghost.take (n + 1))) (n + 1) (n + 1)) := by
  unfold surv cutPlus
  rw [if_pos rfl, fate_boundary cfg.klen cfg.validateData a.ghost (n + 1) (by omega)]
  rfl

theorem filterMap_surv_cutPlus {I : CBlob → Prop} {cfg : Cfg} {c : CState} (hinv : CInvG I cfg c) {a : CBlob}
    (ha : c.active = some a) (n : Nat) (cut : Nat → Nat) :
    (closedBlobs c.cont).filterMap (surv cfg (cutPlus cfg a n cut)) = (closedBlobs c.cont).filterMap (surv cfg cut) :=
  filterMap_congr' (fun b hb => surv_cutPlus_of_ne cfg a n cut b (closed_id_ne hinv ha hb))

/-! ### the vector of a key when the last pushed header has the greatest timestamp -/

theorem ins_of_all_le {α : Type} {f : α → Nat} {v : List α} {h : α} (hle : ∀ a ∈ v, f a ≤ f h) :
    ins f v h = v ++ [h] := by
  have hp : ∀ a ∈ v, decide (f a ≤ f h) = true := fun a ha => by simpa using hle a ha
  have h1 := List.takeWhile_append_of_pos (l₂ := []) hp
  have h2 := List.dropWhile_append_of_pos (l₂ := []) hp
  rw [List.append_nil] at h1 h2
  unfold ins
  rw [h1, h2, List.takeWhile_nil, List.dropWhile_nil, List.append_nil]

theorem hvecOf_snoc_self (hs : List RecHeader) (h : RecHeader) :
    hvecOf (hs ++ [h]) (hdrKey h) = ins RecHeader.timestamp (hvecOf hs (hdrKey h)) h := by
  unfold hvecOf
  rw [List.filter_append, List.foldl_append]
  simp

theorem mem_hvecOf {hs : List RecHeader} {k : Nat} {x : RecHeader} (hx : x ∈ hvecOf hs k) :
    x ∈ hs ∧ hdrKey x = k := by
  unfold hvecOf at hx
  have := (foldl_ins_perm RecHeader.timestamp (hs.filter (fun h => hdrKey h == k)) []).mem_iff.mp hx
  rw [List.nil_append, List.mem_filter, beq_iff_eq] at this
  exact this

theorem memLatest_snoc_of_le (hs : List RecHeader) (h : RecHeader)
    (hle : ∀ x ∈ hs, hdrKey x = hdrKey h → x.timestamp ≤ h.timestamp) :
    memLatest (indexOf (hs ++ [h])) (hdrKey h) = some h := by
  rw [memLatest_indexOf, hvecOf_snoc_self, ins_of_all_le]
  · simp
  · intro a ha
    obtain ⟨h1, h2⟩ := mem_hvecOf ha
    exact hle a h1 h2

/-! ### the headers of a blob, position by position -/

theorem hdrsOf_getElem? (cfg : Cfg) (recs : List Rec) (j : Nat) (h : RecHeader)
    (hh : (hdrsOf cfg recs)[j]? = some h) : ∃ r off, recs[j]? = some r ∧ h = hdrOf cfg.klen r off := by
  unfold hdrsOf at hh
  rw [blobHeaders_full, List.getElem?_map] at hh
  cases hp : (withOff cfg.klen blobHeaderSize recs)[j]? with
  | none => rw [hp] at hh; cases hh
  | some p =>
    rw [hp] at hh
    simp only [Option.map_some, Option.some.injEq] at hh
    refine ⟨p.1, p.2, ?_, hh.symm⟩
    have : ((withOff cfg.klen blobHeaderSize recs).map (·.1))[j]? = some p.1 := by
      rw [List.getElem?_map, hp]; rfl
    rwa [withOff_fst] at this

/-! ### the answer of the active blob with the torn tail -/

theorem torn_active_answer {cfg : Cfg} {a : CBlob} (hb : BlobInv cfg a) (t n : Nat) (r : Rec)
    (hr : a.ghost[n]? = some r) (hdel : r.del = false)
    (hA : ∀ j r', j < n → a.ghost[j]? = some r' → r'.key = r.key → r'.ts ≤ r.ts) :
    ∃ h, (hdrsOf cfg a.ghost)[n]? = some h ∧ h.timestamp = r.ts ∧
      (recovered cfg a t n (n + 1)).getLatestEntry cfg r.key = .ok (.found ⟨h, a.file.take t⟩) := by
  have hn : n < a.ghost.length := by
    rcases Nat.lt_or_ge n a.ghost.length with h | h
    · exact h
    · rw [List.getElem?_eq_none h] at hr; cases hr
  have hnh : n < (hdrsOf cfg a.ghost).length := by rw [hdrsOf_length]; exact hn
  have hrk : r.key < 256 ^ cfg.klen := hb.key r (List.mem_of_getElem? hr)
  obtain ⟨r0, off, hr0, hh⟩ := hdrsOf_getElem? cfg a.ghost n _ (List.getElem?_eq_getElem hnh)
  rw [hr] at hr0
  cases hr0
  have hkey : hdrKey (hdrsOf cfg a.ghost)[n] = r.key := by rw [hh]; exact hdrOf_key_of_lt _ _ _ hrk
  have hts : (hdrsOf cfg a.ghost)[n].timestamp = r.ts := by rw [hh]; exact hdrOf_timestamp _ _ _
  have hdl : (hdrsOf cfg a.ghost)[n].isDeleted = false := by rw [hh, hdrOf_isDeleted]; exact hdel
  have hsplit : (hdrsOf cfg a.ghost).take (n + 1) = (hdrsOf cfg a.ghost).take n ++ [(hdrsOf cfg a.ghost)[n]] :=
    List.take_succ_eq_append_getElem hnh
  have hlatest : memLatest (indexOf ((hdrsOf cfg a.ghost).take (n + 1))) r.key = some (hdrsOf cfg a.ghost)[n] := by
    rw [hsplit, ← hkey]
    apply memLatest_snoc_of_le
    intro x hx hxk
    obtain ⟨j, hj, rfl⟩ := List.mem_take_iff_getElem.mp hx
    obtain ⟨r', off', hr', hx'⟩ := hdrsOf_getElem? cfg a.ghost j _ (List.getElem?_eq_getElem (Nat.lt_min.mp hj).2)
    have hj := (Nat.lt_min.mp hj).1
    have hr'k : r'.key < 256 ^ cfg.klen := hb.key r' (List.mem_of_getElem? hr')
    rw [hx', hdrOf_key_of_lt _ _ _ hr'k, hkey] at hxk
    rw [hx', hdrOf_timestamp, hts]
    exact hA j r' (by omega) hr' hxk
  refine ⟨_, List.getElem?_eq_getElem hnh, hts, ?_⟩
  unfold CBlob.getLatestEntry
  have hcf : (recovered cfg a t n (n + 1)).checkFilter cfg r.key = .needAdditionalCheck := by
    unfold CBlob.checkFilter recovered
    simp only []
    rw [indexOf_lookup_isSome, if_pos]
    rw [List.any_eq_true]
    exact ⟨(hdrsOf cfg a.ghost)[n], hsplit ▸ List.mem_append_right _ (List.Mem.head _), by simp [hkey]⟩
  rw [hcf]
  simp only [show (FilterResult.needAdditionalCheck == FilterResult.notContains) = false from rfl,
    Bool.false_eq_true, if_false]
  unfold CBlob.indexLatest
  have hgl : (recovered cfg a t n (n + 1)).index.getLatest r.key = some (some (hdrsOf cfg a.ghost)[n]) := by
    unfold recovered
    simp only [CIndex.getLatest, hlatest]
  rw [hgl]
  simp only [hdl, Bool.false_eq_true, if_false]
  rfl

/-! ### the answer of a closed blob -/

theorem getLatest_ts {b : Blob} {k : Key} {t : Nat} (h : (b.getLatest k).ts? = some t) :
    ∃ r ∈ b.recs, r.key = k ∧ r.ts = t := by
  unfold Blob.getLatest latestOfVec Blob.vec at h
  cases hl : (vecOf b.recs k).getLast? with
  | none => rw [hl] at h; cases h
  | some r =>
    rw [hl] at h
    have hmem : r ∈ vecOf b.recs k := List.mem_of_getLast? hl
    have := (vecOf_perm b.recs k).mem_iff.mp hmem
    rw [List.mem_filter, beq_iff_eq] at this
    refine ⟨r, this.1, this.2, ?_⟩
    simp only [] at h
    split at h <;> (simp only [ReadResult.ts?, Option.some.injEq] at h; exact h)

theorem getLatestEntry_ts {cfg : Cfg} {b : CBlob} (hcfg : cfg.OK) (hb : BlobInv cfg b) (k : Key) :
    ∃ x, b.getLatestEntry cfg k = .ok x ∧
      (entryTs? x = none ∨ ∃ r ∈ b.ghost, r.key = k ∧ entryTs? x = some r.ts) := by
  unfold CBlob.getLatestEntry
  by_cases hn : (b.checkFilter cfg k == .notContains) = true
  · rw [if_pos hn]; exact ⟨_, rfl, Or.inl rfl⟩
  · rw [if_neg hn]
    obtain ⟨x, hx, hrr⟩ := hb.indexLatest_rr hcfg k
    refine ⟨x, hx, ?_⟩
    rw [hrr.ts]
    cases hts : (b.abs.getLatest k).ts? with
    | none => exact Or.inl rfl
    | some t =>
      obtain ⟨r, hr, hk, ht⟩ := getLatest_ts hts
      exact Or.inr ⟨r, hr, hk, by rw [ht]⟩

/-! ### the fold keeps a bound on the timestamp -/

theorem foldEntries_bound (f : CBlob → Except CErr (ReadResult CEntry)) (T : Nat) :
    ∀ (l : List CBlob) (acc : ReadResult CEntry),
      (∀ b ∈ l, ∃ x, f b = .ok x ∧ (entryTs? x = none ∨ ∃ t, entryTs? x = some t ∧ t ≤ T)) →
      (entryTs? acc = none ∨ ∃ t, entryTs? acc = some t ∧ t ≤ T) →
      ∃ y, foldEntries f l acc = .ok y ∧ (entryTs? y = none ∨ ∃ t, entryTs? y = some t ∧ t ≤ T)
  | [], acc, _, hacc => ⟨acc, rfl, hacc⟩
  | b :: l, acc, hl, hacc => by
    obtain ⟨x, hx, hxb⟩ := hl b (by simp)
    simp only [foldEntries, hx]
    apply foldEntries_bound f T l _ (fun b' hb' => hl b' (by simp [hb']))
    unfold entryLatest
    split
    · exact hxb
    · exact hacc

theorem mem_consulted_closed {cfg : Cfg} {c : CState} {k : Key} {b : CBlob}
    (hb : b ∈ (Container.iterPossibleStack (fops cfg) c.cont true k).filterMap
      (fun j => (c.cont.getChild j).map (·.data))) : b ∈ closedBlobs c.cont := by
  obtain ⟨j, _, hj⟩ := List.mem_filterMap.mp hb
  cases hg : c.cont.getChild j with
  | none => rw [hg] at hj; cases hj
  | some lf =>
    rw [hg] at hj
    simp only [Option.map_some, Option.some.injEq] at hj
    subst hj
    exact mem_closedBlobs.mpr (List.mem_of_getElem? (getChild_some_slots hg))

/-! ### another file in the blob with one id: the read path answers alike, or with an entry of that blob -/

/-- give the blob with id `i` another file and another history variable -/
def refileId (i : Nat) (f : List UInt8) (gh : List Rec) (x : CBlob) : CBlob := if x.id = i then refile x f gh else x

theorem refileId_of_ne {i : Nat} {f : List UInt8} {gh : List Rec} {x : CBlob} (h : x.id ≠ i) :
    refileId i f gh x = x := by unfold refileId; rw [if_neg h]

theorem refileId_of_eq {i : Nat} {f : List UInt8} {gh : List Rec} {x : CBlob} (h : x.id = i) :
    refileId i f gh x = refile x f gh := by unfold refileId; rw [if_pos h]

theorem refileId_dump (cfg : Cfg) (i : Nat) (f : List UInt8) (gh : List Rec) (x : CBlob) :
    (refileId i f gh x).dump cfg = refileId i f gh (x.dump cfg) := by
  have hid : (x.dump cfg).id = x.id := (dump_fields cfg x).1
  unfold refileId
  rw [hid]
  by_cases h : x.id = i
  · rw [if_pos h, if_pos h]
    cases x with
    | mk xid xfile xindex xfilter xghost =>
      cases xindex with
      | disk _ _ _ => rfl
      | mem m =>
        simp only [CBlob.dump, refile]
        split
        · rfl
        · split <;> rfl
  · rw [if_neg h, if_neg h]

theorem refileId_filterOf (cfg : Cfg) (i : Nat) (f : List UInt8) (gh : List Rec) (x : CBlob) :
    (childOps cfg).filterOf (refileId i f gh x) = (childOps cfg).filterOf x := by
  unfold refileId
  split <;> rfl

theorem refileId_id (i : Nat) (f : List UInt8) (gh : List Rec) (x : CBlob) : (refileId i f gh x).id = x.id := by
  unfold refileId
  split <;> rfl

theorem getLatestEntry_refileId (cfg : Cfg) (i : Nat) (f : List UInt8) (gh : List Rec) (x : CBlob) (k : Key) :
    (refileId i f gh x).getLatestEntry cfg k = x.getLatestEntry cfg k ∨
    (x.id = i ∧ ∃ h, x.getLatestEntry cfg k = .ok (.found ⟨h, x.file⟩) ∧
      (refileId i f gh x).getLatestEntry cfg k = .ok (.found ⟨h, f⟩) ∧ x.index.getLatest k = some (some h)) := by
  by_cases h : x.id = i
  · rw [refileId_of_eq h]
    rcases getLatestEntry_refile cfg x f gh k with h1 | h1
    · exact Or.inl h1
    · exact Or.inr ⟨h, h1⟩
  · rw [refileId_of_ne h]; exact Or.inl rfl

/-- two answers of the read path that are equal, or entries with the same header: of the blob with id `i` in one
    storage, with the file `f` in the other -/
def SimFile (i : Nat) (f : List UInt8) (k : Key) (l : List CBlob) (x₁ x₂ : ReadResult CEntry) : Prop :=
  x₁ = x₂ ∨ ∃ h b, b ∈ l ∧ b.id = i ∧ b.index.getLatest k = some (some h) ∧
    x₂ = .found ⟨h, b.file⟩ ∧ x₁ = .found ⟨h, f⟩

theorem SimFile.ts {i : Nat} {f : List UInt8} {k : Key} {l : List CBlob} {x₁ x₂ : ReadResult CEntry}
    (h : SimFile i f k l x₁ x₂) : entryTs? x₁ = entryTs? x₂ := by
  rcases h with rfl | ⟨h, b, _, _, _, rfl, rfl⟩
  · rfl
  · rfl

theorem SimFile.latest {i : Nat} {f : List UInt8} {k : Key} {l : List CBlob} {a₁ a₂ r₁ r₂ : ReadResult CEntry}
    (ha : SimFile i f k l a₁ a₂) (hr : SimFile i f k l r₁ r₂) : SimFile i f k l (entryLatest a₁ r₁) (entryLatest a₂ r₂) := by
  unfold entryLatest
  rw [ha.ts, hr.ts]
  split
  · exact hr
  · exact ha

theorem foldEntries_sim (cfg : Cfg) (i : Nat) (f : List UInt8) (gh : List Rec) (k : Key) (L : List CBlob) :
    ∀ (l : List CBlob), (∀ b ∈ l, b ∈ L) → ∀ (a₁ a₂ : ReadResult CEntry), SimFile i f k L a₁ a₂ →
      (∃ e, foldEntries (fun b => b.getLatestEntry cfg k) (l.map (refileId i f gh)) a₁ = .error e ∧
        foldEntries (fun b => b.getLatestEntry cfg k) l a₂ = .error e) ∨
      (∃ y₁ y₂, foldEntries (fun b => b.getLatestEntry cfg k) (l.map (refileId i f gh)) a₁ = .ok y₁ ∧
        foldEntries (fun b => b.getLatestEntry cfg k) l a₂ = .ok y₂ ∧ SimFile i f k L y₁ y₂)
  | [], _, a₁, a₂, ha => Or.inr ⟨a₁, a₂, rfl, rfl, ha⟩
  | b :: l, hl, a₁, a₂, ha => by
    simp only [List.map_cons, foldEntries]
    rcases getLatestEntry_refileId cfg i f gh b k with h1 | ⟨hid, h, h1, h2, h3⟩
    · rw [h1]
      cases hb : b.getLatestEntry cfg k with
      | error e => exact Or.inl ⟨e, rfl, rfl⟩
      | ok r =>
        simp only []
        exact foldEntries_sim cfg i f gh k L l (fun x hx => hl x (by simp [hx])) _ _ (ha.latest (Or.inl rfl))
    · rw [h1, h2]
      simp only []
      exact foldEntries_sim cfg i f gh k L l (fun x hx => hl x (by simp [hx])) _ _
        (ha.latest (Or.inr ⟨h, b, hl b (by simp), hid, h3, rfl, rfl⟩))

/-- replacing the file (and the history variable) of the blobs with id `i`, wherever they sit: the latest entry is
    the same, or it is an entry of such a blob in both storages, with the same header -/
theorem getLatestEntry_mapBlobs (cfg : Cfg) (c : CState) (i : Nat) (f : List UInt8) (gh : List Rec) (k : Key) :
    (c.mapBlobs (refileId i f gh)).getLatestEntry cfg k = c.getLatestEntry cfg k ∨
    ∃ h b, b ∈ c.consulted cfg k ∧ b.id = i ∧ b.index.getLatest k = some (some h) ∧
      c.getLatestEntry cfg k = .ok (.found ⟨h, b.file⟩) ∧
      (c.mapBlobs (refileId i f gh)).getLatestEntry cfg k = .ok (.found ⟨h, f⟩) := by
  unfold CState.getLatestEntry
  rw [consulted_mapBlobs]
  rcases foldEntries_sim cfg i f gh k (c.consulted cfg k) (c.consulted cfg k) (fun _ h => h) .notFound .notFound
    (Or.inl rfl) with ⟨e, h1, h2⟩ | ⟨y₁, y₂, h1, h2, hs⟩
  · rw [h1, h2]; exact Or.inl rfl
  · rw [h1, h2]
    rcases hs with rfl | ⟨h, b, hb, hid, hidx, rfl, rfl⟩
    · exact Or.inl rfl
    · exact Or.inr ⟨h, b, hb, hid, hidx, rfl, rfl⟩

/-! ### `init` commutes with `mapBlobs` -/

theorem ofBlobs_map (cfg : Cfg) (bs : List CBlob) (m : Nat) (lazy : Bool) (g : CBlob → CBlob)
    (hd : ∀ x, (g x).dump cfg = g (x.dump cfg)) (hf : ∀ x, (childOps cfg).filterOf (g x) = (childOps cfg).filterOf x)
    (hne : bs ≠ [] ∨ lazy = true ∨ g (CBlob.openNew cfg m) = CBlob.openNew cfg m) :
    CState.ofBlobs cfg (bs.map g) m lazy = (CState.ofBlobs cfg bs m lazy).mapBlobs g := by
  have hdump : ∀ (l : List CBlob), (l.map g).map (CBlob.dump cfg) = (l.map (CBlob.dump cfg)).map g := by
    intro l
    simp only [List.map_map]
    apply List.map_congr_left
    intro b _
    exact hd b
  have hext : ∀ (l : List CBlob),
      Container.extend (fops cfg) (childOps cfg) (CState.emptyCont cfg) (l.map g)
        = mapChildren (Container.extend (fops cfg) (childOps cfg) (CState.emptyCont cfg) l) g :=
    fun l => extend_mapChildren g (fops cfg) (childOps cfg) hf l (CState.emptyCont cfg)
  induction bs, lazy using init_cases with
  | lazy bs =>
    unfold CState.ofBlobs CState.mapBlobs
    simp only [if_true]
    rw [hdump, hext]
    rfl
  | fresh =>
    rcases hne with h | h | h
    · exact absurd rfl h
    · cases h
    · unfold CState.ofBlobs CState.mapBlobs
      simp only [List.map_nil, Bool.false_eq_true, if_false, List.getLast?_nil, CState.createActive, Option.map_some, h]
      rfl
  | last cl a =>
    rw [List.map_append, List.map_singleton, ofBlobs_snoc, ofBlobs_snoc, hdump, hext]
    rfl

/-! ### the accepted torn tail of any blob -/

theorem survivors_cutPlus (cfg : Cfg) (b₀ : CBlob) (n : Nat) (cut : Nat → Nat)
    (hf : fate cfg.klen cfg.validateData b₀.ghost (cut b₀.id) = .opened n true) (hn : n < b₀.ghost.length) :
    ∀ (l : List CBlob), (∀ b ∈ l, b.id = b₀.id → b = b₀) →
      l.filterMap (surv cfg cut) =
        (l.filterMap (surv cfg (cutPlus cfg b₀ n cut))).map
          (refileId b₀.id (b₀.file.take (cut b₀.id)) (b₀.ghost.take n))
  | [], _ => rfl
  | b :: l, h => by
    have ih := survivors_cutPlus cfg b₀ n cut hf hn l (fun x hx => h x (by simp [hx]))
    rw [List.filterMap_cons, List.filterMap_cons, ih]
    by_cases hb : b.id = b₀.id
    · have := h b (by simp) hb
      subst this
      have hs : surv cfg cut b = some (recovered cfg b (cut b.id) n (n + 1)) := surv_of_opened hf
      rw [hs, surv_cutPlus_self cfg b n cut hn]
      simp only [List.map_cons]
      rw [refileId_of_eq (by rfl)]
      rfl
    · rw [surv_cutPlus_of_ne cfg b₀ n cut b hb]
      cases hs : surv cfg cut b with
      | none => rfl
      | some x =>
        simp only [List.map_cons]
        rw [refileId_of_ne (by rw [surv_id hs]; exact hb)]

/-- **E8 for any blob, both start-up modes.**  `b₀` is a blob of a state satisfying the invariant, its tail record
    `n` is cut inside meta / data and accepted, no other blob has an accepted torn tail.  With `c₂` the storage
    recovered had that record been written completely (`CInv`, abstracts to the L2 recovery at `cutPlus`):
    the recovered storage `c₁` is `c₂` with the cut file in the blob with the id of `b₀`; `contains` answers
    alike; `read` answers alike or fails with the load error `Bincode` -/
theorem torn_recover_any {cfg : Cfg} (hcfg : cfg.OK) {c : CState} (hinv : CInv cfg c) {b₀ : CBlob}
    (hb₀ : b₀ ∈ c.blobs) (cut : Nat → Nat) (lazy : Bool) {n : Nat}
    (hf : fate cfg.klen cfg.validateData b₀.ghost (cut b₀.id) = .opened n true)
    (hothers : ∀ b ∈ c.blobs, b ≠ b₀ → ∀ m, fate cfg.klen cfg.validateData b.ghost (cut b.id) ≠ .opened m true) :
    ∃ c₁ c₂, c.crashRecover cfg cut lazy = some c₁ ∧
      c.crashRecover cfg (cutPlus cfg b₀ n cut) lazy = some c₂ ∧
      CInv cfg c₂ ∧
      c₂.abs cfg = (c.abs cfg).crashRecover cfg.klen cfg.validateData (cutPlus cfg b₀ n cut) lazy ∧
      c₁ = c₂.mapBlobs (refileId b₀.id (b₀.file.take (cut b₀.id)) (b₀.ghost.take n)) ∧
      (∀ k, c₁.contains cfg k = c₂.contains cfg k) ∧
      (∀ k, c₁.read cfg k = c₂.read cfg k ∨ c₁.read cfg k = .error (.load .bincode)) := by
  have hkind := (fate_opened_true hf).1
  have hn : n < b₀.ghost.length := (cutKind_body hkind).2.1
  have hbi : BlobInv cfg b₀ := CInvG.blobInv hinv hb₀
  have huniq : ∀ b ∈ c.blobs, b.id = b₀.id → b = b₀ := fun b hb h => eq_of_id_eq (ids_pairwise hinv.wf) hb hb₀ h
  have hnt : NoTorn cfg c (cutPlus cfg b₀ n cut) := by
    intro b hb m
    by_cases hbb : b = b₀
    · subst hbb
      unfold cutPlus; rw [if_pos rfl, fate_boundary cfg.klen cfg.validateData b.ghost (n + 1) (by omega)]
      intro h; cases h
    · have hne : b.id ≠ b₀.id := fun h => hbb (huniq b hb h)
      unfold cutPlus; rw [if_neg hne]
      exact hothers b hb hbb m
  obtain ⟨c₂, hc₂, hinv₂, habs₂⟩ := crash_recover_ref hcfg hinv (cutPlus cfg b₀ n cut) lazy hnt
  have hc₁ := crashRecover_eq hinv cut lazy
  have hc₂' := crashRecover_eq hinv (cutPlus cfg b₀ n cut) lazy
  rw [hc₂] at hc₂'
  have e₂ := Option.some.inj hc₂'
  have hsurv₀ : recovered cfg b₀ (Fs.contentLen cfg.klen (b₀.ghost.take (n + 1))) (n + 1) (n + 1) ∈
      c.blobs.filterMap (surv cfg (cutPlus cfg b₀ n cut)) :=
    List.mem_filterMap.mpr ⟨b₀, hb₀, surv_cutPlus_self cfg b₀ n cut hn⟩
  have hrel : CState.ofBlobs cfg (c.blobs.filterMap (surv cfg cut)) (maxNextId c.blobs) lazy =
      c₂.mapBlobs (refileId b₀.id (b₀.file.take (cut b₀.id)) (b₀.ghost.take n)) := by
    rw [survivors_cutPlus cfg b₀ n cut hf hn c.blobs huniq, e₂]
    apply ofBlobs_map
    · exact refileId_dump cfg _ _ _
    · exact refileId_filterOf cfg _ _ _
    · left
      intro h0
      rw [h0] at hsurv₀
      cases hsurv₀
  -- the blob with the id of `b₀` in `c₂`
  have hblob : ∀ b ∈ c₂.blobs, b.id = b₀.id →
      BlobInv cfg b ∧ b.ghost = b₀.ghost.take (n + 1) ∧
        b.file = b₀.file.take (Fs.contentLen cfg.klen (b₀.ghost.take (n + 1))) := by
    intro b hb hid
    refine ⟨CInvG.blobInv hinv₂ hb, ?_⟩
    rcases mem_crashRecover hcfg hinv _ lazy hc₂ hb with ⟨b', hb', m, torn, hf', hid', hfile, hg⟩ | ⟨h0, _⟩
    · obtain rfl : b' = b₀ := huniq b' hb' (by rw [← hid', hid])
      unfold cutPlus at hf' hfile
      rw [if_pos rfl] at hf' hfile
      rw [fate_boundary cfg.klen cfg.validateData b'.ghost (n + 1) (by omega)] at hf'
      cases hf'
      exact ⟨hg, hfile⟩
    · rw [h0] at hsurv₀; cases hsurv₀
  refine ⟨_, c₂, hc₁, hc₂, hinv₂, habs₂, hrel, ?_, ?_⟩
  · intro k
    rw [hrel]
    unfold CState.contains
    rcases getLatestEntry_mapBlobs cfg c₂ b₀.id (b₀.file.take (cut b₀.id)) (b₀.ghost.take n) k with
      h | ⟨h, b, _, _, _, h1, h2⟩
    · rw [h]
    · rw [h1, h2]; rfl
  · intro k
    rw [hrel]
    unfold CState.read
    rcases getLatestEntry_mapBlobs cfg c₂ b₀.id (b₀.file.take (cut b₀.id)) (b₀.ghost.take n) k with
      h | ⟨h, b, hb, hid, hidx, h1, h2⟩
    · rw [h]; exact Or.inl rfl
    · obtain ⟨hbinv, hgh, hfile⟩ := hblob b (mem_consulted_blobs hb) hid
      have hmem : h ∈ (hdrsOf cfg b₀.ghost).take (n + 1) := by
        have := hbinv.core.index_getLatest hcfg k
        rw [hidx, hgh, hdrsOf_take] at this
        have hl : (hvecOf ((hdrsOf cfg b₀.ghost).take (n + 1)) k).getLast? = some h := by
          simp only [Option.some.injEq] at this
          exact this.symm
        exact (mem_hvecOf (List.mem_of_getLast? hl)).1
      rw [h1, h2]
      simp only []
      rcases torn_index_loads hbi hkind h hmem with ⟨j, r', hj, hr', hh', hload⟩ | ⟨_, hfail⟩
      · left
        have l1 := hload (cut b₀.id) (by have := (cutKind_body hkind).2.2.1; omega)
        have l2 := hload (Fs.contentLen cfg.klen (b₀.ghost.take (n + 1)))
          (contentLen_take_mono cfg.klen b₀.ghost (by omega))
        rw [hfile, l1, l2]
      · right
        rw [hfail]

/-! ### the active blob, `lazy = false` -/

/-- **E8 on the composed storage.**  `c` satisfies the invariant, the tail record `n` of its active blob `a` is cut
    inside meta / data and accepted by start-up, no closed blob has an accepted torn tail.  Then start-up
    (`lazy = false`) yields `c₁`, whose active blob holds the cut file and an index with the header of the torn
    record; and with `c₂` the storage recovered had record `n` been written completely:
    * `c₂` satisfies `CInv` and abstracts to the L2 recovery at `cutPlus`;
    * `c₁` is `c₂` with the cut file (and the shorter history variable) in the active blob;
    * `contains` answers alike: the torn record is reported as present;
    * `read` answers alike, or fails with the load error `Bincode`: it never returns other bytes. -/
theorem torn_recover {cfg : Cfg} (hcfg : cfg.OK) {c : CState} (hinv : CInv cfg c) {a : CBlob}
    (ha : c.active = some a) (cut : Nat → Nat) {n : Nat}
    (hf : fate cfg.klen cfg.validateData a.ghost (cut a.id) = .opened n true)
    (hclosed : ∀ b ∈ closedBlobs c.cont, ∀ m, fate cfg.klen cfg.validateData b.ghost (cut b.id) ≠ .opened m true) :
    ∃ c₁ c₂, c.crashRecover cfg cut false = some c₁ ∧
      c.crashRecover cfg (cutPlus cfg a n cut) false = some c₂ ∧
      CInv cfg c₂ ∧
      c₂.abs cfg = (c.abs cfg).crashRecover cfg.klen cfg.validateData (cutPlus cfg a n cut) false ∧
      c₂.active = some (recovered cfg a (Fs.contentLen cfg.klen (a.ghost.take (n + 1))) (n + 1) (n + 1)) ∧
      c₁ = { c₂ with active := some (recovered cfg a (cut a.id) n (n + 1)) } ∧
      closedBlobs c₂.cont = ((closedBlobs c.cont).filterMap (surv cfg cut)).map (CBlob.dump cfg) ∧
      (∀ k, c₁.contains cfg k = c₂.contains cfg k) ∧
      (∀ k, c₁.read cfg k = c₂.read cfg k ∨ c₁.read cfg k = .error (.load .bincode)) := by
  obtain ⟨hkind, _, _, _⟩ := fate_opened_true hf
  have hn : n < a.ghost.length := (cutKind_body hkind).2.1
  have hothers : ∀ b ∈ c.blobs, b ≠ a → ∀ m, fate cfg.klen cfg.validateData b.ghost (cut b.id) ≠ .opened m true := by
    intro b hb hne
    rw [blobs_of_active ha] at hb
    rcases List.mem_append.mp hb with hb | hb
    · exact hclosed b hb
    · exact absurd (List.mem_singleton.mp hb) hne
  obtain ⟨c₁, c₂, hc₁, hc₂, hinv₂, habs₂, _, hcont, hread⟩ :=
    torn_recover_any hcfg hinv (mem_blobs_active ha) cut false hf hothers
  -- both storages are built from the surviving closed blobs followed by the blob recovered from `a`
  have e₂ : c₂ = CState.ofBlobs cfg ((closedBlobs c.cont).filterMap (surv cfg cut) ++
      [recovered cfg a (Fs.contentLen cfg.klen (a.ghost.take (n + 1))) (n + 1) (n + 1)]) (maxNextId c.blobs) false := by
    have := crashRecover_eq hinv (cutPlus cfg a n cut) false
    rw [hc₂] at this
    rw [Option.some.inj this, blobs_of_active ha, List.filterMap_append, filterMap_surv_cutPlus hinv ha]
    simp only [List.filterMap_cons, List.filterMap_nil, surv_cutPlus_self cfg a n cut hn]
  have e₁ : c₁ = CState.ofBlobs cfg ((closedBlobs c.cont).filterMap (surv cfg cut) ++
      [recovered cfg a (cut a.id) n (n + 1)]) (maxNextId c.blobs) false := by
    have := crashRecover_eq hinv cut false
    rw [hc₁] at this
    have hsa : surv cfg cut a = some (recovered cfg a (cut a.id) n (n + 1)) := surv_of_opened hf
    rw [Option.some.inj this, blobs_of_active ha, List.filterMap_append]
    simp only [List.filterMap_cons, List.filterMap_nil, hsa]
  rw [ofBlobs_snoc] at e₁ e₂
  refine ⟨c₁, c₂, hc₁, hc₂, hinv₂, habs₂, by rw [e₂], by rw [e₁, e₂], ?_, hcont, hread⟩
  rw [e₂]
  exact closedBlobs_extend hcfg _ (map_dump_filter_WF (survivors_filter_WF cfg cut _))

/-! ### crash and start-up do not read the history variable -/

theorem crashBlob_eraseGhost (cfg : Cfg) (b : CBlob) (t : Nat) :
    (b.eraseGhost.crash cfg t).eraseGhost = (b.crash cfg t).eraseGhost := rfl

theorem crash_eraseGhost (cfg : Cfg) (c : CState) (cut : Nat → Nat) :
    (c.eraseGhost.crash cfg cut).eraseGhost = (c.crash cfg cut).eraseGhost := by
  apply CState.ext'
  · show ((c.active.map CBlob.eraseGhost).map _).map CBlob.eraseGhost = (c.active.map _).map CBlob.eraseGhost
    cases c.active <;> rfl
  · show mapChildren (mapChildren (mapChildren c.cont CBlob.eraseGhost) _) CBlob.eraseGhost =
      mapChildren (mapChildren c.cont _) CBlob.eraseGhost
    rw [mapChildren_mapChildren, mapChildren_mapChildren, mapChildren_mapChildren]
    rfl
  · rfl

theorem readBlobs_eraseGhost (cfg : Cfg) : ∀ (l : List CBlob),
    readBlobs cfg (l.map CBlob.eraseGhost) = (readBlobs cfg l).map (List.map CBlob.eraseGhost)
  | [] => rfl
  | b :: l => by
    have hf : b.eraseGhost.file = b.file := rfl
    simp only [List.map_cons, readBlobs, hf, regen_eraseGhost, readBlobs_eraseGhost cfg l]
    cases openBlob cfg.klen cfg.validateData b.file with
    | fail => rfl
    | quarantine => rfl
    | ok hs =>
      simp only []
      cases regen cfg b with
      | none => rfl
      | some b' =>
        cases readBlobs cfg l with
        | none => rfl
        | some bs => rfl

theorem maxNextId_eraseGhost (l : List CBlob) : maxNextId (l.map CBlob.eraseGhost) = maxNextId l :=
  foldl_maxSucc_congr CBlob.id CBlob.id _ _ 0 (by rw [List.map_map]; rfl)

theorem ofBlobs_eraseGhost (cfg : Cfg) (bs : List CBlob) (m : Nat) (lazy : Bool) :
    (CState.ofBlobs cfg (bs.map CBlob.eraseGhost) m lazy).eraseGhost = (CState.ofBlobs cfg bs m lazy).eraseGhost := by
  rw [ofBlobs_map cfg bs m lazy _ (dump_eraseGhost cfg) (childOps_filterOf_eraseGhost cfg) (Or.inr (Or.inr rfl))]
  exact eraseGhost_eraseGhost _

/-- start-up does not read the history variable -/
theorem recover_eraseGhost (cfg : Cfg) (c : CState) (lazy : Bool) :
    (c.eraseGhost.recover cfg lazy).map CState.eraseGhost = (c.recover cfg lazy).map CState.eraseGhost := by
  unfold CState.recover
  rw [show c.eraseGhost.blobs = _ from blobs_mapBlobs c _, sortById_eraseGhost, readBlobs_eraseGhost, maxNextId_eraseGhost]
  cases readBlobs cfg (sortById c.blobs) with
  | none => rfl
  | some bs =>
    simp only [Option.map_some]
    rw [ofBlobs_eraseGhost]

theorem recover_phys_congr (cfg : Cfg) (c c' : CState) (h : c.eraseGhost = c'.eraseGhost) (lazy : Bool) :
    (c.recover cfg lazy).map CState.eraseGhost = (c'.recover cfg lazy).map CState.eraseGhost := by
  rw [← recover_eraseGhost cfg c, ← recover_eraseGhost cfg c', h]

/-- **crash + start-up do not read the history variable**: for ANY state, erasing every `ghost` before the crash
    changes nothing of the physical part of the recovered storage -/
theorem crashRecover_ghost_irrelevant (cfg : Cfg) (c : CState) (cut : Nat → Nat) (lazy : Bool) :
    (c.eraseGhost.crashRecover cfg cut lazy).map CState.eraseGhost =
      (c.crashRecover cfg cut lazy).map CState.eraseGhost := by
  unfold CState.crashRecover
  exact recover_phys_congr cfg _ _ (crash_eraseGhost cfg c cut) lazy

end Pearl.E2E
