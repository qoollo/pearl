import Pearl.Proofs.EndToEndCrashRef
import Pearl.Proofs.EndToEndCrashIdx
import Pearl.Proofs.EndToEndDemo
/-
The crash theorems on a concrete storage.  Their hypotheses in a form that can be evaluated: `NoTorn` quantifies over
the number of complete records, but whether a fate is "opened with a torn tail" does not depend on it; "every blob
other than `a`" is "every blob with another id".  Their conclusion in a form that can be evaluated: a start-up at a
cut without an accepted torn tail returns a storage with the invariant whose L2 store is `Store.crashRecover`, so what
a demonstration looks at in it is a fact about that L2 store
(`Yields.crashRecover`, with `blobs_map_abs`, `read_eq`; with the index files a crash can leave
`Yields.crashRecoverWithIndexes`, with `blobs_view_abs`, `readWithOpt_toB_abs`).
-/
namespace Pearl.E2E
open Pearl

instance (f : Fate) : Decidable (∀ n, f ≠ .opened n true) :=
  match f with
  | .opened m true => isFalse fun h => h m rfl
  | .opened _ false => isTrue nofun
  | .quarantined => isTrue nofun

instance (cfg : Cfg) (c : CState) (cut : Nat → Nat) : Decidable (NoTorn cfg c cut) := by
  unfold NoTorn
  infer_instance

/-- blob ids are distinct, so the other blobs of the storage are those with another id -/
theorem others_of_id {cfg : Cfg} {c : CState} (hinv : CInv cfg c) {a : CBlob} (ha : a ∈ c.blobs) {P : CBlob → Prop}
    (h : ∀ b ∈ c.blobs, b.id ≠ a.id → P b) : ∀ b ∈ c.blobs, b ≠ a → P b :=
  fun b hb hne => h b hb fun hid => hne (eq_of_id_eq (ids_pairwise hinv.wf) hb ha hid)

/-- what is read off the blobs through their L2 view is read off the blobs of the L2 store -/
theorem blobs_map_abs {β : Type} (cfg : Cfg) (c : CState) (f : Blob → β) (g : CBlob → β) (h : ∀ b, g b = f b.abs) :
    c.blobs.map g = (c.abs cfg).blobs.map f := by
  rw [abs_blobs, List.map_map]
  exact List.map_congr_left fun b _ => h b

theorem file_length_le_of_abs {cfg : Cfg} {c : CState} (hinv : CInv cfg c) (n : Nat)
    (h : ∀ x ∈ (c.abs cfg).blobs, Fs.contentLen cfg.klen x.recs ≤ n) : ∀ b ∈ c.blobs, b.file.length ≤ n := by
  intro b hb
  rw [(CInvG.blobInv hinv hb).file_length]
  exact forall_abs_blobs.mp h b hb

theorem Yields.crashRecover {cfg : Cfg} (hcfg : cfg.OK) {c : CState} (hinv : CInv cfg c) {cut : Nat → Nat}
    {lazy : Bool} (hnt : NoTorn cfg c cut) {p : CState → Prop} [DecidablePred p]
    (h : ∀ c₁, CInv cfg c₁ → c₁.abs cfg = (c.abs cfg).crashRecover cfg.klen cfg.validateData cut lazy → p c₁) :
    Yields (c.crashRecover cfg cut lazy) p := by
  obtain ⟨c₁, hc₁, hinv₁, habs₁⟩ := crash_recover_ref hcfg hinv cut lazy hnt
  rw [hc₁]
  exact congrArg some (decide_eq_true (h c₁ hinv₁ habs₁))

section
variable {cfg : Cfg} {sha : List Nat → List Nat}

/-- start-up with the index files a crash can leave, at a cut without an accepted torn tail: the storage returned is the
    translation to bytes of a storage with the invariants whose L2 store is `Store.crashRecover` -/
theorem Yields.crashRecoverWithIndexes (hB : BytesOK cfg sha) {c : CState} (hinv : CInv cfg c)
    (hmeta : StoreMetaOK (c.abs cfg)) (hsz : StoreIdxSized cfg (c.abs cfg)) (hne : c.blobs ≠ []) {cut : Nat → Nat}
    {dir : Nat → Option (List Nat)} (hdir : DirAtCrash cfg sha c cut dir) {lazy : Bool} (hnt : NoTorn cfg c cut)
    {p : BState → Prop} [DecidablePred p]
    (h : ∀ c₁, CInv cfg c₁ → StoreMetaOK (c₁.abs cfg) → c₁.IdxSized →
      c₁.abs cfg = (c.abs cfg).crashRecover cfg.klen cfg.validateData cut lazy → p (c₁.toB sha)) :
    Yields ((c.toB sha).crashRecoverWithIndexes cfg sha cut dir lazy) p := by
  have h3 := sized3_of_store hsz
  obtain ⟨c₁, hc₁, hinv₁, habs₁⟩ := crash_recover_ref hB.ok hinv cut lazy hnt
  rw [crashRecoverWithIndexes_toB hB hinv h3 cut dir hdir lazy, hc₁]
  exact congrArg some (decide_eq_true (h c₁ hinv₁ (habs₁ ▸ crashRecover_metaOK hinv.wf hmeta cut lazy)
    (idxSized_of_store hB.ok hinv₁ (recovered_idxSized hB.ok hinv h3 hne cut lazy hc₁)) habs₁))

/-- id, file length and index flag of the blobs of a storage with the invariant, on its L2 store -/
theorem blobs_view_abs {c : CState} (hinv : CInv cfg c) :
    (c.toB sha).blobs.map (fun x => (x.id, x.file.length, x.index.onDisk)) =
      (c.abs cfg).blobs.map (fun b => (b.id, Fs.contentLen cfg.klen b.recs, b.onDisk)) := by
  rw [blobs_toB, abs_blobs, List.map_map, List.map_map]
  refine List.map_congr_left fun b hb => ?_
  have hf := (CInvG.blobInv hinv hb).file_length
  show (b.id, b.file.length, (b.index.toB sha b.file.length).onDisk) =
    (b.id, Fs.contentLen cfg.klen b.ghost, b.index.onDisk)
  rw [hf]
  cases b.index <;> rfl

theorem readWithOpt_toB_abs (hB : BytesOK cfg sha) {c : CState} (hinv : CInv cfg c)
    (hmeta : StoreMetaOK (c.abs cfg)) (hs : c.IdxSized) (k : Key) (m : Option Meta) (hm : ∀ x, m = some x → MetaOK x) :
    (c.toB sha).readWithOpt cfg k m = .ok (((c.abs cfg).read k m).map (fun r => dataOf r.data)) :=
  (readWithOpt_toB hB hinv hs k m).trans (readWithOpt_eq hB.ok hinv hmeta k m hm)

end

end Pearl.E2E
