import Pearl.Model.Abstract
import Pearl.Proofs.MaintLemmas
import Pearl.Props.C01
import Pearl.Props.C02
/-
Helper lemmas for the refinement of the blob-free abstract specification (`Pearl/Model/Abstract.lean`)
by the storage model.  What a reader sees of a key is the cut of the key's sorted log
(`Store.vis_eq_visOfLog`, `Store.vis_eq_segs`); a `write` appends to the log, a `delete` conses its
marker onto the log of every blob where the key is live, and what lies behind a marker and is not
newer does not matter (`Abs.cut_sort_invisible`).  `Abs.visOf_dseg_cases` is all the dependence on
blob boundaries there is.  Then the view after every single operation (`vis_write`, `vis_delete`, and
`vis_apply_nstep` for the nondeterministic specification) and after a run (`vis_run_safe`,
`vis_run_data`, `vis_run_nviews`); on the specification alone: the view is read off one log
(`Abs.view_eq_visOfLog`), safety is decided on the keys that occur (`Abs.safe_iff`, `safe_of_noOip`),
the deterministic view is one of the allowed ones (`Abs.view_mem_nviews`).
-/
namespace Pearl

theorem head?_cut (l : List PRec) : (Spec.cut l).head? = l.head? := cut_head? l

/-! ### the view read off one log (`Abs.visOfLog`)

Inside `namespace Abs` a bare `ins` is `Abs.ins` (a record into a view), not the stable insertion
`Pearl.ins` of IndexLemmas. -/

namespace Abs

theorem cutHdrs_insertDesc (r : Rec) : ∀ S : List Rec,
    cutHdrs (Store.insertDesc r S) = ins r (cutHdrs S)
  | [] => by simp [Store.insertDesc, cutHdrs, ins]
  | y :: ys => by
    have ih := cutHdrs_insertDesc r ys
    by_cases hge : r.ts ≥ y.ts
    · have hgt : ¬ y.ts > r.ts := by omega
      by_cases hy : y.del = true <;> by_cases hr : r.del = true <;>
        simp [Store.insertDesc, cutHdrs, ins, hge, hgt, hy, hr]
    · have hgt : y.ts > r.ts := by omega
      by_cases hy : y.del = true
      · simp [Store.insertDesc, cutHdrs, ins, hge, hgt, hy]
      · simp [Store.insertDesc, cutHdrs, ins, hge, hgt, hy, ih]

theorem visOfLog_append_same (log : List Rec) (r : Rec) :
    visOfLog (log ++ [r]) r.key = ins r (visOfLog log r.key) := by
  unfold visOfLog
  rw [List.filter_append]
  simp only [List.filter_cons, beq_self_eq_true, if_true, List.filter_nil, List.reverse_append,
    List.reverse_cons, List.reverse_nil, List.nil_append, List.singleton_append]
  unfold Store.sortDesc
  rw [List.foldr_cons]
  exact cutHdrs_insertDesc r _

theorem visOfLog_append_other (log : List Rec) (r : Rec) {k : Key} (h : r.key ≠ k) :
    visOfLog (log ++ [r]) k = visOfLog log k := by
  unfold visOfLog
  rw [List.filter_append]
  simp [h]

theorem step_visOfLog (dup : Bool) (k : Key) (l : List Rec) (op : DOp) :
    step dup k (visOfLog l k) op = visOfLog (logStep dup l op) k := by
  cases op with
  | write k' ts m d =>
    simp only [step, logStep]
    by_cases hk : k' = k
    · subst hk
      simp only [if_true]
      split
      · rfl
      · exact (visOfLog_append_same l (wrec k' ts m d)).symm
    · simp only [hk, if_false]
      split
      · rfl
      · exact (visOfLog_append_other l _ (by simpa [wrec] using hk)).symm
  | delete k' ts m oip =>
    simp only [step, logStep]
    by_cases hk : k' = k
    · subst hk
      simp only [if_true]
      split
      · rfl
      · exact (visOfLog_append_same l (drec k' ts m)).symm
    · simp only [hk, if_false]
      split
      · rfl
      · exact (visOfLog_append_other l _ (by simpa [drec] using hk)).symm

theorem viewFrom_visOfLog (dup : Bool) (k : Key) : ∀ (ops : List DOp) (l : List Rec),
    viewFrom dup k (visOfLog l k) ops = visOfLog (ops.foldl (logStep dup) l) k
  | [], _ => rfl
  | op :: ops, l => by
    unfold viewFrom
    rw [List.foldl_cons, List.foldl_cons, step_visOfLog]
    exact viewFrom_visOfLog dup k ops _

/-- the view of a key is the log of accepted records restricted to the key, newest operation first,
    stably sorted by descending timestamp, cut after the first marker -/
theorem view_eq_visOfLog (dup : Bool) (ops : List DOp) (k : Key) :
    view dup ops k = visOfLog (log dup ops) k :=
  viewFrom_visOfLog dup k ops []

open Store (insertDesc sortDesc)

/-! #### the view as the cut of the sorted log: `cutHdrs ∘ sortDesc` on the records of a key, latest
position first.  What lies behind a marker and is not newer does not matter (`cut_sort_invisible`). -/

theorem cutHdrs_append_of_marker {A : List Rec} (h : ∃ μ ∈ A, μ.del = true) (B : List Rec) :
    cutHdrs (A ++ B) = cutHdrs A := by
  induction A with
  | nil => obtain ⟨μ, hμ, _⟩ := h; cases hμ
  | cons a A ih =>
    by_cases ha : a.del = true
    · simp [cutHdrs, ha]
    · obtain ⟨μ, hμ, hd⟩ := h
      simp only [List.cons_append, cutHdrs, ha, Bool.false_eq_true, if_false]
      rw [ih ⟨μ, (List.mem_cons.1 hμ).resolve_left (fun e => ha (e ▸ hd)), hd⟩]

theorem cutHdrs_append_del (X Y : List Rec) {m : Rec} (hm : m.del = true) :
    cutHdrs (X ++ m :: Y) = cutHdrs (X ++ [m]) := by
  rw [← List.singleton_append, ← List.append_assoc]
  exact cutHdrs_append_of_marker ⟨m, by simp, hm⟩ Y

theorem cutHdrs_foldr_insertDesc (P : List Rec) {S S' : List Rec} (h : cutHdrs S = cutHdrs S') :
    cutHdrs (P.foldr insertDesc S) = cutHdrs (P.foldr insertDesc S') := by
  induction P with
  | nil => exact h
  | cons p P ih =>
    simp only [List.foldr_cons]
    rw [cutHdrs_insertDesc, ih, ← cutHdrs_insertDesc]

theorem sortDesc_append (P Q : List Rec) : sortDesc (P ++ Q) = P.foldr insertDesc (sortDesc Q) := by
  unfold sortDesc; rw [List.foldr_append]

theorem sortDesc_cons (x : Rec) (Q : List Rec) : sortDesc (x :: Q) = insertDesc x (sortDesc Q) := rfl

theorem mem_sortDesc {L : List Rec} {r : Rec} : r ∈ sortDesc L ↔ r ∈ L := by
  rw [sortDesc_eq]; exact (sortDescBy_perm _ _).mem_iff

theorem insertDesc_append_hi {t : Nat} {x : Rec} (hx : t < x.ts) : ∀ (S1 S2 : List Rec), (∀ y ∈ S2, y.ts ≤ t) →
    insertDesc x (S1 ++ S2) = insertDesc x S1 ++ S2
  | [], [], _ => rfl
  | [], y :: S2, h => by
    have := h y (by simp)
    have h' : x.ts ≥ y.ts := by omega
    simp [insertDesc, h']
  | s :: S1, S2, h => by
    simp only [List.cons_append, insertDesc]
    split
    · rfl
    · rw [insertDesc_append_hi hx S1 S2 h]; rfl

theorem insertDesc_append_lo {t : Nat} {x : Rec} (hx : x.ts ≤ t) : ∀ (S1 S2 : List Rec), (∀ y ∈ S1, t < y.ts) →
    insertDesc x (S1 ++ S2) = S1 ++ insertDesc x S2
  | [], _, _ => rfl
  | s :: S1, S2, h => by
    have := h s (by simp)
    have h' : ¬ x.ts ≥ s.ts := by omega
    simp only [List.cons_append, insertDesc, h', if_false]
    rw [insertDesc_append_lo hx S1 S2 (fun y hy => h y (by simp [hy]))]

/-- a stable sort splits at any threshold -/
theorem sortDesc_split (t : Nat) : ∀ L : List Rec,
    sortDesc L = sortDesc (L.filter (fun r => decide (t < r.ts))) ++
      sortDesc (L.filter (fun r => !decide (t < r.ts)))
  | [] => rfl
  | x :: L => by
    have ih := sortDesc_split t L
    have h1 : ∀ y ∈ sortDesc (L.filter (fun r => decide (t < r.ts))), t < y.ts := by
      intro y hy
      have := (List.mem_filter.1 (mem_sortDesc.1 hy)).2
      simpa using this
    have h2 : ∀ y ∈ sortDesc (L.filter (fun r => !decide (t < r.ts))), y.ts ≤ t := by
      intro y hy
      have := (List.mem_filter.1 (mem_sortDesc.1 hy)).2
      simp at this; omega
    by_cases hx : t < x.ts
    · rw [List.filter_cons_of_pos (by simpa using hx), List.filter_cons_of_neg (by simpa using hx),
        sortDesc_cons, sortDesc_cons, ih, insertDesc_append_hi hx _ _ h2]
    · rw [List.filter_cons_of_neg (by simpa using hx), List.filter_cons_of_pos (by simpa using hx),
        sortDesc_cons, sortDesc_cons, ih, insertDesc_append_lo (by omega) _ _ h1]

theorem takeWhile_sortDesc (t : Nat) (L : List Rec) :
    (sortDesc L).takeWhile (fun r => decide (t < r.ts)) = sortDesc (L.filter (fun r => decide (t < r.ts))) := by
  rw [sortDesc_split t L]
  apply takeWhile_append_all
  · intro y hy
    exact (List.mem_filter.1 (mem_sortDesc.1 hy)).2
  · intro y hy
    have := (List.mem_filter.1 (mem_sortDesc.1 hy)).2
    simpa using this

theorem cutHdrs_insertDesc_del {m : Rec} (hm : m.del = true) (W : List Rec) :
    cutHdrs (insertDesc m W) = cutHdrs (W.takeWhile (fun r => decide (m.ts < r.ts)) ++ [m]) := by
  rw [insertDesc_eq, insertDescBy_eq]
  exact cutHdrs_append_del _ _ hm

/-- INVISIBILITY: behind a marker `m`, what is not newer than `m` does not matter -/
theorem cut_sort_invisible (X : List Rec) {m : Rec} (hm : m.del = true) {Y Y' : List Rec}
    (h : Y.filter (fun r => decide (m.ts < r.ts)) = Y'.filter (fun r => decide (m.ts < r.ts))) :
    cutHdrs (sortDesc (X ++ m :: Y)) = cutHdrs (sortDesc (X ++ m :: Y')) := by
  rw [sortDesc_append, sortDesc_append, sortDesc_cons, sortDesc_cons]
  apply cutHdrs_foldr_insertDesc
  rw [cutHdrs_insertDesc_del hm, cutHdrs_insertDesc_del hm, takeWhile_sortDesc, takeWhile_sortDesc, h]

/-- only what is at least as new as some marker of the list matters -/
theorem cutHdrs_sortDesc_high {L : List Rec} {t : Nat} (h : ∃ μ ∈ L, μ.del = true ∧ t < μ.ts) :
    cutHdrs (sortDesc L) = cutHdrs (sortDesc (L.filter (fun r => decide (t < r.ts)))) := by
  obtain ⟨μ, hμ, hd, ht⟩ := h
  rw [sortDesc_split t L]
  exact cutHdrs_append_of_marker ⟨μ, mem_sortDesc.2 (List.mem_filter.2 ⟨hμ, by simpa using ht⟩), hd⟩ _

/-- the key is live in a blob whose records of the key are `c`, latest position first: the first of the newest is
    no marker -/
def live (c : List Rec) : Bool :=
  match (sortDesc c).head? with
  | some r => !r.del
  | none => false

theorem head?_insertDesc (x : Rec) (S : List Rec) :
    (insertDesc x S).head? = match S.head? with
      | some y => if x.ts < y.ts then some y else some x
      | none => some x := by
  cases S with
  | nil => rfl
  | cons y S =>
    by_cases h : x.ts ≥ y.ts
    · simp [insertDesc, h, Nat.not_lt.2 h]
    · simp [insertDesc, h, Nat.lt_of_not_ge h]

theorem head_max {c : List Rec} {r : Rec} (h : (sortDesc c).head? = some r) : ∀ x ∈ c, x.ts ≤ r.ts := by
  intro x hx
  have hs : (sortDesc c).Pairwise (DescBy Rec.ts (fun _ _ => True)) := by
    rw [sortDesc_eq]; exact sortDescBy_pairwise (List.pairwise_of_forall (fun _ _ => trivial))
  have hx' := mem_sortDesc.2 hx
  cases hS : sortDesc c with
  | nil => rw [hS] at hx'; cases hx'
  | cons y S =>
    rw [hS] at h hs hx'
    cases h
    rcases List.mem_cons.1 hx' with rfl | hx'
    · exact Nat.le_refl _
    · rcases (List.pairwise_cons.1 hs).1 x hx' with h | ⟨h, _⟩ <;> omega

theorem live_iff {c : List Rec} : live c = true ↔ ∃ r, (sortDesc c).head? = some r ∧ r.del = false := by
  unfold live; cases (sortDesc c).head? <;> simp

theorem insertDesc_comm {a b : Rec} (h : a.ts ≠ b.ts) : ∀ S : List Rec,
    insertDesc a (insertDesc b S) = insertDesc b (insertDesc a S)
  | [] => by rcases Nat.lt_or_gt_of_ne h with h | h <;> simp [insertDesc, Nat.le_of_lt h, Nat.not_le.2 h]
  | y :: S => by
    have ih := insertDesc_comm h S
    rcases Nat.lt_or_gt_of_ne h with hab | hab <;> by_cases ha : a.ts ≥ y.ts <;> by_cases hb : b.ts ≥ y.ts <;>
      simp [insertDesc, ha, hb, ih, Nat.le_of_lt hab, Nat.not_le.2 hab] <;> omega

/-- what a reader sees of the records of a key given blob by blob, newest blob first, each latest
    position first -/
def visOf (X : List (List Rec)) : List Rec := cutHdrs (sortDesc X.flatten)

/-- what `Blob::delete` does to the records of the key, latest first: the marker `y` goes in front
    where the key is live (or always) -/
def dseg (y : Rec) (o : Bool) (c : List Rec) : List Rec := if !o || live c then y :: c else c

theorem map_dseg_dead {y : Rec} : ∀ {Zs : List (List Rec)}, (∀ z ∈ Zs, live z = false) →
    Zs.map (dseg y true) = Zs
  | [], _ => rfl
  | z :: Zs, h => by
    rw [List.map_cons, map_dseg_dead fun x hx => h x (List.mem_cons_of_mem _ hx), dseg,
      h z List.mem_cons_self]
    rfl

theorem filter_flatten_dseg {y : Rec} {t : Nat} (ht : y.ts ≤ t) (o : Bool) (Cs : List (List Rec)) :
    ((Cs.map (dseg y o)).flatten).filter (fun r => decide (t < r.ts)) =
      Cs.flatten.filter (fun r => decide (t < r.ts)) := by
  induction Cs with
  | nil => rfl
  | cons c Cs ih =>
    simp only [List.map_cons, List.flatten_cons, List.filter_append, ih]
    congr 1
    unfold dseg; split
    · simp [Nat.not_lt.2 ht]
    · rfl

/-- a record may move to the front of the log past records with other timestamps -/
theorem sortDesc_move (y : Rec) : ∀ (Z W : List Rec), (∀ z ∈ Z, z.ts ≠ y.ts) →
    sortDesc (Z ++ y :: W) = sortDesc (y :: (Z ++ W))
  | [], _, _ => rfl
  | z :: Z, W, h => by
    rw [List.cons_append, sortDesc_cons, sortDesc_move y Z W fun x hx => h x (List.mem_cons_of_mem _ hx),
      sortDesc_cons, insertDesc_comm (h z List.mem_cons_self), ← sortDesc_cons, ← sortDesc_cons]
    rfl

/-- the marker is newer than every record of the key in the blobs newer than `c`: it is as if
    appended to the log -/
theorem visOf_dseg_front {y : Rec} (hy : y.del = true) {Zs Ws : List (List Rec)} {c : List Rec}
    (hZ : ∀ z ∈ Zs, live z = false) (hc : live c = true) (hlt : ∀ x ∈ Zs.flatten, x.ts < y.ts) :
    visOf ((Zs ++ c :: Ws).map (dseg y true)) = Abs.ins y (visOf (Zs ++ c :: Ws)) := by
  have hfl : ((Zs ++ c :: Ws).map (dseg y true)).flatten =
      Zs.flatten ++ y :: (c ++ (Ws.map (dseg y true)).flatten) := by
    rw [List.map_append, map_dseg_dead hZ, List.map_cons, dseg, hc]
    simp
  unfold visOf
  rw [hfl, sortDesc_move y _ _ fun x hx => Nat.ne_of_lt (hlt x hx),
    ← Abs.cutHdrs_insertDesc, ← sortDesc_cons, List.flatten_append, List.flatten_cons]
  exact cut_sort_invisible [] hy (by
    simp only [List.filter_append, filter_flatten_dseg (Nat.le_refl _)])

/-- the first of the newest records of a dead blob is a marker -/
theorem head_del_of_dead {c : List Rec} {r : Rec} (h : live c = false)
    (hr : (sortDesc c).head? = some r) : r.del = true := by
  unfold live at h; rw [hr] at h; simpa using h

theorem exists_head_ge {c : List Rec} {x : Rec} (hx : x ∈ c) :
    ∃ μ, (sortDesc c).head? = some μ ∧ x.ts ≤ μ.ts := by
  cases h : sortDesc c with
  | nil => rw [← mem_sortDesc, h] at hx; cases hx
  | cons μ _ => exact ⟨μ, rfl, head_max (by rw [h]; rfl) x hx⟩

/-- a blob newer than `c` holds a record of the key at least as new as the marker: that blob's own
    marker hides the new one -/
theorem visOf_dseg_hidden {y : Rec} {Zs : List (List Rec)} (Cs : List (List Rec))
    (hZ : ∀ z ∈ Zs, live z = false) {x : Rec} (hx : x ∈ Zs.flatten)
    (hge : y.ts ≤ x.ts) :
    visOf ((Zs ++ Cs).map (dseg y true)) = visOf (Zs ++ Cs) := by
  obtain ⟨z, hz, hxz⟩ := List.mem_flatten.1 hx
  obtain ⟨μ, hμ, hxμ⟩ := exists_head_ge hxz
  have hμd := head_del_of_dead (hZ z hz) hμ
  have hμz : μ ∈ Zs.flatten :=
    List.mem_flatten.2 ⟨z, hz, mem_sortDesc.1 (List.mem_of_mem_head? hμ)⟩
  obtain ⟨Z₁, Z₂, hsplit⟩ := List.append_of_mem hμz
  unfold visOf
  rw [List.map_append, map_dseg_dead hZ, List.flatten_append, List.flatten_append, hsplit, List.append_assoc,
    List.append_assoc, List.cons_append, List.cons_append]
  exact cut_sort_invisible Z₁ hμd (by
    simp only [List.filter_append, filter_flatten_dseg (Nat.le_trans hge hxμ)])

theorem exists_first_live {Cs : List (List Rec)} (h : ∃ c ∈ Cs, live c = true) :
    ∃ Zs c Ws, Cs = Zs ++ c :: Ws ∧ (∀ z ∈ Zs, live z = false) ∧ live c = true := by
  obtain ⟨c, hc⟩ := Option.isSome_iff_exists.1 (List.find?_isSome.2 h)
  obtain ⟨hl, Zs, Ws, e, hz⟩ := List.find?_eq_some_iff_append.1 hc
  exact ⟨Zs, c, Ws, e, fun z hz' => by simpa using hz z hz', hl⟩

/-- the first of the newest records of `A ++ B`: that of `B` only if strictly newer than that of `A` -/
theorem head?_sortDesc_append : ∀ (A B : List Rec),
    (sortDesc (A ++ B)).head? = match (sortDesc A).head?, (sortDesc B).head? with
      | some a, some b => if a.ts < b.ts then some b else some a
      | some a, none => some a
      | none, b => b
  | [], B => by rw [List.nil_append]; cases (sortDesc B).head? <;> rfl
  | x :: A, B => by
    have ih := head?_sortDesc_append A B
    rw [List.cons_append, sortDesc_cons, sortDesc_cons, head?_insertDesc, head?_insertDesc, ih]
    cases hA : (sortDesc A).head? <;> cases hB : (sortDesc B).head? <;> simp only []
    · rename_i b; split <;> rfl
    · rename_i a b
      by_cases h1 : a.ts < b.ts <;> by_cases h2 : x.ts < a.ts <;> by_cases h3 : x.ts < b.ts <;>
        simp [h1, h2, h3] <;> omega

theorem head?_sortDesc_flatten {r : Rec} : ∀ {Cs : List (List Rec)},
    (sortDesc Cs.flatten).head? = some r → ∃ c ∈ Cs, (sortDesc c).head? = some r
  | [], h => by cases h
  | c :: Cs, h => by
    rw [List.flatten_cons, head?_sortDesc_append] at h
    cases hc : (sortDesc c).head? with
    | none =>
      rw [hc] at h
      obtain ⟨c', hc', h'⟩ := head?_sortDesc_flatten (Cs := Cs) h
      exact ⟨c', List.mem_cons_of_mem _ hc', h'⟩
    | some a =>
      rw [hc] at h
      cases hB : (sortDesc Cs.flatten).head? with
      | none => rw [hB] at h; exact ⟨c, List.mem_cons_self, hc.trans h⟩
      | some b =>
        rw [hB] at h
        simp only [] at h
        split at h
        · obtain ⟨c', hc', h'⟩ := head?_sortDesc_flatten (Cs := Cs) (hB.trans h)
          exact ⟨c', List.mem_cons_of_mem _ hc', h'⟩
        · exact ⟨c, List.mem_cons_self, hc.trans h⟩

theorem cutHdrs_head? (l : List Rec) : (cutHdrs l).head? = l.head? := by
  cases l with
  | nil => rfl
  | cons r rs => simp only [cutHdrs]; split <;> rfl

theorem isFound_latestOf_cons (x : Rec) (xs : List Rec) : (latestOf (x :: xs)).isFound = !x.del := by
  cases hx : x.del <;> simp [latestOf, hx, ReadResult.isFound]

theorem latestOf_visOf (Cs : List (List Rec)) :
    (Abs.latestOf (visOf Cs)).isFound = match (sortDesc Cs.flatten).head? with
      | some r => !r.del
      | none => false := by
  rw [← cutHdrs_head? (sortDesc Cs.flatten), ← visOf]
  cases visOf Cs with
  | nil => rfl
  | cons x xs => exact isFound_latestOf_cons x xs

/-- no blob holds the key live: it is dead or absent for every reader -/
theorem latestOf_visOf_dead {Cs : List (List Rec)} (h : ∀ c ∈ Cs, live c = false) :
    (Abs.latestOf (visOf Cs)).isFound = false := by
  rw [latestOf_visOf]
  cases hh : (sortDesc Cs.flatten).head? with
  | none => rfl
  | some r =>
    obtain ⟨c, hc, hr⟩ := head?_sortDesc_flatten hh
    simp [head_del_of_dead (h c hc) hr]

theorem tie_append {y μ : Rec} (hμ : μ.del = true) (hts : μ.ts = y.ts) : ∀ A : List Rec,
    (∀ a ∈ A, y.ts < a.ts) → Abs.tie y (A ++ [μ]) = true
  | [], _ => by simp [Abs.tie, hμ, hts]
  | a :: A, h => by
    have ih := tie_append hμ hts A fun x hx => h x (List.mem_cons_of_mem _ hx)
    cases hA : A ++ [μ] with
    | nil => simp at hA
    | cons b B =>
      rw [hA] at ih
      rw [List.cons_append, hA, Abs.tie, ih]
      simpa using h a List.mem_cons_self

theorem cutHdrs_append_live : ∀ {A : List Rec} (B : List Rec), (∀ a ∈ A, a.del = false) →
    cutHdrs (A ++ B) = A ++ cutHdrs B
  | [], _, _ => rfl
  | a :: A, B, h => by
    rw [List.cons_append, cutHdrs, h a List.mem_cons_self,
      cutHdrs_append_live B fun x hx => h x (List.mem_cons_of_mem _ hx)]
    rfl

/-- a blob newer than the newest live one holds a record at least as new as the marker `y`:
    inserting `y` into the view changes nothing, or the view is the records newer than `y`
    followed by a marker of its timestamp -/
theorem ins_or_tie {y : Rec} {Zs : List (List Rec)} (R : List Rec)
    (hZ : ∀ z ∈ Zs, live z = false) {x : Rec} (hx : x ∈ Zs.flatten) (hge : y.ts ≤ x.ts) :
    Abs.ins y (cutHdrs (sortDesc (Zs.flatten ++ R))) = cutHdrs (sortDesc (Zs.flatten ++ R)) ∨
      Abs.tie y (cutHdrs (sortDesc (Zs.flatten ++ R))) = true := by
  by_cases hhigh : ∃ ν ∈ Zs.flatten ++ R, ν.del = true ∧ y.ts < ν.ts
  · left
    obtain ⟨ν, hν, hνd, hνt⟩ := hhigh
    rw [← Abs.cutHdrs_insertDesc, ← sortDesc_cons,
      cutHdrs_sortDesc_high (t := y.ts) ⟨ν, List.mem_cons_of_mem _ hν, hνd, hνt⟩,
      List.filter_cons_of_neg (by simp), ← cutHdrs_sortDesc_high ⟨ν, hν, hνd, hνt⟩]
  · right
    have hlow : ∀ ν ∈ Zs.flatten ++ R, ν.del = true → ν.ts ≤ y.ts := fun ν hν hd =>
      Nat.not_lt.1 fun h => hhigh ⟨ν, hν, hd, h⟩
    have hZle : ∀ e ∈ Zs.flatten, e.ts ≤ y.ts := fun e he => by
      obtain ⟨z, hz, hez⟩ := List.mem_flatten.1 he
      obtain ⟨a, hh, hea⟩ := exists_head_ge hez
      exact Nat.le_trans hea (hlow a (List.mem_append_left _ (List.mem_flatten.2
        ⟨z, hz, mem_sortDesc.1 (List.mem_of_mem_head? hh)⟩)) (head_del_of_dead (hZ z hz) hh))
    obtain ⟨a, ha, hxa⟩ := exists_head_ge hx
    have haZ : a ∈ Zs.flatten := mem_sortDesc.1 (List.mem_of_mem_head? ha)
    have hats : a.ts = y.ts :=
      Nat.le_antisymm (hZle a haZ) (Nat.le_trans hge hxa)
    obtain ⟨z, hz, haz⟩ := head?_sortDesc_flatten ha
    have had := head_del_of_dead (hZ z hz) haz
    have hfil : (Zs.flatten ++ R).filter (fun r => !decide (y.ts < r.ts)) =
        Zs.flatten ++ R.filter (fun r => !decide (y.ts < r.ts)) := by
      rw [List.filter_append, List.filter_eq_self.2 fun e he => by simpa using hZle e he]
    have hB : (sortDesc (Zs.flatten ++ R.filter (fun r => !decide (y.ts < r.ts)))).head? = some a := by
      rw [head?_sortDesc_append, ha]
      cases hb : (sortDesc (R.filter (fun r => !decide (y.ts < r.ts)))).head? with
      | none => rfl
      | some b =>
        have : b.ts ≤ y.ts := by
          simpa using (List.mem_filter.1 (mem_sortDesc.1 (List.mem_of_mem_head? hb))).2
        simp only []; rw [if_neg (by omega)]
    rw [sortDesc_split y.ts, hfil]
    cases hS : sortDesc (Zs.flatten ++ R.filter (fun r => !decide (y.ts < r.ts))) with
    | nil => rw [hS] at hB; cases hB
    | cons a' B' =>
      rw [hS] at hB; cases hB
      have hA : ∀ e ∈ sortDesc ((Zs.flatten ++ R).filter (fun r => decide (y.ts < r.ts))),
          y.ts < e.ts := fun e he => by simpa using (List.mem_filter.1 (mem_sortDesc.1 he)).2
      rw [cutHdrs_append_live _ fun e he => by
        have hm := (List.mem_filter.1 (mem_sortDesc.1 he)).1
        cases hd : e.del with
        | false => rfl
        | true => have := hlow e hm hd; have := hA e he; omega]
      rw [cutHdrs, if_pos had]
      exact tie_append had hats _ hA

/-- an `only_if_presented` delete with marker `y`, on the records of the key blob by blob, newest
    blob first.  No blob holds the key live: nothing happens, and no reader finds the key.
    Otherwise the marker goes in front of the newest live blob; if a newer (dead) blob holds a
    record at least as new, that blob's own marker hides it; if not, it is as if appended to the
    log.  The lengths serve the `s.closed = []` alternative of `Store.vis_delete` (a single blob is
    never hidden, and what it holds live a reader finds). -/
theorem visOf_dseg_cases {y : Rec} (hy : y.del = true) (Cs : List (List Rec)) :
    (visOf (Cs.map (dseg y true)) = visOf Cs ∧ (Abs.latestOf (visOf Cs)).isFound = false) ∨
    (visOf Cs ≠ [] ∧ visOf (Cs.map (dseg y true)) = visOf Cs ∧
        (Abs.ins y (visOf Cs) = visOf Cs ∨ Abs.tie y (visOf Cs) = true) ∧ 2 ≤ Cs.length) ∨
    (visOf Cs ≠ [] ∧ visOf (Cs.map (dseg y true)) = Abs.ins y (visOf Cs) ∧
        (Cs.length ≤ 1 → (Abs.latestOf (visOf Cs)).isFound = true)) := by
  by_cases hex : ∃ c ∈ Cs, live c = true
  · obtain ⟨Zs, c, Ws, rfl, hZ, hc⟩ := exists_first_live hex
    obtain ⟨r, hr, hrd⟩ := live_iff.1 hc
    have hne : visOf (Zs ++ c :: Ws) ≠ [] := fun h0 => by
      have hrc : r ∈ (Zs ++ c :: Ws).flatten :=
        List.mem_flatten.2 ⟨c, by simp, mem_sortDesc.1 (List.mem_of_mem_head? hr)⟩
      rw [visOf, cutHdrs_eq_nil_iff] at h0
      rw [← mem_sortDesc, h0] at hrc
      cases hrc
    right
    by_cases hx : ∃ x ∈ Zs.flatten, y.ts ≤ x.ts
    · obtain ⟨x, hx, hge⟩ := hx
      refine .inl ⟨hne, visOf_dseg_hidden _ hZ hx hge, ?_, ?_⟩
      · simpa [visOf, List.flatten_append] using ins_or_tie (c ++ Ws.flatten) hZ hx hge
      · cases Zs with
        | nil => cases hx
        | cons z Zs => simp; omega
    · refine .inr ⟨hne, visOf_dseg_front hy hZ hc fun x hx' => Nat.lt_of_not_le fun h => hx ⟨x, hx', h⟩,
        fun hlen => ?_⟩
      cases Zs with
      | cons z Zs => simp at hlen
      | nil =>
        cases Ws with
        | cons w Ws => simp at hlen
        | nil =>
          rw [latestOf_visOf]
          simp [hr, hrd]
  · have hd : ∀ c ∈ Cs, live c = false := fun c hc => by
      cases h : live c with
      | false => rfl
      | true => exact absurd ⟨c, hc, h⟩ hex
    exact .inl ⟨by rw [map_dseg_dead hd], latestOf_visOf_dead hd⟩

end Abs

/-! ### the visible records of the storage, and the answers as functions of them -/

namespace Store

/-- the visible records of key `k`: the rank order of the key, cut after its first marker -/
def vis (s : Store) (k : Key) : List Rec := (Spec.allCut s.history k).map (·.r)

theorem latestOf_map (l : List PRec) :
    (classify l.head?).map (·.r) = Abs.latestOf ((Spec.cut l).map (·.r)) := by
  cases l with
  | nil => rfl
  | cons x xs => cases hx : x.r.del <;> simp [classify, Spec.cut, Abs.latestOf, hx, ReadResult.map]

theorem withOf_map (m : Meta) (cl : List PRec) :
    (classify (cl.find? (fun p => p.r.del || p.r.mt == m))).map (·.r) =
      Abs.withOf (cl.map (·.r)) m := by
  unfold Abs.withOf
  rw [List.find?_map]
  have : ((fun r : Rec => r.del || r.mt == m) ∘ fun p : PRec => p.r) =
      fun p : PRec => p.r.del || p.r.mt == m := rfl
  rw [this]
  cases cl.find? (fun p => p.r.del || p.r.mt == m) with
  | none => rfl
  | some x => simp only [classify, Option.map]; split <;> rfl

theorem readAllMarked_eq_vis {s : Store} (hwf : s.WF) (k : Key) : s.readAllMarked k = s.vis k :=
  readAllMarked_eq_spec hwf k

theorem readAll_eq_vis {s : Store} (hwf : s.WF) (k : Key) :
    s.readAll k = (s.vis k).filter (fun r => !r.del) := by
  rw [readAll_eq_spec hwf k]
  unfold Spec.allLive vis
  rw [List.filter_map]
  rfl

theorem read_eq_vis {s : Store} (hwf : s.WF) (k : Key) (mo : Option Meta) :
    s.read k mo = Abs.readOf (s.vis k) mo := by
  cases mo with
  | none => rw [read_eq_spec hwf k, Spec.latest_eq]; exact latestOf_map _
  | some m => rw [readWith_eq_spec hwf k m, Spec.readWith_cut]; exact withOf_map m _

theorem contains_eq_vis {s : Store} (hwf : s.WF) (k : Key) :
    s.contains k = (Abs.latestOf (s.vis k)).map (·.ts) := by
  have := read_eq_vis hwf k none
  unfold read at this
  unfold contains
  rw [this]; rfl

theorem answers_of_vis_eq {s s' : Store} (hwf : s.WF) (hwf' : s'.WF) {k : Key}
    (hv : s'.vis k = s.vis k) :
    (∀ mo, s'.read k mo = s.read k mo) ∧ s'.contains k = s.contains k ∧
      s'.readAllMarked k = s.readAllMarked k ∧ s'.readAll k = s.readAll k :=
  ⟨fun mo => by rw [read_eq_vis hwf', read_eq_vis hwf, hv],
    by rw [contains_eq_vis hwf', contains_eq_vis hwf, hv],
    by rw [readAllMarked_eq_vis hwf', readAllMarked_eq_vis hwf, hv],
    by rw [readAll_eq_vis hwf', readAll_eq_vis hwf, hv]⟩

theorem all_sorted {s : Store} (hwf : s.WF) (k : Key) : RankSorted (Spec.all s.history k) :=
  sortedBy_sorted _ hwf.history_nodup

/-! #### maintenance leaves the visible records alone -/

theorem vis_congr {s s' : Store}
    (h : History.positioned s'.history = History.positioned s.history) (k : Key) :
    s'.vis k = s.vis k := by
  unfold vis; rw [Spec.allCut_congr h]

theorem vis_of_mem_iff {s s' : Store} (hwf : s.WF) (hwf' : s'.WF) (k : Key)
    (h : ∀ p, p ∈ Spec.all s'.history k ↔ p ∈ Spec.all s.history k) : s'.vis k = s.vis k := by
  unfold vis Spec.allCut
  rw [(all_sorted hwf' k).eq_of_mem_iff (all_sorted hwf k) h]

theorem vis_maint {s : Store} (hwf : s.WF) {m : Op} (hm : m.isMaint = true) (k : Key) :
    (s.apply m).vis k = s.vis k := by
  obtain ⟨e, he, hempty⟩ := (apply_maint_step hwf hm).history_ext
  exact vis_congr (by rw [he, positioned_append_empty _ hempty]) k

theorem vis_ensureActive {s : Store} (hwf : s.WF) (k : Key) : s.ensureActive.vis k = s.vis k := by
  rw [ensureActive_eq_apply]; exact vis_maint hwf rfl k

theorem vis_deleteBase {s : Store} (hwf : s.WF) (oip : Bool) (k : Key) :
    (s.deleteBase oip).vis k = s.vis k := by
  unfold deleteBase; split
  · rfl
  · exact vis_ensureActive hwf k

theorem deleteBase_WF {s : Store} (hwf : s.WF) (oip : Bool) : (s.deleteBase oip).WF := by
  unfold deleteBase; split
  · exact hwf
  · exact ensureActive_WF hwf

/-! #### the log of the storage; `write` -/

/-- all records of the storage in one list, blob after blob, oldest blob first: not the order of the
    operations, which is that of `Abs.log`; the two agree after `Abs.visOfLog .. k`.  A `write` appends
    to both (`log_write`); a `delete` puts a marker at the end of every blob it marks, so it is
    followed on the per-blob lists (`segs_delete`) and there is no `log_delete`. -/
def log (s : Store) : List Rec := s.blobs.flatMap (·.recs)

/-- the visible records of a key are those the blob-free specification reads off the log -/
theorem vis_eq_visOfLog {s : Store} (hwf : s.WF) (k : Key) : s.vis k = Abs.visOfLog s.log k := by
  unfold vis Spec.allCut Abs.visOfLog
  rw [← cutHdrs_map_r, all_map_r (by rw [history_eq, map_hist_ids]; exact hwf.1), history_eq,
    List.flatMap_map]
  rfl

theorem Grow.log {s s₁ : Store} (g : Grow s s₁) : s₁.log = s.log := by
  cases g with
  | same hb _ => unfold Store.log; rw [hb]
  | new hb _ => unfold Store.log; rw [hb]; simp

/-- a write appends to the log exactly when the blob-free specification does -/
theorem log_write {s : Store} (hwf : s.WF) (k : Key) (ts : Nat) (m : Option Meta) (d : Data) :
    (s.write k ts m d).log = Abs.logStep s.allowDup s.log (.write k ts m d) := by
  have hwf0 := ensureActive_WF hwf
  have hl0 := (ensureActive_grow s).log
  have hguard : s.ensureActive.getLatestEntry k m = Abs.readOf (Abs.visOfLog s.log k) m := by
    rw [← hl0, ← vis_eq_visOfLog hwf0]; exact read_eq_vis hwf0 k m
  simp only [Abs.logStep, ← hguard]
  by_cases hg : (!s.allowDup && (s.ensureActive.getLatestEntry k m).isFound) = true
  · have hd : s.allowDup = false ∧ (s.ensureActive.getLatestEntry k m).isFound = true := by
      simpa using hg
    rw [if_pos hg, dedup_write s k ts m d hd.1 hd.2, hl0]
  · have hg' : s.allowDup = true ∨ (s.ensureActive.getLatestEntry k m).isFound = false := by
      cases h : s.allowDup <;> simp_all
    obtain ⟨a, ha, hw⟩ := write_appends s k ts m d hg'
    rw [if_neg hg, ← hl0, hw]
    simp [log, blobs, closed, ha, Blob.append, Abs.wrec]

theorem vis_write {s : Store} (hwf : s.WF) (k : Key) (ts : Nat) (m : Option Meta) (d : Data)
    (k' : Key) :
    (s.write k ts m d).vis k' = Abs.step s.allowDup k' (s.vis k') (.write k ts m d) := by
  have hwf' : (s.write k ts m d).WF := apply_WF' hwf (.write k ts m d)
  rw [vis_eq_visOfLog hwf', vis_eq_visOfLog hwf, log_write hwf, Abs.step_visOfLog]

theorem delete_WF {s : Store} (hwf : s.WF) (k : Key) (ts : Nat) (m : Option Meta) (oip : Bool) :
    (s.delete k ts m oip).1.WF := apply_WF' hwf (.delete k ts m oip)

/-! #### the records of a key blob by blob, and what `delete` does to them -/

open Abs (live visOf dseg sortDesc_cons cut_sort_invisible filter_flatten_dseg visOf_dseg_cases)

/-- the records of key `k` in a blob, latest position first -/
def seg (k : Key) (b : Blob) : List Rec := (b.recs.filter (fun r => r.key == k)).reverse

/-- … per blob, in visiting order -/
def segs (s : Store) (k : Key) : List (List Rec) := s.visit.map (seg k)

/-- the visible records are the cut of the sorted log of the key -/
theorem vis_eq_segs {s : Store} (hwf : s.WF) (k : Key) : s.vis k = visOf (segs s k) := by
  rw [vis_eq_visOfLog hwf]
  unfold Abs.visOfLog visOf segs seg log
  rw [visit_eq]
  congr 2
  generalize s.blobs = l
  induction l with
  | nil => rfl
  | cons b l ih => simp [List.filter_append, ih]

theorem live_seg (b : Blob) (k : Key) : live (seg k b) = (b.getLatest k).isFound := by
  have hs : sortDesc (seg k b) = (b.vec k).reverse := by
    have := all_map_r (h := [b.hist]) (by simp) k
    simp only [List.flatMap_cons, List.flatMap_nil, List.append_nil] at this
    rw [← b.ranked_map_r k]
    exact this.symm
  unfold live Blob.getLatest latestOfVec
  rw [hs, List.head?_reverse]
  cases (b.vec k).getLast? with
  | none => rfl
  | some r => cases hd : r.del <;> simp [hd, ReadResult.isFound]

theorem seg_blobDelete (b : Blob) (k : Key) (ts : Nat) (m : Option Meta) (oip : Bool) (k' : Key) :
    seg k' (blobDelete b k ts m oip).1 =
      if k = k' then dseg (Abs.drec k ts m) oip (seg k b) else seg k' b := by
  rw [blobDelete_fst, dseg, live_seg]
  by_cases hk : k = k'
  · subst hk
    rw [if_pos rfl]
    split
    · simp [seg, mark, marker, Abs.drec]
    · rfl
  · rw [if_neg hk]
    split
    · have hk' : ((marker k ts m).key == k') = false := by simpa [marker] using hk
      simp [seg, mark, List.filter_append, hk']
    · rfl

/-- the records of key `k'` after `delete`, blob by blob in visiting order -/
theorem segs_delete (s : Store) (k : Key) (ts : Nat) (m : Option Meta) (oip : Bool) (k' : Key) :
    segs (s.delete k ts m oip).1 k' =
      if k = k' then
        ((s.deleteBase oip).active.toList.map (seg k)).map (dseg (Abs.drec k ts m) oip) ++
          ((s.deleteBase oip).closed.reverse.map (seg k)).map (dseg (Abs.drec k ts m) true)
      else segs (s.deleteBase oip) k' := by
  unfold segs
  rw [visit_eq, delete_blobs, visit]
  cases (s.deleteBase oip).active <;>
    simp only [Option.toList, List.map_nil, List.append_nil, List.nil_append, List.map_cons,
      List.reverse_append, List.reverse_cons, List.reverse_nil, List.map_append, List.map_reverse,
      List.map_map, Function.comp_def, seg_blobDelete] <;>
    split <;> rfl

theorem vis_delete_other {s : Store} (hwf : s.WF) (k : Key) (ts : Nat) (m : Option Meta)
    (oip : Bool) {k' : Key} (hk : k ≠ k') : (s.delete k ts m oip).1.vis k' = s.vis k' := by
  rw [← vis_deleteBase hwf oip k', vis_eq_segs (delete_WF hwf k ts m oip), vis_eq_segs (deleteBase_WF hwf oip),
    segs_delete, if_neg hk]

/-- `delete` without `only_if_presented`: the marker is consed onto the log; its copies in closed
    blobs lie behind it and are not newer -/
theorem vis_delete_always {s : Store} (hwf : s.WF) (k : Key) (ts : Nat) (m : Option Meta) :
    (s.delete k ts m false).1.vis k = Abs.ins (Abs.drec k ts m) (s.vis k) := by
  have hwf0 : s.ensureActive.WF := ensureActive_WF hwf
  obtain ⟨a, ha⟩ := s.ensureActive_active
  rw [← vis_ensureActive hwf k, vis_eq_segs (delete_WF hwf k ts m false), vis_eq_segs hwf0, segs_delete,
    if_pos rfl, show s.deleteBase false = s.ensureActive from rfl, segs, visit, ha, visOf, visOf,
    ← Abs.cutHdrs_insertDesc, ← sortDesc_cons]
  show cutHdrs (sortDesc ([] ++ Abs.drec k ts m :: (seg k a ++ _))) =
    cutHdrs (sortDesc ([] ++ Abs.drec k ts m :: (seg k a ++ _)))
  exact cut_sort_invisible [] rfl
    (by simp only [List.append_eq, List.map_nil, List.nil_append, List.filter_append,
      filter_flatten_dseg (Nat.le_refl _)])

theorem segs_length (s : Store) (k : Key) : (segs s k).length = s.blobs.length := by
  rw [segs, List.length_map, visit_eq, List.length_reverse]

/-- `delete` with `only_if_presented`, as the key sees it -/
theorem vis_delete_oip {s : Store} (hwf : s.WF) (k : Key) (ts : Nat) (m : Option Meta) :
    (s.delete k ts m true).1.vis k = visOf ((segs s k).map (dseg (Abs.drec k ts m) true)) := by
  rw [vis_eq_segs (delete_WF hwf k ts m true), segs_delete, if_pos rfl,
    show s.deleteBase true = s from rfl, segs, visit, List.map_append, List.map_append]

end Store

/-! ### the abstract `only_if_presented` step: when inserting the marker changes nothing -/

namespace Abs

theorem oipSafe_live {v : List Rec} {y : Rec} (hf : (latestOf v).isFound = true)
    (h : oipSafe v y = true) : ∀ z ∈ v, z.del = true → z.ts = y.ts → z = y := by
  cases v with
  | nil => cases hf
  | cons x xs =>
    have hx : x.del = false := by simpa [isFound_latestOf_cons] using hf
    intro z hz hzd hzt
    simp only [oipSafe, hx, Bool.false_eq_true, if_false, List.all_eq_true] at h
    simpa [hzd, hzt] using h z hz

theorem keepOk_of_not_found {v : List Rec} (y : Rec) (h : (latestOf v).isFound = false) :
    keepOk v y = true := by
  cases v with
  | nil => rfl
  | cons x xs =>
    simp [keepOk, show x.del = true by simpa [isFound_latestOf_cons] using h]

theorem keepOk_of_tie {v : List Rec} {y : Rec} (h : tie y v = true) : keepOk v y = true := by
  cases v with
  | nil => rfl
  | cons x xs => simp [keepOk, h]

/-- a safe delete of a dead key changes nothing: its marker is ranked below the visible one -/
theorem ins_of_dead {v : List Rec} {y : Rec} (hcv : cutHdrs v = v) (hne : v ≠ [])
    (hf : (latestOf v).isFound = false) (h : oipSafe v y = true) : ins y v = v := by
  cases v with
  | nil => exact absurd rfl hne
  | cons x xs =>
    have hx : x.del = true := by simpa [isFound_latestOf_cons] using hf
    have hxs : xs = [] := by simpa [cutHdrs, hx] using hcv.symm
    subst hxs
    rcases (by simpa [oipSafe, hx] using h : y.ts < x.ts ∨ x = y) with h | rfl
    · simp [ins, h, hx]
    · simp [ins, hx]

/-- a marker equal to the visible one, which directly follows the strictly newer records, changes
    nothing -/
theorem ins_of_tie {y : Rec} : ∀ v : List Rec, cutHdrs v = v → tie y v = true →
    (∀ z ∈ v, z.del = true → z.ts = y.ts → z = y) → ins y v = v
  | [], _, h, _ => by simp [tie] at h
  | [x], _, h, he => by
    simp only [tie, Bool.and_eq_true, beq_iff_eq] at h
    cases he x (by simp) h.1 h.2
    simp [ins, h.1]
  | x :: z :: zs, hc, h, he => by
    have hx : x.del = false := by
      cases hx : x.del with
      | false => rfl
      | true => simp [cutHdrs, hx] at hc
    have hc' : cutHdrs (z :: zs) = z :: zs := by simpa [cutHdrs, hx] using hc
    simp only [tie, Bool.and_eq_true, decide_eq_true_eq] at h
    rw [ins, if_pos h.1, hx, ins_of_tie (z :: zs) hc' h.2 fun w hw => he w (by simp [hw])]
    rfl

end Abs

/-! ### the view after `delete`, after every operation, after a run -/

namespace Store

theorem cutHdrs_vis (s : Store) (k : Key) : cutHdrs (s.vis k) = s.vis k := by
  unfold vis Spec.allCut; rw [cutHdrs_map_r, cut_cut]

/-- `delete`, as seen by every key.  With `only_if_presented` the step is the abstract one if the
    delete is safe in the view of the key, or if the storage has no closed blob. -/
theorem vis_delete {s : Store} (hwf : s.WF) (k : Key) (ts : Nat) (m : Option Meta) (oip : Bool)
    (k' : Key)
    (hok : oip = true → k = k' →
      Abs.oipSafe (s.vis k') (Abs.drec k' ts m) = true ∨ s.closed = []) :
    (s.delete k ts m oip).1.vis k' = Abs.step s.allowDup k' (s.vis k') (.delete k ts m oip) := by
  by_cases hk : k = k'
  · subst hk
    cases oip with
    | false => rw [vis_delete_always hwf]; simp [Abs.step]
    | true =>
      have hlen : s.closed = [] → (segs s k).length ≤ 1 := fun hcl => by
        rw [segs_length, blobs, hcl]; cases s.active <;> simp
      simp only [Abs.step, if_true, Bool.true_and]
      rw [vis_delete_oip hwf, vis_eq_segs hwf]
      have hcut : cutHdrs (Abs.visOf (segs s k)) = Abs.visOf (segs s k) := by
        rw [← vis_eq_segs hwf]; exact cutHdrs_vis s k
      rw [vis_eq_segs hwf] at hok
      rcases Abs.visOf_dseg_cases (y := Abs.drec k ts m) rfl (segs s k) with ⟨h, hnf⟩ |
        ⟨_, h, hit, h2⟩ | ⟨hne, h, h1⟩ <;> rw [h]
      · rw [hnf]; rfl
      · -- nothing visible happened: right if the key is dead; if it is live, the new marker is
        -- the visible one (safe); a single blob is never hidden
        cases hf : (Abs.latestOf (Abs.visOf (segs s k))).isFound with
        | false => rfl
        | true =>
          show _ = Abs.ins _ _
          rcases hok rfl rfl with hsafe | hcl
          · exact (hit.elim id fun htie =>
              Abs.ins_of_tie _ hcut htie (Abs.oipSafe_live hf hsafe)).symm
          · have := hlen hcl; omega
      · -- the new marker became the visible one: right if the key is live; if it is dead, the
        -- marker is ranked below the visible one (safe), and with a single blob the key is live
        cases hf : (Abs.latestOf (Abs.visOf (segs s k))).isFound with
        | true => rfl
        | false =>
          show Abs.ins _ _ = _
          rcases hok rfl rfl with hsafe | hcl
          · exact Abs.ins_of_dead hcut hne hf hsafe
          · rw [h1 (hlen hcl)] at hf; cases hf
  · rw [vis_delete_other hwf k ts m oip hk]
    simp [Abs.step, hk]

theorem closed_ensureActive (s : Store) : s.ensureActive.closed = s.closed := by
  unfold ensureActive; cases s.active <;> rfl

theorem closed_write (s : Store) (k : Key) (ts : Nat) (m : Option Meta) (d : Data) :
    (s.write k ts m d).closed = s.closed := by
  rw [← closed_ensureActive s]
  simp only [write]
  split
  · rfl
  · split <;> rfl

theorem closed_delete_nil {s : Store} (hcl : s.closed = []) (k : Key) (ts : Nat) (m : Option Meta)
    (oip : Bool) : (s.delete k ts m oip).1.closed = [] := by
  have h0 : (s.deleteBase oip).closed = [] := by
    unfold deleteBase; split
    · exact hcl
    · rw [closed_ensureActive, hcl]
  rw [delete_fst_eq]
  show ((s.deleteBase oip).slots.map (Option.map _)).filterMap id = []
  rw [filterMap_id_map, show (s.deleteBase oip).slots.filterMap id = [] from h0]
  rfl

theorem vis_apply_data {s : Store} (hwf : s.WF) (dop : DOp) (k : Key)
    (hok : Abs.okStep k (s.vis k) dop = true ∨ s.closed = []) :
    (s.apply dop.toOp).vis k = Abs.step s.allowDup k (s.vis k) dop := by
  cases dop with
  | write k' ts m d => exact vis_write hwf k' ts m d k
  | delete k' ts m oip =>
    refine vis_delete hwf k' ts m oip k ?_
    intro ho hk
    subst ho hk
    rcases hok with h | h
    · left; simpa [Abs.okStep] using h
    · exact Or.inr h

theorem data?_toOp (dop : DOp) : dop.toOp.data? = some dop := by cases dop <;> rfl

theorem toOp_of_data? {op : Op} {dop : DOp} (h : op.data? = some dop) : op = dop.toOp := by
  cases op <;> simp [Op.data?] at h <;> subst h <;> rfl

theorem isMaint_of_data?_none {op : Op} (h : op.data? = none) : op.isMaint = true := by
  cases op <;> simp [Op.data?] at h <;> rfl

theorem dataOps_cons_some {op : Op} {dop : DOp} (h : op.data? = some dop) (ops : List Op) :
    dataOps (op :: ops) = dop :: dataOps ops := by
  unfold dataOps; rw [List.filterMap_cons_some h]

theorem dataOps_cons_none {op : Op} (h : op.data? = none) (ops : List Op) :
    dataOps (op :: ops) = dataOps ops := by
  unfold dataOps; rw [List.filterMap_cons_none h]

/-- from any well-formed storage (with `allow_duplicates = dup`, showing `v` for key `k`): the
    visible records of `k` after a history all of whose `only_if_presented` deletes of `k` are safe
    are those the abstract specification computes from the data operations of the history -/
theorem vis_run_safe (k : Key) : ∀ (ops : List Op) {s : Store} {dup : Bool} {v : List Rec}, s.WF →
    s.allowDup = dup → s.vis k = v → Abs.safeFrom dup k v (dataOps ops) = true →
    (s.run ops).vis k = Abs.viewFrom dup k v (dataOps ops)
  | [], _, _, _, _, _, hv, _ => hv
  | op :: ops, s, dup, v, hwf, hd, hv, hs => by
    rw [run_cons]
    have hd' := (apply_allowDup s op).trans hd
    cases h : op.data? with
    | none =>
      rw [dataOps_cons_none h] at hs ⊢
      exact vis_run_safe k ops (apply_WF' hwf op) hd'
        ((vis_maint hwf (isMaint_of_data?_none h) k).trans hv) hs
    | some dop =>
      rw [dataOps_cons_some h] at hs ⊢
      cases toOp_of_data? h
      simp only [Abs.safeFrom, Bool.and_eq_true] at hs
      exact vis_run_safe k ops (apply_WF' hwf _) hd'
        (by rw [vis_apply_data hwf dop k (.inl (hv ▸ hs.1)), hd, hv]) hs.2

theorem closed_apply_data {s : Store} (hcl : s.closed = []) (dop : DOp) :
    (s.apply dop.toOp).closed = [] := by
  cases dop with
  | write k ts m d => show (s.write k ts m d).closed = []; rw [closed_write, hcl]
  | delete k ts m oip => exact closed_delete_nil hcl k ts m oip

/-- from any well-formed storage without closed blobs: a history of data operations only -/
theorem vis_run_data (k : Key) : ∀ (ops : List Op) {s : Store} {dup : Bool} {v : List Rec}, s.WF →
    s.allowDup = dup → s.vis k = v → s.closed = [] → (∀ op ∈ ops, op.isData = true) →
    (s.run ops).vis k = Abs.viewFrom dup k v (dataOps ops)
  | [], _, _, _, _, _, hv, _, _ => hv
  | op :: ops, s, dup, v, hwf, hd, hv, hcl, hall => by
    rw [run_cons]
    cases h : op.data? with
    | none => have := hall op (by simp); rw [Op.isData, h] at this; cases this
    | some dop =>
      rw [dataOps_cons_some h]
      cases toOp_of_data? h
      exact vis_run_data k ops (apply_WF' hwf _) ((apply_allowDup s _).trans hd)
        (by rw [vis_apply_data hwf dop k (.inr hcl), hd, hv]) (closed_apply_data hcl dop)
        fun o ho => hall o (by simp [ho])

theorem vis_apply_nstep {s : Store} (hwf : s.WF) (dop : DOp) (k : Key) :
    (s.apply dop.toOp).vis k ∈ Abs.nstep s.allowDup k (s.vis k) dop := by
  cases dop with
  | write k' ts m d =>
    simp only [Abs.nstep, List.mem_singleton]
    exact vis_write hwf k' ts m d k
  | delete k' ts m oip =>
    cases oip with
    | false =>
      simp only [Abs.nstep, List.mem_singleton]
      exact vis_delete hwf k' ts m false k (fun h => absurd h (by simp))
    | true =>
      simp only [Abs.nstep]
      by_cases hk : k' = k
      · subst hk
        simp only [if_true, Abs.oipOutcomes, List.mem_append]
        show (s.delete k' ts m true).1.vis k' ∈ _ ∨ (s.delete k' ts m true).1.vis k' ∈ _
        rw [vis_delete_oip hwf, vis_eq_segs hwf]
        rcases Abs.visOf_dseg_cases (y := Abs.drec k' ts m) rfl (segs s k') with ⟨h, hnf⟩ |
          ⟨hne, h, hit, _⟩ | ⟨hne, h, _⟩ <;> rw [h]
        · exact .inr (by rw [Abs.keepOk_of_not_found _ hnf]; simp)
        · rcases hit with hi | htie
          · exact .inl (by rw [hi, List.isEmpty_eq_false_iff.2 hne]; simp)
          · exact .inr (by rw [Abs.keepOk_of_tie htie]; simp)
        · exact .inl (by rw [List.isEmpty_eq_false_iff.2 hne]; simp)
      · simp only [hk, if_false, List.mem_singleton]
        exact vis_delete_other hwf k' ts m true hk

/-- from any well-formed storage, every history: the visible records of key `k` are among the
    possible views of the nondeterministic abstract specification -/
theorem vis_run_nviews (k : Key) : ∀ (ops : List Op) {s : Store} {dup : Bool} {vs : List (List Rec)},
    s.WF → s.allowDup = dup → s.vis k ∈ vs → (s.run ops).vis k ∈ Abs.nviewsFrom dup k vs (dataOps ops)
  | [], _, _, _, _, _, h => h
  | op :: ops, s, dup, vs, hwf, hd, h => by
    rw [run_cons]
    have hd' := (apply_allowDup s op).trans hd
    cases hdo : op.data? with
    | none =>
      rw [dataOps_cons_none hdo]
      exact vis_run_nviews k ops (apply_WF' hwf op) hd'
        (by rw [vis_maint hwf (isMaint_of_data?_none hdo) k]; exact h)
    | some dop =>
      rw [dataOps_cons_some hdo]
      cases toOp_of_data? hdo
      exact vis_run_nviews k ops (apply_WF' hwf _) hd'
        (List.mem_flatMap.2 ⟨s.vis k, h, hd ▸ vis_apply_nstep hwf dop k⟩)

theorem vis_init (d : Bool) (k : Key) : (Store.init d).vis k = [] := by
  simp [vis, Spec.allCut, Spec.all, history, init, createActive, blobs, closed,
    History.positioned, positionedFrom, Spec.cut]

theorem closed_init (d : Bool) : (Store.init d).closed = [] := rfl

theorem allowDup_init (d : Bool) : (Store.init d).allowDup = d := rfl

end Store

/-! ### data operations of a history -/

theorem isData_eq_not_isMaint (op : Op) : op.isData = !op.isMaint := by cases op <;> rfl

theorem dataOps_filter_isData (ops : List Op) : dataOps (ops.filter Op.isData) = dataOps ops := by
  induction ops with
  | nil => rfl
  | cons op ops ih =>
    cases hd : op.data? with
    | none =>
      have : op.isData = false := by simp [Op.isData, hd]
      rw [List.filter_cons_of_neg (by simp [this]), ih, Store.dataOps_cons_none hd]
    | some dop =>
      have : op.isData = true := by simp [Op.isData, hd]
      rw [List.filter_cons_of_pos this, Store.dataOps_cons_some hd, Store.dataOps_cons_some hd, ih]

theorem dataOps_map_toOp (dops : List DOp) : dataOps (dops.map DOp.toOp) = dops := by
  induction dops with
  | nil => rfl
  | cons d ds ih => rw [List.map_cons, Store.dataOps_cons_some (Store.data?_toOp d), ih]

/-! ### the specification alone: safety, and the deterministic view among the allowed ones -/

namespace Abs

theorem okStep_of_key_ne {k : Key} {op : DOp} (h : op.key ≠ k) (v : List Rec) :
    okStep k v op = true := by
  cases op with
  | write k' ts m d => rfl
  | delete k' ts m oip =>
    cases oip with
    | false => rfl
    | true => simp only [okStep, DOp.key] at h ⊢; simp [h]

theorem safeFrom_of_okStep (dup : Bool) {k : Key} : ∀ (ops : List DOp) (v : List Rec),
    (∀ op ∈ ops, ∀ v, okStep k v op = true) → safeFrom dup k v ops = true
  | [], _, _ => rfl
  | op :: ops, v, h => by
    simp only [safeFrom, Bool.and_eq_true]
    exact ⟨h op (by simp) v, safeFrom_of_okStep dup ops _ fun o ho => h o (by simp [ho])⟩

theorem safeFrom_of_key_ne (dup : Bool) {k : Key} (ops : List DOp) (v : List Rec)
    (h : ∀ op ∈ ops, op.key ≠ k) : safeFrom dup k v ops = true :=
  safeFrom_of_okStep dup ops v fun op ho => okStep_of_key_ne (h op ho)

theorem safeFrom_of_noOip (dup : Bool) (k : Key) (ops : List DOp) (v : List Rec)
    (h : noOip ops = true) : safeFrom dup k v ops = true :=
  safeFrom_of_okStep dup ops v fun op ho v => by
    have := List.all_eq_true.1 h op ho
    cases op with
    | write => rfl
    | delete k' ts m oip => cases oip <;> simp_all [okStep]

/-- safety of all keys is decided by looking at the keys that occur -/
theorem safe_iff (dup : Bool) (ops : List DOp) : Safe dup ops ↔ safeAll dup ops = true := by
  unfold Safe safeAll
  rw [List.all_eq_true]
  constructor
  · intro h op _; exact h op.key
  · intro h k
    by_cases hk : ∃ op ∈ ops, op.key = k
    · obtain ⟨op, hop, rfl⟩ := hk
      exact h op hop
    · exact safeFrom_of_key_ne dup ops [] (fun op hop hkey => hk ⟨op, hop, hkey⟩)

theorem safe_of_noOip (dup : Bool) {ops : List DOp} (h : noOip ops = true) : Safe dup ops :=
  fun k => safeFrom_of_noOip dup k ops [] h

theorem step_mem_nstep (dup : Bool) (k : Key) (v : List Rec) (op : DOp) :
    step dup k v op ∈ nstep dup k v op := by
  cases op with
  | write k' ts m d => simp [nstep]
  | delete k' ts m oip =>
    cases oip with
    | false => simp [nstep]
    | true =>
      simp only [nstep, step]
      by_cases hk : k' = k
      · simp only [hk, if_true, Bool.true_and, oipOutcomes, List.mem_append]
        cases v with
        | nil => right; simp [latestOf, ReadResult.isFound, keepOk]
        | cons x xs =>
          cases hx : x.del with
          | true => right; simp [latestOf, ReadResult.isFound, keepOk, hx]
          | false => left; simp [latestOf, ReadResult.isFound, hx]
      · simp [hk]

theorem viewFrom_mem_nviewsFrom (dup : Bool) (k : Key) : ∀ (ops : List DOp) (v : List Rec)
    (vs : List (List Rec)), v ∈ vs → viewFrom dup k v ops ∈ nviewsFrom dup k vs ops
  | [], _, _, h => h
  | op :: ops, v, vs, h => by
    unfold viewFrom
    rw [List.foldl_cons]
    exact viewFrom_mem_nviewsFrom dup k ops _ _
      (List.mem_flatMap.2 ⟨v, h, step_mem_nstep dup k v op⟩)

theorem view_mem_nviews (dup : Bool) (ops : List DOp) (k : Key) : view dup ops k ∈ nviews dup ops k :=
  viewFrom_mem_nviewsFrom dup k ops [] [[]] (by simp)

end Abs

end Pearl
