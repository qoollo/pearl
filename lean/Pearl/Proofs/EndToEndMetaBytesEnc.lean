import Pearl.Model.EndToEndMeta
import Pearl.Proofs.EndToEndBlob
import Pearl.Proofs.IndexValidateLemmas
import Pearl.Proofs.ToolsLemmas
/-
Byte image of the index file: encodings, on top of the L5 (de)serializer lemmas and `BlobInv`.
* the L4 byte serializer (`BPTree.leBytes`, bytes as `Nat`) and the L5 one (`Pearl.leBytes`, bytes as `UInt8`)
  agree: the image of a record header in the index file is `serHeader` of L5 (`rawBytes_eq_serHeader`), so the L5
  deserializer reads it back (`deserHdr_rawBytes`);
* every header a blob pushes into its index is well formed (`hdrsOf_ok`): magic, key length, `u64` ranges;
* big-endian keys and little-endian words read back (`beNat_beBytes`, `leNat_leBytes_lt`).
-/
namespace Pearl.E2E
open Pearl Pearl.BPTree

theorem leBytes_map_ofNat : ∀ (w n : Nat), (BPTree.leBytes w n).map UInt8.ofNat = Pearl.leBytes w n
  | 0, _ => rfl
  | w + 1, n => by
    simp only [BPTree.leBytes, Pearl.leBytes, List.map_cons, UInt8.ofNat_mod_size', leBytes_map_ofNat w]

theorem beBytes_map_ofNat (w n : Nat) : (beBytes w n).map UInt8.ofNat = keyBytes w n := by
  unfold beBytes keyBytes
  rw [List.map_reverse, leBytes_map_ofNat]

theorem leBytes_lt : ∀ (w n : Nat), ∀ b ∈ BPTree.leBytes w n, b < 256
  | 0, _, b, hb => by simp [BPTree.leBytes] at hb
  | w + 1, n, b, hb => by
    simp only [BPTree.leBytes, List.mem_cons] at hb
    rcases hb with rfl | hb
    · exact Nat.mod_lt _ (by decide)
    · exact leBytes_lt w _ b hb

theorem beNat_reverse (l : List Nat) : beNat l.reverse = leNat l := by
  unfold beNat leNat
  rw [List.foldl_reverse]
  congr 1
  funext b acc
  omega

theorem beNat_beBytes (w n : Nat) : beNat (beBytes w n) = n % 256 ^ w := by
  unfold beBytes
  rw [beNat_reverse, leNat_leBytes]

theorem leNat_leBytes_lt {w n : Nat} (h : n < 256 ^ w) : leNat (BPTree.leBytes w n) = n := by
  rw [leNat_leBytes, Nat.mod_eq_of_lt h]

/-- a header as `Record::create` + `set_offset_checksum` produce it for `K`-byte keys -/
structure HdrOK (K : Nat) (h : RecHeader) : Prop where
  magic : h.magicByte = RECORD_MAGIC_BYTE
  key : h.key.length = K
  range : h.InRange

theorem keyBytes_hdrKey {K : Nat} {h : RecHeader} (hk : h.key.length = K) : keyBytes K (hdrKey h) = h.key := by
  unfold keyBytes hdrKey
  have : (Pearl.leBytes K (fromLe h.key.reverse)) = h.key.reverse := by
    have := leBytes_fromLe h.key.reverse
    rwa [List.length_reverse, hk] at this
  rw [this, List.reverse_reverse]

/-- the L4 image of a header is its L5 serialisation -/
theorem rawBytes_eq_serHeader {K : Nat} {h : RecHeader} (ok : HdrOK K h) :
    ((toRaw h).bytes K).map UInt8.ofNat = serHeader h := by
  have hmagic : BPTree.magicByte = h.magicByte := by rw [ok.magic]; rfl
  simp only [RawHeader.bytes, toRaw, List.map_append, leBytes_map_ofNat, beBytes_map_ofNat,
    keyBytes_hdrKey ok.key, hmagic]
  simp only [serHeader, serHeaderPre, serVec, le64, le32, ok.key, List.append_assoc]
  congr 5
  simp [Pearl.leBytes]

theorem rawBytes_lt (K : Nat) (h : RawHeader) : ∀ b ∈ h.bytes K, b < 256 := by
  intro b hb
  simp only [RawHeader.bytes, beBytes, List.mem_append, List.mem_reverse, or_assoc] at hb
  rcases hb with hb | hb | hb | hb | hb | hb | hb | hb | hb | hb <;>
    exact leBytes_lt _ _ b hb

theorem deserHdr_rawBytes {K : Nat} {h : RecHeader} (ok : HdrOK K h) (rest : List Nat) :
    deserHdr ((toRaw h).bytes K ++ rest) = some h := by
  unfold deserHdr
  rw [List.map_append, rawBytes_eq_serHeader ok]
  exact deserHeader_serHeader h _ ok.range

theorem hdrKey_lt {K : Nat} {h : RecHeader} (hk : h.key.length = K) : hdrKey h < 256 ^ K := by
  unfold hdrKey
  have := fromLe_lt h.key.reverse
  rwa [List.length_reverse, hk] at this

theorem scanOf_ok (klen : Nat) : ∀ (Rs : List Record) (pre : List UInt8) (file : List UInt8),
    file = pre ++ tailOf pre.length Rs → file.length < 2 ^ 64 →
    (∀ R ∈ Rs, R.WF klen ∧ R.header.timestamp < 2 ^ 64) →
    ∀ x ∈ scanOf pre.length Rs, HdrOK klen x.2
  | [], _, _, _, _, _, x, hx => by simp [scanOf] at hx
  | R :: Rs, pre, file, hf, hlen, hall, x, hx => by
    obtain ⟨hwf, hts⟩ := hall R (by simp)
    simp only [tailOf] at hf
    simp only [scanOf, List.mem_cons] at hx
    rcases hx with rfl | hx
    · refine ⟨hwf.magic, hwf.key, ?_⟩
      apply final_inRange hwf _ hts
      have : pre.length + (R.image pre.length).length ≤ file.length := by
        rw [hf]; simp only [List.length_append]; omega
      omega
    · have := scanOf_ok klen Rs (pre ++ R.image pre.length) file
        (by rw [hf, List.length_append, List.append_assoc]) hlen (fun R' hR' => hall R' (by simp [hR']))
      rw [List.length_append] at this
      exact this x hx

/-- every header pushed into the index of a blob (C05: `Record::create`, `set_offset_checksum`) is well formed -/
theorem hdrsOf_ok {cfg : Cfg} {b : CBlob} (hb : BlobInv cfg b) : ∀ h ∈ hdrsOf cfg b.ghost, HdrOK cfg.klen h := by
  intro h hh
  unfold hdrsOf blobHeaders at hh
  rw [writtenHeaders_eq, recordsOf_full] at hh
  obtain ⟨x, hx, rfl⟩ := List.mem_map.mp hh
  have hlen : (blobBytes cfg.klen (full b.ghost)).length < 2 ^ 64 := by rw [← hb.file]; exact hb.size
  refine scanOf_ok cfg.klen (b.ghost.map (recOf cfg.klen)) serBlobHeader (blobBytes cfg.klen (full b.ghost)) ?_ hlen ?_ x hx
  · rw [blobBytes_eq, serBlobHeader_length]
  · intro R hR
    obtain ⟨r, hr, rfl⟩ := List.mem_map.mp hR
    exact ⟨recordOf_WF _ _ _, by rw [show (recOf cfg.klen r).header.timestamp = r.ts from recordOf_timestamp _ _ _]; exact hb.ts r hr⟩

end Pearl.E2E
