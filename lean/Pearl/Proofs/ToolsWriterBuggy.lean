import Pearl.Proofs.ToolsWriter
/-
The two seeded variants of `BlobWriter` as counter-models, with what each returns; the exact conditions under
which each is invisible follow in `C16.buggyOffset_invisible_iff`, `C16.buggyClear_invisible_iff`:

  * `stepBuggyOffset` (`written` advances only when there is a cache): identical to the real writer for
    every `validate_every ≠ 0`; with `validate_every = 0` every record is addressed to offset 20, so the
    output differs as soon as two records are written;
  * `stepBuggyClear` (`clear_cache` keeps `written_cached`): identical to the real writer for
    `validate_every = 0` and whenever at most `validate_every` records are written; otherwise the second
    non-empty read-back starts at offset 20 and fails with "Written and cached records is not equal".
-/
namespace Pearl

theorem Writer.validateWrittenRecords_cache {w w' : Writer} (h : w.validateWrittenRecords = .ok w') :
    w'.cache = w.cache := by
  unfold Writer.validateWrittenRecords at h
  split at h
  · cases h; rfl
  · split at h
    · cases h; rfl
    · simp only at h
      split at h
      · cases h
      · split at h
        · cases h
        · cases h; rfl

/-! ## variant 1: `written` advances only when there is a cache -/

theorem writeRecordBuggyOffset_of_cache {w : Writer} (h : w.cache.isSome = true) (r : ToolRecord) :
    w.writeRecordBuggyOffset r = w.writeRecord r := by
  unfold Writer.writeRecordBuggyOffset Writer.writeRecord
  cases hw : w.cache with
  | none => rw [hw] at h; cases h
  | some c => rfl

theorem validateAndClear_real_cache {w w' : Writer} (h : validateAndClear .real w = .ok w') :
    w'.cache.isSome = w.cache.isSome := by
  unfold validateAndClear at h
  cases hv : w.validateWrittenRecords with
  | error e => rw [hv] at h; cases h
  | ok w1 =>
    rw [hv] at h
    cases h
    show w1.clearCache.cache.isSome = _
    rw [Writer.clearCache_cache_isSome, Writer.validateWrittenRecords_cache hv]

theorem runW_buggyOffset_cache (ve : Nat) : ∀ (t : List ToolRecord) (count : Nat) (w : Writer),
    w.cache.isSome = true → runW stepBuggyOffset ve t count w = runW .real ve t count w
  | [], _, _, _ => rfl
  | r' :: t, count, w, hs => by
    have hw : stepBuggyOffset.write w r' = WriterOps.real.write w r' :=
      writeRecordBuggyOffset_of_cache hs r'
    have hs1 : (WriterOps.real.write w r').cache.isSome = true := by
      rw [WriterOps.real_write, Writer.writeRecord_cache_isSome]
      exact hs
    have hvc : validateAndClear stepBuggyOffset (WriterOps.real.write w r') =
        validateAndClear .real (WriterOps.real.write w r') := rfl
    rw [runW, runW, hw]
    split
    · rw [hvc]
      cases hv : validateAndClear .real (WriterOps.real.write w r') with
      | error e => rfl
      | ok w2 =>
        simp only
        exact runW_buggyOffset_cache ve t (count + 1) w2 (by rw [validateAndClear_real_cache hv]; exact hs1)
    · exact runW_buggyOffset_cache ve t (count + 1) _ hs1

theorem buggyOffset_invisible_of_ne_zero (ve : Nat) (hve : ve ≠ 0) (input : List UInt8) (skip : Bool)
    (fRec : Nat → ToolRecord → Except ToolErr ToolRecord)
    (fHdr : Nat → BlobHeader → Except ToolErr BlobHeader) :
    processBlobWithW stepBuggyOffset ve input skip fRec fHdr = processBlobWithV ve input skip fRec fHdr := by
  unfold processBlobWithV
  rcases processBlobWithW_cases input skip fRec fHdr with ⟨e, _, _, h⟩ | ⟨v, o, _, _, _, h⟩
  · rw [h, h]
  · rw [h, h]
    apply runW_buggyOffset_cache
    have : (ve != 0) = true := by simpa using hve
    simp [Writer.afterHeader, this]

/-- the records written one after the other, all addressed to the same `off` -/
def flatImages (off : Nat) : List ToolRecord → List UInt8
  | [] => []
  | r :: rs => Writer.recordImage r off ++ flatImages off rs

/-- with `validate_every = 0` (no cache) `written` never moves: every record is addressed to the position
    after the blob header -/
theorem runW_buggyOffset_zero : ∀ (t : List ToolRecord) (count : Nat) (w : Writer), w.cache = none →
    w.cursor = w.file.length → runW stepBuggyOffset 0 t count w = .ok (w.file ++ flatImages w.written t)
  | [], _, w, _, _ => by simp [runW, finishW, flatImages]
  | r' :: t, count, w, hc, hcur => by
    have hw : stepBuggyOffset.write w r' =
        { file := w.file ++ Writer.recordImage r' w.written,
          cursor := w.cursor + (Writer.recordImage r' w.written).length,
          written := w.written, writtenCached := w.writtenCached, cache := none } := by
      show w.writeRecordBuggyOffset r' = _
      unfold Writer.writeRecordBuggyOffset
      simp only [hc, hcur, pwrite_end]
    rw [runW, if_neg (by simp), hw,
      runW_buggyOffset_zero t (count + 1) _ rfl (by simp only [List.length_append, hcur])]
    simp only [flatImages, List.append_assoc]

theorem serHeader_final_inj_off (h : RecHeader) (a b : Nat) (ha : a < 2 ^ 64) (hb : b < 2 ^ 64)
    (X Y : List UInt8) (he : serHeader (h.final a) ++ X = serHeader (h.final b) ++ Y) : a = b := by
  have hpa : serHeaderPre (h.final a) = serHeaderPre h := rfl
  have hpb : serHeaderPre (h.final b) = serHeaderPre h := rfl
  unfold serHeader at he
  rw [hpa, hpb] at he
  simp only [List.append_assoc] at he
  have he := List.append_cancel_left he
  have h8 := (List.append_inj he (by simp)).1
  have := congrArg fromLe h8
  rwa [show (h.final a).blobOffset = a from rfl, show (h.final b).blobOffset = b from rfl,
    fromLe_le64 ha, fromLe_le64 hb] at this

theorem flatImages_eq_imagesOf_iff (t : List ToolRecord)
    (hsz : ∀ r ∈ t.head?, 20 + (Writer.recordImage r 20).length < 2 ^ 64) :
    flatImages 20 t = imagesOf 20 t ↔ t.length ≤ 1 := by
  constructor
  · intro he
    match t, hsz, he with
    | [], _, _ => simp
    | [_], _, _ => simp
    | r1 :: r2 :: t', hsz, he =>
      exfalso
      have h1 := hsz r1 (by simp)
      simp only [flatImages, imagesOf] at he
      have he := List.append_cancel_left he
      unfold Writer.recordImage at he
      simp only [List.append_assoc] at he
      have := serHeader_final_inj_off r2.header 20 _ (by omega) h1 _ _ he
      have := recordImage_pos r1 20
      omega
  · intro hl
    match t, hl with
    | [], _ => rfl
    | [r], _ => simp [flatImages, imagesOf]
    | _ :: _ :: _, hl => simp at hl

theorem processBlobWithW_buggyOffset_zero (input : List UInt8) (skip : Bool)
    (fRec : Nat → ToolRecord → Except ToolErr ToolRecord)
    (fHdr : Nat → BlobHeader → Except ToolErr BlobHeader) :
    processBlobWithW stepBuggyOffset 0 input skip fRec fHdr =
      match processBlobWith input skip fRec fHdr with
      | .error e => .error (.tool e)
      | .ok out => .ok (out.take 20 ++ flatImages 20 (writtenRecords input skip fRec fHdr)) := by
  rcases processBlobWithW_cases input skip fRec fHdr with ⟨e, h1, _, h⟩ | ⟨v, o, ho, h1, h2, h⟩
  · rw [h, h1]
  · rw [h, h2, h1]
    simp only
    rw [runW_buggyOffset_zero _ _ _ (by simp [Writer.afterHeader]) (by simp [Writer.afterHeader, ho]),
      foldl_writeRecord_eq, List.take_left' ho]
    rfl

/-! ## variant 2: `clear_cache` keeps `written_cached` -/

theorem stepBuggyClear_write : stepBuggyClear.write = Writer.writeRecord := rfl

theorem runW_buggyClear_zero : ∀ (t : List ToolRecord) (count : Nat) (w : Writer),
    runW stepBuggyClear 0 t count w = runW .real 0 t count w
  | [], _, _ => by simp [runW, finishW]
  | r' :: t, count, w => by
    rw [runW, runW, if_neg (by simp), if_neg (by simp)]
    exact runW_buggyClear_zero t (count + 1) _

theorem buggyClear_invisible_zero (input : List UInt8) (skip : Bool)
    (fRec : Nat → ToolRecord → Except ToolErr ToolRecord)
    (fHdr : Nat → BlobHeader → Except ToolErr BlobHeader) :
    processBlobWithW stepBuggyClear 0 input skip fRec fHdr = processBlobWithV 0 input skip fRec fHdr := by
  unfold processBlobWithV
  rcases processBlobWithW_cases input skip fRec fHdr with ⟨e, _, _, h⟩ | ⟨v, o, _, _, _, h⟩
  · rw [h, h]
  · rw [h, h]
    exact runW_buggyClear_zero _ _ _

/-- the writer of variant 2 after its first `clear_cache`: `written_cached` still counts from the end of
    the blob header, where the first record `r1` lies, but the cache only holds later records -/
structure Writer.StaleInv (w : Writer) : Prop where
  cur : w.cursor = w.file.length
  wr : w.written = w.file.length
  wc : w.written = 20 + w.writtenCached
  first : ∃ H r1 rest, H.length = 20 ∧ r1.Canon ∧ w.file = H ++ (Writer.recordImage r1 20 ++ rest)
  cache : ∃ c, w.cache = some c ∧ ∀ x ∈ c, x.header.blobOffset ≠ 20

theorem Writer.StaleInv.validate_fail {w : Writer} (hs : w.StaleInv) {c : List ToolRecord}
    (hc : w.cache = some c) (hne : c ≠ []) (hlen : w.file.length < 2 ^ 64) :
    w.validateWrittenRecords = .error .notEqual := by
  unfold Writer.validateWrittenRecords
  rw [hc]
  simp only
  have hwc := hs.wc
  rw [if_neg hne, if_neg (by omega)]
  have hstart : w.written - w.writtenCached = 20 := by omega
  rw [hstart]
  obtain ⟨H, r1, rest, hH, hcan, hfile⟩ := hs.first
  have hrd := readSingleRecord_recordImage H rest r1 hcan 20 hH
    (by rw [hfile] at hlen; simp only [List.length_append] at hlen; omega)
  rw [← hfile] at hrd
  obtain ⟨c', hc', hoff⟩ := hs.cache
  rw [hc] at hc'
  cases hc'
  cases c with
  | nil => exact absurd rfl hne
  | cons x xs =>
    have hx : x ≠ r1.addressed 20 := by
      intro he
      exact hoff x (List.mem_cons_self ..) (by rw [he]; rfl)
    simp only [Writer.readback, hrd, ne_eq, hx, not_false_eq_true, ↓reduceIte]

theorem Writer.validate_nil {w : Writer} (hc : w.cache = some []) : w.validateWrittenRecords = .ok w := by
  unfold Writer.validateWrittenRecords
  rw [hc]
  simp

theorem Writer.StaleInv.writeRecord {w : Writer} (hs : w.StaleInv) (r : ToolRecord) :
    (w.writeRecord r).StaleInv ∧ ∃ c, (w.writeRecord r).cache = some c ∧ c ≠ [] := by
  obtain ⟨c, hc, hoff⟩ := hs.cache
  obtain ⟨H, r1, rest, hH, hcan, hfile⟩ := hs.first
  have hfl : 77 ≤ w.file.length := by
    rw [hfile]; simp only [List.length_append, hH]
    have := recordImage_pos r1 20
    omega
  have hf : (w.writeRecord r).file = w.file ++ Writer.recordImage r w.written := by
    simp only [Writer.writeRecord, hs.cur, pwrite_end]
  have hwc := hs.wc
  refine ⟨⟨?_, ?_, ?_, ?_, ?_⟩, ?_⟩
  · rw [hf]; simp only [Writer.writeRecord, hs.cur, List.length_append]
  · rw [hf]; simp only [Writer.writeRecord, hs.wr, List.length_append]
  · simp only [Writer.writeRecord, hc]; omega
  · exact ⟨H, r1, rest ++ Writer.recordImage r w.written, hH, hcan,
      by rw [hf, hfile]; simp only [List.append_assoc]⟩
  · refine ⟨c ++ [{ r with header := r.header.final w.written }], by simp only [Writer.writeRecord, hc], ?_⟩
    intro x hx
    rcases List.mem_append.mp hx with h | h
    · exact hoff x h
    · simp only [List.mem_singleton] at h
      subst h
      show w.written ≠ 20
      rw [hs.wr]; omega
  · exact ⟨c ++ [{ r with header := r.header.final w.written }], by simp only [Writer.writeRecord, hc],
      by simp⟩

theorem Writer.clearCacheBuggy_file (w : Writer) : w.clearCacheBuggy.file = w.file := by
  unfold Writer.clearCacheBuggy; cases w.cache <;> rfl

theorem finishW_stale {ve : Nat} (hve : ve ≠ 0) {w : Writer} (hs : w.StaleInv) {c : List ToolRecord}
    (hc : w.cache = some c) (hlen : w.file.length < 2 ^ 64) :
    finishW stepBuggyClear ve w = if c = [] then .ok w.file else .error .notEqual := by
  unfold finishW validateAndClear
  rw [if_pos hve]
  by_cases hn : c = []
  · subst hn
    rw [Writer.validate_nil hc, if_pos rfl]
    exact congrArg Except.ok (Writer.clearCacheBuggy_file w)
  · rw [hs.validate_fail hc hn hlen, if_neg hn]

theorem runW_stale (ve : Nat) (hve : ve ≠ 0) : ∀ (t : List ToolRecord) (count : Nat) (w : Writer)
    (c : List ToolRecord), w.StaleInv → w.cache = some c → (t.foldl Pearl.writeRecord w.file).length < 2 ^ 64 →
    runW stepBuggyClear ve t count w = if c = [] ∧ t = [] then .ok w.file else .error .notEqual
  | [], _, w, c, hs, hc, hsz => by
    rw [runW, finishW_stale hve hs hc hsz]
    simp
  | r' :: t, count, w, c, hs, hc, hsz => by
    simp only [List.foldl_cons] at hsz
    rw [show (if c = [] ∧ (r' :: t) = []
      then (Except.ok w.file : Except WriterErr (List UInt8)) else .error .notEqual) = .error .notEqual
      from if_neg (by simp)]
    obtain ⟨hs1, c1, hc1, hne1⟩ := hs.writeRecord r'
    have hf1 : (w.writeRecord r').file = Pearl.writeRecord w.file r' := by
      simp only [Writer.writeRecord, hs.cur, hs.wr, pwrite_end]; rfl
    have hlt : (w.writeRecord r').file.length < 2 ^ 64 := by
      rw [hf1]; exact Nat.lt_of_le_of_lt (foldl_writeRecord_length_le _ _) hsz
    rw [runW, stepBuggyClear_write]
    split
    · unfold validateAndClear
      rw [hs1.validate_fail hc1 hne1 hlt]
    · rw [runW_stale ve hve t (count + 1) _ c1 hs1 hc1 (by rw [hf1]; exact hsz), if_neg (by simp [hne1])]

/-- the writer of variant 2 before its first `clear_cache`: as the real one, the cache holding all `count`
    records written so far -/
structure Writer.FreshInv (w : Writer) (count : Nat) : Prop where
  cur : w.cursor = w.file.length
  wr : w.written = w.file.length
  run : ∃ base rs, base.length = 20 ∧ w.file = base ++ imagesOf 20 rs ∧ w.cache = some (cachedOf 20 rs) ∧
    w.writtenCached = (imagesOf 20 rs).length ∧ (∀ r ∈ rs, r.Canon) ∧ rs.length = count

theorem Writer.FreshInv.inv {w : Writer} {n : Nat} (h : w.FreshInv n) : w.Inv := by
  obtain ⟨base, rs, hb, hfile, hc, hwc, hcan, _⟩ := h.run
  refine ⟨h.cur, h.wr, fun c hc' => ⟨base, rs, ?_, ?_, ?_, hcan⟩⟩
  · rw [hb]; exact hfile
  · rw [hc] at hc'; cases hc'; rw [hb]
  · rw [hb]; exact hwc

theorem Writer.FreshInv.writeRecord {w : Writer} {n : Nat} (h : w.FreshInv n) {r : ToolRecord}
    (hcr : r.Canon) : (w.writeRecord r).FreshInv (n + 1) := by
  have hi := h.inv.writeRecord (fun _ => hcr)
  obtain ⟨base, rs, hb, hfile, hc, hwc, hcan, hn⟩ := h.run
  rw [← hb] at hfile hc hwc
  obtain ⟨h1, h2, h3⟩ := Writer.writeRecord_run h.cur h.wr hfile hc hwc r
  rw [hb] at h1 h2 h3
  exact ⟨hi.cur, hi.wr, base, rs ++ [r], hb, h1, h2, h3,
    List.forall_mem_append.mpr ⟨hcan, List.forall_mem_singleton.mpr hcr⟩, by simp [hn]⟩

theorem Writer.FreshInv.stale {w : Writer} {n : Nat} (h : w.FreshInv (n + 1)) :
    w.clearCacheBuggy.StaleInv ∧ w.clearCacheBuggy.cache = some [] := by
  obtain ⟨base, rs, hb, hfile, hc, hwc, hcan, hn⟩ := h.run
  unfold Writer.clearCacheBuggy
  rw [hc]
  refine ⟨⟨h.cur, h.wr, ?_, ?_, [], rfl, by simp⟩, rfl⟩
  · show w.written = 20 + w.writtenCached
    rw [h.wr, hwc, hfile, List.length_append, hb]
  · cases rs with
    | nil => simp at hn
    | cons r1 rs' =>
      exact ⟨base, r1, imagesOf (20 + (Writer.recordImage r1 20).length) rs', hb,
        hcan r1 (List.mem_cons_self ..), by rw [hfile]; rfl⟩

theorem finishW_fresh {ve : Nat} {w : Writer} {n : Nat} (h : w.FreshInv n) (hlen : w.file.length < 2 ^ 64) :
    finishW stepBuggyClear ve w = .ok w.file := by
  unfold finishW validateAndClear
  split
  · rw [h.inv.validate_ok (fun _ => hlen)]
    exact congrArg Except.ok (Writer.clearCacheBuggy_file w)
  · rfl

theorem runW_fresh (ve : Nat) (hve : ve ≠ 0) : ∀ (t : List ToolRecord) (count : Nat) (w : Writer),
    w.FreshInv count → count < ve → (∀ r ∈ t, r.Canon) → (t.foldl Pearl.writeRecord w.file).length < 2 ^ 64 →
    runW stepBuggyClear ve t count w =
      if count + t.length ≤ ve then .ok (t.foldl Pearl.writeRecord w.file) else .error .notEqual
  | [], count, w, hfr, hlt, _, hsz => by
    rw [runW, finishW_fresh hfr hsz, if_pos (by simp only [List.length_nil]; omega)]
    rfl
  | r' :: t, count, w, hfr, hlt, hcan, hsz => by
    simp only [List.foldl_cons] at hsz
    have hfr1 := hfr.writeRecord (hcan r' (List.mem_cons_self ..))
    have hf1 : (w.writeRecord r').file = Pearl.writeRecord w.file r' := Writer.writeRecord_file hfr.inv r'
    have hlt1 : (w.writeRecord r').file.length < 2 ^ 64 := by
      rw [hf1]; exact Nat.lt_of_le_of_lt (foldl_writeRecord_length_le _ _) hsz
    have hcan' : ∀ x ∈ t, x.Canon := fun x hx => hcan x (List.mem_cons_of_mem _ hx)
    simp only [List.length_cons, List.foldl_cons]
    rw [runW, stepBuggyClear_write]
    rcases Nat.lt_or_eq_of_le (show count + 1 ≤ ve from hlt) with hcv | hcv
    case inr =>
      -- the batch is full: the first read-back succeeds, and `clear_cache` leaves a stale state
      rw [if_pos ⟨hve, by rw [hcv, Nat.mod_self]⟩]
      obtain ⟨hst, hcn⟩ := hfr1.stale
      have hfl := Writer.clearCacheBuggy_file (w.writeRecord r')
      have hvc : validateAndClear stepBuggyClear (w.writeRecord r') = .ok (w.writeRecord r').clearCacheBuggy := by
        unfold validateAndClear
        rw [hfr1.inv.validate_ok (fun _ => hlt1)]
        rfl
      rw [hvc]
      simp only
      rw [runW_stale ve hve t (count + 1) _ [] hst hcn (by rw [hfl, hf1]; exact hsz)]
      by_cases hnil : t = []
      · rw [hnil, if_pos ⟨rfl, rfl⟩, if_pos (by simp; omega), hfl, hf1]
        rfl
      · rw [if_neg (by simp [hnil]), if_neg]
        have : 0 < t.length := List.length_pos_iff.mpr hnil
        omega
    case inl =>
      rw [if_neg (fun h => by have := h.2; rw [Nat.mod_eq_of_lt hcv] at this; omega),
        runW_fresh ve hve t (count + 1) _ hfr1 hcv hcan' (by rw [hf1]; exact hsz), hf1]
      have : count + 1 + t.length = count + (t.length + 1) := by omega
      rw [this]

theorem Writer.afterHeader_fresh {o : List UInt8} (ho : o.length = 20) :
    (Writer.afterHeader true o).FreshInv 0 :=
  ⟨by simp [Writer.afterHeader, ho], by simp [Writer.afterHeader, ho],
    o, [], ho, by simp [imagesOf, Writer.afterHeader], by simp [cachedOf, Writer.afterHeader],
    by simp [imagesOf, Writer.afterHeader], by simp, rfl⟩

theorem processBlobWithW_buggyClear (ve : Nat) (hve : ve ≠ 0) (input : List UInt8) (skip : Bool)
    (fRec : Nat → ToolRecord → Except ToolErr ToolRecord)
    (fHdr : Nat → BlobHeader → Except ToolErr BlobHeader)
    (hcan : ∀ r ∈ writtenRecords input skip fRec fHdr, r.Canon)
    (hsz : ∀ out, processBlobWith input skip fRec fHdr = .ok out → out.length < 2 ^ 64) :
    processBlobWithW stepBuggyClear ve input skip fRec fHdr =
      if (writtenRecords input skip fRec fHdr).length ≤ ve then processBlobWithV ve input skip fRec fHdr
      else .error .notEqual := by
  unfold processBlobWithV
  rcases processBlobWithW_cases input skip fRec fHdr with ⟨e, _, h0, h⟩ | ⟨v, o, ho, h1, h2, h⟩
  · rw [h, h, h0, if_pos (by simp)]
  · have hb : (ve != 0) = true := by simpa using hve
    rw [h1] at hcan ⊢
    have hlt := hsz _ h2
    rw [h, h, hb]
    rw [runW_fresh ve hve _ 0 _ (Writer.afterHeader_fresh ho) (by omega) hcan hlt,
      runW_real ve _ 0 _ (Writer.afterHeader_inv _ ho) (fun _ => hcan) (fun _ => hlt)]
    simp only [Nat.zero_add]

theorem liftW_ne_notEqual (x : Except ToolErr (List UInt8)) : liftW x ≠ .error .notEqual := by
  cases x <;> (intro h; cases h)

theorem head_size_of_output {input : List UInt8} {skip : Bool}
    {fRec : Nat → ToolRecord → Except ToolErr ToolRecord}
    {fHdr : Nat → BlobHeader → Except ToolErr BlobHeader} {out : List UInt8}
    (h : processBlobWith input skip fRec fHdr = .ok out) (hlen : out.length < 2 ^ 64) :
    ∀ r ∈ (writtenRecords input skip fRec fHdr).head?, 20 + (Writer.recordImage r 20).length < 2 ^ 64 := by
  obtain ⟨o, ho, hout⟩ := processBlobWith_eq_written h
  intro r hr
  cases hw : writtenRecords input skip fRec fHdr with
  | nil => rw [hw] at hr; cases hr
  | cons r1 t =>
    rw [hw] at hr hout
    simp only [List.head?_cons, Option.mem_def, Option.some.injEq] at hr
    subst hr
    rw [hout] at hlen
    simp only [imagesOf, List.length_append, ho] at hlen
    omega

end Pearl
