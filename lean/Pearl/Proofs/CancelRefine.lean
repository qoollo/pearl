import Pearl.Proofs.CancelLemmas
/-
Lemmas for C14: the operations of Pearl/Model/Cancel.lean that are NOT cancelled refine the L2 operations of
Pearl/Model/Store.lean (`write_refines`, `delete_refines`; `create_active`: `Pearl.C14.create_completes`);
the state a completed `delete` leaves (`delete_run`) and the lemmas for its count (`Pearl.C14.delete_returns_count`).
-/
namespace Pearl.Cancel
open Pearl

theorem write_refines (c : Cfg) (a : WArgs) (s0 : CStore) :
    (runItems (writeSegments c a s0) s0).toStore = s0.toStore.write a.k a.ts a.m a.d := by
  rw [write_run]
  cases hdup : isDup c a s0
  · exact toStore_sFull c a s0 hdup
  · unfold Store.write
    simp only
    rw [← toStore_afterCreate c s0,
      show (!(afterCreate c s0).toStore.allowDup &&
        ((afterCreate c s0).toStore.getLatestEntry a.k a.m).isFound) = true from hdup]
    rfl

/-- what a completed `Blob::delete` does to the blob it selects (`b0` = the blob as the operation found
    it, `b` = the blob as it is when the segments run) -/
def delF (c : Cfg) (a : DArgs) (oip : Bool) (b0 b : CBlob) : CBlob :=
  if needMarker a oip b0 then
    (((if b0.onDisk then CBlob.loadIndex else id) b).fileWrite c a.entry).pushWritten c a.entry
  else b

/-- ... on the blob it was computed from -/
def delB (c : Cfg) (a : DArgs) (oip : Bool) (b : CBlob) : CBlob := delF c a oip b b

theorem delF_eq_cutB (c : Cfg) (a : DArgs) (oip : Bool) (b0 : CBlob) :
    delF c a oip b0 = cutB c a b0 (if needMarker a oip b0 then .done else .untouched) := by
  funext b
  unfold delF
  cases needMarker a oip b0 <;> rfl

theorem delB_eq (c : Cfg) (a : DArgs) (oip : Bool) (b0 : CBlob) :
    delB c a oip b0 =
      if needMarker a oip b0 then ((loadedB b0).fileWrite c a.entry).pushWritten c a.entry else b0 := by
  unfold delB
  rw [delF_eq_cutB, ← loadSel_self]
  cases needMarker a oip b0 <;> rfl

theorem toBlob_delB (c : Cfg) (a : DArgs) (oip : Bool) (b0 : CBlob) :
    (delB c a oip b0).toBlob = (Store.blobDelete b0.toBlob a.k a.ts a.m oip).1 := by
  rw [delB_eq]; exact toBlob_markerDone c a oip b0

theorem blobDelete_run_on {on : (CBlob → CBlob) → CStore → CStore} (hsel : BlobSel on)
    (c : Cfg) (a : DArgs) (oip : Bool) (b0 : CBlob) (s : CStore) :
    runItems (blobDeleteItems c on a oip b0) s = on (delF c a oip b0) s := by
  rw [blobDelete_run, cutOn_eq hsel, delF_eq_cutB]

/-- apply `F i` to the blob in slot `i`, for every slot -/
def mapSlots (F : Nat → CBlob → CBlob) (s : CStore) : CStore :=
  { s with slots := s.slots.zipIdx.map (fun p => p.1.map (F p.2)) }

theorem mapSlots_slot (F : Nat → CBlob → CBlob) (s : CStore) (i : Nat) :
    (mapSlots F s).slots[i]? = (s.slots[i]?).map (·.map (F i)) := by
  unfold mapSlots
  simp only [List.getElem?_map, List.getElem?_zipIdx, Option.map_map, Nat.zero_add]
  rfl

theorem mem_mapSlots {F : Nat → CBlob → CBlob} {s : CStore} {b : CBlob} (hb : some b ∈ (mapSlots F s).slots) :
    ∃ i b0, s.slots[i]? = some (some b0) ∧ b = F i b0 := by
  obtain ⟨i, hi, hget⟩ := List.mem_iff_getElem.mp hb
  have h1 : (mapSlots F s).slots[i]? = some (some b) := by rw [List.getElem?_eq_getElem hi, hget]
  rw [mapSlots_slot] at h1
  match hs : s.slots[i]? with
  | none | some none => rw [hs] at h1; cases h1
  | some (some b0) => rw [hs] at h1; exact ⟨i, b0, hs, (Option.some.inj (Option.some.inj h1)).symm⟩

theorem mapSlots_congr (F G : Nat → CBlob → CBlob) (s : CStore)
    (h : ∀ i b, s.slots[i]? = some (some b) → F i b = G i b) : mapSlots F s = mapSlots G s := by
  unfold mapSlots
  congr 1
  apply List.map_congr_left
  intro p hp
  obtain ⟨o, i⟩ := p
  have := List.mk_mem_zipIdx_iff_getElem?.mp hp
  cases o with
  | none => rfl
  | some b => simp only [Option.map_some]; rw [h i b this]

theorem mapSlots_const (f : CBlob → CBlob) (s : CStore) :
    mapSlots (fun _ b => f b) s = { s with slots := s.slots.map (·.map f) } := by
  unfold mapSlots
  congr 1
  apply List.ext_getElem?
  intro i
  simp only [List.getElem?_map, List.getElem?_zipIdx, Option.map_map]
  rfl

theorem modify_length_append {α : Type} (f : α → α) (pre : List α) (x : α) (l : List α) :
    (pre ++ x :: l).modify pre.length f = pre ++ f x :: l := by
  induction pre with
  | nil => rfl
  | cons y pre ih =>
    simp only [List.cons_append, List.length_cons, List.modify_succ_cons, ih]

/-- visiting the present entries of a list of optional values with their positions and modifying each
    position with a function computed from the position and the entry found there = mapping -/
theorem foldl_modify_zipIdx {α : Type} (g : Nat → α → α → α) (l pre : List (Option α)) :
    ((l.zipIdx pre.length).filterMap (fun p => p.1.map (fun b => (p.2, b)))).foldl
        (fun acc p => acc.modify p.1 (·.map (g p.1 p.2))) (pre ++ l) =
      pre ++ (l.zipIdx pre.length).map (fun p => p.1.map (fun b => g p.2 b b)) := by
  induction l generalizing pre with
  | nil => simp
  | cons o l ih =>
    rw [List.zipIdx_cons]
    cases o with
    | none =>
      simp only [List.filterMap_cons, Option.map_none, List.map_cons]
      have := ih (pre ++ [none])
      rw [List.length_append, List.length_singleton, List.append_assoc, List.singleton_append] at this
      rw [this]
      simp
    | some b =>
      simp only [List.filterMap_cons, Option.map_some, List.foldl_cons, List.map_cons]
      rw [modify_length_append]
      have := ih (pre ++ [some (g pre.length b b)])
      rw [List.length_append, List.length_singleton, List.append_assoc, List.singleton_append] at this
      simp only [Option.map_some]
      rw [this]
      simp

/-- one function per closed blob, computed from its slot number and the blob as found, each applied to its slot:
    together they are a `mapSlots` -/
theorem foldl_onSlot_closed (F : Nat → CBlob → CBlob → CBlob) (s1 s : CStore) (hs : s.slots = s1.slots) :
    (closedWithSlots s1).foldl (fun s p => CStore.onSlot p.1 (F p.1 p.2) s) s =
      mapSlots (fun i b => F i b b) s := by
  have hfold : ∀ (L : List (Nat × CBlob)) (s : CStore),
      L.foldl (fun s p => CStore.onSlot p.1 (F p.1 p.2) s) s =
        { s with slots := L.foldl (fun acc p => acc.modify p.1 (·.map (F p.1 p.2))) s.slots } := by
    intro L
    induction L with
    | nil => intro s; rfl
    | cons p L ih => intro s; rw [List.foldl_cons, ih]; rfl
  have := foldl_modify_zipIdx F s1.slots []
  simp only [List.length_nil, List.nil_append] at this
  rw [hfold, hs]
  unfold closedWithSlots mapSlots
  rw [this, hs]

theorem closed_run_slots (c : Cfg) (a : DArgs) (s1 s : CStore) (hs : s.slots = s1.slots) :
    runItems (delClosedItems c a s1).flatten s =
      { s with slots := s1.slots.map (·.map (delB c a true)) } := by
  unfold delClosedItems
  rw [runItems_flatten_map]
  simp only [blobDelete_run_on (onSlot_sel _)]
  rw [foldl_onSlot_closed (fun _ => delF c a true) s1 s hs, ← hs]
  exact mapSlots_const (delB c a true) s

theorem delActive_run (c : Cfg) (a : DArgs) (s1 : CStore) :
    runItems (delActiveItems c a s1) s1 = { s1 with active := s1.active.map (delB c a a.oip) } := by
  unfold delActiveItems
  cases hact : s1.active with
  | none => cases s1; cases hact; rfl
  | some b =>
    show runItems (blobDeleteItems c CStore.onActive a a.oip b) s1 = _
    rw [blobDelete_run_on onActive_sel]
    unfold CStore.onActive
    rw [hact]
    rfl

theorem delS2_eq (c : Cfg) (a : DArgs) (s0 : CStore) :
    delS2 c a s0 = { delS1 a s0 with active := (delS1 a s0).active.map (delB c a a.oip) } :=
  delActive_run c a (delS1 a s0)

theorem delete_run (c : Cfg) (a : DArgs) (s0 : CStore) :
    runItems (deleteSegments c a s0) s0 =
      { delS1 a s0 with
        active := (delS1 a s0).active.map (delB c a a.oip)
        slots := (delS1 a s0).slots.map (·.map (delB c a true)) } := by
  rw [deleteSegments_eq, runItems_append, plain_run _ plain1, runItems_append, delCreate_run,
    runItems_append, delActive_run, runItems_append, plain_run _ plain1]
  exact closed_run_slots c a (delS1 a s0) _ rfl

theorem toStore_delS1 (a : DArgs) (s0 : CStore) :
    (delS1 a s0).toStore = s0.toStore.deleteBase a.oip := by
  unfold delS1 needCreate Store.deleteBase Store.ensureActive
  cases a.oip
  · cases h : s0.active with
    | none => rw [show s0.toStore.active = none from congrArg (Option.map _) h]; rfl
    | some b => rw [show s0.toStore.active = some b.toBlob from congrArg (Option.map _) h]; rfl
  · rfl

theorem delete_refines (c : Cfg) (a : DArgs) (s0 : CStore) :
    (runItems (deleteSegments c a s0) s0).toStore = (s0.toStore.delete a.k a.ts a.m a.oip).1 := by
  rw [delete_run, Pearl.Store.delete_fst_eq, ← toStore_delS1]
  unfold CStore.toStore
  simp only [Option.map_map, List.map_map]
  congr 1
  · congr 1
    funext b
    exact toBlob_delB c a a.oip b
  · congr 1
    funext o
    cases o with
    | none => rfl
    | some b => simp only [Function.comp, Option.map_some]; rw [toBlob_delB]

/-- number of record images in the file of a blob that may be absent -/
def optRecs (o : Option CBlob) : Nat :=
  match o with
  | some b => b.frecs.length
  | none => 0

/-- number of record images in the blob files of the storage -/
def CStore.fileRecCount (s : CStore) : Nat := optRecs s.active + (s.slots.map optRecs).sum

/-- 1 if `Blob::delete` reports a marker on the blob (if there is one) -/
def markCount (k : Key) (ts : Nat) (m : Option Meta) (oip : Bool) (o : Option Blob) : Nat :=
  match o with
  | some b => if (Store.blobDelete b k ts m oip).2 then 1 else 0
  | none => 0

theorem optRecs_delB (c : Cfg) (a : DArgs) (oip : Bool) (o : Option CBlob) :
    optRecs (o.map (delB c a oip)) = optRecs o + markCount a.k a.ts a.m oip (o.map CBlob.toBlob) := by
  cases o with
  | none => rfl
  | some b =>
    have hsnd : (Store.blobDelete b.toBlob a.k a.ts a.m oip).2 = needMarker a oip b := Store.blobDelete_snd ..
    show (delF c a oip b b).frecs.length = b.frecs.length + if (Store.blobDelete b.toBlob a.k a.ts a.m oip).2 then 1 else 0
    rw [hsnd, delF_eq_cutB]
    cases needMarker a oip b
    · rfl
    · show ((loadSel b b).frecs ++ [a.entry]).length = b.frecs.length + 1
      unfold loadSel
      cases b.onDisk <;> simp [CBlob.loadIndex]

theorem closed_filter_length (k : Key) (ts : Nat) (m : Option Meta) (l : List (Option Blob)) :
    ((l.filterMap id).filter (fun b => (Store.blobDelete b k ts m true).2)).length =
      (l.map (markCount k ts m true)).sum := by
  induction l with
  | nil => rfl
  | cons o l ih =>
    cases o with
    | none => simpa [markCount] using ih
    | some b =>
      simp only [List.filterMap_cons, id, List.filter_cons, List.map_cons, List.sum_cons, markCount]
      split <;> simp [ih]; omega

theorem Store.delete_snd (S : Store) (k : Key) (ts : Nat) (m : Option Meta) (oip : Bool) :
    (S.delete k ts m oip).2 =
      markCount k ts m oip (S.deleteBase oip).active + ((S.deleteBase oip).slots.map (markCount k ts m true)).sum :=
  (Pearl.Store.delete_snd_eq S k ts m oip).trans (congrArg (_ + ·) (closed_filter_length k ts m _))

theorem fileRecCount_delS1 (a : DArgs) (s0 : CStore) : (delS1 a s0).fileRecCount = s0.fileRecCount := by
  unfold delS1
  split
  · next h =>
    have hact : s0.active = none := by
      unfold needCreate at h
      cases h' : s0.active with
      | none => rfl
      | some b => rw [h'] at h; simp at h
    unfold CStore.fileRecCount sNew sHdr sFile writeHdr createFile install bumpId
    rw [hact]
    rfl
  · rfl

end Pearl.Cancel
