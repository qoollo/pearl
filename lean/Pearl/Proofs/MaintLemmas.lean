import Pearl.Proofs.StoreLemmas
/-
For C03 / C04 / C15: maintenance operations extend the history by empty blobs only, which the
specification does not see; `nextId` stays one above the greatest blob id on every run (`Tight`), so
`restart` does not move it; `allowDup` never changes (`apply_allowDup`); record counts of `write` and
`delete`; the index rebuilt from the blob
file (`rebuildIndex`); what restarting twice needs (`idBound_congr`, `dumpFlag_idem`; `restart_idempotent` in C03).
-/
namespace Pearl

/-! ### `restart` recomputes `nextId`; maintenance extends the history by empty blobs only -/

namespace Store

/-- greatest blob id (`0` without blobs) -/
def maxId (s : Store) : Nat := (s.blobs.map (·.id)).foldl max 0

theorem idBound_eq_foldl (s : Store) :
    s.idBound = (s.blobs.map (·.id)).foldl (fun m i => max m (i + 1)) 0 := by
  rw [List.foldl_map]; rfl

theorem foldl_succ_max : ∀ (l : List Nat) (a : Nat),
    l.foldl (fun m i => max m (i + 1)) (a + 1) = l.foldl max a + 1
  | [], _ => rfl
  | x :: xs, a => by
    rw [List.foldl_cons, List.foldl_cons, Nat.add_max_add_right, foldl_succ_max xs]

theorem idBound_eq_maxId {s : Store} (hne : s.blobs ≠ []) : s.idBound = s.maxId + 1 := by
  rw [idBound_eq_foldl, maxId]
  cases hb : s.blobs with
  | nil => exact absurd hb hne
  | cons x xs =>
    rw [List.map_cons, List.foldl_cons, List.foldl_cons, Nat.zero_max, Nat.zero_max, foldl_succ_max]

theorem restart_of_ne_nil {s : Store} (hwf : s.WF) (lazy : Bool) (hne : s.blobs ≠ []) :
    (s.restart lazy).history = s.history ∧ (s.restart lazy).nextId = s.maxId + 1 := by
  rcases restart_hist_or_fresh hwf lazy with ⟨h1, h2⟩ | h
  · exact ⟨h1, by rw [h2, idBound_eq_maxId hne]⟩
  · exact absurd h.1 hne

/-- maintenance extends the history by empty blobs at the end, and does nothing else to it -/
theorem MaintStep.history_ext {s s' : Store} (h : MaintStep s s') :
    ∃ e : History, s'.history = s.history ++ e ∧ ∀ b ∈ e, b.2 = [] := by
  cases h with
  | life h =>
    cases h with
    | same hh _ => exact ⟨[], (List.append_nil _).symm ▸ hh, by simp⟩
    | new hh _ => exact ⟨[(s.nextId, [])], by rw [history_eq, hh, List.map_append]; rfl, by simp⟩
  | restart hh _ => exact ⟨[], by simp [hh], by simp⟩
  | fresh h => exact ⟨[(0, [])], by rw [history_eq, history_eq, h.1, h.2.1]; rfl, by simp⟩

end Store

/-! ### the specification does not see empty blobs -/

theorem positioned_of_all_empty : ∀ {e : History}, (∀ b ∈ e, b.2 = []) → e.positioned = []
  | [], _ => rfl
  | b :: e, h => by
    rw [positioned_cons, positioned_of_all_empty (fun x hx => h x (by simp [hx])), h b (by simp)]
    rfl

theorem positioned_append_empty (h : History) {e : History} (he : ∀ b ∈ e, b.2 = []) :
    (h ++ e).positioned = h.positioned := by
  rw [positioned_append, positioned_of_all_empty he, List.append_nil]

theorem count_append_empty (h : History) {e : History} (he : ∀ b ∈ e, b.2 = []) :
    Spec.count (h ++ e) = Spec.count h := by
  unfold Spec.count
  rw [List.map_append, List.sum_append]
  have : (e.map (fun b => b.2.length)).sum = 0 := by
    induction e with
    | nil => rfl
    | cons b e ih =>
      rw [List.map_cons, List.sum_cons, ih (fun x hx => he x (by simp [hx])), he b (by simp)]
      rfl
  omega

/-- everything the specification says is a function of the positioned records -/
theorem Spec.all_congr {h h' : History} (hp : h.positioned = h'.positioned) (k : Key) :
    Spec.all h k = Spec.all h' k := by
  unfold Spec.all; rw [hp]

theorem Spec.allCut_congr {h h' : History} (hp : h.positioned = h'.positioned) (k : Key) :
    Spec.allCut h k = Spec.allCut h' k := by
  unfold Spec.allCut; rw [Spec.all_congr hp]

theorem Spec.allLive_congr {h h' : History} (hp : h.positioned = h'.positioned) (k : Key) :
    Spec.allLive h k = Spec.allLive h' k := by
  unfold Spec.allLive; rw [Spec.allCut_congr hp]

theorem Spec.latest_congr {h h' : History} (hp : h.positioned = h'.positioned) (k : Key) :
    Spec.latest h k = Spec.latest h' k := by
  unfold Spec.latest; rw [Spec.all_congr hp]

theorem Spec.readWith_congr {h h' : History} (hp : h.positioned = h'.positioned) (k : Key) (m : Meta) :
    Spec.readWith h k m = Spec.readWith h' k m := by
  unfold Spec.readWith; rw [Spec.allCut_congr hp]

namespace Store

/-! ### ids; `Tight`: `nextId` is one above the greatest id, on every run from `init` -/

def ids (s : Store) : List Nat := s.blobs.map (·.id)

theorem history_ids (s : Store) : s.history.map (·.1) = s.ids := map_hist_ids s.blobs

theorem eq_of_id_eq : ∀ {l : List Blob}, (l.map (·.id)).Pairwise (· < ·) →
    ∀ {x y : Blob}, x ∈ l → y ∈ l → x.id = y.id → x = y
  | [], _, _, _, hx, _, _ => by simp at hx
  | b :: l, h, x, y, hx, hy, hid => by
    rw [List.map_cons, List.pairwise_cons] at h
    rcases List.mem_cons.1 hx with hx' | hx' <;> rcases List.mem_cons.1 hy with hy' | hy'
    · rw [hx', hy']
    · have := h.1 y.id (List.mem_map_of_mem hy'); rw [hx'] at hid; omega
    · have := h.1 x.id (List.mem_map_of_mem hx'); rw [hy'] at hid; omega
    · exact eq_of_id_eq h.2 hx' hy' hid

/-- `nextId` is exactly one above some blob id (with `WF`: above the greatest one) -/
def Tight (s : Store) : Prop := ∃ b ∈ s.blobs, s.nextId = b.id + 1

theorem Tight.ne_nil {s : Store} (h : s.Tight) : s.blobs ≠ [] := by
  obtain ⟨b, hb, _⟩ := h
  intro h0; rw [h0] at hb; simp at hb

theorem idBound_eq_nextId {s : Store} (hwf : s.WF) (ht : s.Tight) : s.idBound = s.nextId := by
  obtain ⟨b, hb, hn⟩ := ht
  have h1 := idBound_gt s b hb
  have h2 : s.idBound ≤ s.nextId := (s.idBound_le_iff _).2 hwf.2
  omega

theorem mem_ids {s : Store} {n : Nat} : n ∈ s.ids ↔ ∃ b ∈ s.blobs, b.id = n := by
  simp [ids]

theorem init_tight (d : Bool) : (Store.init d).Tight :=
  ⟨{ id := 0, recs := [] }, by simp [init, createActive, blobs, closed], rfl⟩

theorem apply_tight {s : Store} (hwf : s.WF) (ht : s.Tight) (op : Op) : (s.apply op).Tight := by
  have key : ∀ s' : Store, s'.ids = s.ids → s'.nextId = s.nextId → s'.Tight := by
    intro s' hi hn
    obtain ⟨b, hb, hbn⟩ := ht
    obtain ⟨b', hb', hid⟩ := mem_ids.1 (by rw [hi]; exact mem_ids.2 ⟨b, hb, rfl⟩ : b.id ∈ s'.ids)
    exact ⟨b', hb', by rw [hn, hbn, hid]⟩
  by_cases hr : ∃ lazy, op = .restart lazy
  · obtain ⟨lazy, rfl⟩ := hr
    show (s.restart lazy).Tight
    obtain ⟨hh, hn⟩ := restart_of_ne_nil hwf lazy ht.ne_nil
    exact key _ (by rw [← history_ids, hh, history_ids])
      (by rw [hn, ← idBound_eq_maxId ht.ne_nil, idBound_eq_nextId hwf ht])
  · have hr' : ∀ lazy, op ≠ .restart lazy := fun l h => hr ⟨l, h⟩
    cases apply_step s op hr' with
    | same hc hn => exact key _ hc.toCont.ids hn
    | new hc hn =>
      obtain ⟨b', hb', hid⟩ := mem_ids.1 (by rw [ids, hc.toCont.ids]; simp : s.nextId ∈ (s.apply op).ids)
      exact ⟨b', hb', by rw [hn, hid]⟩

theorem run_tight {s : Store} (hwf : s.WF) (ht : s.Tight) : ∀ ops : List Op, (s.run ops).Tight
  | [] => ht
  | op :: ops => by
    rw [run_cons]
    exact run_tight (apply_WF' hwf op) (apply_tight hwf ht op) ops

theorem apply_nextId_le_of_not_restart (s : Store) (op : Op) (hr : ∀ lazy, op ≠ .restart lazy) :
    s.nextId ≤ (s.apply op).nextId := by
  cases apply_step s op hr with
  | same _ hn => omega
  | new _ hn => omega

theorem apply_nextId_le {s : Store} (hwf : s.WF) (ht : s.Tight) (op : Op) :
    s.nextId ≤ (s.apply op).nextId := by
  by_cases hr : ∃ lazy, op = .restart lazy
  · obtain ⟨lazy, rfl⟩ := hr
    show s.nextId ≤ (s.restart lazy).nextId
    rw [(restart_of_ne_nil hwf lazy ht.ne_nil).2, ← idBound_eq_maxId ht.ne_nil,
      idBound_eq_nextId hwf ht]
    exact Nat.le_refl _
  · exact apply_nextId_le_of_not_restart s op (fun l h => hr ⟨l, h⟩)

/-! ### `allowDup` never changes -/

theorem apply_allowDup (s : Store) (op : Op) : (s.apply op).allowDup = s.allowDup := by
  cases op with
  | write k ts m d =>
    rw [← ensureActive_allowDup s]
    simp only [apply, write]
    split
    · rfl
    · split <;> rfl
  | delete k ts m oip =>
    refine (delete_allowDup s k ts m oip).trans ?_
    cases oip
    · exact ensureActive_allowDup s
    · rfl
  | closeActive => rcases s.apply_closeActive with ⟨_, h⟩ | ⟨a, _, h⟩ <;> rw [h]
  | createActive => rw [← ensureActive_eq_apply, ensureActive_allowDup]
  | restoreActive => rcases s.apply_restoreActive with h | ⟨i, b, _, _, h⟩ <;> rw [h]
  | replaceActive => show s.replaceActive.allowDup = _; unfold replaceActive; cases s.active <;> rfl
  | settle => rfl
  | restart lazy =>
    simp only [apply, restart]
    split
    · rfl
    · split <;> rfl

/-! ### record counts of `write` and `delete` -/

theorem recordsCount_eq_count (s : Store) : s.recordsCount = Spec.count s.history := by
  simp only [recordsCount, Spec.count, history, List.map_map]
  rfl

theorem Grow.recordsCount {s s₁ : Store} (g : Grow s s₁) : s₁.recordsCount = s.recordsCount := by
  cases g with
  | same hb _ => unfold Store.recordsCount; rw [hb]
  | new hb _ => unfold Store.recordsCount; rw [hb]; simp [Blob.count]

theorem blobDelete_count (b : Blob) (k : Key) (ts : Nat) (m : Option Meta) (oip : Bool) :
    (blobDelete b k ts m oip).1.count = b.count + if (blobDelete b k ts m oip).2 then 1 else 0 := by
  unfold blobDelete; split <;> simp [Blob.count]

theorem sum_count_marked (F : Blob → Blob × Bool)
    (hF : ∀ b, (F b).1.count = b.count + if (F b).2 then 1 else 0) : ∀ l : List Blob,
    ((l.map (fun b => (F b).1)).map Blob.count).sum =
      (l.map Blob.count).sum + (l.filter (fun b => (F b).2)).length
  | [] => rfl
  | b :: l => by
    rw [List.map_cons, List.map_cons, List.sum_cons, sum_count_marked F hF l, hF b, List.map_cons,
      List.sum_cons, List.filter_cons]
    cases (F b).2
    · simp only [Bool.false_eq_true, if_false, Nat.add_zero, Nat.add_assoc]
    · simp only [if_true, List.length_cons]; omega

theorem delete_recordsCount (s : Store) (k : Key) (ts : Nat) (m : Option Meta) (oip : Bool) :
    (s.delete k ts m oip).1.recordsCount = s.recordsCount + (s.delete k ts m oip).2 := by
  rw [← (deleteBase_grow s oip).recordsCount, delete_count]
  unfold recordsCount
  rw [delete_blobs, List.map_append, List.sum_append,
    sum_count_marked (fun b => blobDelete b k ts m true) (fun b => blobDelete_count b k ts m true),
    sum_count_marked (fun b => blobDelete b k ts m oip) (fun b => blobDelete_count b k ts m oip)]
  conv => rhs; unfold blobs
  rw [List.map_append, List.sum_append]
  omega

/-- is this write refused as a duplicate? -/
def dedups (s : Store) (k : Key) (m : Option Meta) : Bool :=
  !s.allowDup && (s.ensureActive.getLatestEntry k m).isFound

theorem write_recordsCount (s : Store) (k : Key) (ts : Nat) (m : Option Meta) (d : Data) :
    (s.write k ts m d).recordsCount = s.recordsCount + if s.dedups k m then 0 else 1 := by
  rw [← (ensureActive_grow s).recordsCount]
  obtain ⟨a, ha⟩ := s.ensureActive_active
  unfold dedups
  rw [← ensureActive_allowDup s]
  simp only [write, ha]
  split
  · simp
  · simp [recordsCount, blobs, closed, ha, Blob.count, Blob.append]
    omega

theorem delete_false_pos (s : Store) (k : Key) (ts : Nat) (m : Option Meta) :
    1 ≤ (s.delete k ts m false).2 := by
  rw [delete_count]
  obtain ⟨a, ha⟩ := s.ensureActive_active
  have : s.deleteBase false = s.ensureActive := rfl
  rw [this, ha]
  simp [blobDelete_snd]

/-- number of records operation `op` appends in state `s` -/
def added (s : Store) : Op → Nat
  | .write k _ m _ => if s.dedups k m then 0 else 1
  | .delete k ts m oip => (s.delete k ts m oip).2
  | _ => 0

/-- number of writes of the run that were not refused as duplicates -/
def storedWrites : Store → List Op → Nat
  | _, [] => 0
  | s, op :: ops =>
    (match op with
      | .write k _ m _ => if s.dedups k m then 0 else 1
      | _ => 0) + storedWrites (s.apply op) ops

/-- sum of the numbers returned by the deletes of the run -/
def deleteMarks : Store → List Op → Nat
  | _, [] => 0
  | s, op :: ops =>
    (match op with
      | .delete k ts m oip => (s.delete k ts m oip).2
      | _ => 0) + deleteMarks (s.apply op) ops

end Store

theorem liveIn_nil (id : Nat) (k : Key) : Spec.liveIn id [] k = false := by
  simp [Spec.liveIn, Spec.latest, Spec.all, History.positioned, positionedFrom, ReadResult.isFound]

theorem Store.delete_true_count (s : Store) (k : Key) (ts : Nat) (m : Option Meta) :
    (s.delete k ts m true).2 = (s.history.filter (fun h => Spec.liveIn h.1 h.2 k)).length := by
  rw [Store.delete_count, Store.history, List.filter_map, List.length_map, Store.blobs,
    List.filter_append, List.length_append, Nat.add_comm]
  simp only [Store.blobDelete_liveIn]
  rfl

/-! ### the index rebuilt from the blob file; the dump flag; `idBound` depends on the ids only -/

/-- the in-memory index rebuilt by scanning the blob file in order: every header is pushed into the
    vector of its key (`Blob::from_file` → `IndexStruct::push` per record) -/
def rebuildIndex (recs : List Rec) : Key → List Rec :=
  recs.foldl (fun idx r => fun k => if r.key == k then push (idx k) r else idx k) (fun _ => [])

theorem foldl_rebuild (k : Key) : ∀ (recs : List Rec) (idx : Key → List Rec),
    (recs.foldl (fun idx r => fun k => if r.key == k then push (idx k) r else idx k) idx) k =
      (recs.filter (fun r => r.key == k)).foldl push (idx k)
  | [], _ => rfl
  | r :: rs, idx => by
    rw [List.foldl_cons, foldl_rebuild k rs]
    by_cases h : (r.key == k) = true
    · simp only [List.filter_cons, h, if_true, List.foldl_cons]
    · simp only [List.filter_cons, h, Bool.false_eq_true, if_false]

theorem dumpFlag_idem (b : Blob) : dumpFlag (dumpFlag b) = dumpFlag b := by
  unfold dumpFlag
  by_cases h : b.recs.isEmpty = true <;> simp [h]

theorem dumpFlag_id (b : Blob) : (dumpFlag b).id = b.id := by
  unfold dumpFlag; split <;> rfl

namespace Store

theorem idBound_congr {s s' : Store} (h : s'.blobs.map (·.id) = s.blobs.map (·.id)) :
    s'.idBound = s.idBound := by
  rw [idBound_eq_foldl, idBound_eq_foldl, h]

end Store

end Pearl
