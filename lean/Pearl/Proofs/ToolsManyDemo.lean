import Pearl.Proofs.ToolsMany
import Pearl.Proofs.EndToEndBlob
/-
The demonstration blobs of `Pearl/Props/C16b.lean` (`C16b.b6`, six records) and of `Pearl/Props/ToolsServe.lean`
(`ToolsServe.Demo4.g4` / `f4`, the four records of C16 with the storage's data bytes), each with the table of its index
headers (`hdrs6`, `hdrs4`) and its image written through that table (`b6_eq`, `f4_eq`, the form of
`blobBytes_eq_of_headers`).  And `Demo4.version7_accepted_not_opened`: `f4` with its version field changed is accepted
by `validate_blob` and refused by `Header::from_file` (an instance of `other_version`).
-/
namespace Pearl.C16b
open Pearl

/-- the first two records of `C05.recs4` (a plain record, an empty record with meta), a record with data,
    a record with meta and data, a deletion marker, a record with data -/
def recs6 : List (Rec × List UInt8) :=
  C05.recs4.take 2 ++
  [ ({ key := 5, ts := 103, del := false, mt := none, data := ⟨4, 0⟩ }, [1, 2, 3, 4]),
    ({ key := 4, ts := 104, del := false, mt := some [7], data := ⟨3, 0⟩ }, [5, 6, 7]),
    ({ key := 1, ts := 105, del := true, mt := none, data := ⟨0, 0⟩ }, []),
    ({ key := 3, ts := 106, del := false, mt := none, data := ⟨2, 0⟩ }, [8, 9]) ]

abbrev b6 : List UInt8 := blobBytes 3 recs6

/-- the index headers of `b6` -/
def hdrs6 : List RecHeader :=
  [ { RecHeader.new [0, 0, 1] 101 8 16 241919832 with blobOffset := 20, headerChecksum := 871514929 },
    { RecHeader.new [0, 0, 2] 102 27 0 0 with blobOffset := 104, headerChecksum := 1222718489 },
    { RecHeader.new [0, 0, 5] 103 8 4 691047668 with blobOffset := 191, headerChecksum := 3339063467 },
    { RecHeader.new [0, 0, 4] 104 26 3 3875446983 with blobOffset := 263, headerChecksum := 2369805925 },
    { RecHeader.new [0, 0, 1] 105 8 0 0 with flags := 1, blobOffset := 352, headerChecksum := 4005004285 },
    { RecHeader.new [0, 0, 3] 106 8 2 348614566 with blobOffset := 420, headerChecksum := 626158564 } ]

theorem blobHeaders_recs6 : blobHeaders 3 recs6 = hdrs6 := by
  rw [blobHeaders, writtenHeaders_eq]
  decide +kernel

theorem b6_eq : blobBytes 3 recs6 = serBlobHeader ++ (List.zipWith
    (fun h x => serHeader h ++ (serMeta x.1.mt ++ if x.1.del then [] else x.2)) hdrs6 recs6).flatten := by
  rw [blobBytes_eq_of_headers, blobHeaders_recs6]

end Pearl.C16b

namespace Pearl.ToolsServe.Demo4
open Pearl Pearl.E2E

def g4 : List Rec := C05.recs4.map (·.1)

abbrev f4 : List UInt8 := blobBytes 3 (full g4)

/-- the index headers of `f4` -/
def hdrs4 : List RecHeader :=
  [ { RecHeader.new [0, 0, 1] 101 8 16 966741171 with blobOffset := 20, headerChecksum := 2600654018 },
    { RecHeader.new [0, 0, 2] 102 27 0 0 with blobOffset := 104, headerChecksum := 1222718489 },
    { RecHeader.new [0, 0, 1] 103 8 0 0 with flags := 1, blobOffset := 191, headerChecksum := 2126508689 },
    { RecHeader.new [0, 0, 3] 104 8 0 0 with blobOffset := 259, headerChecksum := 138317093 } ]

theorem blobHeaders_f4 : blobHeaders 3 (full g4) = hdrs4 := by
  rw [blobHeaders, writtenHeaders_eq]
  decide +kernel

theorem f4_eq : blobBytes 3 (full g4) = serBlobHeader ++ (List.zipWith
    (fun h x => serHeader h ++ (serMeta x.1.mt ++ if x.1.del then [] else x.2)) hdrs4 (full g4)).flatten := by
  rw [blobBytes_eq_of_headers, blobHeaders_f4]

/-- `f4` with its version field changed (byte 8: 1 → 7): `validate_blob` does not look at the version,
    `Header::from_file` refuses it -/
theorem version7_accepted_not_opened :
    validateBlob (f4.set 8 7) = .ok () ∧ blobHeaderFromFile (f4.set 8 7) = .error .blobVersion := by
  rw [blobBytes_set_version7]
  exact other_version 3 _ (by rw [blobBytes_length]; decide) (by decide) 7 (by decide) (by decide)

end Pearl.ToolsServe.Demo4
