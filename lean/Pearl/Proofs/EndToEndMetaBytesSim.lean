import Pearl.Proofs.EndToEndMetaBytesEnc
import Pearl.Proofs.ListLemmas
/-
Byte image of the index file: simulation, on top of `EndToEndMetaBytesEnc`.  `Sim K blobSize metaBuf f x` collects the layout facts that tie
a structured index file `f` (L4) to an opened byte-level index `x` (`BIdx`): same header fields, every record header
of `f` is read back from the bytes at its offset by the L5 deserializer, every node of `f` answers
`key_offset_serialized` on the bytes as `Node.keyOffset` does, the filter section is `metaBuf`.

Under `Sim`, whenever a structured look-up returns normally (`some r`), the byte-level look-up returns the same
(`getLatest_sim`, `findByKey_sim`, `load_sim`, `readMeta_sim`, `readMetaAt_sim`).  The structured look-ups return
normally on every file `build` produces (C09), so nothing about the paths taken has to be proved again.
-/
namespace Pearl.E2E
open Pearl Pearl.BPTree

theorem readExactAt_eq (file : List Nat) (off len : Nat) (h : off + len ≤ file.length) :
    BPTree.readExactAt file off len = some ((file.drop off).take len) := by
  unfold BPTree.readExactAt; rw [if_pos h]

theorem slice_slice (l : List Nat) (a n b c : Nat) (h : b + c ≤ n) :
    (((l.drop a).take n).drop b).take c = (l.drop (a + b)).take c := by
  rw [List.drop_take, List.drop_drop, List.take_take, Nat.min_eq_left (by omega)]

structure Sim (K blobSize : Nat) (metaBuf : List Nat) (f : IndexFile RecHeader) (x : BIdx) : Prop where
  rhs : x.rhs = f.p.rhs
  B : f.p.B = 4096
  rc : x.header.recordsCount = f.recordsCount
  to : x.metadata.treeOffset = f.treeOffset
  lo : x.metadata.leavesOffset = f.leavesOffset
  size : x.file.length = f.fileSize
  bound : f.fileSize < 2 ^ 64
  toLe : f.treeOffset ≤ f.fileSize
  /-- every record header is read back from the bytes at its offset (trailing bytes allowed) -/
  leaf : ∀ i h, f.leaves[i]? = some h → ∀ n, f.p.rhs ≤ n →
    deserHdr ((x.file.drop (f.leavesStart + i * f.p.rhs)).take n) = some h
  /-- every node answers on the bytes as in the structured file -/
  node : ∀ off n, f.readNode off = some n →
    ∃ buf, (if off = f.treeOffset then some x.root else BPTree.readExactAt x.file off 4096) = some buf ∧
      ∀ k r, n.keyOffset k = some r → r < 2 ^ 64 → BIdx.keyOffset K buf k = some r
  valid : validateHeader K blobSize x.header = true
  ss : x.header.serializedSize = 83
  ms : x.header.metaSize = metaBuf.length
  mlen : 83 + metaBuf.length ≤ x.file.length
  mb : (x.file.drop 83).take metaBuf.length = metaBuf

variable {K blobSize : Nat} {metaBuf : List Nat} {f : IndexFile RecHeader} {x : BIdx}

theorem Sim.hdrAt (sim : Sim K blobSize metaBuf f x) {abs : Nat} {h : RecHeader} (hh : f.hdrAt abs = some h) :
    abs + f.p.rhs ≤ x.file.length ∧ ∀ n, f.p.rhs ≤ n → deserHdr ((x.file.drop abs).take n) = some h := by
  unfold IndexFile.hdrAt at hh
  split at hh
  · cases hh
  · split at hh
    · cases hh
    · rename_i h1 h2
      have h2' : (abs - f.leavesStart) % f.p.rhs = 0 := Classical.not_not.mp h2
      have habs : abs = f.leavesStart + (abs - f.leavesStart) / f.p.rhs * f.p.rhs := by
        have := Nat.div_add_mod (abs - f.leavesStart) f.p.rhs
        rw [h2', Nat.add_zero, Nat.mul_comm] at this
        omega
      have hlt : (abs - f.leavesStart) / f.p.rhs < f.leaves.length := by
        have := List.getElem?_eq_some_iff.mp hh
        exact this.1
      refine ⟨?_, ?_⟩
      · rw [sim.size, IndexFile.fileSize_eq]
        have : ((abs - f.leavesStart) / f.p.rhs + 1) * f.p.rhs ≤ f.leaves.length * f.p.rhs :=
          Nat.mul_le_mul_right _ hlt
        rw [Nat.add_mul, Nat.one_mul] at this
        omega
      · intro n hn
        have := sim.leaf _ h hh n hn
        rwa [← habs] at this

theorem binSearchAux_mono (keyAt keyAt' : Nat → Option Nat) (k : Nat)
    (hk : ∀ i v, keyAt i = some v → keyAt' i = some v) :
    ∀ (fuel : Nat) (l r : Int) (res : BS), binSearchAux keyAt k fuel l r = some res →
      binSearchAux keyAt' k fuel l r = some res := by
  intro fuel
  induction fuel with
  | zero => intro l r res h; simp [binSearchAux] at h
  | succ fuel ih =>
    intro l r res h
    unfold binSearchAux at h ⊢
    split at h
    · rename_i hle
      rw [if_pos hle]
      simp only [] at h ⊢
      cases hkm : keyAt ((l + r) / 2).toNat with
      | none => rw [hkm] at h; cases h
      | some km =>
        rw [hkm] at h
        rw [hk _ _ hkm]
        simp only [] at h ⊢
        split at h
        · rename_i h1; rw [if_pos h1]; exact ih _ _ _ h
        · rename_i h1
          rw [if_neg h1]
          split at h
          · rename_i h2; rw [if_pos h2]; exact ih _ _ _ h
          · rename_i h2; rw [if_neg h2]; exact h
    · rename_i hle
      rw [if_neg hle]; exact h

theorem binSearch_mono (keyAt keyAt' : Nat → Option Nat) (n k : Nat)
    (hk : ∀ i v, keyAt i = some v → keyAt' i = some v) (res : BS) (h : binSearch keyAt n k = some res) :
    binSearch keyAt' n k = some res :=
  binSearchAux_mono keyAt keyAt' k hk _ _ _ res h

theorem readNode_le {off : Nat} {n : Node} (h : f.readNode off = some n) (hto : f.treeOffset ≤ f.fileSize) :
    off ≤ f.fileSize := by
  unfold IndexFile.readNode at h
  split at h
  · cases h
  · split at h
    · cases h
    · rename_i h1 h2
      by_cases he : off = f.treeOffset
      · rw [he]; exact hto
      · have : ¬ f.fileSize < off + f.p.B := fun hc => h2 ⟨he, hc⟩
        omega

theorem findLeafNodeAux_start_le (k : Nat) (hto : f.treeOffset ≤ f.fileSize) :
    ∀ (fuel off leaf : Nat), f.findLeafNodeAux k fuel off = some leaf → leaf ≤ f.fileSize → off ≤ f.fileSize
  | 0, _, _, h, _ => by simp [IndexFile.findLeafNodeAux] at h
  | fuel + 1, off, leaf, h, hl => by
    unfold IndexFile.findLeafNodeAux at h
    split at h
    · cases hn : f.readNode off with
      | none => rw [hn] at h; cases h
      | some n => exact readNode_le hn hto
    · simp only [Option.some.injEq] at h
      omega

theorem findLeafNodeAux_sim (sim : Sim K blobSize metaBuf f x) (k : Nat) :
    ∀ (fuel fuel' off leaf : Nat), fuel ≤ fuel' → f.findLeafNodeAux k fuel off = some leaf →
      leaf ≤ f.fileSize → BIdx.findLeafNodeAux K x k fuel' off = some leaf
  | 0, _, _, _, _, h, _ => by simp [IndexFile.findLeafNodeAux] at h
  | fuel + 1, 0, _, _, hle, _, _ => by omega
  | fuel + 1, fuel' + 1, off, leaf, hle, h, hl => by
    unfold IndexFile.findLeafNodeAux at h
    unfold BIdx.findLeafNodeAux
    rw [sim.lo, sim.to]
    split at h
    · rename_i hlt
      rw [if_pos hlt]
      cases hn : f.readNode off with
      | none => rw [hn] at h; cases h
      | some n =>
        rw [hn] at h
        simp only [] at h
        cases hko : n.keyOffset k with
        | none => rw [hko] at h; cases h
        | some off' =>
          rw [hko] at h
          simp only [] at h
          obtain ⟨buf, hbuf, hkey⟩ := sim.node off n hn
          have hoff' : off' ≤ f.fileSize := findLeafNodeAux_start_le k sim.toLe fuel off' leaf h hl
          rw [hbuf]
          simp only []
          rw [hkey k off' hko (by have := sim.bound; omega)]
          simp only []
          exact findLeafNodeAux_sim sim k fuel fuel' off' leaf (by omega) h hl
    · rename_i hlt
      rw [if_neg hlt]
      exact h

theorem nodes_length_le (f : IndexFile RecHeader) : f.nodes.length ≤ f.fileSize := by
  have : ∀ ns : List Node, ns.length ≤ nodesBytes f.p ns := by
    intro ns
    induction ns with
    | nil => simp [nodesBytes]
    | cons n ns ih =>
      rw [nodesBytes_cons]
      have := nodeSize_pos f.p n.keys.length
      simp only [List.length_cons, Node.size]
      omega
  have := this f.nodes
  unfold IndexFile.fileSize IndexFile.leavesStart
  omega

theorem findLeafNode_sim (sim : Sim K blobSize metaBuf f x) (k leaf : Nat)
    (h : f.findLeafNode k = some leaf) (hl : leaf ≤ f.fileSize) : BIdx.findLeafNode K x k = some leaf := by
  unfold IndexFile.findLeafNode at h
  unfold BIdx.findLeafNode
  rw [sim.to]
  exact findLeafNodeAux_sim sim k _ _ _ leaf (by rw [sim.size]; have := nodes_length_le f; omega) h hl

/-- the window `read_exact_at(leaf_offset, len)` returns -/
def windowOf (x : BIdx) (leafOff len : Nat) : List Nat := (x.file.drop leafOff).take len

theorem bufRead_sim (sim : Sim K blobSize metaBuf f x) (leafOff len off : Nat) (h : RecHeader)
    (hwin : leafOff + len ≤ x.file.length) (hh : f.bufRead leafOff len off = some h) :
    x.bufRead (windowOf x leafOff len) off = some h := by
  unfold IndexFile.bufRead at hh
  split at hh
  · rename_i hle
    unfold BIdx.bufRead windowOf
    rw [sim.rhs, slice_length hwin, if_pos hle, slice_slice _ _ _ _ _ hle]
    exact (sim.hdrAt hh).2 _ (Nat.le_refl _)
  · cases hh

theorem readHeaderBuf_sim (sim : Sim K blobSize metaBuf f x) (leafOff len k : Nat)
    (hwin : leafOff + len ≤ x.file.length) (r : Option (RecHeader × Nat))
    (h : f.readHeaderBuf leafOff len k = some r) : x.readHeaderBuf (windowOf x leafOff len) k = some r := by
  unfold IndexFile.readHeaderBuf at h
  unfold BIdx.readHeaderBuf
  rw [sim.rhs]
  split at h
  · cases h
  · rename_i hr
    rw [if_neg hr]
    have hlen : (windowOf x leafOff len).length = len := slice_length hwin
    rw [hlen]
    have hmono : ∀ i v, (f.bufRead leafOff len (f.p.rhs * i)).map hkey = some v →
        (x.bufRead (windowOf x leafOff len) (f.p.rhs * i)).map hdrKey = some v := by
      intro i v hv
      cases hb : f.bufRead leafOff len (f.p.rhs * i) with
      | none => rw [hb] at hv; cases hv
      | some hd =>
        rw [hb] at hv
        rw [bufRead_sim sim leafOff len _ hd hwin hb]
        exact hv
    cases hbs : binSearch (fun i => (f.bufRead leafOff len (f.p.rhs * i)).map hkey) (len / f.p.rhs) k with
    | none => rw [hbs] at h; cases h
    | some res =>
      rw [hbs] at h
      rw [binSearch_mono _ _ _ _ hmono res hbs]
      cases res with
      | notFound l => exact h
      | found m =>
        simp only [] at h ⊢
        cases hb : f.bufRead leafOff len (f.p.rhs * m) with
        | none => rw [hb] at h; cases h
        | some hd =>
          rw [hb] at h
          rw [bufRead_sim sim leafOff len _ hd hwin hb]
          exact h

theorem getLeftmostAux_sim (sim : Sim K blobSize metaBuf f x) (leafOff len k : Nat)
    (hwin : leafOff + len ≤ x.file.length) :
    ∀ (fuel offset : Nat) (prev r : RecHeader), f.getLeftmostAux leafOff len k fuel offset prev = some r →
      x.getLeftmostAux (windowOf x leafOff len) k fuel offset prev = some r
  | 0, _, _, _, h => by simp [IndexFile.getLeftmostAux] at h
  | fuel + 1, offset, prev, r, h => by
    unfold IndexFile.getLeftmostAux at h
    unfold BIdx.getLeftmostAux
    rw [sim.rhs]
    split at h
    · rename_i hpos
      rw [if_pos hpos]
      simp only [] at h ⊢
      cases hb : f.bufRead leafOff len (offset - f.p.rhs) with
      | none => rw [hb] at h; cases h
      | some cur =>
        rw [hb] at h
        rw [bufRead_sim sim leafOff len _ cur hwin hb]
        simp only [] at h ⊢
        split at h
        · rename_i hne
          have hne' : hdrKey cur ≠ k := hne
          rw [if_pos hne']; exact h
        · rename_i hne
          have hne' : ¬ hdrKey cur ≠ k := hne
          rw [if_neg hne']
          exact getLeftmostAux_sim sim leafOff len k hwin fuel _ cur r h
    · rename_i hpos
      rw [if_neg hpos]; exact h

theorem getLeftmost_sim (sim : Sim K blobSize metaBuf f x) (leafOff len k offset : Nat) (prev r : RecHeader)
    (hwin : leafOff + len ≤ x.file.length) (h : f.getLeftmost leafOff len k offset prev = some r) :
    x.getLeftmost (windowOf x leafOff len) k offset prev = some r := by
  unfold IndexFile.getLeftmost at h
  unfold BIdx.getLeftmost
  rw [sim.rhs]
  split at h
  · cases h
  · rename_i hr
    rw [if_neg hr]
    exact getLeftmostAux_sim sim leafOff len k hwin _ _ _ _ h

theorem leafNodeBufSize_sim (sim : Sim K blobSize metaBuf f x) (leafOff : Nat) :
    x.leafNodeBufSize leafOff = f.leafNodeBufSize leafOff := by
  unfold BIdx.leafNodeBufSize IndexFile.leafNodeBufSize
  rw [sim.size, sim.B]

theorem window_read (x : BIdx) (leafOff len : Nat) (h : leafOff + len ≤ x.file.length) :
    BPTree.readExactAt x.file leafOff len = some (windowOf x leafOff len) :=
  readExactAt_eq _ _ _ h

theorem leafNodeBufSize_le {leafOff len : Nat} (h : f.leafNodeBufSize leafOff = some len) :
    leafOff + len ≤ f.fileSize := by
  unfold IndexFile.leafNodeBufSize at h
  split at h
  · cases h
  · simp only [Option.some.injEq] at h
    omega

theorem leafNodeBufSize_win (sim : Sim K blobSize metaBuf f x) {leafOff len : Nat}
    (h : f.leafNodeBufSize leafOff = some len) : leafOff + len ≤ x.file.length := by
  rw [sim.size]; exact leafNodeBufSize_le h

theorem readHeader_sim (sim : Sim K blobSize metaBuf f x) (leafOff k : Nat) (r : Option RecHeader)
    (h : f.readHeader leafOff k = some r) : x.readHeader leafOff k = some r := by
  unfold IndexFile.readHeader at h
  unfold BIdx.readHeader
  rw [leafNodeBufSize_sim sim]
  cases hl : f.leafNodeBufSize leafOff with
  | none => rw [hl] at h; cases h
  | some len =>
    rw [hl] at h
    simp only [] at h ⊢
    have hwin := leafNodeBufSize_win sim hl
    rw [sim.B] at h
    split at h
    · cases h
    · rename_i hB
      rw [if_neg hB, window_read x leafOff len hwin]
      simp only []
      cases hrb : f.readHeaderBuf leafOff len k with
      | none => rw [hrb] at h; cases h
      | some o =>
        rw [hrb] at h
        rw [readHeaderBuf_sim sim leafOff len k hwin o hrb]
        cases o with
        | none => exact h
        | some p =>
          obtain ⟨hd, off⟩ := p
          simp only [] at h ⊢
          cases hg : f.getLeftmost leafOff len k off hd with
          | none => rw [hg] at h; cases h
          | some r' =>
            rw [hg] at h
            rw [getLeftmost_sim sim leafOff len k off hd r' hwin hg]
            exact h

theorem readHeader_leaf_le {leafOff k : Nat} {r : Option RecHeader} (h : f.readHeader leafOff k = some r) :
    leafOff ≤ f.fileSize := by
  unfold IndexFile.readHeader at h
  cases hl : f.leafNodeBufSize leafOff with
  | none => rw [hl] at h; cases h
  | some len => have := leafNodeBufSize_le hl; omega

/-- **`get_latest` through the bytes** -/
theorem getLatest_sim (sim : Sim K blobSize metaBuf f x) (k : Nat) (r : Option RecHeader)
    (h : f.getLatest k = some r) : BIdx.getLatest K x k = some r := by
  unfold IndexFile.getLatest at h
  unfold BIdx.getLatest
  cases hf : f.findLeafNode k with
  | none => rw [hf] at h; cases h
  | some leaf =>
    rw [hf] at h
    simp only [] at h
    rw [findLeafNode_sim sim k leaf hf (readHeader_leaf_le h)]
    exact readHeader_sim sim leaf k r h

theorem goLeftAux_sim (sim : Sim K blobSize metaBuf f x) (leafOff len k : Nat)
    (hwin : leafOff + len ≤ x.file.length) :
    ∀ (fuel : Nat) (hs : List RecHeader) (offset : Nat) (r : List RecHeader),
      f.goLeftAux leafOff len k fuel hs offset = some r →
      x.goLeftAux (windowOf x leafOff len) k fuel hs offset = some r
  | 0, _, _, _, h => by simp [IndexFile.goLeftAux] at h
  | fuel + 1, hs, offset, r, h => by
    unfold IndexFile.goLeftAux at h
    unfold BIdx.goLeftAux
    rw [sim.rhs]
    split at h
    · rename_i hle
      rw [if_pos hle]
      simp only [] at h ⊢
      cases hb : f.bufRead leafOff len (offset - f.p.rhs) with
      | none => rw [hb] at h; cases h
      | some rh =>
        rw [hb] at h
        rw [bufRead_sim sim leafOff len _ rh hwin hb]
        simp only [] at h ⊢
        split at h
        · rename_i he
          have he' : hdrKey rh = k := he
          rw [if_pos he']
          exact goLeftAux_sim sim leafOff len k hwin fuel _ _ r h
        · rename_i he
          have he' : ¬ hdrKey rh = k := he
          rw [if_neg he']; exact h
    · rename_i hle
      rw [if_neg hle]; exact h

theorem goLeft_sim (sim : Sim K blobSize metaBuf f x) (leafOff len k : Nat) (hs : List RecHeader) (offset : Nat)
    (r : List RecHeader) (hwin : leafOff + len ≤ x.file.length)
    (h : f.goLeft leafOff len k hs offset = some r) :
    x.goLeft (windowOf x leafOff len) k hs offset = some r := by
  unfold IndexFile.goLeft at h
  unfold BIdx.goLeft
  rw [sim.rhs]
  split at h
  · cases h
  · rename_i hr
    rw [if_neg hr]
    exact goLeftAux_sim sim leafOff len k hwin _ _ _ _ h

theorem leavesEnd_sim (sim : Sim K blobSize metaBuf f x) : x.leavesEnd = f.leavesEnd := by
  unfold BIdx.leavesEnd IndexFile.leavesEnd
  rw [sim.lo, sim.rhs, sim.rc]

theorem goRightFileAux_sim (sim : Sim K blobSize metaBuf f x) :
    ∀ (fuel : Nat) (hs : List RecHeader) (offset : Nat) (r : List RecHeader),
      f.goRightFileAux fuel hs offset = some r → x.goRightFileAux fuel hs offset = some r
  | 0, _, _, _, h => by simp [IndexFile.goRightFileAux] at h
  | fuel + 1, hs, offset, r, h => by
    unfold IndexFile.goRightFileAux at h
    unfold BIdx.goRightFileAux
    rw [leavesEnd_sim sim, sim.rhs]
    split at h
    · rename_i hle
      rw [if_pos hle]
      split at h
      · cases h
      · rename_i hfs
        cases hh : f.hdrAt offset with
        | none => rw [hh] at h; simp at h
        | some hd =>
          rw [hh] at h
          obtain ⟨h1, h2⟩ := sim.hdrAt hh
          rw [readExactAt_eq _ _ _ h1, Option.bind_some, h2 _ (Nat.le_refl _)]
          cases hh0 : hs.head? with
          | none => rw [hh0] at h; simp at h
          | some h0 =>
            rw [hh0] at h
            simp only [] at h ⊢
            split at h
            · rename_i he
              have he' : hdrKey hd = hdrKey h0 := he
              rw [if_pos he']
              exact goRightFileAux_sim sim fuel _ _ r h
            · rename_i he
              have he' : ¬ hdrKey hd = hdrKey h0 := he
              rw [if_neg he']; exact h
    · rename_i hle
      rw [if_neg hle]; exact h

theorem goRightFile_sim (sim : Sim K blobSize metaBuf f x) (hs : List RecHeader) (offset : Nat)
    (r : List RecHeader) (h : f.goRightFile hs offset = some r) : x.goRightFile hs offset = some r := by
  unfold IndexFile.goRightFile at h
  unfold BIdx.goRightFile
  rw [sim.rhs, sim.rc]
  split at h
  · cases h
  · rename_i hr
    rw [if_neg hr]
    exact goRightFileAux_sim sim _ _ _ _ h

theorem goRightAux_sim (sim : Sim K blobSize metaBuf f x) (leafOff len rightBound : Nat)
    (hwin : leafOff + len ≤ x.file.length) :
    ∀ (fuel : Nat) (hs : List RecHeader) (offset : Nat) (r : List RecHeader),
      f.goRightAux leafOff len rightBound fuel hs offset = some r →
      x.goRightAux (windowOf x leafOff len) leafOff rightBound fuel hs offset = some r
  | 0, _, _, _, h => by simp [IndexFile.goRightAux] at h
  | fuel + 1, hs, offset, r, h => by
    unfold IndexFile.goRightAux at h
    unfold BIdx.goRightAux
    rw [sim.rhs]
    split at h
    · rename_i hlt
      rw [if_pos hlt]
      cases hb : f.bufRead leafOff len offset with
      | none => rw [hb] at h; simp at h
      | some rh =>
        rw [hb] at h
        rw [bufRead_sim sim leafOff len _ rh hwin hb]
        cases hh0 : hs.head? with
        | none => rw [hh0] at h; simp at h
        | some h0 =>
          rw [hh0] at h
          simp only [] at h ⊢
          split at h
          · rename_i he
            have he' : hdrKey rh = hdrKey h0 := he
            rw [if_pos he']
            exact goRightAux_sim sim leafOff len rightBound hwin fuel _ _ r h
          · rename_i he
            have he' : ¬ hdrKey rh = hdrKey h0 := he
            rw [if_neg he']; exact h
    · rename_i hlt
      rw [if_neg hlt]
      exact goRightFile_sim sim _ _ _ h

theorem goRight_sim (sim : Sim K blobSize metaBuf f x) (hs : List RecHeader) (leafOff len offset : Nat)
    (r : List RecHeader) (hwin : leafOff + len ≤ x.file.length)
    (h : f.goRight hs leafOff len offset = some r) :
    x.goRight hs (windowOf x leafOff len) leafOff offset = some r := by
  unfold IndexFile.goRight at h
  unfold BIdx.goRight
  rw [sim.rhs, leavesEnd_sim sim]
  have hlen : (windowOf x leafOff len).length = len := slice_length hwin
  split at h
  · cases h
  · rename_i hr
    rw [if_neg hr]
    split at h
    · cases h
    · rename_i hle
      rw [if_neg hle, hlen]
      exact goRightAux_sim sim leafOff len _ hwin _ _ _ _ h

theorem readHeaders_sim (sim : Sim K blobSize metaBuf f x) (leafOff k : Nat) (r : Option (List RecHeader))
    (h : f.readHeaders leafOff k = some r) : x.readHeaders leafOff k = some r := by
  unfold IndexFile.readHeaders at h
  unfold BIdx.readHeaders
  rw [leafNodeBufSize_sim sim]
  cases hl : f.leafNodeBufSize leafOff with
  | none => rw [hl] at h; cases h
  | some len =>
    rw [hl] at h
    simp only [] at h ⊢
    have hwin := leafNodeBufSize_win sim hl
    rw [sim.B] at h
    split at h
    · cases h
    · rename_i hB
      rw [if_neg hB, window_read x leafOff len hwin]
      simp only []
      cases hrb : f.readHeaderBuf leafOff len k with
      | none => rw [hrb] at h; cases h
      | some o =>
        rw [hrb] at h
        rw [readHeaderBuf_sim sim leafOff len k hwin o hrb]
        cases o with
        | none => exact h
        | some p =>
          obtain ⟨hd, off⟩ := p
          simp only [] at h ⊢
          cases hg : f.goLeft leafOff len (hkey hd) [] off with
          | none => rw [hg] at h; cases h
          | some hs =>
            rw [hg] at h
            have hg' := goLeft_sim sim leafOff len (hkey hd) [] off hs hwin hg
            rw [show hkey hd = hdrKey hd from rfl] at hg'
            rw [hg']
            simp only [] at h ⊢
            cases hgr : f.goRight ((if hs.length > 1 then hs.reverse else hs) ++ [hd]) leafOff len off with
            | none => rw [hgr] at h; cases h
            | some r' =>
              rw [hgr] at h
              rw [goRight_sim sim _ leafOff len off r' hwin hgr]
              exact h

theorem readHeaders_leaf_le {leafOff k : Nat} {r : Option (List RecHeader)} (h : f.readHeaders leafOff k = some r) :
    leafOff ≤ f.fileSize := by
  unfold IndexFile.readHeaders at h
  cases hl : f.leafNodeBufSize leafOff with
  | none => rw [hl] at h; cases h
  | some len => have := leafNodeBufSize_le hl; omega

/-- **`find_by_key` through the bytes** -/
theorem findByKey_sim (sim : Sim K blobSize metaBuf f x) (k : Nat) (r : Option (List RecHeader))
    (h : f.findByKey k = some r) : BIdx.findByKey K x k = some r := by
  unfold IndexFile.findByKey at h
  unfold BIdx.findByKey
  cases hf : f.findLeafNode k with
  | none => rw [hf] at h; cases h
  | some leaf =>
    rw [hf] at h
    simp only [] at h
    rw [findLeafNode_sim sim k leaf hf (readHeaders_leaf_le h)]
    exact readHeaders_sim sim leaf k r h

theorem loadHeaders_sim (sim : Sim K blobSize metaBuf f x) (hlo : f.leavesOffset = f.leavesStart) :
    ∀ (n i : Nat), i + n ≤ f.leaves.length →
      x.loadHeaders (x.file.drop x.metadata.leavesOffset) n i = some ((f.leaves.drop i).take n)
  | 0, i, _ => by simp [BIdx.loadHeaders]
  | n + 1, i, hle => by
    have hi : i < f.leaves.length := by omega
    unfold BIdx.loadHeaders
    rw [sim.lo, hlo, sim.rhs, List.length_drop, sim.size, IndexFile.fileSize_eq]
    have hmul : i * f.p.rhs ≤ f.leaves.length * f.p.rhs := Nat.mul_le_mul_right _ (by omega)
    rw [if_neg (by omega), List.drop_drop]
    have hleaf := sim.leaf i f.leaves[i] (List.getElem?_eq_getElem hi) (x.file.length) (by
      rw [sim.size, IndexFile.fileSize_eq]
      have : (i + 1) * f.p.rhs ≤ f.leaves.length * f.p.rhs := Nat.mul_le_mul_right _ (by omega)
      rw [Nat.add_mul, Nat.one_mul] at this
      omega)
    rw [List.take_of_length_le (by rw [List.length_drop]; omega)] at hleaf
    rw [hleaf]
    simp only []
    have ih := loadHeaders_sim sim hlo n (i + 1) (by omega)
    rw [sim.lo, hlo] at ih
    rw [ih]
    simp only [Option.some.injEq]
    rw [← List.getElem_cons_drop hi, List.take_succ_cons]

/-- **`get_records_headers` through the bytes** -/
theorem load_sim (sim : Sim K blobSize metaBuf f x) (m : InMem RecHeader) (h : f.load = some m) :
    BIdx.load K blobSize x = some m := by
  unfold IndexFile.load at h
  unfold BIdx.load
  rw [sim.valid]
  simp only [Bool.not_true, Bool.false_eq_true, if_false]
  split at h
  · cases h
  · rename_i hlo
    have hlo' : f.leavesOffset = f.leavesStart := Classical.not_not.mp hlo
    split at h
    · cases h
    · rename_i hrc
      rw [sim.lo, hlo', sim.size, IndexFile.fileSize_eq, if_neg (by omega), sim.rc]
      have := loadHeaders_sim sim hlo' f.recordsCount 0 (by omega)
      rw [sim.lo, hlo'] at this
      rw [this, List.drop_zero]
      exact h

theorem readMeta_sim (sim : Sim K blobSize metaBuf f x) : x.readMeta = some metaBuf := by
  unfold BIdx.readMeta
  rw [sim.ss, sim.ms, readExactAt_eq _ _ _ sim.mlen, sim.mb]

theorem readMetaAt_sim (sim : Sim K blobSize metaBuf f x) (i : Nat) : x.readMetaAt i = metaBuf[i]? := by
  unfold BIdx.readMetaAt
  rw [sim.ms, sim.ss]
  by_cases hi : metaBuf.length ≤ i
  · rw [if_pos hi]
    exact (List.getElem?_eq_none hi).symm
  · rw [if_neg hi, readExactAt_eq _ _ _ (by have := sim.mlen; omega), Option.bind_some]
    have : metaBuf[i]? = ((x.file.drop 83).take metaBuf.length)[i]? := by rw [sim.mb]
    rw [this, List.getElem?_take_of_lt (by omega), List.getElem?_drop, List.getElem?_take_of_lt (by omega),
      List.getElem?_drop, Nat.add_zero]

end Pearl.E2E
