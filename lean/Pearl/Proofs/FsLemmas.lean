import Pearl.Model.Fs
import Pearl.Props.C01
import Pearl.Proofs.BlobLemmas
import Pearl.Proofs.CrcForce
import Pearl.Proofs.FsContent
import Pearl.Proofs.AcctLemmas
/-
Helper definitions and lemmas for the file / trace layer (L6, `Pearl/Model/Fs.lean`).

Part 1 works on the disk alone: whatever batch of actions a program issues, the disk and the trace
it leaves satisfy a number of invariants (`DiskInv`), proved once for the six primitive actions.
Part 2: a step that is a batch of actions on the disk and a sequence of L2 operations on the store (`Plain`).
Part 3 ties store and disk together (`Coh`: the blob files are exactly the blobs of the store) and says how
every program of the model is put together (`Built`); what holds of the building blocks and is kept by `⨾` and
`cond` holds of every program, hence of every run: the run invariant `RunInv` (created ids sorted and existing) and
the bound on the dirty bytes of the active blob (`Bounded`, `KeepsB` / `EstB`, `run_bounded`); at its end, for C12, single
operations on a run (`hdr3_before_write`, `closeActive_dirty_zero`, `fsync_dirty_zero`; `run_snoc_synced` stands at the end of Part 4).
Part 4: every blob has its file, as long as the blob's content, and no action is ever issued while disabled (`Good`).
Part 5: the bytes of a blob file (`content`): they only grow, and their number is `contentLen`.
What `delete` does to the blobs, by id (`Acct.delete_by_id`, over `Acct.delTargets`), and `Acct.any_id_false` come from
`Pearl/Proofs/AcctLemmas.lean`; `apply_log_new` from `Pearl/Props/C01.lean`.
-/
namespace Pearl.Fs

/-! ## Part 1: the disk -/

@[simp] theorem setFile_files (d : Disk) (id : Nat) (f : FileS) (j : Nat) :
    (d.setFile id f).files j = if j = id then some f else d.files j := rfl

@[simp] theorem setFile_idx (d : Disk) (id : Nat) (f : FileS) : (d.setFile id f).idx = d.idx := rfl

@[simp] theorem setIdx_files (d : Disk) (id bs : Nat) : (d.setIdx id bs).files = d.files := rfl

@[simp] theorem runActs_nil (d : Disk) : d.runActs [] = (d, []) := rfl

theorem runActs_cons (d : Disk) (a : Act) (as : List Act) :
    d.runActs (a :: as) = (((d.exec a).1.runActs as).1, (d.exec a).2 ++ ((d.exec a).1.runActs as).2) := rfl

theorem runActs_append (d : Disk) (as bs : List Act) :
    d.runActs (as ++ bs) =
      (((d.runActs as).1.runActs bs).1, (d.runActs as).2 ++ ((d.runActs as).1.runActs bs).2) := by
  induction as generalizing d with
  | nil => simp
  | cons a as ih => simp only [List.cons_append, runActs_cons, ih, List.append_assoc]

def Act.id : Act → Nat
  | .createBlob id => id
  | .append id _ => id
  | .syncBlob id => id
  | .dump id _ => id
  | .openBlob id => id
  | .openIdx id => id

def Act.isCreate : Act → Bool
  | .createBlob _ => true
  | _ => false

def Act.isAppend : Act → Bool
  | .append _ _ => true
  | _ => false

/-- every action of `as` satisfies `Q`; `NoCreate` and `NoAppend` unfold to this -/
def All (Q : Act → Prop) (as : List Act) : Prop := ∀ a ∈ as, Q a

def NoCreate (as : List Act) : Prop := ∀ a ∈ as, a.isCreate = false
def NoAppend (as : List Act) : Prop := ∀ a ∈ as, a.isAppend = false

section
variable {Q : Act → Prop}

theorem All.nil : All Q [] := fun _ h => nomatch h
theorem All.cons {a : Act} {as : List Act} (h : Q a) (hs : All Q as) : All Q (a :: as) := by
  intro x hx
  rcases List.mem_cons.1 hx with rfl | hx
  · exact h
  · exact hs x hx
theorem All.head {a : Act} {as : List Act} (h : All Q (a :: as)) : Q a := h a (List.mem_cons_self ..)
theorem All.tail {a : Act} {as : List Act} (h : All Q (a :: as)) : All Q as :=
  fun x hx => h x (List.mem_cons_of_mem _ hx)
theorem All.append {l1 l2 : List Act} (h1 : All Q l1) (h2 : All Q l2) : All Q (l1 ++ l2) :=
  fun x hx => (List.mem_append.1 hx).elim (h1 x) (h2 x)
theorem All.map {α} {l : List α} {g : α → Act} (h : ∀ x ∈ l, Q (g x)) : All Q (l.map g) := by
  intro x hx; obtain ⟨y, hy, rfl⟩ := List.mem_map.1 hx; exact h y hy
theorem All.flatMap {α} {l : List α} {g : α → List Act} (h : ∀ x ∈ l, All Q (g x)) : All Q (l.flatMap g) := by
  intro x hx; obtain ⟨y, hy, hxy⟩ := List.mem_flatMap.1 hx; exact h y hy x hxy
/-- (stated for the active blob, so that the `match` is the one of the programs of the model) -/
theorem All.ofOption {o : Option Blob} {g : Blob → List Act} (h : ∀ x, o = some x → All Q (g x)) :
    All Q (match (generalizing := false) o with | some x => g x | none => []) := by
  cases o
  · exact All.nil
  · exact h _ rfl
theorem All.ite {c : Prop} [Decidable c] {l1 l2 : List Act} (h1 : c → All Q l1) (h2 : ¬c → All Q l2) :
    All Q (if c then l1 else l2) := by
  split
  · exact h1 ‹_›
  · exact h2 ‹_›

theorem all_opens (h1 : ∀ id, Q (.openBlob id)) (h2 : ∀ id, Q (.openIdx id)) (d : Disk) (bs : List Blob) :
    All Q (bs.flatMap fun b =>
      if (d.idx b.id).isSome then [Act.openBlob b.id, Act.openIdx b.id] else [Act.openBlob b.id]) :=
  All.flatMap fun _ _ => All.ite (fun _ => All.cons (h1 _) (All.cons (h2 _) All.nil)) fun _ => All.cons (h1 _) All.nil

theorem all_openActs (h1 : ∀ id, Q (.openBlob id)) (h2 : ∀ id, Q (.openIdx id)) (h3 : ∀ id w, Q (.dump id w))
    (d : Disk) (st : Store) (lazy : Bool) : All Q (openActs d st lazy) :=
  All.append (all_opens h1 h2 d _) (All.map fun _ _ => h3 _ _)

theorem all_deleteActs (h : ∀ id w, Q (.append id w)) (klen : Nat) (st : Store) (k : Key) (ts : Nat)
    (m : Option Meta) (oip : Bool) : All Q (deleteActs klen st k ts m oip) :=
  All.append (All.ofOption fun _ _ => All.ite (fun _ => All.cons (h _ _) All.nil) fun _ => All.nil) (All.map fun _ _ => h _ _)

end

theorem mem_writesAt {f : FileId} : ∀ {lens : List Nat} {off : Nat} {e : Event},
    e ∈ writesAt f off lens → ∃ o l, e = .write f o l
  | [], _, _, h => by simp [writesAt] at h
  | n :: ns, off, e, h => by
    simp only [writesAt, List.mem_cons] at h
    rcases h with rfl | h
    · exact ⟨_, _, rfl⟩
    · exact mem_writesAt h

/-- the counters of the blob file of an action afterwards (`none`: the file does not exist) -/
def Act.upd : Act → Option FileS → Option FileS
  | .createBlob _, none => some { size := blobHeaderSize, synced := blobHeaderSize, appendMode := false }
  | .append _ lens, some f => some { f with size := f.size + lens.sum }
  | .syncBlob _, some f => some { f with synced := max f.synced f.size }
  | .dump _ _, some f => some { f with synced := max f.synced f.size }
  | .openBlob _, some f => some { size := f.size, synced := f.size, appendMode := true }
  | _, o => o

theorem exec_files (d : Disk) (a : Act) (j : Nat) :
    (d.exec a).1.files j = if j = a.id then a.upd (d.files j) else d.files j := by
  cases a with
  | createBlob id | syncBlob id | openBlob id =>
    simp only [Disk.exec, Act.id]
    cases hf : d.files id <;> by_cases hj : j = id <;> simp [Act.upd, hj, hf]
  | append id lens =>
    simp only [Disk.exec, Act.id]
    cases hf : d.files id <;> by_cases hj : j = id <;> simp [Act.upd, hj, hf]
  | dump id w =>
    simp only [Disk.exec, Act.id]
    cases hf : d.files id <;> cases w <;> by_cases hj : j = id <;> simp [Act.upd, hj, hf]
  | openIdx id =>
    have hu : (Act.openIdx id).upd (d.files j) = d.files j := by simp [Act.upd]
    simp only [Disk.exec, Act.id, hu, ite_self]
    split <;> rfl

theorem exec_files_other (d : Disk) (a : Act) {j : Nat} (hj : j ≠ a.id) : (d.exec a).1.files j = d.files j := by
  rw [exec_files, if_neg hj]

theorem upd_isSome (a : Act) (o : Option FileS) : (a.upd o).isSome = (o.isSome || a.isCreate) := by
  cases a <;> cases o <;> rfl

theorem exec_files_isSome (d : Disk) (a : Act) (j : Nat) :
    ((d.exec a).1.files j).isSome = ((d.files j).isSome || (a.isCreate && decide (j = a.id))) := by
  rw [exec_files]
  split
  · simp [upd_isSome, *]
  · simp [*]

/-- the length of a blob file -/
def szOf (d : Disk) (j : Nat) : Option Nat := (d.files j).map (·.size)

theorem isSome_files_eq_szOf (d : Disk) (j : Nat) : (d.files j).isSome = (szOf d j).isSome := by
  unfold szOf; cases d.files j <;> rfl

theorem exec_szOf_of_quiet (d : Disk) {a : Act} (h1 : a.isCreate = false) (h2 : a.isAppend = false) (j : Nat) :
    szOf (d.exec a).1 j = szOf d j := by
  unfold szOf
  rw [exec_files]
  split
  · cases a with
    | createBlob => cases h1
    | append => cases h2
    | _ => cases d.files j <;> rfl
  · rfl

theorem exec_append_szOf (d : Disk) (id : Nat) (lens : List Nat) (j : Nat) :
    szOf (d.exec (.append id lens)).1 j = if j = id then (szOf d j).map (· + lens.sum) else szOf d j := by
  unfold szOf
  by_cases hj : j = id
  · rw [exec_files, if_pos (show j = (Act.append id lens).id from hj), if_pos hj]
    cases d.files j <;> rfl
  · rw [exec_files_other d _ (show j ≠ (Act.append id lens).id from hj), if_neg hj]

/-! ### counters: `20 ≤ synced ≤ size` -/

def CountersOK (d : Disk) : Prop :=
  ∀ id f, d.files id = some f → f.synced ≤ f.size ∧ blobHeaderSize ≤ f.synced

theorem exec_countersOK {d : Disk} (h : CountersOK d) (a : Act) : CountersOK (d.exec a).1 := by
  intro j g hg
  rw [exec_files] at hg
  split at hg
  · cases hf : d.files j with
    | none =>
      -- only a creation makes a file, with both counters at the header size
      cases a <;> simp only [hf, Act.upd, Option.some.injEq, reduceCtorEq] at hg
      subst hg; simp
    | some f =>
      have := h j f hf
      cases a <;> simp only [hf, Act.upd, Option.some.injEq] at hg <;> subst hg <;> (try dsimp only) <;> omega
  · exact h j g hg

theorem exec_events_file (d : Disk) (a : Act) :
    ∀ e ∈ (d.exec a).2, e.file = .blob a.id ∨ e.file = .index a.id := by
  cases a with
  | append id lens =>
    simp only [Disk.exec, Act.id]
    split
    · simp
    · exact fun e he => Or.inl (by obtain ⟨_, _, rfl⟩ := mem_writesAt he; rfl)
  | dump id w => simp only [Disk.exec, Act.id]; cases d.files id <;> cases w <;> simp [Event.file]
  | createBlob id | syncBlob id | openBlob id =>
    simp only [Disk.exec, Act.id]; cases d.files id <;> simp [Event.file]
  | openIdx id => simp only [Disk.exec, Act.id]; cases d.idx id <;> simp [Event.file]

/-- the events of a trace that touch blob file `id` -/
def proj (id : Nat) (t : List Event) : List Event := t.filter fun e => e.file == FileId.blob id

theorem proj_append (id : Nat) (t u : List Event) : proj id (t ++ u) = proj id t ++ proj id u := by
  simp [proj]

/-- create, blob header at offset 0, fsync -/
def hdr3 (id : Nat) : List Event :=
  [.create (.blob id), .write (.blob id) 0 blobHeaderSize, .sync (.blob id) blobHeaderSize]

def HdrInv (d : Disk) (t : List Event) : Prop :=
  ∀ id, (d.files id = none → proj id t = []) ∧ (d.files id ≠ none → hdr3 id <+: proj id t)

theorem proj_exec_other (d : Disk) (a : Act) {id : Nat} (h : id ≠ a.id) : proj id (d.exec a).2 = [] := by
  simp only [proj, List.filter_eq_nil_iff]
  intro e he
  rcases exec_events_file d a e he with h1 | h1 <;> simp [h1, Ne.symm h]

theorem exec_hdrInv {d : Disk} {t : List Event} (h : HdrInv d t) (a : Act) :
    HdrInv (d.exec a).1 (t ++ (d.exec a).2) := by
  intro id
  by_cases hid : id = a.id
  · subst hid
    rw [proj_append]
    cases hf : d.files a.id with
    | none =>
      have h0 := (h a.id).1 hf
      rw [h0, List.nil_append]
      cases a with
      | createBlob id =>
        simp only [Act.id] at hf
        simp [Disk.exec, Act.id, hf, proj, hdr3, Event.file]
      | openIdx id =>
        simp only [Act.id] at hf
        simp only [Disk.exec, Act.id]
        split <;> simp [hf, proj, Event.file]
      | append | syncBlob | dump | openBlob =>
        -- without its file the action does nothing
        simp only [Act.id] at hf; simp [Disk.exec, Act.id, hf, proj]
    | some f =>
      have h1 := (h a.id).2 (by simp [hf])
      constructor
      · intro hn
        have := exec_files_isSome d a a.id
        simp [hn, hf] at this
      · intro _
        exact List.IsPrefix.trans h1 (List.prefix_append _ _)
  · rw [proj_append, proj_exec_other d a hid, List.append_nil, exec_files_other d a hid]
    exact h id

/-! ### append-only: an abstract file system that refuses anything else -/

/-- sizes of the blob files that exist -/
abbrev FsModel := Nat → Option Nat

def FsModel.set (m : FsModel) (id v : Nat) : FsModel := fun j => if j = id then some v else m j

@[simp] theorem FsModel.set_apply (m : FsModel) (id v j : Nat) :
    (m.set id v) j = if j = id then some v else m j := rfl

/-- the only legal events on blob files: creation of a file that does not exist, a write exactly at the
    current end, a sync publishing exactly the current size, reopening an existing file -/
def fsAccept (m : FsModel) : Event → Option FsModel
  | .create (.blob id) => if (m id).isNone then some (m.set id 0) else none
  | .write (.blob id) off len =>
    match m id with
    | some sz => if off = sz then some (m.set id (sz + len)) else none
    | none => none
  | .sync (.blob id) n =>
    match m id with
    | some sz => if n = sz then some m else none
    | none => none
  | .open (.blob id) => if (m id).isSome then some m else none
  | _ => some m

def replay : FsModel → List Event → Option FsModel
  | m, [] => some m
  | m, e :: es => (fsAccept m e).bind fun m' => replay m' es

theorem replay_append (m : FsModel) (t u : List Event) :
    replay m (t ++ u) = (replay m t).bind fun m' => replay m' u := by
  induction t generalizing m with
  | nil => simp [replay]
  | cons e es ih =>
    simp only [List.cons_append, replay]
    cases fsAccept m e <;> simp [ih]

/-- the lengths `m` are the `size` counters of `d` -/
def FsModel.Agree (m : FsModel) (d : Disk) : Prop := ∀ id, m id = (d.files id).map (·.size)

theorem replay_writesAt (id : Nat) : ∀ (lens : List Nat) (m : FsModel) (off : Nat), m id = some off →
    ∃ m', replay m (writesAt (.blob id) off lens) = some m' ∧
      ∀ j, m' j = if j = id then some (off + lens.sum) else m j
  | [], m, off, h => ⟨m, rfl, by intro j; split <;> simp_all⟩
  | n :: ns, m, off, h => by
    simp only [writesAt, replay, fsAccept, h, if_true, Option.bind_some]
    obtain ⟨m', h1, h2⟩ := replay_writesAt id ns (m.set id (off + n)) (off + n) (by simp)
    refine ⟨m', h1, ?_⟩
    intro j
    rw [h2 j]
    split
    · simp [Nat.add_assoc]
    · simp [*]

def ReplayInv (d : Disk) (t : List Event) : Prop := ∃ m, replay (fun _ => none) t = some m ∧ m.Agree d

theorem exec_replayInv {d : Disk} {t : List Event} (h : ReplayInv d t) (a : Act) :
    ReplayInv (d.exec a).1 (t ++ (d.exec a).2) := by
  obtain ⟨m, hm, hag⟩ := h
  unfold ReplayInv
  rw [replay_append, hm, Option.bind_some]
  have hmid : ∀ {id f}, d.files id = some f → m id = some f.size := fun hf => by rw [hag, hf]; rfl
  -- the actions that change no length: their events are accepted as they are
  have hq : ∀ a : Act, a.isCreate = false → a.isAppend = false → m.Agree (d.exec a).1 :=
    fun a h1 h2 j => (hag j).trans (exec_szOf_of_quiet d h1 h2 j).symm
  cases a with
  | createBlob id =>
    simp only [Disk.exec]
    cases hf : d.files id with
    | some f => exact ⟨m, rfl, hag⟩
    | none =>
      have hmid : m id = none := by rw [hag id, hf]; rfl
      simp only [replay, fsAccept, hmid, Option.isNone_none, if_true, Option.bind_some, FsModel.set_apply]
      refine ⟨_, rfl, fun j => ?_⟩
      simp only [setFile_files, FsModel.set_apply]
      split
      · simp
      · exact hag j
  | append id lens =>
    cases hf : d.files id with
    | none => simp only [Disk.exec, hf]; exact ⟨m, rfl, hag⟩
    | some f =>
      obtain ⟨m', h1, h2⟩ := replay_writesAt id lens m f.size (hmid hf)
      refine ⟨m', by simpa only [Disk.exec, hf] using h1, fun j => ?_⟩
      rw [h2 j, ← szOf, exec_append_szOf, szOf, ← hag j]
      split
      · subst_vars; rw [hmid hf]; rfl
      · rfl
  | syncBlob id | openBlob id =>
    refine ⟨m, ?_, hq _ rfl rfl⟩
    simp only [Disk.exec]
    split
    · rfl
    · simp [replay, fsAccept, hmid ‹_›]
  | dump id w =>
    refine ⟨m, ?_, hq _ rfl rfl⟩
    simp only [Disk.exec]
    split
    · rfl
    · cases w <;> simp [replay, fsAccept, hmid ‹_›]
  | openIdx id => exact ⟨m, by simp only [Disk.exec]; split <;> rfl, hq _ rfl rfl⟩

theorem replay_split {m0 m : FsModel} {pre post : List Event} {e : Event}
    (h : replay m0 (pre ++ e :: post) = some m) :
    ∃ m1 m2, replay m0 pre = some m1 ∧ fsAccept m1 e = some m2 ∧ replay m2 post = some m := by
  rw [replay_append] at h
  cases h1 : replay m0 pre with
  | none => simp [h1] at h
  | some m1 =>
    simp only [h1, Option.bind_some, replay] at h
    cases h2 : fsAccept m1 e with
    | none => simp [h2] at h
    | some m2 => exact ⟨m1, m2, rfl, h2, by simpa [h2] using h⟩

/-! ### the index header is written after the blob is synced -/

def isWriteOn (f : FileId) : Event → Bool
  | .write g _ _ => g == f
  | _ => false

/-- before the header rewrite: a sync of the blob file publishing at least `bs`, and no write to the
    blob file since -/
def SyncedBefore (i bs : Nat) (pre : List Event) : Prop :=
  ∃ p1 p2 n, pre = p1 ++ .sync (.blob i) n :: p2 ∧ bs ≤ n ∧ ∀ e ∈ p2, isWriteOn (.blob i) e = false

/-- after the header rewrite: the next event on the index file is its sync -/
def IdxSyncedAfter (i : Nat) (post : List Event) : Prop :=
  ∃ q1 q2 n, post = q1 ++ .sync (.index i) n :: q2 ∧ ∀ e ∈ q1, e.file ≠ .index i

def IdxGood (t : List Event) : Prop :=
  ∀ pre post i bs, t = pre ++ .idxHeader i bs true :: post → SyncedBefore i bs pre ∧ IdxSyncedAfter i post

theorem SyncedBefore.mono {i bs : Nat} {pre : List Event} (h : SyncedBefore i bs pre) (t : List Event) :
    SyncedBefore i bs (t ++ pre) := by
  obtain ⟨p1, p2, n, rfl, h1, h2⟩ := h
  exact ⟨t ++ p1, p2, n, by simp, h1, h2⟩

theorem IdxSyncedAfter.mono {i : Nat} {post : List Event} (h : IdxSyncedAfter i post) (u : List Event) :
    IdxSyncedAfter i (post ++ u) := by
  obtain ⟨q1, q2, n, rfl, h1⟩ := h
  exact ⟨q1, q2 ++ u, n, by simp, h1⟩

theorem IdxGood.append {t u : List Event} (ht : IdxGood t) (hu : IdxGood u) : IdxGood (t ++ u) := by
  intro pre post i bs h
  rcases List.append_eq_append_iff.1 h with ⟨a', rfl, h2⟩ | ⟨c', rfl, h2⟩
  · -- the header lies in `u`
    obtain ⟨h3, h4⟩ := hu a' post i bs h2
    exact ⟨h3.mono t, h4⟩
  · cases c' with
    | nil =>
      simp only [List.nil_append] at h2
      obtain ⟨h3, h4⟩ := hu [] post i bs h2.symm
      exact ⟨by simpa using h3.mono pre, h4⟩
    | cons x xs =>
      simp only [List.cons_append, List.cons.injEq] at h2
      obtain ⟨rfl, rfl⟩ := h2
      obtain ⟨h3, h4⟩ := ht pre xs i bs (by simp)
      exact ⟨h3, h4.mono u⟩

theorem IdxGood.of_no_header {u : List Event} (h : ∀ i bs w, Event.idxHeader i bs w ∉ u) : IdxGood u := by
  intro pre post i bs hu
  exact absurd (by rw [hu]; simp) (h i bs true)

theorem exec_idxGood (d : Disk) (a : Act) : IdxGood (d.exec a).2 := by
  cases a with
  | dump id w =>
    simp only [Disk.exec]
    split
    · exact IdxGood.of_no_header (by simp)
    · rename_i f hf
      cases w with
      | false => exact IdxGood.of_no_header (by simp)
      | true =>
        simp only [if_true]
        intro pre post i bs h
        rcases pre with _ | ⟨e1, _ | ⟨e2, _ | ⟨e3, _ | ⟨e4, _ | ⟨e5, pre⟩⟩⟩⟩⟩ <;>
          simp only [List.nil_append, List.cons_append, List.cons.injEq, reduceCtorEq, false_and, and_false] at h
        · obtain ⟨rfl, rfl, rfl, ⟨rfl, rfl⟩, rfl⟩ := h
          exact ⟨⟨[], [_, _], _, rfl, Nat.le_refl _, by simp [isWriteOn]⟩, ⟨[], [], 0, rfl, by simp⟩⟩
        · exact absurd h.2.2.2.2.2 (by simp)
  | append id lens =>
    simp only [Disk.exec]
    split
    · exact IdxGood.of_no_header (by simp)
    · refine IdxGood.of_no_header ?_
      intro i bs w hm
      obtain ⟨o, l, h⟩ := mem_writesAt hm
      cases h
  | createBlob | syncBlob | openBlob | openIdx =>
    simp only [Disk.exec]; split <;> exact IdxGood.of_no_header (by simp)

/-- ids of the blob files created in a trace, in order -/
def createdIds (t : List Event) : List Nat :=
  t.filterMap fun e => match e with
    | .create (.blob id) => some id
    | _ => none

theorem createdIds_append (t u : List Event) : createdIds (t ++ u) = createdIds t ++ createdIds u := by
  simp [createdIds]

theorem mem_createdIds {t : List Event} {id : Nat} : id ∈ createdIds t ↔ Event.create (.blob id) ∈ t := by
  simp only [createdIds, List.mem_filterMap]
  constructor
  · rintro ⟨e, he, h⟩
    split at h
    · cases h; exact he
    · cases h
  · intro h; exact ⟨_, h, rfl⟩

theorem createdIds_writesAt (f : FileId) : ∀ (lens : List Nat) (off : Nat), createdIds (writesAt f off lens) = []
  | [], _ => rfl
  | _ :: ns, _ => createdIds_writesAt f ns _

theorem exec_createdIds (d : Disk) (a : Act) :
    createdIds (d.exec a).2 = if a.isCreate = true ∧ d.files a.id = none then [a.id] else [] := by
  cases a with
  | createBlob id =>
    simp only [Disk.exec, Act.isCreate, Act.id]
    cases hf : d.files id <;> simp [createdIds]
  | append id lens =>
    simp only [Disk.exec]
    split
    · rfl
    · exact createdIds_writesAt _ _ _
  | dump id w => simp only [Disk.exec]; cases d.files id <;> cases w <;> rfl
  | syncBlob id | openBlob id => simp only [Disk.exec]; cases d.files id <;> rfl
  | openIdx id => simp only [Disk.exec]; cases d.idx id <;> rfl

def CreatedInv (d : Disk) (t : List Event) : Prop := ∀ id, Event.create (.blob id) ∈ t → d.files id ≠ none

/-- a file that does not exist has no event in the trace, its creation included -/
theorem HdrInv.created {d : Disk} {t : List Event} (h : HdrInv d t) : CreatedInv d t := by
  intro id hm hn
  have : Event.create (.blob id) ∈ proj id t := List.mem_filter.2 ⟨hm, by simp [Event.file]⟩
  rw [(h id).1 hn] at this
  cases this

structure DiskInv (d : Disk) (t : List Event) : Prop where
  counters : CountersOK d
  hdr : HdrInv d t
  replay : ReplayInv d t
  idx : IdxGood t
  created : CreatedInv d t

theorem DiskInv.init : DiskInv {} [] where
  counters := by intro id f h; cases h
  hdr := by intro id; exact ⟨fun _ => rfl, fun h => absurd rfl h⟩
  replay := ⟨fun _ => none, rfl, fun _ => rfl⟩
  idx := IdxGood.of_no_header (by simp)
  created := by intro id h; cases h

theorem DiskInv.exec {d : Disk} {t : List Event} (h : DiskInv d t) (a : Act) :
    DiskInv (d.exec a).1 (t ++ (d.exec a).2) where
  counters := exec_countersOK h.counters a
  hdr := exec_hdrInv h.hdr a
  replay := exec_replayInv h.replay a
  idx := h.idx.append (exec_idxGood d a)
  created := (exec_hdrInv h.hdr a).created

theorem DiskInv.runActs : ∀ {d : Disk} {t : List Event}, DiskInv d t → ∀ as : List Act,
    DiskInv (d.runActs as).1 (t ++ (d.runActs as).2)
  | _, _, h, [] => by simpa using h
  | _, _, h, a :: as => by
    simpa [runActs_cons, List.append_assoc] using (h.exec a).runActs as

/-! ## Part 2: programs are batches of actions on the disk and L2 operations on the store; runs -/

/-- `max_dirty_bytes_before_sync`, the key length and the two switches between versions of /repo -/
def _root_.Pearl.Fs.FsState.config (s : FsState) : Nat × Nat × Bool × Bool :=
  (s.klen, s.limit, s.explicitFsyncUnconditional, s.restoreSyncsOverLimit)

/-- a step that is, on the disk, some batch of primitive actions and, on the store, some sequence of L2
    operations, and does not touch the configuration -/
structure Plain (s s' : FsState) (evs : List Event) : Prop where
  disk : ∃ as, s'.disk = (s.disk.runActs as).1 ∧ evs = (s.disk.runActs as).2
  store : ∃ ops, s'.store = s.store.run ops
  config : s'.config = s.config

theorem Plain.refl (s : FsState) : Plain s s [] := ⟨⟨[], rfl, rfl⟩, ⟨[], rfl⟩, rfl⟩

theorem Plain.acts (f : FsState → List Act) (s : FsState) : Plain s (acts f s).1 (acts f s).2 :=
  ⟨⟨_, rfl, rfl⟩, ⟨[], rfl⟩, rfl⟩

theorem Plain.applyP (op : Op) (s : FsState) : Plain s (applyP op s).1 (applyP op s).2 :=
  ⟨⟨[], rfl, rfl⟩, ⟨[op], rfl⟩, rfl⟩

theorem Plain.trans {s s' s'' : FsState} {e e' : List Event} (h : Plain s s' e) (h' : Plain s' s'' e') :
    Plain s s'' (e ++ e') := by
  obtain ⟨⟨a1, h1, h2⟩, ⟨o1, h3⟩, h4⟩ := h
  obtain ⟨⟨a2, k1, k2⟩, ⟨o2, k3⟩, k4⟩ := h'
  refine ⟨⟨a1 ++ a2, ?_, ?_⟩, ⟨o1 ++ o2, by rw [k3, h3, Store.run_append]⟩, k4.trans h4⟩ <;>
    simp only [runActs_append]
  · rw [k1, h1]
  · rw [h2, k2, h1]

@[simp] theorem runFrom_nil (st : FsState × List Event) : runFrom st [] = st := rfl

theorem runFrom_cons (st : FsState × List Event) (op : FsOp) (ops : List FsOp) :
    runFrom st (op :: ops) = runFrom ((emit st.1 op).1, st.2 ++ (emit st.1 op).2) ops := rfl

theorem runFrom_append (st : FsState × List Event) (a b : List FsOp) :
    runFrom st (a ++ b) = runFrom (runFrom st a) b := by
  simp [runFrom, List.foldl_append]

theorem runFrom_snoc (st : FsState × List Event) (ops : List FsOp) (op : FsOp) :
    runFrom st (ops ++ [op]) =
      ((emit (runFrom st ops).1 op).1, (runFrom st ops).2 ++ (emit (runFrom st ops).1 op).2) := by
  rw [runFrom_append]; rfl

theorem runFrom_keeps {I : FsState → List Event → Prop}
    (hstep : ∀ s t op, I s t → I (emit s op).1 (t ++ (emit s op).2)) :
    ∀ (ops : List FsOp) (st : FsState × List Event), I st.1 st.2 → I (runFrom st ops).1 (runFrom st ops).2
  | [], _, h => h
  | op :: ops, st, h => by
    rw [runFrom_cons]
    exact runFrom_keeps hstep ops _ (hstep _ _ op h)

theorem init_store (dup : Bool) (limit klen : Nat) (unc rs : Bool) :
    (init dup limit klen unc rs).1.store = Store.init dup := rfl

variable (dup : Bool) (limit klen : Nat) (unc rs : Bool)

/-! ## Part 3: store and disk together -/

/-- every blob file belongs to a blob of the store; the store is well-formed and not empty -/
structure Coh (s : FsState) : Prop where
  wf : s.store.WF
  ne : s.store.blobs ≠ []
  dom : ∀ id, (s.disk.files id).isSome → ∃ b ∈ s.store.blobs, b.id = id

theorem Coh.fresh {s : FsState} (h : Coh s) : ∀ id, (s.disk.files id).isSome → id < s.store.nextId := by
  intro id hid
  obtain ⟨b, hb, rfl⟩ := h.dom id hid
  exact h.wf.2 b hb

theorem Coh.nextId_none {s : FsState} (h : Coh s) : s.disk.files s.store.nextId = none := by
  cases hf : s.disk.files s.store.nextId with
  | none => rfl
  | some f => exact absurd (h.fresh _ (by simp [hf])) (Nat.lt_irrefl _)

theorem runActs_files_isSome_mono (d : Disk) (as : List Act) (j : Nat) :
    (d.files j).isSome → ((d.runActs as).1.files j).isSome := by
  induction as generalizing d with
  | nil => exact id
  | cons a as ih =>
    intro h
    rw [runActs_cons]
    apply ih
    rw [exec_files_isSome, h]; rfl

theorem runActs_files_isSome_of_noCreate (d : Disk) {as : List Act} (h : NoCreate as) (j : Nat) :
    ((d.runActs as).1.files j).isSome = (d.files j).isSome := by
  induction as generalizing d with
  | nil => rfl
  | cons a as ih =>
    rw [runActs_cons]
    rw [ih _ (All.tail h), exec_files_isSome, All.head h]
    simp

theorem runActs_createdIds_of_noCreate (d : Disk) {as : List Act} (h : NoCreate as) :
    createdIds (d.runActs as).2 = [] := by
  induction as generalizing d with
  | nil => rfl
  | cons a as ih =>
    rw [runActs_cons, createdIds_append, exec_createdIds, if_neg (by simp [All.head h]), ih _ (All.tail h)]
    rfl

structure StepOK (s s' : FsState) (evs : List Event) : Prop where
  coh : Coh s'
  grow : ∀ j, (s.disk.files j).isSome → (s'.disk.files j).isSome
  created : ∀ id ∈ createdIds evs, (s'.disk.files id).isSome ∧ ∀ j, (s.disk.files j).isSome → j < id
  sorted : (createdIds evs).Pairwise (· < ·)

def Sound (p : Prog) : Prop := ∀ s, Coh s → StepOK s (p s).1 (p s).2

theorem StepOK.quiet {s s' : FsState} (hc : Coh s') (hd : s'.disk = s.disk) : StepOK s s' [] :=
  ⟨hc, fun _ h => hd ▸ h, fun _ h => (nomatch h), List.Pairwise.nil⟩

theorem Sound.skip : Sound skip := fun _ h => .quiet h rfl

theorem Sound.seq {p q : Prog} (hp : Sound p) (hq : Sound q) : Sound (p ⨾ q) := by
  intro s h
  have h1 := hp s h
  have h2 := hq (p s).1 h1.coh
  refine ⟨h2.coh, fun j hj => h2.grow j (h1.grow j hj), ?_, ?_⟩
  · intro id hid
    simp only [Fs.seq, createdIds_append, List.mem_append] at hid ⊢
    rcases hid with hid | hid
    · exact ⟨h2.grow _ (h1.created id hid).1, (h1.created id hid).2⟩
    · exact ⟨(h2.created id hid).1, fun j hj => (h2.created id hid).2 j (h1.grow j hj)⟩
  · simp only [Fs.seq, createdIds_append, List.pairwise_append]
    refine ⟨h1.sorted, h2.sorted, ?_⟩
    intro a ha b hb
    exact (h2.created b hb).2 a (h1.created a ha).1

theorem Sound.cond {c : FsState → Bool} {p q : Prog} (hp : Sound p) (hq : Sound q) : Sound (cond c p q) := by
  intro s h; simp only [Fs.cond]; split
  · exact hp s h
  · exact hq s h

theorem stepOK_acts {s : FsState} (h : Coh s) {f : FsState → List Act} (hf : NoCreate (f s)) :
    StepOK s (acts f s).1 (acts f s).2 := by
  have hsome := runActs_files_isSome_of_noCreate s.disk hf
  refine ⟨⟨h.wf, h.ne, ?_⟩, ?_, ?_, ?_⟩
  · intro id hid
    simp only [Fs.acts] at hid
    rw [hsome] at hid
    exact h.dom id hid
  · intro j hj; simp only [Fs.acts]; rw [hsome]; exact hj
  · intro id hid
    simp only [Fs.acts, runActs_createdIds_of_noCreate s.disk hf] at hid
    cases hid
  · simp only [Fs.acts, runActs_createdIds_of_noCreate s.disk hf]
    exact List.Pairwise.nil

theorem Sound.acts {f : FsState → List Act} (hf : ∀ s, NoCreate (f s)) : Sound (acts f) :=
  fun s h => stepOK_acts h (hf s)

theorem Sound.modify {g : FsState → FsState} (hg : ∀ s, (g s).store = s.store) : Sound (modify g) := by
  refine fun s h => .quiet ⟨?_, ?_, ?_⟩ rfl <;> simp only [Fs.modify, hg]
  · exact h.wf
  · exact h.ne
  · exact h.dom

theorem Sound.applyP (op : Op) : Sound (applyP op) := by
  intro s h
  have hinv := Store.run_inv h.wf h.ne [op]
  refine .quiet ⟨hinv.1, hinv.2, fun id hid => ?_⟩ rfl
  obtain ⟨b, hb, rfl⟩ := h.dom id hid
  obtain ⟨b', hb', hid', _⟩ := Store.apply_log' h.wf op b hb
  exact ⟨b', hb', hid'⟩

theorem history_newBlob_replace (st : Store) :
    (st.apply .replaceActive).history = st.history ++ [(st.nextId, [])] := by
  simp only [Store.history, show (st.apply .replaceActive).blobs = _ from Store.blobs_replaceActive st,
    List.map_append]
  rfl

theorem history_createActive {st : Store} (ha : st.active = none) :
    (st.apply .createActive).history = st.history ++ [(st.nextId, [])] := by
  rw [Store.apply_createActive_of_none ha]; exact Store.history_createActive ha

theorem exec_createBlob_of_none {d : Disk} {id : Nat} (h : d.files id = none) :
    d.exec (.createBlob id) =
      (d.setFile id { size := blobHeaderSize, synced := blobHeaderSize, appendMode := false }, hdr3 id) := by
  simp [Disk.exec, h, hdr3]

theorem newBlobP_eq {s : FsState} (h : s.disk.files s.store.nextId = none) (op : Op) :
    newBlobP op s =
      ({ s with store := s.store.apply op
                disk := s.disk.setFile s.store.nextId
                  { size := blobHeaderSize, synced := blobHeaderSize, appendMode := false } },
        hdr3 s.store.nextId) := by
  simp [newBlobP, Fs.seq, Fs.acts, Fs.applyP, modStore, Fs.modify, Disk.runActs,
    exec_createBlob_of_none h]

theorem createdIds_hdr3 (id : Nat) : createdIds (hdr3 id) = [id] := rfl

theorem stepOK_newBlob {s : FsState} (h : Coh s) {op : Op}
    (hh : (s.store.apply op).history = s.store.history ++ [(s.store.nextId, [])]) :
    StepOK s (newBlobP op s).1 (newBlobP op s).2 := by
  rw [newBlobP_eq h.nextId_none]
  have hinv := Store.run_inv h.wf h.ne [op]
  refine ⟨⟨hinv.1, hinv.2, ?_⟩, ?_, ?_, ?_⟩
  · intro id hid
    simp only [setFile_files] at hid
    split at hid
    · obtain ⟨b, hb, he⟩ := List.mem_map.1 (hh ▸ List.mem_append_right _ (List.mem_singleton_self _))
      exact ⟨b, hb, (Prod.mk.inj he).1.trans ‹id = _›.symm⟩
    · obtain ⟨b, hb, rfl⟩ := h.dom id hid
      obtain ⟨b', hb', hid', _⟩ := Store.apply_log' h.wf op b hb
      exact ⟨b', hb', hid'⟩
  · intro j hj
    simp only [setFile_files]
    split
    · rfl
    · exact hj
  · intro id hid
    simp only [createdIds_hdr3, List.mem_singleton] at hid
    subst hid
    exact ⟨by simp, fun j hj => h.fresh j hj⟩
  · simp [createdIds_hdr3]

theorem sound_rotate_head : Sound (newBlobP .replaceActive) :=
  fun _ h => stepOK_newBlob h (history_newBlob_replace _)

theorem Sound.ensureActiveP : Sound ensureActiveP := by
  intro s h
  simp only [Fs.ensureActiveP, Fs.cond]
  split
  · rename_i hnone
    exact stepOK_newBlob h (history_createActive (by simpa using hnone))
  · exact Sound.skip s h

theorem NoCreate.append {l1 l2 : List Act} (h1 : NoCreate l1) (h2 : NoCreate l2) : NoCreate (l1 ++ l2) :=
  All.append h1 h2
theorem NoAppend.append {l1 l2 : List Act} (h1 : NoAppend l1) (h2 : NoAppend l2) : NoAppend (l1 ++ l2) :=
  All.append h1 h2

theorem noCreate_openActs (d : Disk) (st : Store) (lazy : Bool) : NoCreate (openActs d st lazy) :=
  all_openActs (fun _ => rfl) (fun _ => rfl) (fun _ _ => rfl) d st lazy
theorem noAppend_openActs (d : Disk) (st : Store) (lazy : Bool) : NoAppend (openActs d st lazy) :=
  all_openActs (fun _ => rfl) (fun _ => rfl) (fun _ _ => rfl) d st lazy

def appendActiveP (k : Key) (ts : Nat) (m : Option Meta) (d : Data) : Prog :=
  acts (fun s => match s.store.active with
    | some a => [.append a.id (recWrites s.klen (writeRec k ts m d))]
    | none => []) ⨾ applyP (.write k ts m d)

theorem writeP_eq (k : Key) (ts : Nat) (m : Option Meta) (d : Data) (rot : Bool) :
    writeP k ts m d rot =
      ensureActiveP ⨾ cond (fun s => !s.store.allowDup && (s.store.getLatestEntry k m).isFound) skip
        (appendActiveP k ts m d ⨾ (if rot then rotateP else fsyncCheckP)) := rfl

def deleteCoreP (k : Key) (ts : Nat) (m : Option Meta) (oip : Bool) : Prog :=
  acts (fun s => deleteActs s.klen s.store k ts m oip) ⨾ noteDeferredP k ⨾ applyP (.delete k ts m oip)

theorem deleteP_eq (k : Key) (ts : Nat) (m : Option Meta) (oip : Bool) :
    deleteP k ts m oip = (if oip then skip else ensureActiveP) ⨾ deleteCoreP k ts m oip ⨾ fsyncCheckP := by
  funext s
  simp [deleteP, deleteCoreP, Fs.seq, List.append_assoc]

/-- what holds of both programs holds of the one chosen by a test that does not look at the state (`rot`, `oip`) -/
theorem ite_prog {P : Prog → Prop} {c : Prop} [Decidable c] {p q : Prog} (hp : P p) (hq : P q) :
    P (if c then p else q) := by
  split
  · exact hp
  · exact hq

/-- the operations that close the storage (and may open it again) -/
def _root_.Pearl.Fs.FsOp.closes : FsOp → Prop
  | .restart _ | .close => True
  | _ => False

/-- How every program of the model is put together: batches of actions that create no file, L2 operations,
    updates of the flags `deferred` and (only if `F`) `isOpen`, and the two blocks that create a blob file.
    What holds of these blocks and is kept by `⨾` and `cond` holds of every program.  `F` is only ever `True` (any
    program: `emit_built`) or `False` (a program that does not touch `isOpen`: `FsAcct.keepsOpen`). -/
inductive Built (F : Prop) : Prog → Prop
  | skip : Built F skip
  | acts {f : FsState → List Act} (h : ∀ s, NoCreate (f s)) : Built F (acts f)
  | applyP (op : Op) : Built F (applyP op)
  | deferred (g : FsState → Bool) : Built F (modify fun s => { s with deferred := g s })
  | flags (hF : F) (d o : FsState → Bool) : Built F (modify fun s => { s with deferred := d s, isOpen := o s })
  | ensureActive : Built F ensureActiveP
  | replaceActive : Built F (newBlobP .replaceActive)
  | seq {p q : Prog} : Built F p → Built F q → Built F (p ⨾ q)
  | cond (c : FsState → Bool) {p q : Prog} : Built F p → Built F q → Built F (cond c p q)

section
variable {F : Prop}

theorem built_dumpPassP : Built F dumpPassP := .seq (.acts fun _ => All.map fun _ _ => rfl) (.applyP _)

theorem built_fsyncCheckP : Built F fsyncCheckP :=
  .acts fun _ => All.ofOption fun _ _ => All.ite (fun _ => All.cons rfl All.nil) fun _ => All.nil

theorem built_rotateP : Built F rotateP := .seq .replaceActive (.cond _ .skip built_dumpPassP)

theorem built_closeP (hF : F) : Built F closeP :=
  .seq (.acts fun _ => All.ofOption fun _ _ => All.cons rfl All.nil) (.flags hF _ _)

theorem built_openP (hF : F) (lazy : Bool) : Built F (openP lazy) :=
  .seq (.seq (.acts fun _ => noCreate_openActs _ _ _) (.applyP _)) (.flags hF _ _)

theorem built_appendActive (k : Key) (ts : Nat) (m : Option Meta) (d : Data) : Built F (appendActiveP k ts m d) :=
  .seq (.acts fun _ => All.ofOption fun _ _ => All.cons rfl All.nil) (.applyP _)

theorem built_deleteCore (k : Key) (ts : Nat) (m : Option Meta) (oip : Bool) : Built F (deleteCoreP k ts m oip) :=
  .seq (.seq (.acts fun _ => all_deleteActs (fun _ _ => rfl) _ _ _ _ _ _) (.deferred _)) (.applyP _)

/-- `Inner::close_active_blob` starts with an fsync of the active blob -/
theorem built_syncActive :
    Built F (acts fun s => match s.store.active with | some a => [.syncBlob a.id] | none => []) :=
  .acts fun _ => All.ofOption fun _ _ => All.cons rfl All.nil

theorem built_prog : ∀ (op : FsOp), (op.closes → F) → Built F (prog op)
  | .write k ts m d _, _ =>
    .seq .ensureActive (.cond _ .skip (.seq (built_appendActive k ts m d) (ite_prog built_rotateP built_fsyncCheckP)))
  | .delete k ts m oip, _ =>
    show Built F (deleteP k ts m oip) from
      deleteP_eq k ts m oip ▸ .seq (.seq (ite_prog .skip .ensureActive) (built_deleteCore k ts m oip)) built_fsyncCheckP
  | .closeActive, _ => .seq (.seq built_syncActive (.applyP _)) built_dumpPassP
  | .createActive, _ => .ensureActive
  | .restoreActive, _ => .cond _ (.seq (.applyP _) (.cond _ built_fsyncCheckP .skip)) .skip
  | .force _, _ => .seq (.cond _ .replaceActive .skip) built_dumpPassP
  | .free, _ => built_dumpPassP
  | .settle, _ => .cond _ built_dumpPassP .skip
  | .fsync, _ => .acts fun _ => All.ofOption fun _ _ => All.ite (fun _ => All.cons rfl All.nil) fun _ => All.nil
  | .restart lazy, hF => .seq (built_closeP (hF trivial)) (built_openP (hF trivial) lazy)
  | .close, hF => built_closeP (hF trivial)
  | .open _, _ => .skip
  | .query, _ => .skip

theorem Built.plain {p : Prog} (h : Built True p) (s : FsState) : Plain s (p s).1 (p s).2 := by
  induction h generalizing s with
  | skip => exact .refl s
  | acts _ => exact .acts _ s
  | applyP op => exact .applyP op s
  | deferred _ | flags _ _ _ => exact ⟨⟨[], rfl, rfl⟩, ⟨[], rfl⟩, rfl⟩
  | ensureActive =>
    simp only [ensureActiveP, Fs.cond]
    split
    · exact (Plain.acts _ s).trans (.applyP _ _)
    · exact .refl s
  | replaceActive => exact (Plain.acts _ s).trans (.applyP _ _)
  | seq _ _ hp hq => exact (hp s).trans (hq _)
  | cond _ _ _ hp hq =>
    simp only [Fs.cond]
    split
    · exact hp s
    · exact hq s

theorem Built.sound {p : Prog} (h : Built True p) : Sound p := by
  induction h with
  | skip => exact .skip
  | acts h => exact .acts h
  | applyP _ => exact .applyP _
  | deferred _ | flags _ _ _ => exact .modify fun _ => rfl
  | ensureActive => exact .ensureActiveP
  | replaceActive => exact sound_rotate_head
  | seq _ _ hp hq => exact hp.seq hq
  | cond _ _ _ hp hq => exact hp.cond hq

end

theorem emit_built (s : FsState) (op : FsOp) : ∃ p, Built True p ∧ emit s op = p s := by
  unfold emit
  split
  · exact ⟨_, built_prog op fun _ => trivial, rfl⟩
  · split
    · exact ⟨_, built_openP trivial _, rfl⟩
    · exact ⟨_, .skip, rfl⟩

theorem emit_stepOK {s : FsState} (h : Coh s) (op : FsOp) : StepOK s (emit s op).1 (emit s op).2 := by
  obtain ⟨p, hp, he⟩ := emit_built s op
  rw [he]; exact hp.sound s h

theorem emit_plain (s : FsState) (op : FsOp) : Plain s (emit s op).1 (emit s op).2 := by
  obtain ⟨p, hp, he⟩ := emit_built s op
  rw [he]; exact hp.plain s

theorem runFrom_plain : ∀ (ops : List FsOp) (st : FsState × List Event),
    ∃ u, (runFrom st ops).2 = st.2 ++ u ∧ Plain st.1 (runFrom st ops).1 u
  | [], st => ⟨[], (List.append_nil _).symm, .refl _⟩
  | op :: ops, st => by
    obtain ⟨u, hu, hp⟩ := runFrom_plain ops ((emit st.1 op).1, st.2 ++ (emit st.1 op).2)
    exact ⟨(emit st.1 op).2 ++ u, by rw [runFrom_cons, hu, List.append_assoc], (emit_plain st.1 op).trans hp⟩

theorem run_diskInv (ops : List FsOp) :
    DiskInv (run dup limit klen unc rs ops).1.disk (run dup limit klen unc rs ops).2 := by
  obtain ⟨u, hu, ⟨as, h1, h2⟩, _⟩ := runFrom_plain ops (init dup limit klen unc rs)
  unfold run
  rw [hu, h1, h2]
  exact DiskInv.runActs (DiskInv.init.exec (.createBlob 0)) as

theorem run_config (ops : List FsOp) :
    (run dup limit klen unc rs ops).1.klen = klen ∧ (run dup limit klen unc rs ops).1.limit = limit ∧
      (run dup limit klen unc rs ops).1.explicitFsyncUnconditional = unc ∧
      (run dup limit klen unc rs ops).1.restoreSyncsOverLimit = rs := by
  obtain ⟨_, _, hp⟩ := runFrom_plain ops (init dup limit klen unc rs)
  have : (run dup limit klen unc rs ops).1.config = (klen, limit, unc, rs) := hp.config
  simpa [FsState.config] using this

theorem init_eq :
    init dup limit klen unc rs =
      ({ store := Store.init dup,
         disk := ({} : Disk).setFile 0 { size := blobHeaderSize, synced := blobHeaderSize, appendMode := false },
         limit := limit, klen := klen, explicitFsyncUnconditional := unc, restoreSyncsOverLimit := rs }, hdr3 0) := by
  exact newBlobP_eq rfl _

theorem init_coh : Coh (init dup limit klen unc rs).1 := by
  rw [init_eq]
  refine ⟨Store.init_WF' dup, Store.init_blobs_ne_nil dup, ?_⟩
  intro id hid
  simp only [setFile_files] at hid
  split at hid
  · subst_vars
    exact ⟨{ id := 0, recs := [] }, by simp [Store.init, Store.createActive, Store.blobs, Store.closed], rfl⟩
  · cases hid

/-- invariant of all runs tying the trace to the state -/
structure RunInv (s : FsState) (t : List Event) : Prop where
  coh : Coh s
  sorted : (createdIds t).Pairwise (· < ·)
  exist : ∀ id ∈ createdIds t, (s.disk.files id).isSome

theorem RunInv.emit {s : FsState} {t : List Event} (h : RunInv s t) (op : FsOp) :
    RunInv (emit s op).1 (t ++ (emit s op).2) := by
  have hs := emit_stepOK h.coh op
  refine ⟨hs.coh, ?_, ?_⟩
  · rw [createdIds_append, List.pairwise_append]
    exact ⟨h.sorted, hs.sorted, fun a ha b hb => (hs.created b hb).2 a (h.exist a ha)⟩
  · intro id hid
    rw [createdIds_append, List.mem_append] at hid
    rcases hid with hid | hid
    · exact hs.grow id (h.exist id hid)
    · exact (hs.created id hid).1

theorem init_inv :
    RunInv (init dup limit klen unc rs).1 (init dup limit klen unc rs).2 := by
  refine ⟨init_coh dup limit klen unc rs, ?_, ?_⟩ <;> rw [init_eq]
  · simp [createdIds_hdr3]
  · intro id hid
    simp only [createdIds_hdr3, List.mem_singleton] at hid
    subst hid; simp

theorem run_inv (ops : List FsOp) :
    RunInv (run dup limit klen unc rs ops).1 (run dup limit klen unc rs ops).2 :=
  runFrom_keeps (I := RunInv) (fun _ _ op h => h.emit op) ops _ (init_inv dup limit klen unc rs)

def Disk.dirty (d : Disk) (id : Nat) : Nat :=
  match d.files id with
  | some f => f.dirty
  | none => 0

theorem dirtyOf_eq (s : FsState) (id : Nat) : s.dirtyOf id = s.disk.dirty id := rfl

theorem dirty_setIdx (d : Disk) (id bs j : Nat) : (d.setIdx id bs).dirty j = d.dirty j := rfl

theorem dirty_of_some {d : Disk} {id : Nat} {f : FileS} (h : d.files id = some f) : d.dirty id = f.dirty := by
  simp [Disk.dirty, h]

/-- un-synced bytes of a file that may not exist -/
def dirtyO : Option FileS → Nat
  | some f => f.dirty
  | none => 0

theorem upd_dirty_le {a : Act} (h : a.isAppend = false) (o : Option FileS) : dirtyO (a.upd o) ≤ dirtyO o := by
  cases a with
  | append => cases h
  | _ => cases o <;> simp only [Act.upd, dirtyO, FileS.dirty, Nat.le_refl] <;> omega

theorem exec_dirty_le (d : Disk) {a : Act} (h : a.isAppend = false) (j : Nat) :
    (d.exec a).1.dirty j ≤ d.dirty j := by
  show dirtyO ((d.exec a).1.files j) ≤ dirtyO (d.files j)
  rw [exec_files]
  split
  · exact upd_dirty_le h _
  · exact Nat.le_refl _

theorem runActs_dirty_le (d : Disk) {as : List Act} (h : NoAppend as) (j : Nat) :
    (d.runActs as).1.dirty j ≤ d.dirty j := by
  induction as generalizing d with
  | nil => exact Nat.le_refl _
  | cons a as ih =>
    rw [runActs_cons]
    exact Nat.le_trans (ih _ (All.tail h)) (exec_dirty_le d (All.head h) j)

theorem exec_openBlob_dirty (d : Disk) (id : Nat) : (d.exec (.openBlob id)).1.dirty id = 0 := by
  show dirtyO ((d.exec (.openBlob id)).1.files id) = 0
  simp only [exec_files, Act.id, if_true]
  cases d.files id <;> simp [Act.upd, dirtyO, FileS.dirty]

theorem exec_syncBlob_dirty (d : Disk) (id : Nat) : (d.exec (.syncBlob id)).1.dirty id = 0 := by
  show dirtyO ((d.exec (.syncBlob id)).1.files id) = 0
  simp only [exec_files, Act.id, if_true]
  cases d.files id <;> simp only [Act.upd, dirtyO, FileS.dirty]
  omega

theorem runActs_dirty_zero_of_open (d : Disk) {as : List Act} (h : NoAppend as) {id : Nat}
    (hmem : Act.openBlob id ∈ as) : (d.runActs as).1.dirty id = 0 := by
  induction as generalizing d with
  | nil => cases hmem
  | cons a as ih =>
    rw [runActs_cons]
    have hrest : NoAppend as := All.tail h
    rcases List.mem_cons.1 hmem with rfl | hm
    · have := runActs_dirty_le (d.exec (.openBlob id)).1 hrest id
      rw [exec_openBlob_dirty] at this
      exact Nat.le_zero.1 this
    · exact ih _ hrest hm

/-- the active blob's un-synced bytes are within the limit -/
def Bounded (s : FsState) : Prop := ∀ a, s.store.active = some a → s.dirtyOf a.id ≤ s.limit

def KeepsB (p : Prog) : Prop := ∀ s, Coh s → Bounded s → Bounded (p s).1
def EstB (p : Prog) : Prop := ∀ s, Coh s → Bounded (p s).1

theorem EstB.keeps {p : Prog} (h : EstB p) : KeepsB p := fun s hc _ => h s hc
theorem KeepsB.skip : KeepsB skip := fun _ _ h => h
theorem KeepsB.seq {p q : Prog} (hp : KeepsB p) (bp : Built True p) (hq : KeepsB q) : KeepsB (p ⨾ q) :=
  fun s hc hb => hq (p s).1 (bp.sound s hc).coh (hp s hc hb)
theorem KeepsB.cond {c : FsState → Bool} {p q : Prog} (hp : KeepsB p) (hq : KeepsB q) : KeepsB (cond c p q) := by
  intro s hc hb; simp only [Fs.cond]; split
  · exact hp s hc hb
  · exact hq s hc hb
theorem EstB.seq_right {p q : Prog} (bp : Built True p) (hq : EstB q) : EstB (p ⨾ q) :=
  fun s hc => hq (p s).1 (bp.sound s hc).coh
theorem EstB.cond {c : FsState → Bool} {p q : Prog} (hp : EstB p) (hq : EstB q) : EstB (cond c p q) := by
  intro s hc; simp only [Fs.cond]; split
  · exact hp s hc
  · exact hq s hc

theorem KeepsB.acts {f : FsState → List Act} (hf : ∀ s, NoAppend (f s)) : KeepsB (acts f) := by
  intro s _ hb a ha
  have := hb a ha
  simp only [Fs.acts, dirtyOf_eq] at this ⊢
  exact Nat.le_trans (runActs_dirty_le s.disk (hf s) a.id) this

theorem KeepsB.modify {g : FsState → FsState} (h1 : ∀ s, (g s).store = s.store)
    (h2 : ∀ s, (g s).limit = s.limit) : KeepsB (modify g) := by
  intro s _ hb a ha
  simp only [Fs.modify, h1, h2] at ha ⊢
  exact hb a ha

theorem KeepsB.applyP {op : Op} (h : ∀ st : Store, (st.apply op).active = st.active ∨ (st.apply op).active = none) :
    KeepsB (applyP op) := by
  intro s _ hb a ha
  simp only [Fs.applyP, modStore, Fs.modify] at ha ⊢
  rcases h s.store with h | h
  · rw [h] at ha; exact hb a ha
  · rw [h] at ha; cases ha

theorem EstB.fsyncCheckP : EstB fsyncCheckP := by
  intro s _ a ha
  simp only [Fs.fsyncCheckP, Fs.acts] at ha ⊢
  rw [ha]
  simp only [dirtyOf_eq]
  by_cases hgt : s.disk.dirty a.id > s.limit
  · simp only [hgt, if_true, Disk.runActs]
    show ((s.disk.exec (.syncBlob a.id)).1).dirty a.id ≤ s.limit
    rw [exec_syncBlob_dirty]; exact Nat.zero_le _
  · simp only [hgt, if_false, Disk.runActs]
    exact Nat.not_lt.1 hgt

theorem bounded_newBlob {s : FsState} (hn : s.disk.files s.store.nextId = none) {op : Op}
    (hact : (s.store.apply op).active = some { id := s.store.nextId, recs := [] }) : Bounded (newBlobP op s).1 := by
  intro a ha
  rw [newBlobP_eq hn] at ha ⊢
  simp only [hact, Option.some.injEq] at ha
  subst ha
  simp [FsState.dirtyOf, FileS.dirty]

theorem EstB.newBlob_replace : EstB (newBlobP .replaceActive) := by
  intro s hc
  exact bounded_newBlob hc.nextId_none (Store.active_replaceActive s.store)

theorem KeepsB.ensureActiveP : KeepsB ensureActiveP := by
  intro s hc hb
  simp only [Fs.ensureActiveP, Fs.cond]
  split
  · rename_i hnone
    refine bounded_newBlob hc.nextId_none ?_
    simp [Store.apply, Store.tryCreateActive, show s.store.active = none by simpa using hnone, Store.createActive]
  · exact hb

theorem KeepsB.dumpPassP : KeepsB dumpPassP :=
  .seq (.acts fun _ => All.map fun _ _ => rfl) (.acts fun _ => All.map fun _ _ => rfl) (.applyP fun _ => Or.inl rfl)

theorem EstB.rotateP : EstB rotateP :=
  fun s hc => KeepsB.cond KeepsB.skip KeepsB.dumpPassP _ (sound_rotate_head s hc).coh
    (EstB.newBlob_replace s hc)

/-- `init_from_existing` opens every blob file, which leaves no un-synced bytes -/
theorem EstB.openP (lazy : Bool) : EstB (openP lazy) := by
  intro s hc a ha
  simp only [Fs.openP, Fs.seq, Fs.acts, Fs.applyP, modStore, Fs.modify] at ha ⊢
  simp only [dirtyOf_eq]
  have hmem : a ∈ (s.store.apply (.restart lazy)).blobs := by
    simp [Store.blobs, ha]
  rcases apply_log_new hc.wf hc.ne (.restart lazy) a hmem with ⟨b, hb, hid, _⟩ | ⟨hid, _⟩
  · have hopen : Act.openBlob a.id ∈ openActs s.disk s.store lazy := by
      unfold openActs
      rw [Store.sortById_of_sorted _ hc.wf.1]
      apply List.mem_append_left
      apply List.mem_flatMap.2
      refine ⟨b, hb, ?_⟩
      rw [hid]; split <;> simp
    rw [runActs_dirty_zero_of_open s.disk (noAppend_openActs _ _ _) hopen]
    exact Nat.zero_le _
  · have hnone := hc.nextId_none
    have := runActs_files_isSome_of_noCreate s.disk (noCreate_openActs s.disk s.store lazy) s.store.nextId
    rw [hnone] at this
    simp only [Disk.dirty, hid]
    cases hf : ((s.disk.runActs (openActs s.disk s.store lazy)).1.files s.store.nextId) with
    | none => exact Nat.zero_le _
    | some f => rw [hf] at this; simp at this

def _root_.Pearl.Fs.FsOp.isRestore : FsOp → Bool
  | .restoreActive => true
  | _ => false

/-- a write that is not rejected as a duplicate ends with a rotation or the fsync check, which establish the
    bound -/
theorem keepsB_writeP (k : Key) (ts : Nat) (m : Option Meta) (d : Data) (rot : Bool) :
    KeepsB (writeP k ts m d rot) :=
  .seq .ensureActiveP .ensureActive
    (.cond .skip (EstB.seq_right (built_appendActive k ts m d) (ite_prog .rotateP .fsyncCheckP)).keeps)

theorem estB_deleteP (k : Key) (ts : Nat) (m : Option Meta) (oip : Bool) : EstB (deleteP k ts m oip) :=
  deleteP_eq k ts m oip ▸ .seq_right (.seq (ite_prog .skip .ensureActive) (built_deleteCore k ts m oip)) .fsyncCheckP

theorem keepsB_prog : ∀ (op : FsOp), op.isRestore = false → KeepsB (prog op)
  | .write k ts m d rot, _ => keepsB_writeP k ts m d rot
  | .delete k ts m oip, _ => (estB_deleteP k ts m oip).keeps
  | .closeActive, _ =>
    .seq (.seq (.acts fun _ => All.ofOption fun _ _ => All.cons rfl All.nil) built_syncActive
      (.applyP fun st => Or.inr (Store.closeActive_blobs st).2.2)) (.seq built_syncActive (.applyP _)) .dumpPassP
  | .createActive, _ => .ensureActiveP
  | .force _, _ => .seq (.cond EstB.newBlob_replace.keeps .skip) (.cond _ .replaceActive .skip) .dumpPassP
  | .free, _ => .dumpPassP
  | .settle, _ => .cond .dumpPassP .skip
  | .fsync, _ => .acts fun _ => All.ofOption fun _ _ => All.ite (fun _ => All.cons rfl All.nil) fun _ => All.nil
  | .restart lazy, _ => (EstB.seq_right (built_closeP trivial) (.openP lazy)).keeps
  | .close, _ =>
    .seq (.acts fun _ => All.ofOption fun _ _ => All.cons rfl All.nil)
      (.acts fun _ => All.ofOption fun _ _ => All.cons rfl All.nil) (.modify (fun _ => rfl) fun _ => rfl)
  | .open _, _ => .skip
  | .query, _ => .skip

/-- since /repo 0ede233: the restored blob is synced when it is over the limit -/
theorem bounded_restoreActiveP {s : FsState} (hc : Coh s) (hb : Bounded s)
    (hrs : s.restoreSyncsOverLimit = true) : Bounded (restoreActiveP s).1 := by
  simp only [restoreActiveP, Fs.cond]
  split
  · show Bounded ((cond (fun s => s.restoreSyncsOverLimit) fsyncCheckP skip) (applyP .restoreActive s).1).1
    have hflag : (applyP Op.restoreActive s).1.restoreSyncsOverLimit = true := hrs
    simp only [Fs.cond, hflag, if_true]
    exact EstB.fsyncCheckP _ (Sound.applyP .restoreActive s hc).coh
  · exact hb

theorem emit_bounded {s : FsState} (hc : Coh s) (hb : Bounded s) (op : FsOp)
    (h : op.isRestore = false ∨ s.restoreSyncsOverLimit = true) : Bounded (emit s op).1 := by
  unfold emit
  split
  · cases hr : op.isRestore
    · exact keepsB_prog op hr s hc hb
    · cases op <;> cases hr
      exact bounded_restoreActiveP hc hb (h.resolve_left (by simp [FsOp.isRestore]))
  · split
    · exact EstB.openP _ s hc
    · exact hb

theorem init_bounded : Bounded (init dup limit klen unc rs).1 := bounded_newBlob rfl rfl

/-- at every quiescent state the active blob's dirty bytes are within the limit, provided the restored
    blob is synced when over the limit (`rs = true`, /repo since 0ede233) or `restore_active` is not used -/
theorem run_bounded (ops : List FsOp)
    (h : rs = true ∨ ∀ op ∈ ops, op.isRestore = false) : Bounded (run dup limit klen unc rs ops).1 := by
  unfold run
  suffices hs : ∀ (ops : List FsOp) (st : FsState × List Event),
      (rs = true ∨ ∀ op ∈ ops, op.isRestore = false) → st.1.restoreSyncsOverLimit = rs →
      RunInv st.1 st.2 → Bounded st.1 → Bounded (runFrom st ops).1 from
    hs ops _ h rfl (init_inv dup limit klen unc rs) (init_bounded dup limit klen unc rs)
  intro ops
  induction ops with
  | nil => intro st _ _ _ hb; exact hb
  | cons op ops ih =>
    intro st hno hflag hinv hb
    rw [runFrom_cons]
    have hop : op.isRestore = false ∨ st.1.restoreSyncsOverLimit = true :=
      hno.symm.imp (fun h => h op (List.mem_cons_self ..)) hflag.trans
    exact ih _ (hno.imp id fun h x hx => h x (List.mem_cons_of_mem _ hx))
      ((congrArg (·.2.2.2) (emit_plain st.1 op).config).trans hflag) (hinv.emit op)
      (emit_bounded hinv.coh hb op hop)

/-! ### single operations on a run: the header precedes every other write, `close_active` and the unconditional `fsync`
leave nothing un-synced, queries, one more operation -/

theorem hdr3_before_write {id : Nat} {pre post : List Event} {off len : Nat}
    (h : hdr3 id <+: proj id (pre ++ Event.write (.blob id) off len :: post)) (hoff : off ≠ 0) :
    hdr3 id <+: proj id pre := by
  rw [proj_append] at h
  have hw : proj id (Event.write (.blob id) off len :: post) =
      Event.write (.blob id) off len :: proj id post := by simp [proj, Event.file]
  rw [hw] at h
  generalize proj id pre = A at h ⊢
  obtain ⟨r, hr⟩ := h
  rcases A with _ | ⟨a, _ | ⟨b, _ | ⟨c, A⟩⟩⟩
  · simp [hdr3] at hr
  · simp [hdr3] at hr; omega
  · simp [hdr3] at hr
  · simp only [hdr3, List.cons_append, List.nil_append, List.cons.injEq] at hr
    obtain ⟨rfl, rfl, rfl, _⟩ := hr
    exact ⟨A, rfl⟩

theorem closeActive_dirty_zero {s : FsState} {a : Blob} (ho : s.isOpen = true) (ha : s.store.active = some a) :
    (emit s .closeActive).1.disk.dirty a.id = 0 ∧ (emit s .closeActive).1.store.active = none := by
  simp only [emit, ho, if_true, prog, closeActiveP, dumpPassP, Fs.seq, Fs.acts, Fs.applyP, modStore, Fs.modify, ha]
  constructor
  · apply Nat.le_zero.1
    refine Nat.le_trans (runActs_dirty_le _ (All.map fun _ _ => rfl) _) ?_
    simp only [Disk.runActs]
    rw [exec_syncBlob_dirty]; exact Nat.le_refl _
  · simp [Store.apply, Store.closeActive, ha, Store.settle]

theorem fsync_dirty_zero {s : FsState} {a : Blob} (ho : s.isOpen = true) (ha : s.store.active = some a)
    (hu : s.explicitFsyncUnconditional = true) :
    (emit s .fsync).1.disk.dirty a.id = 0 ∧ (emit s .fsync).1.store.active = some a := by
  simp only [emit, ho, if_true, prog, fsyncP, Fs.acts, ha, hu, Bool.true_or, Disk.runActs]
  exact ⟨exec_syncBlob_dirty _ _, trivial⟩

theorem synced_eq_size_of_dirty_zero {d : Disk} (hc : CountersOK d) {id : Nat} (h : d.dirty id = 0) :
    ∀ f, d.files id = some f → f.synced = f.size := by
  intro f hf
  have h1 := (hc id f hf).1
  rw [dirty_of_some hf] at h
  simp only [FileS.dirty] at h
  omega

theorem run_snoc (ops : List FsOp) (op : FsOp) :
    run dup limit klen unc rs (ops ++ [op]) =
      ((emit (run dup limit klen unc rs ops).1 op).1,
        (run dup limit klen unc rs ops).2 ++ (emit (run dup limit klen unc rs ops).1 op).2) := by
  unfold run; exact runFrom_snoc _ _ _

theorem run_append (a b : List FsOp) :
    run dup limit klen unc rs (a ++ b) = runFrom (run dup limit klen unc rs a) b := by
  unfold run; exact runFrom_append _ _ _

/-! ## Part 4: every blob has its file, the file is as long as the blob's content, and no action is ever
issued while disabled (the guards of `Disk.exec` never fire) -/

/-- every blob of the store has a blob file whose `size` counter is the length of its content -/
def Full (s : FsState) : Prop :=
  ∀ p ∈ s.store.history, szOf s.disk p.1 = some (contentLen s.klen p.2)

theorem runActs_szOf_of_quiet (d : Disk) {as : List Act} (h1 : NoCreate as) (h2 : NoAppend as) (j : Nat) :
    szOf (d.runActs as).1 j = szOf d j := by
  induction as generalizing d with
  | nil => rfl
  | cons a as ih =>
    rw [runActs_cons, ih _ (All.tail h1) (All.tail h2), exec_szOf_of_quiet d (All.head h1) (All.head h2)]

theorem file_of_blob {s : FsState} (hf : Full s) {b : Blob} (h : b ∈ s.store.blobs) :
    (s.disk.files b.id).isSome = true := by
  rw [isSome_files_eq_szOf, hf (b.id, b.recs) (List.mem_map_of_mem (f := fun b => (b.id, b.recs)) h)]; rfl

theorem file_of_closed {s : FsState} (hf : Full s) {b : Blob} (h : b ∈ s.store.closed) :
    (s.disk.files b.id).isSome = true :=
  file_of_blob hf (by simp [Store.blobs, h])

theorem file_of_active {s : FsState} (hf : Full s) {a : Blob} (h : s.store.active = some a) :
    (s.disk.files a.id).isSome = true :=
  file_of_blob hf (by simp [Store.blobs, h])

theorem recWrites_sum (klen : Nat) (r : Rec) : (recWrites klen r).sum = recLen klen r := by
  unfold recWrites; split <;> simp [recLen]

theorem cond_eq (c : FsState → Bool) (p q : Prog) (s : FsState) : cond c p q s = if c s then p s else q s := rfl

theorem ensureActiveP_store (s : FsState) : (ensureActiveP s).1.store = s.store.ensureActive := by
  rw [Store.ensureActive_eq_apply]
  unfold ensureActiveP
  rw [cond_eq]
  cases ha : s.store.active with
  | none => rfl
  | some a => simp [skip, Store.apply, Store.tryCreateActive, ha]

theorem ensureActiveP_active (s : FsState) : (ensureActiveP s).1.store.active.isSome = true := by
  obtain ⟨a, ha⟩ := Store.ensureActive_active s.store
  rw [ensureActiveP_store, ha]; rfl

theorem ensureActiveP_klen (s : FsState) : (ensureActiveP s).1.klen = s.klen := by
  simp only [Fs.ensureActiveP, Fs.cond]
  split <;> rfl

theorem history_of_active {st : Store} {a : Blob} (ha : st.active = some a) :
    st.history = st.closed.map (fun b => (b.id, b.recs)) ++ [(a.id, a.recs)] := by
  simp [Store.history, Store.blobs, ha]

theorem history_of_none {st : Store} (ha : st.active = none) :
    st.history = st.closed.map (fun b => (b.id, b.recs)) := by
  simp [Store.history, Store.blobs, ha]

theorem closed_ids_nodup {st : Store} (hwf : st.WF) : (st.closed.map (·.id)).Nodup := by
  have := hwf.1
  simp only [Store.blobs, List.map_append, List.pairwise_append] at this
  exact this.1.imp (fun h => Nat.ne_of_lt h)

theorem closed_ids_ne_active {st : Store} (hwf : st.WF) {a : Blob} (ha : st.active = some a) :
    ∀ b ∈ st.closed, b.id ≠ a.id :=
  fun _ hb => Nat.ne_of_lt (Store.closed_lt_active hwf ha hb)

theorem history_write {st : Store} {a : Blob} (ha : st.active = some a) (k : Key) (ts : Nat) (m : Option Meta)
    (d : Data) (hrej : (!st.allowDup && (st.getLatestEntry k m).isFound) = false) :
    (st.apply (.write k ts m d)).history =
      st.closed.map (fun b => (b.id, b.recs)) ++ [(a.id, a.recs ++ [writeRec k ts m d])] := by
  rw [show st.apply (.write k ts m d) = _ from Store.write_of_active ha k ts m d hrej]
  simp [Store.history, Store.blobs, Store.closed, Blob.append]

/-- one record of lengths `w` appended to the files of the blobs `L` -/
theorem runActs_appends (w : List Nat) : ∀ (L : List Blob) (d : Disk), (L.map (·.id)).Nodup → ∀ j,
    szOf (d.runActs (L.map fun b => Act.append b.id w)).1 j =
      if L.any (·.id == j) then (szOf d j).map (· + w.sum) else szOf d j
  | [], _, _, _ => rfl
  | x :: L, d, hnd, j => by
    rw [List.map_cons, List.nodup_cons] at hnd
    rw [List.map_cons, runActs_cons, runActs_appends w L _ hnd.2 j, exec_append_szOf, List.any_cons]
    by_cases hj : j = x.id
    · subst hj
      rw [Acct.any_id_false (l := L) (i := x.id) fun y hy e => hnd.1 (e ▸ List.mem_map_of_mem (f := (·.id)) hy)]
      simp
    · simp [hj, show ¬ x.id = j from fun e => hj e.symm]

theorem marker_eq (k : Key) (ts : Nat) (m : Option Meta) : Store.marker k ts m = markerRec k ts m := rfl

def AllEnabled : Disk → List Act → Prop
  | _, [] => True
  | d, a :: as => a.enabled d = true ∧ AllEnabled (d.exec a).1 as

theorem allEnabled_append (d : Disk) (as bs : List Act) :
    AllEnabled d (as ++ bs) ↔ AllEnabled d as ∧ AllEnabled (d.runActs as).1 bs := by
  induction as generalizing d with
  | nil => simp [AllEnabled]
  | cons a as ih => simp only [List.cons_append, AllEnabled, ih, runActs_cons, and_assoc]

theorem exec_idx_isSome_mono (d : Disk) (a : Act) (j : Nat) :
    (d.idx j).isSome = true → ((d.exec a).1.idx j).isSome = true := by
  intro h
  cases a with
  | dump id w =>
    simp only [Disk.exec]
    cases hf : d.files id with
    | none => exact h
    | some f =>
      cases w
      · simpa using h
      · simp only [if_true, Disk.setIdx]
        by_cases hj : j = id <;> simp [hj, h]
  | createBlob | append | syncBlob | openBlob | openIdx => simp only [Disk.exec]; split <;> simpa using h

theorem enabled_mono (d : Disk) {a : Act} (b : Act) (ha : a.isCreate = false) (h : a.enabled d = true) :
    a.enabled (d.exec b).1 = true := by
  have hf : ∀ j, (d.files j).isSome = true → ((d.exec b).1.files j).isSome = true := by
    intro j hj; rw [exec_files_isSome, hj]; rfl
  cases a with
  | createBlob id => simp [Act.isCreate] at ha
  | append id lens => exact hf id h
  | syncBlob id => exact hf id h
  | dump id w => exact hf id h
  | openBlob id => exact hf id h
  | openIdx id => exact exec_idx_isSome_mono d b id h

theorem allEnabled_of_noCreate : ∀ (as : List Act) (d : Disk), NoCreate as → (∀ a ∈ as, a.enabled d = true) →
    AllEnabled d as
  | [], _, _, _ => trivial
  | a :: as, d, hn, he => by
    refine ⟨he a (by simp), allEnabled_of_noCreate as _ (All.tail hn) ?_⟩
    intro x hx
    exact enabled_mono d a (All.tail hn x hx) (he x (List.mem_cons_of_mem _ hx))

/-- running `p` on `s` issues only enabled actions -/
def EnAt (p : Prog) (s : FsState) : Prop :=
  ∃ as, (p s).1.disk = (s.disk.runActs as).1 ∧ (p s).2 = (s.disk.runActs as).2 ∧ AllEnabled s.disk as

theorem EnAt.skip (s : FsState) : EnAt skip s := ⟨[], rfl, rfl, trivial⟩
theorem EnAt.modify (g : FsState → FsState) (s : FsState) : EnAt (modify g) s := ⟨[], rfl, rfl, trivial⟩
theorem EnAt.acts {f : FsState → List Act} {s : FsState} (h : AllEnabled s.disk (f s)) : EnAt (acts f) s :=
  ⟨f s, rfl, rfl, h⟩
theorem EnAt.seq {p q : Prog} {s : FsState} (hp : EnAt p s) (hq : EnAt q (p s).1) : EnAt (p ⨾ q) s := by
  obtain ⟨a1, h1, h2, h3⟩ := hp
  obtain ⟨a2, h4, h5, h6⟩ := hq
  refine ⟨a1 ++ a2, ?_, ?_, ?_⟩
  · simp only [Fs.seq, runActs_append]; rw [h4, h1]
  · simp only [Fs.seq, runActs_append]; rw [h2, h5, h1]
  · rw [allEnabled_append]; exact ⟨h3, by rw [← h1]; exact h6⟩
/-- running `p` on `s` issues only enabled actions and leads to a coherent state in which every blob has its file -/
def GoodAt (p : Prog) (s : FsState) : Prop := EnAt p s ∧ Coh (p s).1 ∧ Full (p s).1

/-- `p` does so from every such state -/
def Good (p : Prog) : Prop := ∀ s, Coh s → Full s → GoodAt p s

theorem GoodAt.seq {p q : Prog} {s : FsState} (hp : GoodAt p s) (hq : GoodAt q (p s).1) : GoodAt (p ⨾ q) s :=
  ⟨hp.1.seq hq.1, hq.2⟩

theorem Good.skip : Good skip := fun s hc hf => ⟨EnAt.skip s, hc, hf⟩
theorem Good.seq {p q : Prog} (hp : Good p) (hq : Good q) : Good (p ⨾ q) :=
  fun s hc hf => (hp s hc hf).seq (hq _ (hp s hc hf).2.1 (hp s hc hf).2.2)
theorem GoodAt.cond {c : FsState → Bool} {p q : Prog} {s : FsState} (hp : c s = true → GoodAt p s)
    (hq : c s = false → GoodAt q s) : GoodAt (cond c p q) s := by
  unfold GoodAt EnAt
  simp only [Fs.cond]
  split
  · exact hp ‹_›
  · exact hq (Bool.eq_false_iff.2 ‹_›)
theorem Good.cond {c : FsState → Bool} {p q : Prog} (hp : Good p) (hq : Good q) : Good (cond c p q) :=
  fun s hc hf => .cond (fun _ => hp s hc hf) fun _ => hq s hc hf

theorem Good.acts {f : FsState → List Act}
    (h : ∀ s, Coh s → Full s →
      All (fun a => a.isCreate = false ∧ a.isAppend = false ∧ a.enabled s.disk = true) (f s)) : Good (acts f) := by
  intro s hc hf
  have h := h s hc hf
  have h1 : NoCreate (f s) := fun a ha => (h a ha).1
  refine ⟨EnAt.acts (allEnabled_of_noCreate _ _ h1 fun a ha => (h a ha).2.2), (stepOK_acts hc h1).coh, ?_⟩
  intro p hp
  show szOf (s.disk.runActs (f s)).1 p.1 = _
  rw [runActs_szOf_of_quiet s.disk h1 fun a ha => (h a ha).2.1]
  exact hf p hp

theorem Good.applyP {op : Op} (h : ∀ st : Store, st.WF → st.blobs ≠ [] → (st.apply op).history = st.history) :
    Good (applyP op) := by
  refine fun s hc hf => ⟨EnAt.modify _ s, (Sound.applyP op s hc).coh, ?_⟩
  intro p hp
  simp only [Fs.applyP, modStore, Fs.modify] at hp ⊢
  rw [h s.store hc.wf hc.ne] at hp
  exact hf p hp

theorem Good.modify {g : FsState → FsState} (h1 : ∀ s, (g s).store = s.store) (h2 : ∀ s, (g s).klen = s.klen) :
    Good (modify g) := by
  refine fun s hc hf => ⟨EnAt.modify g s, (Sound.modify h1 s hc).coh, ?_⟩
  intro p hp
  simp only [Fs.modify, h1, h2] at hp ⊢
  exact hf p hp

theorem goodAt_newBlob {s : FsState} (hc : Coh s) (hf : Full s) {op : Op}
    (hh : (s.store.apply op).history = s.store.history ++ [(s.store.nextId, [])]) : GoodAt (newBlobP op) s := by
  refine ⟨(EnAt.acts ?_).seq (EnAt.modify _ _), (stepOK_newBlob hc hh).coh, ?_⟩
  · simp [AllEnabled, Act.enabled, hc.nextId_none]
  rw [newBlobP_eq hc.nextId_none]
  intro p hp
  simp only [hh, List.mem_append, List.mem_singleton] at hp
  rcases hp with hp | rfl
  · have hne : p.1 ≠ s.store.nextId := by
      obtain ⟨b, hb, rfl⟩ := List.mem_map.1 hp
      exact Nat.ne_of_lt (hc.wf.2 b hb)
    have := hf p hp
    simp only [szOf, setFile_files, hne, if_false] at this ⊢
    exact this
  · simp [szOf, contentLen_nil]

theorem Good.replaceActive : Good (newBlobP .replaceActive) :=
  fun _ hc hf => goodAt_newBlob hc hf (history_newBlob_replace _)

theorem Good.ensureActiveP : Good ensureActiveP := fun s hc hf =>
  .cond (fun h => goodAt_newBlob hc hf (history_createActive (by simpa using h))) fun _ => Good.skip s hc hf

theorem Good.dumpPassP : Good dumpPassP :=
  .seq (.acts fun _ _ hf => All.map fun _ hb => ⟨rfl, rfl, file_of_closed hf (List.mem_filter.1 hb).1⟩)
    (.applyP fun st _ _ => Store.history_settle st)

theorem Good.fsyncCheckP : Good fsyncCheckP :=
  .acts fun _ _ hf => All.ofOption fun _ ha => All.ite (fun _ => All.cons ⟨rfl, rfl, file_of_active hf ha⟩ All.nil) fun _ => All.nil

theorem Good.syncActive :
    Good (Fs.acts fun s => match s.store.active with | some a => [.syncBlob a.id] | none => []) :=
  .acts fun _ _ hf => All.ofOption fun _ ha => All.cons ⟨rfl, rfl, file_of_active hf ha⟩ All.nil

theorem Good.rotateP : Good rotateP := .seq .replaceActive (.cond .skip .dumpPassP)

theorem Good.closeP : Good closeP :=
  .seq (.acts fun _ _ hf => All.ofOption fun _ ha => All.cons ⟨rfl, rfl, file_of_active hf ha⟩ All.nil)
    (.modify (fun _ => rfl) fun _ => rfl)

theorem Good.openP (lazy : Bool) : Good (openP lazy) := by
  refine .seq (.seq (.acts fun s hc hf => ?_) (.applyP fun _ h1 h2 => (Store.restart_of_ne_nil h1 lazy h2).1))
    (.modify (fun _ => rfl) fun _ => rfl)
  unfold openActs
  rw [Store.sortById_of_sorted _ hc.wf.1]
  refine All.append (All.flatMap fun b hb => All.ite
    (fun hi => All.cons ⟨rfl, rfl, file_of_blob hf hb⟩ (All.cons ⟨rfl, rfl, hi⟩ All.nil))
    fun _ => All.cons ⟨rfl, rfl, file_of_blob hf hb⟩ All.nil) (All.map fun b hb => ⟨rfl, rfl, file_of_blob hf ?_⟩)
  have hb := (List.mem_filter.1 hb).1
  split at hb
  · exact hb
  · exact (List.dropLast_sublist _).subset hb

/-- `Blob::write` into the active blob -/
theorem goodAt_appendActive {s : FsState} (hc : Coh s) (hf : Full s) {a : Blob} (ha : s.store.active = some a)
    (k : Key) (ts : Nat) (m : Option Meta) (d : Data)
    (hrej : (!s.store.allowDup && (s.store.getLatestEntry k m).isFound) = false) :
    GoodAt (appendActiveP k ts m d) s := by
  refine ⟨(EnAt.acts ?_).seq (EnAt.modify _ _), ((built_appendActive k ts m d).sound s hc).coh, ?_⟩
  · simp only [ha]
    exact ⟨file_of_active hf ha, trivial⟩
  · intro p hp
    simp only [appendActiveP, Fs.seq, Fs.acts, Fs.applyP, modStore, Fs.modify, ha, Disk.runActs] at hp ⊢
    rw [history_write ha k ts m d hrej, List.mem_append, List.mem_singleton] at hp
    rw [exec_append_szOf]
    have hh := history_of_active ha
    rcases hp with hp | rfl
    · obtain ⟨b, hb, rfl⟩ := List.mem_map.1 hp
      simp only [closed_ids_ne_active hc.wf ha b hb, if_false]
      exact hf _ (by rw [hh]; exact List.mem_append_left _ hp)
    · simp only [if_true]
      rw [hf (a.id, a.recs) (by rw [hh]; simp), Option.map_some, contentLen_append, recWrites_sum]

/-- `Storage::delete_with_optional_meta` after `ensure_active_blob_exists` -/
theorem goodAt_deleteCore {s : FsState} (hc : Coh s) (hf : Full s) (k : Key) (ts : Nat) (m : Option Meta)
    (oip : Bool) (hP : oip = true ∨ s.store.active.isSome = true) : GoodAt (deleteCoreP k ts m oip) s := by
  refine ⟨((EnAt.acts ?_).seq (EnAt.modify _ _)).seq (EnAt.modify _ _), ((built_deleteCore k ts m oip).sound s hc).coh, ?_⟩
  · exact allEnabled_of_noCreate _ _ (all_deleteActs (fun _ _ => rfl) _ _ _ _ _ _)
      (All.append (All.ofOption fun _ ha => All.ite (fun _ => All.cons (file_of_active hf ha) All.nil) fun _ => All.nil)
        (All.map fun _ hb => file_of_closed hf (List.mem_filter.1 hb).1))
  generalize hw : recWrites s.klen (markerRec k ts m) = w
  have hsum : w.sum = recLen s.klen (markerRec k ts m) := by rw [← hw]; exact recWrites_sum _ _
  -- the pwrites go to the files of the `delTargets`, the active blob first; the ids are distinct
  have hacts : deleteActs s.klen s.store k ts m oip =
      ((s.store.active.toList.filter fun a => !oip || (a.getLatest k).isFound) ++
        s.store.closed.filter fun b => (b.getLatest k).isFound).map (fun b => Act.append b.id w) := by
    unfold deleteActs
    rw [hw, List.map_append]
    cases s.store.active with
    | none => rfl
    | some a => simp only [Option.toList, List.filter_cons, List.filter_nil]; split <;> rfl
  have hnd : (((s.store.active.toList.filter fun a => !oip || (a.getLatest k).isFound) ++
      s.store.closed.filter fun b => (b.getLatest k).isFound).map (·.id)).Nodup := by
    rw [List.map_append, List.nodup_append]
    refine ⟨(show (s.store.active.toList.map (·.id)).Nodup by cases s.store.active <;> simp).sublist
        (List.filter_sublist.map _), (closed_ids_nodup hc.wf).sublist (List.filter_sublist.map _), ?_⟩
    intro i hi j hj e
    obtain ⟨a, ha, rfl⟩ := List.mem_map.1 hi
    obtain ⟨b, hb, rfl⟩ := List.mem_map.1 hj
    exact closed_ids_ne_active hc.wf (Option.mem_toList.1 (List.mem_filter.1 ha).1) b (List.mem_filter.1 hb).1 e.symm
  intro p hp
  simp only [deleteCoreP, Fs.seq, Fs.acts, noteDeferredP, Fs.applyP, modStore, Fs.modify] at hp ⊢
  rw [Store.history, (Acct.delete_by_id hc.wf k ts m oip hP).1, List.map_map] at hp
  obtain ⟨b, hb, rfl⟩ := List.mem_map.1 hp
  have hid : (if (Acct.delTargets s.store k oip).any (·.id == b.id) then Store.mark k ts m b else b).id = b.id := by
    split <;> rfl
  simp only [Function.comp, hid]
  rw [hacts, runActs_appends w _ _ hnd, List.any_append, Bool.or_comm, ← List.any_append,
    hf (b.id, b.recs) (List.mem_map_of_mem hb)]
  show (if (Acct.delTargets s.store k oip).any (·.id == b.id) = true then _ else _) = _
  split
  · simp [Store.mark, contentLen_append, hsum, marker_eq]
  · rfl

/-- `Storage::write_with_optional_meta`: after `ensure_active_blob_exists` there is an active blob; a write that is not
    rejected appends to its file what it appends to its records -/
theorem good_writeP (k : Key) (ts : Nat) (m : Option Meta) (d : Data) (rot : Bool) : Good (writeP k ts m d rot) := by
  intro s hc hf
  rw [writeP_eq]
  have h1 := Good.ensureActiveP s hc hf
  obtain ⟨a, ha⟩ := Option.isSome_iff_exists.1 (ensureActiveP_active s)
  refine h1.seq (.cond (fun _ => Good.skip _ h1.2.1 h1.2.2) fun hrej => ?_)
  have h2 := goodAt_appendActive h1.2.1 h1.2.2 ha k ts m d hrej
  exact h2.seq (ite_prog Good.rotateP Good.fsyncCheckP _ h2.2.1 h2.2.2)

theorem good_deleteP (k : Key) (ts : Nat) (m : Option Meta) (oip : Bool) : Good (deleteP k ts m oip) := by
  intro s hc hf
  rw [deleteP_eq]
  have h1 : GoodAt (if oip then skip else ensureActiveP) s ∧
      (oip = true ∨ ((if oip then skip else ensureActiveP) s).1.store.active.isSome = true) := by
    split
    · exact ⟨Good.skip s hc hf, Or.inl ‹_›⟩
    · exact ⟨Good.ensureActiveP s hc hf, Or.inr (ensureActiveP_active s)⟩
  have h2 := goodAt_deleteCore h1.1.2.1 h1.1.2.2 k ts m oip h1.2
  exact (h1.1.seq h2).seq (Good.fsyncCheckP _ h2.2.1 h2.2.2)

theorem good_prog : ∀ op, Good (prog op)
  | .write k ts m d rot => good_writeP k ts m d rot
  | .delete k ts m oip => good_deleteP k ts m oip
  | .closeActive => .seq (.seq .syncActive (.applyP fun st _ _ => Store.history_closeActive st)) .dumpPassP
  | .createActive => .ensureActiveP
  | .restoreActive =>
    .cond (.seq (.applyP fun st _ _ => Store.history_restoreActive st) (.cond .fsyncCheckP .skip)) .skip
  | .force _ => .seq (.cond .replaceActive .skip) .dumpPassP
  | .free => .dumpPassP
  | .settle => .cond .dumpPassP .skip
  | .fsync =>
    .acts fun _ _ hf => All.ofOption fun _ ha => All.ite (fun _ => All.cons ⟨rfl, rfl, file_of_active hf ha⟩ All.nil) fun _ => All.nil
  | .restart lazy => .seq .closeP (.openP lazy)
  | .close => .closeP
  | .open _ => .skip
  | .query => .skip

theorem emit_good {s : FsState} (hc : Coh s) (hf : Full s) (op : FsOp) :
    (∃ as, (emit s op).1.disk = (s.disk.runActs as).1 ∧ (emit s op).2 = (s.disk.runActs as).2 ∧
      AllEnabled s.disk as) ∧ Coh (emit s op).1 ∧ Full (emit s op).1 := by
  unfold emit
  split
  · exact good_prog op s hc hf
  · split
    · exact Good.openP _ s hc hf
    · exact Good.skip s hc hf

theorem init_full : Full (init dup limit klen unc rs).1 := by
  rw [init_eq]
  intro p hp
  simp only [Store.history, Store.init, Store.createActive, Store.blobs, Store.closed, List.filterMap_nil,
    Option.toList, List.nil_append, List.map_cons, List.map_nil, List.mem_singleton] at hp
  subst hp
  simp [szOf, contentLen_nil]

/-- on every run: every blob of the store has its blob file, and the `size` counter of the file is the
    length of the blob's content -/
theorem run_full (ops : List FsOp) :
    Full (run dup limit klen unc rs ops).1 := by
  unfold run
  exact (runFrom_keeps (I := fun s _ => Coh s ∧ Full s) (fun s _ op h => (emit_good h.1 h.2 op).2) ops
    (init dup limit klen unc rs) ⟨init_coh dup limit klen unc rs, init_full dup limit klen unc rs⟩).2

/-- an operation that leaves the active blob of before without un-synced bytes leaves its file with `synced = size` -/
theorem run_snoc_synced (ops : List FsOp) (op : FsOp) {a : Blob}
    (ha : (run dup limit klen unc rs ops).1.store.active = some a)
    (hz : (emit (run dup limit klen unc rs ops).1 op).1.disk.dirty a.id = 0) :
    ∃ f, (run dup limit klen unc rs (ops ++ [op])).1.disk.files a.id = some f ∧ f.synced = f.size := by
  have hex := (emit_stepOK (run_inv dup limit klen unc rs ops).coh op).grow _
    (file_of_active (run_full dup limit klen unc rs ops) ha)
  have hc := (run_diskInv dup limit klen unc rs (ops ++ [op])).counters
  rw [run_snoc] at hc ⊢
  obtain ⟨f, hf⟩ := Option.isSome_iff_exists.1 hex
  exact ⟨f, hf, synced_eq_size_of_dirty_zero hc hz f hf⟩

/-! ## Part 5: the bytes of a blob file (`content`) and their length -/

/-- the bytes of the blob file of `b`: blob header, then its records with the generated payloads -/
def content (klen : Nat) (b : Blob) : List UInt8 :=
  blobBytes klen (b.recs.map fun r => (r, genData r.data.len r.data.seed))

theorem blobBytes_prefix (klen : Nat) {l1 l2 : List (Rec × List UInt8)} (h : l1 <+: l2) :
    blobBytes klen l1 <+: blobBytes klen l2 := by
  obtain ⟨t, rfl⟩ := h
  unfold blobBytes recordsOf
  rw [List.map_append, appendRecords_eq, appendRecords_eq, tailOf_append, ← List.append_assoc]
  exact List.prefix_append _ _

theorem content_prefix (klen : Nat) {b b' : Blob} (h : b.recs <+: b'.recs) :
    content klen b <+: content klen b' := by
  obtain ⟨t, ht⟩ := h
  unfold content
  apply blobBytes_prefix
  rw [← ht, List.map_append]
  exact List.prefix_append _ _

theorem genLoop_length : ∀ (n : Nat) (x : UInt64) (acc : List UInt8), (genLoop n x acc).length = acc.length + n :=
  genLoop_length'

theorem recordOf_len (klen : Nat) (r : Rec) :
    (recordOf klen r (genData r.data.len r.data.seed)).size = recLen klen r := by
  rw [Record.size, (recordOf_WF klen r _).key, recordOf_mt]
  unfold recordOf recLen recHead recData headerSize
  split
  · simp [Record.deleted, Record.create]
  · simp [Record.create, genData_length']

theorem content_length (klen : Nat) (b : Blob) : (content klen b).length = contentLen klen b.recs := by
  unfold content blobBytes recordsOf
  rw [appendRecords_eq, List.length_append, tailOf_length, List.map_map, List.map_map]
  have h20 : (serBlobHeader).length = blobHeaderSize := by decide
  rw [h20, contentLen]
  congr 1
  congr 1
  apply List.map_congr_left
  intro r _
  exact recordOf_len klen r

end Pearl.Fs
