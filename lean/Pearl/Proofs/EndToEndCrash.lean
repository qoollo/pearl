import Pearl.Model.EndToEndCrash
import Pearl.Proofs.EndToEndSteps
import Pearl.Proofs.FsLemmas
import Pearl.Props.C06
/-
End-to-end crash recovery: one blob.

* the arithmetic of `complete` / `cutKind` (which records lie inside the first `t` bytes of a blob file);
* the bridge to the byte-level theorems of C06 (`CutIn`, `scan_prefix_*`): `cutIn_of_recHeader`, `cutIn_of_body`;
* what `Blob::from_file` (`openBlob`, `regen`) does with the cut file of a blob that satisfied `BlobInv`
  (`openBlob_quarantined`, `openBlob_opened`, `regen_crash_*`): exactly what `fate` says.
-/
namespace Pearl.E2E
open Pearl Pearl.BPTree

theorem file_length (klen : Nat) (recs : List Rec) :
    (blobBytes klen (full recs)).length = Fs.contentLen klen recs :=
  Fs.content_length klen ⟨0, recs, false⟩

theorem full_take (recs : List Rec) (n : Nat) : full (recs.take n) = (full recs).take n := by
  simp [full, List.map_take]

theorem full_length (recs : List Rec) : (full recs).length = recs.length := by simp [full]

theorem recLen_ge (klen : Nat) (r : Rec) : headerSize klen + 8 ≤ Fs.recLen klen r := by
  unfold Fs.recLen Fs.recHead
  have := serMeta_length_ge r.mt
  omega

theorem contentLen_cons (klen : Nat) (r : Rec) (rs : List Rec) :
    Fs.contentLen klen (r :: rs) = Fs.recLen klen r + Fs.contentLen klen rs := by
  simp only [Fs.contentLen, List.map_cons, List.sum_cons]; omega

theorem contentLen_ge (klen : Nat) (recs : List Rec) : blobHeaderSize ≤ Fs.contentLen klen recs := by
  unfold Fs.contentLen; omega

theorem contentLen_take_succ (klen : Nat) (recs : List Rec) (n : Nat) (h : n < recs.length) :
    Fs.contentLen klen (recs.take (n + 1)) = Fs.contentLen klen (recs.take n) + Fs.recLen klen recs[n] := by
  rw [List.take_succ_eq_append_getElem h, Fs.contentLen_append]

theorem contentLen_take_mono (klen : Nat) (recs : List Rec) {i j : Nat} (h : i ≤ j) :
    Fs.contentLen klen (recs.take i) ≤ Fs.contentLen klen (recs.take j) := by
  have := blobBytes_length_mono klen (recs := recs.take i) (recs' := recs.take j)
    (List.take_prefix_take_left h)
  rwa [file_length, file_length] at this

theorem contentLen_take_le (klen : Nat) (recs : List Rec) (i : Nat) :
    Fs.contentLen klen (recs.take i) ≤ Fs.contentLen klen recs := by
  have := contentLen_take_mono klen recs (i := i) (j := max i recs.length) (by omega)
  rwa [List.take_of_length_le (l := recs) (i := max i recs.length) (by omega)] at this

theorem completeFrom_le (klen : Nat) : ∀ (recs : List Rec) (off t : Nat), completeFrom klen off recs t ≤ recs.length
  | [], _, _ => by simp [completeFrom]
  | r :: rs, off, t => by
    simp only [completeFrom]
    split
    · have := completeFrom_le klen rs (off + Fs.recLen klen r) t
      simp only [List.length_cons]; omega
    · omega

theorem completeFrom_spec (klen : Nat) : ∀ (recs : List Rec) (off t : Nat), off ≤ t →
    off + ((recs.take (completeFrom klen off recs t)).map (Fs.recLen klen)).sum ≤ t ∧
    (completeFrom klen off recs t < recs.length →
      t < off + ((recs.take (completeFrom klen off recs t + 1)).map (Fs.recLen klen)).sum)
  | [], off, t, h => by simp [completeFrom, h]
  | r :: rs, off, t, h => by
    simp only [completeFrom]
    split
    · next hle =>
      obtain ⟨h1, h2⟩ := completeFrom_spec klen rs (off + Fs.recLen klen r) t hle
      simp only [List.take_succ_cons, List.map_cons, List.sum_cons, List.length_cons]
      refine ⟨by omega, fun hlt => ?_⟩
      have := h2 (by omega)
      omega
    · next hgt =>
      simp only [List.take_zero, List.map_nil, List.sum_nil, Nat.add_zero, Nat.zero_add, List.take_succ_cons,
        List.map_cons, List.sum_cons, List.length_cons]
      exact ⟨h, fun _ => by omega⟩

theorem complete_le (klen : Nat) (recs : List Rec) (t : Nat) : complete klen recs t ≤ recs.length :=
  completeFrom_le klen recs _ t

theorem complete_spec (klen : Nat) (recs : List Rec) (t : Nat) (h : blobHeaderSize ≤ t) :
    Fs.contentLen klen (recs.take (complete klen recs t)) ≤ t ∧
    (complete klen recs t < recs.length → t < Fs.contentLen klen (recs.take (complete klen recs t + 1))) :=
  completeFrom_spec klen recs blobHeaderSize t h

theorem complete_unique (klen : Nat) (recs : List Rec) (t m : Nat) (hm : m ≤ recs.length)
    (h1 : Fs.contentLen klen (recs.take m) ≤ t)
    (h2 : m < recs.length → t < Fs.contentLen klen (recs.take (m + 1))) : complete klen recs t = m := by
  have h20 : blobHeaderSize ≤ t := Nat.le_trans (contentLen_ge klen _) h1
  obtain ⟨c1, c2⟩ := complete_spec klen recs t h20
  have cle := complete_le klen recs t
  rcases Nat.lt_trichotomy (complete klen recs t) m with h | h | h
  · have := c2 (by omega)
    have := contentLen_take_mono klen recs (i := complete klen recs t + 1) (j := m) (by omega)
    omega
  · exact h
  · have := h2 (by omega)
    have := contentLen_take_mono klen recs (i := m + 1) (j := complete klen recs t) (by omega)
    omega

theorem complete_of_short (klen : Nat) (recs : List Rec) (t : Nat) (h : t < blobHeaderSize) :
    complete klen recs t = 0 := by
  unfold complete
  cases recs with
  | nil => rfl
  | cons r rs =>
    simp only [completeFrom]
    rw [if_neg (by omega)]

theorem complete_of_ge (klen : Nat) (recs : List Rec) (t : Nat) (h : Fs.contentLen klen recs ≤ t) :
    complete klen recs t = recs.length :=
  complete_unique klen recs t recs.length (Nat.le_refl _) (by rw [List.take_length]; exact h) (fun h => by omega)

theorem complete_boundary (klen : Nat) (recs : List Rec) (n : Nat) (hn : n ≤ recs.length) :
    complete klen recs (Fs.contentLen klen (recs.take n)) = n := by
  apply complete_unique klen recs _ n hn (Nat.le_refl _)
  intro hlt
  rw [contentLen_take_succ klen recs n hlt]
  have := recLen_ge klen recs[n]
  omega

theorem lt_complete_of_end_le (klen : Nat) (recs : List Rec) (t j : Nat) (hj : j < recs.length)
    (h : Fs.contentLen klen (recs.take (j + 1)) ≤ t) : j < complete klen recs t := by
  have h20 : blobHeaderSize ≤ t := Nat.le_trans (contentLen_ge klen _) h
  obtain ⟨_, c2⟩ := complete_spec klen recs t h20
  have cle := complete_le klen recs t
  rcases Nat.lt_or_ge j (complete klen recs t) with hlt | hge
  · exact hlt
  · have := c2 (by omega)
    have := contentLen_take_mono klen recs (i := complete klen recs t + 1) (j := j + 1) (by omega)
    omega

theorem complete_mono (klen : Nat) (recs : List Rec) {t t' : Nat} (h : t ≤ t') :
    complete klen recs t ≤ complete klen recs t' := by
  by_cases h20 : blobHeaderSize ≤ t
  · obtain ⟨c1, _⟩ := complete_spec klen recs t h20
    have cle := complete_le klen recs t
    cases hn : complete klen recs t with
    | zero => omega
    | succ n =>
      rw [hn] at c1 cle
      have := lt_complete_of_end_le klen recs t' n (by omega) (by omega)
      omega
  · rw [complete_of_short klen recs t (by omega)]; omega

/-! ### `cutKind`: the four cases, in arithmetic form -/

theorem cutKind_spec (klen : Nat) (recs : List Rec) (t : Nat) :
    match cutKind klen recs t with
    | .blobHeader => t < blobHeaderSize
    | .clean n => blobHeaderSize ≤ t ∧ n = complete klen recs t ∧
        (n = recs.length ∨ t = Fs.contentLen klen (recs.take n))
    | .recHeader n => n = complete klen recs t ∧ n < recs.length ∧ Fs.contentLen klen (recs.take n) < t ∧
        t < Fs.contentLen klen (recs.take n) + headerSize klen
    | .body n => n = complete klen recs t ∧ n < recs.length ∧
        Fs.contentLen klen (recs.take n) + headerSize klen ≤ t ∧ t < Fs.contentLen klen (recs.take (n + 1)) := by
  unfold cutKind
  by_cases h20 : t < blobHeaderSize
  · rw [if_pos h20]; exact h20
  · have hs := complete_spec klen recs t (by omega)
    have hle := complete_le klen recs t
    rw [if_neg h20]
    simp only []  -- unfolds the `let` (here and below `simp only []` is this step, or the reduction of a `match`)
    by_cases hc : complete klen recs t = recs.length ∨ t = Fs.contentLen klen (recs.take (complete klen recs t))
    · rw [if_pos hc]; exact ⟨by omega, rfl, hc⟩
    · have hlt : complete klen recs t < recs.length := by omega
      by_cases hh : t < Fs.contentLen klen (recs.take (complete klen recs t)) + headerSize klen
      · rw [if_neg hc, if_pos hh]; exact ⟨rfl, hlt, by omega, hh⟩
      · rw [if_neg hc, if_neg hh]; exact ⟨rfl, hlt, by omega, hs.2 hlt⟩

theorem cutKind_blobHeader {klen : Nat} {recs : List Rec} {t : Nat} (h : cutKind klen recs t = .blobHeader) :
    t < blobHeaderSize := by
  have := cutKind_spec klen recs t
  rw [h] at this; exact this

theorem cutKind_clean {klen : Nat} {recs : List Rec} {t n : Nat} (h : cutKind klen recs t = .clean n) :
    blobHeaderSize ≤ t ∧ n = complete klen recs t ∧
      (n = recs.length ∨ t = Fs.contentLen klen (recs.take n)) := by
  have := cutKind_spec klen recs t
  rw [h] at this; exact this

theorem cutKind_recHeader {klen : Nat} {recs : List Rec} {t n : Nat} (h : cutKind klen recs t = .recHeader n) :
    n = complete klen recs t ∧ n < recs.length ∧ Fs.contentLen klen (recs.take n) < t ∧
      t < Fs.contentLen klen (recs.take n) + headerSize klen := by
  have := cutKind_spec klen recs t
  rw [h] at this; exact this

theorem cutKind_body {klen : Nat} {recs : List Rec} {t n : Nat} (h : cutKind klen recs t = .body n) :
    n = complete klen recs t ∧ n < recs.length ∧ Fs.contentLen klen (recs.take n) + headerSize klen ≤ t ∧
      t < Fs.contentLen klen (recs.take (n + 1)) := by
  have := cutKind_spec klen recs t
  rw [h] at this; exact this

theorem cutKind_boundary (klen : Nat) (recs : List Rec) (n : Nat) (hn : n ≤ recs.length) :
    cutKind klen recs (Fs.contentLen klen (recs.take n)) = .clean n := by
  unfold cutKind
  rw [if_neg (by have := contentLen_ge klen (recs.take n); omega)]
  simp only [complete_boundary klen recs n hn]
  simp

/-- a cut at or after the end of the file (process kill: every issued write survived) is clean -/
theorem cutKind_of_ge (klen : Nat) (recs : List Rec) (t : Nat) (h : Fs.contentLen klen recs ≤ t) :
    cutKind klen recs t = .clean recs.length := by
  unfold cutKind
  rw [if_neg (by have := contentLen_ge klen recs; omega)]
  simp only [complete_of_ge klen recs t h]
  simp

theorem fate_opened_false {klen : Nat} {v : Bool} {recs : List Rec} {t n : Nat}
    (h : fate klen v recs t = .opened n false) : cutKind klen recs t = .clean n := by
  unfold fate at h
  split at h
  · cases h
  · cases h; assumption
  · cases h
  · split at h
    · split at h <;> cases h
    · cases h

theorem fate_opened_true {klen : Nat} {v : Bool} {recs : List Rec} {t n : Nat}
    (h : fate klen v recs t = .opened n true) :
    cutKind klen recs t = .body n ∧ ∃ r, recs[n]? = some r ∧ (v && hasData r) = false := by
  unfold fate at h
  split at h
  · cases h
  · cases h
  · cases h
  · next m hk =>
    split at h
    · next r hr =>
      split at h
      · cases h
      · next hv =>
        cases h
        exact ⟨hk, r, hr, by simpa using hv⟩
    · cases h

theorem fate_complete {klen : Nat} {v : Bool} {recs : List Rec} {t n : Nat} {torn : Bool}
    (h : fate klen v recs t = .opened n torn) : n = complete klen recs t := by
  cases torn with
  | false => exact (cutKind_clean (fate_opened_false h)).2.1
  | true => exact (cutKind_body (fate_opened_true h).1).1

/-! ### bridge to the byte-level vocabulary of C06 -/

theorem boundary_length (klen : Nat) (recs : List Rec) (n : Nat) :
    (blobBytes klen ((full recs).take n)).length = Fs.contentLen klen (recs.take n) := by
  rw [← full_take, file_length]

theorem full_getElem? (recs : List Rec) (n : Nat) (r : Rec) (h : recs[n]? = some r) :
    (full recs)[n]? = some (r, dataOf r.data) := by
  simp [full, List.getElem?_map, h]

theorem hdrsOf_take (cfg : Cfg) (recs : List Rec) (m : Nat) :
    hdrsOf cfg (recs.take m) = (hdrsOf cfg recs).take m := by
  unfold hdrsOf
  rw [full_take, blobHeaders_take]

theorem dataOf_length (d : Data) : (dataOf d).length = d.len := genData_length' d.len d.seed

theorem hasData_iff (r : Rec) : (if r.del then [] else dataOf r.data) ≠ [] ↔ hasData r = true := by
  unfold hasData
  cases hd : r.del with
  | true => simp
  | false =>
    simp only [Bool.false_eq_true, if_false, Bool.not_false, Bool.true_and, bne_iff_ne, ne_eq]
    rw [← List.length_eq_zero_iff, dataOf_length]

theorem cutIn_of_recHeader {klen : Nat} {recs : List Rec} {t n : Nat} (h : cutKind klen recs t = .recHeader n) :
    CutIn klen (full recs) n t ∧ t - (blobBytes klen ((full recs).take n)).length < headerSize klen := by
  obtain ⟨_, hn, h1, h2⟩ := cutKind_recHeader h
  unfold CutIn
  rw [boundary_length, boundary_length, full_length, contentLen_take_succ klen recs n hn]
  have := recLen_ge klen recs[n]
  exact ⟨⟨hn, h1, by omega⟩, by omega⟩

theorem cutIn_of_body {klen : Nat} {recs : List Rec} {t n : Nat} (h : cutKind klen recs t = .body n) :
    CutIn klen (full recs) n t ∧ headerSize klen ≤ t - (blobBytes klen ((full recs).take n)).length := by
  obtain ⟨_, hn, h1, h2⟩ := cutKind_body h
  unfold CutIn
  rw [boundary_length, boundary_length, full_length]
  have : 0 < headerSize klen := by unfold headerSize; omega
  exact ⟨⟨hn, by omega, h2⟩, by omega⟩

theorem crash_file_clean {cfg : Cfg} {b : CBlob} (hb : BlobInv0 cfg b) {t n : Nat}
    (h : cutKind cfg.klen b.ghost t = .clean n) :
    b.file.take t = blobBytes cfg.klen (full (b.ghost.take n)) := by
  obtain ⟨h20, hn, hc⟩ := cutKind_clean h
  rcases hc with hc | hc
  · have hs := (complete_spec cfg.klen b.ghost t h20).1
    rw [← hn, hc, List.take_length] at hs
    rw [hc, List.take_length, List.take_of_length_le (by rw [hb.file, file_length]; exact hs), hb.file]
  · rw [hb.file, hc, ← boundary_length, full_take]
    exact blobBytes_take_boundary cfg.klen (full b.ghost) n

theorem mem_full {recs : List Rec} {x : Rec × List UInt8} (hx : x ∈ full recs) : x.1 ∈ recs := by
  simp only [full, List.mem_map] at hx
  obtain ⟨r, hr, rfl⟩ := hx
  exact hr

theorem BlobInv.bytes_lt {cfg : Cfg} {b : CBlob} (hb : BlobInv cfg b) :
    (blobBytes cfg.klen (full b.ghost)).length < 2 ^ 64 := by
  rw [← hb.file]; exact hb.size

theorem BlobInv.file_length {cfg : Cfg} {b : CBlob} (hb : BlobInv cfg b) :
    b.file.length = Fs.contentLen cfg.klen b.ghost := by
  rw [hb.file, E2E.file_length]

theorem BlobInv.full_ts {cfg : Cfg} {b : CBlob} (hb : BlobInv cfg b) : ∀ x ∈ full b.ghost, x.1.ts < 2 ^ 64 :=
  fun x hx => hb.ts _ (mem_full hx)

/-- `Blob::from_file` on the unharmed file of a blob -/
theorem openBlob_inv {cfg : Cfg} {b : CBlob} (hb : BlobInv cfg b) (v : Bool) :
    openBlob cfg.klen v b.file = .ok (hdrsOf cfg b.ghost) := by
  unfold openBlob
  rw [hb.file, blobHeader_blob]
  simp only []
  by_cases he : b.ghost = []
  · rw [he, blobBytes_nil, if_neg (by rw [serBlobHeader_length]; omega)]
    rfl
  · rw [if_pos (blobBytes_length_gt _ _ he),
      scan_blob cfg.klen v b.ghost he hb.bytes_lt hb.ts]
    rfl

/-! ### the blob start-up makes of a cut file -/

/-- the blob `Blob::from_file` returns for the file of `b` cut at `t`, when it accepts the headers of the first `m`
    records, `n` of which are complete -/
def recovered (cfg : Cfg) (b : CBlob) (t n m : Nat) : CBlob :=
  { id := b.id, file := b.file.take t, index := .mem (indexOf ((hdrsOf cfg b.ghost).take m)),
    filter := filterOf cfg (b.ghost.take m), ghost := b.ghost.take n }

theorem recovered_inv {cfg : Cfg} {b : CBlob} (hb : BlobInv cfg b) {t n : Nat}
    (h : cutKind cfg.klen b.ghost t = .clean n) : BlobInv cfg (recovered cfg b t n n) := by
  refine ⟨⟨fun r hr => hb.key r (List.mem_of_mem_take hr), fun r hr => hb.ts r (List.mem_of_mem_take hr),
    crash_file_clean hb.toBlobInv0 h, rfl, ?_⟩, ?_⟩
  · show IndexInv cfg _
    unfold IndexInv recovered
    simp only []
    rw [hdrsOf_take]
  · show (b.file.take t).length < 2 ^ 64
    have := hb.size
    rw [List.length_take]
    omega

theorem recovered_abs (cfg : Cfg) (b : CBlob) (t n m : Nat) :
    (recovered cfg b t n m).abs = { id := b.id, recs := b.ghost.take n, onDisk := false } := rfl

/-- `Blob::from_file` on the cut file answers quarantine when `fate` says so -/
theorem openBlob_quarantined {cfg : Cfg} {b : CBlob} (hb : BlobInv cfg b) {t : Nat}
    (h : fate cfg.klen cfg.validateData b.ghost t = .quarantined) :
    openBlob cfg.klen cfg.validateData (b.file.take t) = .quarantine := by
  have hlen := hb.bytes_lt
  have hts := hb.full_ts
  rw [hb.file]
  unfold fate at h
  split at h
  · next hk => exact (C06.scan_prefix_blob_header _ _ _ t (cutKind_blobHeader hk)).2
  · cases h
  · next n hk =>
    obtain ⟨hc, hlt⟩ := cutIn_of_recHeader hk
    have hn := (cutKind_recHeader hk).2.1
    exact (C06.scan_prefix_in_header _ _ _ n t _ _
      (full_getElem? b.ghost n _ (List.getElem?_eq_getElem hn)) hlen hts hc hlt).2
  · next n hk =>
    obtain ⟨hc, hge⟩ := cutIn_of_body hk
    have hn := (cutKind_body hk).2.1
    rw [List.getElem?_eq_getElem hn] at h
    simp only [] at h
    split at h
    · next hv =>
      simp only [Bool.and_eq_true] at hv
      have := (C06.scan_prefix_cut _ cfg.validateData _ n t _ _
        (full_getElem? b.ghost n _ (List.getElem?_eq_getElem hn)) hlen hts hc).2
      rw [this, if_neg (by omega), if_pos ⟨hv.1, (hasData_iff _).mpr hv.2⟩]
    · cases h

/-- when `fate` says opened, `Blob::from_file` on the cut file returns the headers of the complete records, and the
    header of the torn record when it is accepted -/
theorem openBlob_opened {cfg : Cfg} {b : CBlob} (hb : BlobInv cfg b) {t n : Nat} {torn : Bool}
    (h : fate cfg.klen cfg.validateData b.ghost t = .opened n torn) :
    openBlob cfg.klen cfg.validateData (b.file.take t) =
      .ok ((hdrsOf cfg b.ghost).take (if torn then n + 1 else n)) := by
  cases torn with
  | false =>
    have hk := fate_opened_false h
    have := openBlob_inv (recovered_inv hb hk) cfg.validateData
    simp only [Bool.false_eq_true, if_false]
    rw [← hdrsOf_take]
    exact this
  | true =>
    obtain ⟨hk, r, hr, hv⟩ := fate_opened_true h
    have hlen := hb.bytes_lt
    have hts := hb.full_ts
    obtain ⟨hc, hge⟩ := cutIn_of_body hk
    have := (C06.scan_prefix_cut _ cfg.validateData _ n t _ _ (full_getElem? b.ghost n r hr) hlen hts hc).2
    rw [hb.file, this, if_neg (by omega), if_neg]
    · rfl
    · rintro ⟨h1, h2⟩
      rw [hasData_iff] at h2
      rw [h1, h2] at hv
      cases hv

/-- `Blob::from_file` without an index file in terms of `openBlob` -/
theorem regen_of_openBlob (cfg : Cfg) (x : CBlob) :
    regen cfg x =
      match openBlob cfg.klen cfg.validateData x.file with
      | .ok hs =>
        some { x with index := .mem (indexOf hs), filter := (hs.map hdrKey).foldl (Combined.add cfg.h) (newFilter cfg) }
      | _ => none := by
  unfold regen openBlob
  cases hh : blobHeaderFromFile x.file with
  | error e =>
    simp only []
    unfold classifyHeaderErr classifyClass
    split
    · next heq => split at heq <;> cases heq
    · rfl
  | ok _ =>
    simp only []
    by_cases hl : x.file.length > blobHeaderSize
    · have hl' : blobHeaderSize < x.file.length := hl
      rw [if_pos hl, if_pos hl']
      cases hload : rawRecordsLoad cfg.klen cfg.validateData x.file with
      | error e =>
        simp only []
        unfold classifyScanErr classifyClass
        split
        · next heq => split at heq <;> cases heq
        · rfl
      | ok hs =>
        simp only []
        rw [foldl_indexPush cfg hs _ [] rfl]
        rfl
    · have hl' : ¬ blobHeaderSize < x.file.length := hl
      rw [if_neg hl, if_neg hl']
      rfl

theorem filterOf_take (cfg : Cfg) (b : CBlob) (hb : BlobInv0 cfg b) (m : Nat) :
    (((hdrsOf cfg b.ghost).take m).map hdrKey).foldl (Combined.add cfg.h) (newFilter cfg) =
      filterOf cfg (b.ghost.take m) := by
  unfold filterOf
  rw [List.map_take, List.map_take, hdrsOf_keys cfg b.ghost hb.key]

/-- `Blob::from_file` (without an index file) on the file of `b` cut at `t` fails when `fate` says quarantine -/
theorem regen_crash_quarantined {cfg : Cfg} {b : CBlob} (hb : BlobInv cfg b) {t : Nat}
    (h : fate cfg.klen cfg.validateData b.ghost t = .quarantined) : regen cfg (b.crash cfg t) = none := by
  have hf : (b.crash cfg t).file = b.file.take t := rfl
  rw [regen_of_openBlob, hf, openBlob_quarantined hb h]

/-- **the regenerated blob**: when `fate` says opened, `Blob::from_file` (without an index file) on the file of `b`
    cut at `t` returns `recovered`, with the header of the torn record when that one is accepted -/
theorem regen_crash_opened {cfg : Cfg} {b : CBlob} (hb : BlobInv cfg b) {t n : Nat} {torn : Bool}
    (h : fate cfg.klen cfg.validateData b.ghost t = .opened n torn) :
    regen cfg (b.crash cfg t) = some (recovered cfg b t n (if torn then n + 1 else n)) := by
  have hf : (b.crash cfg t).file = b.file.take t := rfl
  rw [regen_of_openBlob, hf, openBlob_opened hb h]
  simp only []
  rw [filterOf_take cfg b hb.toBlobInv0]
  unfold recovered CBlob.crash
  rw [← fate_complete h]

end Pearl.E2E
