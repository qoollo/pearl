import Pearl.Model.WorkerTimed
/-
Lemmas about the timed worker model (`Pearl/Model/WorkerTimed.lean`); the property theorems are in
`Pearl/Props/C13.lean`.  /repo HEAD is `Variant.repaired` (`observer_worker.rs:224-228` re-arms the deadline in the
re-create branch); `Variant.shipped` is the code before 41a1848.

The deferred dump lives in three fields (`deferredInfo`, `nextDeadline`, `now`), written only by
`defer_blob_indexes_dump` (`deferDumpT_eq`) and `process_deferred_blob_index_dump` (`processDeferredT_cases`).  On that
rest: the refinement of the untimed loop arm by arm (`Arm`, `processOpT_arm`, `erase_*`); invariants of the three fields
through `stepV_invariant` (`Inv`; `Armed` = a record has a deadline, kept by `repaired` and by runs with `NoBlocked`;
`OrphanFresh`, what `shipped` keeps of it); what happens when the deadline elapses (`timeout_starts`, `timeout_blocked`,
`Quiet`, `armed_quiet_starts`); that nothing happens without a deadline (`asleep_runV`), for ever in the seeded variant
(`Orphan`).
-/
namespace Pearl
namespace WorkerTimed

open Worker

variable {v : Variant} {cfg : TCfg} {s : TState}

/-! ### the two writers of the time fields: `defer_blob_indexes_dump`, `process_deferred_blob_index_dump` -/

/-- the closest of the deadline already set, if any, and a new one -/
def merged (prev : Option Nat) (dl : Nat) : Nat :=
  match prev with
  | none => dl
  | some p => min dl p

theorem updateDeadline_eq (s : TState) (dl : Nat) :
    updateDeadline s dl = { s with nextDeadline := some (merged s.nextDeadline dl) } := by
  unfold updateDeadline merged
  cases h : s.nextDeadline with
  | none => rfl
  | some p =>
    simp only
    split
    · rename_i hlt; rw [Nat.min_eq_left (Nat.le_of_lt hlt)]
    · rename_i hge; rw [Nat.min_eq_right (Nat.le_of_not_lt hge), ← h]

/-- the record `defer_blob_indexes_dump` leaves at time `now`: `update_last_time()` on the old one, or `new()` -/
def touched (di : Option Deferred) (now : Nat) : Deferred :=
  match di with
  | some d => { d with last := now }
  | none => Deferred.new now

/-- `defer_blob_indexes_dump`, all three variants at once: the record is touched and the deadline is merged with the
    record's `next_deadline(min, max)`, except that the seeded variant skips the deadline for an existing record -/
theorem deferDumpT_eq (v : Variant) (cfg : TCfg) (s : TState) :
    deferDumpT v cfg s =
      { s with deferredInfo := some (touched s.deferredInfo s.now),
               nextDeadline := if v = .seeded ∧ s.deferredInfo.isSome = true then s.nextDeadline
                 else some (merged s.nextDeadline ((touched s.deferredInfo s.now).nextDeadline cfg.minT cfg.maxT)) } := by
  obtain ⟨st, al, dr, fr, now, di, nd, ds⟩ := s
  cases v <;> cases di <;> simp [deferDumpT, touched, updateDeadline_eq]

theorem deferDumpT_deferred (v : Variant) (cfg : TCfg) (s : TState) :
    (deferDumpT v cfg s).deferredInfo.isSome = true := by
  rw [deferDumpT_eq]
  rfl

theorem deferDumpT_armed (hv : v ≠ .seeded) (cfg : TCfg) (s : TState) :
    (deferDumpT v cfg s).nextDeadline.isSome = true := by
  rw [deferDumpT_eq]
  exact congrArg Option.isSome (if_neg fun h => hv h.1)

theorem deferDumpT_frame (v : Variant) (cfg : TCfg) (s : TState) :
    ∃ d nd, deferDumpT v cfg s = { s with deferredInfo := some d, nextDeadline := nd } :=
  ⟨_, _, deferDumpT_eq v cfg s⟩

theorem nextDeadline_new (t minT maxT : Nat) : (Deferred.new t).nextDeadline minT maxT = t + min minT maxT := by
  rw [Nat.min_comm minT]; exact Nat.add_min_add_left ..

theorem deferDumpT_fresh (v : Variant) (cfg : TCfg) (hd : s.deferredInfo = none)
    (hn : s.nextDeadline = none) :
    deferDumpT v cfg s =
      { s with deferredInfo := some ⟨s.now, s.now⟩, nextDeadline := some (s.now + min cfg.minT cfg.maxT) } := by
  rw [deferDumpT_eq, hd, hn, if_neg (fun h => nomatch h.2)]
  simp only [touched, nextDeadline_new]
  rfl

/-- the four ways through `process_deferred_blob_index_dump`; only the repaired variant re-arms the deadline when it
    re-creates the record -/
theorem processDeferredT_cases {motive : TState → Prop} (v : Variant) (cfg : TCfg) (s : TState)
    (hnone : s.deferredInfo = none → motive s)
    (hearly : ∀ d, s.deferredInfo = some d → motive (updateDeadline s (d.nextDeadline cfg.minT cfg.maxT)))
    (hstarts : s.dumpRunning = false →
      motive { s with dumpRunning := true, dumpStarts := s.dumpStarts + 1, deferredInfo := none })
    (hblocked : ∀ d, s.deferredInfo = some d → d.due cfg.minT cfg.maxT s.now = true → s.dumpRunning = true →
      motive (if v = .repaired then
          updateDeadline { s with deferredInfo := some (Deferred.new s.now) }
            ((Deferred.new s.now).nextDeadline cfg.minT cfg.maxT)
        else { s with deferredInfo := some (Deferred.new s.now) })) :
    motive (processDeferredT v cfg s) := by
  obtain ⟨st, al, dr, fr, now, di, nd, ds⟩ := s
  cases di with
  | none => exact hnone rfl
  | some d =>
    cases hdue : d.due cfg.minT cfg.maxT now with
    | false => simpa [processDeferredT, hdue] using hearly d rfl
    | true =>
      cases dr with
      | false => simpa [processDeferredT, tryRunDumpT, hdue] using hstarts rfl
      | true => cases v <;> simpa [processDeferredT, tryRunDumpT, hdue] using hblocked d rfl hdue rfl

/-! ### timed against untimed, arm by arm -/

def SameTimers (x x' : TState) : Prop :=
  x'.deferredInfo = x.deferredInfo ∧ x'.nextDeadline = x.nextDeadline ∧ x'.now = x.now

theorem SameTimers.trans {x y z : TState} (h1 : SameTimers x y) (h2 : SameTimers y z) : SameTimers x z :=
  ⟨h2.1.trans h1.1, h2.2.1.trans h1.2.1, h2.2.2.trans h1.2.2⟩

theorem sameTimers_tryRunDumpT (s : TState) : SameTimers s (tryRunDumpT s).1 := by
  unfold tryRunDumpT; split <;> exact ⟨rfl, rfl, rfl⟩

theorem sameTimers_tryUpdateActiveT (lim : Limits) (s : TState) : SameTimers s (tryUpdateActiveT lim s).1 := by
  unfold tryUpdateActiveT; split
  · exact ⟨rfl, rfl, rfl⟩
  · split <;> exact ⟨rfl, rfl, rfl⟩

theorem erase_tryRunDumpT (s : TState) :
    tryRunDump (erase s) = (erase (tryRunDumpT s).1, (tryRunDumpT s).2) := by
  unfold tryRunDumpT tryRunDump
  cases h : s.dumpRunning <;> simp [erase, h]

theorem erase_tryRunFsyncT (s : TState) : erase (tryRunFsyncT s).1 = (tryRunFsync (erase s)).1 := by
  unfold tryRunFsyncT tryRunFsync
  cases h : s.fsyncRunning <;> simp [erase, h]

theorem erase_deferDumpT (v : Variant) (cfg : TCfg) (s : TState) :
    erase (deferDumpT v cfg s) = deferDump (erase s) := by
  rw [deferDumpT_eq]
  rfl

theorem erase_tryUpdateActiveT (lim : Limits) (s : TState) :
    tryUpdateActive lim (erase s) = (erase (tryUpdateActiveT lim s).1, (tryUpdateActiveT lim s).2) := by
  unfold tryUpdateActiveT tryUpdateActive
  show (match s.store.active with | none => _ | some a => _) = _
  cases s.store.active with
  | none => rfl
  | some a => dsimp only; split <;> rfl

/-- the `Err(_)` arm of `tick_with_deadline`, clock erased -/
theorem erase_timeout (v : Variant) (cfg : TCfg) (s : TState) (t : Nat) :
    erase (processDeferredT v cfg { s with now := t, nextDeadline := none }) =
      if dueAt cfg s t = true then processDeferred (erase s) else erase s := by
  obtain ⟨st, al, dr, fr, now, di, nd, ds⟩ := s
  unfold dueAt
  cases di with
  | none => simp [processDeferredT, erase]
  | some d =>
    by_cases hdue : d.due cfg.minT cfg.maxT t = true
    · cases dr <;> cases v <;>
        simp [processDeferredT, processDeferred, tryRunDumpT, tryRunDump, erase, hdue, updateDeadline_eq]
    · simp [processDeferredT, erase, hdue, updateDeadline_eq]

/-- an arm of `process_msg`, timed against untimed: the same error, or - clock erased - the same state, with the
    time fields untouched apart from at most one final `defer_blob_indexes_dump` -/
def Arm (v : Variant) (cfg : TCfg) (s : TState) (r : Except ErrKind TState) (r' : Except ErrKind WState) : Prop :=
  r.map erase = r' ∧ ∀ s', r = .ok s' → ∃ x, SameTimers s x ∧ (s' = x ∨ s' = deferDumpT v cfg x)

theorem arm_ok {s x : TState} (hx : SameTimers s x) :
    Arm v cfg s (.ok x) (.ok (erase x)) :=
  ⟨rfl, fun _ h => Except.ok.inj h ▸ ⟨x, hx, .inl rfl⟩⟩

theorem arm_defer {s x : TState} (hx : SameTimers s x) :
    Arm v cfg s (.ok (deferDumpT v cfg x)) (.ok (deferDump (erase x))) :=
  ⟨congrArg _ (erase_deferDumpT v cfg x), fun _ h => Except.ok.inj h ▸ ⟨x, hx, .inr rfl⟩⟩

/-- "started, or else deferred" -/
theorem arm_ite {s x : TState} (hx : SameTimers s x) (c : Bool) :
    Arm v cfg s (if c = true then .ok x else .ok (deferDumpT v cfg x))
      (if c = true then .ok (erase x) else .ok (deferDump (erase x))) := by
  cases c
  · exact arm_defer hx
  · exact arm_ok hx

theorem arm_store (r : Except ErrKind Store) :
    Arm v cfg s (r >>= fun st => .ok { s with store := st }) (r >>= fun st => .ok { erase s with store := st }) := by
  cases r with
  | error e => exact ⟨rfl, fun _ h => nomatch h⟩
  | ok st => exact arm_ok (x := { s with store := st }) ⟨rfl, rfl, rfl⟩

theorem processOpT_arm (v : Variant) (cfg : TCfg) (s : TState) (t : OpType) (pred : Option BlobPred) :
    Arm v cfg s (processOpT v cfg s t pred) (processOp cfg.lim (erase s) t pred) := by
  have hr := sameTimers_tryRunDumpT
  have hu := sameTimers_tryUpdateActiveT cfg.lim s
  unfold processOpT processOp
  show Arm v cfg s (if (!predOk pred s.store) = true then _ else _) (if (!predOk pred s.store) = true then _ else _)
  split
  · exact arm_ok ⟨rfl, rfl, rfl⟩
  · cases t with
    | forceUpdateActiveBlob => exact arm_ok (x := { s with store := s.store.replaceActive }) ⟨rfl, rfl, rfl⟩
    | closeActiveBlob => exact arm_store _
    | createActiveBlob => exact arm_store _
    | restoreActiveBlob => exact arm_store _
    | tryDumpBlobIndexes =>
      dsimp only
      rw [erase_tryRunDumpT]
      exact arm_ite (hr s) _
    | tryFsyncData =>
      have hf : SameTimers s (tryRunFsyncT s).1 := by unfold tryRunFsyncT; split <;> exact ⟨rfl, rfl, rfl⟩
      exact erase_tryRunFsyncT s ▸ arm_ok hf
    | tryUpdateActiveBlob =>
      dsimp only
      rw [erase_tryUpdateActiveT, erase_tryRunDumpT]
      dsimp only
      split
      · show Arm v cfg s (if (tryUpdateActiveT cfg.lim s).1.deferredInfo.isSome = true then _ else _)
          (if (tryUpdateActiveT cfg.lim s).1.deferredInfo.isSome = true then _ else _)
        split
        · exact arm_defer hu
        · exact arm_ite (hu.trans (hr _)) _
      · exact arm_ok hu
    | deferredDumpBlobIndexes => exact arm_defer ⟨rfl, rfl, rfl⟩

theorem erase_processOpT (v : Variant) (cfg : TCfg) (s : TState) (t : OpType) (pred : Option BlobPred) :
    (processOpT v cfg s t pred).map erase = processOp cfg.lim (erase s) t pred :=
  (processOpT_arm v cfg s t pred).1

/-! ### events, runs, traces -/

theorem enabled_now {e : TEvent} (h : enabled s e = true) : s.now ≤ e.time := by
  simp only [enabled, Bool.and_eq_true, decide_eq_true_eq] at h
  exact h.1.2

theorem enabled_alive {e : TEvent} (h : enabled s e = true) : s.alive = true := by
  simp only [enabled, Bool.and_eq_true, decide_eq_true_eq] at h
  exact h.1.1

theorem enabled_timeout_iff (s : TState) (t : Nat) :
    enabled s (.timeout t) = true ↔ s.alive = true ∧ s.now ≤ t ∧ ∃ dl, s.nextDeadline = some dl ∧ dl + EPS ≤ t := by
  unfold enabled deadlineElapsed
  cases h : s.nextDeadline with
  | none => simp
  | some dl =>
    simp only [TEvent.time, Bool.and_eq_true, decide_eq_true_eq, Option.some.injEq]
    constructor
    · rintro ⟨⟨h1, h2⟩, h3⟩
      exact ⟨h1, of_decide_eq_true h2, dl, rfl, h3⟩
    · rintro ⟨h1, h2, dl', rfl, h3⟩
      exact ⟨⟨h1, decide_eq_true h2⟩, h3⟩

/-- without an armed deadline the worker sleeps in `tick()`: no `timeout` -/
theorem timeout_disabled (hn : s.nextDeadline = none) (t : Nat) : enabled s (.timeout t) = false := by
  simp [enabled, deadlineElapsed, hn]

theorem stepV_disabled (v : Variant) (cfg : TCfg) (s : TState) (e : TEvent) (h : enabled s e = false) :
    stepV v cfg s e = s := by
  simp [stepV, h]

theorem stepV_timeout (v : Variant) (cfg : TCfg) (s : TState) (t : Nat) (hen : enabled s (.timeout t) = true) :
    stepV v cfg s (.timeout t) = processDeferredT v cfg { s with now := t, nextDeadline := none } := by
  simp [stepV, hen, TEvent.time]

theorem stepV_delete (v : Variant) (cfg : TCfg) {t : Nat} (halive : s.alive = true) (ht : s.now ≤ t) :
    stepV v cfg s (.recv t .deferredDumpBlobIndexes none) = deferDumpT v cfg { s with now := t } := by
  simp [stepV, enabled, halive, TEvent.time, ht, processOpT, predOk]

theorem runV_nil (v : Variant) (cfg : TCfg) (s : TState) : runV v cfg s [] = s := rfl

theorem runV_cons (v : Variant) (cfg : TCfg) (s : TState) (e : TEvent) (es : List TEvent) :
    runV v cfg s (e :: es) = runV v cfg (stepV v cfg s e) es := rfl

theorem runV_append (v : Variant) (cfg : TCfg) (s : TState) (a b : List TEvent) :
    runV v cfg s (a ++ b) = runV v cfg (runV v cfg s a) b := by
  simp [runV, List.foldl_append]

theorem traceV_nil (v : Variant) (cfg : TCfg) (s : TState) : traceV v cfg s [] = [] := rfl

theorem traceV_cons (v : Variant) (cfg : TCfg) (s : TState) (e : TEvent) (es : List TEvent) :
    traceV v cfg s (e :: es) = (msgOf cfg s e).toList ++ traceV v cfg (stepV v cfg s e) es := rfl

theorem traceV_append (v : Variant) (cfg : TCfg) (s : TState) (a b : List TEvent) :
    traceV v cfg s (a ++ b) = traceV v cfg s a ++ traceV v cfg (runV v cfg s a) b := by
  induction a generalizing s with
  | nil => rfl
  | cons e es ih => simp [traceV_cons, runV_cons, ih]

theorem reachable_init (v : Variant) (cfg : TCfg) (store : Store) : Reachable v cfg (TState.init store) :=
  ⟨store, [], rfl⟩

theorem reachable_runV (h : Reachable v cfg s) (es : List TEvent) :
    Reachable v cfg (runV v cfg s es) := by
  obtain ⟨store, es0, rfl⟩ := h
  exact ⟨store, es0 ++ es, (runV_append v cfg _ es0 es).symm⟩

theorem reachable_stepV {v : Variant} {cfg : TCfg} {s : TState} (h : Reachable v cfg s) (e : TEvent) :
    Reachable v cfg (stepV v cfg s e) := reachable_runV h [e]

theorem msgOf_timeout (cfg : TCfg) (s : TState) (t : Nat) (hen : enabled s (.timeout t) = true) :
    msgOf cfg s (.timeout t) = if dueAt cfg s t = true then some .deadlineDue else none := by
  simp [msgOf, firesDue, hen]

theorem msgOf_deadlineDue_iff (cfg : TCfg) (s : TState) (e : TEvent) :
    msgOf cfg s e = some .deadlineDue ↔ ∃ t, e = .timeout t ∧ firesDue cfg s t = true := by
  cases e <;> simp [msgOf, firesDue]

/-! ### invariants of the three time fields -/

abbrev On (Q : Option Deferred → Option Nat → Nat → Prop) (s : TState) : Prop :=
  Q s.deferredInfo s.nextDeadline s.now

theorem on_congr {Q : Option Deferred → Option Nat → Nat → Prop} {x x' : TState} (h : On Q x)
    (ht : SameTimers x x') : On Q x' := by
  unfold On
  rw [ht.1, ht.2.1, ht.2.2]
  exact h

theorem stepV_invariant {Q : Option Deferred → Option Nat → Nat → Prop}
    (hdefer : ∀ x, On Q x → On Q (deferDumpT v cfg x)) (e : TEvent) (h : On Q s)
    (hnow : enabled s e = true → Q s.deferredInfo s.nextDeadline e.time)
    (htimeout : ∀ t, e = .timeout t → enabled s e = true →
      On Q (processDeferredT v cfg { s with now := t, nextDeadline := none })) :
    On Q (stepV v cfg s e) := by
  by_cases hen : enabled s e = true
  · have h0 : On Q { s with now := e.time } := hnow hen
    cases e with
    | recv t op pred =>
      simp only [stepV, hen, Bool.not_true, Bool.false_eq_true, ↓reduceIte, TEvent.time]
      cases hr : processOpT v cfg { s with now := t } op pred with
      | error _ => exact h0
      | ok s' =>
        obtain ⟨x, hx, rfl | rfl⟩ := (processOpT_arm v cfg _ op pred).2 s' hr
        · exact on_congr h0 hx
        · exact hdefer _ (on_congr h0 hx)
    | timeout t => rw [stepV_timeout v cfg s t hen]; exact htimeout t rfl hen
    | wait t =>
      simp only [stepV, hen, Bool.not_true, Bool.false_eq_true, ↓reduceIte]
      exact h0
    | dumpDone t | fsyncDone t =>
      simp only [stepV, hen, Bool.not_true, Bool.false_eq_true, ↓reduceIte]
      exact on_congr h0 ⟨rfl, rfl, rfl⟩
  · rw [stepV_disabled v cfg s e (by simpa using hen)]
    exact h

theorem runV_invariant {P : TState → Prop} {es : List TEvent}
    (hstep : ∀ x, ∀ e ∈ es, P x → P (stepV v cfg x e)) (h : P s) : P (runV v cfg s es) := by
  induction es generalizing s with
  | nil => exact h
  | cons e es ih =>
    exact ih (fun x e' he' => hstep x e' (List.mem_cons_of_mem _ he')) (hstep s e (List.mem_cons_self ..) h)

/-- * a registered record is ordered and lies in the past: `first ≤ last ≤ now`;
    * a deadline is armed only while a record is registered, and lies between
      `first + min(min, max)` and `next_deadline(min, max) = min(first + max, last + min)`. -/
def Inv (cfg : TCfg) (s : TState) : Prop :=
  match s.deferredInfo, s.nextDeadline with
  | none, none => True
  | none, some _ => False
  | some d, none => d.first ≤ d.last ∧ d.last ≤ s.now
  | some d, some dl =>
    d.first ≤ d.last ∧ d.last ≤ s.now ∧ d.first + min cfg.minT cfg.maxT ≤ dl ∧
      dl ≤ d.nextDeadline cfg.minT cfg.maxT

/-- `Inv cfg s`, as a predicate of the three fields it reads (`Inv cfg s` unfolds to
    `InvOn cfg s.deferredInfo s.nextDeadline s.now`) -/
def InvOn (cfg : TCfg) (di : Option Deferred) (nd : Option Nat) (now : Nat) : Prop :=
  match di, nd with
  | none, none => True
  | none, some _ => False
  | some d, none => d.first ≤ d.last ∧ d.last ≤ now
  | some d, some dl =>
    d.first ≤ d.last ∧ d.last ≤ now ∧ d.first + min cfg.minT cfg.maxT ≤ dl ∧ dl ≤ d.nextDeadline cfg.minT cfg.maxT

theorem le_nextDeadline {d : Deferred} (h : d.first ≤ d.last) (minT maxT : Nat) :
    d.first + min minT maxT ≤ d.nextDeadline minT maxT :=
  Nat.le_min.2 ⟨Nat.add_le_add_left (Nat.min_le_right ..) _, Nat.add_le_add h (Nat.min_le_left ..)⟩

theorem invOn_setNow {di : Option Deferred} {nd : Option Nat} {now t : Nat} (h : InvOn cfg di nd now)
    (ht : now ≤ t) : InvOn cfg di nd t :=
  match di, nd, h with
  | none, none, _ => trivial
  | some _, none, h => ⟨h.1, Nat.le_trans h.2 ht⟩
  | some _, some _, h => ⟨h.1, Nat.le_trans h.2.1 ht, h.2.2⟩

/-- the deadline is dropped (`self.next_deadline = None`) -/
theorem invOn_unarm {di : Option Deferred} {nd : Option Nat} {now : Nat} (h : InvOn cfg di nd now) :
    InvOn cfg di none now :=
  match di, nd, h with
  | none, none, _ => trivial
  | some _, none, h => h
  | some _, some _, h => ⟨h.1, h.2.1⟩

/-- `update_last_time()` only moves `last_time + min` further away, `new()` comes without a deadline to bound -/
theorem invOn_touch {di : Option Deferred} {nd : Option Nat} {now : Nat} (h : InvOn cfg di nd now) :
    InvOn cfg (some (touched di now)) nd now :=
  match di, nd, h with
  | none, none, _ => ⟨Nat.le_refl _, Nat.le_refl _⟩
  | some _, none, h => ⟨Nat.le_trans h.1 h.2, Nat.le_refl _⟩
  | some _, some _, h =>
    ⟨Nat.le_trans h.1 h.2.1, Nat.le_refl _, h.2.2.1, Nat.le_trans h.2.2.2 (Nat.le_min.2
      ⟨Nat.min_le_left .., Nat.le_trans (Nat.min_le_right ..) (Nat.add_le_add_right h.2.1 _)⟩)⟩

theorem invOn_arm {d : Deferred} {nd : Option Nat} {now : Nat} (h : InvOn cfg (some d) nd now) :
    InvOn cfg (some d) (some (merged nd (d.nextDeadline cfg.minT cfg.maxT))) now :=
  match nd, h with
  | none, h => ⟨h.1, h.2, le_nextDeadline h.1 _ _, Nat.le_refl _⟩
  | some _, h => ⟨h.1, h.2.1, Nat.le_min.2 ⟨le_nextDeadline h.1 _ _, h.2.2.1⟩, Nat.min_le_left _ _⟩

theorem invOn_new (cfg : TCfg) (now : Nat) : InvOn cfg (some (Deferred.new now)) none now :=
  ⟨Nat.le_refl _, Nat.le_refl _⟩

theorem inv_unarmed (h : Inv cfg s) (hd : s.deferredInfo = none) :
    s.nextDeadline = none := by
  unfold Inv at h
  rw [hd] at h
  cases hn : s.nextDeadline with
  | none => rfl
  | some dl => rw [hn] at h; exact h.elim

theorem inv_deferDumpT (v : Variant) (h : Inv cfg s) : Inv cfg (deferDumpT v cfg s) := by
  rw [deferDumpT_eq]
  split
  · exact invOn_touch h
  · exact invOn_arm (invOn_touch h)

theorem inv_processDeferredT (v : Variant) (h : Inv cfg s) :
    Inv cfg (processDeferredT v cfg { s with nextDeadline := none }) := by
  have h0 : InvOn cfg s.deferredInfo none s.now := invOn_unarm h
  refine processDeferredT_cases v cfg _ (fun _ => h0) ?_ (fun _ => trivial) ?_
  · intro d hd
    rw [updateDeadline_eq]
    show InvOn cfg s.deferredInfo _ s.now
    rw [show s.deferredInfo = some d from hd] at h0 ⊢
    exact invOn_arm h0
  · intro _ _ _ _
    split
    · rw [updateDeadline_eq]; exact invOn_arm (invOn_new cfg s.now)
    · exact invOn_new cfg s.now

theorem inv_tryRunDumpT {cfg : TCfg} {s : TState} (h : Inv cfg s) : Inv cfg (tryRunDumpT s).1 :=
  on_congr (Q := InvOn cfg) h (sameTimers_tryRunDumpT s)

theorem inv_tryUpdateActiveT {cfg : TCfg} (lim : Limits) {s : TState} (h : Inv cfg s) :
    Inv cfg (tryUpdateActiveT lim s).1 :=
  on_congr (Q := InvOn cfg) h (sameTimers_tryUpdateActiveT lim s)

theorem inv_stepV (v : Variant) (e : TEvent) (h : Inv cfg s) : Inv cfg (stepV v cfg s e) :=
  stepV_invariant (Q := InvOn cfg) (fun _ => inv_deferDumpT v) e h (fun hen => invOn_setNow h (enabled_now hen))
    (fun t he hen => by
      subst he
      exact inv_processDeferredT v (s := { s with now := t }) (invOn_setNow h (enabled_now hen)))

theorem inv_reachable {v : Variant} {cfg : TCfg} {s : TState} (h : Reachable v cfg s) : Inv cfg s := by
  obtain ⟨store, es, rfl⟩ := h
  exact runV_invariant (P := Inv cfg) (fun _ e _ => inv_stepV v e) trivial

/-! ### a record has a deadline (`Armed`), and what the shipped variant keeps of it -/

/-- the invariant the seeded change C13-5 breaks -/
def Armed (s : TState) : Prop := s.deferredInfo.isSome = true → s.nextDeadline.isSome = true

/-- what is left of it in the shipped variant: a record without a deadline is a freshly re-created one -/
def OrphanFresh (s : TState) : Prop :=
  ∀ d, s.deferredInfo = some d → s.nextDeadline = none → d.first = d.last

/-- the `timeout` at time `t` finds the deferred dump due while the dump task is still running: the branch of
    `process_deferred_blob_index_dump` that re-creates the record -/
def blocked (cfg : TCfg) (s : TState) : TEvent → Bool
  | .timeout t => firesDue cfg s t && s.dumpRunning
  | _ => false

theorem processDeferredT_armed (cfg : TCfg) (s : TState)
    (hb : v = .repaired ∨
      ∀ d, s.deferredInfo = some d → d.due cfg.minT cfg.maxT s.now = true → s.dumpRunning = false) :
    Armed (processDeferredT v cfg s) := by
  refine processDeferredT_cases v cfg s ?_ ?_ ?_ ?_
  · intro hd hs; rw [hd] at hs; cases hs
  · intro d _ _; rw [updateDeadline_eq]; rfl
  · intro _ hs; cases hs
  · intro d hd hdue hr
    rcases hb with rfl | hb
    · rw [if_pos rfl, updateDeadline_eq]; exact fun _ => rfl
    · rw [hb d hd hdue] at hr; cases hr

theorem armed_stepV (hv : v ≠ .seeded) (e : TEvent) (h : Armed s)
    (hb : v = .repaired ∨ blocked cfg s e = false) : Armed (stepV v cfg s e) := by
  refine stepV_invariant (Q := fun di nd _ => di.isSome = true → nd.isSome = true)
    (fun x _ _ => deferDumpT_armed hv cfg x) e h (fun _ => h) ?_
  rintro t rfl hen
  refine processDeferredT_armed cfg _ (hb.imp_right fun hb d hd hdue => ?_)
  have hdue' : dueAt cfg s t = true := by rw [dueAt, show s.deferredInfo = some d from hd]; exact hdue
  simpa [blocked, firesDue, hen, hdue'] using hb

theorem armed_init (store : Store) : Armed (TState.init store) := nofun

/-- no iteration of the run is a `blocked` timeout -/
def NoBlocked (v : Variant) (cfg : TCfg) : TState → List TEvent → Prop
  | _, [] => True
  | s, e :: es => blocked cfg s e = false ∧ NoBlocked v cfg (stepV v cfg s e) es

theorem armed_runV (hv : v ≠ .seeded) (es : List TEvent) (h : Armed s)
    (hnb : v = .repaired ∨ NoBlocked v cfg s es) : Armed (runV v cfg s es) := by
  induction es generalizing s with
  | nil => exact h
  | cons e es ih => exact ih (armed_stepV hv e h (hnb.imp_right (·.1))) (hnb.imp_right (·.2))

theorem processDeferredT_orphanFresh (v : Variant) (cfg : TCfg) (s : TState) :
    OrphanFresh (processDeferredT v cfg s) := by
  refine processDeferredT_cases v cfg s ?_ ?_ ?_ ?_
  · intro hd d hs; rw [hd] at hs; cases hs
  · intro _ _ d _ hn; rw [updateDeadline_eq] at hn; cases hn
  · intro _ d hs; cases hs
  · intro _ _ _ _
    split
    · intro d _ hn; rw [updateDeadline_eq] at hn; cases hn
    · intro d hs _; cases hs; rfl

theorem orphanFresh_stepV (hv : v ≠ .seeded) (e : TEvent)
    (h : OrphanFresh s) : OrphanFresh (stepV v cfg s e) :=
  stepV_invariant (Q := fun di nd _ => ∀ d, di = some d → nd = none → d.first = d.last)
    (fun x _ d _ hn => by have := deferDumpT_armed hv cfg x; rw [hn] at this; cases this) e h
    (fun _ => h) (fun _ _ _ => processDeferredT_orphanFresh v cfg _)

theorem orphanFresh_runV (hv : v ≠ .seeded) (es : List TEvent)
    (h : OrphanFresh s) : OrphanFresh (runV v cfg s es) :=
  runV_invariant (P := OrphanFresh) (fun _ e _ => orphanFresh_stepV hv e) h

theorem orphanFresh_init (store : Store) : OrphanFresh (TState.init store) := nofun

/-! ### the deadline elapses: the dump starts, or is blocked by a running one -/

/-- a deadline that is not earlier than `next_deadline(min, max)` of the record has, once elapsed, made the
    condition of `process_deferred_blob_index_dump` true (this is what `DEFERRED_PROCESS_DEADLINE_EPS` is for) -/
theorem due_of_elapsed {d : Deferred} {minT maxT dl t : Nat} (h : d.nextDeadline minT maxT ≤ dl) (ht : dl + EPS ≤ t) :
    d.due minT maxT t = true := by
  have hlt : dl ≤ t := Nat.le_of_lt ht
  simp only [Deferred.due, Bool.or_eq_true, decide_eq_true_eq]
  rw [Deferred.nextDeadline, Nat.min_def] at h
  split at h
  · exact .inr (Nat.le_sub_of_add_le' (Nat.le_trans h hlt))
  · exact .inl (Nat.le_sub_of_add_le' (Nat.le_trans h hlt))

theorem due_iff (d : Deferred) (minT maxT t : Nat) :
    d.due minT maxT t = true ↔ (minT ≤ t - d.last ∨ maxT ≤ t - d.first) := by
  simp [Deferred.due]

theorem dueAt_iff (cfg : TCfg) (s : TState) (t : Nat) :
    dueAt cfg s t = true ↔
      ∃ d, s.deferredInfo = some d ∧ (cfg.minT ≤ t - d.last ∨ cfg.maxT ≤ t - d.first) := by
  unfold dueAt
  cases s.deferredInfo <;> simp [due_iff]

theorem timeout_starts (v : Variant) (cfg : TCfg) (s : TState) (t : Nat) (d : Deferred)
    (hen : enabled s (.timeout t) = true) (hd : s.deferredInfo = some d) (hdue : d.due cfg.minT cfg.maxT t = true)
    (hr : s.dumpRunning = false) :
    stepV v cfg s (.timeout t) =
      { s with now := t, nextDeadline := none, deferredInfo := none, dumpRunning := true,
               dumpStarts := s.dumpStarts + 1 } := by
  rw [stepV_timeout v cfg s t hen]
  obtain ⟨st, al, dr, fr, now, di, nd, ds⟩ := s
  subst hd hr
  simp [processDeferredT, tryRunDumpT, hdue]

theorem timeout_blocked (v : Variant) (cfg : TCfg) (s : TState) (t : Nat) (d : Deferred)
    (hen : enabled s (.timeout t) = true) (hd : s.deferredInfo = some d) (hdue : d.due cfg.minT cfg.maxT t = true)
    (hr : s.dumpRunning = true) :
    stepV v cfg s (.timeout t) =
      { s with now := t, deferredInfo := some (Deferred.new t),
               nextDeadline := if v = .repaired then some (t + min cfg.minT cfg.maxT) else none } := by
  rw [stepV_timeout v cfg s t hen]
  obtain ⟨st, al, dr, fr, now, di, nd, ds⟩ := s
  subst hd hr
  cases v <;> simp [processDeferredT, tryRunDumpT, hdue, updateDeadline_eq, merged, nextDeadline_new]

/-- `s'` comes from `s` by events that neither deliver a message nor fire the deadline -/
structure Quiet (s s' : TState) : Prop where
  info : s'.deferredInfo = s.deferredInfo
  deadline : s'.nextDeadline = s.nextDeadline
  starts : s'.dumpStarts = s.dumpStarts
  alive : s'.alive = s.alive
  now : s.now ≤ s'.now
  idle : s.dumpRunning = false → s'.dumpRunning = false

theorem Quiet.refl (s : TState) : Quiet s s := ⟨rfl, rfl, rfl, rfl, Nat.le_refl _, id⟩

theorem Quiet.trans {s s' s'' : TState} (h1 : Quiet s s') (h2 : Quiet s' s'') : Quiet s s'' :=
  ⟨h2.info.trans h1.info, h2.deadline.trans h1.deadline, h2.starts.trans h1.starts, h2.alive.trans h1.alive,
    Nat.le_trans h1.now h2.now, fun h => h2.idle (h1.idle h)⟩

theorem quiet_stepV (v : Variant) (cfg : TCfg) (s : TState) (e : TEvent) (hq : e.quiet = true) :
    Quiet s (stepV v cfg s e) := by
  by_cases hen : enabled s e = true
  · have hnow := enabled_now hen
    unfold stepV
    simp only [hen, Bool.not_true, Bool.false_eq_true, ↓reduceIte]
    cases e with
    | recv t op pred | timeout t => cases hq
    | dumpDone t => exact ⟨rfl, rfl, rfl, rfl, hnow, fun _ => rfl⟩
    | fsyncDone t | wait t => exact ⟨rfl, rfl, rfl, rfl, hnow, id⟩
  · rw [stepV_disabled v cfg s e (by simpa using hen)]
    exact .refl s

theorem quiet_runV (v : Variant) (cfg : TCfg) (s : TState) (es : List TEvent) (hq : ∀ e ∈ es, e.quiet = true) :
    Quiet s (runV v cfg s es) :=
  runV_invariant (P := Quiet s) (fun x e he hx => hx.trans (quiet_stepV v cfg x e (hq e he))) (.refl s)

theorem dumpDone_stops (v : Variant) (cfg : TCfg) (s : TState) (t : Nat) (hal : s.alive = true) (ht : s.now ≤ t) :
    (stepV v cfg s (.dumpDone t)).dumpRunning = false := by
  cases hr : s.dumpRunning with
  | false =>
    rw [stepV_disabled v cfg s _ (by simp [enabled, hr])]
    exact hr
  | true => simp [stepV, enabled, hal, hr, TEvent.time, ht]

/-- the common end of `deferred_dump_runs`, `deferred_dump_runs_within_two`, `deferred_dump_retried` (C13/7.3): a deadline not earlier than the record's `next_deadline(min, max)`, quiet
    events, then the `timeout` starts the dump -/
theorem armed_quiet_starts (v : Variant) (cfg : TCfg) {d : Deferred} {dl : Nat} (hal : s.alive = true)
    (hd : s.deferredInfo = some d) (hdl : s.nextDeadline = some dl) (hle : d.nextDeadline cfg.minT cfg.maxT ≤ dl)
    {q : List TEvent} (hq : ∀ e ∈ q, e.quiet = true) {t : Nat} (hnow : (runV v cfg s q).now ≤ t)
    (hpast : dl + EPS ≤ t) (hrun : (runV v cfg s q).dumpRunning = false) :
    enabled (runV v cfg s q) (.timeout t) = true ∧ msgOf cfg (runV v cfg s q) (.timeout t) = some .deadlineDue ∧
      Started (runV v cfg s q) (stepV v cfg (runV v cfg s q) (.timeout t)) := by
  have hqr := quiet_runV v cfg s q hq
  have hen : enabled (runV v cfg s q) (.timeout t) = true :=
    (enabled_timeout_iff _ t).2 ⟨hqr.alive.trans hal, hnow, dl, hqr.deadline.trans hdl, hpast⟩
  have hd2 := hqr.info.trans hd
  have hdue := due_of_elapsed hle hpast
  refine ⟨hen, ?_, ?_⟩
  · simp [msgOf, firesDue, hen, dueAt, hd2, hdue]
  · rw [timeout_starts v cfg _ t d hen hd2 hdue hrun]
    exact ⟨rfl, rfl, rfl, rfl⟩

/-! ### without a deadline and without messages nothing happens -/

theorem msgOf_unarmed (cfg : TCfg) (e : TEvent) (hn : s.nextDeadline = none) :
    ∀ m ∈ msgOf cfg s e, isDue m = false := by
  intro m hm
  cases m with
  | deadlineDue =>
    obtain ⟨t, rfl, hf⟩ := (msgOf_deadlineDue_iff cfg s e).1 hm
    simp [firesDue, timeout_disabled hn] at hf
  | _ => rfl

theorem traceV_unarmed {P : TState → Prop} (hP : ∀ x, P x → x.nextDeadline = none)
    {es : List TEvent} (hstep : ∀ x, ∀ e ∈ es, P x → P (stepV v cfg x e)) (h : P s) :
    ∀ m ∈ traceV v cfg s es, isDue m = false := by
  induction es generalizing s with
  | nil => nofun
  | cons e es ih =>
    intro m hm
    rw [traceV_cons] at hm
    rcases List.mem_append.1 hm with hm | hm
    · exact msgOf_unarmed cfg e (hP s h) m (by simpa using hm)
    · exact ih (fun x e' he' => hstep x e' (List.mem_cons_of_mem _ he')) (hstep s e (List.mem_cons_self ..) h) m hm

/-- without an armed deadline and without messages nothing ever happens to the record: no `timeout` is enabled -/
theorem asleep_stepV (v : Variant) (cfg : TCfg) (s : TState) (e : TEvent) (hn : s.nextDeadline = none)
    (hq : e.noRecv = true) : Quiet s (stepV v cfg s e) := by
  by_cases hq' : e.quiet = true
  · exact quiet_stepV v cfg s e hq'
  · cases e with
    | timeout t => rw [stepV_disabled v cfg s _ (timeout_disabled hn t)]; exact .refl s
    | recv t op pred => cases hq
    | _ => exact absurd rfl hq'

theorem asleep_runV (v : Variant) (cfg : TCfg) (s : TState) (es : List TEvent) (hn : s.nextDeadline = none)
    (hq : ∀ e ∈ es, e.noRecv = true) :
    Quiet s (runV v cfg s es) ∧ ∀ m ∈ traceV v cfg s es, isDue m = false := by
  have hstep : ∀ x, ∀ e ∈ es, Quiet s x → Quiet s (stepV v cfg x e) :=
    fun x e he hx => hx.trans (asleep_stepV v cfg x e (hx.deadline.trans hn) (hq e he))
  exact ⟨runV_invariant hstep (.refl s), traceV_unarmed (fun _ hx => hx.deadline.trans hn) hstep (.refl s)⟩

/-! ### the seeded variant: a record without a deadline stays without one -/

/-- a record without a deadline: in the seeded variant it is never armed again, whatever arrives -/
def Orphan (s : TState) : Prop := s.deferredInfo.isSome = true ∧ s.nextDeadline = none

theorem orphan_deferDumpT_seeded (cfg : TCfg) (s : TState) (h : Orphan s) : Orphan (deferDumpT .seeded cfg s) := by
  rw [deferDumpT_eq]
  exact ⟨rfl, (if_pos ⟨rfl, h.1⟩).trans h.2⟩

theorem orphan_stepV_seeded (cfg : TCfg) (s : TState) (e : TEvent) (h : Orphan s) :
    Orphan (stepV .seeded cfg s e) :=
  stepV_invariant (Q := fun di nd _ => di.isSome = true ∧ nd = none) (orphan_deferDumpT_seeded cfg) e h
    (fun _ => h) (fun t he hen => by rw [he, timeout_disabled h.2] at hen; cases hen)

theorem orphan_runV_seeded (cfg : TCfg) (s : TState) (es : List TEvent) (h : Orphan s) :
    Orphan (runV .seeded cfg s es) ∧ (∀ m ∈ traceV .seeded cfg s es, isDue m = false) :=
  ⟨runV_invariant (fun x e _ => orphan_stepV_seeded cfg x e) h,
    traceV_unarmed (fun _ hx => hx.2) (fun x e _ => orphan_stepV_seeded cfg x e) h⟩

theorem delete_stepV_dumpStarts (v : Variant) (cfg : TCfg) (s : TState) (e : TEvent) (he : e.isDelete = true) :
    (stepV v cfg s e).dumpStarts = s.dumpStarts := by
  cases e with
  | recv t op pred =>
    cases op <;> first | cases he | skip
    by_cases hen : enabled s (.recv t .deferredDumpBlobIndexes pred) = true
    · cases hp : predOk pred s.store
      · simp [stepV, hen, processOpT, hp]
      · simp [stepV, hen, processOpT, hp, deferDumpT_eq]
    · rw [stepV_disabled v cfg s _ (by simpa using hen)]
  | _ => cases he

theorem orphan_runV_seeded_noStart (cfg : TCfg) (s : TState) (es : List TEvent) (h : Orphan s)
    (hes : ∀ e ∈ es, e.noRecv = true ∨ e.isDelete = true) :
    (runV .seeded cfg s es).dumpStarts = s.dumpStarts := by
  refine (runV_invariant (P := fun x => Orphan x ∧ x.dumpStarts = s.dumpStarts) ?_ ⟨h, rfl⟩).2
  intro x e he hx
  refine ⟨orphan_stepV_seeded cfg x e hx.1, Eq.trans ?_ hx.2⟩
  rcases hes e he with he | he
  · exact (asleep_stepV .seeded cfg x e hx.1.2 he).starts
  · exact delete_stepV_dumpStarts .seeded cfg x e he

end WorkerTimed
end Pearl
