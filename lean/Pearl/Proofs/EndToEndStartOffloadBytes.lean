import Pearl.Proofs.EndToEndStartOffloadSteps
import Pearl.Props.C04
/-
End-to-end composition, bloom off-loading: the byte-level storage.  The translation `toB` (every
dumped index as the bytes of its file) commutes with every operation — including the off-loading operations — also
on states with off-loaded filters: an off-loaded bloom filter is probed with `read_meta_at` on the bytes of the index
file (`BIdx.readMetaAt`), which returns the bytes `serialize_filters` wrote at `bloom_offset + i`.  Then what the
Props files call: the translation of a state with off-loaded filters answers as its L2 store (`l2Answers_of_good`), so
two such states with the same L2 answers answer alike (`sameAnswers_of_answers`, `sameAnswers_of_abs`); the filters
re-read from an index file at start-up probe the same bits (`reread_filter_probes`); start-up with index files from a
state with off-loaded filters (`restartWithIndexes_of_invO`).
-/
namespace Pearl.E2E
open Pearl Pearl.BPTree Pearl.Container

section
variable {cfg : Cfg} {sha : List Nat → List Nat}

/-- the probe of the filters of an on-disk blob through the bytes of its index file, whatever the filter held in
    memory is (resident or off-loaded): `read_meta_at(i + bloom_offset)` returns the byte of the filter section -/
theorem checkFilter_toB_off (hB : BytesOK cfg sha) {b : CBlob} (hR : BlobInv cfg (b.reload cfg))
    (hs : (b.reload cfg).IdxSized) (k : Key) : (b.toB sha).checkFilter cfg k = b.checkFilter cfg k := by
  have hri : (b.reload cfg).index = b.index := rfl
  cases hi : b.index with
  | mem m => simp only [CBlob.toB, hi, CIndex.toB, BBlob.checkFilter, CBlob.checkFilter]
  | disk f mb off =>
    obtain ⟨x, hx, sim⟩ := hR.disk_sim hB hs (hri.trans hi)
    have hx' : BIdx.fromFile (imageOf sha f mb b.file.length) = some x := hx
    simp only [CBlob.toB, hi, CIndex.toB, BBlob.checkFilter, CBlob.checkFilter, hx', Option.bind_some]
    -- not `congr`: it would try to close the goal by unfolding `BIdx.fromFile` on the image
    refine congrArg (fun r => b.filter.contains cfg.h r k) (funext fun i => ?_)
    rw [readMetaAt_sim sim]
    rfl

/-- `Blob::delete` returns `(the blob with the tombstone written, true)` or `(the blob, false)`: a map of blobs that
    commutes with both branches commutes with the result, which keeps its flag -/
theorem ite_pair_map {α β : Type} (g : α → β) (c : Prop) [Decidable c] {x y : α} {x' y' : β}
    (hx : g x = x') (hy : g y = y') :
    g (if c then (x, true) else (y, false)).1 = (if c then (x', true) else (y', false)).1 ∧
      (if c then (x, true) else (y, false)).2 = (if c then (x', true) else (y', false)).2 := by
  split <;> exact ⟨by assumption, rfl⟩

theorem toBOK_of_off (hB : BytesOK cfg sha) {b : CBlob} (hoff : BlobOff cfg b) (hR : BlobInv cfg (b.reload cfg))
    (hs : (b.reload cfg).IdxSized) : ToBOK cfg sha b := by
  have hidx : ∀ k, (b.toB sha).index.getLatest cfg.klen k = b.index.getLatest k :=
    fun k => index_getLatest_toB hB hR hs k
  have hall : ∀ k, (b.toB sha).index.getAllMarked cfg.klen k = b.index.getAllMarked k :=
    fun k => index_getAllMarked_toB hB hR hs k
  have hlatest : ∀ k, (b.toB sha).indexLatest cfg k = b.indexLatest k := by
    intro k
    unfold BBlob.indexLatest CBlob.indexLatest
    rw [hidx k]
    rfl
  have hload : (b.toB sha).loadIndex cfg = (b.loadIndex cfg).toB sha := by
    rw [loadIndex_reload hB.ok hoff hR, ← loadIndex_toB hB hR hs]
    have hri : (b.reload cfg).index = b.index := rfl
    cases hi : b.index with
    | mem m => rw [hoff.of_mem (by rw [hi]; rfl)]
    | disk f mb off =>
      obtain ⟨x, hx, sim⟩ := hR.disk_sim hB hs (hri.trans hi)
      have hx' : BIdx.fromFile (imageOf sha f mb b.file.length) = some x := hx
      have hc := hR.disk_filter hB.ok (hri.trans hi)
      have hls : BIdx.load cfg.klen b.file.length x = some (indexOf (hdrsOf cfg b.ghost)) :=
        load_sim sim _ (hR.disk_file (hri.trans hi)).2.2.2
      unfold BBlob.loadIndex
      simp only [CBlob.toB, CBlob.reload, hi, CIndex.toB, hx', hls, readMeta_sim sim, Option.bind_some, hc]
  refine ⟨?_, ?_, ?_, hload⟩
  · intro k m
    unfold BBlob.getLatestEntryM CBlob.getLatestEntryM
    rw [checkFilter_toB_off hB hR hs k]
    cases m with
    | none => simp only [hlatest k]
    | some m =>
      simp only []
      unfold BBlob.getEntryWithMeta CBlob.getEntryWithMeta
      rw [hall k]
      rfl
  · intro k
    unfold BBlob.readAllEntriesMarked CBlob.readAllEntriesMarked
    rw [hall k]
    rfl
  · intro k ts m oip
    have h := ite_pair_map (CBlob.toB sha)
      ((!oip || match b.indexLatest k with | .ok r => r.isFound | .error _ => false) = true)
      (x := (b.loadIndex cfg).writeRec cfg { key := k, ts := ts, del := true, mt := m.getD none, data := ⟨0, 0⟩ })
      (y := b) (writeRec_toB cfg sha (b.loadIndex cfg) _ (by
        rw [loadIndex_reload hB.ok hoff hR]; exact (loadIndex_inv hB.ok hR).2)).symm rfl
    unfold BBlob.deleteM
    rw [hlatest k, hload]
    exact Prod.ext h.1.symm h.2.symm

theorem goodB_of_store (hB : BytesOK cfg sha) {c : CState} (h : CInvO cfg c) (h3 : StoreIdxSized cfg (c.abs cfg)) :
    GoodB cfg sha c := by
  have hs := idxSized_of_store hB.ok h.inv (by rw [reload_abs]; exact h3)
  refine ⟨fun b hb => ?_, fun a ha => ((cinvO_iff.mp h).active a ha).2⟩
  exact toBOK_of_off hB (h.off b hb) (h.blobInv hb)
    (hs _ (by rw [reload_blobs]; exact List.mem_map.mpr ⟨b, hb, rfl⟩))

/-! ### the off-loading operations commute with the translation -/

theorem offloadFilter_toB (sha : List Nat → List Nat) (b : CBlob) :
    (b.toB sha).offloadFilter = ((b.offloadFilter.1).toB sha, b.offloadFilter.2) := by
  unfold BBlob.offloadFilter CBlob.offloadFilter
  cases hi : b.index with
  | mem m => simp only [CBlob.toB, hi, CIndex.toB]
  | disk f mb off =>
    simp only [CBlob.toB, hi, CIndex.toB]

section Generic
variable {C C' : Type} (g : C → C')

/-- the leaf with its data translated -/
def mapLeaf (lf : FLeaf C) : FLeaf C' := { parent := lf.parent, data := g lf.data }

theorem offloadChildren_map (cops : ChildOps Combined C) (cops' : ChildOps Combined C')
    (hoff : ∀ d x y, cops'.offload (g d) x y = (g (cops.offload d x y).1, (cops.offload d x y).2))
    (needed level selfLevel : Nat) : ∀ (chs : List (Option (FLeaf C))) (freed : Nat) (ps : List Nat),
    offloadChildren cops' needed level selfLevel (chs.map (Option.map (mapLeaf g))) freed ps =
      (((offloadChildren cops needed level selfLevel chs freed ps).1).map (Option.map (mapLeaf g)),
        (offloadChildren cops needed level selfLevel chs freed ps).2)
  | [], _, _ => rfl
  | none :: rest, freed, ps => by
    simp only [List.map_cons, Option.map_none, offloadChildren]
    rw [offloadChildren_map cops cops' hoff needed level selfLevel rest freed ps]
  | some lf :: rest, freed, ps => by
    simp only [List.map_cons, Option.map_some, offloadChildren]
    by_cases h : freed ≥ needed
    · rw [if_pos h, if_pos h]
      simp
    · rw [if_neg h, if_neg h]
      have hp : (mapLeaf g lf).parent = lf.parent := rfl
      have hd : (mapLeaf g lf).data = g lf.data := rfl
      simp only [hp, hd, hoff]
      rw [offloadChildren_map cops cops' hoff needed level selfLevel rest _ _]
      rfl

theorem offloadRound_mapData (ops : FilterOps Combined) (needed : Nat) :
    ∀ (ps : List Nat) (c : Container Combined C) (freed : Nat) (np : List Nat),
    offloadRound ops needed ps (mapData g c) freed np =
      (mapData g (offloadRound ops needed ps c freed np).1, (offloadRound ops needed ps c freed np).2)
  | [], _, _, _ => rfl
  | p :: ps, c, freed, np => by
    simp only [offloadRound]
    by_cases h : freed ≥ needed
    · rw [if_pos h, if_pos h]
    · rw [if_neg h, if_neg h]
      have hn : (mapData g c).getNode p = c.getNode p := rfl
      rw [hn]
      cases c.getNode p with
      | none => exact offloadRound_mapData ops needed ps c freed np
      | some n =>
        simp only []
        have hm : ∀ f, (mapData g c).modifyNode p f = mapData g (c.modifyNode p f) := fun _ => rfl
        rw [hm]
        exact offloadRound_mapData ops needed ps _ _ _

theorem offloadNodes_mapData (ops : FilterOps Combined) (needed : Nat) :
    ∀ (fuel : Nat) (c : Container Combined C) (freed : Nat) (ps : List Nat),
    offloadNodes ops needed fuel (mapData g c) freed ps =
      (mapData g (offloadNodes ops needed fuel c freed ps).1, (offloadNodes ops needed fuel c freed ps).2)
  | 0, _, _, _ => rfl
  | _ + 1, _, _, [] => rfl
  | fuel + 1, c, freed, p :: ps => by
    simp only [offloadNodes]
    rw [offloadRound_mapData g ops needed (p :: ps) c freed []]
    simp only []
    split
    · rfl
    · exact offloadNodes_mapData ops needed fuel _ _ _

theorem offload_mapData (ops : FilterOps Combined) (cops : ChildOps Combined C) (cops' : ChildOps Combined C')
    (hoff : ∀ d x y, cops'.offload (g d) x y = (g (cops.offload d x y).1, (cops.offload d x y).2))
    (c : Container Combined C) (needed level : Nat) :
    Container.offload ops cops' (mapData g c) needed level =
      (mapData g (Container.offload ops cops c needed level).1, (Container.offload ops cops c needed level).2) := by
  unfold Container.offload
  have hch : (mapData g c).children = c.children.map (Option.map (mapLeaf g)) := rfl
  have hlv : (mapData g c).level = c.level := rfl
  rw [hch, hlv, offloadChildren_map g cops cops' hoff]
  simp only []
  split
  · rfl
  · split
    · rfl
    · have hlen : (mapData g c).inner.length = c.inner.length := rfl
      rw [hlen]
      exact offloadNodes_mapData g ops needed _ { c with children := _ } _ _

end Generic

theorem offloadBlob_toB (sha : List Nat → List Nat) (c : CState) (j : Nat) :
    (c.offloadBlob j).toB sha = (c.toB sha).offloadBlob j := by
  unfold CState.offloadBlob BState.offloadBlob
  apply BState.ext'
  · rfl
  · show mapData (CBlob.toB sha) (modifyChild c.cont j (fun b => b.offloadFilter.1))
      = modifyChildB (mapData (CBlob.toB sha) c.cont) j (fun b => b.offloadFilter.1)
    symm
    apply modifyChildB_mapData
    intro b _
    simp only [offloadFilter_toB]
  · rfl

theorem offloadBuffer_toB (cfg : Cfg) (sha : List Nat → List Nat) (c : CState) (needed level : Nat) :
    (c.offloadBuffer cfg needed level).1.toB sha = ((c.toB sha).offloadBuffer cfg needed level).1 ∧
      (c.offloadBuffer cfg needed level).2 = ((c.toB sha).offloadBuffer cfg needed level).2 := by
  unfold CState.offloadBuffer BState.offloadBuffer
  have hcont : (c.toB sha).cont = mapData (CBlob.toB sha) c.cont := rfl
  simp only [hcont]
  rw [offload_mapData (CBlob.toB sha) (fops cfg) (childOps cfg) (childOpsB cfg)
    (fun d _ _ => offloadFilter_toB sha d)]
  exact ⟨rfl, rfl⟩

theorem stepO_toB (hB : BytesOK cfg sha) {c : CState} (h : GoodB cfg sha c) (op : OOp) :
    (c.stepO cfg op).toB sha = (c.toB sha).stepBO cfg sha op := by
  cases op with
  | op o => exact stepM_toB_good hB h o
  | offloadBlob j => exact offloadBlob_toB sha c j
  | offloadBuffer n lv => exact (offloadBuffer_toB cfg sha c n lv).1

/-- the byte-level storage run from the empty directory, with off-loading interleaved, is the translation of the
    structured one -/
theorem runBO_eq (hB : BytesOK cfg sha) (ops : List OOp) (hops : ∀ op ∈ ops, op.OK cfg)
    (hsz : StoreIdxSized cfg ((Store.init cfg.allowDup).run ((OOp.erase ops).map MOp.abs))) :
    (BState.init cfg).runBO cfg sha ops = ((CState.init cfg).runO cfg ops).toB sha := by
  rw [← init_toB cfg sha]
  exact (runO_rel (Q := fun c b => c.toB sha = b) hB.ok (fun _ h => h.toStoreSized)
    (fun hwf l n h => storeIdxSized_prefix cfg hwf l h n)
    (fun c _ op hi _ h3 _ _ hq => hq ▸ stepO_toB hB (goodB_of_store hB hi h3) op)
    ops (CState.init cfg) _ (init_inv hB.ok).toCInvO (by rw [init_abs]; exact init_metaOK _) rfl hops
    (by rw [init_abs]; exact hsz)).2.2.2.symm

/-- the byte-level storage of a state with off-loaded filters answers as the L2 state: the byte-level look-ups answer as
    the structured ones (`…_toB_good`), and those as the L2 store (the read path under `BlobInvO`) -/
theorem l2Answers_of_good (hB : BytesOK cfg sha) {c : CState} (h : CInvO cfg c) (hmeta : StoreMetaOK (c.abs cfg))
    (hg : GoodB cfg sha c) (k : Key) : L2Answers cfg (c.toB sha) (c.abs cfg) k := by
  have L := blobIOLawsO hB.ok
  have hG := cinvO_iff.mp h
  refine ⟨fun m hm => ?_, fun m hm => ?_, ?_, ?_⟩
  · rw [readWithOpt_toB_good hg, L.readWithOpt_eq hG k m fun x hx => ⟨hm x hx, hmeta⟩]
  · rw [containsWith_toB_good hg, L.containsWith_eq hG k m fun x hx => ⟨hm x hx, hmeta⟩]
  · rw [readAllMarked_toB_good hg]
    exact L.readAllMarked_rr hG k
  · rw [readAll_toB_good hg]
    exact L.readAll_rr hG k

theorem sameAnswers_of_answers (hB : BytesOK cfg sha) {c c' : CState} (h : CInvO cfg c) (h' : CInvO cfg c')
    (hmeta : StoreMetaOK (c.abs cfg)) (h3 : StoreIdxSized cfg (c.abs cfg))
    (hmeta' : StoreMetaOK (c'.abs cfg)) (h3' : StoreIdxSized cfg (c'.abs cfg))
    (hans : ∀ k, (c'.abs cfg).readAllMarked k = (c.abs cfg).readAllMarked k ∧
      (c'.abs cfg).readAll k = (c.abs cfg).readAll k ∧
      ∀ m, (c'.abs cfg).getLatestEntry k m = (c.abs cfg).getLatestEntry k m) :
    SameAnswers cfg (c.toB sha) (c'.toB sha) :=
  L2Answers.same (l2Answers_of_good hB h hmeta (goodB_of_store hB h h3))
    (l2Answers_of_good hB h' hmeta' (goodB_of_store hB h' h3')) hans

theorem sameAnswers_of_abs (hB : BytesOK cfg sha) {c c' : CState} (h : CInvO cfg c) (h' : CInvO cfg c')
    (hmeta : StoreMetaOK (c.abs cfg)) (h3 : StoreIdxSized cfg (c.abs cfg)) (habs : c'.abs cfg = c.abs cfg) :
    SameAnswers cfg (c.toB sha) (c'.toB sha) :=
  sameAnswers_of_answers hB h h' hmeta h3 (by rw [habs]; exact hmeta) (by rw [habs]; exact h3)
    (fun _ => by rw [habs]; exact ⟨rfl, rfl, fun _ => rfl⟩)

/-! ### the filters re-read at start-up probe the same bits -/

/-- the index file dumped for the records of a blob: at start-up `deserialize_filters` gives back the filter of the
    blob and the `bloom_offset` `serialize_filters` had computed (`openIndex_current`); and once the bloom buffer is
    off-loaded, the probes `read_meta_at(i + bloom_offset)` on the BYTES of the file answer for every key exactly as
    the resident filter does — they read the very bits -/
theorem reread_filter_probes (hB : BytesOK cfg sha) {b : CBlob} (hb : BlobInv cfg b) (hne : b.ghost ≠ [])
    (h3 : Sized3 cfg b.ghost) {mb : List Nat} {off : Nat}
    (hs : serializeFilters cfg.klen (filterOf cfg b.ghost) = some (mb, off)) :
    openIndex cfg b.file.length (imageRecs cfg sha b.ghost mb) = .accepted b.filter off ∧
    ∀ k, ({ id := b.id, file := b.file, index := .disk (imageRecs cfg sha b.ghost mb) off,
            filter := b.filter.offload.1 } : BBlob).checkFilter cfg k = b.filter.containsFast cfg.h k := by
  refine ⟨openIndex_current hB hb hne h3 hs, fun k => ?_⟩
  obtain ⟨hD, hsD⟩ := dumped_inv hB hb hne h3 hs
  have himg := (dumped_sim (sha := sha) hB hb hne h3 hs).1
  have hrel : (({ b with index := .disk (fileRecs cfg b.ghost mb) mb off, filter := b.filter.offload.1 } : CBlob).reload cfg)
      = { b with index := .disk (fileRecs cfg b.ghost mb) mb off } := by
    unfold CBlob.reload
    simp only [← hb.filter]
  have h1 := checkFilter_toB_off (sha := sha) hB
    (b := { b with index := .disk (fileRecs cfg b.ghost mb) mb off, filter := b.filter.offload.1 })
    (by rw [hrel]; exact hD) (by rw [hrel]; exact hsD) k
  rw [himg]
  have h2 : ({ b with index := .disk (fileRecs cfg b.ghost mb) mb off, filter := b.filter.offload.1 } : CBlob).checkFilter cfg k
      = b.filter.offload.1.contains cfg.h (metaReadByte mb off) k := rfl
  rw [h2, Combined.contains_offload_eq cfg.h cfg.klen b.filter mb off hb.core.wf (by rw [hb.filter]; exact hs)] at h1
  exact h1

/-! ### start-up (with or without index files) from a state with off-loaded filters -/

/-- **start-up with index files from a state with off-loaded filters**: it fails exactly when an index file lies
    next to a blob without records; otherwise it returns the storage `BState.restart` returns, which is the
    translation of the restarted structured state and answers every query as the storage did before -/
theorem restartWithIndexes_of_invO (hB : BytesOK cfg sha) {c : CState} (h : CInvO cfg c)
    (hmeta : StoreMetaOK (c.abs cfg)) (hne : (c.abs cfg).blobs ≠ []) (h3 : StoreIdxSized cfg (c.abs cfg))
    (dir : Nat → Option (List Nat)) (hdir : DirChoice cfg sha c dir) (lazy : Bool) :
    ((c.toB sha).restartWithIndexes cfg sha dir lazy = none ↔ IndexBesideEmpty c dir) ∧
    ∀ b', (c.toB sha).restartWithIndexes cfg sha dir lazy = some b' →
      b' = (c.toB sha).restart cfg sha lazy ∧ b' = ((c.restart cfg lazy).toB sha) ∧ CInv cfg (c.restart cfg lazy) ∧
        SameAnswers cfg (c.toB sha) b' := by
  obtain ⟨hfail, hok⟩ := restartWithIndexes_toB_of hB (CBlob.reload cfg)
    (fun b hb => ⟨h.blobInv hb, rfl, rfl, rfl⟩) (sized3_of_store h3) dir hdir lazy
  by_cases hbad : IndexBesideEmpty c dir
  · refine ⟨⟨fun _ => hbad, fun _ => hfail hbad⟩, fun b' hb' => ?_⟩
    rw [hfail hbad] at hb'
    cases hb'
  have hsome := hok hbad
  refine ⟨⟨fun h0 => (by rw [hsome] at h0; cases h0), fun h0 => absurd h0 hbad⟩, fun b' hb' => ?_⟩
  have e2 : b' = (c.toB sha).restart cfg sha lazy := by rw [hsome] at hb'; cases hb'; rfl
  have hreg := regenAll_eq (sortById (c.reload cfg).blobs) fun b hb => CInvG.blobInv h.inv (mem_sortById.mp hb)
  have heq := restart_reload_eq cfg c lazy
  rw [reload_blobs, sortById_map_reload, regenAll_map_reload] at hreg
  rw [hreg, Option.isSome_some, if_pos rfl] at heq
  obtain ⟨habs, hinv'⟩ := restart_ref hB.ok h.inv lazy
  rw [show (c.reload cfg).step cfg (.restart lazy) = c.restart cfg lazy from heq] at habs hinv'
  rw [reload_abs] at habs
  have e3 : b' = (c.restart cfg lazy).toB sha := by rw [e2, restart_toB]
  refine ⟨e2, e3, hinv', ?_⟩
  have hwf : (c.abs cfg).WF := (cinvO_iff.mp h).wf
  rw [e3]
  apply sameAnswers_of_answers hB h hinv'.toCInvO hmeta h3
  · rw [habs]
    exact stepM_metaOK (cfg := cfg) hwf hmeta (.restart lazy) trivial
  · rw [habs]
    exact storeIdxSized_of_history (Store.restart_of_ne_nil hwf lazy hne).1 h3
  · intro k
    rw [habs]
    exact (maint_answers (m := .restart lazy) hwf rfl k).2.2.2

end
end Pearl.E2E
