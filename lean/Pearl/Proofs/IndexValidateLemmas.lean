import Pearl.Model.IndexValidate
import Pearl.Proofs.BPTreeBytesLemmas
/-
The start-up acceptance test (`Pearl/Model/IndexValidate.lean`) on the images `from_records` writes.
Parsing inverts the serializer.  The test looks at the header, the tree meta and the length of the file and at
nothing else, so a byte string that begins like an image is accepted exactly when it has the length of the
image (`accept_same_prefix`; without the size check, whenever it reaches the tree offset:
`acceptNoSizeCheck_same_prefix`).  `accept_image_iff` is the case of the prefixes of the images: which
prefix / version byte / key size / blob size combinations are accepted.
Bytes are `Nat`s here (`leBytes`, `beBytes`, `leNat`); the filters (`fle64`, `unle`, `Range.keyBytes`) and the blob
(`Pearl.leBytes`, `Pearl.keyBytes` over `UInt8`) have vocabularies of their own, and the only bridge is
`leBytes_map_ofNat`, `beBytes_map_ofNat` in `Pearl/Proofs/EndToEndMetaBytesEnc.lean`, from this one to the blob's.
-/
namespace Pearl.BPTree

theorem leNat_leBytes : ∀ (w n : Nat), leNat (leBytes w n) = n % 256 ^ w := by
  intro w
  induction w with
  | zero => intro n; simp [leBytes, leNat, Nat.mod_one]
  | succ w ih =>
    intro n
    have h := ih (n / 256)
    unfold leNat at h
    simp only [leBytes, leNat, List.foldr_cons]
    rw [h, Nat.pow_succ, Nat.mul_comm (256 ^ w), Nat.mod_mul]

theorem leBytes_mod : ∀ (w n : Nat), leBytes w (n % 256 ^ w) = leBytes w n
  | 0, _ => rfl
  | w + 1, n => by
    rw [leBytes, leBytes, Nat.pow_succ, Nat.mul_comm, Nat.mod_mul_right_mod, Nat.mod_mul_right_div_self,
      leBytes_mod w]

theorem leBytes_eq_iff (w a b : Nat) : leBytes w a = leBytes w b ↔ a % 256 ^ w = b % 256 ^ w := by
  constructor
  · intro h
    rw [← leNat_leBytes, ← leNat_leBytes, h]
  · intro h
    rw [← leBytes_mod w a, ← leBytes_mod w b, h]

theorem readLE_append (w n : Nat) (rest : List Nat) :
    readLE w (leBytes w n ++ rest) = some (n % 256 ^ w, rest) := by
  unfold readLE
  have hl := leBytes_length w n
  rw [if_neg (by rw [List.length_append, hl]; omega), List.take_left' hl, List.drop_left' hl,
    leNat_leBytes]

theorem readLE_append_lt (w n : Nat) (rest : List Nat) (h : n < 256 ^ w) :
    readLE w (leBytes w n ++ rest) = some (n, rest) := by
  rw [readLE_append, Nat.mod_eq_of_lt h]

theorem readLE_byte (b : Nat) (rest : List Nat) : readLE 1 (b :: rest) = some (b, rest) := by
  simp [readLE, leNat]

theorem readBytes_append (n : Nat) (a rest : List Nat) (h : a.length = n) :
    readBytes n (a ++ rest) = some (a, rest) := by
  unfold readBytes
  rw [if_neg (by rw [List.length_append, h]; omega), List.take_left' h, List.drop_left' h]

theorem readExactAt_mid (a b c : List Nat) (off len : Nat) (ha : a.length = off) (hb : b.length = len) :
    readExactAt (a ++ (b ++ c)) off len = some b := by
  unfold readExactAt
  rw [if_pos (by simp only [List.length_append, ha, hb]; omega), List.drop_left' ha, List.take_left' hb]

theorem readExactAt_take (l : List Nat) (t off len : Nat) (h : off + len ≤ t) :
    readExactAt (l.take t) off len = readExactAt l off len := by
  unfold readExactAt
  rw [List.length_take]
  by_cases hl : off + len ≤ l.length
  · rw [if_pos (Nat.le_min.2 ⟨h, hl⟩), if_pos hl, List.drop_take, List.take_take,
      Nat.min_eq_left (Nat.le_sub_of_add_le' h)]
  · rw [if_neg fun h' => hl (Nat.le_trans h' (Nat.min_le_right _ _)), if_neg hl]

theorem readExactAt_isSome (l : List Nat) (off len : Nat) :
    (readExactAt l off len).isSome = decide (off + len ≤ l.length) := by
  unfold readExactAt
  by_cases h : off + len ≤ l.length
  · rw [if_pos h]; simp [h]
  · rw [if_neg h]; simp [h]

theorem readExactAt_bind_some {β : Type} {l : List Nat} {off len : Nat} {k : List Nat → Option β} {y : β}
    (h : (readExactAt l off len).bind k = some y) : off + len ≤ l.length := by
  unfold readExactAt at h
  split at h
  · assumption
  · cases h

/-- what `parseIndexHeader` returns on a written header -/
def headerV (f : IndexFile RawHeader) (hash : List Nat) (vb blobSize : Nat) : IndexHeaderV :=
  { magic := magicByte, recordsCount := f.recordsCount, recordHeaderSize := f.p.rhs, metaSize := f.metaLen,
    hash := hash, versionByte := vb, keySize := f.p.K, blobSize := blobSize % 256 ^ 8 }

/-- where `read_tree_meta` looks when it was given a written header -/
theorem headerV_treeMetaPos (f : IndexFile RawHeader) (hash : List Nat) (vb b : Nat) (hhash : hash.length = 32) :
    (headerV f hash vb b).serializedSize + (headerV f hash vb b).metaSize = 83 + f.metaLen := by
  simp only [IndexHeaderV.serializedSize, headerV, hhash]

theorem indexHeaderBytesV_length (f : IndexFile RawHeader) (hash : List Nat) (vb b : Nat)
    (hhash : hash.length = 32) : (indexHeaderBytesV f hash vb b).length = 83 := by
  simp only [indexHeaderBytesV, List.length_append, leBytes_length, List.length_cons, List.length_nil, hhash]

theorem append_cons_at {α : Type} (A B : List α) (x : α) {n : Nat} (hA : A.length = n) :
    (A ++ x :: B).take n = A ∧ (A ++ x :: B).drop (n + 1) = B ∧ (A ++ x :: B)[n]? = some x := by
  subst hA
  refine ⟨List.take_left' rfl, ?_, by rw [List.getElem?_append_right (Nat.le_refl _), Nat.sub_self]; rfl⟩
  rw [List.append_cons]
  exact List.drop_left' (by rw [List.length_append]; rfl)

/-- the version byte is byte 72 of a written header, and nothing else in the image depends on it -/
theorem indexHeaderBytesV_split (f : IndexFile RawHeader) (hash : List Nat) (b : Nat) (rest : List Nat)
    (hhash : hash.length = 32) :
    ∃ A B, A.length = 72 ∧ ∀ vb, indexHeaderBytesV f hash vb b ++ rest = A ++ vb :: B :=
  ⟨leBytes 8 magicByte ++ leBytes 8 f.recordsCount ++ leBytes 8 f.p.rhs ++ leBytes 8 f.metaLen
      ++ (leBytes 8 hash.length ++ hash), leBytes 2 f.p.K ++ leBytes 8 b ++ rest,
    by simp only [List.length_append, leBytes_length, hhash],
    fun vb => by simp only [indexHeaderBytesV, List.append_assoc, List.cons_append, List.nil_append]⟩

theorem parse_indexHeaderBytesV (f : IndexFile RawHeader) (hash : List Nat) (vb b : Nat) (rest : List Nat)
    (hrc : f.recordsCount < 256 ^ 8) (hrhs : f.p.rhs < 256 ^ 8) (hml : f.metaLen < 256 ^ 8)
    (hK : f.p.K < 256 ^ 2) (hhash : hash.length = 32) :
    parseIndexHeader (indexHeaderBytesV f hash vb b ++ rest) = some (headerV f hash vb b) := by
  have hhl : hash.length < 256 ^ 8 := by rw [hhash]; decide
  have hm : magicByte < 256 ^ 8 := by decide
  simp only [indexHeaderBytesV, List.append_assoc, List.cons_append, List.nil_append,
    parseIndexHeader, readLE_append_lt _ _ _ hm, readLE_append_lt _ _ _ hrc,
    readLE_append_lt _ _ _ hrhs, readLE_append_lt _ _ _ hml, readLE_append_lt _ _ _ hhl,
    readBytes_append _ _ _ rfl, readLE_byte, readLE_append_lt _ _ _ hK, readLE_append, Option.bind_some]
  rfl

theorem parse_treeMetaBytes (f : IndexFile RawHeader) (rest : List Nat)
    (hl : f.leavesOffset < 256 ^ 8) (ht : f.treeOffset < 256 ^ 8) :
    parseTreeMeta (treeMetaBytes f ++ rest) = some ⟨f.leavesOffset, f.treeOffset⟩ := by
  simp only [parseTreeMeta, treeMetaBytes, List.append_assoc, readLE_append_lt _ _ _ hl,
    readLE_append_lt _ _ _ ht, Option.bind_some]

theorem treeMetaBytes_length (f : IndexFile RawHeader) : (treeMetaBytes f).length = 16 := by
  simp only [treeMetaBytes, List.length_append, leBytes_length]

theorem indexBodyBytes_eq (f : IndexFile RawHeader) (metaBuf : List Nat) :
    indexBodyBytes f metaBuf = metaBuf ++ (treeMetaBytes f
      ++ (f.nodes.flatMap (Node.bytes f.p.K) ++ f.leaves.flatMap (RawHeader.bytes f.p.K))) := by
  simp only [indexBodyBytes, List.append_assoc]

theorem indexBodyBytes_length_ge (f : IndexFile RawHeader) (metaBuf : List Nat) :
    metaBuf.length + 16 ≤ (indexBodyBytes f metaBuf).length := by
  rw [indexBodyBytes_eq]
  simp only [List.length_append, treeMetaBytes_length]
  omega

theorem indexHeaderBytes_eq_V (f : IndexFile RawHeader) (hash : List Nat) (w : Bool) (b : Nat) :
    indexHeaderBytes f hash w b = indexHeaderBytesV f hash (indexHeaderVersion * 2 + (if w then 1 else 0)) b :=
  rfl

theorem indexFileBytes_eq_V (f : IndexFile RawHeader) (metaBuf hash : List Nat) (b : Nat) :
    indexFileBytes f metaBuf hash b = indexHeaderBytesV f hash 13 b ++ indexBodyBytes f metaBuf := by
  simp only [indexFileBytes, indexBodyBytes, List.append_assoc]
  rfl

theorem indexFileBytesUnwritten_eq_V (f : IndexFile RawHeader) (metaBuf hash : List Nat) (b : Nat) :
    indexFileBytesUnwritten f metaBuf hash b = indexHeaderBytesV f hash 12 b ++ indexBodyBytes f metaBuf :=
  rfl

theorem pow_256_8 : 256 ^ 8 = 18446744073709551616 := by decide
theorem pow_256_2 : 256 ^ 2 = 65536 := by decide

/-- `read_index_header` looks at the first 83 bytes only -/
theorem readIndexHeader_take (l : List Nat) (t : Nat) (h : 83 ≤ t) :
    readIndexHeader (l.take t) = readIndexHeader l := by
  unfold readIndexHeader
  rw [readExactAt_take _ _ _ _ (by rw [Nat.zero_add]; exact h)]

/-- `read_tree_meta` looks at nothing after the 16 bytes it reads -/
theorem readTreeMeta_take (l : List Nat) (hd : IndexHeaderV) (t : Nat)
    (h : hd.serializedSize + hd.metaSize + 16 ≤ t) : readTreeMeta (l.take t) hd = readTreeMeta l hd := by
  unfold readTreeMeta
  rw [readExactAt_take _ _ _ treeMetaSize h]

theorem readIndexHeader_length {g : List Nat} {hd : IndexHeaderV} (h : readIndexHeader g = some hd) :
    83 ≤ g.length := by
  have := readExactAt_bind_some (k := parseIndexHeader) h
  rwa [Nat.zero_add] at this

theorem readTreeMeta_length {g : List Nat} {hd : IndexHeaderV} {tm : TreeMetaV}
    (h : readTreeMeta g hd = some tm) : hd.serializedSize + hd.metaSize + treeMetaSize ≤ g.length := by
  unfold readTreeMeta at h
  split at h
  · cases h
  · exact readExactAt_bind_some h

theorem acceptIndexNoSizeCheck_eq {g : List Nat} {hd : IndexHeaderV} {tm : TreeMetaV}
    (hH : readIndexHeader g = some hd) (hT : readTreeMeta g hd = some tm) (K a : Nat) :
    acceptIndexNoSizeCheck K a g = (readRootOk tm g && validateHeader K a hd && readMetaOk g hd) := by
  simp only [acceptIndexNoSizeCheck, hH, hT]

/-- the repaired test is the size check followed by the test as it was -/
theorem acceptIndex_eq {g : List Nat} {hd : IndexHeaderV} {tm : TreeMetaV}
    (hH : readIndexHeader g = some hd) (hT : readTreeMeta g hd = some tm) (K a : Nat) :
    acceptIndex K a g = (checkFileSize hd tm g.length && acceptIndexNoSizeCheck K a g) := by
  simp only [acceptIndexNoSizeCheck_eq hH hT, acceptIndex, hH, hT, Bool.and_assoc]

/-- `read_root` reads "whatever is there": it fails only when the tree offset is beyond the end -/
theorem readRootOk_eq (tm : TreeMetaV) (g : List Nat) :
    readRootOk tm g = decide (tm.treeOffset ≤ g.length) := by
  rw [readRootOk, readExactAt_isSome]
  by_cases h : tm.treeOffset ≤ g.length
  · have h' : tm.treeOffset + min (g.length - tm.treeOffset) 4096 ≤ g.length := by omega
    rw [decide_eq_true h, decide_eq_true h', Bool.and_self]
  · rw [decide_eq_false h, Bool.false_and]

theorem readMetaOk_eq (g : List Nat) (hd : IndexHeaderV) :
    readMetaOk g hd = decide (hd.serializedSize + hd.metaSize ≤ g.length) :=
  readExactAt_isSome g _ _

/-- what acceptance of an arbitrary byte string guarantees about it -/
theorem accept_sound (K blobSize : Nat) (g : List Nat) (h : acceptIndex K blobSize g = true) :
    ∃ hd tm, readIndexHeader g = some hd ∧ readTreeMeta g hd = some tm ∧
      hd.isWritten = true ∧ hd.version = indexHeaderVersion ∧ hd.keySize = K ∧ hd.blobSize = blobSize ∧
      hd.magic = magicByte ∧ tm.treeOffset ≤ tm.leavesOffset ∧
      g.length = hd.recordsCount * hd.recordHeaderSize + tm.leavesOffset ∧
      hd.serializedSize + hd.metaSize + treeMetaSize ≤ g.length := by
  cases hH : readIndexHeader g with
  | none => simp only [acceptIndex, hH] at h; cases h
  | some hd =>
    cases hT : readTreeMeta g hd with
    | none => simp only [acceptIndex, hH, hT] at h; cases h
    | some tm =>
      rw [acceptIndex_eq hH hT, acceptIndexNoSizeCheck_eq hH hT] at h
      simp only [checkFileSize, validateHeader, Bool.and_eq_true, decide_eq_true_eq, beq_iff_eq] at h
      obtain ⟨⟨⟨⟨h1, _⟩, _⟩, h4⟩, ⟨_, ⟨⟨⟨v1, v2⟩, v3⟩, v4⟩, v5⟩, _⟩ := h
      exact ⟨hd, tm, rfl, hT, v1, v2, v3, v4, v5, h1, h4.symm, readTreeMeta_length hT⟩

/-- what the acceptance test needs to know about a serialized index `f` -/
structure ImageOK (f : IndexFile RawHeader) (metaBuf hash : List Nat) : Prop where
  hash : hash.length = 32
  mlen : metaBuf.length = f.metaLen
  K : f.p.K < 256 ^ 2
  rc : f.recordsCount < 256 ^ 8
  rhs : f.p.rhs < 256 ^ 8
  tree : f.treeOffset ≤ f.leavesOffset
  /-- the file ends where the header and the tree meta say the record headers end -/
  fsize : f.recordsCount * f.p.rhs + f.leavesOffset = 83 + (indexBodyBytes f metaBuf).length
  bound : 83 + (indexBodyBytes f metaBuf).length < 256 ^ 8

section image
variable {f : IndexFile RawHeader} {metaBuf hash : List Nat}

theorem ImageOK.treeMeta_le (ok : ImageOK f metaBuf hash) :
    83 + f.metaLen + 16 ≤ 83 + (indexBodyBytes f metaBuf).length := by
  have := indexBodyBytes_length_ge f metaBuf
  have := ok.mlen
  omega

theorem ImageOK.image_length (ok : ImageOK f metaBuf hash) (vb b : Nat) :
    (indexHeaderBytesV f hash vb b ++ indexBodyBytes f metaBuf).length
      = 83 + (indexBodyBytes f metaBuf).length := by
  rw [List.length_append, indexHeaderBytesV_length f hash vb b ok.hash]

theorem readIndexHeader_image (f : IndexFile RawHeader) (metaBuf hash : List Nat) (ok : ImageOK f metaBuf hash)
    (vb b : Nat) (rest : List Nat) :
    readIndexHeader (indexHeaderBytesV f hash vb b ++ rest) = some (headerV f hash vb b) := by
  have hml : f.metaLen < 256 ^ 8 := by have := ok.treeMeta_le; have := ok.bound; omega
  have h := readExactAt_mid [] _ rest 0 83 rfl (indexHeaderBytesV_length f hash vb b ok.hash)
  rw [List.nil_append] at h
  rw [readIndexHeader, show indexHeaderSize = 83 from rfl, h, Option.bind_some,
    ← List.append_nil (indexHeaderBytesV f hash vb b)]
  exact parse_indexHeaderBytesV f hash vb b [] ok.rc ok.rhs hml ok.K ok.hash

theorem readTreeMeta_image (f : IndexFile RawHeader) (metaBuf hash : List Nat) (ok : ImageOK f metaBuf hash)
    (vb b : Nat) :
    readTreeMeta (indexHeaderBytesV f hash vb b ++ indexBodyBytes f metaBuf) (headerV f hash vb b)
      = some ⟨f.leavesOffset, f.treeOffset⟩ := by
  have hoff : (indexHeaderBytesV f hash vb b ++ metaBuf).length = 83 + f.metaLen := by
    rw [List.length_append, indexHeaderBytesV_length f hash vb b ok.hash, ok.mlen]
  have h : readExactAt (indexHeaderBytesV f hash vb b ++ indexBodyBytes f metaBuf) (83 + f.metaLen) treeMetaSize
      = some (treeMetaBytes f) := by
    rw [indexBodyBytes_eq, ← List.append_assoc]
    exact readExactAt_mid _ _ _ _ _ hoff (treeMetaBytes_length f)
  have hb : ¬ u64Bound ≤ 83 + f.metaLen := by
    have := ok.treeMeta_le; have := ok.bound; simp only [u64Bound]; omega
  have hlo : f.leavesOffset < 256 ^ 8 := by have := ok.fsize; have := ok.bound; omega
  rw [readTreeMeta, headerV_treeMetaPos f hash vb b ok.hash, if_neg hb, h, Option.bind_some,
    ← List.append_nil (treeMetaBytes f)]
  exact parse_treeMetaBytes f [] hlo (Nat.lt_of_le_of_lt ok.tree hlo)

/-- a byte string that agrees with an image on the header, the filter section and the tree meta reads as
    the image does -/
theorem reads_of_same_prefix (ok : ImageOK f metaBuf hash) (vb b : Nat) (g : List Nat)
    (hpre : g.take (83 + f.metaLen + 16)
      = (indexHeaderBytesV f hash vb b ++ indexBodyBytes f metaBuf).take (83 + f.metaLen + 16)) :
    readIndexHeader g = some (headerV f hash vb b) ∧
      readTreeMeta g (headerV f hash vb b) = some ⟨f.leavesOffset, f.treeOffset⟩ := by
  have hpos := headerV_treeMetaPos f hash vb b ok.hash
  constructor
  · rw [← readIndexHeader_take g (83 + f.metaLen + 16) (by omega), hpre, readIndexHeader_take _ _ (by omega),
      readIndexHeader_image f metaBuf hash ok]
  · rw [← readTreeMeta_take g _ (83 + f.metaLen + 16) (by omega), hpre, readTreeMeta_take _ _ _ (by omega),
      readTreeMeta_image f metaBuf hash ok]

theorem checkFileSize_image (ok : ImageOK f metaBuf hash) (vb b n : Nat) :
    checkFileSize (headerV f hash vb b) ⟨f.leavesOffset, f.treeOffset⟩ n
      = (83 + (indexBodyBytes f metaBuf).length == n) := by
  have h1 := ok.tree
  have h2 := ok.fsize
  have h3 := ok.bound
  have a : 83 + (indexBodyBytes f metaBuf).length < 2 ^ 64 := by omega
  have a' : f.recordsCount * f.p.rhs < 2 ^ 64 := by omega
  simp only [checkFileSize, headerV, u64Bound, h1, h2, a, a', decide_true, Bool.true_and]

/-- WITHOUT the size check (the code before the repair), a byte string that agrees with an image on the
    header, the filter section and the tree meta was accepted whenever it reached the tree offset: nothing
    compared its length with the length the header and the tree meta declare -/
theorem acceptNoSizeCheck_same_prefix (ok : ImageOK f metaBuf hash) (vb b K' actual : Nat) (g : List Nat)
    (hpre : g.take (83 + f.metaLen + 16)
      = (indexHeaderBytesV f hash vb b ++ indexBodyBytes f metaBuf).take (83 + f.metaLen + 16)) :
    acceptIndexNoSizeCheck K' actual g = true ↔
      (f.treeOffset ≤ g.length ∧ vb = 13 ∧ K' = f.p.K ∧ b % 256 ^ 8 = actual) := by
  obtain ⟨hH, hT⟩ := reads_of_same_prefix ok vb b g hpre
  have hlen := readTreeMeta_length hT
  rw [headerV_treeMetaPos f hash vb b ok.hash] at hlen
  have hm : 83 + f.metaLen ≤ g.length := Nat.le_trans (Nat.le_add_right _ _) hlen
  rw [acceptIndexNoSizeCheck_eq hH hT, readRootOk_eq, readMetaOk_eq,
    headerV_treeMetaPos f hash vb b ok.hash, decide_eq_true hm, Bool.and_true]
  simp only [validateHeader, IndexHeaderV.isWritten, IndexHeaderV.version, headerV, indexHeaderVersion,
    Bool.and_eq_true, decide_eq_true_eq, beq_iff_eq]
  constructor
  · rintro ⟨h0, ⟨⟨⟨h1, h2⟩, h3⟩, h4⟩, _⟩
    exact ⟨h0, by rw [← Nat.div_add_mod vb 2, h2, h1], h3.symm, h4⟩
  · rintro ⟨h0, rfl, rfl, h4⟩
    exact ⟨h0, ⟨⟨⟨rfl, rfl⟩, rfl⟩, h4⟩, trivial⟩

/-- with the size check, such a byte string is accepted exactly when it has the length of the image (and
    the version byte is `HEADER_VERSION << 1 | 1`, the key size the compile-time one, the blob size the
    recorded one) -/
theorem accept_same_prefix (ok : ImageOK f metaBuf hash) (vb b K' actual : Nat) (g : List Nat)
    (hpre : g.take (83 + f.metaLen + 16)
      = (indexHeaderBytesV f hash vb b ++ indexBodyBytes f metaBuf).take (83 + f.metaLen + 16)) :
    acceptIndex K' actual g = true ↔
      (g.length = 83 + (indexBodyBytes f metaBuf).length ∧ vb = 13 ∧ K' = f.p.K ∧ b % 256 ^ 8 = actual) := by
  obtain ⟨hH, hT⟩ := reads_of_same_prefix ok vb b g hpre
  rw [acceptIndex_eq hH hT, Bool.and_eq_true, checkFileSize_image ok, beq_iff_eq,
    acceptNoSizeCheck_same_prefix ok vb b K' actual g hpre]
  constructor
  · rintro ⟨h, _, r⟩
    exact ⟨h.symm, r⟩
  · rintro ⟨h, r⟩
    have := ok.tree
    have := ok.fsize
    exact ⟨h.symm, by omega, r⟩

/-- **the characterisation**: of all the prefixes of all the images that differ from the produced file
    in the version byte and the blob-size field, start-up with key size `K'` and a blob of `actual` bytes
    uses exactly the complete ones with the byte `HEADER_VERSION << 1 | 1`, the compile-time key size and
    the actual blob size -/
theorem accept_image_iff (f : IndexFile RawHeader) (metaBuf hash : List Nat) (ok : ImageOK f metaBuf hash)
    (vb b K' actual t : Nat) :
    acceptIndex K' actual ((indexHeaderBytesV f hash vb b ++ indexBodyBytes f metaBuf).take t) = true ↔
      (83 + (indexBodyBytes f metaBuf).length ≤ t ∧ vb = 13 ∧ K' = f.p.K ∧ b % 256 ^ 8 = actual) := by
  by_cases ht : 83 + f.metaLen + 16 ≤ t
  · -- the header and the tree meta are inside the prefix: the size check decides
    rw [accept_same_prefix ok vb b K' actual _ (by rw [List.take_take, Nat.min_eq_left ht]),
      List.length_take, ok.image_length]
    exact and_congr_left' (by omega)
  · -- the prefix ends before the tree meta does: one of the two reads fails
    constructor
    · intro h
      obtain ⟨hd, tm, hH, _, _, _, _, _, _, _, _, hsz⟩ := accept_sound _ _ _ h
      have hg := List.length_take_le t (indexHeaderBytesV f hash vb b ++ indexBodyBytes f metaBuf)
      rw [readIndexHeader_take _ _ (Nat.le_trans (readIndexHeader_length hH) hg),
        readIndexHeader_image f metaBuf hash ok] at hH
      cases hH
      rw [headerV_treeMetaPos f hash vb b ok.hash] at hsz
      exact absurd (Nat.le_trans hsz hg) ht
    · rintro ⟨h, _⟩
      exact absurd (Nat.le_trans ok.treeMeta_le h) ht

theorem accept_full_iff (ok : ImageOK f metaBuf hash) (vb b K' actual : Nat) :
    acceptIndex K' actual (indexHeaderBytesV f hash vb b ++ indexBodyBytes f metaBuf) = true ↔
      (vb = 13 ∧ K' = f.p.K ∧ b % 256 ^ 8 = actual) := by
  rw [accept_same_prefix ok vb b K' actual _ rfl, ok.image_length]
  exact ⟨fun h => h.2, fun h => ⟨rfl, h⟩⟩

/-- an accepted prefix of an image is, byte for byte, the file written for a blob of `actual` bytes -/
theorem accepted_prefix_eq (ok : ImageOK f metaBuf hash) {vb b K' actual t : Nat}
    (h : acceptIndex K' actual ((indexHeaderBytesV f hash vb b ++ indexBodyBytes f metaBuf).take t) = true) :
    actual < 2 ^ 64 ∧ (indexHeaderBytesV f hash vb b ++ indexBodyBytes f metaBuf).take t
      = indexHeaderBytesV f hash 13 actual ++ indexBodyBytes f metaBuf := by
  obtain ⟨ht, rfl, _, rfl⟩ := (accept_image_iff f metaBuf hash ok vb b K' _ t).1 h
  constructor
  · exact Nat.mod_lt b (by decide)
  · rw [List.take_of_length_le (by rw [ok.image_length]; exact ht)]
    simp only [indexHeaderBytesV, leBytes_mod]

theorem accepted_image_eq (ok : ImageOK f metaBuf hash) {vb b K' actual : Nat}
    (h : acceptIndex K' actual (indexHeaderBytesV f hash vb b ++ indexBodyBytes f metaBuf) = true) :
    actual < 2 ^ 64 ∧ indexHeaderBytesV f hash vb b ++ indexBodyBytes f metaBuf
      = indexHeaderBytesV f hash 13 actual ++ indexBodyBytes f metaBuf := by
  rw [← List.take_length (l := indexHeaderBytesV f hash vb b ++ indexBodyBytes f metaBuf)] at h ⊢
  exact accepted_prefix_eq ok h

/-- a header whose `written` bit is clear, followed by anything at all -/
theorem accept_unwritten_header (ok : ImageOK f metaBuf hash) (b K' actual : Nat) (rest : List Nat) :
    acceptIndex K' actual (indexHeaderBytesV f hash 12 b ++ rest) = false := by
  rw [Bool.eq_false_iff]
  intro h
  obtain ⟨hd, _, hH, _, w, _⟩ := accept_sound _ _ _ h
  rw [readIndexHeader_image f metaBuf hash ok] at hH
  cases hH
  simp [IndexHeaderV.isWritten, headerV] at w

end image

theorem build_imageOK (K : Nat) (hK : K ≤ 2032) (metaLen : Nat) (m : InMem RawHeader)
    (metaBuf hash : List Nat) (hmeta : metaBuf.length = metaLen) (hhash : hash.length = 32)
    (hsize : (build (Params.real K) metaLen m).fileSize < 2 ^ 64) :
    ImageOK (build (Params.real K) metaLen m) metaBuf hash := by
  subst hmeta
  have hlen := build_bytes_length K hK m metaBuf hash 0 hhash
  rw [indexFileBytes_eq_V, List.length_append, indexHeaderBytesV_length _ _ _ _ hhash] at hlen
  have hrc : (build (Params.real K) metaBuf.length m).recordsCount = (leafArray m).length :=
    build_recordsCount _ _ _
  have hfs : (build (Params.real K) metaBuf.length m).fileSize
      = (build (Params.real K) metaBuf.length m).leavesOffset + (leafArray m).length * (57 + K) := rfl
  refine ⟨hhash, rfl, Nat.lt_of_le_of_lt hK (by decide), ?_,
    Nat.lt_of_le_of_lt (Nat.add_le_add_left hK 57) (by decide), ?_, ?_, ?_⟩
  · have : (leafArray m).length ≤ (leafArray m).length * (57 + K) := Nat.le_mul_of_pos_right _ (by omega)
    rw [hrc, pow_256_8]; omega
  · rw [build_leavesOffset']; exact Nat.le_add_right _ _
  · rw [hlen, hfs, hrc, Nat.add_comm]; rfl
  · rw [hlen]; exact hsize

/-- before the repair a produced file cut anywhere after its tree meta was accepted: inside the root node,
    inside the record headers, or with no record header left -/
theorem build_truncated_accepted_noSizeCheck (K : Nat) (hK : K ≤ 2032) (metaLen : Nat) (m : InMem RawHeader)
    (metaBuf hash : List Nat) (blobSize : Nat) (hmeta : metaBuf.length = metaLen) (hhash : hash.length = 32)
    (hsize : (build (Params.real K) metaLen m).fileSize < 2 ^ 64) (hblob : blobSize < 2 ^ 64)
    (t : Nat) (ht : 83 + metaLen + 16 ≤ t) :
    acceptIndexNoSizeCheck K blobSize
      ((indexFileBytes (build (Params.real K) metaLen m) metaBuf hash blobSize).take t) = true := by
  have ok := build_imageOK K hK metaLen m metaBuf hash hmeta hhash hsize
  rw [indexFileBytes_eq_V, acceptNoSizeCheck_same_prefix ok 13 blobSize _ _ _
    (by rw [List.take_take, Nat.min_eq_left]; exact ht), List.length_take, ok.image_length]
  exact ⟨Nat.le_min.2 ⟨ht, ok.treeMeta_le⟩, rfl, rfl, Nat.mod_eq_of_lt (by rw [pow_256_8]; omega)⟩

end Pearl.BPTree
