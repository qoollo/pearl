import Pearl.Proofs.EndToEndStartStore
import Pearl.Proofs.EndToEndGhost
/-
End-to-end composition, bloom off-loading (`Pearl/Model/EndToEndStart.lean`, part (b)): the structured
storage.  A state with off-loaded filters is compared with its `reload`: the same state with the filter of every blob
replaced by the filter of its records (what `IndexStruct::load` / a restart would read back).  Under the invariant
`CInvO` (`reload` satisfies `CInv`, and every blob filter is the filter of its records or — for an on-disk index —
that filter off-loaded) every read answers as on the reloaded state.  How the blob operations act on `reload` and on
`BlobOff`, and the invariant as a blob invariant, stand in `EndToEndStartOffloadSteps.lean`.
-/
namespace Pearl.E2E
open Pearl Pearl.BPTree Pearl.Container

section
variable {cfg : Cfg}

/-- the resident filter, checked through the full path against the file it was dumped into, answers like its fast
    check (the in-memory bit vector answers; for a zero-length vector the file answers the default) -/
theorem Combined.contains_resident_eq (h : Nat → Key → Nat) (keyLen : Nat) (c : Combined) (metaBuf : List Nat)
    (off : Nat) (hc : c.WF) (hs : serializeFilters keyLen c = some (metaBuf, off)) (x : Key) :
    c.contains h (metaReadByte metaBuf off) x = c.containsFast h x := by
  unfold Combined.contains Combined.containsFast
  cases c.range.containsFast x with
  | notContains => rfl
  | needAdditionalCheck =>
    simp only [Combined.bloomFull, Combined.bloomFast]
    cases hcb : c.bloom with
    | none => rfl
    | some bl =>
      simp only []
      cases hi : bl.inner with
      | none =>
        simp only [serializeFilters, hcb, Option.getD_some, Bloom.toRaw, Bloom.save, hi, Option.map_none] at hs
        cases hs
      | some v =>
        unfold Bloom.contains
        cases hm : bl.containsMem h x with
        | some r => simp [Bloom.containsFast, hm]
        | none =>
          simp only []
          exact Bloom.containsFile_eq_containsFast h bl v x (hc.2 bl hcb) hi _
            (fun p hp => metaReadByte_serializeFilters keyLen c bl v metaBuf off hcb hi hs p hp)

/-- the blob with the filter of its records (resident) -/
def CBlob.reload (cfg : Cfg) (b : CBlob) : CBlob := { b with filter := filterOf cfg b.ghost }

/-- the state with every blob reloaded; the arena of the container (node filters) is not touched -/
def CState.reload (cfg : Cfg) (c : CState) : CState :=
  { c with active := c.active.map (CBlob.reload cfg), cont := mapData (CBlob.reload cfg) c.cont }

/-- the filter of a blob: the filter of its records, or — index on disk — that filter with its bloom buffer dropped -/
def BlobOff (cfg : Cfg) (b : CBlob) : Prop :=
  b.filter = filterOf cfg b.ghost ∨ (b.index.onDisk = true ∧ b.filter = (filterOf cfg b.ghost).offload.1)

/-- the invariant of a storage with off-loaded filters -/
structure CInvO (cfg : Cfg) (c : CState) : Prop where
  inv : CInv cfg (c.reload cfg)
  off : ∀ b ∈ c.blobs, BlobOff cfg b

theorem reload_reload (cfg : Cfg) (b : CBlob) : (b.reload cfg).reload cfg = b.reload cfg := rfl

theorem reload_of_filter {b : CBlob} (h : b.filter = filterOf cfg b.ghost) : b.reload cfg = b := by
  unfold CBlob.reload
  rw [← h]

theorem BlobOff.filter_of_mem {b : CBlob} (h : BlobOff cfg b) (hm : b.index.onDisk = false) :
    b.filter = filterOf cfg b.ghost := by
  rcases h with h | ⟨h, _⟩
  · exact h
  · rw [hm] at h; cases h

theorem BlobOff.of_mem {b : CBlob} (h : BlobOff cfg b) (hm : b.index.onDisk = false) : b.reload cfg = b :=
  reload_of_filter (h.filter_of_mem hm)

theorem blobOff_reload (cfg : Cfg) (b : CBlob) : BlobOff cfg (b.reload cfg) := Or.inl rfl

theorem reload_blobs (cfg : Cfg) (c : CState) : (c.reload cfg).blobs = c.blobs.map (CBlob.reload cfg) :=
  blobs_mapBlobs c _

theorem consulted_reload (cfg : Cfg) (c : CState) (k : Key) :
    (c.reload cfg).consulted cfg k = (c.consulted cfg k).map (CBlob.reload cfg) :=
  consulted_mapBlobs cfg c _ k

theorem reload_abs (cfg : Cfg) (c : CState) : (c.reload cfg).abs cfg = c.abs cfg := by
  unfold CState.abs CState.reload
  simp only [mapData, List.map_map]
  congr 1
  · cases c.active <;> rfl
  · apply List.map_congr_left
    intro o _
    cases o <;> rfl

theorem CInvO.blobInv {c : CState} (h : CInvO cfg c) {b : CBlob} (hb : b ∈ c.blobs) : BlobInv cfg (b.reload cfg) :=
  CInvG.blobInv h.inv (by rw [reload_blobs]; exact List.mem_map.mpr ⟨b, hb, rfl⟩)

theorem mapData_congr' (c : Container Combined CBlob) (f g : CBlob → CBlob) (h : ∀ b ∈ closedBlobs c, f b = g b) :
    mapData f c = mapData g c :=
  mapData_congr c fun lf hlf => h lf.data (mem_closedBlobs_of_mem_children hlf)

/-- a state satisfying `CInv` has nothing off-loaded -/
theorem reload_of_inv {c : CState} (h : CInv cfg c) : c.reload cfg = c := by
  have hb : ∀ b ∈ c.blobs, b.reload cfg = b := fun b hb => reload_of_filter (CInvG.blobInv h hb).filter
  have h1 : c.active.map (CBlob.reload cfg) = c.active := by
    cases ha : c.active with
    | none => rfl
    | some a => rw [Option.map_some, hb a (mem_blobs_active ha)]
  have h2 : mapData (CBlob.reload cfg) c.cont = c.cont := by
    rw [mapData_congr' c.cont _ id fun b hb' => hb b (List.mem_append_left _ hb')]
    simp [mapData]
  unfold CState.reload
  rw [h1, h2]

theorem CInv.toCInvO {c : CState} (h : CInv cfg c) : CInvO cfg c :=
  ⟨by rw [reload_of_inv h]; exact h, fun b hb => Or.inl (CInvG.blobInv h hb).filter⟩

/-! ### a blob and its reload answer alike -/

theorem checkFilter_reload {b : CBlob} (hoff : BlobOff cfg b) (hR : BlobInv cfg (b.reload cfg)) (k : Key) :
    b.checkFilter cfg k = (b.reload cfg).checkFilter cfg k := by
  have hri : (b.reload cfg).index = b.index := rfl
  unfold CBlob.checkFilter
  rw [hri]
  cases hi : b.index with
  | mem m => rfl
  | disk f mb off =>
    have hs := (hR.disk_file (hri.trans hi)).2.1
    have hwf : (filterOf cfg b.ghost).WF := (filterOf_facts cfg b.ghost).1
    show b.filter.contains cfg.h _ k = (filterOf cfg b.ghost).contains cfg.h _ k
    rw [Combined.contains_resident_eq cfg.h cfg.klen _ mb off hwf hs]
    rcases hoff with h | ⟨_, h⟩
    · rw [h, Combined.contains_resident_eq cfg.h cfg.klen _ mb off hwf hs]
    · rw [h, Combined.contains_offload_eq cfg.h cfg.klen _ mb off hwf hs]

theorem getLatestEntryM_reload {b : CBlob} (hoff : BlobOff cfg b) (hR : BlobInv cfg (b.reload cfg)) (k : Key)
    (m : Option Meta) : b.getLatestEntryM cfg k m = (b.reload cfg).getLatestEntryM cfg k m := by
  unfold CBlob.getLatestEntryM
  rw [checkFilter_reload hoff hR k]
  rfl

theorem readAllEntriesMarked_reload (b : CBlob) (k : Key) :
    b.readAllEntriesMarked k = (b.reload cfg).readAllEntriesMarked k := rfl

theorem indexLatest_reload (b : CBlob) (k : Key) : b.indexLatest k = (b.reload cfg).indexLatest k := rfl

/-! ### the read path on a state and on its reload -/

theorem getLatestEntryM_reload_state {c : CState} (h : CInvO cfg c) (k : Key) (m : Option Meta) :
    (c.reload cfg).getLatestEntryM cfg k m = c.getLatestEntryM cfg k m := by
  unfold CState.getLatestEntryM
  rw [consulted_reload]
  apply foldEntries_map_congr
  intro b hb
  have hbl := mem_consulted_blobs hb
  exact (getLatestEntryM_reload (h.off b hbl) (h.blobInv hbl) k m).symm

theorem containsWith_reload {c : CState} (h : CInvO cfg c) (k : Key) (m : Option Meta) :
    (c.reload cfg).containsWith cfg k m = c.containsWith cfg k m := by
  unfold CState.containsWith
  rw [getLatestEntryM_reload_state h]

theorem readWithOpt_reload {c : CState} (h : CInvO cfg c) (k : Key) (m : Option Meta) :
    (c.reload cfg).readWithOpt cfg k m = c.readWithOpt cfg k m := by
  unfold CState.readWithOpt
  rw [getLatestEntryM_reload_state h]

theorem readAllMarked_reload (cfg : Cfg) (c : CState) (k : Key) :
    (c.reload cfg).readAllMarked cfg k = c.readAllMarked cfg k := by
  unfold CState.readAllMarked
  rw [consulted_reload]
  rw [collectEntries_map_congr (fun b => b.readAllEntriesMarked k) (fun b => b.readAllEntriesMarked k)]
  intro b _
  rfl

theorem readAll_reload (cfg : Cfg) (c : CState) (k : Key) : (c.reload cfg).readAll cfg k = c.readAll cfg k := by
  unfold CState.readAll
  rw [readAllMarked_reload]

end
end Pearl.E2E
