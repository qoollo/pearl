import Pearl.Model.EndToEnd
import Pearl.Proofs.IndexLemmas
import Pearl.Proofs.BPTreeLemmas
import Pearl.Proofs.ListLemmas
import Pearl.Proofs.BlobLemmas
/-
End-to-end composition: the in-memory index of the concrete storage (`vecPush`, `memPush`) —
the per-key vector is plain stable insertion (`ins`), the map stays a well-formed `BTreeMap` iteration
(`BPTree.WF`), and the vector filed under a key is the stable sort of the headers of that key.  At the end: the records of a
blob with their bytes and offsets (`full`, `withOff`, `hdrOf`) and the headers their writes push (`blobHeaders_full`).
-/
namespace Pearl.E2E
open Pearl Pearl.BPTree

theorem skipAux_eq {α : Type} (ts : α → Nat) (t : Nat) (l : List α) (pos : Nat) :
    skipAux ts t l pos = pos + (l.takeWhile (fun r => decide (ts r ≤ t))).length := by
  induction l generalizing pos with
  | nil => simp [skipAux]
  | cons r rs ih =>
    simp only [skipAux]
    split
    · rename_i h; rw [ih, List.takeWhile_cons_of_pos (by simpa using h)]; simp; omega
    · rename_i h; rw [List.takeWhile_cons_of_neg (by simpa using h)]; simp

theorem vecPush_eq_ins {α : Type} (ts : α → Nat) (v : List α) (h : α) : vecPush ts v h = ins ts v h := by
  unfold vecPush ins
  simp only []
  generalize hst : (if v.length > 4 then (v.takeWhile (fun r => decide (ts r < ts h))).length else 0) = st
  have hle : st ≤ v.length := by
    subst hst; split
    · exact (List.takeWhile_prefix _).length_le
    · omega
  have hall : ∀ a ∈ v.take st, (fun r => decide (ts r ≤ ts h)) a = true := by
    subst hst
    split
    · intro a ha
      have hpre : (v.takeWhile fun r => decide (ts r < ts h)) <+: v := List.takeWhile_prefix _
      rw [(List.prefix_iff_eq_take.1 hpre).symm] at ha
      have := of_mem_takeWhile a ha
      simp only [decide_eq_true_eq] at this ⊢
      omega
    · intro a ha; simp at ha
  rw [skipAux_eq]
  have e := takeWhile_eq_take_append (fun r => decide (ts r ≤ ts h)) st v hle hall
  have : st + ((v.drop st).takeWhile (fun r => decide (ts r ≤ ts h))).length
      = (v.takeWhile (fun r => decide (ts r ≤ ts h))).length := by
    rw [e, List.length_append, List.length_take, Nat.min_eq_left hle]
  rw [this, insertIdx_takeWhile_length]

theorem ins_ne_nil {α : Type} (f : α → Nat) (v : List α) (h : α) : ins f v h ≠ [] := by
  unfold ins; simp

/-- what `memPush` does to the vectors: a new one for a new key, `ins` into the vector of `k`, the others untouched -/
theorem memPush_vecs (k : Nat) (h : RecHeader) (P : Nat → List RecHeader → Prop)
    (hnew : P k [h]) (hupd : ∀ v, P k v → P k (ins RecHeader.timestamp v h))
    (m : InMem RecHeader) (hm : ∀ x ∈ m, P x.1 x.2) : ∀ x ∈ memPush k h m, P x.1 x.2 := by
  fun_induction memPush k h m with
  | case1 => simpa using hnew
  | case2 => exact List.forall_mem_cons.mpr ⟨hnew, hm⟩
  | case3 v =>
    obtain ⟨h1, h2⟩ := List.forall_mem_cons.mp hm
    rw [vecPush_eq_ins]
    exact List.forall_mem_cons.mpr ⟨hupd v h1, h2⟩
  | case4 _ _ _ _ _ ih =>
    obtain ⟨h1, h2⟩ := List.forall_mem_cons.mp hm
    exact List.forall_mem_cons.mpr ⟨h1, ih h2⟩

theorem mem_memPush (k : Nat) (h : RecHeader) (m : InMem RecHeader) (x : Nat × List RecHeader)
    (hx : x ∈ memPush k h m) : x.1 = k ∨ x ∈ m :=
  memPush_vecs k h (fun k' v => k' = k ∨ (k', v) ∈ m) (Or.inl rfl) (fun _ _ => Or.inl rfl) m
    (fun _ hy => Or.inr hy) x hx

theorem memPush_sorted (k : Nat) (h : RecHeader) (m : InMem RecHeader)
    (hs : m.Pairwise (fun a b => a.1 < b.1)) : (memPush k h m).Pairwise (fun a b => a.1 < b.1) := by
  fun_induction memPush k h m with
  | case1 => simp
  | case2 k' v rest hlt =>
    refine List.pairwise_cons.mpr ⟨?_, hs⟩
    have hhd := (List.pairwise_cons.mp hs).1
    exact List.forall_mem_cons.mpr ⟨hlt, fun x hx => Nat.lt_trans hlt (hhd x hx)⟩
  | case3 => exact List.pairwise_cons.mpr (List.pairwise_cons.mp hs)
  | case4 k' v rest h1 h2 ih =>
    obtain ⟨hhd, htl⟩ := List.pairwise_cons.mp hs
    refine List.pairwise_cons.mpr ⟨?_, ih htl⟩
    intro x hx
    rcases mem_memPush k h rest x hx with e | e
    · show k' < x.1
      omega
    · exact hhd x e

theorem memPush_lookup (k : Nat) (h : RecHeader) (m : InMem RecHeader)
    (hs : m.Pairwise (fun a b => a.1 < b.1)) (k' : Nat) :
    (memPush k h m).lookup k' =
      if k' = k then some (ins RecHeader.timestamp ((m.lookup k).getD []) h) else m.lookup k' := by
  fun_induction memPush k h m with
  | case1 => simp [lookup_cons_ite, ins]
  | case2 k1 v rest hlt =>
    -- `k` is below every key of the map
    have hnone : ((k1, v) :: rest).lookup k = none :=
      lookup_none_of_lt k _ (List.forall_mem_cons.mpr
        ⟨hlt, fun x hx => Nat.lt_trans hlt ((List.pairwise_cons.mp hs).1 x hx)⟩)
    rw [hnone, lookup_cons_ite]
    simp [ins]
  | case3 v rest =>
    simp only [lookup_cons_ite, vecPush_eq_ins, if_true, Option.getD_some]
    split <;> rfl
  | case4 k1 v rest h1 h2 ih =>
    rw [lookup_cons_ite, ih (List.pairwise_cons.mp hs).2, lookup_cons_ite, lookup_cons_ite, if_neg h2]
    split
    · rename_i hk1
      rw [if_neg (fun e => h2 (e.symm.trans hk1))]
    · rfl

theorem memPush_WF (k : Nat) (h : RecHeader) (hk : hdrKey h = k) (m : InMem RecHeader) (hwf : WF m) :
    WF (memPush k h m) := by
  refine ⟨memPush_sorted k h m hwf.sorted, ?_, ?_⟩
  · exact memPush_vecs k h (fun _ v => v ≠ []) (by simp) (fun v _ => ins_ne_nil _ v h) m hwf.nonempty
  · refine memPush_vecs k h (fun k' v => ∀ x ∈ v, hkey x = k') ?_ ?_ m hwf.keys
    · intro x hx; simp at hx; subst hx; exact hk
    · intro v hv x hx
      rcases mem_ins.mp hx with rfl | hx
      · exact hk
      · exact hv x hx

/-- the map after `index.push(header.key().into(), header)` for every header in order -/
def indexOf (hs : List RecHeader) : InMem RecHeader := hs.foldl (fun m h => memPush (hdrKey h) h m) []

/-- the vector the index files under `k`: stable sort by timestamp of the headers of key `k` -/
def hvecOf (hs : List RecHeader) (k : Nat) : List RecHeader :=
  (hs.filter (fun h => hdrKey h == k)).foldl (ins RecHeader.timestamp) []

theorem indexOf_snoc (hs : List RecHeader) (h : RecHeader) :
    indexOf (hs ++ [h]) = memPush (hdrKey h) h (indexOf hs) := by
  simp [indexOf, List.foldl_append]

theorem foldl_memPush_WF : ∀ (hs : List RecHeader) (acc : InMem RecHeader), WF acc →
    WF (hs.foldl (fun m h => memPush (hdrKey h) h m) acc)
  | [], _, h => h
  | h :: hs, acc, hacc => foldl_memPush_WF hs _ (memPush_WF _ h rfl acc hacc)

theorem indexOf_WF (hs : List RecHeader) : WF (indexOf hs) :=
  foldl_memPush_WF hs [] ⟨List.Pairwise.nil, by simp, by simp⟩

theorem foldl_memPush_lookup (k : Nat) : ∀ (hs : List RecHeader) (acc : InMem RecHeader), WF acc →
    ((hs.foldl (fun m h => memPush (hdrKey h) h m) acc).lookup k).getD [] =
      (hs.filter (fun h => hdrKey h == k)).foldl (ins RecHeader.timestamp) ((acc.lookup k).getD [])
  | [], _, _ => rfl
  | h :: hs, acc, hacc => by
    simp only [List.foldl_cons]
    rw [foldl_memPush_lookup k hs _ (memPush_WF _ h rfl acc hacc), memPush_lookup _ h acc hacc.sorted k]
    by_cases hk : hdrKey h = k
    · subst hk
      simp
    · have h1 : ¬ k = hdrKey h := fun e => hk e.symm
      have h2 : (hdrKey h == k) = false := by simpa using hk
      rw [if_neg h1, List.filter_cons_of_neg (by simp [h2])]

theorem indexOf_lookup (hs : List RecHeader) (k : Nat) : ((indexOf hs).lookup k).getD [] = hvecOf hs k :=
  foldl_memPush_lookup k hs [] ⟨List.Pairwise.nil, by simp, by simp⟩

/-- `headers.get(key).and_then(|h| h.last())` of the index = last element of the sorted vector -/
theorem memLatest_indexOf (hs : List RecHeader) (k : Nat) :
    memLatest (indexOf hs) k = (hvecOf hs k).getLast? := by
  unfold memLatest
  rw [← indexOf_lookup]
  cases (indexOf hs).lookup k <;> rfl

theorem foldl_ins_eq_nil_iff {α : Type} (f : α → Nat) : ∀ (l acc : List α), l.foldl (ins f) acc = [] ↔ l = [] ∧ acc = []
  | [], acc => by simp
  | x :: l, acc => by
    simp only [List.foldl_cons]
    rw [foldl_ins_eq_nil_iff f l]
    simp [ins_ne_nil]

/-- `contains_key`: the map has an entry for `k` iff some header has key `k` -/
theorem indexOf_lookup_isSome (hs : List RecHeader) (k : Nat) :
    ((indexOf hs).lookup k).isSome = hs.any (fun h => hdrKey h == k) := by
  have hl := indexOf_lookup hs k
  have hnil : hvecOf hs k = [] ↔ hs.any (fun h => hdrKey h == k) = false := by
    rw [hvecOf, foldl_ins_eq_nil_iff, List.filter_eq_nil_iff, List.any_eq_false]; simp
  cases hlk : (indexOf hs).lookup k with
  | none =>
    rw [hlk] at hl
    exact (hnil.mp hl.symm).symm
  | some v =>
    -- the vectors of the map are not empty
    rw [hlk] at hl
    have hne : hvecOf hs k ≠ [] := hl ▸ (indexOf_WF hs).nonempty _ (mem_of_lookup_eq_some _ hlk)
    cases hany : hs.any (fun h => hdrKey h == k) with
    | true => rfl
    | false => exact absurd (hnil.mpr hany) hne

theorem indexOf_eq_nil_iff (hs : List RecHeader) : indexOf hs = [] ↔ hs = [] := by
  constructor
  · intro h
    cases hs with
    | nil => rfl
    | cons x xs =>
      exfalso
      have := indexOf_lookup_isSome (x :: xs) (hdrKey x)
      rw [h] at this
      simp at this
  · intro h; subst h; rfl

/-! ### the records of a blob with their data bytes and the offsets they are written at -/

/-- the byte-level record `Storage` builds for an L2 record -/
def recOf (klen : Nat) (r : Rec) : Record := recordOf klen r (dataOf r.data)

/-- the L2 records with their data bytes -/
def full (recs : List Rec) : List (Rec × List UInt8) := recs.map (fun r => (r, dataOf r.data))

/-- the header `Blob::write` pushes into the index for `r` written at `off` -/
def hdrOf (klen : Nat) (r : Rec) (off : Nat) : RecHeader := (recOf klen r).header.final off

/-- the headers the writes pushed into the index of a blob with these records -/
def hdrsOf (cfg : Cfg) (recs : List Rec) : List RecHeader := blobHeaders cfg.klen (full recs)

/-- the records with the offsets they are written at, starting at `off` -/
def withOff (klen : Nat) : Nat → List Rec → List (Rec × Nat)
  | _, [] => []
  | off, r :: rs => (r, off) :: withOff klen (off + ((recOf klen r).image off).length) rs

theorem recordsOf_full (klen : Nat) (recs : List Rec) : recordsOf klen (full recs) = recs.map (recOf klen) := by
  simp [recordsOf, full, recOf, List.map_map, Function.comp_def]

theorem withOff_fst (klen : Nat) : ∀ (recs : List Rec) (off : Nat), (withOff klen off recs).map (·.1) = recs
  | [], _ => rfl
  | r :: rs, off => by simp [withOff, withOff_fst klen rs]

theorem withOff_length (klen : Nat) : ∀ (recs : List Rec) (off : Nat), (withOff klen off recs).length = recs.length
  | [], _ => rfl
  | r :: rs, off => by simp [withOff, withOff_length klen rs]

theorem scanOf_withOff (klen : Nat) : ∀ (recs : List Rec) (off : Nat),
    (scanOf off (recs.map (recOf klen))).map (·.2) = (withOff klen off recs).map (fun p => hdrOf klen p.1 p.2)
  | [], _ => rfl
  | r :: rs, off => by
    simp only [List.map_cons, scanOf, withOff]
    rw [scanOf_withOff klen rs]
    rfl

theorem serBlobHeader_length : (serBlobHeader).length = blobHeaderSize := by
  simp [serBlobHeader, blobHeaderSize]

theorem blobHeaders_full (klen : Nat) (recs : List Rec) :
    blobHeaders klen (full recs) = (withOff klen blobHeaderSize recs).map (fun p => hdrOf klen p.1 p.2) := by
  unfold blobHeaders
  rw [writtenHeaders_eq, recordsOf_full, serBlobHeader_length, scanOf_withOff]

end Pearl.E2E
