import Pearl.Proofs.BlobLemmas
/-
The demo blobs of `Pearl/Props/C05.lean` (3-byte keys) and the tables of their index headers (`blobHeaders_recs4`,
`blobHeaders_recs3`: offsets and header checksums as numerals).  With `blobBytes_eq_of_headers` a table gives the
image of its blob as a list of serialised headers, meta and data.
-/
namespace Pearl.C05

def sq16 : List UInt8 := (List.range 16).map (fun i => UInt8.ofNat (i * i))

/-- a plain record, an empty record with meta, a deletion marker and a zero-length record -/
def recs4 : List (Rec × List UInt8) :=
  [ ({ key := 1, ts := 101, del := false, mt := none, data := ⟨16, 0⟩ }, sq16),
    ({ key := 2, ts := 102, del := false, mt := some [9, 8], data := ⟨0, 0⟩ }, []),
    ({ key := 1, ts := 103, del := true, mt := none, data := ⟨0, 0⟩ }, []),
    ({ key := 3, ts := 104, del := false, mt := none, data := ⟨0, 0⟩ }, []) ]

def recs3 : List (Rec × List UInt8) :=
  [ ({ key := 2, ts := 102, del := false, mt := some [9, 8], data := ⟨0, 0⟩ }, []),
    ({ key := 1, ts := 103, del := true, mt := none, data := ⟨0, 0⟩ }, []),
    ({ key := 1, ts := 101, del := false, mt := none, data := ⟨16, 0⟩ }, sq16) ]

/-- the blob of `recs3` with the last 5 data bytes missing -/
def tornData : List UInt8 := (blobBytes 3 recs3).take ((blobBytes 3 recs3).length - 5)
/-- the blob of `recs3` cut 10 bytes into the last record's header -/
def tornHeader : List UInt8 := (blobBytes 3 recs3).take ((blobBytes 3 recs3).length - 16 - 8 - 50)

end Pearl.C05

namespace Pearl.BlobDemo
open C05

-- rewriting with `writtenHeaders_eq` first: evaluating `writtenHeaders` itself runs the buffer patching of the write path
-- for every record, which is slow to check
theorem blobHeaders_recs4 : blobHeaders 3 recs4 =
    [ { RecHeader.new [0, 0, 1] 101 8 16 241919832 with blobOffset := 20, headerChecksum := 871514929 },
      { RecHeader.new [0, 0, 2] 102 27 0 0 with blobOffset := 104, headerChecksum := 1222718489 },
      { RecHeader.new [0, 0, 1] 103 8 0 0 with flags := 1, blobOffset := 191, headerChecksum := 2126508689 },
      { RecHeader.new [0, 0, 3] 104 8 0 0 with blobOffset := 259, headerChecksum := 138317093 } ] := by
  rw [blobHeaders, writtenHeaders_eq]
  decide +kernel

theorem blobHeaders_recs3 : blobHeaders 3 recs3 =
    [ { RecHeader.new [0, 0, 2] 102 27 0 0 with blobOffset := 20, headerChecksum := 4232113396 },
      { RecHeader.new [0, 0, 1] 103 8 0 0 with flags := 1, blobOffset := 107, headerChecksum := 1047401762 },
      { RecHeader.new [0, 0, 1] 101 8 16 241919832 with blobOffset := 175, headerChecksum := 2299873655 } ] := by
  rw [blobHeaders, writtenHeaders_eq]
  decide +kernel

theorem blobBytes_recs4_length : (blobBytes 3 recs4).length = 327 := by
  rw [blobBytes_eq_of_headers, blobHeaders_recs4]
  decide +kernel

/-- byte 91 of the blob of `recs4`, the fourth data byte of its first record (the data are bytes 88..103), singled
    out, and the blob with that byte set to `0xAA` -/
theorem blobBytes_recs4_flip :
    blobBytes 3 recs4 = (blobBytes 3 recs4).take 91 ++ [9] ++ (blobBytes 3 recs4).drop 92 ∧
    (blobBytes 3 recs4).set 91 0xAA = (blobBytes 3 recs4).take 91 ++ [0xAA] ++ (blobBytes 3 recs4).drop 92 := by
  rw [blobBytes_eq_of_headers, blobHeaders_recs4]
  decide +kernel

end Pearl.BlobDemo
