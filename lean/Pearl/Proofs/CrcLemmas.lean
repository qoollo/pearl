import Pearl.Model.Crc
/-
The CRC-32C register as a linear map over GF(2) (definitions in Pearl/Model/Crc.lean): a difference confined to a
window of at most 32 bits never cancels (`crc_window_bits`), and the byte-level form of that fact
(`crc32c_window_split`, `crc32c_window_pos`).

The window argument.  The register step is linear (`A_add`, `runD_add`) and injective (`A_inj`, `runD_inj`): of two
inputs that differ only inside a window, the common suffix is undone, and the difference of the registers after the
window is the pointwise xor of the two windows run from register 0.  The direct form `runD` (the input bit enters at
the low end) is the augmented form `runA` (the bit enters at the high end) advanced by 32 steps without input
(`runD_eq`), and advancing keeps a nonzero register nonzero (`Ai_ne_zero`).  In augmented form, from register 0, the
first set input bit sets bit 31, and from then on the lowest set bit of the register (`LowAt`) moves down one
position per step whatever enters above it (`stepA_low`, `runA_low`): at most 31 further steps cannot clear it
(`runA_window`).
-/
namespace Pearl.Crc

theorem bit_xor (a b : Bool) (v : BitVec 32) : bit (a ^^ b) v = bit a v ^^^ bit b v := by
  cases a <;> cases b <;> simp [bit]

theorem A_add (x y : BitVec 32) : A (x ^^^ y) = A x ^^^ A y := by
  unfold A
  rw [BitVec.getLsbD_xor, bit_xor]
  rw [show (x ^^^ y) >>> 1 = x >>> 1 ^^^ y >>> 1 from by
    apply BitVec.eq_of_getLsbD_eq; intro i hi; simp]
  ac_rfl

theorem A_zero : A 0#32 = 0#32 := by decide

theorem shr_zero_of (d : BitVec 32) (h0 : d.getLsbD 0 = false) (h : d >>> 1 = 0#32) : d = 0#32 := by
  apply BitVec.eq_of_getLsbD_eq
  intro i hi
  cases i with
  | zero => simpa using h0
  | succ j =>
    have := congrArg (fun x => x.getLsbD j) h
    simp at this
    simp
    rw [Nat.add_comm] at this
    exact this

theorem A_ne_zero (d : BitVec 32) (h : d ≠ 0#32) : A d ≠ 0#32 := by
  unfold A
  by_cases hl : d.getLsbD 0
  · simp only [hl, bit, ↓reduceIte]
    intro h0
    have := congrArg (fun x => x.getLsbD 31) h0
    simp at this
    exact absurd this (by decide)
  · simp only [hl, bit]
    simp only [Bool.false_eq_true, ↓reduceIte, BitVec.xor_zero]
    intro h0
    exact h (shr_zero_of d (by simpa using hl) h0)


theorem Ai_add (n : Nat) (x y : BitVec 32) : Ai n (x ^^^ y) = Ai n x ^^^ Ai n y := by
  induction n generalizing x y with
  | zero => rfl
  | succ n ih => simp only [Ai, A_add, ih]

theorem Ai_ne_zero (n : Nat) (d : BitVec 32) (h : d ≠ 0#32) : Ai n d ≠ 0#32 := by
  induction n generalizing d with
  | zero => simpa [Ai]
  | succ n ih => simp only [Ai]; exact ih _ (A_ne_zero d h)

theorem Ai_A (n : Nat) (s : BitVec 32) : Ai n (A s) = A (Ai n s) := by
  induction n generalizing s with
  | zero => rfl
  | succ n ih => simp only [Ai, ih]

theorem Ai32_e31 : Ai 32 e31 = A e0 := by decide

theorem Ai32_zero : Ai 32 0#32 = 0#32 := by decide

/-- direct form = augmented form advanced by 32 zero bits -/
theorem runD_eq (sa : BitVec 32) (w : List Bool) : runD (Ai 32 sa) w = Ai 32 (runA sa w) := by
  induction w generalizing sa with
  | nil => rfl
  | cons b w ih =>
    simp only [runD, runA, List.foldl_cons] at *
    have : stepD (Ai 32 sa) b = Ai 32 (stepA sa b) := by
      unfold stepD stepA
      rw [A_add, Ai_add, Ai_A]
      cases b
      · simp [bit, A_zero, Ai32_zero]
      · simp only [bit, ↓reduceIte, Ai32_e31]
    rw [this]; exact ih _

theorem runD_add (a b : BitVec 32) (u v : List Bool) (h : u.length = v.length) :
    runD (a ^^^ b) (List.zipWith (· ^^ ·) u v) = runD a u ^^^ runD b v := by
  induction u generalizing a b v with
  | nil => cases v <;> simp_all [runD]
  | cons x u ih =>
    cases v with
    | nil => simp at h
    | cons y v =>
      simp only [List.zipWith_cons_cons, runD, List.foldl_cons] at *
      have : stepD (a ^^^ b) (x ^^ y) = stepD a x ^^^ stepD b y := by
        unfold stepD; rw [bit_xor, ← A_add]; congr 1; ac_rfl
      rw [this]; exact ih _ _ _ (by simpa using h)


theorem e31_low_fin : ∀ i : Fin 31, e31.getLsbD i.val = false := by decide
theorem e31_low (i : Nat) (h : i < 31) : e31.getLsbD i = false := e31_low_fin ⟨i, h⟩


theorem LowAt_ne_zero {s : BitVec 32} {j : Nat} (h : LowAt s j) : s ≠ 0#32 := by
  intro h0; have := h.1; rw [h0] at this; simp at this

theorem stepA_low (s : BitVec 32) (b : Bool) (j : Nat) (hj : j + 1 < 32) (h : LowAt s (j+1)) :
    LowAt (stepA s b) j := by
  -- bit 0 of `s` is clear, so below bit 31 the step is a plain shift
  have key : ∀ i, i < 31 → (stepA s b).getLsbD i = s.getLsbD (i + 1) := by
    intro i hi
    have hb : (bit b e31).getLsbD i = false := by
      cases b
      · simp [bit]
      · exact e31_low i hi
    simp only [stepA, A, h.2 0 (by omega), bit, Bool.false_eq_true, ↓reduceIte, BitVec.xor_zero,
      BitVec.getLsbD_xor, BitVec.getLsbD_ushiftRight, Nat.add_comm 1 i] at hb ⊢
    rw [hb, Bool.xor_false]
  exact ⟨key j (by omega) ▸ h.1, fun i hi => key i (by omega) ▸ h.2 (i + 1) (by omega)⟩

theorem runA_low (s : BitVec 32) (w : List Bool) (j : Nat) (hj : j < 32) (hw : w.length ≤ j)
    (h : LowAt s j) : LowAt (runA s w) (j - w.length) := by
  induction w generalizing s j with
  | nil => simpa [runA] using h
  | cons b w ih =>
    simp only [List.length_cons] at hw
    obtain ⟨j', rfl⟩ : ∃ j', j = j' + 1 := ⟨j - 1, by omega⟩
    have := ih (stepA s b) j' (by omega) (by omega) (stepA_low s b j' hj h)
    simp only [runA, List.foldl_cons, List.length_cons] at *
    rw [show j' + 1 - (w.length + 1) = j' - w.length from by omega]
    exact this

theorem stepA_zero_false : stepA 0#32 false = 0#32 := by decide
theorem stepA_zero_true : LowAt (stepA 0#32 true) 31 := by
  have : stepA 0#32 true = e31 := by decide
  rw [this]
  exact ⟨by decide, fun i hi => e31_low i hi⟩

theorem runA_window (w : List Bool) (hlen : w.length ≤ 32) (hne : true ∈ w) : runA 0#32 w ≠ 0#32 := by
  induction w with
  | nil => simp at hne
  | cons b w ih =>
    simp only [runA, List.foldl_cons]
    cases b
    · rw [stepA_zero_false]
      exact ih (by simp at hlen; omega) (by simpa using hne)
    · have := runA_low (stepA 0#32 true) w 31 (by omega) (by simp at hlen; omega) stepA_zero_true
      exact LowAt_ne_zero this

theorem A_inj {x y : BitVec 32} (h : A x = A y) : x = y :=
  Classical.byContradiction fun hne =>
    A_ne_zero (x ^^^ y) (mt BitVec.xor_eq_zero_iff.mp hne) (by rw [A_add, h, BitVec.xor_self])

theorem runD_inj {a b : BitVec 32} (l : List Bool) (h : runD a l = runD b l) : a = b := by
  induction l generalizing a b with
  | nil => exact h
  | cons x l ih => exact (BitVec.xor_left_inj _).mp (A_inj (ih h))

/-- two bit strings that agree outside a window of ≤ 32 bits and differ inside it
    leave different CRC registers (for every start value, every prefix, every suffix). -/
theorem crc_window_bits (init : BitVec 32) (p w1 w2 sfx : List Bool)
    (hl : w1.length = w2.length) (h32 : w1.length ≤ 32) (hne : w1 ≠ w2) :
    runD init (p ++ w1 ++ sfx) ≠ runD init (p ++ w2 ++ sfx) := by
  simp only [runD, List.foldl_append]
  generalize List.foldl stepD init p = s0
  intro heq
  -- the suffix is undone; by linearity the difference window alone, run from 0, ends in 0
  have hd := runD_add s0 s0 w1 w2 hl
  -- `← Ai32_zero` writes the zeros as `Ai 32 0`, the start register `runD_eq` speaks of; the last rewrite turns
  -- back what is left of them
  rw [show runD s0 w1 = runD s0 w2 from runD_inj sfx heq, BitVec.xor_self, BitVec.xor_self,
    ← Ai32_zero, runD_eq, Ai32_zero] at hd
  refine Ai_ne_zero 32 _ (runA_window _ (by simp [hl]; omega) ?_) hd
  -- a window that differs has a set bit in the pointwise xor
  apply Classical.byContradiction
  intro hn
  refine hne (List.ext_getElem hl fun i h1 h2 => ?_)
  have : (List.zipWith (· ^^ ·) w1 w2)[i]'(by simp; omega) ≠ true := fun h => hn (h ▸ List.getElem_mem _)
  simpa using this

theorem byteBits_length (b : UInt8) : (byteBits b).length = 8 := rfl

theorem byteBits_inj {a b : UInt8} (h : byteBits a = byteBits b) : a = b := by
  apply UInt8.toBitVec_inj.mp
  apply BitVec.eq_of_getLsbD_eq
  intro i hi
  simp only [byteBits, List.cons.injEq, and_true] at h
  obtain ⟨h0, h1, h2, h3, h4, h5, h6, h7⟩ := h
  have : i = 0 ∨ i = 1 ∨ i = 2 ∨ i = 3 ∨ i = 4 ∨ i = 5 ∨ i = 6 ∨ i = 7 := by omega
  rcases this with rfl | rfl | rfl | rfl | rfl | rfl | rfl | rfl <;> assumption

theorem bitsOf_nil : bitsOf [] = [] := rfl
theorem bitsOf_cons (b : UInt8) (l : List UInt8) : bitsOf (b :: l) = byteBits b ++ bitsOf l := by
  simp [bitsOf]
theorem bitsOf_append (a b : List UInt8) : bitsOf (a ++ b) = bitsOf a ++ bitsOf b := by
  simp [bitsOf]

theorem bitsOf_length (l : List UInt8) : (bitsOf l).length = 8 * l.length := by
  induction l with
  | nil => rfl
  | cons b l ih => rw [bitsOf_cons, List.length_append, ih, byteBits_length, List.length_cons]; omega

theorem bitsOf_inj {a b : List UInt8} (hl : a.length = b.length) (h : bitsOf a = bitsOf b) : a = b := by
  induction a generalizing b with
  | nil => cases b with
    | nil => rfl
    | cons _ _ => simp at hl
  | cons x a ih =>
    cases b with
    | nil => simp at hl
    | cons y b =>
      rw [bitsOf_cons, bitsOf_cons] at h
      have h' := List.append_inj h (by simp [byteBits_length])
      rw [byteBits_inj h'.1, ih (by simpa using hl) h'.2]

theorem crcReg_eq_runD (s : BitVec 32) (l : List UInt8) : crcReg s l = runD s (bitsOf l) := by
  induction l generalizing s with
  | nil => rfl
  | cons b l ih =>
    rw [bitsOf_cons]
    simp only [crcReg, List.foldl_cons, runD, List.foldl_append] at *
    exact ih _

end Pearl.Crc

namespace Pearl
open Crc

theorem crc32c_eq (l : List UInt8) : crc32c l = UInt32.ofBitVec (runD init (bitsOf l) ^^^ xorout) := by
  rw [crc32c, crcReg_eq_runD]

theorem crc32c_ne_of_runD_ne {a b : List UInt8} (h : runD init (bitsOf a) ≠ runD init (bitsOf b)) :
    crc32c a ≠ crc32c b := by
  rw [crc32c_eq, crc32c_eq]
  exact fun he => h ((BitVec.xor_left_inj _).mp (congrArg UInt32.toBitVec he))

theorem crc32c_window_split (p w1 w2 s : List UInt8) (hl : w1.length = w2.length)
    (h4 : w1.length ≤ 4) (hne : w1 ≠ w2) : crc32c (p ++ w1 ++ s) ≠ crc32c (p ++ w2 ++ s) := by
  apply crc32c_ne_of_runD_ne
  simp only [bitsOf_append]
  apply crc_window_bits
  · simp [bitsOf_length, hl]
  · rw [bitsOf_length]; omega
  · intro h; exact hne (bitsOf_inj hl h)

theorem crc32c_window_pos (a b : List UInt8) (hlen : a.length = b.length) (i : Nat)
    (hout : ∀ j, (j < i ∨ i + 4 ≤ j) → a[j]? = b[j]?) (hne : a ≠ b) : crc32c a ≠ crc32c b := by
  have split : ∀ l : List UInt8, l = l.take i ++ (l.drop i).take 4 ++ (l.drop i).drop 4 := fun l => by
    rw [List.append_assoc, List.take_append_drop, List.take_append_drop]
  have hp : a.take i = b.take i := List.ext_getElem? fun j => by
    rw [List.getElem?_take, List.getElem?_take]
    split
    · next hj => exact hout j (Or.inl hj)
    · rfl
  have hs : (a.drop i).drop 4 = (b.drop i).drop 4 := List.ext_getElem? fun j => by
    simp only [List.getElem?_drop]
    exact hout _ (Or.inr (by omega))
  rw [split a, split b, hp, hs]
  refine crc32c_window_split _ _ _ _ (by simp [hlen]) (by simp; omega) fun hw => hne ?_
  rw [split a, split b, hp, hs, hw]

end Pearl
