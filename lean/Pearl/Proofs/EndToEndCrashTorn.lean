import Pearl.Proofs.EndToEndCrashServed
/-
End-to-end crash recovery: the accepted torn tail (finding E8), at the level of one blob file.

* `ReadResult::latest` is associative, so the fold of the read path over the blobs from an accumulator is the fold
  from `NotFound` merged into it (`entryLatest_assoc`, `foldEntries_acc`);
* the read path does not look at the file of a blob before `Entry::load` of the winner: replacing the file (and
  the history variable) of a blob changes its latest entry only in the `file` component
  (`getLatestEntry_refile`); no invariant is needed for this;
* the cut file of a blob whose tail record is cut inside meta / data is `C05.tornFile` (`crash_file_torn`), so
  `C05.torn_tail_general` applies to it;
* the headers of the index of the blob start-up opens: every one but the torn one loads with its original bytes,
  the torn one fails with `Bincode` (`torn_index_loads`).
The second start-up after an accepted torn tail is not here: its scan is `rawRecordsLoad_torn_then` of
`Pearl/Proofs/CrashLemmas.lean`, the statements are `Pearl.E2E.two_crash_silent_loss` and `Pearl.E2E.two_crash_witness` of
`Pearl/Props/EndToEndCrash.lean`.
-/
namespace Pearl.E2E
open Pearl Pearl.BPTree Pearl.Container

/-! ### `ReadResult::latest` is associative -/

theorem entryLatest_assoc (x y z : ReadResult CEntry) :
    entryLatest (entryLatest x y) z = entryLatest x (entryLatest y z) := by
  unfold entryLatest
  by_cases h1 : optGt (entryTs? y) (entryTs? x) = true
  · rw [if_pos h1]
    by_cases h2 : optGt (entryTs? z) (entryTs? y) = true
    · rw [if_pos h2, if_pos (optGt_trans h2 h1)]
    · rw [if_neg h2, if_pos h1]
  · rw [if_neg h1]
    by_cases h2 : optGt (entryTs? z) (entryTs? y) = true
    · rw [if_pos h2]
    · rw [if_neg h2, if_neg h1]
      have h1' : optGt (entryTs? y) (entryTs? x) = false := by simpa using h1
      have h2' : optGt (entryTs? z) (entryTs? y) = false := by simpa using h2
      rw [if_neg (by rw [optGt_neg_trans h2' h1']; simp)]

theorem entryLatest_notFound_left (r : ReadResult CEntry) : entryLatest .notFound r = r := by
  unfold entryLatest
  cases r <;> simp [entryTs?, optGt]

theorem entryLatest_notFound_right (r : ReadResult CEntry) : entryLatest r .notFound = r := by
  unfold entryLatest
  cases r <;> simp [entryTs?, optGt]

/-- the fold over the blobs from an accumulator is the fold from `NotFound`, merged into the accumulator -/
theorem foldEntries_acc (f : CBlob → Except CErr (ReadResult CEntry)) : ∀ (l : List CBlob) (acc : ReadResult CEntry),
    foldEntries f l acc =
      match foldEntries f l .notFound with
      | .error e => .error e
      | .ok y => .ok (entryLatest acc y)
  | [], acc => by simp [foldEntries, entryLatest_notFound_right]
  | b :: l, acc => by
    simp only [foldEntries]
    cases hb : f b with
    | error e => rfl
    | ok r =>
      simp only []
      rw [foldEntries_acc f l (entryLatest acc r), foldEntries_acc f l (entryLatest .notFound r),
        entryLatest_notFound_left]
      cases foldEntries f l .notFound with
      | error e => rfl
      | ok y => simp only [entryLatest_assoc]

/-! ### the read path looks at the file only in `Entry::load` of the winner -/

/-- a blob with another file and another history variable -/
def refile (a : CBlob) (f : List UInt8) (g : List Rec) : CBlob := { a with file := f, ghost := g }

theorem getLatestEntry_refile (cfg : Cfg) (a : CBlob) (f : List UInt8) (g : List Rec) (k : Key) :
    (refile a f g).getLatestEntry cfg k = a.getLatestEntry cfg k ∨
    ∃ h, a.getLatestEntry cfg k = .ok (.found ⟨h, a.file⟩) ∧
      (refile a f g).getLatestEntry cfg k = .ok (.found ⟨h, f⟩) ∧ a.index.getLatest k = some (some h) := by
  have hc : (refile a f g).checkFilter cfg k = a.checkFilter cfg k := rfl
  have hl : ∀ (x : CBlob), x.getLatestEntry cfg k =
      if x.checkFilter cfg k == .notContains then .ok .notFound else x.indexLatest k := fun _ => rfl
  by_cases hn : (a.checkFilter cfg k == .notContains) = true
  · left; rw [hl, hl, hc, if_pos hn, if_pos hn]
  · have e1 : a.getLatestEntry cfg k = a.indexLatest k := by rw [hl, if_neg hn]
    have e2 : (refile a f g).getLatestEntry cfg k = (refile a f g).indexLatest k := by rw [hl, hc, if_neg hn]
    rw [e1, e2]
    have hi : (refile a f g).index.getLatest k = a.index.getLatest k := rfl
    unfold CBlob.indexLatest
    rw [hi]
    cases hg : a.index.getLatest k with
    | none => exact Or.inl rfl
    | some o =>
      cases o with
      | none => exact Or.inl rfl
      | some h =>
        simp only []
        by_cases hd : h.isDeleted = true
        · rw [if_pos hd, if_pos hd]; exact Or.inl rfl
        · rw [if_neg hd, if_neg hd]
          exact Or.inr ⟨h, rfl, rfl, rfl⟩

/-- the cut file of a blob whose record `n` is cut inside meta / data is the torn file of C05 -/
theorem crash_file_torn {cfg : Cfg} {b : CBlob} (hb : BlobInv cfg b) {t n : Nat} (r : Rec)
    (hk : cutKind cfg.klen b.ghost t = .body n) (hr : b.ghost[n]? = some r) :
    ∃ cutBytes, b.file.take t =
        C05.tornFile (recordsOf cfg.klen (full (b.ghost.take n))) (recOf cfg.klen r) cutBytes ∧
      cutBytes <+: serMeta (recOf cfg.klen r).mt ++ (recOf cfg.klen r).data ∧
      cutBytes ≠ serMeta (recOf cfg.klen r).mt ++ (recOf cfg.klen r).data := by
  obtain ⟨hc, hge⟩ := cutIn_of_body hk
  have s : ProducedAt cfg.klen (full b.ghost) n (recOf cfg.klen r) :=
    producedAt cfg.klen (full b.ghost) n r (dataOf r.data) (full_getElem? b.ghost n r hr)
  obtain ⟨htake, hlt⟩ := s.take_cut hc
  have hwf : (recOf cfg.klen r).WF cfg.klen := recordOf_WF cfg.klen r _
  generalize hoff : (blobBytes cfg.klen ((full b.ghost).take n)).length = off at htake hlt hge
  have him := (recOf cfg.klen r).image_length off
  rw [hwf.key] at him
  have hkl : ((recOf cfg.klen r).header.final off).key.length = cfg.klen := hwf.key
  have hX : ((recOf cfg.klen r).image off).take (t - off) =
      serHeader ((recOf cfg.klen r).header.final off) ++
        (serMeta (recOf cfg.klen r).mt ++ (recOf cfg.klen r).data).take (t - off - (57 + cfg.klen)) := by
    rw [image_eq, List.take_append, serHeader_length, hkl,
      List.take_of_length_le (by rw [serHeader_length, hkl]; unfold headerSize at hge; omega)]
  refine ⟨(serMeta (recOf cfg.klen r).mt ++ (recOf cfg.klen r).data).take (t - off - (57 + cfg.klen)), ?_,
    List.take_prefix _ _, ?_⟩
  · unfold C05.tornFile
    rw [hb.file, htake, hX, full_take]
    rw [show appendRecords serBlobHeader (recordsOf cfg.klen ((full b.ghost).take n))
      = blobBytes cfg.klen ((full b.ghost).take n) from rfl, hoff, List.append_assoc]
  · intro he
    have := congrArg List.length he
    rw [List.length_take, List.length_append] at this
    unfold headerSize at hge
    omega

/-! ### what the index of the opened blob points to -/

/-- every header of the index the non-validating start-up builds for the cut blob loads from the cut file with the
    original bytes of its record — except the header of the torn record, whose load fails with `Bincode` -/
theorem torn_index_loads {cfg : Cfg} {b : CBlob} (hb : BlobInv cfg b) {t n : Nat}
    (hk : cutKind cfg.klen b.ghost t = .body n) (h : RecHeader)
    (hh : h ∈ (hdrsOf cfg b.ghost).take (n + 1)) :
    (∃ j r, j < n ∧ b.ghost[j]? = some r ∧ (hdrsOf cfg b.ghost)[j]? = some h ∧
      ∀ t', Fs.contentLen cfg.klen (b.ghost.take n) ≤ t' →
        entryLoad (b.file.take t') h = .ok (serMeta r.mt, if r.del then [] else dataOf r.data)) ∨
    ((hdrsOf cfg b.ghost)[n]? = some h ∧ entryLoad (b.file.take t) h = .error .bincode) := by
  obtain ⟨j, hj, rfl⟩ := List.mem_take_iff_getElem.mp hh
  have hjh' := List.getElem?_eq_getElem (Nat.lt_min.mp hj).2
  have hj := (Nat.lt_min.mp hj).1
  have hn := (cutKind_body hk).2.1
  rcases Nat.lt_or_ge j n with hlt | hge
  · left
    have hjl : j < b.ghost.length := by omega
    refine ⟨j, b.ghost[j], hlt, List.getElem?_eq_getElem hjl, hjh', ?_⟩
    intro t' ht'
    apply entryLoad_of_end_le hb t' j _ _ (List.getElem?_eq_getElem hjl) hjh'
    have := contentLen_take_mono cfg.klen b.ghost (i := j + 1) (j := n) (by omega)
    omega
  · right
    have hjn : j = n := by omega
    subst hjn
    refine ⟨hjh', ?_⟩
    rw [hb.file]
    exact C06.torn_record_unreadable cfg.klen (full b.ghost) j t _ hb.full_ts
      (cutIn_of_body hk).1 hjh'

end Pearl.E2E
