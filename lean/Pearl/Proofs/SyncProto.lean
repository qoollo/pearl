import Pearl.Model.SyncProto
import Pearl.Proofs.Run
/-
The sync request protocol (`Pearl/Model/SyncProto.lean`) by itself: its steps as a relation (`Step`), the invariants `Ctl`,
`Cnt` and `Cover`, the two measures (`measure_step` without the re-check, `mu_step` with it), determinism of the internal
steps from a state at rest and the projection onto `Fs`.  The ghost wrappers that say which exits of the task body re-check
are in `SyncProto3.lean`; headline theorems in `Pearl/Props/C12.lean`.
-/
namespace Pearl
namespace SyncProto

theorem quiescent_iff (s : St) : s.quiescent = true ↔ s.queue = 0 ∧ s.phase = .idle ∧ s.pending = 0 := by
  simp [St.quiescent, and_assoc]

@[simp] theorem run_nil (v : Variant) (limit : Nat) (s : St) : run v limit s [] = some s := rfl

@[simp] theorem run_cons (v : Variant) (limit : Nat) (s : St) (e : Ev) (es : List Ev) :
    run v limit s (e :: es) = (step v limit s e).bind fun t => run v limit t es := rfl

theorem isRun_run (v : Variant) (limit : Nat) : IsRun (step v limit) (run v limit) := ⟨fun _ => rfl, fun _ _ _ => rfl⟩

theorem run_append (v : Variant) (limit : Nat) (s : St) (es fs : List Ev) :
    run v limit s (es ++ fs) = (run v limit s es).bind fun t => run v limit t fs :=
  (isRun_run v limit).append s es fs

/-- the state after a client write (`step … (.write n)` is always enabled) -/
def afterWrite (limit : Nat) (s : St) (n : Nat) : St :=
  { s with
    size := s.size + n
    queue := if shouldTryFsync limit (s.size + n - s.synced) s.flag then s.queue + 1 else s.queue
    blind := if s.phase.blind then s.blind + n else s.blind }

@[simp] theorem step_write (v : Variant) (limit : Nat) (s : St) (n : Nat) :
    step v limit s (.write n) = some (afterWrite limit s n) := rfl

/-- the branches of `step`, one constructor each, with the tests that select the branch as hypotheses -/
inductive Step (v : Variant) (limit : Nat) (s : St) : Ev → St → Prop
  | write (n : Nat) : Step v limit s (.write n) (afterWrite limit s n)
  | append (n : Nat) : Step v limit s (.append n)
      { s with
        size := s.size + n
        pending := if tooMany limit (s.size + n - s.synced) then s.pending + 1 else s.pending
        blind := if s.phase.blind then s.blind + n else s.blind }
  | decide (hp : s.pending ≠ 0) : Step v limit s .decide
      { s with pending := s.pending - 1, queue := if s.flag then s.queue else s.queue + 1 }
  | recvDrop (hq : s.queue ≠ 0) (hh : s.hdl = .running) (ha : v.awaitRunning = false) :
      Step v limit s .recv { s with queue := s.queue - 1 }
  | recvSpawn (hq : s.queue ≠ 0) (hh : s.hdl ≠ .running) (hr : s.hdl = .finished → v.reapFinished = true) :
      Step v limit s .recv { s with queue := s.queue - 1, hdl := .running, phase := .spawned }
  | recvUnreaped (hq : s.queue ≠ 0) (hh : s.hdl = .finished) (hr : v.reapFinished = false) :
      Step v limit s .recv { s with queue := s.queue - 1, hdl := .none }
  | tickReap (hh : s.hdl = .finished) : Step v limit s .tick { s with hdl := .none }
  | tickIdle (hh : s.hdl ≠ .finished) : Step v limit s .tick s
  | casLost (hp : s.phase = .spawned) (hf : s.flag = true) : Step v limit s .cas { s with phase := .returned false }
  | casWon (hp : s.phase = .spawned) (hf : s.flag = false) : Step v limit s .cas { s with flag := true, phase := .held }
  | checkOver (hp : s.phase = .held) (hd : limit < s.dirty) : Step v limit s .check { s with phase := .checked }
  | checkWithin (hp : s.phase = .held) (hd : s.dirty ≤ limit) :
      Step v limit s .check { s with phase := .returned v.guardBeforeCheck }
  | start (hp : s.phase = .checked) : Step v limit s .start { s with phase := .syncing s.size, blind := 0 }
  | completeOk (cap : Nat) (hp : s.phase = .syncing cap) : Step v limit s (.complete true)
      { s with synced := max s.synced cap, durable := max s.durable cap, phase := .returned true }
  | completeFail (cap : Nat) (hp : s.phase = .syncing cap) : Step v limit s (.complete false)
      { s with
        synced := if v.publishOnlyOnSuccess then s.synced else max s.synced cap
        phase := .returned v.resetOnError }
  | release (r : Bool) (hp : s.phase = .returned r) : Step v limit s .release
      { s with flag := if r then false else s.flag, phase := .released }
  | recheckOver (hp : s.phase = .released) (hr : v.recheck = true) (hd : limit < s.dirty) (hf : s.flag = false) :
      Step v limit s .recheck { s with phase := .spawned }
  | recheckDone (hp : s.phase = .released) (hr : v.recheck = true) (hd : limit < s.dirty → s.flag = true) :
      Step v limit s .recheck { s with phase := .done }
  | finish (hp : s.phase = .done ∨ (s.phase = .released ∧ v.recheck = false)) :
      Step v limit s .finish { s with hdl := .finished, phase := .idle }
  | rotate (base : Nat) (hl : s.phase.locked = false) : Step v limit s (.rotate base)
      { s with size := base, synced := base, durable := base, blind := 0, blob := s.blob + 1 }

theorem Step.of_step {v : Variant} {limit : Nat} {s t : St} {e : Ev} (h : step v limit s e = some t) :
    Step v limit s e t := by
  cases e
  case complete ok => cases ok <;> simp only [step] at h <;> split at h <;> cases h <;> constructor <;> assumption
  all_goals simp only [step] at h
  case write n => cases h; exact .write n
  case append n => cases h; exact .append n
  case tick => cases h; split <;> constructor <;> simp_all
  case decide | start | release | rotate =>
    split at h <;> cases h <;> constructor <;> simp_all
  case cas | check | finish =>
    split at h <;> (try split at h) <;> cases h <;> constructor <;> simp_all [tooMany]
  case recv | recheck =>
    split at h <;> (try split at h) <;> (try split at h) <;> cases h <;> constructor <;>
      simp_all [shouldTryFsync, tooMany]

/-! ### the control invariant: flag, handle and phase -/

/-- the variants whose guard is armed before the limit check and resets the flag on every exit (all of
    `Model/SyncProto.lean` but `guardLate` and `resetSkipped`) -/
def Variant.guarded (v : Variant) : Bool := v.guardBeforeCheck && v.resetOnError

structure Ctl (s : St) : Prop where
  /-- the flag is set exactly while a task is between its compare-exchange and its (resetting) exit -/
  flag : s.flag = s.phase.owns
  /-- the worker's handle is unfinished exactly while a task body exists -/
  hdl : s.hdl = .running ↔ s.phase ≠ .idle
  /-- no exit path leaves the flag alone -/
  reset : s.phase ≠ .returned false

theorem ctl_init (base : Nat) : Ctl (init base) := by
  constructor <;> simp [init, Phase.owns]

theorem Ctl.task_of_flag {s : St} (hc : Ctl s) (hf : s.flag = true) : s.phase.owns = true ∧ s.hdl = .running := by
  have ho : s.phase.owns = true := hc.flag ▸ hf
  exact ⟨ho, hc.hdl.2 fun hi => by simp [hi, Phase.owns] at ho⟩

theorem Ctl.clear_at_rest {s : St} (hc : Ctl s) (hq : s.quiescent = true) : s.flag = false ∧ s.hdl ≠ .running := by
  rw [quiescent_iff] at hq
  exact ⟨by rw [hc.flag, hq.2.1]; rfl, fun hr => hc.hdl.1 hr hq.2.1⟩

/-- unfold one step into its branches; closes the disabled ones -/
macro "step_split" h:ident : tactic =>
  `(tactic| (simp only [step] at $h:ident <;> (repeat' (split at $h:ident)) <;>
      (try (simp only [reduceCtorEq] at $h:ident; done)) <;>
      (try (simp only [Option.some.injEq] at $h:ident; subst $h:ident))))

theorem ctl_step {v : Variant} (hv : v.guarded = true) {limit : Nat} {s t : St} {e : Ev}
    (hs : Ctl s) (h : step v limit s e = some t) : Ctl t := by
  obtain ⟨hf, hh, hr⟩ := hs
  simp only [Variant.guarded, Bool.and_eq_true] at hv
  cases Step.of_step h
  case write | append | decide | recvDrop | tickIdle | rotate => exact ⟨hf, hh, hr⟩
  case casLost hp hf' => rw [hp] at hf; cases hf.symm.trans hf'
  case finish hp =>
    have ho : s.phase.owns = false := by rcases hp with hp | ⟨hp, _⟩ <;> rw [hp] <;> rfl
    exact ⟨hf.trans ho, by simp, nofun⟩
  all_goals rename_i hp; constructor <;> simp_all [Phase.owns]

theorem ctl_reach {v : Variant} (hv : v.guarded = true) {limit : Nat} {s : St} (h : Reach v limit s) : Ctl s := by
  obtain ⟨base, evs, h⟩ := h
  exact (isRun_run v limit).reach (fun _ _ _ hs h => ctl_step hv hs h) (ctl_init base) h

theorem ReachOk.reach {v : Variant} {limit : Nat} {s : St} (h : ReachOk v limit s) : Reach v limit s := by
  obtain ⟨base, evs, _, h⟩ := h
  exact ⟨base, evs, h⟩

/-- the size captured by the sync in flight (0 when none is) -/
def Phase.cap : Phase → Nat
  | .syncing cap => cap
  | _ => 0

@[simp] theorem Phase.cap_syncing (c : Nat) : (Phase.syncing c).cap = c := rfl
@[simp] theorem Phase.cap_idle : Phase.idle.cap = 0 := rfl
@[simp] theorem Phase.cap_spawned : Phase.spawned.cap = 0 := rfl
@[simp] theorem Phase.cap_held : Phase.held.cap = 0 := rfl
@[simp] theorem Phase.cap_checked : Phase.checked.cap = 0 := rfl
@[simp] theorem Phase.cap_returned (r : Bool) : (Phase.returned r).cap = 0 := rfl
@[simp] theorem Phase.cap_released : Phase.released.cap = 0 := rfl
@[simp] theorem Phase.cap_done : Phase.done.cap = 0 := rfl

theorem Phase.cap_of_not_locked {p : Phase} (h : p.locked = false) : p.cap = 0 := by
  cases p <;> simp_all [Phase.locked]

structure Cnt (s : St) : Prop where
  synced_le : s.synced ≤ s.durable
  durable_le : s.durable ≤ s.size
  cap_le : s.phase.cap ≤ s.size

theorem cnt_init (base : Nat) : Cnt (init base) := by
  constructor <;> simp [init]

theorem cnt_step {v : Variant} (hv : v.publishOnlyOnSuccess = true) {limit : Nat} {s t : St} {e : Ev}
    (hs : Cnt s) (h : step v limit s e = some t) : Cnt t := by
  obtain ⟨h1, h2, h3⟩ := hs
  cases Step.of_step h
  case decide | recvDrop | recvUnreaped | tickReap | tickIdle => exact ⟨h1, h2, h3⟩
  case write n | append n => exact ⟨h1, Nat.le_add_right_of_le h2, Nat.le_add_right_of_le h3⟩
  case rotate base hl =>
    exact ⟨Nat.le_refl _, Nat.le_refl _, Nat.le_trans (Nat.le_of_eq (Phase.cap_of_not_locked hl)) (Nat.zero_le _)⟩
  case completeOk cap hp | completeFail cap hp =>
    all_goals
      rw [hp] at h3
      constructor <;> simp_all <;> omega
  all_goals exact ⟨h1, h2, by simp⟩

theorem cnt_reach {v : Variant} (hv : v.publishOnlyOnSuccess = true) {limit : Nat} {s : St}
    (h : Reach v limit s) : Cnt s := by
  obtain ⟨base, evs, h⟩ := h
  exact (isRun_run v limit).reach (fun _ _ _ hs h => cnt_step hv hs h) (cnt_init base) h

/-! ### the variants the theorems are about -/

/-- the variants with the flag / handle discipline of /repo and without the re-check -/
def Variant.protoOk (v : Variant) : Bool := v.guardBeforeCheck && v.resetOnError && v.reapFinished && !v.recheck

theorem Variant.guarded_of_protoOk {v : Variant} (h : v.protoOk = true) : v.guarded = true := by
  simp only [Variant.protoOk, Bool.and_eq_true] at h
  simp [Variant.guarded, h.1.1.1, h.1.1.2]

theorem Variant.recheck_of_protoOk {v : Variant} (h : v.protoOk = true) : v.recheck = false := by
  simp only [Variant.protoOk, Bool.and_eq_true, Bool.not_eq_true'] at h
  exact h.2

/-- the candidate repair: re-check after the reset, no request dropped -/
def Variant.repairedOk (v : Variant) : Bool :=
  v.guardBeforeCheck && v.resetOnError && v.reapFinished && v.recheck && v.awaitRunning

/-- flag / handle discipline of the shipped code, with the re-check (`awaitRunning` is free: `recheckOnly`, `repaired`) -/
def Variant.recheckOk (v : Variant) : Bool := v.guardBeforeCheck && v.resetOnError && v.reapFinished && v.recheck

theorem Variant.guarded_of_recheckOk {v : Variant} (h : v.recheckOk = true) : v.guarded = true := by
  simp only [Variant.recheckOk, Bool.and_eq_true] at h
  simp [Variant.guarded, h.1.1.1, h.1.1.2]

theorem Variant.recheck_of_recheckOk {v : Variant} (h : v.recheckOk = true) : v.recheck = true := by
  simp only [Variant.recheckOk, Bool.and_eq_true] at h
  exact h.2

theorem Variant.recheckOk_of_repairedOk {v : Variant} (h : v.repairedOk = true) :
    v.recheckOk = true ∧ v.awaitRunning = true := by
  simp only [Variant.repairedOk, Bool.and_eq_true] at h
  exact ⟨by simp [Variant.recheckOk, h.1], h.2⟩

/-! ### no request is lost, up to the bytes appended while a task is past its size capture -/

/-- a request is queued or about to be sent -/
def Asked (s : St) : Prop := 0 < s.queue ∨ 0 < s.pending

/-- the size the task's last look vouches for: the captured size while `sync_all` is in flight, `d` afterwards -/
def Phase.covered (p : Phase) (d : Nat) : Nat :=
  match p with
  | .syncing cap => cap
  | _ => d

/-- either the un-synced bytes are within `limit + blind`, or something is still going to look at them.  With no task body:
    a queued request or a client call that has not yet decided whether to send one.  With a task past its size capture
    (`Phase.blind`): the sync in flight covers all but the blind bytes, and once it has published, the limit holds up to
    them.  A task that has not yet captured the size will look. -/
def Cover (limit : Nat) (s : St) : Prop :=
  (s.phase = .idle → Asked s ∨ s.size ≤ s.synced + limit + s.blind) ∧
  (s.phase.blind = true → s.size ≤ s.phase.covered (s.synced + limit) + s.blind)

theorem cover_init (limit base : Nat) : Cover limit (init base) :=
  ⟨fun _ => Or.inr (by simp [init]), nofun⟩

theorem cover_step {v : Variant} (hv : v.protoOk = true) {limit : Nat} {s t : St} {e : Ev}
    (hc : Ctl s) (hs : Cover limit s) (hq : e.isFailure = false) (h : step v limit s e = some t) :
    Cover limit t := by
  obtain ⟨hf, hh, hr⟩ := hc
  obtain ⟨hI, hB⟩ := hs
  simp only [Variant.protoOk, Bool.and_eq_true, Bool.not_eq_true'] at hv
  obtain ⟨⟨⟨hv1, hv2⟩, hv3⟩, hv4⟩ := hv
  cases Step.of_step h
  case write n | append n =>
    all_goals
      refine ⟨fun hi => ?_, fun hb => ?_⟩
      · have hfl : s.flag = false := by rw [hf, show s.phase = .idle from hi]; rfl
        simp [Asked, afterWrite, shouldTryFsync, tooMany, hfl, show s.phase = .idle from hi, Phase.blind]
        split <;> omega
      · have := hB hb
        simp only [afterWrite, show s.phase.blind = true from hb, if_true]
        omega
  case tickReap | tickIdle => exact ⟨hI, hB⟩
  case decide =>
    refine ⟨fun hi => Or.inl (Or.inl ?_), hB⟩
    have hfl : s.flag = false := by rw [hf, show s.phase = .idle from hi]; rfl
    simp [hfl]
  case recvDrop _ hh' _ => exact ⟨fun hi => absurd hi (hh.1 hh'), hB⟩
  case rotate base hl =>
    refine ⟨fun _ => Or.inr (by simp), fun hb => ?_⟩
    cases hp : s.phase <;> simp_all [Phase.locked, Phase.blind, Phase.covered]
  case completeFail => cases hq
  case casLost hp hf' => rw [hp] at hf; cases hf.symm.trans hf'
  case recvUnreaped _ _ hr' => rw [hv3] at hr'; cases hr'
  case recheckOver _ hr' _ _ | recheckDone _ hr' _ => all_goals rw [hv4] at hr'; cases hr'
  case recvSpawn | casWon | checkOver => exact ⟨nofun, nofun⟩
  case checkWithin hp hd => exact ⟨nofun, fun _ => by simp only [St.dirty] at hd; simp [Phase.covered]; omega⟩
  case start => exact ⟨nofun, fun _ => by simp [Phase.covered]⟩
  case completeOk cap hp =>
    have := hB (by rw [hp]; rfl)
    rw [hp] at this
    exact ⟨nofun, fun _ => by simp [Phase.covered] at this ⊢; omega⟩
  case release r hp =>
    have := hB (by rw [hp]; rfl)
    rw [hp] at this
    exact ⟨nofun, fun _ => this⟩
  case finish hp =>
    refine ⟨fun _ => Or.inr ?_, nofun⟩
    rcases hp with hp | ⟨hp, _⟩ <;> (have := hB (by rw [hp]; rfl); rw [hp] at this; exact this)

theorem good_run {v : Variant} (hv : v.protoOk = true) {limit : Nat} {s t : St} {evs : List Ev}
    (hc : Ctl s) (hs : Cover limit s) (hq : ∀ e ∈ evs, e.isFailure = false)
    (h : run v limit s evs = some t) : Ctl t ∧ Cover limit t :=
  (isRun_run v limit).induct (P := fun s => Ctl s ∧ Cover limit s) (Q := fun e => e.isFailure = false)
    (fun _ _ _ hs hq h => ⟨ctl_step (Variant.guarded_of_protoOk hv) hs.1 h, cover_step hv hs.1 hs.2 hq h⟩) evs s t ⟨hc, hs⟩ hq h

theorem cover_reachOk {v : Variant} (hv : v.protoOk = true) {limit : Nat} {s : St} (h : ReachOk v limit s) :
    Cover limit s := by
  obtain ⟨base, evs, hq, h⟩ := h
  exact (good_run hv (ctl_init base) (cover_init limit base) hq h).2

theorem blind_step {v : Variant} {limit : Nat} {s t : St} {e : Ev} (h0 : s.blind = 0)
    (hw : ∀ n, e = .write n ∨ e = .append n → s.phase.blind = false ∨ n = 0)
    (h : step v limit s e = some t) : t.blind = 0 := by
  cases Step.of_step h
  case write n | append n => 
    all_goals
      rcases hw n (by simp) with hb | rfl <;> simp [afterWrite, *]
  all_goals first | exact h0 | rfl

theorem blind_run {v : Variant} {limit : Nat} : ∀ (evs : List Ev) (s t : St), s.blind = 0 →
    noBlindWrite v limit s evs = true → run v limit s evs = some t → t.blind = 0 := by
  intro evs
  induction evs with
  | nil => intro s t h0 _ h; simp at h; exact h ▸ h0
  | cons e es ih =>
    intro s t h0 hn h
    obtain ⟨u, hst, h⟩ := (isRun_run v limit).cons_some h
    simp only [noBlindWrite, hst, Bool.and_eq_true] at hn
    refine ih u t (blind_step h0 ?_ hst) hn.2 h
    intro n hn'
    have := hn.1
    rcases hn' with rfl | rfl <;>
      · simp only [Bool.or_eq_true, Bool.not_eq_true', beq_iff_eq] at this
        exact this

/-! ### with the re-check: window (b) as an executable check of a schedule -/

/-- no `recv` of the schedule meets an unfinished handle while the task is past its last re-check -/
def noLateDrop (v : Variant) (limit : Nat) : St → List Ev → Bool
  | _, [] => true
  | s, e :: es =>
    (match e with
      | .recv => !(s.hdl == .running && s.phase == .done)
      | _ => true) &&
    (match step v limit s e with
      | some t => noLateDrop v limit t es
      | none => true)

theorem noLateDrop_split {v : Variant} {limit : Nat} : ∀ (pre : List Ev) (s t : St) (post : List Ev),
    noLateDrop v limit s (pre ++ .recv :: post) = true → run v limit s pre = some t →
    ¬ (t.hdl = .running ∧ t.phase = .done) := by
  intro pre
  induction pre with
  | nil =>
    intro s t post hn hr
    simp only [run_nil, Option.some.injEq] at hr
    subst hr
    simp only [List.nil_append, noLateDrop, Bool.and_eq_true, Bool.not_eq_true'] at hn
    intro hd
    simp [hd.1, hd.2] at hn
  | cons e es ih =>
    intro s t post hn hr
    obtain ⟨u, hst, hr⟩ := (isRun_run v limit).cons_some hr
    simp only [List.cons_append, noLateDrop, hst, Bool.and_eq_true] at hn
    exact ih u t post hn.2 hr

/-! ### progress: the protocol comes to rest by itself -/

theorem next_internal {v : Variant} {s : St} {e : Ev} (h : next v s = some e) :
    e.internal = true ∧ e.isFailure = false := by
  unfold next at h
  split at h
  · simp at h; subst h; simp [Ev.internal, Ev.isFailure]
  · cases hp : s.phase <;> simp only [hp] at h <;> (try split at h) <;> simp at h <;> subst h <;>
      simp [Ev.internal, Ev.isFailure]

theorem next_enabled {v : Variant} (ha : v.awaitRunning = false) (limit : Nat) {s : St} {e : Ev}
    (h : next v s = some e) : (step v limit s e).isSome = true := by
  unfold next at h
  split at h
  · rename_i hpd
    simp at h; subst h
    have : ¬ s.pending = 0 := hpd
    simp [step, this]
  · cases hp : s.phase <;> simp only [hp] at h <;> (try split at h) <;> simp at h <;> subst h <;>
      simp [step, hp]
    · rename_i hq
      simp only [hq, if_false]
      cases s.hdl <;> simp [ha]
      split <;> simp
    · split <;> simp
    · split <;> simp
    · rename_i hr
      simp only [hr, if_true]
      split <;> simp
    · rename_i hr
      simpa using hr

theorem next_none_iff (v : Variant) (s : St) : next v s = none ↔ s.quiescent = true := by
  rw [quiescent_iff]
  unfold next
  by_cases hpd : s.pending = 0 <;> cases s.phase <;> simp [hpd]
  split <;> simp

theorem measure_step {v : Variant} (hr : v.recheck = false) {limit : Nat} {s t : St} {e : Ev}
    (hi : e.internal = true) (h : step v limit s e = some t) : t.measure < s.measure := by
  cases e <;> simp only [Ev.internal, Bool.false_eq_true] at hi <;> step_split h <;>
    simp_all [St.measure, Phase.rank] <;> omega

/-- 1 when the task will go round the loop once more (the re-check is ahead and will find the blob over the limit) -/
def jump (limit : Nat) (look : Bool) (s : St) : Nat :=
  match s.phase with
  | .syncing cap => if s.size - max s.synced cap > limit then 1 else 0
  | .returned _ | .released => if look = true ∧ s.size - s.synced > limit then 1 else 0
  | _ => 0

/-- a bound on the number of internal steps (every sync succeeding) from a state, with the re-check -/
def St.measureR (limit : Nat) (s : St) : Nat := 8 * s.queue + 9 * s.pending + s.phase.rank + 6 * jump limit true s

/-- the measure with the re-check.  `look` = "on the exit path the task is on, the re-check is still ahead": `true` for `step`
    itself, a ghost of the wrappers otherwise.  `St.measureR limit s`, `GSt.measure c limit g` and `MSt.measure m limit k` are
    this body at `look := true`, `g.look c`, `k.look m` -/
def mu (limit : Nat) (look : Bool) (s : St) : Nat :=
  8 * s.queue + 9 * s.pending + s.phase.rank + 6 * jump limit look s

/-- every internal step that is not a failing `sync_all` lowers the measure; `lk` / `lk'` = "the re-check is ahead" before
    and after the step.  `hrel`: where `step` does re-check, it was ahead; `h1`, `h2`: a successful sync puts it ahead, the
    compare-exchange may set it either way, no other step changes it (what `look_mghost` delivers for the wrappers) -/
theorem mu_step {w : Variant} {limit : Nat} {s t : St} {e : Ev} {lk lk' : Bool}
    (hc : Ctl s) (hi : e.internal = true) (hq : e.isFailure = false) (h : step w limit s e = some t)
    (hrel : s.phase = .released → w.recheck = true → lk = true)
    (h1 : e = .complete true → lk' = true) (h2 : (∀ ok, e ≠ .complete ok) → e ≠ .cas → lk' = lk) :
    mu limit lk' t < mu limit lk s := by
  obtain ⟨hf, hh, hr⟩ := hc
  cases Step.of_step h
  case write | append | tickReap | tickIdle | rotate => cases hi
  case completeFail => cases hq
  case casLost hp hf' => rw [hp] at hf; cases hf.symm.trans hf'
  case casWon hp _ => simp [mu, jump, Phase.rank, hp]
  case completeOk cap hp => obtain rfl := h1 rfl; simp [mu, jump, Phase.rank, hp]
  all_goals obtain rfl := h2 (by simp) (by simp)
  case finish hp => rcases hp with hp | ⟨hp, _⟩ <;> simp [mu, jump, Phase.rank, hp] <;> omega
  case recvSpawn hq' hh' _ =>
    have hp : s.phase = .idle := Classical.byContradiction fun hp => hh' (hh.2 hp)
    simp [mu, jump, Phase.rank, hp]; omega
  all_goals
    simp_all [mu, jump, Phase.rank, St.dirty] <;> (try split) <;> omega

theorem settle_of_next_none {v : Variant} {limit : Nat} {s : St} (h : next v s = none) (fuel : Nat) :
    settle v limit fuel s = s := by
  cases fuel <;> simp [settle, h]

theorem settle_add (v : Variant) (limit : Nat) : ∀ (a b : Nat) (s : St),
    settle v limit (a + b) s = settle v limit b (settle v limit a s) := by
  intro a
  induction a with
  | zero => intro b s; simp [settle]
  | succ a ih =>
    intro b s
    rw [show a + 1 + b = (a + b) + 1 by omega]
    cases hn : next v s with
    | none => simp [settle, hn, settle_of_next_none hn]
    | some e =>
      cases ht : step v limit s e with
      | none =>
        simp only [settle, hn, ht]
        cases b <;> simp [settle, hn, ht]
      | some t => simp [settle, hn, ht, ih]

theorem settle_stable {v : Variant} {limit : Nat} {a : Nat} {s : St}
    (h : (settle v limit a s).quiescent = true) {b : Nat} (hab : a ≤ b) :
    settle v limit b s = settle v limit a s := by
  obtain ⟨k, rfl⟩ := Nat.exists_eq_add_of_le hab
  rw [settle_add, settle_of_next_none ((next_none_iff _ _).2 h)]

/-! ### determinism of the internal steps once at most one request is around -/

/-- at most one request, and none while a task body exists -/
def Lone (s : St) : Prop := s.queue ≤ 1 ∧ (s.queue = 0 ∨ s.phase = .idle) ∧ s.pending = 0

theorem det_step {v : Variant} {limit : Nat} {s t : St} {e : Ev} (hl : Lone s)
    (hi : e.internal = true) (hf : e.isFailure = false) (h : step v limit s e = some t) :
    next v s = some e ∧ Lone t := by
  obtain ⟨h1, h2, h3⟩ := hl
  cases Step.of_step h <;> try cases hi
  case completeFail => cases hf
  case finish hp => rcases hp with hp | ⟨hp, hr⟩ <;> simp_all [next, Lone]
  all_goals simp_all [next, Lone] <;> omega

theorem run_eq_settle {v : Variant} {limit : Nat} : ∀ (evs : List Ev) (s t : St), Lone s →
    (∀ e ∈ evs, e.internal = true ∧ e.isFailure = false) → run v limit s evs = some t →
    settle v limit evs.length s = t := by
  intro evs
  induction evs with
  | nil => intro s t _ _ h; simpa [settle] using h
  | cons e es ih =>
    intro s t hl hq h
    obtain ⟨u, hst, h⟩ := (isRun_run v limit).cons_some h
    have he := hq e (by simp)
    obtain ⟨hn, hlu⟩ := det_step hl he.1 he.2 hst
    simp only [List.length_cons, settle, hn, hst]
    exact ih u t hlu (fun e he => hq e (by simp [he])) h

theorem internal_run_unique {v : Variant} {limit : Nat} {evs : List Ev} {s t : St} (hl : Lone s)
    (hq : ∀ e ∈ evs, e.internal = true ∧ e.isFailure = false) (h : run v limit s evs = some t)
    (ht : t.quiescent = true) {fuel : Nat} (hfuel : evs.length ≤ fuel) : settle v limit fuel s = t := by
  have h1 := run_eq_settle evs s t hl hq h
  rw [← h1] at ht ⊢
  exact settle_stable ht hfuel

/-! ### one write from a state at rest -/

theorem write_as_append_decide (v : Variant) (limit : Nat) (s : St) (n : Nat) :
    step v limit s (.write n) =
      if tooMany limit (s.size + n - s.synced) then run v limit s [.append n, .decide]
      else step v limit s (.append n) := by
  cases hov : tooMany limit (s.size + n - s.synced) <;> cases hf : s.flag <;>
    simp [step, run, shouldTryFsync, hov, hf]

theorem lone_afterWrite {limit : Nat} {s : St} (hq : s.quiescent = true) (n : Nat) : Lone (afterWrite limit s n) := by
  rw [quiescent_iff] at hq
  simp only [Lone, afterWrite, hq.1, hq.2.1, hq.2.2]
  split <;> simp

/-- the schedule the protocol follows by itself after a write that passed the limit -/
def syncSchedule : List Ev := [.recv, .cas, .check, .start, .complete true, .release, .finish]

/-- the schedule the protocol follows by itself after a write that passed the limit: the sync, then the re-check (which
    finds nothing: the capture included the write) -/
def syncScheduleR : List Ev := [.recv, .cas, .check, .start, .complete true, .release, .recheck, .finish]

theorem write_over_limit_syncs {v : Variant} (hv : v.protoOk = true) {limit : Nat} {s : St} (hc : Ctl s)
    (hq : s.quiescent = true) {n : Nat} (hover : s.size + n - s.synced > limit) :
    ∃ t u, run v limit s [.write n, .recv, .cas, .check, .start] = some t ∧
      t.phase = .syncing (s.size + n) ∧ t.flag = true ∧ t.hdl = .running ∧
      run v limit t [.complete true, .release, .finish] = some u ∧
      u.quiescent = true ∧ u.flag = false ∧ u.hdl = .finished ∧
      u.size = s.size + n ∧ u.synced = max s.synced (s.size + n) ∧ u.blob = s.blob := by
  obtain ⟨hf, hh, hr⟩ := hc
  simp only [Variant.protoOk, Bool.and_eq_true, Bool.not_eq_true'] at hv
  obtain ⟨⟨⟨hv1, hv2⟩, hv3⟩, hv4⟩ := hv
  rw [quiescent_iff] at hq
  obtain ⟨hq1, hq2, hq3⟩ := hq
  obtain ⟨size, synced, flag, hdl, phase, queue, blob, durable, blind, pending⟩ := s
  simp only at hq1 hq2 hq3 hover hf hh
  subst hq1 hq2 hq3
  simp only [Phase.owns] at hf
  subst hf
  have hlt : limit < size + n - synced := hover
  cases hdl
  · simp [run, step, shouldTryFsync, tooMany, St.dirty, Phase.blind, hlt, St.quiescent, hv4]
  · simp at hh
  · simp [run, step, shouldTryFsync, tooMany, St.dirty, Phase.blind, hlt, St.quiescent, hv3, hv4]

theorem dirty_zero_of_synced_max {u : St} {a b : Nat} (h1 : u.size = b) (h2 : u.synced = max a b) : u.dirty = 0 := by
  simp only [St.dirty, h1, h2]; omega

theorem write_within_limit_rests {limit : Nat} {s : St} (hq : s.quiescent = true) {n : Nat}
    (hover : ¬ s.size + n - s.synced > limit) :
    (afterWrite limit s n).quiescent = true ∧ (afterWrite limit s n).synced = s.synced := by
  rw [quiescent_iff] at hq
  have : decide (s.size + n - s.synced > limit) = false := by simpa using hover
  simp [afterWrite, St.quiescent, shouldTryFsync, tooMany, this, hq.1, hq.2.1, hq.2.2]

theorem run_write_append {v : Variant} {limit : Nat} {s t u : St} {n : Nat} {a b : List Ev}
    (h1 : run v limit s (.write n :: a) = some t) (h2 : run v limit t b = some u) :
    run v limit (afterWrite limit s n) (a ++ b) = some u := by
  simp only [run_cons, step_write, Option.bind_some] at h1
  rw [run_append, h1]; exact h2

/-- the internal, failure-free continuation of a write from a state at rest is forced (`internal_run_unique`), so one
    schedule `sched` that syncs an over-limit write decides what every such continuation ends in -/
theorem projection_of_schedule {v : Variant} {limit : Nat} {s : St} (hc : Ctl s) (hq : s.quiescent = true) (n : Nat)
    {evs : List Ev} {t : St} (hint : ∀ e ∈ evs, e.internal = true ∧ e.isFailure = false)
    (hrun : run v limit s (.write n :: evs) = some t) (htq : t.quiescent = true)
    {sched : List Ev} (hsched : ∀ e ∈ sched, e.internal = true ∧ e.isFailure = false)
    (hsync : s.size + n - s.synced > limit → ∃ u, run v limit (afterWrite limit s n) sched = some u ∧
      u.quiescent = true ∧ u.flag = false ∧ u.size = s.size + n ∧ u.synced = max s.synced (s.size + n) ∧
      u.blob = s.blob) :
    (t.size, t.synced) = checkEffect limit (s.size + n) s.synced ∧ t.flag = false ∧ t.blob = s.blob := by
  simp only [run_cons, step_write, Option.bind_some] at hrun
  have hl := lone_afterWrite (limit := limit) hq n
  have huniq := internal_run_unique hl hint hrun htq (Nat.le_add_right _ sched.length)
  by_cases hover : s.size + n - s.synced > limit
  · obtain ⟨u, h1, h2, h3, h4, h5, h6⟩ := hsync hover
    obtain rfl : t = u := by rw [← huniq, internal_run_unique hl hsched h1 h2 (Nat.le_add_left _ _)]
    simp [checkEffect, hover, h3, h4, h5, h6]
  · obtain ⟨hrest, _⟩ := write_within_limit_rests hq hover
    obtain rfl : t = afterWrite limit s n := by
      rw [← huniq, settle_of_next_none ((next_none_iff _ _).2 hrest)]
    simp [checkEffect, hover, afterWrite, (hc.clear_at_rest hq).1]

theorem internal_step_keeps {v : Variant} {limit : Nat} {s t : St} {e : Ev} (hi : e.internal = true)
    (h : step v limit s e = some t) : t.size = s.size ∧ t.blob = s.blob ∧ t.blind ≤ s.blind := by
  cases Step.of_step h <;> first | exact ⟨rfl, rfl, Nat.le_refl _⟩ | exact ⟨rfl, rfl, Nat.zero_le _⟩ | cases hi

theorem internal_run_keeps {v : Variant} {limit : Nat} {s t : St} {evs : List Ev}
    (hi : ∀ e ∈ evs, e.internal = true) (h : run v limit s evs = some t) :
    t.size = s.size ∧ t.blob = s.blob ∧ t.blind ≤ s.blind := by
  have := (isRun_run v limit).induct
    (P := fun u => u.size = s.size ∧ u.blob = s.blob ∧ u.blind ≤ s.blind) (Q := fun e => e.internal = true)
    (fun a e b ha hq hst => by
      have := internal_step_keeps hq hst
      exact ⟨this.1.trans ha.1, this.2.1.trans ha.2.1, Nat.le_trans this.2.2 ha.2.2⟩)
    evs s t ⟨rfl, rfl, Nat.le_refl _⟩ hi h
  exact this

/-! ### a flag nobody owns stays set for ever -/

/-- at rest with `fsync_in_progress` set: what the seeded variants `guardLate` and `resetSkipped` reach -/
def Stuck (s : St) : Prop := s.flag = true ∧ s.phase = .idle ∧ s.queue = 0

theorem stuck_step {v : Variant} {limit : Nat} {s t : St} {e : Ev} (hs : Stuck s)
    (h : step v limit s e = some t) : Stuck t ∧ e ≠ .start ∧ e ≠ .recv := by
  obtain ⟨h1, h2, h3⟩ := hs
  cases Step.of_step h <;> simp_all [Stuck, afterWrite, shouldTryFsync]

theorem stuck_run {v : Variant} {limit : Nat} {evs : List Ev} : ∀ {s t : St}, Stuck s → run v limit s evs = some t →
    Stuck t ∧ .start ∉ evs ∧ .recv ∉ evs := by
  induction evs with
  | nil => intro s t hs h; simp at h; exact ⟨h ▸ hs, by simp⟩
  | cons e es ih =>
    intro s t hs h
    obtain ⟨u, hst, h⟩ := (isRun_run v limit).cons_some h
    obtain ⟨hu, h1, h2⟩ := stuck_step hs hst
    obtain ⟨ht, h3, h4⟩ := ih hu h
    exact ⟨ht, by simp [h1.symm, h3], by simp [h2.symm, h4]⟩

end SyncProto
end Pearl
