import Pearl.Model.Driver
import Pearl.Proofs.AcctRuns
import Pearl.Proofs.BPTreeBytesLemmas
import Pearl.Proofs.EndToEndIndex
/-
The accounting component of the correspondence driver is a run of `Acct.step`.

`Driver.step` answers `fcounts` from `d.acct` (`AcctScript.showFcounts`).  Whatever script is fed to the driver,
`d.acct.st` is `Acct.run c dup ops` for the configuration `c` of the current scenario and some list `ops` of
`Acct.AOp`s, so `Acct.inv_run` (and with it `acct_inv_run` and every theorem of `Props/C15.lean` stated over
`Acct.run`) applies to every state the driver prints from (`Driver.acct_is_run`, `Driver.acct_inv`).

Second half: the `idxLen` the driver runs `Acct` with is the length of the index file image of the L4 byte model
(`AcctScript.idxLenReal_eq_image`): the size of an index file depends on the in-memory index only through its shape
(`BPTree.shape`: the keys with the number of headers under each; `packLeaves_shape`, `leafTable_shape`, `fileSize_shape`),
and `AcctScript.inMemOf` has the shape of the map the image is built from.
-/
namespace Pearl
namespace AcctScript

/-- the state is reachable in the proved model, under the configuration the state itself carries -/
def AD.Good (a : AD) : Prop := ∃ ops : List Acct.AOp, a.st = Acct.run a.cfg a.dup ops

theorem good_default : AD.Good {} := ⟨[], rfl⟩

theorem good_fresh (toks0 : List String) : AD.Good (fresh toks0) := ⟨[], rfl⟩

/-- every step of the accounting state is a (possibly empty) sequence of `Acct.step`s or the start of a new
    scenario -/
theorem track_cases (a : AD) (toks0 : List String) (out : String) :
    track a toks0 out = fresh toks0 ∨
      ((track a toks0 out).st = Acct.runFrom a.cfg a.st (plan a toks0 out).ops ∧
        (track a toks0 out).cfg = a.cfg ∧ (track a toks0 out).dup = a.dup) := by
  unfold track
  split
  · exact .inl rfl
  · exact .inr ⟨rfl, rfl, rfl⟩

theorem good_track {a : AD} (h : a.Good) (toks0 : List String) (out : String) : (track a toks0 out).Good := by
  rcases track_cases a toks0 out with e | ⟨hst, hcfg, hdup⟩
  · rw [e]; exact good_fresh toks0
  · obtain ⟨ops, hops⟩ := h
    refine ⟨ops ++ (plan a toks0 out).ops, ?_⟩
    rw [hst, hcfg, hdup, hops]
    exact (Acct.runFrom_append _ _ _ _).symm

end AcctScript

namespace Driver

theorem step_acct (d : DState) (line : String) :
    (step d line).1.acct = d.acct ∨
      (step d line).1.acct = AcctScript.track d.acct (acctToks line) (stepL3 d line).2 := by
  unfold step
  simp only []
  split
  · exact .inl rfl
  · exact .inr rfl

theorem step_fcounts (d : DState) (line : String)
    (h : (acctToks line).filter (fun t => !t.startsWith "@") = ["fcounts"]) :
    step d line = (d, AcctScript.showFcounts d.acct) := by
  unfold step
  simp only [h]

theorem step_other (d : DState) (line : String)
    (h : (acctToks line).filter (fun t => !t.startsWith "@") ≠ ["fcounts"]) :
    (step d line).2 = (stepL3 d line).2 ∧
      (step d line).1 = { (stepL3 d line).1 with acct := AcctScript.track d.acct (acctToks line) (stepL3 d line).2 } := by
  unfold step
  simp only []   -- the match is decided by `h`
  exact ⟨trivial, trivial⟩

theorem good_step {d : DState} (h : d.acct.Good) (line : String) : (step d line).1.acct.Good := by
  rcases step_acct d line with e | e
  · rw [e]; exact h
  · rw [e]; exact AcctScript.good_track h _ _

/-- the driver state after a whole script (`Main.loop` feeds the non-empty, non-comment lines of its input to
    `Driver.step`, starting from the default state) -/
def runScript (lines : List String) : DState := lines.foldl (fun d l => (step d l).1) {}

theorem good_foldl {d : DState} (h : d.acct.Good) (lines : List String) :
    (lines.foldl (fun d l => (step d l).1) d).acct.Good := by
  induction lines generalizing d with
  | nil => exact h
  | cons l ls ih => exact ih (good_step h l)

/-- **the driver's accounting component is a run of `Acct.step`** — for every script, under the configuration
    (`klen`, real `idxLen`) and `allow_duplicates` setting of the scenario the driver is in -/
theorem acct_is_run (lines : List String) :
    ∃ ops : List Acct.AOp,
      (runScript lines).acct.st = Acct.run (runScript lines).acct.cfg (runScript lines).acct.dup ops :=
  good_foldl AcctScript.good_default lines

/-- so the structural invariant `Acct.Inv` holds of every state `fcounts` is printed from -/
theorem acct_inv (lines : List String) :
    Acct.Inv (runScript lines).acct.cfg (runScript lines).acct.st := by
  obtain ⟨ops, h⟩ := acct_is_run lines
  rw [h]
  exact Acct.inv_run _ _ ops

end Driver

/-! ### `idxLen` of the driver is the length of the L4 byte image

`AcctScript.idxLenReal` is `IndexFile.fileSize` of the serializer model run on a map that has the right SHAPE (the keys
ascending, each with as many headers as the blob has records of that key).  The file size depends on the shape only
(`fileSize_shape`), the byte image of the index file the L4 driver compares with the real `.index` files
(`Driver.indexImage`) is built from a map of that shape, and its length is `fileSize` (`build_bytes_length`, C09). -/

namespace BPTree

/-- keys with the number of headers under each -/
def shape {H : Type} (m : InMem H) : List (Nat × Nat) := m.map fun kv => (kv.1, kv.2.length)

theorem packLeaves_shape {H H' : Type} (p : Params) :
    ∀ (m : InMem H) (m' : InMem H'), shape m = shape m' →
      ∀ o r k mo, packLeaves p m o r k mo = packLeaves p m' o r k mo
  | [], [], _, _, _, _, _ => rfl
  | [], _ :: _, h, _, _, _, _ => by simp [shape] at h
  | _ :: _, [], h, _, _, _, _ => by simp [shape] at h
  | (k, v) :: rest, (k', v') :: rest', h, o, r, mk, mo => by
    simp only [shape, List.map_cons, List.cons.injEq, Prod.mk.injEq] at h
    obtain ⟨⟨hk, hv⟩, hr⟩ := h
    subst hk
    simp only [packLeaves, hv]
    rw [packLeaves_shape p rest rest' hr, packLeaves_shape p rest rest' hr]

theorem leafTable_shape {H H' : Type} (p : Params) (m : InMem H) (m' : InMem H') (h : shape m = shape m') :
    leafTable p m = leafTable p m' := by
  cases m with
  | nil => cases m' with
    | nil => rfl
    | cons _ _ => simp [shape] at h
  | cons a rest => cases m' with
    | nil => simp [shape] at h
    | cons a' rest' =>
      obtain ⟨k, v⟩ := a
      obtain ⟨k', v'⟩ := a'
      have hk : k = k' := by
        simp only [shape, List.map_cons, List.cons.injEq, Prod.mk.injEq] at h
        exact h.1.1
      subst hk
      simp only [leafTable]
      exact packLeaves_shape p _ _ h _ _ _ _

theorem leafArray_length {H : Type} : ∀ m : InMem H, (leafArray m).length = ((shape m).map (·.2)).sum
  | [] => rfl
  | kv :: rest => by
    have ih := leafArray_length rest
    simp only [leafArray, shape, List.flatMap_cons, List.length_append, List.length_reverse, List.map_cons,
      List.sum_cons] at ih ⊢
    rw [ih]

/-- the size of the index file depends on the in-memory index only through its shape -/
theorem fileSize_shape {H H' : Type} (p : Params) (metaLen : Nat) (m : InMem H) (m' : InMem H')
    (h : shape m = shape m') : (build p metaLen m).fileSize = (build p metaLen m').fileSize := by
  simp only [IndexFile.fileSize, IndexFile.leavesStart, IndexFile.treeStart, build, leafTable_shape p m m' h,
    leafArray_length, h]

end BPTree

namespace AcctScript
open BPTree

theorem insKey_eq (k : Nat) (l : List Nat) : Driver.insertKeySorted k l = insKey k l := by
  induction l with
  | nil => rfl
  | cons x xs ih => simp only [Driver.insertKeySorted, insKey, ih]

theorem foldl_insertAsc_length (l : List (Rec × RawHeader)) :
    ∀ acc, (l.foldl (fun v x => Driver.insertAsc x v) acc).length = acc.length + l.length := by
  induction l with
  | nil => intro acc; rfl
  | cons x xs ih =>
    intro acc
    simp only [List.foldl_cons, List.length_cons]
    rw [ih]
    have : (Driver.insertAsc x acc).length = acc.length + 1 := by
      have h := List.takeWhile_append_dropWhile (p := fun y => decide (y.1.ts ≤ x.1.ts)) (l := acc)
      have hl := congrArg List.length h
      simp only [Driver.insertAsc, List.length_append, List.length_cons] at hl ⊢
      omega
    omega

/-- keys of a list of pairs, folded into the sorted key list: only the first components matter -/
theorem foldl_keys_pairs {β : Type} (ps : List (Rec × β)) (acc : List Nat) :
    ps.foldl (fun ks p => Driver.insertKeySorted p.1.key ks) acc =
      (ps.map (·.1)).foldl (fun ks r => insKey r.key ks) acc := by
  rw [List.foldl_map]
  simp only [insKey_eq]

theorem filter_pairs_length {β : Type} (ps : List (Rec × β)) (k : Nat) :
    (ps.filter (fun p => p.1.key == k)).length = ((ps.map (·.1)).filter (fun r => r.key == k)).length := by
  rw [List.filter_map, List.length_map]
  rfl

/-- **the `idxLen` the driver runs `Acct` with is the length of the index file image of the L4 byte model**
    (`Driver.indexImage` is what the `indexsum` correspondence compares with the real `.index` files, byte by byte up
    to the filter section and the hash) -/
theorem idxLenReal_eq_image (klen : Nat) (hK : klen ≤ 2032) (b : Blob) (metaLen : Nat) :
    (Driver.indexImage klen b metaLen).length = idxLenReal klen metaLen b.recs := by
  unfold Driver.indexImage idxLenReal
  simp only [List.length_map]
  have hlen := build_bytes_length klen hK
  generalize hw : (b.recs.map fun r => (r, genData r.data.len r.data.seed)) = withData
  have hfull : withData = E2E.full b.recs := by rw [← hw]; rfl
  generalize hp : ((b.recs.zip (blobHeaders klen withData)).map fun x =>
      match x with | (r, h) => (r, Driver.rawOf h r.key)) = pairs
  have hfst : pairs.map (·.1) = b.recs := by
    rw [← hp, List.map_map]
    have : ((fun x : Rec × RawHeader => x.1) ∘ fun x : Rec × RecHeader =>
        match x with | (r, h) => (r, Driver.rawOf h r.key)) = fun x => x.1 := by
      funext x; obtain ⟨r, h⟩ := x; rfl
    rw [this]
    apply List.map_fst_zip
    rw [hfull, E2E.blobHeaders_full, List.length_map, E2E.withOff_length]
    exact Nat.le_refl _
  have h := hlen
    ((pairs.foldl (fun ks p => Driver.insertKeySorted p.1.key ks) []).map fun k =>
      (k, ((pairs.filter (fun p => p.1.key == k)).foldl (fun v x => Driver.insertAsc x v) []).map (·.2)))
    (List.replicate metaLen 0) (List.replicate 32 0) (blobBytes klen withData).length (by simp)
  rw [List.length_replicate] at h
  rw [h]
  apply fileSize_shape
  simp only [shape, inMemOf, List.map_map, foldl_keys_pairs, hfst]
  apply List.map_congr_left
  intro k _
  simp only [Function.comp_def, List.length_map, foldl_insertAsc_length, List.length_nil, Nat.zero_add,
    filter_pairs_length, hfst]

/-- the configuration the driver steps `Acct` with, spelled out -/
theorem cfg_idxLen (a : AD) (recs : List Rec) :
    a.cfg.idxLen recs = (build (Params.real a.klen) (a.metaLen.getD 0) (inMemOf recs)).fileSize := rfl

end AcctScript
end Pearl
