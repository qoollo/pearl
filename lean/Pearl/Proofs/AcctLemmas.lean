import Pearl.Model.Acct
import Pearl.Proofs.MaintLemmas
import Pearl.Proofs.FsContent
import Pearl.Proofs.ListLemmas
/-
The file part of C15 (`Pearl/Model/Acct.lean`): association lists, `maxNext`, the structural invariant `Acct.Inv`,
and its preservation by the building blocks of the operations, those of `restart` (`closeSession`, `initNew`, `reopen`)
included; `Pearl/Proofs/AcctMoves.lean` puts the operations together from them.
-/
namespace Pearl
namespace Acct

/-! ### association lists: `get`, `keys`, `del`, `put`, `mapIf` -/

section AL
variable {α : Type}

@[simp] theorem get_nil (i : Nat) : get ([] : List (Nat × α)) i = none := rfl

theorem get_cons (j : Nat) (v : α) (r : List (Nat × α)) (i : Nat) :
    get ((j, v) :: r) i = if j = i then some v else get r i := rfl

@[simp] theorem keys_nil : keys ([] : List (Nat × α)) = [] := rfl

@[simp] theorem keys_cons (p : Nat × α) (r : List (Nat × α)) : keys (p :: r) = p.1 :: keys r := rfl

theorem keys_append (l₁ l₂ : List (Nat × α)) : keys (l₁ ++ l₂) = keys l₁ ++ keys l₂ := by
  simp [keys]

theorem get_eq_none_iff : ∀ {l : List (Nat × α)} {i : Nat}, get l i = none ↔ i ∉ keys l
  | [], i => by simp
  | (j, v) :: r, i => by
    rw [get_cons]
    by_cases h : j = i
    · simp [h]
    · simp only [h, if_false, keys_cons, List.mem_cons, not_or]
      rw [get_eq_none_iff]
      exact ⟨fun h' => ⟨fun e => h e.symm, h'⟩, fun h' => h'.2⟩

theorem get_isSome_iff {l : List (Nat × α)} {i : Nat} : (get l i).isSome = true ↔ i ∈ keys l := by
  rw [Option.isSome_iff_ne_none, Ne, get_eq_none_iff, Classical.not_not]

theorem mem_keys_of_get {l : List (Nat × α)} {i : Nat} {v : α} (h : get l i = some v) : i ∈ keys l :=
  get_isSome_iff.1 (by rw [h]; rfl)

theorem get_append : ∀ (l₁ l₂ : List (Nat × α)) (i : Nat),
    get (l₁ ++ l₂) i = match get l₁ i with | some v => some v | none => get l₂ i
  | [], l₂, i => rfl
  | (j, v) :: r, l₂, i => by
    rw [List.cons_append, get_cons, get_cons]
    by_cases h : j = i
    · simp [h]
    · simp only [h, if_false]; exact get_append r l₂ i

theorem get_del (l : List (Nat × α)) (P : Nat → Bool) (i : Nat) :
    get (del l P) i = if P i = true then none else get l i := by
  induction l with
  | nil => simp [del]
  | cons p r ih =>
    obtain ⟨j, v⟩ := p
    unfold del at ih ⊢
    rw [List.filter_cons]
    by_cases h : j = i
    · subst h; cases hp : P j <;> simp [hp, get_cons, ih]
    · cases hp : P j <;> simp [hp, get_cons, ih, h]

theorem keys_del (l : List (Nat × α)) (P : Nat → Bool) :
    keys (del l P) = (keys l).filter (fun i => !P i) := by
  simp [keys, del, List.filter_map, Function.comp_def]

theorem mem_keys_del {l : List (Nat × α)} {P : Nat → Bool} {i : Nat} :
    i ∈ keys (del l P) ↔ i ∈ keys l ∧ P i = false := by
  rw [keys_del]; simp

theorem get_del_contains (l : List (Nat × α)) {mv : List Nat} {i : Nat} (hi : i ∉ mv) :
    get (del l (fun id => mv.contains id)) i = get l i := by
  rw [get_del, if_neg (by simpa using hi)]

theorem mem_keys_del_contains {l : List (Nat × α)} {mv : List Nat} {i : Nat} :
    i ∈ keys (del l (fun id => mv.contains id)) ↔ i ∈ keys l ∧ i ∉ mv := by
  rw [mem_keys_del]; simp

theorem nodup_keys_del {l : List (Nat × α)} (P : Nat → Bool) (h : (keys l).Nodup) :
    (keys (del l P)).Nodup := by
  rw [keys_del]; exact h.sublist List.filter_sublist

theorem get_put (l : List (Nat × α)) (j : Nat) (v : α) (i : Nat) :
    get (put l j v) i = if i = j then some v else get l i := by
  unfold put
  rw [get_append, get_del]
  by_cases h : i = j
  · subst h; simp [get_cons]
  · have h' : ¬ j = i := fun e => h e.symm
    simp only [beq_iff_eq, h, if_false, get_cons, h', get_nil]
    cases get l i <;> rfl

theorem mem_keys_put {l : List (Nat × α)} {j : Nat} {v : α} {i : Nat} :
    i ∈ keys (put l j v) ↔ i = j ∨ i ∈ keys l := by
  unfold put
  rw [keys_append, List.mem_append, mem_keys_del]
  simp only [keys_cons, keys_nil, List.mem_singleton, beq_eq_false_iff_ne, ne_eq]
  by_cases h : i = j <;> simp [h]

theorem nodup_keys_put {l : List (Nat × α)} (j : Nat) (v : α) (h : (keys l).Nodup) :
    (keys (put l j v)).Nodup := by
  unfold put
  rw [keys_append, List.nodup_append]
  refine ⟨nodup_keys_del _ h, by simp, ?_⟩
  intro a ha b hb
  simp only [keys_cons, keys_nil, List.mem_singleton] at hb
  have := (mem_keys_del.1 ha).2
  simp only [beq_eq_false_iff_ne, ne_eq] at this
  rw [hb]; exact this

theorem del_eq_self {l : List (Nat × α)} {P : Nat → Bool} (h : ∀ i ∈ keys l, P i = false) : del l P = l := by
  unfold del
  rw [List.filter_eq_self]
  intro p hp
  have := h p.1 (List.mem_map_of_mem (f := (·.1)) hp)
  simp [this]

/-- creating a file that is not there appends it to the listing -/
theorem put_of_not_mem {l : List (Nat × α)} {j : Nat} (v : α) (h : j ∉ keys l) : put l j v = l ++ [(j, v)] := by
  unfold put
  rw [del_eq_self]
  intro i hi
  simp only [beq_eq_false_iff_ne, ne_eq]
  intro e; exact h (e ▸ hi)

theorem length_put_of_not_mem {l : List (Nat × α)} {j : Nat} (v : α) (h : j ∉ keys l) :
    (put l j v).length = l.length + 1 := by
  rw [put_of_not_mem v h, List.length_append]; rfl

theorem keys_put_of_not_mem {l : List (Nat × α)} {j : Nat} (v : α) (h : j ∉ keys l) :
    keys (put l j v) = keys l ++ [j] := by
  rw [put_of_not_mem v h, keys_append]; rfl

theorem get_mapIf : ∀ (l : List (Nat × α)) (P : Nat → Bool) (f : Nat → α → α) (i : Nat),
    get (mapIf l P f) i = (get l i).map (fun v => if P i = true then f i v else v)
  | [], _, _, _ => rfl
  | (j, v) :: r, P, f, i => by
    have ih := get_mapIf r P f i
    unfold mapIf at ih ⊢
    rw [List.map_cons]
    by_cases h : j = i
    · subst h; cases hp : P j <;> simp [hp, get_cons]
    · cases hp : P j <;> simp [hp, get_cons, ih, h]

theorem keys_mapIf (l : List (Nat × α)) (P : Nat → Bool) (f : Nat → α → α) : keys (mapIf l P f) = keys l := by
  unfold keys mapIf
  rw [List.map_map]
  apply List.map_congr_left
  intro p _
  simp only [Function.comp]
  split <;> rfl

theorem length_mapIf (l : List (Nat × α)) (P : Nat → Bool) (f : Nat → α → α) :
    (mapIf l P f).length = l.length := by simp [mapIf]

theorem get_map_blobs (f : Blob → α) : ∀ (ts : List Blob) (i : Nat),
    get (ts.map (fun b => (b.id, f b))) i = (ts.find? (·.id == i)).map f
  | [], _ => rfl
  | b :: ts, i => by
    rw [List.map_cons, get_cons, List.find?_cons]
    by_cases h : b.id = i
    · simp [h]
    · have hb : (b.id == i) = false := by simp [h]
      simp only [h, if_false, hb]
      exact get_map_blobs f ts i

theorem keys_map_blobs (f : Blob → α) (ts : List Blob) :
    keys (ts.map (fun b => (b.id, f b))) = ts.map (·.id) := by
  simp [keys, List.map_map, Function.comp_def]

end AL

/-! ### lists of blobs by id, `maxNext`, create-or-replace of the files of a list of blobs -/

theorem any_id_iff {l : List Blob} {i : Nat} : l.any (·.id == i) = true ↔ ∃ x ∈ l, x.id = i := by
  simp

theorem any_id_false {l : List Blob} {i : Nat} (h : ∀ x ∈ l, x.id ≠ i) : l.any (·.id == i) = false := by
  rw [Bool.eq_false_iff]
  intro h'
  obtain ⟨x, hx, e⟩ := any_id_iff.1 h'
  exact h x hx e

theorem maxNext_le_iff {l : List Nat} {n : Nat} : maxNext l ≤ n ↔ ∀ x ∈ l, x < n := by
  unfold maxNext
  rw [foldl_maxSucc_le_iff fun x => x]
  simp

theorem lt_maxNext_of_mem {l : List Nat} {x : Nat} (h : x ∈ l) : x < maxNext l :=
  (maxNext_le_iff.1 (Nat.le_refl _)) x h

theorem maxNext_append (l₁ l₂ : List Nat) : maxNext (l₁ ++ l₂) = max (maxNext l₁) (maxNext l₂) := by
  apply Nat.le_antisymm
  · rw [maxNext_le_iff]
    intro x hx
    rcases List.mem_append.1 hx with hm | hm
    · exact Nat.lt_of_lt_of_le (lt_maxNext_of_mem hm) (Nat.le_max_left _ _)
    · exact Nat.lt_of_lt_of_le (lt_maxNext_of_mem hm) (Nat.le_max_right _ _)
  · exact Nat.max_le.2 ⟨maxNext_le_iff.2 fun x hx => lt_maxNext_of_mem (List.mem_append_left _ hx),
      maxNext_le_iff.2 fun x hx => lt_maxNext_of_mem (List.mem_append_right _ hx)⟩

/-- create-or-replace of the files of the blobs `ts` -/
theorem get_replace {α : Type} (l : List (Nat × α)) (ts : List Blob) (f : Blob → α) (i : Nat) :
    get (del l (fun id => ts.any (·.id == id)) ++ ts.map (fun b => (b.id, f b))) i =
      match ts.find? (·.id == i) with
      | some t => some (f t)
      | none => get l i := by
  rw [get_append, get_del, get_map_blobs]
  cases hf : ts.find? (·.id == i) with
  | none =>
    have : ts.any (·.id == i) = false :=
      any_id_false fun x hx e => List.find?_eq_none.1 hf x hx (by simp [e])
    simp only [this, Bool.false_eq_true, if_false, Option.map_none]
    cases get l i <;> rfl
  | some t =>
    have : ts.any (·.id == i) = true :=
      any_id_iff.2 ⟨t, List.mem_of_find?_eq_some hf, by simpa using List.find?_some hf⟩
    simp [this]

theorem keys_replace {α : Type} (l : List (Nat × α)) (ts : List Blob) (f : Blob → α) :
    keys (del l (fun id => ts.any (·.id == id)) ++ ts.map (fun b => (b.id, f b))) =
      (keys l).filter (fun i => !ts.any (·.id == i)) ++ ts.map (·.id) := by
  rw [keys_append, keys_del, keys_map_blobs]

theorem nodup_keys_replace {α : Type} {l : List (Nat × α)} {ts : List Blob} (f : Blob → α)
    (hl : (keys l).Nodup) (ht : (ts.map (·.id)).Nodup) :
    (keys (del l (fun id => ts.any (·.id == id)) ++ ts.map (fun b => (b.id, f b)))).Nodup := by
  rw [keys_replace, List.nodup_append]
  refine ⟨hl.sublist List.filter_sublist, ht, ?_⟩
  intro a ha b hb e
  subst e
  have h1 := (List.mem_filter.1 ha).2
  obtain ⟨x, hx, hxe⟩ := List.mem_map.1 hb
  have h2 : ts.any (·.id == a) = true := any_id_iff.2 ⟨x, hx, hxe⟩
  simp [h2] at h1

/-! ### the invariant -/

/-- a held blob against the directory -/
structure BlobOK (c : Cfg) (s : State) (b : Blob) : Prop where
  /-- its blob file exists and is as long as `File::size()` says -/
  file : get s.dir.blobs b.id = some (s.fsz b.id)
  /-- which is the blob header plus the records appended -/
  size : s.fsz b.id = Fs.contentLen c.klen b.recs
  /-- an `OnDisk` index is the index file of the directory -/
  onDisk : b.onDisk = true → ∃ f, get s.dir.idx b.id = some f ∧ s.isz b.id = f.len
  /-- an empty blob has no index file -/
  idxNe : ∀ f, get s.dir.idx b.id = some f → b.recs ≠ []
  /-- its index file was written by a dump when the blob had its first `n` records (`n > 0`) -/
  snap : ∀ f, get s.dir.idx b.id = some f → ∃ n, 0 < n ∧ n ≤ b.recs.length ∧
    f.len = c.idxLen (b.recs.take n) ∧ f.blobSize = Fs.contentLen c.klen (b.recs.take n)
  /-- the index file of an `OnDisk` index is up to date -/
  fresh : b.onDisk = true → ∀ f, get s.dir.idx b.id = some f →
    f.len = c.idxLen b.recs ∧ f.blobSize = Fs.contentLen c.klen b.recs

structure Inv (c : Cfg) (s : State) : Prop where
  wf : s.store.WF
  /-- the index of the active blob is in memory -/
  activeMem : ∀ a, s.store.active = some a → a.onDisk = false
  ok : ∀ b ∈ s.store.blobs, BlobOK c s b
  filesNodup : (keys s.dir.blobs).Nodup
  /-- the blob files of the work directory are those of the held blobs and the ignored ones -/
  files : ∀ i, i ∈ keys s.dir.blobs ↔ ((∃ b ∈ s.store.blobs, b.id = i) ∨ i ∈ s.ignored)
  ignNodup : s.ignored.Nodup
  ignHeld : ∀ i ∈ s.ignored, ∀ b ∈ s.store.blobs, b.id ≠ i
  corrNodup : s.dir.corrupted.Nodup
  /-- no id is in both directories -/
  corrFiles : ∀ i ∈ s.dir.corrupted, i ∉ keys s.dir.blobs
  below : ∀ i, i ∈ keys s.dir.blobs ∨ i ∈ s.dir.corrupted → i < s.store.nextId
  tight : 0 < s.store.nextId ∧
    (s.store.nextId - 1 ∈ keys s.dir.blobs ∨ s.store.nextId - 1 ∈ s.dir.corrupted)
  cnt : s.corruptedCnt = s.dir.corrupted.length
  idxNodup : (keys s.dir.idx).Nodup
  /-- no index file without its blob file -/
  idxFiles : ∀ i ∈ keys s.dir.idx, i ∈ keys s.dir.blobs

/-! ### what the invariant needs of `Store` and `Fs`: ids, record and content lengths -/

theorem mem_ids_iff {l : List Blob} {i : Nat} : (∃ b ∈ l, b.id = i) ↔ i ∈ l.map (·.id) := by
  simp

theorem forall_ids_congr {l l' : List Blob} (h : l'.map (·.id) = l.map (·.id)) {p : Nat → Prop}
    (hp : ∀ b ∈ l, p b.id) : ∀ b ∈ l', p b.id := by
  intro b hb
  have hm : b.id ∈ l.map (·.id) := h ▸ List.mem_map_of_mem hb
  obtain ⟨x, hx, e⟩ := mem_ids_iff.2 hm
  exact e ▸ hp x hx

theorem ids_nodup {s : Store} (h : s.WF) : (s.blobs.map (·.id)).Nodup :=
  h.1.imp (fun hab => Nat.ne_of_lt hab)

theorem recLen_pos (klen : Nat) (r : Rec) : 0 < Fs.recLen klen r := by
  unfold Fs.recLen Fs.recHead headerSize; omega

theorem contentLen_prefix (klen : Nat) {l₁ l₂ : List Rec} (h : l₁ <+: l₂) :
    Fs.contentLen klen l₁ ≤ Fs.contentLen klen l₂ := by
  obtain ⟨t, rfl⟩ := h
  simp only [Fs.contentLen, List.map_append, List.sum_append]
  omega

theorem contentLen_lt_of_prefix (klen : Nat) {l₁ l₂ : List Rec} (h : l₁ <+: l₂) (hne : l₁ ≠ l₂) :
    Fs.contentLen klen l₁ < Fs.contentLen klen l₂ := by
  obtain ⟨t, rfl⟩ := h
  cases t with
  | nil => simp at hne
  | cons r t =>
    have := recLen_pos klen r
    simp only [Fs.contentLen, List.map_append, List.sum_append, List.map_cons, List.sum_cons]
    omega

/-- a blob file only grows: a prefix of the records with the same file length is all of them -/
theorem take_eq_of_contentLen_eq (klen : Nat) (recs : List Rec) (n : Nat)
    (h : Fs.contentLen klen (recs.take n) = Fs.contentLen klen recs) : recs.take n = recs :=
  Classical.byContradiction fun hne =>
    Nat.lt_irrefl _ (h ▸ contentLen_lt_of_prefix klen (List.take_prefix n recs) hne)

/-! ### one held blob against the directory -/

namespace BlobOK
variable {c : Cfg} {s s' : State} {b b' : Blob}

theorem valid (ob : BlobOK c s b) (ho : b.onDisk = true) :
    ∃ f, get s.dir.idx b.id = some f ∧ s.isz b.id = f.len ∧ f.blobSize = Fs.contentLen c.klen b.recs := by
  obtain ⟨f, hf, hl⟩ := ob.onDisk ho
  exact ⟨f, hf, hl, (ob.fresh ho f hf).2⟩

theorem of_empty (ob : BlobOK c s b) (he : b.recs = []) : get s.dir.idx b.id = none ∧ b.onDisk = false := by
  have hnone : get s.dir.idx b.id = none := by
    cases hg : get s.dir.idx b.id with
    | none => rfl
    | some f => exact absurd he (ob.idxNe f hg)
  refine ⟨hnone, ?_⟩
  cases ho : b.onDisk with
  | false => rfl
  | true =>
    obtain ⟨f, hf, _⟩ := ob.onDisk ho
    rw [hnone] at hf; cases hf

theorem dumped (hfile : get s.dir.blobs b.id = some (s.fsz b.id))
    (hsize : s.fsz b.id = Fs.contentLen c.klen b.recs) (hne : b.recs ≠ [])
    (hidx : get s.dir.idx b.id = some ⟨c.idxLen b.recs, s.fsz b.id⟩)
    (hisz : b.onDisk = true → s.isz b.id = c.idxLen b.recs) : BlobOK c s b := by
  have hf : ∀ f, get s.dir.idx b.id = some f → f = ⟨c.idxLen b.recs, s.fsz b.id⟩ :=
    fun f hf => Option.some.inj (hf.symm.trans hidx)
  refine ⟨hfile, hsize, fun ho => ⟨_, hidx, hisz ho⟩, fun _ _ => hne, fun f h => ?_, fun _ f h => ?_⟩
  · rw [hf f h]
    exact ⟨b.recs.length, List.length_pos_iff.2 hne, Nat.le_refl _, by rw [List.take_length],
      by rw [List.take_length]; exact hsize⟩
  · rw [hf f h]; exact ⟨rfl, hsize⟩

theorem empty (hfile : get s.dir.blobs b.id = some (s.fsz b.id)) (hsize : s.fsz b.id = blobHeaderSize)
    (hrecs : b.recs = []) (hoff : b.onDisk = false) (hidx : get s.dir.idx b.id = none) : BlobOK c s b :=
  ⟨hfile, by rw [hsize, hrecs, Fs.contentLen_nil], fun ho => (by rw [hoff] at ho; cases ho),
    fun f hf => (by rw [hidx] at hf; cases hf), fun f hf => (by rw [hidx] at hf; cases hf),
    fun ho => (by rw [hoff] at ho; cases ho)⟩

/-- `b` is continued as `b'` (records appended) and its index file is not touched.  The index of `b'` may be
    `OnDisk` only if nothing was appended and the index file validates: by `snap` the file was written from a
    prefix of the records, and a prefix with the length of the whole blob file is all of them. -/
theorem transfer (ob : BlobOK c s b) (hid : b'.id = b.id) (hpre : b.recs <+: b'.recs)
    (hfile : get s'.dir.blobs b.id = some (s'.fsz b.id)) (hsize : s'.fsz b.id = Fs.contentLen c.klen b'.recs)
    (hidx : get s'.dir.idx b.id = get s.dir.idx b.id)
    (hon : b'.onDisk = true → b'.recs = b.recs ∧
      ∃ f, get s.dir.idx b.id = some f ∧ s'.isz b.id = f.len ∧ f.blobSize = Fs.contentLen c.klen b.recs) :
    BlobOK c s' b' := by
  obtain ⟨t, ht⟩ := hpre
  refine ⟨by rw [hid]; exact hfile, by rw [hid]; exact hsize, ?_, ?_, ?_, ?_⟩
  · intro ho
    obtain ⟨_, f, hf, hl, _⟩ := hon ho
    rw [hid, hidx]; exact ⟨f, hf, hl⟩
  · intro f hf e
    rw [hid, hidx] at hf
    rw [← ht] at e
    exact ob.idxNe f hf (List.append_eq_nil_iff.1 e).1
  · intro f hf
    rw [hid, hidx] at hf
    obtain ⟨n, h0, hl, h1, h2⟩ := ob.snap f hf
    rw [← ht]
    exact ⟨n, h0, by rw [List.length_append]; omega, by rw [List.take_append_of_le_length hl]; exact h1,
      by rw [List.take_append_of_le_length hl]; exact h2⟩
  · intro ho f hf
    rw [hid, hidx] at hf
    obtain ⟨hr, f', hf', _, hb⟩ := hon ho
    obtain rfl : f' = f := Option.some.inj (hf'.symm.trans hf)
    obtain ⟨n, _, _, h1, h2⟩ := ob.snap f' hf
    rw [take_eq_of_contentLen_eq c.klen b.recs n (by rw [← h2, hb])] at h1
    rw [hr]; exact ⟨h1, hb⟩

theorem keep (ob : BlobOK c s b) (hid : b'.id = b.id) (hpre : b.recs <+: b'.recs)
    (hfile : get s'.dir.blobs b.id = some (s'.fsz b.id)) (hsize : s'.fsz b.id = Fs.contentLen c.klen b'.recs)
    (hidx : get s'.dir.idx b.id = get s.dir.idx b.id) (hisz : s'.isz b.id = s.isz b.id)
    (hon : b'.onDisk = true → b'.recs = b.recs ∧ b.onDisk = true) : BlobOK c s' b' :=
  ob.transfer hid hpre hfile hsize hidx fun ho => ⟨(hon ho).1, by rw [hisz]; exact ob.valid (hon ho).2⟩

end BlobOK

/-! ### frames: what is left to show when the names stay, only the store changes, records are appended, a file is created -/

theorem held_file_len {c : Cfg} {s : State} (h : Inv c s) {b : Blob} (hb : b ∈ s.store.blobs) :
    get s.dir.blobs b.id = some (Fs.contentLen c.klen b.recs) := by
  rw [← (h.ok b hb).size]; exact (h.ok b hb).file

theorem Inv.maxNext_eq {c : Cfg} {s : State} (h : Inv c s) :
    maxNext (keys s.dir.blobs ++ s.dir.corrupted) = s.store.nextId := by
  have h1 := maxNext_le_iff.2 fun x hx => h.below x (List.mem_append.1 hx)
  have h2 := lt_maxNext_of_mem (List.mem_append.2 h.tight.2)
  have := h.tight.1
  omega

/-- the names stay — same ids held, same blob files, same `corrupted`, same `next_blob_id` —: what is left to
    show is the agreement of every held blob with its files, and that the index files are still files of held
    blobs -/
theorem Inv.same_names {c : Cfg} {s s' : State} (h : Inv c s)
    (hids : s'.store.blobs.map (·.id) = s.store.blobs.map (·.id)) (hn : s'.store.nextId = s.store.nextId)
    (hkeys : keys s'.dir.blobs = keys s.dir.blobs) (hcorr : s'.dir.corrupted = s.dir.corrupted)
    (hign : s'.ignored = s.ignored) (hcnt : s'.corruptedCnt = s.corruptedCnt)
    (hact : ∀ a, s'.store.active = some a → a.onDisk = false)
    (hok : ∀ b' ∈ s'.store.blobs, BlobOK c s' b')
    (hidxN : (keys s'.dir.idx).Nodup) (hidxF : ∀ i ∈ keys s'.dir.idx, i ∈ keys s.dir.blobs) : Inv c s' where
  wf := ⟨hids ▸ h.wf.1, hn ▸ forall_ids_congr hids (p := (· < s.store.nextId)) h.wf.2⟩
  activeMem := hact
  ok := hok
  filesNodup := hkeys ▸ h.filesNodup
  files i := by rw [hkeys, hign, mem_ids_iff, hids, ← mem_ids_iff]; exact h.files i
  ignNodup := hign ▸ h.ignNodup
  ignHeld i hi := forall_ids_congr hids (p := (· ≠ i)) (h.ignHeld i (hign ▸ hi))
  corrNodup := hcorr ▸ h.corrNodup
  corrFiles := by rw [hcorr, hkeys]; exact h.corrFiles
  below := by rw [hcorr, hkeys, hn]; exact h.below
  tight := by rw [hcorr, hkeys, hn]; exact h.tight
  cnt := by rw [hcnt, hcorr]; exact h.cnt
  idxNodup := hidxN
  idxFiles := by rw [hkeys]; exact hidxF

/-- the store changes without any file being touched: same blobs, residence flags may drop -/
theorem Inv.store_weaker {c : Cfg} {s : State} (h : Inv c s) (st' : Store)
    (hids : st'.blobs.map (·.id) = s.store.blobs.map (·.id))
    (hb : ∀ b' ∈ st'.blobs, ∃ b ∈ s.store.blobs, b'.id = b.id ∧ b'.recs = b.recs ∧
      (b'.onDisk = true → b.onDisk = true))
    (hn : st'.nextId = s.store.nextId)
    (hact : ∀ a, st'.active = some a → a.onDisk = false) : Inv c { s with store := st' } :=
  h.same_names hids hn rfl rfl rfl rfl hact
    (fun b' hb' => by
      obtain ⟨b, hbm, hid, hr, hd⟩ := hb b' hb'
      have ob := h.ok b hbm
      exact ob.keep hid (hr ▸ List.prefix_refl _) ob.file (hr ▸ ob.size) rfl rfl fun ho => ⟨hr, hd ho⟩)
    h.idxNodup h.idxFiles

/-- records appended to the blobs whose id satisfies `P` (all of the same length `n`) -/
theorem Inv.append {c : Cfg} {s : State} (h : Inv c s) (st' : Store) (P : Nat → Bool) (n : Nat)
    (hids : st'.blobs.map (·.id) = s.store.blobs.map (·.id))
    (hb : ∀ b' ∈ st'.blobs, ∃ b ∈ s.store.blobs, b'.id = b.id ∧
      ((P b.id = false ∧ b'.recs = b.recs ∧ (b'.onDisk = true → b.onDisk = true)) ∨
        (P b.id = true ∧ b'.onDisk = false ∧ ∃ r, b'.recs = b.recs ++ [r] ∧ Fs.recLen c.klen r = n)))
    (hn : st'.nextId = s.store.nextId)
    (hact : ∀ a, st'.active = some a → a.onDisk = false) :
    Inv c { appendWhere s P n with store := st' } := by
  have hk : keys (mapIf s.dir.blobs P (fun id l => max l (s.fsz id + n))) = keys s.dir.blobs :=
    keys_mapIf _ _ _
  refine h.same_names hids hn hk rfl rfl rfl hact ?_ h.idxNodup h.idxFiles
  intro b' hb'
  obtain ⟨b, hbm, hid, hr⟩ := hb b' hb'
  have ob := h.ok b hbm
  have hfile : get (mapIf s.dir.blobs P (fun id l => max l (s.fsz id + n))) b.id =
      some (if P b.id = true then s.fsz b.id + n else s.fsz b.id) := by
    rw [get_mapIf, ob.file]; cases P b.id <;> simp
  rcases hr with ⟨hp, hr, hd⟩ | ⟨hp, hoff, r, hr, hl⟩
  · refine ob.keep hid (hr ▸ List.prefix_refl _) hfile ?_ rfl rfl fun ho => ⟨hr, hd ho⟩
    show (if P b.id = true then s.fsz b.id + n else s.fsz b.id) = _
    rw [hp, hr]; exact ob.size
  · refine ob.keep hid ⟨[r], hr.symm⟩ hfile ?_ rfl rfl fun ho => by rw [hoff] at ho; cases ho
    show (if P b.id = true then s.fsz b.id + n else s.fsz b.id) = _
    rw [hp, hr, Fs.contentLen_append, hl, ob.size]; rfl

/-- a blob file named `next_blob_id` is created; whether a blob of the store holds it or it is one more skipped
    file is left to the caller (`hwho` and the hypotheses after it) -/
theorem Inv.new_file {c : Cfg} {s s' : State} (h : Inv c s) (v : Nat)
    (hblobs : s'.dir.blobs = put s.dir.blobs s.store.nextId v) (hn : s'.store.nextId = s.store.nextId + 1)
    (hcorr : s'.dir.corrupted = s.dir.corrupted) (hcnt : s'.corruptedCnt = s.corruptedCnt)
    (hidx : s'.dir.idx = s.dir.idx)
    (hwho : ∀ i, ((∃ b ∈ s'.store.blobs, b.id = i) ∨ i ∈ s'.ignored) ↔
      (i = s.store.nextId ∨ (∃ b ∈ s.store.blobs, b.id = i) ∨ i ∈ s.ignored))
    (hwf : s'.store.WF) (hact : ∀ a, s'.store.active = some a → a.onDisk = false)
    (hok : ∀ b' ∈ s'.store.blobs, BlobOK c s' b') (hignN : s'.ignored.Nodup)
    (hignH : ∀ i ∈ s'.ignored, ∀ b ∈ s'.store.blobs, b.id ≠ i) : Inv c s' where
  wf := hwf
  activeMem := hact
  ok := hok
  filesNodup := hblobs ▸ nodup_keys_put _ _ h.filesNodup
  files i := by rw [hblobs, mem_keys_put, h.files i]; exact (hwho i).symm
  ignNodup := hignN
  ignHeld := hignH
  corrNodup := hcorr ▸ h.corrNodup
  corrFiles i hi := by
    rw [hcorr] at hi
    rw [hblobs, mem_keys_put]
    rintro (e | hm)
    · have := h.below i (Or.inr hi); omega
    · exact h.corrFiles i hi hm
  below i hi := by
    rw [hblobs, mem_keys_put, hcorr, or_assoc] at hi
    rw [hn]
    rcases hi with e | hi
    · omega
    · exact Nat.lt_succ_of_lt (h.below i hi)
  tight := by
    rw [hn, hblobs]
    exact ⟨Nat.succ_pos _, Or.inl (mem_keys_put.2 (Or.inl (Nat.add_sub_cancel ..)))⟩
  cnt := by rw [hcnt, hcorr]; exact h.cnt
  idxNodup := hidx ▸ h.idxNodup
  idxFiles i hi := by rw [hblobs]; exact mem_keys_put.2 (Or.inr (h.idxFiles i (hidx ▸ hi)))

/-- a new blob file with the next id; the store gets the new, empty blob at the end -/
theorem Inv.newBlob {c : Cfg} {s : State} (h : Inv c s) (st' : Store)
    (hbl : st'.blobs = s.store.blobs ++ [{ id := s.store.nextId, recs := [] }])
    (hn : st'.nextId = s.store.nextId + 1)
    (hact : ∀ a, st'.active = some a → a.onDisk = false) : Inv c { newBlobFile s with store := st' } := by
  have hfresh : s.store.nextId ∉ keys s.dir.blobs := fun hm => Nat.lt_irrefl _ (h.below _ (Or.inl hm))
  have hold : ∀ b ∈ s.store.blobs, b.id ≠ s.store.nextId := fun b hb => Nat.ne_of_lt (h.wf.2 b hb)
  have hmem : ∀ b', b' ∈ st'.blobs ↔ b' ∈ s.store.blobs ∨ b' = { id := s.store.nextId, recs := [] } := by
    intro b'; rw [hbl, List.mem_append, List.mem_singleton]
  refine h.new_file blobHeaderSize rfl hn rfl rfl rfl ?_
    (Store.WF_of_shape h.wf (.new _ rfl rfl (by rw [hbl]; exact Cont.refl _) hn)) hact ?_ h.ignNodup ?_
  · intro i
    show (∃ b ∈ st'.blobs, b.id = i) ∨ i ∈ s.ignored ↔ _
    rw [mem_ids_iff, hbl, List.map_append, List.mem_append, ← mem_ids_iff, List.map_singleton, List.mem_singleton,
      or_comm (b := i = _), or_assoc]
  · intro b' hb'
    rcases (hmem b').1 hb' with hb | rfl
    · have ob := h.ok b' hb
      refine ob.keep rfl (List.prefix_refl _) ?_ ?_ rfl rfl fun ho => ⟨rfl, ho⟩
      · show get (put s.dir.blobs s.store.nextId blobHeaderSize) b'.id =
          some (if b'.id = s.store.nextId then blobHeaderSize else s.fsz b'.id)
        rw [get_put, if_neg (hold b' hb), if_neg (hold b' hb)]; exact ob.file
      · show (if b'.id = s.store.nextId then blobHeaderSize else s.fsz b'.id) = _
        rw [if_neg (hold b' hb)]; exact ob.size
    · refine BlobOK.empty ?_ (if_pos rfl) rfl rfl (get_eq_none_iff.2 fun hk => hfresh (h.idxFiles _ hk))
      show get (put s.dir.blobs s.store.nextId blobHeaderSize) s.store.nextId = some (if _ then _ else _)
      rw [get_put, if_pos rfl, if_pos rfl]
  · intro i hi b' hb'
    rcases (hmem b').1 hb' with hb | rfl
    · exact h.ignHeld i hi b' hb
    · exact fun (e : s.store.nextId = i) => hfresh ((h.files _).2 (Or.inr (e ▸ hi)))

/-! ### the building blocks of the operations

#### the dump pass and `Storage::close` -/

theorem dumpFlag_recs (b : Blob) : (dumpFlag b).recs = b.recs := congrArg Prod.snd (dumpFlag_hist b)

theorem mem_blobs_of_closed {s : Store} {b : Blob} (hb : b ∈ s.closed) : b ∈ s.blobs :=
  List.mem_append_left _ hb

theorem mem_blobs_of_active {s : Store} {a : Blob} (ha : s.active = some a) : a ∈ s.blobs := by
  simp [Store.blobs, ha]

theorem mem_dumpTargets {s : Store} {b : Blob} :
    b ∈ dumpTargets s ↔ b ∈ s.closed ∧ b.onDisk = false ∧ b.recs ≠ [] := by
  simp [dumpTargets]

theorem dumpTargets_nodup {s : Store} (h : s.WF) : ((dumpTargets s).map (·.id)).Nodup := by
  have h1 : ((dumpTargets s).map (·.id)).Sublist (s.blobs.map (·.id)) :=
    ((List.filter_sublist (l := s.closed)).trans (List.sublist_append_left _ _)).map _
  exact (ids_nodup h).sublist h1

theorem get_dumpPass_idx (c : Cfg) (s : State) (i : Nat) :
    get (dumpPass c s).dir.idx i =
      match (dumpTargets s.store).find? (·.id == i) with
      | some t => some (idxOf c s t)
      | none => get s.dir.idx i :=
  get_replace _ _ _ i

/-- one dump pass: every target gets its index file written, every other blob keeps what it had -/
theorem inv_dumpPass {c : Cfg} {s : State} (h : Inv c s) : Inv c (dumpPass c s) := by
  have hwf := h.wf
  have hnd := dumpTargets_nodup hwf
  have hbl : (s.store.apply .settle).blobs = s.store.closed.map dumpFlag ++ s.store.active.toList :=
    Store.settle_blobs s.store
  have hisz : ∀ i, (dumpPass c s).isz i =
      match (dumpTargets s.store).find? (·.id == i) with
      | some t => c.idxLen t.recs
      | none => s.isz i := fun i => rfl
  -- where the blobs come from: `OnDisk` afterwards means `OnDisk` before or dumped now
  have hback : ∀ b' ∈ (s.store.apply .settle).blobs, ∃ b ∈ s.store.blobs, b'.id = b.id ∧ b'.recs = b.recs ∧
      (b'.onDisk = true → b.onDisk = true ∨ b ∈ dumpTargets s.store) := by
    intro b' hb'
    rw [hbl] at hb'
    rcases List.mem_append.1 hb' with hb | hb
    · obtain ⟨b, hbc, rfl⟩ := List.mem_map.1 hb
      refine ⟨b, mem_blobs_of_closed hbc, dumpFlag_id b, dumpFlag_recs b, fun ho => ?_⟩
      unfold dumpFlag at ho
      split at ho
      · exact Or.inl ho
      · rename_i hne
        cases hod : b.onDisk with
        | true => exact Or.inl rfl
        | false => exact Or.inr (mem_dumpTargets.2 ⟨hbc, hod, by simpa using hne⟩)
    · exact ⟨b', List.mem_append_right _ hb, rfl, rfl, Or.inl⟩
  have hids : (s.store.apply .settle).blobs.map (·.id) = s.store.blobs.map (·.id) := by
    rw [hbl]
    simp only [Store.blobs, List.map_append, List.map_map]
    congr 1
    exact List.map_congr_left (fun b _ => dumpFlag_id b)
  refine h.same_names hids rfl rfl rfl rfl rfl h.activeMem ?_ (nodup_keys_replace _ h.idxNodup hnd) ?_
  · intro b' hb'
    obtain ⟨b, hbm, hid, hr, hon⟩ := hback b' hb'
    have ob := h.ok b hbm
    by_cases ht : b ∈ dumpTargets s.store
    · have hfd := find?_key_of_mem Blob.id hnd ht
      refine BlobOK.dumped (by rw [hid]; exact ob.file) (by rw [hid, hr]; exact ob.size)
        (hr ▸ (mem_dumpTargets.1 ht).2.2) ?_ fun _ => ?_
      · rw [hid, hr, get_dumpPass_idx, hfd]; rfl
      · rw [hid, hr, hisz, hfd]
    · have hfd : (dumpTargets s.store).find? (·.id == b.id) = none :=
        find?_key_none Blob.id fun x hx e =>
          ht (Store.eq_of_id_eq hwf.1 (mem_blobs_of_closed (mem_dumpTargets.1 hx).1) hbm e ▸ hx)
      exact ob.keep hid (hr ▸ List.prefix_refl _) ob.file (hr ▸ ob.size) (by rw [get_dumpPass_idx, hfd]) (by rw [hisz, hfd])
        fun ho => ⟨hr, (hon ho).resolve_right ht⟩
  · intro i hi
    have hi' : i ∈ (keys s.dir.idx).filter (fun i => !(dumpTargets s.store).any (·.id == i)) ++
        (dumpTargets s.store).map (·.id) := by rw [← keys_replace]; exact hi
    rcases List.mem_append.1 hi' with hm | hm
    · exact h.idxFiles i (List.mem_filter.1 hm).1
    · obtain ⟨b, hb, rfl⟩ := List.mem_map.1 hm
      exact (h.files b.id).2 (Or.inl ⟨b, mem_blobs_of_closed (mem_dumpTargets.1 hb).1, rfl⟩)

/-- `Storage::close` -/
theorem inv_closeSession {c : Cfg} {s : State} (h : Inv c s) : Inv c (closeSession c s) := by
  unfold closeSession
  cases ha : s.store.active with
  | none => exact h
  | some a =>
    simp only
    split
    · rename_i hc
      simp only [Bool.and_eq_true, Bool.not_eq_eq_eq_not, Bool.not_true, List.isEmpty_eq_false_iff] at hc
      have ham := mem_blobs_of_active ha
      refine h.same_names rfl rfl rfl rfl rfl rfl h.activeMem ?_ (nodup_keys_put _ _ h.idxNodup) ?_
      · intro b hb
        have ob := h.ok b hb
        by_cases e : b.id = a.id
        · obtain rfl : b = a := Store.eq_of_id_eq h.wf.1 hb ham e
          refine BlobOK.dumped ob.file ob.size hc.2 ?_ fun ho => by rw [hc.1] at ho; cases ho
          show get (put s.dir.idx b.id (idxOf c s b)) b.id = _
          rw [get_put, if_pos rfl]; rfl
        · refine ob.keep rfl (List.prefix_refl _) ob.file ob.size ?_ rfl fun ho => ⟨rfl, ho⟩
          show get (put s.dir.idx a.id (idxOf c s a)) b.id = _
          rw [get_put, if_neg e]
      · intro i hi
        rcases mem_keys_put.1 hi with e | hm
        · rw [e]; exact (h.files a.id).2 (Or.inl ⟨a, ham, rfl⟩)
        · exact h.idxFiles i hm
    · exact h

/-! #### `ensure_active_blob_exists`, replacement and restoration of the active blob, a write -/

theorem apply_createActive_of_some {s : Store} {a : Blob} (ha : s.active = some a) :
    s.apply .createActive = s := by
  simp [Store.apply, Store.tryCreateActive, ha]

theorem ensureActive_store (s : State) : (ensureActive s).store = s.store.ensureActive := by
  unfold ensureActive Store.ensureActive
  cases ha : s.store.active with
  | some a => rfl
  | none => exact Store.apply_createActive_of_none ha

theorem ensureActive_active (s : State) : ∃ a, (ensureActive s).store.active = some a := by
  rw [ensureActive_store]; exact Store.ensureActive_active s.store

theorem ensureActive_of_some {s : State} {a : Blob} (ha : s.store.active = some a) : ensureActive s = s := by
  unfold ensureActive; rw [ha]

theorem ensureActive_idx (s : State) : (ensureActive s).dir.idx = s.dir.idx := by
  unfold ensureActive; cases s.store.active <;> rfl

theorem ensureActive_get_blobs {s : State} {i : Nat} (hi : i ≠ s.store.nextId) :
    get (ensureActive s).dir.blobs i = get s.dir.blobs i := by
  unfold ensureActive
  cases s.store.active with
  | some a => rfl
  | none => exact (get_put _ _ _ _).trans (if_neg hi)

theorem ensureActive_blobs (s : State) :
    (ensureActive s).store.blobs = s.store.blobs ∨
      (ensureActive s).store.blobs = s.store.blobs ++ [{ id := s.store.nextId, recs := [] }] := by
  rw [ensureActive_store]
  unfold Store.ensureActive
  cases ha : s.store.active with
  | some a => exact Or.inl rfl
  | none => exact Or.inr (Store.blobs_createActive ha)

theorem inv_ensureActive {c : Cfg} {s : State} (h : Inv c s) : Inv c (ensureActive s) := by
  unfold ensureActive
  cases ha : s.store.active with
  | some a => exact h
  | none =>
    simp only
    rw [Store.apply_createActive_of_none ha]
    exact h.newBlob _ (Store.blobs_createActive ha) rfl (by
      intro a hact
      simp only [Store.createActive, Option.some.injEq] at hact
      rw [← hact])

theorem inv_replace {c : Cfg} {s : State} (h : Inv c s) :
    Inv c { newBlobFile s with store := s.store.apply .replaceActive } :=
  h.newBlob _ (Store.blobs_replaceActive s.store) (Store.nextId_replaceActive s.store) fun a hact => by
    rw [← Option.some.inj ((Store.active_replaceActive s.store).symm.trans hact)]

theorem inv_restoreActive {c : Cfg} {s : State} (h : Inv c s) : Inv c (restoreActive s) := by
  obtain ⟨hb, hn⟩ := Store.restoreActive_blobs s.store
  rcases hb with hb | ⟨ini, b, h1, h2, h3⟩
  · unfold restoreActive; rw [hb]; exact h
  · refine h.store_weaker _ (by rw [h1, h2]; simp) ?_ hn
      (fun a ha => by rw [h3] at ha; rw [← Option.some.inj ha])
    intro b' hb'
    rw [h2] at hb'
    rcases List.mem_append.1 hb' with hm | hm
    · exact ⟨b', by rw [h1]; exact List.mem_append_left _ hm, rfl, rfl, id⟩
    · simp only [List.mem_singleton] at hm
      subst hm
      exact ⟨b, by rw [h1]; simp, rfl, rfl, fun ho => by cases ho⟩

/-- the record of a write appended to the active blob `a` -/
theorem inv_writeRec {c : Cfg} {s : State} (h : Inv c s) {a : Blob} (ha : s.store.active = some a)
    (k : Key) (ts : Nat) (m : Option Meta) (d : Data)
    (hd : (!s.store.allowDup && (s.store.getLatestEntry k m).isFound) = false) :
    Inv c { appendWhere s (· == a.id) (Fs.recLen c.klen (Fs.writeRec k ts m d)) with
            store := s.store.apply (.write k ts m d) } := by
  rw [show s.store.apply (.write k ts m d) = { s.store with active := some (a.append (Fs.writeRec k ts m d)) } from
    Store.write_of_active ha k ts m d hd]
  have haoff : (a.append (Fs.writeRec k ts m d)).onDisk = false := h.activeMem a ha
  refine h.append _ _ _ ?_ ?_ rfl fun x hx => ?_
  · simp [Store.blobs, Store.closed, ha, Blob.append]
  · intro b' hb'
    rcases List.mem_append.1 (show b' ∈ s.store.closed ++ [a.append (Fs.writeRec k ts m d)] from hb') with hm | hm
    · refine ⟨b', mem_blobs_of_closed hm, rfl, Or.inl ⟨?_, rfl, id⟩⟩
      exact beq_false_of_ne (Nat.ne_of_lt (Store.closed_lt_active h.wf ha hm))
    · rw [List.mem_singleton.1 hm]
      exact ⟨a, mem_blobs_of_active ha, rfl, Or.inr ⟨beq_self_eq_true _, haoff, _, rfl, rfl⟩⟩
  · rw [← Option.some.inj (show some (a.append (Fs.writeRec k ts m d)) = some x from hx)]; exact haoff

/-! #### a delete; `delete_by_id` is a fact about `Store.delete` alone (`delTargets` is `Pearl/Model/Acct.lean`) -/

theorem mem_delTargets {st : Store} {k : Key} {oip : Bool} {b : Blob} :
    b ∈ delTargets st k oip ↔
      (b ∈ st.closed ∧ (b.getLatest k).isFound = true) ∨
        (st.active = some b ∧ (!oip || (b.getLatest k).isFound) = true) := by
  unfold delTargets
  rw [List.mem_append, List.mem_filter, List.mem_filter, Option.mem_toList]

theorem delTargets_sub {st : Store} {k : Key} {oip : Bool} {b : Blob} (hb : b ∈ delTargets st k oip) :
    b ∈ st.blobs := by
  rcases mem_delTargets.1 hb with ⟨h1, _⟩ | ⟨h1, _⟩
  · exact mem_blobs_of_closed h1
  · exact mem_blobs_of_active h1

/-- a delete starts from the store as it is when it is `only_if_presented` or there is an active blob -/
theorem deleteBase_of {st : Store} {oip : Bool} (h : oip = true ∨ st.active.isSome = true) :
    st.deleteBase oip = st := by
  unfold Store.deleteBase
  split
  · rfl
  · obtain ⟨a, ha⟩ := Option.isSome_iff_exists.1 (h.resolve_left ‹_›)
    exact Store.ensureActive_of_some ha

/-- `delete` by blob id: the blobs whose id is among the `delTargets` get the marker, the others are untouched (ids are
    unique, so "the closed blobs that have the key, and the active blob unless `only_if_presented` fails" is a set of ids) -/
theorem delete_by_id {st : Store} (hwf : st.WF) (k : Key) (ts : Nat) (m : Option Meta) (oip : Bool)
    (hP : oip = true ∨ st.active.isSome = true) :
    (st.apply (.delete k ts m oip)).blobs =
        st.blobs.map (fun b => if (delTargets st k oip).any (·.id == b.id) then Store.mark k ts m b else b) ∧
      (st.apply (.delete k ts m oip)).active =
        st.active.map (fun b => if (delTargets st k oip).any (·.id == b.id) then Store.mark k ts m b else b) := by
  have hbase := deleteBase_of hP
  have hP : ∀ b ∈ st.blobs, ((delTargets st k oip).any (·.id == b.id) = true ↔ b ∈ delTargets st k oip) :=
    fun b hb => ⟨fun hany => by
      obtain ⟨t, ht, e⟩ := any_id_iff.1 hany
      exact Store.eq_of_id_eq hwf.1 (delTargets_sub ht) hb e ▸ ht, fun ht => any_id_iff.2 ⟨b, ht, rfl⟩⟩
  have hcl : ∀ b ∈ st.closed, (Store.blobDelete b k ts m true).1 =
      if (delTargets st k oip).any (·.id == b.id) then Store.mark k ts m b else b := by
    intro b hb
    rw [Store.blobDelete_fst]
    congr 1
    rw [Bool.not_true, Bool.false_or, eq_iff_iff, hP b (mem_blobs_of_closed hb), mem_delTargets]
    exact ⟨fun hf => Or.inl ⟨hb, hf⟩,
      fun h => h.elim (·.2) fun h => absurd (Store.closed_lt_active hwf h.1 hb) (Nat.lt_irrefl _)⟩
  have hac : ∀ a, st.active = some a → (Store.blobDelete a k ts m oip).1 =
      if (delTargets st k oip).any (·.id == a.id) then Store.mark k ts m a else a := by
    intro a ha
    rw [Store.blobDelete_fst]
    congr 1
    rw [eq_iff_iff, hP a (mem_blobs_of_active ha), mem_delTargets]
    exact ⟨fun hf => Or.inr ⟨ha, hf⟩,
      fun h => h.elim (fun h => absurd (Store.closed_lt_active hwf ha h.1) (Nat.lt_irrefl _)) (·.2)⟩
  constructor
  · have := Store.delete_blobs st k ts m oip
    rw [hbase] at this
    rw [show (st.apply (.delete k ts m oip)).blobs = _ from this, Store.blobs, List.map_append]
    congr 1
    · exact List.map_congr_left hcl
    · exact List.map_congr_left fun a ha => hac a (Option.mem_toList.1 ha)
  · rw [show (st.apply (.delete k ts m oip)).active = _ from
      congrArg Store.active (Store.delete_fst_eq st k ts m oip), hbase]
    cases ha : st.active with
    | none => rfl
    | some a => exact congrArg some (hac a ha)

/-- the deletion markers appended; `s0` is the state after the `ensure_active_blob_exists` of a delete without
    `only_if_presented` -/
theorem inv_deleteMarks {c : Cfg} {s0 : State} (h0 : Inv c s0) (k : Key) (ts : Nat) (m : Option Meta) (oip : Bool)
    (hP : oip = true ∨ s0.store.active.isSome = true) :
    Inv c { appendWhere s0 (fun id => (delTargets s0.store k oip).any (·.id == id))
              (Fs.recLen c.klen (Fs.markerRec k ts m)) with
            store := s0.store.apply (.delete k ts m oip) } := by
  obtain ⟨hbl, hact⟩ := delete_by_id h0.wf k ts m oip hP
  refine h0.append _ _ _ ?_ ?_ ((Store.delete_nextId s0.store k ts m oip).trans (by rw [deleteBase_of hP])) ?_
  · rw [hbl, List.map_map]
    exact List.map_congr_left fun b _ => by simp only [Function.comp]; split <;> rfl
  · intro b' hb'
    rw [hbl] at hb'
    obtain ⟨b, hb, rfl⟩ := List.mem_map.1 hb'
    refine ⟨b, hb, by split <;> rfl, ?_⟩
    cases hp : (delTargets s0.store k oip).any (·.id == b.id)
    · exact Or.inl ⟨rfl, rfl, id⟩
    · exact Or.inr ⟨rfl, rfl, Store.marker k ts m, rfl, rfl⟩
  · intro x hx
    rw [hact] at hx
    cases ha : s0.store.active with
    | none => rw [ha] at hx; cases hx
    | some a =>
      rw [ha] at hx
      rw [← Option.some.inj hx]
      dsimp only
      split
      · rfl
      · exact h0.activeMem a ha

/-! #### the pieces of a restart: `init_new`, `read_blobs`, `reopen` and `initCore` -/

/-- `init_new` needs little of the state it starts from: an empty work directory (`init` on a fresh directory is the
    case `corrupted = []`) -/
theorem inv_initNew {c : Cfg} {s : State} (hb : s.dir.blobs = []) (hi : s.dir.idx = [])
    (hc : s.dir.corrupted.Nodup) : Inv c (initNew s) := by
  have hbl : (initNew s).store.blobs = [{ id := maxNext s.dir.corrupted, recs := [] }] := rfl
  have hfiles : (initNew s).dir.blobs = [(maxNext s.dir.corrupted, blobHeaderSize)] := by
    show put s.dir.blobs _ _ = _
    rw [hb]; rfl
  have hidx : (initNew s).dir.idx = [] := hi
  have hk : ∀ i, i ∈ keys (initNew s).dir.blobs ↔ i = maxNext s.dir.corrupted := by
    intro i; rw [hfiles]; exact List.mem_singleton
  refine { wf := ⟨(by rw [hbl]; simp), ?_⟩, activeMem := ?_, ok := ?_, filesNodup := (by rw [hfiles]; simp [keys]),
           files := ?_, ignNodup := List.nodup_nil, ignHeld := fun i hi => (by cases hi), corrNodup := hc,
           corrFiles := ?_, below := ?_, tight := ⟨Nat.succ_pos _, Or.inl ((hk _).2 (Nat.add_sub_cancel ..))⟩,
           cnt := rfl, idxNodup := hidx ▸ List.nodup_nil, idxFiles := fun i hi => (by rw [hidx] at hi; cases hi) }
  · intro b hb'
    rw [hbl, List.mem_singleton] at hb'
    rw [hb']; exact Nat.lt_succ_self _
  · intro a ha
    rw [← Option.some.inj (show some ({ id := maxNext s.dir.corrupted, recs := [] } : Blob) = some a from ha)]
  · intro b hb'
    rw [hbl, List.mem_singleton] at hb'
    subst hb'
    refine BlobOK.empty ?_ (if_pos rfl) rfl rfl (by rw [hidx]; rfl)
    rw [hfiles]
    show (if _ then _ else _) = some (if _ then _ else _)
    rw [if_pos rfl, if_pos rfl]
  · intro i
    show _ ↔ _ ∨ i ∈ []
    rw [hk, hbl]
    simp only [List.mem_singleton, exists_eq_left, List.not_mem_nil, or_false]
    exact eq_comm
  · intro i hi
    rw [hk]
    exact Nat.ne_of_lt (lt_maxNext_of_mem hi)
  · intro i hi
    show i < maxNext s.dir.corrupted + 1
    rcases hi with hi | hi
    · rw [(hk i).1 hi]; exact Nat.lt_succ_self _
    · exact Nat.lt_succ_of_lt (lt_maxNext_of_mem hi)

theorem inv_init (c : Cfg) (allowDup : Bool) : Inv c (init allowDup) :=
  inv_initNew rfl rfl List.nodup_nil

theorem mem_unreadable {s : State} {bad : List Nat} {i : Nat} :
    i ∈ unreadable s bad ↔ i ∈ keys s.dir.blobs ∧ (i ∈ s.ignored ∨ i ∈ bad) := by
  unfold unreadable
  rw [List.mem_filter]
  simp

theorem keptBlobs_eq {s : State} (hwf : s.store.WF) (bad : List Nat) :
    keptBlobs s bad = s.store.blobs.filter (fun b => !(unreadable s bad).contains b.id) := by
  unfold keptBlobs
  apply Store.sortById_of_sorted
  exact hwf.1.sublist ((List.filter_sublist).map _)

theorem mem_keptBlobs {s : State} (hwf : s.store.WF) {bad : List Nat} {b : Blob} :
    b ∈ keptBlobs s bad ↔ b ∈ s.store.blobs ∧ b.id ∉ unreadable s bad := by
  rw [keptBlobs_eq hwf, List.mem_filter]
  simp

/-! the directory after `read_blobs`: the files `if ignore then [] else unreadable s bad` have moved -/

theorem dirAfterRead_blobs (s : State) (ignore : Bool) (bad : List Nat) :
    (dirAfterRead s ignore bad).blobs =
      del s.dir.blobs (fun id => (if ignore then [] else unreadable s bad).contains id) := by
  cases ignore
  · rfl
  · exact (del_eq_self fun _ _ => rfl).symm

theorem dirAfterRead_idx (s : State) (ignore : Bool) (bad : List Nat) :
    (dirAfterRead s ignore bad).idx =
      del s.dir.idx (fun id => (if ignore then [] else unreadable s bad).contains id) := by
  cases ignore
  · rfl
  · exact (del_eq_self fun _ _ => rfl).symm

theorem dirAfterRead_corrupted {c : Cfg} {s : State} (h : Inv c s) (ignore : Bool) (bad : List Nat) :
    (dirAfterRead s ignore bad).corrupted = s.dir.corrupted ++ (if ignore then [] else unreadable s bad) := by
  unfold dirAfterRead
  cases ignore with
  | true => simp
  | false =>
    simp only [Bool.false_eq_true, if_false]
    congr 1
    rw [List.filter_eq_self]
    intro i hi
    have : i ∉ s.dir.corrupted := fun hc => h.corrFiles i hc (mem_unreadable.1 hi).1
    simpa using this

theorem get_dirAfterRead_blobs (s : State) (ignore : Bool) (bad : List Nat) (i : Nat) :
    get (dirAfterRead s ignore bad).blobs i =
      if i ∈ (if ignore then [] else unreadable s bad) then none else get s.dir.blobs i := by
  rw [dirAfterRead_blobs, get_del]; simp

theorem mem_keys_dirAfterRead_blobs (s : State) (ignore : Bool) (bad : List Nat) (i : Nat) :
    i ∈ keys (dirAfterRead s ignore bad).blobs ↔
      i ∈ keys s.dir.blobs ∧ i ∉ (if ignore then [] else unreadable s bad) :=
  dirAfterRead_blobs s ignore bad ▸ mem_keys_del_contains

theorem get_dirAfterRead_idx (s : State) (ignore : Bool) (bad : List Nat) (i : Nat) :
    get (dirAfterRead s ignore bad).idx i =
      if i ∈ (if ignore then [] else unreadable s bad) then none else get s.dir.idx i := by
  rw [dirAfterRead_idx, get_del]; simp

/-- `init_from_existing` recomputes `next_blob_id` from the two directories and finds the value it had -/
theorem initCore_nextId {c : Cfg} {s : State} (h : Inv c s) (lazy ignore : Bool) (bad : List Nat) :
    (initCore c s lazy ignore bad).store.nextId = s.store.nextId := by
  show max (maxNext (keys s.dir.blobs)) (maxNext (dirAfterRead s ignore bad).corrupted) = s.store.nextId
  rw [dirAfterRead_corrupted h, ← maxNext_append, ← List.append_assoc, maxNext_append, h.maxNext_eq]
  refine Nat.max_eq_left (maxNext_le_iff.2 fun x hx => ?_)
  cases ignore with
  | true => cases hx
  | false => exact h.below x (Or.inl (mem_unreadable.1 hx).1)

/-- `init_from_existing` before the closed blobs are dumped: the blobs read back, an index `OnDisk` iff its file
    validates -/
def reopen (s : State) (lazy ignore : Bool) (bad : List Nat) : State :=
  let dir1 := dirAfterRead s ignore bad
  let kept := keptBlobs s bad
  { store := { allowDup := s.store.allowDup
               active := (if lazy then none else kept.getLast?).map (fun a => { a with onDisk := false })
               slots := (if lazy then kept else kept.dropLast).map (fun b => some { b with onDisk := idxValid dir1 b.id })
               nextId := max (maxNext (keys s.dir.blobs)) (maxNext dir1.corrupted) }
    fsz := fun id => blobFileLen dir1 id
    isz := fun id => idxFileLen dir1 id
    corruptedCnt := s.dir.corrupted.length + (if ignore then 0 else (unreadable s bad).length)
    dir := dir1
    ignored := if ignore then unreadable s bad else [] }

/-- `init_from_existing` ends with the dump of the closed blobs that have no valid index file -/
theorem initCore_eq (c : Cfg) (s : State) (lazy ignore : Bool) (bad : List Nat) :
    initCore c s lazy ignore bad = dumpPass c (reopen s lazy ignore bad) := by
  unfold initCore dumpPass
  simp only
  generalize hcl : (if lazy = true then keptBlobs s bad else (keptBlobs s bad).dropLast) = cl
  have hts : dumpTargets (reopen s lazy ignore bad).store =
      (cl.filter (fun b => !idxValid (dirAfterRead s ignore bad) b.id && !b.recs.isEmpty)).map
        (fun b => { b with onDisk := idxValid (dirAfterRead s ignore bad) b.id }) := by
    unfold dumpTargets reopen
    simp only [Store.closed, hcl, filterMap_id_map_some, List.filter_map]
    rfl
  rw [hts]
  generalize cl.filter (fun b => !idxValid (dirAfterRead s ignore bad) b.id && !b.recs.isEmpty) = need
  congr 1
  · show _ = Store.settle _
    unfold Store.settle reopen
    simp only [hcl, List.map_map]
    congr 1
    apply List.map_congr_left
    intro b _
    by_cases he : b.recs = [] <;> simp [he]
  · funext id
    simp only [List.find?_map, Function.comp_def]
    cases need.find? (fun x => x.id == id) <;> rfl
  · congr 1
    simp only [List.any_map, List.map_map]
    rfl

/-- The unreadable files `U` are moved (`mv`) or skipped (`ig`); the blobs kept are the held ones outside `U`; they
    keep their index files, and may be `OnDisk` only if it validates. -/
theorem inv_reopen {c : Cfg} {s : State} (h : Inv c s) (lazy ignore : Bool) (bad : List Nat) :
    Inv c (reopen s lazy ignore bad) := by
  have hwf := h.wf
  have hnid : max (maxNext (keys s.dir.blobs)) (maxNext (dirAfterRead s ignore bad).corrupted) = s.store.nextId :=
    initCore_nextId h lazy ignore bad
  have hUnd : (unreadable s bad).Nodup := h.filesNodup.sublist List.filter_sublist
  -- the unreadable files are moved or skipped, depending on `ignore`
  obtain ⟨hU, hmvN, higN, hdisj, hcnt⟩ :
      (∀ i, i ∈ unreadable s bad ↔
        i ∈ (if ignore then [] else unreadable s bad) ∨ i ∈ (if ignore then unreadable s bad else [])) ∧
      (if ignore then [] else unreadable s bad).Nodup ∧ (if ignore then unreadable s bad else []).Nodup ∧
      (∀ i ∈ (if ignore then unreadable s bad else []), i ∉ (if ignore then [] else unreadable s bad)) ∧
      (if ignore then 0 else (unreadable s bad).length) = (if ignore then [] else unreadable s bad).length := by
    cases ignore <;> simp [hUnd]
  have hb1 := dirAfterRead_blobs s ignore bad
  have hi1 := dirAfterRead_idx s ignore bad
  have hc1 := dirAfterRead_corrupted h ignore bad
  have hkmem : ∀ {b}, b ∈ keptBlobs s bad ↔ b ∈ s.store.blobs ∧ b.id ∉ unreadable s bad := mem_keptBlobs hwf
  have hKsorted : ((keptBlobs s bad).map (·.id)).Pairwise (· < ·) := by
    rw [keptBlobs_eq hwf]; exact hwf.1.sublist ((List.filter_sublist).map _)
  have hsplit : (if lazy then keptBlobs s bad else (keptBlobs s bad).dropLast) ++
      (if lazy then none else (keptBlobs s bad).getLast?).toList = keptBlobs s bad := by
    cases lazy
    · exact dropLast_append_getLast?_toList _
    · simp
  unfold reopen
  simp only [hnid, hcnt]
  generalize dirAfterRead s ignore bad = d1 at hb1 hi1 hc1 ⊢
  generalize (if ignore = true then [] else unreadable s bad) = mv at hU hmvN hdisj hb1 hi1 hc1 ⊢
  generalize (if ignore = true then unreadable s bad else []) = ig at hU higN hdisj ⊢
  generalize (if lazy = true then keptBlobs s bad else (keptBlobs s bad).dropLast) = cl at hsplit ⊢
  generalize (if lazy = true then none else (keptBlobs s bad).getLast?) = act at hsplit ⊢
  generalize keptBlobs s bad = kept at hkmem hKsorted hsplit
  generalize hst : ({ allowDup := s.store.allowDup, active := act.map (fun a => ⟨a.id, a.recs, false⟩),
                      slots := cl.map (fun b => some ⟨b.id, b.recs, idxValid d1 b.id⟩),
                      nextId := s.store.nextId } : Store) = st'
  have hUfiles : ∀ i ∈ unreadable s bad, i ∈ keys s.dir.blobs := fun i hi => (mem_unreadable.1 hi).1
  have hmvU : ∀ i ∈ mv, i ∈ unreadable s bad := fun i hi => (hU i).2 (Or.inl hi)
  have higU : ∀ i ∈ ig, i ∈ unreadable s bad := fun i hi => (hU i).2 (Or.inr hi)
  have hkb : ∀ i, i ∈ keys d1.blobs ↔ i ∈ keys s.dir.blobs ∧ i ∉ mv := fun i => hb1 ▸ mem_keys_del_contains
  have hclK : ∀ b ∈ cl, b ∈ kept := fun b hb => hsplit ▸ List.mem_append_left _ hb
  have hbl' : st'.blobs = cl.map (fun b => { b with onDisk := idxValid d1 b.id }) ++
      act.toList.map (fun a => { a with onDisk := false }) := by
    rw [← hst]
    simp only [Store.blobs, Store.closed, filterMap_id_map_some]
    cases act <;> rfl
  have hids : st'.blobs.map (·.id) = kept.map (·.id) := by
    rw [hbl', ← hsplit]
    simp [List.map_map, Function.comp_def]
  have hnx' : st'.nextId = s.store.nextId := by rw [← hst]
  refine { wf := ⟨hids ▸ hKsorted, hnx' ▸ forall_ids_congr hids (p := (· < s.store.nextId))
             fun b hb => h.wf.2 b (hkmem.1 hb).1⟩,
           activeMem := ?_, ok := ?_, filesNodup := hb1 ▸ nodup_keys_del _ h.filesNodup, files := ?_,
           ignNodup := higN,
           ignHeld := fun i hi => forall_ids_congr hids (p := (· ≠ i)) fun b hb e => (hkmem.1 hb).2 (e ▸ higU i hi),
           corrNodup := ?_, corrFiles := ?_, below := ?_, tight := ?_, cnt := ?_,
           idxNodup := hi1 ▸ nodup_keys_del _ h.idxNodup, idxFiles := ?_ }
  · intro a ha
    rw [← hst] at ha
    cases act with
    | none => cases ha
    | some x => rw [← Option.some.inj ha]
  · -- every new blob comes from a kept one; its index may be `OnDisk` only if its index file validates
    intro b' hb'
    obtain ⟨b, hbk, hid, hr, hon⟩ : ∃ b ∈ kept, b'.id = b.id ∧ b'.recs = b.recs ∧
        (b'.onDisk = true → idxValid d1 b.id = true) := by
      rw [show Store.blobs _ = _ from hbl'] at hb'
      rcases List.mem_append.1 hb' with hm | hm
      · obtain ⟨b, hb, rfl⟩ := List.mem_map.1 hm
        exact ⟨b, hclK b hb, rfl, rfl, id⟩
      · obtain ⟨b, hb, rfl⟩ := List.mem_map.1 hm
        exact ⟨b, hsplit ▸ List.mem_append_right _ hb, rfl, rfl, fun ho => by cases ho⟩
    obtain ⟨hbm, hbU⟩ := hkmem.1 hbk
    have ob := h.ok b hbm
    have hnm : b.id ∉ mv := fun hm => hbU (hmvU _ hm)
    have hfile : get d1.blobs b.id = some (s.fsz b.id) := by rw [hb1, get_del_contains _ hnm]; exact ob.file
    have hfsz : blobFileLen d1 b.id = s.fsz b.id := by unfold blobFileLen; rw [hfile]; rfl
    have hidx1 : get d1.idx b.id = get s.dir.idx b.id := by rw [hi1, get_del_contains _ hnm]
    refine ob.transfer hid (hr ▸ List.prefix_refl _) ?_ ?_ hidx1 fun ho => ?_
    · dsimp only; rw [hfsz]; exact hfile
    · dsimp only; rw [hfsz, hr]; exact ob.size
    · have hv := hon ho
      unfold idxValid at hv
      rw [hidx1, hfile] at hv
      cases hg : get s.dir.idx b.id with
      | none => rw [hg] at hv; cases hv
      | some f =>
        rw [hg] at hv
        refine ⟨hr, f, rfl, ?_, by rw [← ob.size]; simpa using hv⟩
        dsimp only
        simp [idxFileLen, hidx1, hg]
  · intro i
    show i ∈ keys d1.blobs ↔ (∃ b ∈ st'.blobs, b.id = i) ∨ i ∈ ig
    rw [mem_ids_iff, hids, ← mem_ids_iff, hkb]
    constructor
    · rintro ⟨hf, hnm⟩
      by_cases hu : i ∈ unreadable s bad
      · exact Or.inr (((hU i).1 hu).resolve_left hnm)
      · rcases (h.files i).1 hf with ⟨b, hb, rfl⟩ | hi
        · exact Or.inl ⟨b, hkmem.2 ⟨hb, hu⟩, rfl⟩
        · exact absurd (mem_unreadable.2 ⟨hf, Or.inl hi⟩) hu
    · rintro (⟨b, hb, rfl⟩ | hi)
      · obtain ⟨hbm, hbU⟩ := hkmem.1 hb
        exact ⟨(h.files b.id).2 (Or.inl ⟨b, hbm, rfl⟩), fun hm => hbU (hmvU _ hm)⟩
      · exact ⟨hUfiles i (higU i hi), hdisj i hi⟩
  · show d1.corrupted.Nodup
    rw [hc1, List.nodup_append]
    exact ⟨h.corrNodup, hmvN, fun a ha b hb e => h.corrFiles a ha (e ▸ hUfiles b (hmvU b hb))⟩
  · intro i hi
    have hi' : i ∈ d1.corrupted := hi
    rw [hc1, List.mem_append] at hi'
    show i ∉ keys d1.blobs
    rw [hkb]
    rintro ⟨hf, hnm⟩
    exact hi'.elim (fun hc => h.corrFiles i hc hf) hnm
  · intro i hi
    show i < st'.nextId
    rw [hnx']
    have hi' : i ∈ keys d1.blobs ∨ i ∈ d1.corrupted := hi
    rw [hkb, hc1, List.mem_append] at hi'
    rcases hi' with hi' | hi' | hi'
    · exact h.below i (Or.inl hi'.1)
    · exact h.below i (Or.inr hi')
    · exact h.below i (Or.inl (hUfiles i (hmvU i hi')))
  · show 0 < st'.nextId ∧ (st'.nextId - 1 ∈ keys d1.blobs ∨ st'.nextId - 1 ∈ d1.corrupted)
    rw [hnx', hkb, hc1, List.mem_append]
    refine ⟨h.tight.1, ?_⟩
    rcases h.tight.2 with ht | ht
    · by_cases hm : s.store.nextId - 1 ∈ mv
      · exact Or.inr (Or.inr hm)
      · exact Or.inl ⟨ht, hm⟩
    · exact Or.inr (Or.inl ht)
  · show s.dir.corrupted.length + mv.length = d1.corrupted.length
    rw [hc1, List.length_append]
  · intro i hi
    have hi' : i ∈ keys d1.idx := hi
    show i ∈ keys d1.blobs
    rw [hi1, mem_keys_del_contains] at hi'
    exact (hkb i).2 ⟨h.idxFiles i hi'.1, hi'.2⟩

/-- `init_from_existing` up to the creation of a missing active blob -/
theorem inv_initCore {c : Cfg} {s : State} (h : Inv c s) (lazy ignore : Bool) (bad : List Nat) :
    Inv c (initCore c s lazy ignore bad) :=
  initCore_eq c s lazy ignore bad ▸ inv_dumpPass (inv_reopen h lazy ignore bad)

end Acct
end Pearl
