import Pearl.Proofs.EndToEndMetaBytesSim
/-
Byte image of the index file, on top of `EndToEndMetaBytesSim` (the relation `Sim`): the image `from_records` writes for a built file is opened by `from_file`,
and the opened index simulates the structured file (`image_sim`).  Ingredients: the layout of `indexFileBytes`
(`indexFileBytes_length`, C09 `bytes_length`), the header / tree-meta parsers of C03b (`readIndexHeader_image`,
`readTreeMeta_image`), `key_offset_serialized` on the bytes of a node (`keyOffset_bytes`), the keys of the nodes
`build_tree` writes are keys of the map (`buildTree_keys`).
-/
namespace Pearl.E2E
open Pearl Pearl.BPTree

theorem flatMap_drop_const {α : Type} (g : α → List Nat) (c : Nat) : ∀ (l : List α) (i : Nat),
    (∀ x ∈ l, (g x).length = c) → ∀ h, l[i]? = some h →
    (l.flatMap g).drop (i * c) = g h ++ (l.drop (i + 1)).flatMap g
  | [], i, _, h, hh => by simp at hh
  | a :: l, 0, _, h, hh => by
    simp only [List.getElem?_cons_zero, Option.some.injEq] at hh
    subst hh
    simp
  | a :: l, i + 1, hc, h, hh => by
    simp only [List.getElem?_cons_succ] at hh
    have ha : (g a).length = c := hc a (by simp)
    rw [List.flatMap_cons, Nat.add_mul, Nat.one_mul, Nat.add_comm, List.drop_append,
      List.drop_of_length_le (by omega), List.nil_append]
    have : c + i * c - (g a).length = i * c := by omega
    rw [this, flatMap_drop_const g c l i (fun x hx => hc x (by simp [hx])) h hh]
    simp

theorem flatMap_length_const' {α : Type} (g : α → List Nat) (c : Nat) (l : List α) (h : ∀ x ∈ l, (g x).length = c) :
    (l.flatMap g).length = l.length * c := flatMap_length_const g c l h

/-- `key_offset_serialized` on a buffer `meta | keys | offsets ++ rest`, in terms of the three regions -/
theorem keyOffset_parts (K : Nat) (hK : 0 < K) (A B D : List Nat) (len k : Nat) (hA : A.length = 8)
    (hAv : leNat A = len) (hB : B.length = len * K) :
    BIdx.keyOffset K (A ++ (B ++ D)) k =
      if len = 0 then none
      else
        match binSearch (fun i => if (i + 1) * K ≤ len * K then some (beNat ((B.drop (i * K)).take K)) else none)
            len k with
        | none => none
        | some res =>
          let ind := match res with
            | .found pos => pos + 1
            | .notFound pos => pos
          if D.length < ind * 8 + 8 then none else some (leNat ((D.drop (ind * 8)).take 8)) := by
  unfold BIdx.keyOffset
  have hlen : (A ++ (B ++ D)).length = 8 + (len * K + D.length) := by
    simp only [List.length_append, hA, hB]
  rw [hlen, if_neg (by omega), List.take_left' hA, hAv]
  simp only []
  rw [if_neg (by omega), if_neg (by omega)]
  have hkeys : ((A ++ (B ++ D)).take (8 + len * K)).drop 8 = B := by
    rw [List.take_append, List.take_of_length_le (by omega), hA, List.drop_left' hA,
      show 8 + len * K - 8 = len * K from by omega, ← hB, List.take_left' rfl]
  rw [hkeys, hB, Nat.mul_div_cancel _ hK]
  by_cases h0 : len = 0
  · rw [if_pos h0, if_pos h0]
  · rw [if_neg h0, if_neg h0]
    cases binSearch (fun i => if (i + 1) * K ≤ len * K then some (beNat ((B.drop (i * K)).take K)) else none)
        len k with
    | none => rfl
    | some res =>
      have hd : ∀ ind, (A ++ (B ++ D)).drop (8 + len * K + ind * 8) = D.drop (ind * 8) := by
        intro ind
        rw [show 8 + len * K + ind * 8 = 8 + (len * K + ind * 8) from by omega, ← List.drop_drop,
          List.drop_left' hA, ← List.drop_drop, List.drop_left' hB]
      cases res with
      | found pos =>
        simp only []
        rw [hd]
        by_cases hc : D.length < (pos + 1) * 8 + 8
        · rw [if_pos hc, if_pos (by omega)]
        · rw [if_neg hc, if_neg (by omega)]
      | notFound pos =>
        simp only []
        rw [hd]
        by_cases hc : D.length < pos * 8 + 8
        · rw [if_pos hc, if_pos (by omega)]
        · rw [if_neg hc, if_neg (by omega)]

theorem keyOffset_bytes (K : Nat) (hK : 0 < K) (n : Node) (rest : List Nat) (k r : Nat)
    (hkeys : ∀ key ∈ n.keys, key < 256 ^ K) (hlen : n.keys.length < 2 ^ 64)
    (h : n.keyOffset k = some r) (hr : r < 2 ^ 64) : BIdx.keyOffset K (n.bytes K ++ rest) k = some r := by
  have hkl : (n.keys.flatMap (beBytes K)).length = n.keys.length * K :=
    flatMap_length_const _ K _ (fun x _ => beBytes_length _ _)
  have hsplit : n.bytes K ++ rest = BPTree.leBytes 8 n.keys.length ++ (n.keys.flatMap (beBytes K) ++
      (n.offsets.flatMap (BPTree.leBytes 8) ++ rest)) := by
    simp [Node.bytes, List.append_assoc]
  rw [hsplit, keyOffset_parts K hK _ _ _ n.keys.length k (BPTree.leBytes_length _ _)
    (leNat_leBytes_lt (by rw [show (256 : Nat) ^ 8 = 2 ^ 64 from by decide]; exact hlen)) hkl]
  unfold Node.keyOffset at h
  split at h
  · cases h
  · rename_i hne
    rw [if_neg hne]
    have hmono : ∀ i v, n.keys[i]? = some v →
        (if (i + 1) * K ≤ n.keys.length * K then
          some (beNat (((n.keys.flatMap (beBytes K)).drop (i * K)).take K)) else none) = some v := by
      intro i v hv
      have hi : i < n.keys.length := (List.getElem?_eq_some_iff.mp hv).1
      rw [if_pos (Nat.mul_le_mul_right _ (by omega)),
        flatMap_drop_const (beBytes K) K n.keys i (fun x _ => beBytes_length _ _) v hv,
        List.take_left' (beBytes_length _ _), beNat_beBytes,
        Nat.mod_eq_of_lt (hkeys v (List.mem_of_getElem? hv))]
    have hoff : ∀ ind, n.offsets[ind]? = some r →
        (if (n.offsets.flatMap (BPTree.leBytes 8) ++ rest).length < ind * 8 + 8 then none
          else some (leNat (((n.offsets.flatMap (BPTree.leBytes 8) ++ rest).drop (ind * 8)).take 8))) = some r := by
      intro ind hind
      have hi : ind < n.offsets.length := (List.getElem?_eq_some_iff.mp hind).1
      have hol : (n.offsets.flatMap (BPTree.leBytes 8)).length = n.offsets.length * 8 :=
        flatMap_length_const _ 8 _ (fun x _ => BPTree.leBytes_length _ _)
      rw [List.length_append, hol, if_neg (by omega), List.drop_append,
        flatMap_drop_const (BPTree.leBytes 8) 8 n.offsets ind (fun x _ => BPTree.leBytes_length _ _) r hind,
        List.append_assoc, List.take_left' (BPTree.leBytes_length _ _),
        leNat_leBytes_lt (by rw [show (256 : Nat) ^ 8 = 2 ^ 64 from by decide]; exact hr)]
    cases hbs : binSearch (fun i => n.keys[i]?) n.keys.length k with
    | none => rw [hbs] at h; cases h
    | some res =>
      rw [hbs] at h
      rw [binSearch_mono _ _ _ _ hmono res hbs]
      simp only []
      cases res with
      | found pos => exact hoff _ h
      | notFound pos => exact hoff _ h

theorem nodeAtRel_some (p : Params) : ∀ (ns : List Node) (rel : Nat) (n : Node),
    IndexFile.nodeAtRel p ns rel = some n → ∃ A R, ns = A ++ n :: R ∧ nodesBytes p A = rel
  | [], _, _, h => by simp [IndexFile.nodeAtRel] at h
  | a :: ns, rel, n, h => by
    simp only [IndexFile.nodeAtRel] at h
    split at h
    · rename_i h0
      simp only [Option.some.injEq] at h
      subst h
      exact ⟨[], ns, rfl, by rw [h0]; rfl⟩
    · split at h
      · cases h
      · rename_i h0 h1
        obtain ⟨A, R, hA, hrel⟩ := nodeAtRel_some p ns _ n h
        refine ⟨a :: A, R, by rw [hA]; rfl, ?_⟩
        rw [nodesBytes_cons, hrel]
        omega

theorem nodes_bytes_drop (p : Params) (A : List Node) (n : Node) (R : List Node)
    (hwf : ∀ a ∈ A, a.offsets.length = a.keys.length + 1) :
    ((A ++ n :: R).flatMap (Node.bytes p.K)).drop (nodesBytes p A) = n.bytes p.K ++ R.flatMap (Node.bytes p.K) := by
  rw [List.flatMap_append, List.flatMap_cons, List.drop_left' (nodes_bytes_length p A hwf)]

theorem mem_of_mem_portions {α : Type} (mn mx : Nat) (xs : List α) {P : List α} (hP : P ∈ portions mn mx xs)
    {y : α} (hy : y ∈ P) : y ∈ xs := by
  rw [← portions_flatten mn mx xs]
  exact List.mem_flatten.mpr ⟨P, hP, hy⟩

theorem buildTree_keys (p : Params) (hfan : 3 ≤ maxAmount p) (S : Nat → Prop) (to : Nat) :
    ∀ (fuel : Nat) (es : List Entry), (∀ e ∈ es, S e.1) →
      ∀ n ∈ buildTree p fuel es to, ∀ key ∈ n.keys, S key := by
  intro fuel
  induction fuel with
  | zero => intro es _ n hn; simp [buildTree] at hn
  | succ fuel ih =>
    intro es hes n hn key hkey
    by_cases hsmall : es.length ≤ 1
    · rw [buildTree_small _ _ _ _ hsmall] at hn; simp at hn
    · rw [buildTree_succ p fuel es to (by omega)] at hn
      rcases List.mem_append.1 hn with hn | hn
      · refine ih _ ?_ n hn key hkey
        intro e he
        have hk : e.1 ∈ (collectNext p (portions (minAmount p) (maxAmount p) es) 0).1.map (·.1) :=
          List.mem_map.mpr ⟨e, he, rfl⟩
        rw [collectNext_keys] at hk
        obtain ⟨P, hP, hPe⟩ := List.mem_map.mp hk
        have hsz := (portions_sizes p hfan es (by omega) P hP).1
        cases P with
        | nil => simp at hsz
        | cons x xs =>
          simp only [List.headD_cons] at hPe
          rw [← hPe]
          exact hes x (mem_of_mem_portions _ _ es hP (by simp))
      · obtain ⟨P, hP, rfl⟩ := List.mem_map.1 hn
        simp only [mkNode, List.mem_map] at hkey
        obtain ⟨e, he, rfl⟩ := hkey
        exact hes e (mem_of_mem_portions _ _ es hP (List.mem_of_mem_tail he))

theorem build_node_keys (p : Params) (hv : p.Valid) (metaLen : Nat) (m : InMem RecHeader) :
    ∀ n ∈ (build p metaLen m).nodes, ∀ key ∈ n.keys, ∃ kv ∈ m, kv.1 = key := by
  intro n hn key hkey
  refine buildTree_keys p hv.fan (fun key => ∃ kv ∈ m, kv.1 = key) _ _ (leafTable p m) ?_ n hn key hkey
  intro e he
  obtain ⟨m1, k, v, m2, hm, rfl⟩ := leafTable_boundary p hv.rhs_le m e he
  exact ⟨(k, v), by rw [hm]; simp, rfl⟩

theorem leaf_read (K : Nat) (F : IndexFile RecHeader) (img pre : List Nat)
    (h1 : img = pre ++ (F.leaves.map toRaw).flatMap (RawHeader.bytes K)) (h2 : pre.length = F.leavesStart)
    (hrhs : F.p.rhs = 57 + K) (hok : ∀ h ∈ F.leaves, HdrOK K h) :
    ∀ i h, F.leaves[i]? = some h → ∀ n, F.p.rhs ≤ n →
      deserHdr ((img.drop (F.leavesStart + i * F.p.rhs)).take n) = some h := by
  intro i h hi n hn
  have hi' : (F.leaves.map toRaw)[i]? = some (toRaw h) := by rw [List.getElem?_map, hi]; rfl
  rw [h1, ← h2, ← List.drop_drop, List.drop_left' rfl, hrhs,
    flatMap_drop_const (RawHeader.bytes K) (57 + K) _ i (fun x _ => RawHeader.bytes_length K x) _ hi',
    List.take_append, List.take_of_length_le (by rw [RawHeader.bytes_length]; omega)]
  exact deserHdr_rawBytes (hok h (List.mem_of_getElem? hi)) _

theorem take_prefix (a t : List Nat) (n : Nat) (h : a.length ≤ n) : (a ++ t).take n = a ++ t.take (n - a.length) := by
  rw [List.take_append, List.take_of_length_le h]

theorem node_read (K : Nat) (F : IndexFile RecHeader) (hK0 : 0 < K ∨ F.nodes = []) (img pre tail root : List Nat)
    (h1 : img = pre ++ (F.nodes.flatMap (Node.bytes K) ++ tail)) (h2 : pre.length = F.treeOffset)
    (hts : F.treeStart = F.treeOffset) (hpK : F.p.K = K) (hpB : F.p.B = 4096)
    (hlen : img.length = F.fileSize)
    (hwf : ∀ n ∈ F.nodes, n.offsets.length = n.keys.length + 1)
    (hkeys : ∀ n ∈ F.nodes, ∀ key ∈ n.keys, key < 256 ^ K)
    (hroot : root = (img.drop F.treeOffset).take (min (img.length - F.treeOffset) 4096)
      ++ List.replicate (4096 - min (img.length - F.treeOffset) 4096) 0) :
    ∀ off n, F.readNode off = some n →
      ∃ buf, (if off = F.treeOffset then some root else BPTree.readExactAt img off 4096) = some buf ∧
        ∀ k r, n.keyOffset k = some r → r < 2 ^ 64 → BIdx.keyOffset K buf k = some r := by
  intro off n hn
  unfold IndexFile.readNode at hn
  split at hn
  · cases hn
  · rename_i hge
    split at hn
    · cases hn
    · rename_i hfit
      cases hat : IndexFile.nodeAtRel F.p F.nodes (off - F.treeStart) with
      | none => rw [hat] at hn; cases hn
      | some n' =>
        rw [hat] at hn
        simp only [] at hn
        split at hn
        · rename_i hsz
          simp only [Option.some.injEq] at hn
          subst hn
          obtain ⟨A, R, hAR, hrel⟩ := nodeAtRel_some F.p F.nodes _ n' hat
          have hmemn : n' ∈ F.nodes := by rw [hAR]; simp
          have hK0 : 0 < K := by
            rcases hK0 with h | h
            · exact h
            · rw [h] at hmemn; cases hmemn
          have hAwf : ∀ a ∈ A, a.offsets.length = a.keys.length + 1 :=
            fun a ha => hwf a (by rw [hAR]; simp [ha])
          have hnb : (n'.bytes K).length = n'.size F.p := by
            have := Node.bytes_length F.p n' (hwf n' hmemn)
            rwa [hpK] at this
          have hoff : off = F.treeOffset + nodesBytes F.p A := by rw [hts] at hge hrel; omega
          -- the bytes from `off` on start with the bytes of the node
          have hdrop : img.drop off = n'.bytes K ++ (R.flatMap (Node.bytes K) ++ tail) := by
            have hAB : (A.flatMap (Node.bytes K)).length = nodesBytes F.p A := by
              have := nodes_bytes_length F.p A hAwf
              rwa [hpK] at this
            rw [hoff, h1, ← h2, ← List.drop_drop, List.drop_left' rfl, hAR, List.flatMap_append, List.flatMap_cons,
              List.append_assoc, List.drop_left' hAB, List.append_assoc]
          have hkl : n'.keys.length < 2 ^ 64 := by
            have : n'.size F.p ≤ 4096 := by rw [← hpB]; exact hsz
            simp only [Node.size, nodeSize, nodeMetaSize, offsetSize] at this
            omega
          have hdl : (img.drop off).length = img.length - off := List.length_drop
          have hnle : n'.size F.p ≤ img.length - off := by
            rw [← hdl, hdrop, List.length_append, hnb]; omega
          have hB : n'.size F.p ≤ 4096 := by rw [← hpB]; exact hsz
          by_cases hroot' : off = F.treeOffset
          · rw [if_pos hroot']
            refine ⟨root, rfl, ?_⟩
            intro k r hk hr
            rw [hroot, ← hroot', hdrop, take_prefix _ _ _ (by rw [hnb]; omega), List.append_assoc]
            exact keyOffset_bytes K hK0 n' _ k r (hkeys n' hmemn) hkl hk hr
          · rw [if_neg hroot']
            have hfit' : off + 4096 ≤ img.length := by
              have : ¬ F.fileSize < off + F.p.B := fun hc => hfit ⟨hroot', hc⟩
              rw [hlen, ← hpB]; omega
            refine ⟨_, readExactAt_eq _ _ _ hfit', ?_⟩
            intro k r hk hr
            rw [hdrop, take_prefix _ _ _ (by rw [hnb]; omega)]
            exact keyOffset_bytes K hK0 n' _ k r (hkeys n' hmemn) hkl hk hr
        · cases hn

section Image
variable (K : Nat) (metaBuf : List Nat) (m : InMem RecHeader)

/-- the structured file a dump builds -/
abbrev builtFile : IndexFile RecHeader := build (Params.real K) metaBuf.length m

theorem rawFile_fileSize (f : IndexFile RecHeader) : (rawFile f).fileSize = f.fileSize := by
  simp [rawFile, IndexFile.fileSize, IndexFile.leavesStart, IndexFile.treeStart]

theorem builtFile_nodes_wf (hK : K ≤ 2032) :
    ∀ n ∈ (builtFile K metaBuf m).nodes, n.offsets.length = n.keys.length + 1 :=
  buildTree_nodes_wf _ (valid_real K hK).fan _ _ _

theorem rawFile_bytes_length (hK : K ≤ 2032) (hash : List Nat) (hhash : hash.length = 32) (blobSize : Nat) :
    (indexFileBytes (rawFile (builtFile K metaBuf m)) metaBuf hash blobSize).length = (builtFile K metaBuf m).fileSize ∧
    (indexHeaderBytes (rawFile (builtFile K metaBuf m)) hash true blobSize ++ metaBuf
      ++ treeMetaBytes (rawFile (builtFile K metaBuf m))).length = (builtFile K metaBuf m).treeOffset ∧
    (indexHeaderBytes (rawFile (builtFile K metaBuf m)) hash true blobSize ++ metaBuf
      ++ treeMetaBytes (rawFile (builtFile K metaBuf m))
      ++ (builtFile K metaBuf m).nodes.flatMap (Node.bytes K)).length = (builtFile K metaBuf m).leavesStart := by
  have := indexFileBytes_length (rawFile (builtFile K metaBuf m)) metaBuf hash blobSize
    (builtFile_nodes_wf K metaBuf m hK) rfl rfl hhash
  rw [rawFile_fileSize] at this
  exact this

theorem rawFile_imageOK (hK : K ≤ 2032) (hash : List Nat) (hhash : hash.length = 32)
    (hsize : (builtFile K metaBuf m).fileSize < 2 ^ 64) :
    ImageOK (rawFile (builtFile K metaBuf m)) metaBuf hash := by
  have hlen := (rawFile_bytes_length K metaBuf m hK hash hhash 0).1
  rw [indexFileBytes_eq_V, List.length_append, indexHeaderBytesV_length _ _ _ _ hhash] at hlen
  have hrc : (builtFile K metaBuf m).recordsCount = (leafArray m).length := build_recordsCount _ _ _
  have hfs : (builtFile K metaBuf m).fileSize
      = (builtFile K metaBuf m).leavesOffset + (leafArray m).length * (57 + K) := rfl
  have hle : (leafArray m).length ≤ (leafArray m).length * (57 + K) := Nat.le_mul_of_pos_right _ (by omega)
  refine ⟨hhash, rfl, ?_, ?_, ?_, ?_, ?_, ?_⟩
  · show K < 256 ^ 2
    rw [pow_256_2]; omega
  · show (builtFile K metaBuf m).recordsCount < 256 ^ 8
    rw [hrc, pow_256_8]; omega
  · show 57 + K < 256 ^ 8
    rw [pow_256_8]; omega
  · show (builtFile K metaBuf m).treeOffset ≤ (builtFile K metaBuf m).leavesOffset
    rw [build_leavesOffset']; exact Nat.le_add_right _ _
  · show (builtFile K metaBuf m).recordsCount * (57 + K) + (builtFile K metaBuf m).leavesOffset = _
    rw [hlen, hfs, hrc]
    omega
  · rw [hlen, pow_256_8]; omega

/-- a key length of zero bytes leaves room for one key only: one leaf, no inner node (so `binary_search_serialized`,
    which divides by `K::LEN`, is never reached) -/
theorem nodes_of_klen_zero (hwf : WF m) (hkeys : ∀ kv ∈ m, kv.1 < 256 ^ K) :
    0 < K ∨ (builtFile K metaBuf m).nodes = [] := by
  by_cases hK0 : 0 < K
  · exact Or.inl hK0
  · right
    have hK : K = 0 := by omega
    subst hK
    have hk0 : ∀ kv ∈ m, kv.1 = 0 := by
      intro kv hkv
      have := hkeys kv hkv
      simp only [Nat.pow_zero] at this
      omega
    apply buildTree_small
    cases m with
    | nil => simp [leafTable]
    | cons kv rest =>
      obtain ⟨k0, v0⟩ := kv
      cases rest with
      | nil =>
        rw [leafTable_cons (Params.real 0) (by decide)]
        simp [packLeaves]
      | cons kv' rest' =>
        exfalso
        have h1 := hk0 (k0, v0) (by simp)
        have h2 := hk0 kv' (by simp)
        have hs := hwf.sorted
        rw [List.pairwise_cons] at hs
        have := hs.1 kv' (by simp)
        simp only at h1
        omega

/-- the opened image: what `from_file` returns on the image of a built file -/
def openedImage (hash : List Nat) (blobSize : Nat) : BIdx :=
  let F := builtFile K metaBuf m
  let img := indexFileBytes (rawFile F) metaBuf hash blobSize
  { file := img
    header := headerV (rawFile F) hash 13 blobSize
    metadata := ⟨F.leavesOffset, F.treeOffset⟩
    root := (img.drop F.treeOffset).take (min (img.length - F.treeOffset) 4096)
      ++ List.replicate (4096 - min (img.length - F.treeOffset) 4096) 0 }

theorem fromFile_image (hK : K ≤ 2032) (hash : List Nat) (hhash : hash.length = 32) (blobSize : Nat)
    (hsize : (builtFile K metaBuf m).fileSize < 2 ^ 64) :
    BIdx.fromFile (indexFileBytes (rawFile (builtFile K metaBuf m)) metaBuf hash blobSize)
      = some (openedImage K metaBuf m hash blobSize) := by
  have ok := rawFile_imageOK K metaBuf m hK hash hhash hsize
  obtain ⟨hL1, hL2, hL3⟩ := rawFile_bytes_length K metaBuf m hK hash hhash blobSize
  have hV := indexFileBytes_eq_V (rawFile (builtFile K metaBuf m)) metaBuf hash blobSize
  have hrih : readIndexHeader (indexFileBytes (rawFile (builtFile K metaBuf m)) metaBuf hash blobSize)
      = some (headerV (rawFile (builtFile K metaBuf m)) hash 13 blobSize) := by
    rw [hV]; exact readIndexHeader_image _ metaBuf hash ok 13 blobSize _
  have hrtm : readTreeMeta (indexFileBytes (rawFile (builtFile K metaBuf m)) metaBuf hash blobSize)
      (headerV (rawFile (builtFile K metaBuf m)) hash 13 blobSize)
      = some ⟨(builtFile K metaBuf m).leavesOffset, (builtFile K metaBuf m).treeOffset⟩ := by
    rw [hV]; exact readTreeMeta_image _ metaBuf hash ok 13 blobSize
  have hbody : 83 + (indexBodyBytes (rawFile (builtFile K metaBuf m)) metaBuf).length
      = (builtFile K metaBuf m).fileSize := by
    rw [← hL1, hV, List.length_append, indexHeaderBytesV_length _ _ _ _ hhash]
  have h1 : (builtFile K metaBuf m).recordsCount * (57 + K) + (builtFile K metaBuf m).leavesOffset
      = 83 + (indexBodyBytes (rawFile (builtFile K metaBuf m)) metaBuf).length := ok.fsize
  have h3 : (builtFile K metaBuf m).treeOffset ≤ (builtFile K metaBuf m).leavesOffset := ok.tree
  have hcfs : checkFileSize (headerV (rawFile (builtFile K metaBuf m)) hash 13 blobSize)
      ⟨(builtFile K metaBuf m).leavesOffset, (builtFile K metaBuf m).treeOffset⟩
      (indexFileBytes (rawFile (builtFile K metaBuf m)) metaBuf hash blobSize).length = true := by
    rw [hL1]
    simp only [checkFileSize, headerV, u64Bound, Bool.and_eq_true, decide_eq_true_eq, beq_iff_eq]
    refine ⟨⟨⟨h3, ?_⟩, ?_⟩, ?_⟩
    · apply decide_eq_true
      show (builtFile K metaBuf m).recordsCount * (57 + K) < 2 ^ 64
      omega
    · apply decide_eq_true
      show (builtFile K metaBuf m).recordsCount * (57 + K) + (builtFile K metaBuf m).leavesOffset < 2 ^ 64
      omega
    · show (builtFile K metaBuf m).recordsCount * (57 + K) + (builtFile K metaBuf m).leavesOffset = _
      omega
  have htole : (builtFile K metaBuf m).treeOffset
      ≤ (indexFileBytes (rawFile (builtFile K metaBuf m)) metaBuf hash blobSize).length := by
    rw [hL1]; omega
  unfold BIdx.fromFile
  rw [hrih]
  simp only []
  rw [hrtm]
  simp only []
  rw [hcfs]
  simp only [Bool.not_true, Bool.false_eq_true, if_false]
  unfold readRoot
  simp only []
  rw [if_neg (by omega), readExactAt_eq _ _ _ (by omega)]
  rfl

/-- **the opened image simulates the structured file** -/
theorem image_sim (hK : K ≤ 2032) (hwf : WF m) (hash : List Nat) (hhash : hash.length = 32)
    (blobSize : Nat) (hblob : blobSize < 2 ^ 64)
    (hkeys : ∀ kv ∈ m, kv.1 < 256 ^ K) (hok : ∀ h ∈ leafArray m, HdrOK K h)
    (hsize : (builtFile K metaBuf m).fileSize < 2 ^ 64) :
    Sim K blobSize metaBuf (builtFile K metaBuf m) (openedImage K metaBuf m hash blobSize) := by
  have hv := valid_real K hK
  obtain ⟨hL1, hL2, hL3⟩ := rawFile_bytes_length K metaBuf m hK hash hhash blobSize
  have hlo' : (builtFile K metaBuf m).leavesOffset
      = (builtFile K metaBuf m).treeOffset + nodesBytes (Params.real K) (builtFile K metaBuf m).nodes :=
    build_leavesOffset' _ _ _
  have hfsz : (builtFile K metaBuf m).fileSize
      = (builtFile K metaBuf m).leavesOffset + (builtFile K metaBuf m).leaves.length * (57 + K) := rfl
  have hsplit : indexFileBytes (rawFile (builtFile K metaBuf m)) metaBuf hash blobSize
      = (indexHeaderBytes (rawFile (builtFile K metaBuf m)) hash true blobSize ++ metaBuf
          ++ treeMetaBytes (rawFile (builtFile K metaBuf m)))
        ++ ((builtFile K metaBuf m).nodes.flatMap (Node.bytes K)
          ++ ((builtFile K metaBuf m).leaves.map toRaw).flatMap (RawHeader.bytes K)) := by
    rw [indexFileBytes, List.append_assoc]
    rfl
  have hsplit2 : indexFileBytes (rawFile (builtFile K metaBuf m)) metaBuf hash blobSize
      = (indexHeaderBytes (rawFile (builtFile K metaBuf m)) hash true blobSize ++ metaBuf
          ++ treeMetaBytes (rawFile (builtFile K metaBuf m))
          ++ (builtFile K metaBuf m).nodes.flatMap (Node.bytes K))
        ++ ((builtFile K metaBuf m).leaves.map toRaw).flatMap (RawHeader.bytes K) := by
    rw [hsplit, ← List.append_assoc]
  have hhb : (indexHeaderBytes (rawFile (builtFile K metaBuf m)) hash true blobSize).length = 83 := by
    rw [indexHeaderBytes_eq_V]; exact indexHeaderBytesV_length _ _ _ _ hhash
  have hsplit3 : indexFileBytes (rawFile (builtFile K metaBuf m)) metaBuf hash blobSize
      = indexHeaderBytes (rawFile (builtFile K metaBuf m)) hash true blobSize ++ (metaBuf
          ++ (treeMetaBytes (rawFile (builtFile K metaBuf m)) ++ ((builtFile K metaBuf m).nodes.flatMap (Node.bytes K)
          ++ ((builtFile K metaBuf m).leaves.map toRaw).flatMap (RawHeader.bytes K)))) := by
    rw [hsplit]; simp only [List.append_assoc]
  refine
    { rhs := rfl, B := rfl, rc := rfl, to := rfl, lo := rfl, size := hL1, bound := hsize,
      toLe := by rw [hfsz, hlo']; omega,
      leaf := ?_, node := ?_, valid := ?_, ss := ?_, ms := rfl, mlen := ?_, mb := ?_ }
  · exact leaf_read K (builtFile K metaBuf m) _ _ hsplit2 hL3 rfl hok
  · exact node_read K (builtFile K metaBuf m) (nodes_of_klen_zero K metaBuf m hwf hkeys) _ _ _ _ hsplit hL2 rfl rfl rfl hL1
      (builtFile_nodes_wf K metaBuf m hK)
      (fun n hn key hkey => by
        obtain ⟨kv, hkv, rfl⟩ := build_node_keys (Params.real K) hv metaBuf.length m n hn key hkey
        exact hkeys kv hkv)
      rfl
  · show validateHeader K blobSize (headerV (rawFile (builtFile K metaBuf m)) hash 13 blobSize) = true
    simp only [validateHeader, headerV, IndexHeaderV.isWritten, IndexHeaderV.version, indexHeaderVersion,
      Bool.and_eq_true, beq_iff_eq]
    exact ⟨⟨⟨⟨trivial, trivial⟩, rfl⟩, Nat.mod_eq_of_lt (by rw [pow_256_8]; omega)⟩, trivial⟩
  · show 51 + hash.length = 83
    omega
  · show 83 + metaBuf.length ≤ (indexFileBytes (rawFile (builtFile K metaBuf m)) metaBuf hash blobSize).length
    rw [hsplit3]
    simp only [List.length_append, hhb]
    omega
  · show ((indexFileBytes (rawFile (builtFile K metaBuf m)) metaBuf hash blobSize).drop 83).take metaBuf.length = metaBuf
    rw [hsplit3, List.drop_left' hhb, List.take_left' rfl]

end Image

end Pearl.E2E
