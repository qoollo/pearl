import Pearl.Model.Crash
import Pearl.Proofs.BlobProduced
/-
Lemmas for crash recovery at the byte level (C05, C06): the start-up scan (`rawLoop`, `rawStart`, `rawRecordsLoad`)
and `openBlob` on files that are a produced blob, a prefix of one, or intact records followed by a cut record.

`rawLoop_tail` takes the loop over a run of intact records, whatever follows; `rawRecordsLoad_run` is the whole scan
from there.  `rawRecordsLoad_torn` is the master for cut records (intact records, then a record of which `k` bytes
are there, then bytes that do not reach its claimed end); `rawRecordsLoad_cut` (a prefix of a produced blob),
`rawRecordsLoad_torn_then`, `rawRecordsLoad_torn_prefix` (the cut as a byte string, C05) and
`Fault.rawRecordsLoad_torn_tail` (FaultLemmas.lean, in terms of `recLen`) are its instances.  Then: what `openBlob`
makes of the scan's result, `Entry::load` on a prefix and on a torn record, and that data validation can only turn
"opened" into "quarantined" (`openBlob_true_false`: an `_true_false` lemma derives the non-validating result from
the validating one).

The vocabulary comes from Pearl/Proofs/BlobLemmas.lean (`Record.image`, `Record.WF`, `Record.size`, `tailOf`,
`scanOf`, `appendRecords_eq`, `writtenHeaders_eq`) and Pearl/Proofs/BlobProduced.lean (`GoodRecs`, `image_eq`,
`blobBytes_eq`, `IsBoundary`, `CutIn`, `ProducedAt`).  Sizes are mostly written `57 + klen` (record header) and `20`
(blob header) here, in FaultLemmas.lean and in ScanRegions.lean; the model's `headerSize klen` and `blobHeaderSize`
unfold to them.
-/
namespace Pearl

/-! ### the loop: over a run of intact records, at the end of the file, at a cut record -/

theorem rawLoop_tail (v : Bool) {klen : Nat} (file : List UInt8) (Rs : List Record) :
    ∀ (pre rest : List UInt8) (k : Nat), file = pre ++ (tailOf pre.length Rs ++ rest) →
      file.length < 2 ^ 64 → GoodRecs klen Rs →
      rawLoop v file (57 + klen) (Rs.length + k) pre.length =
        match rawLoop v file (57 + klen) k (pre.length + (tailOf pre.length Rs).length) with
        | .error e => .error e
        | .ok hs => .ok (scanOf pre.length Rs ++ hs) := by
  induction Rs with
  | nil =>
    intro pre rest k _ _ _
    simp only [List.length_nil, Nat.zero_add, tailOf, Nat.add_zero, scanOf, List.nil_append]
    cases rawLoop v file (57 + klen) k pre.length <;> rfl
  | cons R Rs ih =>
    intro pre rest k hf hlen hg
    obtain ⟨hwf, hts⟩ := hg.head
    have hf' : file = pre ++ (R.image pre.length ++ (tailOf (pre ++ R.image pre.length).length Rs ++ rest)) := by
      rw [hf]; simp only [tailOf, List.length_append, List.append_assoc]
    have hle : pre.length + (R.image pre.length).length ≤ file.length := by
      rw [hf']; simp only [List.length_append]; omega
    have him := R.image_length pre.length
    have hr := final_inRange hwf pre.length hts (by omega)
    have hlt : pre.length < file.length := by omega
    have hstep := readCurrentRecord_image v pre (tailOf (pre ++ R.image pre.length).length Rs ++ rest) R
      hwf pre.length rfl hr
    rw [← hf'] at hstep
    have hrest := ih (pre ++ R.image pre.length) rest k (by rw [hf']; simp only [List.append_assoc])
      hlen hg.tail
    rw [List.length_append] at hrest
    have haud := hwf.audit pre.length
    rw [show (R :: Rs).length + k = (Rs.length + k) + 1 by simp only [List.length_cons]; omega]
    rw [rawLoop, if_pos hlt, hstep]
    have hnext : pre.length + ((R.image pre.length).length +
        (tailOf (pre.length + (R.image pre.length).length) Rs).length) =
        pre.length + (R.image pre.length).length +
          (tailOf (pre.length + (R.image pre.length).length) Rs).length := by omega
    cases v
    · simp only [Bool.false_eq_true, ↓reduceIte, hrest, tailOf, List.length_append, scanOf, hnext]
      cases rawLoop false file (57 + klen) k _ <;> rfl
    · simp only [↓reduceIte, haud, hrest, tailOf, List.length_append, scanOf, hnext]
      cases rawLoop true file (57 + klen) k _ <;> rfl

theorem rawLoop_end (v : Bool) (file : List UInt8) (hsz fuel off : Nat) (h : file.length ≤ off) :
    rawLoop v file hsz fuel off = .ok [] := by
  cases fuel <;> simp only [rawLoop, if_neg (Nat.not_lt.mpr h)]

namespace Fault
/-- reading no bytes succeeds at any offset, also beyond the end of the file (`rawLoop_torn_body` needs it for a
    record without data) -/
theorem readExactAt_zero (f : List UInt8) (off : Nat) : readExactAt f 0 off = some [] := by
  unfold readExactAt; simp
end Fault

theorem stop_torn_header (v : Bool) (P : List UInt8) (R : Record) (off n klen : Nat) (hoff : P.length = off)
    (hn : n < 57 + klen) :
    readCurrentRecord v (P ++ (R.image off).take n) (57 + klen) off = .error (.load .bincode) := by
  unfold readCurrentRecord
  rw [readExactAt_none_of_short (by simp only [List.length_append, List.length_take]; omega) (by omega)]

/-- where the complete header of `R` stands at `off` and the file ends at or before the end `R` claims, whatever
    bytes `X` follow the part of `R` that is there: the header is accepted and the scan is over (finding E8); with
    data validation reading the data hits the end of the file, unless there is none to read -/
theorem rawLoop_torn_body (v : Bool) {klen : Nat} (P X : List UInt8) (R : Record) (hwf : R.WF klen)
    (off k fuel : Nat) (hoff : P.length = off) (hr : (R.header.final off).InRange) (hf : 0 < fuel)
    (hk1 : 57 + klen ≤ k) (hX : k + X.length ≤ (R.image off).length)
    (hv : v = true → R.data ≠ [] → k + X.length < (R.image off).length) :
    rawLoop v (P ++ ((R.image off).take k ++ X)) (57 + klen) fuel off =
      if v = true ∧ R.data ≠ [] then .error (.load .bincode) else .ok [(off, R.header.final off)] := by
  obtain ⟨fuel, rfl⟩ : ∃ f, fuel = f + 1 := ⟨fuel - 1, by omega⟩
  have him := R.image_length off
  rw [hwf.key] at him
  have hl : (P ++ ((R.image off).take k ++ X)).length = off + k + X.length := by
    simp only [List.length_append, List.length_take, hoff]; omega
  have hend : ∀ f, rawLoop v (P ++ ((R.image off).take k ++ X)) (57 + klen) f
      (off + (57 + klen) + (serMeta R.mt).length + R.data.length) = .ok [] :=
    fun f => rawLoop_end v _ _ f _ (by rw [hl]; omega)
  rw [rawLoop, if_pos (by rw [hl]; omega),
    readCurrentRecord_of_header v _ R hwf off hr (readExactAt_image_header P X R hwf off k hoff hk1)]
  cases v with
  | false => simp only [Bool.false_eq_true, ↓reduceIte, false_and, hend]
  | true =>
    simp only [↓reduceIte, true_and]
    by_cases hdata : R.data = []
    · have hr0 : readExactAt (P ++ ((R.image off).take k ++ X)) R.data.length
          (off + (57 + klen) + (serMeta R.mt).length) = some [] := by
        rw [hdata]; exact Fault.readExactAt_zero _ _
      have haud : dataChecksumAudit (R.header.final off) [] = .ok () := by
        rw [dataChecksumAudit_ok, ← hdata]; exact hwf.dcrc.symm
      rw [if_neg (by simp [hdata]), hr0]
      simp only [haud, hend]
    · have := hv rfl hdata
      rw [if_pos hdata, readExactAt_none_of_short (by rw [hl]; omega) (List.length_pos_iff.mpr hdata)]

/-! ### the whole scan: `RawRecords::start`, then the loop -/

theorem rawStart_short {klen : Nat} (file : List UInt8) (h : file.length < 36) :
    rawStart klen file = .error (.load .bincode) := by
  unfold rawStart
  rw [readExactAt_none_of_short (by unfold blobHeaderSize; omega) (by omega)]

/-- the scan of a file that holds the blob header, the intact records `Rs` and then `X`, from what the loop returns
    where `X` starts (`RawRecords::start` succeeded, and the loop bound `file.length` leaves at least `X.length` turns
    after the run) -/
theorem rawRecordsLoad_run {klen : Nat} (v : Bool) (Rs : List Record) (X : List UInt8)
    {res : Except ScanErr (List (Nat × RecHeader))}
    (hst : rawStart klen (serBlobHeader ++ (tailOf 20 Rs ++ X)) = .ok (57 + klen))
    (hlen : (serBlobHeader ++ (tailOf 20 Rs ++ X)).length < 2 ^ 64) (hg : GoodRecs klen Rs)
    (hnext : ∀ fuel, X.length ≤ fuel →
      rawLoop v (serBlobHeader ++ (tailOf 20 Rs ++ X)) (57 + klen) fuel (20 + (tailOf 20 Rs).length) = res) :
    rawRecordsLoad klen v (serBlobHeader ++ (tailOf 20 Rs ++ X)) =
      match (generalizing := false) res with
      | .error e => .error e
      | .ok hs => .ok (writtenHeaders serBlobHeader Rs ++ hs.map (·.2)) := by
  generalize hf : serBlobHeader ++ (tailOf 20 Rs ++ X) = f at hst hlen hnext ⊢
  have hfl : f.length = 20 + (tailOf 20 Rs).length + X.length := by
    rw [← hf]; simp only [List.length_append, serBlobHeader_length]; omega
  have hge := tailOf_length_ge 20 Rs
  obtain ⟨k, hk⟩ : ∃ k, f.length = Rs.length + k := ⟨_, (Nat.add_sub_cancel' (by omega)).symm⟩
  have hloop := rawLoop_tail v (klen := klen) f Rs serBlobHeader X k
    (by rw [serBlobHeader_length]; exact hf.symm) hlen hg
  rw [serBlobHeader_length, ← hk, hnext k (by omega)] at hloop
  unfold rawRecordsLoad rawRecordsScan
  rw [hst, writtenHeaders_eq, serBlobHeader_length]
  simp only
  rw [show blobHeaderSize = 20 from rfl, hloop]
  cases res <;> simp only [List.map_append]

theorem rawRecordsLoad_appendRecords (v : Bool) (klen : Nat) (Rs : List Record) (hne : Rs ≠ [])
    (hlen : (appendRecords serBlobHeader Rs).length < 2 ^ 64) (hall : GoodRecs klen Rs) :
    rawRecordsLoad klen v (appendRecords serBlobHeader Rs) = .ok (writtenHeaders serBlobHeader Rs) := by
  rw [appendRecords_eq, serBlobHeader_length, ← List.append_nil (tailOf 20 Rs)] at hlen ⊢
  cases Rs with
  | nil => exact absurd rfl hne
  | cons R Rs' =>
    have hwf := hall.head.1
    have hk : klen < 2 ^ 64 := by
      simp only [tailOf, List.length_append, R.image_length, hwf.key] at hlen
      omega
    rw [rawRecordsLoad_run v (R :: Rs') [] (rawStart_of_prefix R hwf hk
      ((List.take_prefix 16 _).trans ((List.prefix_append _ _).trans (List.prefix_append _ _)))) hlen hall
      (fun fuel _ => rawLoop_end v _ _ fuel _ (by
        simp only [List.length_append, serBlobHeader_length, List.length_nil]; omega))]
    exact congrArg Except.ok (List.append_nil _)

theorem writtenHeaders_snoc_final (Rs : List Record) (R : Record) :
    writtenHeaders serBlobHeader (Rs ++ [R]) =
      writtenHeaders serBlobHeader Rs ++ [R.header.final (20 + (tailOf 20 Rs).length)] := by
  rw [writtenHeaders_eq, writtenHeaders_eq, serBlobHeader_length, scanOf_append, List.map_append]
  rfl

/-- the start-up scan of a blob whose last record `R`, after the intact records `Rs`, is there only with its first
    `k` bytes (`0 < k`), followed by bytes `X` that end at or before the end `R` claims (none if even the header
    is cut): a cut inside the header fails the whole scan; a cut after the header is accepted (finding E8) unless
    data is validated and the record has data -/
theorem rawRecordsLoad_torn {klen : Nat} (v : Bool) (Rs : List Record) (R : Record) (k : Nat) (X : List UInt8)
    (hg : GoodRecs klen (Rs ++ [R]))
    (hlen : 20 + (tailOf 20 Rs).length + (R.image (20 + (tailOf 20 Rs).length)).length < 2 ^ 64)
    (hk0 : 0 < k) (hX : k + X.length ≤ (R.image (20 + (tailOf 20 Rs).length)).length)
    (hX0 : k < 57 + klen → X = [])
    (hv : v = true → R.data ≠ [] → k + X.length < (R.image (20 + (tailOf 20 Rs).length)).length) :
    rawRecordsLoad klen v
        (serBlobHeader ++ (tailOf 20 Rs ++ ((R.image (20 + (tailOf 20 Rs).length)).take k ++ X))) =
      if k < 57 + klen then .error (.load .bincode)
      else if v = true ∧ R.data ≠ [] then .error (.load .bincode)
      else .ok (writtenHeaders serBlobHeader (Rs ++ [R])) := by
  obtain ⟨hwf, hts⟩ := hg R (by simp)
  have hgRs : GoodRecs klen Rs := fun Y hY => hg Y (List.mem_append_left _ hY)
  generalize hoff : 20 + (tailOf 20 Rs).length = off at hlen hX hv ⊢
  have him := R.image_length off
  rw [hwf.key] at him
  have hr : (R.header.final off).InRange := final_inRange hwf off hts hlen
  have hP : (serBlobHeader ++ tailOf 20 Rs).length = off := by
    rw [List.length_append, serBlobHeader_length]; exact hoff
  have hfl : (serBlobHeader ++ (tailOf 20 Rs ++ ((R.image off).take k ++ X))).length = off + k + X.length := by
    simp only [List.length_append, serBlobHeader_length, List.length_take]; omega
  by_cases h16 : 16 ≤ k ∨ Rs ≠ []
  · -- `RawRecords::start` finds the first record's magic byte and key length
    have hst : rawStart klen (serBlobHeader ++ (tailOf 20 Rs ++ ((R.image off).take k ++ X))) = .ok (57 + klen) := by
      cases Rs with
      | nil =>
        subst hoff
        exact rawStart_of_prefix R hwf (by omega) ((List.take_prefix_take_left
          (h16.resolve_right (fun h => h rfl))).trans (List.prefix_append _ _))
      | cons R0 Rs' =>
        exact rawStart_of_prefix R0 hgRs.head.1 (by omega)
          ((List.take_prefix 16 _).trans ((List.prefix_append _ _).trans (List.prefix_append _ _)))
    have hnext : ∀ fuel, ((R.image off).take k ++ X).length ≤ fuel →
        rawLoop v (serBlobHeader ++ (tailOf 20 Rs ++ ((R.image off).take k ++ X))) (57 + klen) fuel
          (20 + (tailOf 20 Rs).length) =
        if k < 57 + klen then .error (.load .bincode)
        else if v = true ∧ R.data ≠ [] then .error (.load .bincode) else .ok [(off, R.header.final off)] := by
      intro fuel hfuel
      rw [List.length_append, List.length_take] at hfuel
      rw [hoff, ← List.append_assoc serBlobHeader]
      by_cases hc : k < 57 + klen
      · obtain ⟨fuel, rfl⟩ : ∃ f, fuel = f + 1 := ⟨fuel - 1, by omega⟩
        rw [if_pos hc, hX0 hc, List.append_nil, rawLoop,
          if_pos (by rw [List.length_append, List.length_take, hP]; omega),
          stop_torn_header v _ R off k klen hP hc]
      · rw [if_neg hc]
        exact rawLoop_torn_body v _ X R hwf off k fuel hP hr (by omega) (by omega) hX hv
    rw [rawRecordsLoad_run v Rs _ hst (by rw [hfl]; omega) hgRs hnext]
    by_cases hc : k < 57 + klen
    · simp only [if_pos hc]
    · by_cases hvd : v = true ∧ R.data ≠ []
      · simp only [if_neg hc, if_pos hvd]
      · simp only [if_neg hc, if_neg hvd, List.map_cons, List.map_nil]
        rw [writtenHeaders_snoc_final, hoff]
  · -- a file without the first record's magic byte and key length: `RawRecords::start` fails
    have hRs : Rs = [] := Decidable.not_not.mp fun h => h16 (Or.inr h)
    obtain rfl := hX0 (by omega)
    subst hRs
    unfold rawRecordsLoad rawRecordsScan
    rw [rawStart_short _ (by rw [hfl]; simp only [tailOf, List.length_nil] at hoff ⊢; omega), if_pos (by omega)]

/-! ### the scan of a prefix of a produced blob -/

theorem scanOf_take (off : Nat) (Rs : List Record) (n : Nat) :
    scanOf off (Rs.take n) = (scanOf off Rs).take n := by
  by_cases hn : n ≤ Rs.length
  · conv => rhs; rw [← List.take_append_drop n Rs, scanOf_append]
    rw [List.take_left' (by rw [scanOf_length, List.length_take]; omega)]
  · rw [List.take_of_length_le (by omega), List.take_of_length_le (by rw [scanOf_length]; omega)]

theorem blobHeaders_take (klen : Nat) (recs : List (Rec × List UInt8)) (n : Nat) :
    blobHeaders klen (recs.take n) = (blobHeaders klen recs).take n := by
  unfold blobHeaders
  rw [recordsOf_take, writtenHeaders_eq, writtenHeaders_eq, scanOf_take, List.map_take]

/-- the scan of a produced blob cut at `t` inside record `i`, followed by bytes `X` that end at or before the end of
    record `i` (none if the cut is inside its header) -/
theorem rawRecordsLoad_cut (klen : Nat) (recs : List (Rec × List UInt8)) (v : Bool) (i t : Nat)
    (r : Rec) (d : List UInt8) (X : List UInt8) (hr : recs[i]? = some (r, d))
    (hlen : (blobBytes klen recs).length < 2 ^ 64) (hts : ∀ x ∈ recs, x.1.ts < 2 ^ 64)
    (hc : CutIn klen recs i t) (hX : t + X.length ≤ (blobBytes klen (recs.take (i + 1))).length)
    (hX0 : t - (blobBytes klen (recs.take i)).length < 57 + klen → X = [])
    (hv : v = true → (if r.del then [] else d) ≠ [] →
      t + X.length < (blobBytes klen (recs.take (i + 1))).length) :
    rawRecordsLoad klen v ((blobBytes klen recs).take t ++ X) =
      if t - (blobBytes klen (recs.take i)).length < 57 + klen then .error (.load .bincode)
      else if v = true ∧ (if r.del then [] else d) ≠ [] then .error (.load .bincode)
      else .ok ((blobHeaders klen recs).take (i + 1)) := by
  have s := producedAt klen recs i r d hr
  have hfits := s.fits
  have hpl := s.off_eq
  have hc1 := hc.2.1
  rw [s.next_length] at hX hv
  rw [← recordOf_data klen r d] at hv
  have h := rawRecordsLoad_torn v (recordsOf klen (recs.take i)) (recordOf klen r d)
    (t - (blobBytes klen (recs.take i)).length) X
    (by rw [← s.recs_eq]; exact goodRecs_recordsOf klen _ (fun x hx => hts x (List.mem_of_mem_take hx)))
    (by rw [← hpl, Record.image_length_eq_size]; omega) (by omega)
    (by rw [← hpl, Record.image_length_eq_size]; omega) hX0
    (fun h1 h2 => by rw [← hpl, Record.image_length_eq_size]; have := hv h1 h2; omega)
  rw [← hpl, ← List.append_assoc (tailOf _ _), ← List.append_assoc serBlobHeader, ← List.append_assoc serBlobHeader,
    ← s.pre, ← s.take (Nat.le_of_lt hc1) (by omega), ← s.recs_eq, recordOf_data] at h
  rw [h, ← blobHeaders_take]
  rfl

/-- the silent case of a second start-up: the blob of `recs` cut at `t` inside meta / data of record `i`, followed by
    any bytes `X` (the records appended after the first recovery) that end at or before the claimed end of record
    `i`: the non-validating scan returns the headers of the first `i + 1` records and nothing for `X` -/
theorem rawRecordsLoad_torn_then (klen : Nat) (recs : List (Rec × List UInt8)) (i t : Nat) (X : List UInt8)
    (hlen : (blobBytes klen recs).length < 2 ^ 64) (hts : ∀ x ∈ recs, x.1.ts < 2 ^ 64)
    (hc : CutIn klen recs i t) (hk1 : 57 + klen ≤ t - (blobBytes klen (recs.take i)).length)
    (hX : t + X.length ≤ (blobBytes klen (recs.take (i + 1))).length) :
    rawRecordsLoad klen false ((blobBytes klen recs).take t ++ X) = .ok ((blobHeaders klen recs).take (i + 1)) := by
  obtain ⟨⟨r, d⟩, hr⟩ : ∃ x, recs[i]? = some x := ⟨_, List.getElem?_eq_getElem hc.1⟩
  rw [rawRecordsLoad_cut klen recs false i t r d X hr hlen hts hc hX (fun h => absurd h (by omega))
    (fun h => nomatch h), if_neg (by omega), if_neg (fun h => nomatch h.1)]

theorem rawRecordsLoad_boundary (klen : Nat) (recs : List (Rec × List UInt8)) (v : Bool) (n : Nat)
    (hn1 : 0 < n) (hn : n ≤ recs.length)
    (hlen : (blobBytes klen recs).length < 2 ^ 64) (hts : ∀ x ∈ recs, x.1.ts < 2 ^ 64) :
    rawRecordsLoad klen v ((blobBytes klen recs).take (blobBytes klen (recs.take n)).length) =
      .ok ((blobHeaders klen recs).take n) := by
  rw [blobBytes_take_boundary, ← blobHeaders_take]
  have hle := blobBytes_take_length_le klen recs n
  apply rawRecordsLoad_appendRecords v klen (recordsOf klen (recs.take n)) _ (by
    rw [show appendRecords serBlobHeader (recordsOf klen (recs.take n)) = blobBytes klen (recs.take n) from rfl]
    omega)
  · exact goodRecs_recordsOf klen _ (fun x hx => hts x (List.mem_of_mem_take hx))
  · intro h0
    have := congrArg List.length h0
    simp only [recordsOf_length, List.length_take, List.length_nil] at this
    omega

/-! ### `Header::from_file` and `openBlob`: what start-up makes of the scan's result -/

theorem blobHeaderFromFile_short (file : List UInt8) (h : file.length < 20) :
    blobHeaderFromFile file = .error .bincode := by
  unfold blobHeaderFromFile
  rw [readExactAt_none_of_short (by unfold blobHeaderSize; omega) (by unfold blobHeaderSize; omega)]

theorem blobHeaderFromFile_ser (rest : List UInt8) :
    blobHeaderFromFile (serBlobHeader ++ rest) = .ok BlobHeader.new := by
  unfold blobHeaderFromFile
  rw [show serBlobHeader ++ rest = [] ++ (serBlobHeader ++ rest) from rfl,
    readExactAt_append (p := []) (a := serBlobHeader) (s := rest) (size := blobHeaderSize) (off := 0)
      rfl (by decide)]
  simp only
  have := parseBlobHeader_ser BlobHeader.new [] blobHeaderNew_inRange
  rw [List.append_nil] at this
  rw [this]
  rfl

theorem openBlob_short (klen : Nat) (v : Bool) (file : List UInt8) (h : file.length < 20) :
    openBlob klen v file = .quarantine := by
  unfold openBlob
  rw [blobHeaderFromFile_short file h]
  rfl

theorem openBlob_header_only (klen : Nat) (v : Bool) : openBlob klen v serBlobHeader = .ok [] := by
  unfold openBlob
  have := blobHeaderFromFile_ser []
  rw [List.append_nil] at this
  rw [this]
  rfl

theorem openBlob_of_load (klen : Nat) (v : Bool) (rest : List UInt8) (h : rest ≠ []) :
    openBlob klen v (serBlobHeader ++ rest) =
      match rawRecordsLoad klen v (serBlobHeader ++ rest) with
      | .error e => classifyScanErr e
      | .ok hs => .ok hs := by
  unfold openBlob
  rw [blobHeaderFromFile_ser]
  simp only
  rw [if_pos (by
    rw [List.length_append, serBlobHeader_length]
    have := List.length_pos_iff.mpr h
    unfold blobHeaderSize; omega)]
  cases rawRecordsLoad klen v (serBlobHeader ++ rest) <;> rfl

theorem classifyScanErr_fail {e : ScanErr} (h : classifyScanErr e = .fail) : e = .fuel := by
  cases e with
  | load l => cases l <;> revert h <;> decide
  | blobKeySize => revert h; decide
  | fuel => rfl

theorem classifyHeaderErr_fail {e : BlobHeaderErr} (h : classifyHeaderErr e = .fail) : e = .blobVersion := by
  cases e <;> first | rfl | (revert h; decide)

theorem rawRecordsLoad_ne_fuel (klen : Nat) (v : Bool) (file : List UInt8) :
    rawRecordsLoad klen v file ≠ .error .fuel := by
  unfold rawRecordsLoad
  split
  · next e he =>
    intro h
    cases h
    exact rawRecordsScan_ne_fuel klen v file he
  · intro h; cases h

theorem openBlob_ne_fail (klen : Nat) (v : Bool) (file : List UInt8)
    (h : file.length < 20 ∨ ∃ rest, file = serBlobHeader ++ rest) : openBlob klen v file ≠ .fail := by
  rcases h with h | ⟨rest, rfl⟩
  · rw [openBlob_short klen v file h]; intro h; cases h
  · by_cases hr : rest = []
    · subst hr; rw [List.append_nil, openBlob_header_only]; intro h; cases h
    · rw [openBlob_of_load klen v rest hr]
      split
      · next e he =>
        intro hf
        have := classifyScanErr_fail hf
        subst this
        exact rawRecordsLoad_ne_fuel klen v _ he
      · intro h; cases h

theorem openBlob_quarantine_of_load_error (klen : Nat) (v : Bool) (rest : List UInt8) (e : ScanErr)
    (hr : rest ≠ []) (h : rawRecordsLoad klen v (serBlobHeader ++ rest) = .error e) :
    openBlob klen v (serBlobHeader ++ rest) = .quarantine := by
  rw [openBlob_of_load klen v rest hr, h]
  have hne : e ≠ .fuel := by
    intro he; subst he; exact rawRecordsLoad_ne_fuel klen v _ h
  cases e with
  | load l => cases l <;> rfl
  | blobKeySize => rfl
  | fuel => exact absurd rfl hne

/-! ### prefixes of a produced blob: the case analysis, `openBlob`, `Entry::load` -/

theorem blobBytes_take_ge20 (klen : Nat) (recs : List (Rec × List UInt8)) (t : Nat) (ht : 20 ≤ t) :
    (blobBytes klen recs).take t = serBlobHeader ++ (tailOf 20 (recordsOf klen recs)).take (t - 20) := by
  rw [blobBytes_eq, List.take_append, serBlobHeader_length,
    List.take_of_length_le (by rw [serBlobHeader_length]; exact ht)]

theorem blobBytes_take_cases (klen : Nat) (recs : List (Rec × List UInt8)) (t : Nat) :
    ((blobBytes klen recs).take t).length < 20 ∨ ∃ rest, (blobBytes klen recs).take t = serBlobHeader ++ rest := by
  by_cases h : t < 20
  · left; rw [List.length_take]; omega
  · right; exact ⟨_, blobBytes_take_ge20 klen recs t (by omega)⟩

theorem prefix_cases (klen : Nat) (recs : List (Rec × List UInt8)) (t : Nat)
    (ht : t ≤ (blobBytes klen recs).length) :
    t < 20 ∨ IsBoundary klen recs t ∨ ∃ i, CutIn klen recs i t := by
  by_cases h20 : t < 20
  · exact Or.inl h20
  · right
    by_cases hb : IsBoundary klen recs t
    · exact Or.inl hb
    · right
      rcases Nat.lt_or_ge t (blobBytes klen recs).length with hlt | hge
      · exact cutIn_of_not_boundary klen recs t (by omega) hlt hb
      · exact absurd ⟨recs.length, Nat.le_refl _, by rw [List.take_length]; omega⟩ hb

theorem openBlob_take (klen : Nat) (v : Bool) (recs : List (Rec × List UInt8)) (t : Nat) (h20 : 20 < t)
    (hb : 20 < (blobBytes klen recs).length) :
    openBlob klen v ((blobBytes klen recs).take t) =
      match rawRecordsLoad klen v ((blobBytes klen recs).take t) with
      | .error e => classifyScanErr e
      | .ok hs => .ok hs := by
  rw [blobBytes_take_ge20 klen recs t (by omega)]
  apply openBlob_of_load
  intro h0
  have := congrArg List.length h0
  rw [blobBytes_eq, List.length_append, serBlobHeader_length] at hb
  simp only [List.length_take, List.length_nil] at this
  omega

theorem entryLoad_prefix (klen : Nat) (recs : List (Rec × List UInt8))
    (hlen : (blobBytes klen recs).length < 2 ^ 64) (n j : Nat) (hj : j < n) (X : List UInt8)
    (h : RecHeader) (r : Rec) (d : List UInt8)
    (hh : (blobHeaders klen recs)[j]? = some h) (hr : recs[j]? = some (r, d)) :
    entryLoad (blobBytes klen (recs.take n) ++ X) h = .ok (serMeta r.mt, if r.del then [] else d) := by
  have s := producedAt klen (recs.take n) j r d (by rw [List.getElem?_take, if_pos hj]; exact hr)
  have hm := s.mlen (Nat.lt_of_le_of_lt (blobBytes_take_length_le klen recs n) hlen)
  have hh' := s.hdr
  rw [blobHeaders_take, List.getElem?_take, if_pos hj, hh] at hh'
  rw [s.blob, Option.some.inj hh', List.append_assoc, List.append_assoc, ← recordOf_mt klen r d,
    ← recordOf_data klen r d]
  exact entryLoad_image _ _ _ s.wf _ rfl hm

theorem entryLoad_torn {klen : Nat} (P : List UInt8) (R : Record) (hwf : R.WF klen) (off k : Nat)
    (hoff : P.length = off) (hk : k < (R.image off).length) :
    entryLoad (P ++ (R.image off).take k) (R.header.final off) = .error .bincode := by
  have him := R.image_length off
  have hms : (R.header.final off).metaSize = (serMeta R.mt).length := hwf.msize
  have hds : (R.header.final off).dataSize = R.data.length := hwf.dsize
  have hmo : (R.header.final off).metaOffset = off + (57 + R.header.key.length) := rfl
  unfold entryLoad
  rw [readExactAt_none_of_short (by
    rw [List.length_append, List.length_take, hoff, hmo, hms, hds]; omega) (by
    rw [hms]; have := serMeta_length_ge R.mt; omega)]

/-! ### data validation can only turn "opened" into "quarantined", for every file -/

theorem readCurrentRecord_true_false {file : List UInt8} {hsz off : Nat} {h : RecHeader}
    {d : Option (List UInt8)} {off' : Nat}
    (hh : readCurrentRecord true file hsz off = .ok (h, d, off')) :
    readCurrentRecord false file hsz off = .ok (h, none, off') := by
  obtain ⟨⟨buf, hb, hd⟩, hv, hoff', _, _⟩ := readCurrentRecord_ok hh
  unfold readCurrentRecord
  simp only [hb, hd, hv, hoff']
  rfl

theorem rawLoop_true_false (file : List UInt8) (hsz : Nat) (fuel off : Nat) (hs : List (Nat × RecHeader))
    (hh : rawLoop true file hsz fuel off = .ok hs) : rawLoop false file hsz fuel off = .ok hs := by
  induction fuel generalizing off hs with
  | zero =>
    by_cases hlt : off < file.length
    · rw [rawLoop, if_pos hlt] at hh; cases hh
    · rw [rawLoop, if_neg hlt] at hh ⊢; exact hh
  | succ fuel ih =>
    by_cases hlt : off < file.length
    · rw [rawLoop, if_pos hlt] at hh ⊢
      split at hh
      · cases hh
      · next h data off' hrc =>
        rw [readCurrentRecord_true_false hrc]
        simp only
        split at hh
        · cases hh
        · split at hh
          · cases hh
          · next rest hrest =>
            rw [ih _ _ hrest]
            exact hh
    · rw [rawLoop, if_neg hlt] at hh ⊢; exact hh

theorem rawRecordsLoad_true_false (klen : Nat) (file : List UInt8) (hs : List RecHeader)
    (hh : rawRecordsLoad klen true file = .ok hs) : rawRecordsLoad klen false file = .ok hs := by
  unfold rawRecordsLoad rawRecordsScan at hh ⊢
  cases hst : rawStart klen file with
  | error e => rw [hst] at hh; cases hh
  | ok hsz =>
    rw [hst] at hh
    simp only at hh ⊢
    cases hl : rawLoop true file hsz file.length blobHeaderSize with
    | error e => rw [hl] at hh; cases hh
    | ok l =>
      rw [hl] at hh
      rw [rawLoop_true_false _ _ _ _ _ hl]
      exact hh

theorem classifyClass_ne_ok (c : ErrClass) (hs : List RecHeader) : classifyClass c ≠ .ok hs := by
  unfold classifyClass; split <;> (intro h; cases h)

/-- start-up WITH data validation that opens a blob opens it with exactly the headers start-up WITHOUT
    data validation gives — for every file -/
theorem openBlob_true_false (klen : Nat) (file : List UInt8) (hs : List RecHeader)
    (hh : openBlob klen true file = .ok hs) : openBlob klen false file = .ok hs := by
  unfold openBlob at hh ⊢
  cases hb : blobHeaderFromFile file with
  | error e => rw [hb] at hh; exact absurd hh (classifyClass_ne_ok _ _)
  | ok b =>
    rw [hb] at hh
    simp only at hh ⊢
    by_cases hlt : blobHeaderSize < file.length
    · rw [if_pos hlt] at hh ⊢
      cases hl : rawRecordsLoad klen true file with
      | error e => rw [hl] at hh; exact absurd hh (classifyClass_ne_ok _ _)
      | ok l => rw [hl] at hh; rw [rawRecordsLoad_true_false klen file l hl]; exact hh
    · rw [if_neg hlt] at hh ⊢; exact hh

/-- on a file start-up cannot fail on, a quarantine without data validation is a quarantine with it -/
theorem openBlob_true_of_false_quarantine (klen : Nat) (file : List UInt8)
    (hq : openBlob klen false file = .quarantine)
    (hf : file.length < 20 ∨ ∃ rest, file = serBlobHeader ++ rest) :
    openBlob klen true file = .quarantine := by
  cases h : openBlob klen true file with
  | ok hs => rw [openBlob_true_false klen file hs h] at hq; cases hq
  | quarantine => rfl
  | fail => exact absurd h (openBlob_ne_fail klen true file hf)

/-! ### a torn tail stated with the cut as a proper prefix of `serMeta ++ data` (C05) -/

theorem take_image_of_prefix {klen : Nat} (R : Record) (hwf : R.WF klen) (off : Nat) (cut : List UInt8)
    (hp : cut <+: serMeta R.mt ++ R.data) :
    (R.image off).take (57 + klen + cut.length) = serHeader (R.header.final off) ++ cut := by
  obtain ⟨t, ht⟩ := hp
  have hkl : (R.header.final off).key.length = klen := hwf.key
  rw [image_eq, ← ht, List.take_append, serHeader_length, hkl,
    List.take_of_length_le (by rw [serHeader_length, hkl]; omega),
    show 57 + klen + cut.length - (57 + klen) = cut.length by omega, List.take_left' rfl]

theorem prefix_length_lt {α} {a b : List α} (hp : a <+: b) (hne : a ≠ b) : a.length < b.length :=
  Nat.lt_of_le_of_ne hp.length_le fun h => hne (hp.eq_of_length h)

/-- general torn tail (finding E8 at the byte level): a blob whose last record has its complete header
    but only a proper prefix `cut` of its meta + data -/
theorem rawRecordsLoad_torn_prefix {klen : Nat} (v : Bool) (Rs : List Record) (R : Record)
    (cut : List UInt8) (hg : GoodRecs klen (Rs ++ [R]))
    (hlen : (appendRecords serBlobHeader (Rs ++ [R])).length < 2 ^ 64)
    (hp : cut <+: serMeta R.mt ++ R.data) (hne : cut ≠ serMeta R.mt ++ R.data) :
    rawRecordsLoad klen v (appendRecords serBlobHeader Rs ++
        serHeader (R.header.final (appendRecords serBlobHeader Rs).length) ++ cut) =
      if v = true ∧ R.data ≠ [] then .error (.load .bincode)
      else .ok (writtenHeaders serBlobHeader (Rs ++ [R])) := by
  have hwf := (hg R (by simp)).1
  have hlt := prefix_length_lt hp hne
  rw [List.length_append] at hlt
  have him := R.image_length (20 + (tailOf 20 Rs).length)
  rw [hwf.key] at him
  rw [appendRecords_length, serBlobHeader_length, tailOf_snoc, List.length_append] at hlen
  have h := rawRecordsLoad_torn v Rs R (57 + klen + cut.length) [] hg (by omega) (by omega)
    (by rw [him, List.length_nil]; omega) (fun _ => rfl) (fun _ _ => by rw [him, List.length_nil]; omega)
  rw [List.append_nil, if_neg (by omega), take_image_of_prefix R hwf _ cut hp] at h
  rw [appendRecords_length, serBlobHeader_length, appendRecords_eq, serBlobHeader_length]
  simp only [List.append_assoc] at h ⊢
  exact h

end Pearl
