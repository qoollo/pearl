import Pearl.Model.CrcForce
import Pearl.Model.Bytes
import Pearl.Proofs.CrcLemmas
/-
CRC forcing (`Pearl/Model/CrcForce.lean`): the table form of the byte step, one-step invertibility of the
backward walk (the high byte of a table entry identifies the entry), `crc_force_zero : crc32c (p ++ crcForce p) = 0`
for every prefix `p` and `crc_force_unique` (no other four bytes do); the data generator of `Pearl/Model/Bytes.lean`,
which needs the forcing (lengths `genLoop_length'`, `genData_length'`, and `genData_crc_zero`); the `ByteArray`
versions agree with the list versions (`crcRegBA_eq`, `crcForceBA_eq`, `genDataBA_toList`); test vectors at the end.
-/
namespace Pearl.Crc

theorem A_bit (b : Bool) (v : BitVec 32) : A (bit b v) = bit b (A v) := by
  cases b <;> simp [bit, A_zero]

/-- the 32-bit word with the byte in its low 8 bits -/
def zext (b : UInt8) : BitVec 32 := b.toBitVec.setWidth 32

theorem zext_bits_bv : ∀ v : BitVec 8, v.setWidth 32 =
    bit (v.getLsbD 0) 1#32 ^^^ bit (v.getLsbD 1) 2#32 ^^^ bit (v.getLsbD 2) 4#32 ^^^ bit (v.getLsbD 3) 8#32 ^^^
    bit (v.getLsbD 4) 16#32 ^^^ bit (v.getLsbD 5) 32#32 ^^^ bit (v.getLsbD 6) 64#32 ^^^
    bit (v.getLsbD 7) 128#32 := by decide +kernel

theorem A_2 : A 2#32 = 1#32 := by decide
theorem A_4 : A 4#32 = 2#32 := by decide
theorem A_8 : A 8#32 = 4#32 := by decide
theorem A_16 : A 16#32 = 8#32 := by decide
theorem A_32 : A 32#32 = 16#32 := by decide
theorem A_64 : A 64#32 = 32#32 := by decide
theorem A_128 : A 128#32 = 64#32 := by decide

theorem stepByte_eq_Ai (s : BitVec 32) (b : UInt8) : stepByte s b = Ai 8 (s ^^^ zext b) := by
  rw [zext, zext_bits_bv]
  simp only [stepByte, byteBits, List.foldl_cons, List.foldl_nil, stepD, Ai, A_add, A_bit,
    A_2, A_4, A_8, A_16, A_32, A_64, A_128, e0]
  ac_rfl

theorem A_of_lsb_false (z : BitVec 32) (h : z.getLsbD 0 = false) : A z = z >>> 1 := by
  unfold A
  rw [h]
  simp [bit]

theorem Ai_low (n : Nat) (z : BitVec 32) (h : ∀ i, i < n → z.getLsbD i = false) : Ai n z = z >>> n := by
  induction n generalizing z with
  | zero => simp [Ai]
  | succ n ih =>
    rw [Ai, A_of_lsb_false z (h 0 (by omega)), ih, Nat.add_comm n 1, BitVec.shiftRight_add]
    intro i hi
    rw [BitVec.getLsbD_ushiftRight]
    exact h (1 + i) (by omega)

theorem zext_loByte (x : BitVec 32) : zext (loByte x) = (x.setWidth 8).setWidth 32 := rfl

theorem split_lo (x : BitVec 32) : x = ((x >>> 8) <<< 8) ^^^ zext (loByte x) := by
  apply BitVec.eq_of_getLsbD_eq
  intro i hi
  rw [zext_loByte]
  simp only [BitVec.getLsbD_xor, BitVec.getLsbD_shiftLeft, BitVec.getLsbD_ushiftRight,
    BitVec.getLsbD_setWidth]
  by_cases h8 : i < 8
  · simp [h8, hi]
  · have : 8 + (i - 8) = i := by omega
    simp [h8, hi, this]

theorem tab_eq (i : UInt8) : tab i = Ai 8 (zext i) := rfl

theorem Ai8_tab (x : BitVec 32) : Ai 8 x = (x >>> 8) ^^^ tab (loByte x) := by
  conv => lhs; rw [split_lo x]
  rw [Ai_add, ← tab_eq, Ai_low 8 ((x >>> 8) <<< 8)]
  · congr 1
    apply BitVec.eq_of_getLsbD_eq
    intro i hi
    simp only [BitVec.getLsbD_shiftLeft, BitVec.getLsbD_ushiftRight]
    by_cases h : 8 + i < 32
    · have : 8 + i - 8 = i := by omega
      have h8 : ¬ (8 + i < 8) := by omega
      simp [h, h8, this]
    · have : 32 ≤ 8 + i := by omega
      simp [h, BitVec.getLsbD_of_ge _ _ this]
  · intro i hi
    simp [BitVec.getLsbD_shiftLeft, hi]

theorem loByte_xor_zext (s : BitVec 32) (b : UInt8) : loByte (s ^^^ zext b) = loByte s ^^^ b := by
  apply UInt8.toBitVec_inj.mp
  rw [UInt8.toBitVec_xor]
  apply BitVec.eq_of_getLsbD_eq
  intro i hi
  simp [loByte, zext, hi]

theorem zext_shr8 (b : UInt8) : zext b >>> 8 = 0#32 := by
  apply BitVec.eq_of_getLsbD_eq
  intro i hi
  simp only [zext, BitVec.getLsbD_ushiftRight, BitVec.getLsbD_setWidth, BitVec.getLsbD_zero]
  rw [BitVec.getLsbD_of_ge _ _ (by omega : 8 ≤ 8 + i)]
  simp

/-- the table-driven byte step: `s' = (s >> 8) ^ T[(s ^ b) & 0xff]` -/
theorem stepByte_tab (s : BitVec 32) (b : UInt8) : stepByte s b = (s >>> 8) ^^^ tab (loByte s ^^^ b) := by
  rw [stepByte_eq_Ai, Ai8_tab, loByte_xor_zext, BitVec.ushiftRight_xor_distrib, zext_shr8, BitVec.xor_zero]

/-- the register after byte steps that use the given table indices -/
def walk (s : BitVec 32) : List UInt8 → BitVec 32
  | [] => s
  | i :: r => walk ((s >>> 8) ^^^ tab i) r

theorem walk_append (s : BitVec 32) (a b : List UInt8) : walk s (a ++ b) = walk (walk s a) b := by
  induction a generalizing s with
  | nil => rfl
  | cons i a ih => simp only [List.cons_append, walk, ih]

theorem u8_xor_cancel (a b : UInt8) : a ^^^ (b ^^^ a) = b := by
  apply UInt8.toBitVec_inj.mp
  simp only [UInt8.toBitVec_xor]
  rw [BitVec.xor_comm b.toBitVec, ← BitVec.xor_assoc, BitVec.xor_self, BitVec.zero_xor]

/-- the bytes chosen by `forceFrom` make the register use exactly the wanted table entries -/
theorem crcReg_forceFrom (s : BitVec 32) (idx : List UInt8) : crcReg s (forceFrom s idx) = walk s idx := by
  induction idx generalizing s with
  | nil => rfl
  | cons i r ih =>
    simp only [forceFrom, crcReg, List.foldl_cons, walk]
    rw [stepByte_tab, u8_xor_cancel]
    exact ih _

theorem forceFrom_length (s : BitVec 32) (idx : List UInt8) : (forceFrom s idx).length = idx.length := by
  induction idx generalizing s with
  | nil => rfl
  | cons i r ih => simp only [forceFrom, List.length_cons, ih]

/-- `hiByte ∘ tab` is a linear bijection of the bytes; its inverse as a formula (the columns are
    `revHi 1, revHi 2, revHi 4, …`); the two sweeps below say that it is the inverse, entry by entry -/
def revHiLin (h : UInt8) : UInt8 :=
  let c (k : Nat) (v : UInt8) : UInt8 := if h.toBitVec.getLsbD k then v else 0
  c 0 241 ^^^ c 1 226 ^^^ c 2 196 ^^^ c 3 136 ^^^ c 4 16 ^^^ c 5 32 ^^^ c 6 177 ^^^ c 7 98

theorem revHiLin_hiByte_tab_bv : ∀ v : BitVec 8, revHiLin (hiByte (tab (UInt8.ofBitVec v))) = UInt8.ofBitVec v := by
  decide +kernel

theorem hiByte_tab_revHiLin_bv : ∀ v : BitVec 8, hiByte (tab (revHiLin (UInt8.ofBitVec v))) = UInt8.ofBitVec v := by
  decide +kernel

theorem hiByte_tab_inj {i j : UInt8} (h : hiByte (tab i) = hiByte (tab j)) : i = j :=
  (revHiLin_hiByte_tab_bv i.toBitVec).symm.trans ((congrArg revHiLin h).trans (revHiLin_hiByte_tab_bv j.toBitVec))

theorem hiByte_tab_surj (h : UInt8) : hiByte (tab (revHiLin h)) = h := hiByte_tab_revHiLin_bv h.toBitVec

theorem revHiFrom_spec (h : UInt8) (n : Nat) (hex : ∃ j, j < n ∧ hiByte (tab (UInt8.ofNat j)) = h) :
    hiByte (tab (revHiFrom h n)) = h := by
  induction n with
  | zero => obtain ⟨j, hj, _⟩ := hex; omega
  | succ n ih =>
    simp only [revHiFrom]
    split
    · next hh => exact hh
    · next hh =>
      apply ih
      obtain ⟨j, hj, hjh⟩ := hex
      refine ⟨j, ?_, hjh⟩
      have : j ≠ n := by intro e; subst e; exact hh hjh
      omega

theorem hiByte_tab_revHi (h : UInt8) : hiByte (tab (revHi h)) = h := by
  apply revHiFrom_spec
  refine ⟨(revHiLin h).toNat, (revHiLin h).toNat_lt, ?_⟩
  rw [UInt8.ofNat_toNat]
  exact hiByte_tab_surj h

/-- the high byte of an entry identifies the entry: the search returns its index -/
theorem revHi_hiByte_tab (i : UInt8) : revHi (hiByte (tab i)) = i :=
  hiByte_tab_inj (hiByte_tab_revHi _)

theorem hiByte_getLsbD (x : BitVec 32) (i : Nat) (hi : i < 8) :
    (hiByte x).toBitVec.getLsbD i = x.getLsbD (24 + i) := by
  simp [hiByte, BitVec.getLsbD_ushiftRight, hi]

theorem shl_shr_of_hi_eq (x y : BitVec 32) (h : hiByte x = hiByte y) :
    ((x ^^^ y) <<< 8) >>> 8 = x ^^^ y := by
  apply BitVec.eq_of_getLsbD_eq
  intro i hi
  simp only [BitVec.getLsbD_ushiftRight, BitVec.getLsbD_shiftLeft, BitVec.getLsbD_xor]
  by_cases h24 : i < 24
  · have h1 : 8 + i < 32 := by omega
    have h2 : ¬ (8 + i < 8) := by omega
    have h3 : 8 + i - 8 = i := by omega
    simp [h1, h2, h3]
  · have h1 : ¬ (8 + i < 32) := by omega
    have hx := hiByte_getLsbD x (i - 24) (by omega)
    have hy := hiByte_getLsbD y (i - 24) (by omega)
    rw [h, hy] at hx
    have h4 : 24 + (i - 24) = i := by omega
    rw [h4] at hx
    simp [h1, hx]

/-- one backward step, `t' = (t ^ T[i]) << 8` with `i = revHi (hiByte t)`, is undone by the forward step that uses
    entry `i`: `t = (t' >> 8) ^ T[i]` -/
theorem back_step (t : BitVec 32) :
    (((t ^^^ tab (revHi (hiByte t))) <<< 8) >>> 8) ^^^ tab (revHi (hiByte t)) = t := by
  rw [shl_shr_of_hi_eq t _ (hiByte_tab_revHi (hiByte t)).symm, BitVec.xor_assoc, BitVec.xor_self,
    BitVec.xor_zero]

theorem backIdx_acc (k : Nat) (t : BitVec 32) (acc : List UInt8) : backIdx k t acc = backIdx k t [] ++ acc := by
  induction k generalizing t acc with
  | zero => rfl
  | succ k ih =>
    simp only [backIdx]
    rw [ih _ (_ :: acc), ih _ [_]]
    simp

theorem backIdx_length (k : Nat) (t : BitVec 32) (acc : List UInt8) :
    (backIdx k t acc).length = k + acc.length := by
  induction k generalizing t acc with
  | zero => simp [backIdx]
  | succ k ih => simp only [backIdx, ih, List.length_cons]; omega

/-- `k` backward steps followed by the forward walk reach `t`, up to what is still left of the start register
    (`s >>> 8k`) and of the residual of the backward walk -/
theorem walk_backIdx (k : Nat) (t : BitVec 32) :
    ∃ r : BitVec 32, ∀ s, walk s (backIdx k t []) = t ^^^ ((s ^^^ r) >>> (8 * k)) := by
  induction k generalizing t with
  | zero =>
    refine ⟨t, fun s => ?_⟩
    simp only [backIdx, walk, Nat.mul_zero, BitVec.ushiftRight_zero]
    rw [BitVec.xor_comm s t, ← BitVec.xor_assoc, BitVec.xor_self, BitVec.zero_xor]
  | succ k ih =>
    obtain ⟨r, hr⟩ := ih ((t ^^^ tab (revHi (hiByte t))) <<< 8)
    refine ⟨r, fun s => ?_⟩
    simp only [backIdx]
    rw [backIdx_acc, walk_append, hr, walk, walk, BitVec.ushiftRight_xor_distrib]
    rw [BitVec.xor_assoc, BitVec.xor_comm ((s ^^^ r) >>> (8 * k) >>> 8), ← BitVec.xor_assoc, back_step]
    rw [← BitVec.shiftRight_add, Nat.mul_succ]

theorem walk_backIdx4 (s t : BitVec 32) : walk s (backIdx 4 t []) = t := by
  obtain ⟨r, hr⟩ := walk_backIdx 4 t
  rw [hr, BitVec.ushiftRight_eq_zero (by omega), BitVec.xor_zero]

/-- the four forced bytes drive the register from `s` to `t`, for every `s` and `t` -/
theorem crcReg_forceRegTo (t s : BitVec 32) : crcReg s (forceRegTo t s) = t := by
  rw [forceRegTo, crcReg_forceFrom, walk_backIdx4]

theorem forceRegTo_length (t s : BitVec 32) : (forceRegTo t s).length = 4 := by
  rw [forceRegTo, forceFrom_length, backIdx_length]; rfl

theorem crcReg_append (s : BitVec 32) (a b : List UInt8) : crcReg s (a ++ b) = crcReg (crcReg s a) b := by
  simp only [crcReg, List.foldl_append]

end Pearl.Crc

namespace Pearl
open Crc

theorem crcForce_length (p : List UInt8) : (crcForce p).length = 4 := forceRegTo_length _ _

/-- the backward walk from `forceTarget` does not depend on the prefix: the last four byte steps before checksum 0
    always use these table entries -/
theorem backIdx_forceTarget : backIdx 4 forceTarget [] = [84, 168, 59, 188] := by decide +kernel

theorem crcForce_eq (p : List UInt8) : crcForce p = forceFrom (crcReg init p) [84, 168, 59, 188] := by
  rw [crcForce, forceReg, forceRegTo, backIdx_forceTarget]

/-- the forced suffix makes the CRC-32C of the whole string 0, for every prefix -/
theorem crc_force_zero (p : List UInt8) : crc32c (p ++ crcForce p) = 0 := by
  rw [crc32c, crcReg_append, crcForce, forceReg, crcReg_forceRegTo]
  decide

/-- the suffix is the only one: any 4 bytes that give checksum 0 are the forced ones -/
theorem crc_force_unique (p t : List UInt8) (hl : t.length = 4) (h : crc32c (p ++ t) = 0) : t = crcForce p := by
  apply Classical.byContradiction
  intro hne
  have := crc32c_window_split p t (crcForce p) [] (by rw [hl, crcForce_length]) (by omega) hne
  simp only [List.append_nil] at this
  exact this (by rw [h, crc_force_zero])

/-! ### the data generator (`Pearl/Model/Bytes.lean`; it stands here because it uses the forcing) -/

theorem genLoop_length' : ∀ (n : Nat) (x : UInt64) (acc : List UInt8), (genLoop n x acc).length = acc.length + n
  | 0, _, acc => by simp [genLoop]
  | n+1, x, acc => by
    simp only [genLoop]
    rw [genLoop_length' n]
    simp only [List.length_cons]; omega

theorem genDataPlain_length (len seed : Nat) : (genDataPlain len seed).length = len := by
  unfold genDataPlain
  split
  · next h => simp [h]
  · rw [genLoop_length']; simp only [List.length_cons, List.length_nil]; omega

theorem genData_forced (len seed : Nat) (hs : 240 ≤ seed ∧ seed ≤ 249) (hl : 8 ≤ len) :
    genData len seed = genDataPlain (len - 4) seed ++ crcForce (genDataPlain (len - 4) seed) := by
  have : forcedSeed len seed = true := by simp [forcedSeed, hs.1, hs.2, hl]
  simp only [genData, this, if_true]

theorem genData_plain (len seed : Nat) (h : ¬ (240 ≤ seed ∧ seed ≤ 249 ∧ 8 ≤ len)) :
    genData len seed = genDataPlain len seed := by
  have : forcedSeed len seed = false := by
    simp only [forcedSeed, Bool.and_eq_false_iff, decide_eq_false_iff_not, Bool.and_eq_false_iff]
    omega
  simp [genData, this]

/-- payloads generated for seeds 240..249 and `len ≥ 8` have CRC-32C 0 -/
theorem genData_crc_zero (len seed : Nat) (hs : 240 ≤ seed ∧ seed ≤ 249) (hl : 8 ≤ len) :
    crc32c (genData len seed) = 0 := by
  rw [genData_forced len seed hs hl]; exact crc_force_zero _

theorem genData_length' (len seed : Nat) : (genData len seed).length = len := by
  unfold genData
  split
  · next h =>
    simp only [forcedSeed, Bool.and_eq_true, decide_eq_true_eq] at h
    simp only [List.length_append, genDataPlain_length, crcForce_length]
    omega
  · exact genDataPlain_length len seed

theorem genLoop_acc (n : Nat) (x : UInt64) (acc : List UInt8) :
    genLoop n x acc = acc.reverse ++ genLoop n x [] := by
  induction n generalizing x acc with
  | zero => simp [genLoop]
  | succ n ih =>
    simp only [genLoop]
    rw [ih, ih _ [_]]
    simp

/-- the forced payload still starts with the seed byte (the harness recognises the generator by it) -/
theorem genData_head (len seed : Nat) (hl : 0 < len) : (genData len seed).head? = some (UInt8.ofNat seed) := by
  have hp : ∀ n, 0 < n → (genDataPlain n seed).head? = some (UInt8.ofNat seed) := fun n hn => by
    rw [genDataPlain, if_neg (by omega), genLoop_acc]
    rfl
  unfold genData
  split
  · next h =>
    simp only [forcedSeed, Bool.and_eq_true, decide_eq_true_eq] at h
    rw [List.head?_append, hp (len - 4) (by omega)]
    rfl
  · exact hp len hl

/-! ### the `ByteArray` versions compute the same bytes -/

theorem crcRegBA_eq (ba : ByteArray) (i : Nat) (s : BitVec 32) :
    crcRegBA ba i s = crcReg s (ba.data.toList.drop i) := by
  fun_induction crcRegBA ba i s with
  | case1 i s h ih =>
    rw [ih]
    have hl : i < ba.data.toList.length := by rw [Array.length_toList]; exact h
    rw [List.drop_eq_getElem_cons hl]
    simp only [crcReg, List.foldl_cons]
    rfl
  | case2 i s h =>
    have hl : ba.data.toList.length ≤ i := by rw [Array.length_toList]; exact Nat.le_of_not_lt h
    rw [List.drop_eq_nil_of_le hl]; rfl

theorem crcForceBA_eq (p : ByteArray) : crcForceBA p = crcForce p.data.toList := by
  rw [crcForceBA, crcRegBA_eq, List.drop_zero]; rfl

theorem push_toList (a : ByteArray) (b : UInt8) : (a.push b).data.toList = a.data.toList ++ [b] := by
  simp [ByteArray.push]

theorem genLoopBA_toList (n : Nat) (x : UInt64) (a : ByteArray) :
    (genLoopBA n x a).data.toList = genLoop n x a.data.toList.reverse := by
  induction n generalizing x a with
  | zero => simp [genLoopBA, genLoop]
  | succ n ih =>
    simp only [genLoopBA, genLoop]
    rw [ih, push_toList, List.reverse_append]
    rfl

theorem genDataPlainBA_toList (cap len seed : Nat) :
    (genDataPlainBA cap len seed).data.toList = genDataPlain len seed := by
  unfold genDataPlainBA genDataPlain
  split
  · rfl
  · rw [genLoopBA_toList, push_toList]; rfl

theorem foldl_push_toList (l : List UInt8) (p : ByteArray) :
    (l.foldl ByteArray.push p).data.toList = p.data.toList ++ l := by
  induction l generalizing p with
  | nil => simp
  | cons b l ih => rw [List.foldl_cons, ih, push_toList]; simp

/-- the `ByteArray` generator produces the same bytes as `genData` -/
theorem genDataBA_toList (len seed : Nat) : (genDataBA len seed).data.toList = genData len seed := by
  unfold genDataBA genData
  split
  · simp only [foldl_push_toList, crcForceBA_eq, genDataPlainBA_toList]
  · exact genDataPlainBA_toList _ _ _

example : (genDataBA 1004 241).data.toList = genData 1004 241 := genDataBA_toList 1004 241

/-! ### test vectors -/

set_option maxRecDepth 20000 in
example : backIdx 4 forceTarget [] = [84, 168, 59, 188] := backIdx_forceTarget
set_option maxRecDepth 20000 in
example : crcForce [] = [171, 155, 224, 155] := by rw [crcForce_eq]; decide +kernel
example : crc32c ([] ++ crcForce []) = 0 := crc_force_zero []
set_option maxRecDepth 20000 in
example : crc32c [1, 2, 3, 181, 105, 208, 106] = 0 := by decide +kernel
/-- a forced suffix identified by `crc_force_unique`: four bytes that give checksum 0 -/
example : crcForce [1, 2, 3] = [181, 105, 208, 106] :=
  (crc_force_unique [1, 2, 3] [181, 105, 208, 106] rfl (by decide +kernel)).symm
example : crc32c (genData 1004 241) = 0 := genData_crc_zero 1004 241 (by omega) (by omega)
example : crc32c (genData 8 240) = 0 := genData_crc_zero 8 240 (by omega) (by omega)
example : (genData 1004 241).length = 1004 := genData_length' 1004 241
example : crcReg 0x12345678#32 (forceRegTo 0xdeadbeef#32 0x12345678#32) = 0xdeadbeef#32 := crcReg_forceRegTo _ _
set_option maxRecDepth 20000 in
example : forceRegTo 0xdeadbeef#32 0x12345678#32 = [171, 232, 157, 134] := by decide +kernel
-- the generator itself: the payload of `w … 8 240`
set_option maxRecDepth 20000 in
example : genData 8 240 = [240, 82, 190, 29, 16, 189, 72, 12] := by
  rw [genData_forced 8 240 (by omega) (by omega), crcForce_eq]; decide +kernel
set_option maxRecDepth 20000 in
example : crc32c [240, 82, 190, 29, 16, 189, 72, 12] = 0 := by decide +kernel
/-- other seeds / short lengths are the plain stream -/
example : genData 10 7 = genDataPlain 10 7 := genData_plain 10 7 (by omega)
example : genData 7 240 = genDataPlain 7 240 := genData_plain 7 240 (by omega)
example : genData 100 250 = genDataPlain 100 250 := genData_plain 100 250 (by omega)

end Pearl
