import Pearl.Proofs.ConcRW2
/-
Glue between the invariants of `Proofs/ConcRW*.lean` and the statements of the second half of `Props/C08.lean`:
`of_eval` / `exists_of_eval` (a decidable fact about an evaluated run), decidability of `AckedBefore`, `LinBefore`
and `quiescent`, `RespOK` per operation, `respOf_eq_some`, consequences of `TInv` (`client_of_op`, `provenance`, `coalesce_of_no_delete`), `reach_at`,
`BInv.client_can_step`, `CrossDel.ObsEq.spec`, `ConcBytes.acked_alloc`.
-/
namespace Pearl

/-- a decidable property of the value of `o`, checked by evaluating `o` and the test together; `elab_as_elim`
    makes `P` come from the expected type, which a conjunction would otherwise mis-unify -/
@[elab_as_elim]
theorem of_eval {α} {o : Option α} {a : α} {P : α → Prop} [DecidablePred P] (h : o = some a)
    (e : o.map (fun a => decide (P a)) = some true) : P a := by
  subst h
  simpa using e

theorem exists_of_eval {α} {o : Option α} {P : α → Prop} [DecidablePred P]
    (e : o.map (fun a => decide (P a)) = some true) : ∃ a, o = some a ∧ P a := by
  cases o with
  | none => cases e
  | some a => exact ⟨a, rfl, of_eval (a := a) rfl e⟩

namespace ConcRW

def Ev.isInv (j : Nat) : Ev → Bool
  | .inv j' _ => j == j'
  | _ => false

def Ev.isRes (i : Nat) : Ev → Bool
  | .res i' _ => i == i'
  | _ => false

def ackedB (i j : Nat) : List Ev → Bool
  | [] => false
  | e :: t => (e.isInv j && t.any (Ev.isRes i)) || ackedB i j t

theorem isInv_iff {j : Nat} {e : Ev} : e.isInv j = true ↔ ∃ op, e = .inv j op := by
  cases e <;> simp [Ev.isInv]
  exact eq_comm

theorem any_isRes_iff {i : Nat} {t : List Ev} : t.any (Ev.isRes i) = true ↔ ∃ r, Ev.res i r ∈ t := by
  rw [List.any_eq_true]
  constructor
  · rintro ⟨e, he, h⟩
    cases e <;> simp [Ev.isRes] at h
    subst h
    exact ⟨_, he⟩
  · rintro ⟨r, hr⟩
    exact ⟨_, hr, by simp [Ev.isRes]⟩

theorem ackedB_iff {i j : Nat} : ∀ {t : List Ev}, ackedB i j t = true ↔ AckedBefore i j t
  | [] => by simp [ackedB, AckedBefore]
  | e :: t => by
    simp only [ackedB, AckedBefore, Bool.or_eq_true, Bool.and_eq_true, isInv_iff, any_isRes_iff, ackedB_iff]

instance (i j : Nat) (t : List Ev) : Decidable (AckedBefore i j t) := decidable_of_iff _ ackedB_iff

def linB (i j : Nat) : List Ev → Bool
  | [] => false
  | e :: t => (e.linOf j && t.any (Ev.linOf i)) || linB i j t

theorem linB_iff {i j : Nat} : ∀ {t : List Ev}, linB i j t = true ↔ LinBefore i j t
  | [] => by simp [linB, LinBefore]
  | e :: t => by
    simp only [linB, LinBefore, Bool.or_eq_true, Bool.and_eq_true, List.any_eq_true, linB_iff]

instance (i j : Nat) (t : List Ev) : Decidable (LinBefore i j t) := decidable_of_iff _ linB_iff

theorem RespOK.read {born st : Store} {landed : List Rec} {k : Key} {r : Resp}
    (h : RespOK born st landed (.read k) r) :
    ∃ res, r = .value res ∧ ResOK born st k res ∧ ∀ x, res = .found x → x ∈ landed := by
  cases r with
  | value res => exact ⟨res, rfl, h.2⟩
  | wrote p => cases p <;> simp [RespOK, PlaceOK] at h
  | _ => simp [RespOK] at h

theorem RespOK.contains {born st : Store} {landed : List Rec} {k : Key} {r : Resp}
    (h : RespOK born st landed (.contains k) r) : ∃ res, r = .has (res.map (·.ts)) ∧ ResOK born st k res := by
  cases r with
  | has x => obtain ⟨-, res, rfl, h⟩ := h; exact ⟨res, rfl, h⟩
  | wrote p => cases p <;> simp [RespOK, PlaceOK] at h
  | _ => simp [RespOK] at h

theorem RespOK.write {born st : Store} {landed : List Rec} {k : Key} {ts : Nat} {d : Data} {r : Resp}
    (h : RespOK born st landed (.write k ts d) r) :
    r = .wrote none ∨ ∃ p, r = .wrote (some p) ∧ p.r = wrec k ts d := by
  cases r with
  | wrote p =>
    cases p with
    | none => exact .inl rfl
    | some p =>
      obtain ⟨-, k', ts', d', h1, h2⟩ := h
      cases h1
      exact .inr ⟨p, rfl, h2⟩
  | _ => simp [RespOK] at h

/-- `Pc.weight` vanishes exactly at `done`, which makes quiescence a decidable test -/
theorem quiescent_iff_weight {s : CState} : quiescent s ↔ ∀ c ∈ s.clients, c.pc.weight = 0 := by
  refine ⟨fun h c hc => ?_, fun h c hc => ?_⟩
  · obtain ⟨r, hr⟩ := h c hc
    rw [hr]; rfl
  · have := h c hc
    cases hpc : c.pc <;> simp [hpc, Pc.weight] at this
    exact ⟨_, rfl⟩

instance (s : CState) : Decidable (quiescent s) := decidable_of_iff _ quiescent_iff_weight.symm

theorem respOf_eq_some {s : CState} {i : Nat} {r : Resp} :
    respOf s i = some r ↔ ∃ c, s.clients[i]? = some c ∧ c.pc = .done r := by
  unfold respOf
  constructor
  · intro h
    split at h <;> cases h
    exact ⟨_, ‹_›, rfl⟩
  · rintro ⟨⟨op, pc, born⟩, hc, rfl⟩
    simp [hc]

/-- the client behind an operation and its response, read off an evaluated run -/
theorem client_of_run {o : Option CState} {s : CState} (h : o = some s) (i : Nat) (op : COp) (r : Resp)
    (e : o.map (fun s => decide (s.clients[i]?.map (·.op) = some op ∧ respOf s i = some r)) = some true) :
    ∃ c, s.clients[i]? = some c ∧ c.op = op ∧ c.pc = .done r := by
  obtain ⟨e1, e2⟩ : s.clients[i]?.map (·.op) = some op ∧ respOf s i = some r := of_eval h e
  obtain ⟨c, hc, hd⟩ := respOf_eq_some.1 e2
  rw [hc] at e1
  exact ⟨c, hc, Option.some.inj e1, hd⟩

theorem TInv.client_of_op {st : Store} {ops : List COp} {s : CState} (ht : TInv st ops s) {i : Nat} {op : COp}
    (h : ops[i]? = some op) : ∃ c, s.clients[i]? = some c ∧ c.op = op := by
  rwa [← ht.opsEq, List.getElem?_map, Option.map_eq_some_iff] at h

theorem TInv.provenance {st : Store} {ops : List COp} {s : CState} (ht : TInv st ops s) {r : Rec} {k : Key}
    (hin : InStore s.store r) (hd : r.del = false) (hk : r.key = k) :
    InStore st r ∨ ∃ j ts d, ops[j]? = some (COp.write k ts d) ∧ r = wrec k ts d ∧ Ev.push j r ∈ s.trace := by
  rcases ht.prov r hin hd with h | ⟨j, h⟩
  · exact .inl h
  · obtain ⟨k', ts, d, h2, rfl⟩ := ht.push j r h
    cases hk
    exact .inr ⟨j, ts, d, h2, rfl, h⟩

theorem mem_muts {t : List Ev} {e : Ev} : e ∈ muts t ↔ e ∈ t ∧ e.mutates = true := by
  simp [muts]

theorem TInv.no_delete {st : Store} {ops : List COp} {s : CState} (ht : TInv st ops s)
    (hdf : ∀ op ∈ ops, op.isDelete = false) (j : Nat) (k : Key) (ts : Nat) :
    ¬ ((∃ oip, Ev.delA j k ts oip ∈ s.trace) ∨ Ev.delC j k ts ∈ s.trace) := fun h => by
  obtain ⟨oip, ho⟩ := ht.del j k ts h
  cases hdf _ (List.mem_of_getElem? ho)

theorem TInv.coalesce_of_no_delete {st : Store} {ops : List COp} {s : CState} (ht : TInv st ops s)
    (hdf : ∀ op ∈ ops, op.isDelete = false) : ∃ seq, coalesce (muts s.trace) = some seq :=
  coalesce_of_noDel (muts s.trace) (fun e he => (mem_muts.1 he).2)
    (fun e he i k ts oip hx => ht.no_delete hdf i k ts (.inl ⟨oip, hx ▸ (mem_muts.1 he).1⟩))
    (fun e he i k ts hx => ht.no_delete hdf i k ts (.inr (hx ▸ (mem_muts.1 he).1)))

theorem reach_at {st : Store} {ops : List COp} {s : CState} (hwf : st.WF) (ha : ∃ a, st.active = some a)
    (hr : Reach (init st ops) s) {l t : List Ev} (h : s.trace = l ++ t) :
    ∃ s1, Reach (init st ops) s1 ∧ Reach s1 s ∧ s1.trace = t ∧ s1.store = replay st t ∧ s1.store.WF := by
  obtain ⟨s1, r1, r1s, t1⟩ := reach_suffix (s0 := init st ops) rfl hr l t h
  obtain ⟨hi, ht⟩ := tinv_reach hwf ha r1
  exact ⟨s1, r1, r1s, t1, t1 ▸ ht.replay, hi.wf⟩

theorem Pc.not_waiting_of_holdsB {pc : Pc} (h : pc.holdsB = true) :
    (∀ r, pc ≠ .done r) ∧ pc ≠ .wLocked ∧ pc ≠ .dActive := by
  refine ⟨fun r e => ?_, fun e => ?_, fun e => ?_⟩ <;> rw [e] at h <;> cases h

theorem BInv.client_can_step {s : CState} (hb : BInv s) {a : Blob} (ha : s.store.active = some a) {i : Nat}
    {c : Client} (hc : s.clients[i]? = some c) (hnd : ∀ r, c.pc ≠ .done r)
    (h : s.blobLock = none ∨ c.pc ≠ .wLocked ∧ c.pc ≠ .dActive) : ∃ s', fire (.step i) s = some s' :=
  let ⟨_, ho⟩ := cstep_enabled (landed := s.landed) (i := i) (hb.typed c (List.mem_of_getElem? hc)) ha hnd h
  fire_step_of_cstep hc ho

end ConcRW

/-- on well-formed stores the four observations are the `Spec` lists (C01, C02) -/
theorem CrossDel.ObsEq.spec {a b : Store} (ha : a.WF) (hb : b.WF) (h : CrossDel.ObsEq a b) (k : Key) :
    (Spec.latest a.history k).map (·.r) = (Spec.latest b.history k).map (·.r) ∧
      (Spec.allCut a.history k).map (·.r) = (Spec.allCut b.history k).map (·.r) ∧
      (Spec.allLive a.history k).map (·.r) = (Spec.allLive b.history k).map (·.r) := by
  obtain ⟨h1, -, h3, h4⟩ := h k
  exact ⟨by rw [← read_eq_spec ha, ← read_eq_spec hb, h1],
    by rw [← readAllMarked_eq_spec ha, ← readAllMarked_eq_spec hb, h3],
    by rw [← readAll_eq_spec ha, ← readAll_eq_spec hb, h4]⟩

namespace ConcBytes
open ConcRW

theorem acked_alloc {klen : Nat} {st : Store} {ops : List COp} {b : BState} (hwf : st.WF)
    (ha : ∃ a, st.active = some a) (hr : BReach klen (binit klen st ops) b) {i : Nat} {p : PRec}
    (hack : Ev.res i (.wrote (some p)) ∈ b.c.trace) :
    ∃ x ∈ b.y.allocs, x.client = i ∧ x.written = true ∧ x.blob = p.blob ∧ x.r = p.r := by
  obtain ⟨c, hc, hd⟩ := (tinv_reach hwf ha (breach_reach hr)).2.res i _ hack
  exact ((pinv_reach hwf ha hr).client i c hc).2.2 p (by rw [hd]; rfl)

theorem mem_trace_of_breach {klen : Nat} {b b' : BState} (h : BReach klen b b') {e : Ev} (he : e ∈ b.c.trace) :
    e ∈ b'.c.trace := by
  obtain ⟨m, hm⟩ := reach_trace_ext (breach_reach h)
  exact hm ▸ List.mem_append_right _ he

end ConcBytes
end Pearl
