import Pearl.Proofs.AcctMoves
/-
Runs of `Acct.step`: the invariant along a run and the four identities it gives, the `store` component as an L2 run,
what a restart does to the history, to unreadable blob files and to their index files, `disk_used` against the directory.
-/
namespace Pearl
namespace Acct

theorem runFrom_nil (c : Cfg) (s : State) : runFrom c s [] = s := rfl

theorem runFrom_cons (c : Cfg) (s : State) (op : AOp) (ops : List AOp) :
    runFrom c s (op :: ops) = runFrom c (step c s op) ops := rfl

theorem runFrom_append (c : Cfg) (s : State) (ops ops' : List AOp) :
    runFrom c s (ops ++ ops') = runFrom c (runFrom c s ops) ops' := by
  simp [runFrom, List.foldl_append]

theorem inv_runFrom {c : Cfg} : ∀ {s : State}, Inv c s → ∀ ops : List AOp, Inv c (runFrom c s ops)
  | _, h, [] => h
  | _, h, op :: ops => inv_runFrom (inv_step h op) ops

theorem inv_run (c : Cfg) (allowDup : Bool) (ops : List AOp) : Inv c (run c allowDup ops) :=
  inv_runFrom (inv_init c allowDup) ops

theorem Inv.blobsCount_eq {c : Cfg} {s : State} (h : Inv c s) :
    blobsCount s + s.ignored.length = dirBlobFiles s := by
  have hnd : (s.store.blobs.map (·.id) ++ s.ignored).Nodup := by
    rw [List.nodup_append]
    refine ⟨ids_nodup h.wf, h.ignNodup, ?_⟩
    intro a ha b hb e
    obtain ⟨x, hx, rfl⟩ := List.mem_map.1 ha
    exact h.ignHeld b hb x hx e
  have hperm : (s.store.blobs.map (·.id) ++ s.ignored).Perm (keys s.dir.blobs) := by
    rw [List.perm_ext_iff_of_nodup hnd h.filesNodup]
    intro i
    rw [List.mem_append, ← mem_ids_iff]
    exact (h.files i).symm
  have := hperm.length_eq
  simp only [List.length_append, List.length_map, keys] at this
  exact this

theorem Inv.nextBlobId_eq {c : Cfg} {s : State} (h : Inv c s) : nextBlobId s = dirNextId s :=
  h.maxNext_eq.symm

theorem Inv.corrupted_eq {c : Cfg} {s : State} (h : Inv c s) : corruptedBlobsCount s = dirCorrupted s := h.cnt

theorem Inv.blobDiskUsed_eq {c : Cfg} {s : State} (h : Inv c s) {b : Blob} (hb : b ∈ s.store.blobs) :
    blobDiskUsed s b = blobFileLen s.dir b.id + idxFileLen s.dir b.id := by
  have ob := h.ok b hb
  unfold blobDiskUsed blobFileLen
  rw [ob.file]
  cases ho : b.onDisk with
  | false => rfl
  | true =>
    obtain ⟨f, hf, hl⟩ := ob.onDisk ho
    simp [idxFileLen, hf, hl]

theorem Inv.diskUsed_eq {c : Cfg} {s : State} (h : Inv c s) : diskUsed s = dirDiskUsed s := by
  unfold diskUsed dirDiskUsed
  congr 1
  exact List.map_congr_left (fun b hb => h.blobDiskUsed_eq hb)

/-- `disk_used` in terms of the history: the blob header and the records appended, per held blob, plus the
    index files of the held blobs -/
theorem Inv.diskUsed_history {c : Cfg} {s : State} (h : Inv c s) :
    diskUsed s = (s.store.blobs.map (fun b => Fs.contentLen c.klen b.recs + idxFileLen s.dir b.id)).sum := by
  rw [h.diskUsed_eq]
  unfold dirDiskUsed
  congr 1
  apply List.map_congr_left
  intro b hb
  unfold blobFileLen
  rw [held_file_len h hb]; rfl

/-- the index file of a blob file that is gone or not held is counted by nobody: every index file of the
    work directory has an id below `next_blob_id`, so no future blob gets its id either -/
theorem Inv.idx_below {c : Cfg} {s : State} (h : Inv c s) : ∀ i ∈ keys s.dir.idx, i < nextBlobId s :=
  fun i hi => h.below i (Or.inl (h.idxFiles i hi))

/-- the L2 operations performed by one step in state `s` -/
def l2 (s : State) : AOp → List Op
  | .write k ts m d rot dmp =>
    .write k ts m d ::
      (if s.store.dedups k m then []
       else if rot then .replaceActive :: (if dmp then [.settle] else []) else [])
  | .delete k ts m oip => [.delete k ts m oip]
  | .closeActive => [.closeActive, .settle]
  | .createActive => [.createActive]
  | .restoreActive => [.restoreActive]
  | .force go => (if go then [.replaceActive] else []) ++ [.settle]
  | .settle => [.settle]
  | .restart lazy _ _ => [.restart lazy]

theorem store_ensureActive_idem (s : Store) : s.ensureActive.ensureActive = s.ensureActive := by
  obtain ⟨a, ha⟩ := s.ensureActive_active
  exact Store.ensureActive_of_some ha

theorem store_write_ensureActive (s : Store) (k : Key) (ts : Nat) (m : Option Meta) (d : Data) :
    s.ensureActive.write k ts m d = s.write k ts m d := by
  simp only [Store.write, store_ensureActive_idem]

theorem store_delete_ensureActive (s : Store) (k : Key) (ts : Nat) (m : Option Meta) :
    s.ensureActive.delete k ts m false = s.delete k ts m false := by
  simp only [Store.delete, store_ensureActive_idem, Bool.false_eq_true, if_false]

theorem write_store (c : Cfg) (s : State) (k : Key) (ts : Nat) (m : Option Meta) (d : Data) (rot dmp : Bool) :
    (write c s k ts m d rot dmp).store = s.store.run (l2 s (.write k ts m d rot dmp)) := by
  have hs0 := ensureActive_store s
  obtain ⟨a, ha⟩ := ensureActive_active s
  have hcond := dedup_ensureActive s k m
  unfold write l2
  simp only
  rw [hcond]
  cases hd : s.store.dedups k m with
  | true =>
    simp only [if_true, Store.run, List.foldl_cons, List.foldl_nil, Store.apply]
    rw [hs0, ← store_write_ensureActive]
    have ha' : s.store.ensureActive.active = some a := by rw [← hs0]; exact ha
    exact (Store.write_of_dedup ha' k ts m d (by rw [← hs0, hcond, hd])).symm
  | false =>
    simp only [Bool.false_eq_true, if_false, ha]
    have hw : (ensureActive s).store.apply (.write k ts m d) = s.store.apply (.write k ts m d) := by
      show (ensureActive s).store.write k ts m d = s.store.write k ts m d
      rw [hs0, store_write_ensureActive]
    cases rot with
    | false => simp only [Bool.false_eq_true, if_false, Store.run, List.foldl_cons, List.foldl_nil]; exact hw
    | true =>
      cases dmp with
      | false =>
        simp only [rotate, if_true, Bool.false_eq_true, if_false, Store.run, List.foldl_cons, List.foldl_nil]
        rw [← hw]
      | true =>
        simp only [rotate, if_true, Store.run, List.foldl_cons, List.foldl_nil]
        rw [← hw]; rfl

theorem delete_store (c : Cfg) (s : State) (k : Key) (ts : Nat) (m : Option Meta) (oip : Bool) :
    (delete c s k ts m oip).store = s.store.apply (.delete k ts m oip) := by
  unfold delete
  cases oip with
  | true => rfl
  | false =>
    simp only [Bool.false_eq_true, if_false]
    show ((ensureActive s).store.delete k ts m false).1 = (s.store.delete k ts m false).1
    rw [ensureActive_store, store_delete_ensureActive]

/-- every operation but `restart`: the store after the step is the L2 store after the L2 operations -/
theorem step_store (c : Cfg) (s : State) (op : AOp) (hr : ∀ lazy ignore bad, op ≠ .restart lazy ignore bad) :
    (step c s op).store = s.store.run (l2 s op) := by
  cases op with
  | write k ts m d rot dmp => exact write_store c s k ts m d rot dmp
  | delete k ts m oip => exact delete_store c s k ts m oip
  | closeActive => rfl
  | createActive =>
    show (ensureActive s).store = _
    rw [ensureActive_store, Store.ensureActive_eq_apply]; rfl
  | restoreActive => rfl
  | force go => cases go <;> rfl
  | settle => rfl
  | restart lazy ignore bad => exact absurd rfl (hr lazy ignore bad)

theorem unreadable_closeSession (c : Cfg) (s : State) (bad : List Nat) :
    unreadable (closeSession c s) bad = unreadable s bad := by
  unfold unreadable; rw [closeSession_blobs, closeSession_ignored]

theorem initCore_store (c : Cfg) (s : State) (lazy ignore : Bool) (bad : List Nat) :
    (initCore c s lazy ignore bad).store =
      { allowDup := s.store.allowDup
        active := (if lazy then none else (keptBlobs s bad).getLast?).map (fun a => { a with onDisk := false })
        slots := (if lazy then keptBlobs s bad else (keptBlobs s bad).dropLast).map
          (fun b => some { b with onDisk := idxValid (dirAfterRead s ignore bad) b.id || !b.recs.isEmpty })
        nextId := max (maxNext (keys s.dir.blobs)) (maxNext (dirAfterRead s ignore bad).corrupted) } := rfl

theorem reopen_hist (s : State) (lazy ignore : Bool) (bad : List Nat) :
    (reopen s lazy ignore bad).store.blobs.map Blob.hist = (keptBlobs s bad).map Blob.hist := by
  unfold reopen
  simp only [Store.blobs, Store.closed, filterMap_id_map_some]
  cases lazy with
  | true => simp [List.map_map, Function.comp_def, Blob.hist]
  | false =>
    simp only [Bool.false_eq_true, if_false]
    conv => rhs; rw [← dropLast_append_getLast?_toList (keptBlobs s bad)]
    cases (keptBlobs s bad).getLast? <;> simp [List.map_map, Function.comp_def, Blob.hist] <;> rfl

theorem initCore_hist (c : Cfg) (s : State) (lazy ignore : Bool) (bad : List Nat) :
    (initCore c s lazy ignore bad).store.blobs.map Blob.hist = (keptBlobs s bad).map Blob.hist := by
  rw [initCore_eq, ← reopen_hist s lazy ignore bad]
  show (Store.settle _).blobs.map Blob.hist = _
  rw [Store.settle_blobs, Store.blobs, List.map_append, List.map_append, map_dumpFlag_hist]

/-- what a restart does to the history: the blobs found unreadable vanish (quarantined or ignored); if nothing
    is left a new empty blob may appear -/
theorem restart_history {c : Cfg} {s : State} (h : Inv c s) (lazy ignore : Bool) (bad : List Nat) :
    ∃ e : History, (restart c s lazy ignore bad).store.history =
        s.store.history.filter (fun p => !(unreadable s bad).contains p.1) ++ e ∧
      (∀ p ∈ e, p.2 = []) ∧ e.length ≤ 1 := by
  have h1 := inv_closeSession (c := c) h
  have hst := closeSession_store c s
  have hun := unreadable_closeSession c s bad
  rw [restart_eq]
  generalize closeSession c s = s1 at h1 hst hun ⊢
  rw [← hst, ← hun]
  have hK : (initCore c s1 lazy ignore bad).store.history =
      s1.store.history.filter (fun p => !(unreadable s1 bad).contains p.1) := by
    rw [Store.history_eq, initCore_hist, keptBlobs_eq h1.wf, Store.history_eq, List.filter_map]
    rfl
  -- the two shapes of `e`
  have hnil : (∀ p ∈ ([] : History), p.2 = []) ∧ ([] : History).length ≤ 1 := ⟨fun _ hp => (nomatch hp), Nat.zero_le _⟩
  have hone : ∀ n : Nat, (∀ p ∈ ([(n, [])] : History), p.2 = []) ∧ ([(n, [])] : History).length ≤ 1 :=
    fun n => ⟨fun p hp => by rw [List.mem_singleton.1 hp], Nat.le_refl _⟩
  split
  · rename_i he
    have hb : s1.store.blobs = [] :=
      List.eq_nil_iff_forall_not_mem.2 fun b hb => by
        have := (h1.files b.id).2 (Or.inl ⟨b, hb, rfl⟩)
        rw [List.isEmpty_iff.1 he] at this; cases this
    refine ⟨_, ?_, hone (maxNext s1.dir.corrupted)⟩
    rw [show s1.store.history = [] by rw [Store.history_eq, hb]; rfl]
    rfl
  · rw [← hK]
    split
    · exact ⟨[], (List.append_nil _).symm, hnil⟩
    · rcases ensureActive_blobs (initCore c s1 lazy ignore bad) with e | e
      · exact ⟨[], by rw [List.append_nil, Store.history_eq, e, ← Store.history_eq], hnil⟩
      · exact ⟨_, by rw [Store.history_eq, e, List.map_append, ← Store.history_eq]; rfl,
          hone (initCore c s1 lazy ignore bad).store.nextId⟩

theorem unreadable_clean {s : State} (hi : s.ignored = []) : unreadable s [] = [] := by
  unfold unreadable
  rw [hi, List.filter_eq_nil_iff]
  intro a _
  simp

theorem dirAfterRead_clean {s : State} {bad : List Nat} (hu : unreadable s bad = []) (ignore : Bool) :
    dirAfterRead s ignore bad = s.dir := by
  unfold dirAfterRead
  rw [hu]
  cases ignore with
  | true => rfl
  | false =>
    simp only [Bool.false_eq_true, if_false, List.filter_nil, List.append_nil]
    rw [del_eq_self (by intro i _; rfl), del_eq_self (by intro i _; rfl)]

theorem keptBlobs_clean {s : State} (hwf : s.store.WF) {bad : List Nat} (hu : unreadable s bad = []) :
    keptBlobs s bad = s.store.blobs := by
  rw [keptBlobs_eq hwf, hu, List.filter_eq_self]
  intro b _; rfl

/-- a restart without damage, in a directory where nothing was ever quarantined or skipped, is the L2 `restart` -/
theorem restart_store_clean {c : Cfg} {s : State} (h : Inv c s) (hcl : Clean s) (lazy ignore : Bool) :
    (restart c s lazy ignore []).store = s.store.apply (.restart lazy) ∧ Clean (restart c s lazy ignore []) := by
  have h1 := inv_closeSession (c := c) h
  have hst := closeSession_store c s
  obtain ⟨hi1, hc1⟩ := sameQ.clean (s' := closeSession c s) ⟨closeSession_ignored c s, closeSession_corrupted c s⟩ hcl
  rw [restart_eq]
  generalize closeSession c s = s1 at h1 hst hi1 hc1 ⊢
  rw [← hst]
  have hwf := h1.wf
  -- the directory is not empty and `nextId` is tight
  have htight : s1.store.nextId - 1 ∈ keys s1.dir.blobs :=
    h1.tight.2.resolve_right (by rw [hc1]; exact List.not_mem_nil)
  have hne : ¬ (keys s1.dir.blobs).isEmpty = true := fun he => by
    rw [List.isEmpty_iff.1 he] at htight; cases htight
  have hT : s1.store.Tight := by
    rcases (h1.files _).1 htight with ⟨b, hb, hbe⟩ | hign
    · exact ⟨b, hb, by have := h1.tight.1; omega⟩
    · rw [hi1] at hign; cases hign
  have hu := unreadable_clean hi1
  have hd := dirAfterRead_clean hu ignore
  have hk := keptBlobs_clean hwf hu
  -- the residence flag `init_from_existing` sets is the one the L2 `restart` sets: an empty blob has no index file
  have hslots : ∀ l : List Blob, (∀ b ∈ l, b ∈ s1.store.blobs) →
      l.map (fun b => some ({ b with onDisk := idxValid s1.dir b.id || !b.recs.isEmpty } : Blob)) =
        l.map (fun b => some (if b.recs.isEmpty then b else { b with onDisk := true })) := by
    intro l hl
    apply List.map_congr_left
    intro b hb
    rcases Bool.eq_false_or_eq_true b.recs.isEmpty with hemp | hemp
    · obtain ⟨hnoidx, hod⟩ := (h1.ok b (hl b hb)).of_empty (List.isEmpty_iff.1 hemp)
      have hv : idxValid s1.dir b.id = false := by simp [idxValid, hnoidx]
      rw [hv, hemp, if_pos rfl]
      show some (Blob.mk b.id b.recs false) = some b
      rw [← hod]
    · rw [hemp]; simp
  obtain ⟨last, hlast⟩ : ∃ a, s1.store.blobs.getLast? = some a := by
    cases hg : s1.store.blobs.getLast? with
    | none => exact absurd (List.getLast?_eq_none_iff.1 hg) hT.ne_nil
    | some a => exact ⟨a, rfl⟩
  have hstore : (initCore c s1 lazy ignore []).store = s1.store.apply (.restart lazy) := by
    have hnid : max (maxNext (keys s1.dir.blobs)) (maxNext (dirAfterRead s1 ignore []).corrupted) =
        s1.store.nextId := initCore_nextId h1 lazy ignore []
    rw [initCore_store, hnid, hk, hd]
    have hbound : s1.store.blobs.foldl (fun m b => max m (b.id + 1)) 0 = s1.store.nextId :=
      Store.idBound_eq_nextId hwf hT
    simp only [Store.apply, Store.restart, Store.sortById_of_sorted _ hwf.1, hbound]
    cases lazy with
    | true =>
      simp only [if_true, Option.map_none]
      rw [hslots _ (fun b hb => hb)]
    | false =>
      simp only [Bool.false_eq_true, if_false, hlast, Option.map_some]
      rw [hslots _ (fun b hb => List.dropLast_subset _ hb)]
  have hrest : Clean (initCore c s1 lazy ignore []) := by
    constructor
    · show (if ignore = true then unreadable s1 [] else []) = []
      rw [hu]; cases ignore <;> rfl
    · show (dirAfterRead s1 ignore []).corrupted = []
      rw [hd]; exact hc1
  rw [if_neg hne]
  cases lazy with
  | true => exact ⟨hstore, hrest⟩
  | false =>
    -- the last blob has become the active one: nothing to create
    have ha : (initCore c s1 false ignore []).store.active = some { last with onDisk := false } := by
      rw [initCore_store, hk, hlast]; rfl
    rw [if_neg Bool.false_ne_true, ensureActive_of_some ha]
    exact ⟨hstore, hrest⟩

/-- no blob file is damaged at this step -/
def NoDamage : AOp → Prop
  | .restart _ _ bad => bad = []
  | _ => True

def NotIgnoring : AOp → Prop
  | .restart _ ignore _ => ignore = false
  | _ => True

instance : DecidablePred NotIgnoring := fun op => by
  cases op <;> simp only [NotIgnoring] <;> infer_instance

instance : DecidablePred NoDamage := fun op => by
  cases op <;> simp only [NoDamage] <;> infer_instance

/-- the L2 operations of a run -/
def l2run (c : Cfg) : State → List AOp → List Op
  | _, [] => []
  | s, op :: ops => l2 s op ++ l2run c (step c s op) ops

theorem step_clean {c : Cfg} {s : State} (h : Inv c s) (hcl : Clean s) {op : AOp} (hop : NoDamage op) :
    (step c s op).store = s.store.run (l2 s op) ∧ Clean (step c s op) := by
  rcases op.restart_or with ⟨lazy, ignore, bad, rfl⟩ | hr
  · have hb : bad = [] := hop
    subst hb
    exact restart_store_clean h hcl lazy ignore
  · exact ⟨step_store c s op hr, (sameQ_step c s op hr).clean hcl⟩

theorem runFrom_clean {c : Cfg} : ∀ {s : State}, Inv c s → Clean s → ∀ ops : List AOp, (∀ op ∈ ops, NoDamage op) →
    (runFrom c s ops).store = s.store.run (l2run c s ops) ∧ Clean (runFrom c s ops)
  | _, _, hcl, [], _ => ⟨rfl, hcl⟩
  | s, h, hcl, op :: ops, hops => by
    obtain ⟨h1, h2⟩ := step_clean h hcl (hops op (by simp))
    obtain ⟨g1, g2⟩ := runFrom_clean (inv_step h op) h2 ops (fun o ho => hops o (by simp [ho]))
    refine ⟨?_, g2⟩
    rw [runFrom_cons, g1, h1]
    show _ = s.store.run (l2 s op ++ l2run c (step c s op) ops)
    rw [Store.run_append]

theorem init_store (allowDup : Bool) : (init allowDup).store = Store.init allowDup := rfl

/-- a run in which no blob file is ever damaged is, on the `store` component, an L2 run -/
theorem run_clean (c : Cfg) (allowDup : Bool) (ops : List AOp) (hops : ∀ op ∈ ops, NoDamage op) :
    (run c allowDup ops).store = (Store.init allowDup).run (l2run c (init allowDup) ops) ∧ Clean (run c allowDup ops) :=
  runFrom_clean (inv_init c allowDup) ⟨rfl, rfl⟩ ops hops

theorem unreadable_nil_of_no_files {s : State} {bad : List Nat} (he : keys s.dir.blobs = []) :
    unreadable s bad = [] := by
  unfold unreadable; rw [he]; rfl

/-- the files moved by an operation: none, except by a restart without `ignore_corrupted` -/
theorem stepC_moved (c : Cfg) (s : State) (op : AOp) :
    (stepC c s op).moved = match op with
      | .restart _ false bad => unreadable s bad
      | _ => [] := by
  rw [stepC_log]
  cases op with
  | restart lazy ignore bad =>
    simp only [blocks]
    split
    · rename_i he
      cases ignore <;> simp [mvs, Blk.mv, unreadable_nil_of_no_files (List.isEmpty_iff.1 he)]
    · cases lazy <;> cases ignore <;> simp [mvs, Blk.mv, Blk.run, unreadable_closeSession]
  | _ => simp only [blocks] <;> repeat' split
         all_goals rfl

theorem mem_stepC_moved {c : Cfg} {s : State} {op : AOp} {i : Nat} :
    i ∈ (stepC c s op).moved ↔ ∃ lazy bad, op = .restart lazy false bad ∧ i ∈ unreadable s bad := by
  rw [stepC_moved]
  constructor
  · intro h
    cases op with
    | restart lazy ignore bad =>
      cases ignore with
      | false => exact ⟨lazy, bad, rfl, h⟩
      | true => cases h
    | _ => cases h
  · rintro ⟨lazy, bad, rfl, h⟩
    exact h

theorem restart_ignored (c : Cfg) (s : State) (lazy ignore : Bool) (bad : List Nat) :
    (restart c s lazy ignore bad).ignored = if ignore = true then unreadable s bad else [] := by
  have hun := unreadable_closeSession c s bad
  rw [restart_eq]
  generalize closeSession c s = s1 at hun ⊢
  rw [← hun]
  split
  · rename_i he
    rw [unreadable_nil_of_no_files (List.isEmpty_iff.1 he)]
    simp [initNew]
  · split
    · rfl
    · exact (sameQ_ensureActive _).1

/-- `ignore_corrupted = false`: every unreadable blob file is moved to `corrupted`, its index file is removed
    (no index file is left behind without its blob), nothing stays skipped -/
theorem restart_quarantines {c : Cfg} {s : State} (h : Inv c s) (lazy : Bool) (bad : List Nat) :
    let r := restart c s lazy false bad
    (∀ i ∈ unreadable s bad, i ∈ r.dir.corrupted ∧ i ∉ keys r.dir.blobs ∧ get r.dir.idx i = none) ∧
      r.ignored = [] ∧
      corruptedBlobsCount r = corruptedBlobsCount s + (unreadable s bad).length := by
  intro r
  have hr : Inv c r := inv_restart h lazy false bad
  have hcorr : r.dir.corrupted = s.dir.corrupted ++ unreadable s bad := by
    have := (step_fileStep h (.restart lazy false bad)).corr
    rwa [stepC_moved] at this
  refine ⟨?_, by rw [restart_ignored]; rfl, ?_⟩
  · intro i hi
    have hic : i ∈ r.dir.corrupted := by rw [hcorr]; exact List.mem_append_right _ hi
    refine ⟨hic, hr.corrFiles i hic, ?_⟩
    apply get_eq_none_iff.2
    intro hk
    exact hr.corrFiles i hic (hr.idxFiles i hk)
  · show r.corruptedCnt = s.corruptedCnt + _
    rw [hr.cnt, h.cnt, hcorr, List.length_append]

/-- `ignore_corrupted = true`: every unreadable blob file stays in the work directory, is not held and not
    counted; `corrupted` is untouched -/
theorem restart_ignores {c : Cfg} {s : State} (h : Inv c s) (lazy : Bool) (bad : List Nat) :
    let r := restart c s lazy true bad
    (∀ i ∈ unreadable s bad, i ∈ keys r.dir.blobs ∧ (∀ b ∈ r.store.blobs, b.id ≠ i) ∧ i < nextBlobId r) ∧
      r.ignored = unreadable s bad ∧ r.dir.corrupted = s.dir.corrupted ∧
      corruptedBlobsCount r = corruptedBlobsCount s ∧
      blobsCount r + (unreadable s bad).length = dirBlobFiles r := by
  intro r
  have hr : Inv c r := inv_restart h lazy true bad
  have hign : r.ignored = unreadable s bad := by rw [restart_ignored]; rfl
  have hcorr : r.dir.corrupted = s.dir.corrupted := by
    have := (step_fileStep h (.restart lazy true bad)).corr
    rwa [stepC_moved, List.append_nil] at this
  refine ⟨?_, hign, hcorr, ?_, ?_⟩
  · intro i hi
    have hi' : i ∈ r.ignored := by rw [hign]; exact hi
    have hk := (hr.files i).2 (Or.inr hi')
    exact ⟨hk, hr.ignHeld i hi', hr.below i (Or.inl hk)⟩
  · show r.corruptedCnt = s.corruptedCnt
    rw [hr.cnt, h.cnt, hcorr]
  · rw [← hign]; exact hr.blobsCount_eq

/-- an index file whose blob is not held (left behind, or belonging to a skipped blob) -/
def addIdx (s : State) (i : Nat) (f : IdxFile) : State :=
  { s with dir := { s.dir with idx := put s.dir.idx i f } }

/-- … changes none of the four getters and none of the four listings (`acct_orphan_index_irrelevant`, C15), but it is
    part of the directory -/
theorem orphan_idx_total (s : State) (i : Nat) (f : IdxFile) (hi : i ∉ keys s.dir.idx) :
    dirTotal (addIdx s i f) = dirTotal s + f.len := by
  unfold dirTotal addIdx
  rw [put_of_not_mem f hi]
  simp [List.sum_append]; omega

theorem sum_map_zero {α : Type} : ∀ L : List α, (L.map (fun _ => 0)).sum = 0
  | [] => rfl
  | _ :: xs => by simp [sum_map_zero xs]

/-- summing an attribute over a duplicate-free list of ids that covers the listing = summing over the listing -/
theorem sum_get_eq {α : Type} (f : α → Nat) : ∀ (l : List (Nat × α)) (L : List Nat), (keys l).Nodup → L.Nodup →
    (∀ i ∈ keys l, i ∈ L) → (L.map (fun i => ((get l i).map f).getD 0)).sum = (l.map (fun p => f p.2)).sum
  | [], L, _, _, _ => by
    simp only [get_nil, Option.map_none, Option.getD_none, List.map_nil, List.sum_nil]
    exact sum_map_zero L
  | (j, v) :: r, L, hl, hL, hsub => by
    rw [keys_cons, List.nodup_cons] at hl
    have hj : j ∈ L := hsub j (by simp)
    have hperm := List.perm_cons_erase hj
    rw [(hperm.map _).sum_nat, List.map_cons, List.sum_cons, List.map_cons, List.sum_cons]
    have ih := sum_get_eq f r (L.erase j) hl.2 (hL.erase j) (by
      intro i hi
      rw [hL.mem_erase_iff]
      exact ⟨fun e => hl.1 (e ▸ hi), hsub i (by simp [hi])⟩)
    rw [← ih, get_cons]
    simp only [if_true, Option.map_some, Option.getD_some]
    congr 1
    congr 1
    apply List.map_congr_left
    intro i hi
    have hne : j ≠ i := fun e => ((hL.mem_erase_iff).1 hi).1 e.symm
    rw [get_cons]
    simp [hne]

/-- when no blob file is skipped, `disk_used` is the total length of the blob and index files of the work
    directory -/
theorem Inv.diskUsed_total {c : Cfg} {s : State} (h : Inv c s) (hi : s.ignored = []) :
    diskUsed s = dirTotal s := by
  rw [h.diskUsed_eq]
  unfold dirDiskUsed dirTotal
  rw [sum_map_add (fun b : Blob => blobFileLen s.dir b.id) (fun b => idxFileLen s.dir b.id)]
  have hids := ids_nodup h.wf
  have hsubB : ∀ i ∈ keys s.dir.blobs, i ∈ s.store.blobs.map (·.id) := by
    intro i hk
    rcases (h.files i).1 hk with hb | hg
    · exact mem_ids_iff.1 hb
    · rw [hi] at hg; cases hg
  have hA := sum_get_eq (fun n : Nat => n) s.dir.blobs (s.store.blobs.map (·.id)) h.filesNodup hids hsubB
  have hB := sum_get_eq (fun f : IdxFile => f.len) s.dir.idx (s.store.blobs.map (·.id)) h.idxNodup hids
    (fun i hk => hsubB i (h.idxFiles i hk))
  rw [List.map_map] at hA hB
  congr 1
  · rw [← hA]
    congr 1
    apply List.map_congr_left
    intro b _
    simp only [Function.comp, blobFileLen]
    cases get s.dir.blobs b.id <;> rfl

theorem step_ignored_nil (c : Cfg) {s : State} (hi : s.ignored = []) {op : AOp} (hop : NotIgnoring op) :
    (step c s op).ignored = [] := by
  rcases op.restart_or with ⟨lazy, ignore, bad, rfl⟩ | hr
  · have hb : ignore = false := hop
    subst hb
    exact restart_ignored c s lazy false bad
  · exact (sameQ_step c s op hr).1.trans hi

theorem runFrom_ignored_nil (c : Cfg) : ∀ {s : State}, s.ignored = [] → ∀ ops : List AOp,
    (∀ op ∈ ops, NotIgnoring op) → (runFrom c s ops).ignored = []
  | _, hi, [], _ => hi
  | _, hi, op :: ops, hops =>
    runFrom_ignored_nil c (step_ignored_nil c hi (hops op (by simp))) ops (fun o ho => hops o (by simp [ho]))

/-- a blob with an `OnDisk` index: both files are functions of its records, and the index file validates -/
theorem Inv.blob_onDisk {c : Cfg} {s : State} (h : Inv c s) {b : Blob} (hb : b ∈ s.store.blobs)
    (ho : b.onDisk = true) :
    blobDiskUsed s b = Fs.contentLen c.klen b.recs + c.idxLen b.recs ∧ idxValid s.dir b.id = true := by
  have ob := h.ok b hb
  obtain ⟨f, hf, hl⟩ := ob.onDisk ho
  obtain ⟨h1, h2⟩ := ob.fresh ho f hf
  constructor
  · unfold blobDiskUsed
    rw [ho, if_pos rfl, hl, h1, ob.size]
  · unfold idxValid
    rw [hf, ob.file]
    simp [h2, ob.size]

/-- an empty blob: the blob header only -/
theorem Inv.blob_empty {c : Cfg} {s : State} (h : Inv c s) {b : Blob} (hb : b ∈ s.store.blobs)
    (he : b.recs = []) : blobDiskUsed s b = blobHeaderSize := by
  have ob := h.ok b hb
  obtain ⟨hnone, hoff⟩ := ob.of_empty he
  unfold blobDiskUsed idxFileLen
  rw [hoff, hnone, ob.size, he, Fs.contentLen_nil]
  rfl

/-- when every non-empty blob has its index on disk (after a lazy start, after a dump pass without a
    non-empty active blob), `disk_used` is a function of the history alone -/
theorem Inv.diskUsed_closed_form {c : Cfg} {s : State} (h : Inv c s)
    (hall : ∀ b ∈ s.store.blobs, b.recs ≠ [] → b.onDisk = true) :
    diskUsed s = (s.store.blobs.map (fun b =>
      Fs.contentLen c.klen b.recs + if b.recs.isEmpty then 0 else c.idxLen b.recs)).sum := by
  unfold diskUsed
  congr 1
  apply List.map_congr_left
  intro b hb
  cases he : b.recs.isEmpty with
  | true =>
    have hnil := List.isEmpty_iff.1 he
    rw [h.blob_empty hb hnil, hnil, Fs.contentLen_nil]; rfl
  | false =>
    have hne : b.recs ≠ [] := by intro e; rw [e] at he; cases he
    rw [(h.blob_onDisk hb (hall b hb hne)).1]; rfl

theorem restart_lazy_onDisk (c : Cfg) (s : State) (ignore : Bool) (bad : List Nat) :
    ∀ b ∈ (restart c s true ignore bad).store.blobs, b.recs ≠ [] → b.onDisk = true := by
  rw [restart_eq]
  generalize closeSession c s = s1
  split
  · intro b hb hne
    rw [show (initNew s1).store.blobs = [{ id := maxNext s1.dir.corrupted, recs := [] }] from rfl,
      List.mem_singleton] at hb
    rw [hb] at hne; exact absurd rfl hne
  · intro b hb hne
    simp only [if_true, initCore_store, Store.blobs, Store.closed, filterMap_id_map_some, Option.map_none,
      Option.toList, List.append_nil, List.mem_map] at hb
    obtain ⟨x, _, rfl⟩ := hb
    have : x.recs.isEmpty = false := by simpa using hne
    simp [this]

end Acct
end Pearl
