import Pearl.Proofs.BPTreeSearch
/-
The leaf array and the leaf table (`serialize_bptree`, the packing loop): which child a key selects, where
the leaves start, and that the newest header of a key lies in the first block of the leaf selected for it.
Here and in the B+tree files that follow, a name in backticks at the start of a doc comment is the C09 obligation of
DESIGN.md §4 that the lemma discharges, restated under that name in `Props/C09.lean`.
-/
set_option linter.unusedSectionVars false

namespace Pearl.BPTree

variable {H : Type}

/-- what `BTreeMap` iteration of a well-formed index gives: keys strictly ascending, vectors non-empty,
    every header filed under its own key -/
structure WF [Keyed H] (m : InMem H) : Prop where
  sorted : m.Pairwise (fun a b => a.1 < b.1)
  nonempty : ∀ kv ∈ m, kv.2 ≠ []
  keys : ∀ kv ∈ m, ∀ h ∈ kv.2, hkey h = kv.1

/-- the child chosen for key `k`, scanning from `cur`: the last entry whose min key is `≤ k`
    (the first entry if there is none) -/
def selFrom (cur : Entry) : List Entry → Nat → Entry
  | [], _ => cur
  | e :: es, k => if e.1 ≤ k then selFrom e es k else cur

def sel (E : List Entry) (k : Nat) : Entry :=
  match E with
  | [] => (0, 0)
  | e :: es => selFrom e es k

theorem selFrom_all_gt (cur : Entry) (es : List Entry) (k : Nat) (h : ∀ e ∈ es, k < e.1) :
    selFrom cur es k = cur := by
  cases es with
  | nil => rfl
  | cons e es =>
    have := h e (by simp)
    simp only [selFrom]
    rw [if_neg (by omega)]

theorem selFrom_mem (cur : Entry) (es : List Entry) (k : Nat) :
    selFrom cur es k = cur ∨ selFrom cur es k ∈ es := by
  induction es generalizing cur with
  | nil => left; rfl
  | cons e es ih =>
    simp only [selFrom]
    split
    · rcases ih e with h | h
      · right; rw [h]; simp
      · right; simp [h]
    · left; rfl

theorem sel_mem (E : List Entry) (k : Nat) (h : E ≠ []) : sel E k ∈ E := by
  cases E with
  | nil => exact absurd rfl h
  | cons e es =>
    simp only [sel]
    rcases selFrom_mem e es k with h | h
    · rw [h]; simp
    · simp [h]

theorem sel_cons_cons_of_le (e e' : Entry) (es : List Entry) (k : Nat) (h : e'.1 ≤ k) :
    sel (e :: e' :: es) k = sel (e' :: es) k := by
  simp only [sel, selFrom, if_pos h]

theorem selFrom_append_gt (k : Nat) (y : Entry) (Y : List Entry) (hy : k < y.1) :
    ∀ (X : List Entry) (cur : Entry), selFrom cur (X ++ y :: Y) k = selFrom cur X k := by
  intro X
  induction X with
  | nil => intro cur; simp only [List.nil_append, selFrom]; rw [if_neg (by omega)]
  | cons x X ih =>
    intro cur
    simp only [List.cons_append, selFrom]
    split
    · exact ih x
    · rfl

theorem selFrom_append_le (k : Nat) (y : Entry) (Y : List Entry) (hy : y.1 ≤ k) :
    ∀ (X : List Entry) (cur : Entry), (∀ x ∈ X, x.1 ≤ k) →
      selFrom cur (X ++ y :: Y) k = selFrom y Y k := by
  intro X
  induction X with
  | nil => intro cur _; simp only [List.nil_append, selFrom]; rw [if_pos hy]
  | cons x X ih =>
    intro cur hx
    simp only [List.cons_append, selFrom]
    rw [if_pos (hx x (by simp))]
    exact ih x (fun z hz => hx z (by simp [hz]))

theorem selFrom_idx (k : Nat) : ∀ (P' : List Entry) (e0 : Entry) (idx : Nat), idx ≤ P'.length →
    (∀ i e, i < idx → P'[i]? = some e → e.1 ≤ k) →
    (∀ i e, idx ≤ i → P'[i]? = some e → k < e.1) →
    (e0 :: P')[idx]? = some (selFrom e0 P' k) := by
  intro P'
  induction P' with
  | nil => intro e0 idx h _ _; simp at h; subst h; rfl
  | cons e P' ih =>
    intro e0 idx hidx hlo hhi
    cases idx with
    | zero =>
      have := hhi 0 e (Nat.le_refl _) rfl
      simp only [selFrom]
      rw [if_neg (by omega)]
      rfl
    | succ idx =>
      have := hlo 0 e (by omega) rfl
      simp only [selFrom]
      rw [if_pos this, List.getElem?_cons_succ]
      apply ih e idx (by simpa using hidx)
      · intro i e' hi he'; exact hlo (i + 1) e' (by omega) (by simpa using he')
      · intro i e' hi he'; exact hhi (i + 1) e' (by omega) (by simpa using he')

theorem sel_single (E : List Entry) (k : Nat) (hE : E ≠ []) (h1 : E.length ≤ 1)
    (hhead : ∀ e, E.head? = some e → e.2 = 0) : (sel E k).2 = 0 := by
  match E, hE, h1 with
  | [e], _, _ => exact hhead e rfl

theorem leafArray_nil : leafArray ([] : InMem H) = [] := rfl

theorem leafArray_cons (k : Nat) (v : List H) (m : InMem H) :
    leafArray ((k, v) :: m) = v.reverse ++ leafArray m := by
  simp [leafArray]

theorem leafArray_append (m1 m2 : InMem H) : leafArray (m1 ++ m2) = leafArray m1 ++ leafArray m2 := by
  simp [leafArray]

theorem leafArray_cons_off (k : Nat) (v : List H) (m : InMem H) (offset rhs : Nat) :
    offset + v.length * rhs + (leafArray m).length * rhs = offset + (leafArray ((k, v) :: m)).length * rhs := by
  rw [leafArray_cons, List.length_append, List.length_reverse, Nat.add_mul, Nat.add_assoc]

theorem totalCount_eq (m : InMem H) : totalCount m = (leafArray m).length := by
  have : ∀ (m : InMem H) (a : Nat), m.foldl (fun acc kv => acc + kv.2.length) a = a + (leafArray m).length := by
    intro m
    induction m with
    | nil => intro a; rfl
    | cons kv m ih =>
      intro a
      rw [List.foldl_cons, ih, leafArray_cons, List.length_append, List.length_reverse, Nat.add_assoc]
  simpa [totalCount] using this m 0

/-- the loop state: `offset` is where the headers of the remaining map start, `minO ≤ offset` the start of
    the leaf being filled, `rem` what is left of its first block -/
structure PackInv (B offset rem minO : Nat) : Prop where
  le : minO ≤ offset
  rem_eq : rem = B - (offset - minO)

namespace PackInv
variable {B offset rem minO rhs : Nat}

theorem new (B offset δ : Nat) : PackInv B (offset + δ) (B - δ) offset :=
  ⟨Nat.le_add_right _ _, by rw [Nat.add_sub_cancel_left]⟩

theorem cont (h : PackInv B offset rem minO) (δ : Nat) : PackInv B (offset + δ) (rem - δ) minO :=
  ⟨Nat.le_trans h.le (Nat.le_add_right _ _), by rw [h.rem_eq, Nat.sub_add_comm h.le, Nat.sub_add_eq]⟩

/-- a leaf is closed only when its first block cannot take another header -/
theorem closed (h : PackInv B offset rem minO) (hlt : rem < rhs) : minO + B < offset + rhs := by
  obtain ⟨h1, h2⟩ := h
  omega

/-- a header appended to the leaf being filled lies in its first block -/
theorem fits (h : PackInv B offset rem minO) (hr : 0 < rhs) (hge : ¬ rem < rhs) : offset + rhs ≤ minO + B := by
  obtain ⟨h1, h2⟩ := h
  omega

end PackInv

theorem packLeaves_cons (p : Params) (k : Nat) (v : List H) (rest : InMem H) (offset rem minK minO : Nat) :
    packLeaves p ((k, v) :: rest) offset rem minK minO
      = if rem < p.rhs then
          (minK, minO) :: packLeaves p rest (offset + v.length * p.rhs) (p.B - v.length * p.rhs) k offset
        else packLeaves p rest (offset + v.length * p.rhs) (rem - v.length * p.rhs) minK minO := rfl

theorem packLeaves_eq_cons (p : Params) : ∀ (rest : InMem H) (o r a b : Nat),
    packLeaves p rest o r a b = (a, b) :: (packLeaves p rest o r a b).tail
  | [], _, _, _, _ => rfl
  | (k, v) :: rest, o, r, a, b => by
    rw [packLeaves_cons]
    split
    · rfl
    · exact packLeaves_eq_cons p rest _ _ _ _

/-- `leaf_starts_at_key_boundary`, loop form: every later entry is `(k, start offset of k's run)` for a
    key `k` of the remaining map -/
theorem pack_boundary (p : Params) :
    ∀ (rest : InMem H) (offset rem minK minO : Nat),
      ∀ e ∈ (packLeaves p rest offset rem minK minO).tail,
        ∃ m1 k v m2, rest = m1 ++ (k, v) :: m2 ∧ e = (k, offset + (leafArray m1).length * p.rhs) := by
  intro rest
  induction rest with
  | nil => intro offset rem minK minO e he; simp [packLeaves] at he
  | cons kv rest ih =>
    intro offset rem minK minO e he
    obtain ⟨k0, v0⟩ := kv
    have later : ∀ r a b, e ∈ (packLeaves p rest (offset + v0.length * p.rhs) r a b).tail →
        ∃ m1 k v m2, (k0, v0) :: rest = m1 ++ (k, v) :: m2 ∧ e = (k, offset + (leafArray m1).length * p.rhs) := by
      intro r a b he
      obtain ⟨m1, k, v, m2, rfl, rfl⟩ := ih _ _ _ _ e he
      exact ⟨(k0, v0) :: m1, k, v, m2, rfl, by rw [leafArray_cons_off]⟩
    rw [packLeaves_cons] at he
    split at he
    · rw [List.tail_cons, packLeaves_eq_cons] at he
      rcases List.mem_cons.1 he with rfl | he
      · exact ⟨[], k0, v0, rest, rfl, by simp [leafArray]⟩
      · exact later _ _ _ he
    · exact later _ _ _ he

theorem pack_tail_lower (p : Params) (rest : InMem H) (offset rem minK minO : Nat) :
    ∀ e ∈ (packLeaves p rest offset rem minK minO).tail, (∃ kv ∈ rest, e.1 = kv.1) ∧ offset ≤ e.2 := by
  intro e he
  obtain ⟨m1, k, v, m2, rfl, rfl⟩ := pack_boundary p rest offset rem minK minO e he
  exact ⟨⟨(k, v), by simp, rfl⟩, Nat.le_add_right _ _⟩

/-- min keys strictly increase, and a leaf is closed only when fewer than `rhs` bytes of its first block
    remain: consecutive leaf offsets differ by more than `B - rhs` -/
theorem pack_pairwise (p : Params) :
    ∀ (rest : InMem H) (offset rem minK minO : Nat),
      rest.Pairwise (fun a b => a.1 < b.1) → (∀ kv ∈ rest, minK < kv.1) → PackInv p.B offset rem minO →
      (packLeaves p rest offset rem minK minO).Pairwise
        (fun a b => a.1 < b.1 ∧ a.2 + p.B < b.2 + p.rhs) := by
  intro rest
  induction rest with
  | nil => intro offset rem minK minO _ _ _; exact List.pairwise_singleton _ _
  | cons kv rest ih =>
    intro offset rem minK minO hs hmin hinv
    obtain ⟨k, v⟩ := kv
    have hk := (List.pairwise_cons.1 hs).1
    rw [packLeaves_cons]
    split
    · rename_i hlt
      refine List.pairwise_cons.2 ⟨fun e he => ?_, ih _ _ k offset hs.of_cons hk (.new _ _ _)⟩
      have hmink : minK < k := hmin (k, v) (by simp)
      have hcl := hinv.closed hlt
      rw [packLeaves_eq_cons] at he
      rcases List.mem_cons.1 he with rfl | he
      · exact ⟨hmink, hcl⟩
      · obtain ⟨⟨kv, hkv, hke⟩, ho⟩ := pack_tail_lower p rest _ _ _ _ e he
        exact ⟨hke ▸ Nat.lt_trans hmink (hk kv hkv), by omega⟩
    · exact ih _ _ _ _ hs.of_cons (fun kv h => hmin kv (List.mem_cons_of_mem _ h)) (hinv.cont _)

/-- **leaf of a key**: the entry selected for a present key `k` is the leaf in which `k`'s run starts,
    and the first header of the run lies wholly inside the first `B` bytes of that leaf -/
theorem pack_sel (p : Params) (hr : 0 < p.rhs) (hB : p.rhs ≤ p.B) (k : Nat) (v : List H) (m2 : InMem H) :
    ∀ (m1 : InMem H) (offset rem minK minO : Nat), (m1 ++ (k, v) :: m2).Pairwise (fun a b => a.1 < b.1) →
      PackInv p.B offset rem minO →
        (sel (packLeaves p (m1 ++ (k, v) :: m2) offset rem minK minO) k).2
          ≤ offset + (leafArray m1).length * p.rhs ∧
        offset + (leafArray m1).length * p.rhs + p.rhs
          ≤ (sel (packLeaves p (m1 ++ (k, v) :: m2) offset rem minK minO) k).2 + p.B := by
  intro m1
  induction m1 with
  | nil =>
    intro offset rem minK minO hs hinv
    -- `k` is the key being processed; every later leaf has a larger min key
    have hgt : ∀ o r a b, ∀ e ∈ (packLeaves p m2 o r a b).tail, k < e.1 := by
      intro o r a b e he
      obtain ⟨⟨kv, hkv, hke⟩, _⟩ := pack_tail_lower p m2 o r a b e he
      exact hke ▸ (List.pairwise_cons.1 hs).1 kv hkv
    rw [List.nil_append, packLeaves_cons, leafArray_nil, List.length_nil, Nat.zero_mul, Nat.add_zero]
    split
    · rw [packLeaves_eq_cons, sel_cons_cons_of_le _ _ _ _ (Nat.le_refl k), sel,
        selFrom_all_gt _ _ _ (hgt _ _ _ _)]
      exact ⟨Nat.le_refl _, Nat.add_le_add_left hB _⟩
    · rw [packLeaves_eq_cons, sel, selFrom_all_gt _ _ _ (hgt _ _ _ _)]
      exact ⟨hinv.le, hinv.fits hr (by assumption)⟩
  | cons kv1 m1 ih =>
    intro offset rem minK minO hs hinv
    obtain ⟨k0, v0⟩ := kv1
    have hkk : k0 < k := (List.pairwise_cons.1 hs).1 (k, v) (by simp)
    rw [List.cons_append, packLeaves_cons, ← leafArray_cons_off]
    split
    · rw [packLeaves_eq_cons, sel_cons_cons_of_le _ _ _ _ (Nat.le_of_lt hkk), ← packLeaves_eq_cons]
      exact ih _ _ _ _ hs.of_cons (.new _ _ _)
    · exact ih _ _ _ _ hs.of_cons (hinv.cont _)

theorem leafTable_cons (p : Params) (hB : p.rhs ≤ p.B) (k0 : Nat) (v0 : List H) (rest : InMem H) :
    leafTable p ((k0, v0) :: rest)
      = packLeaves p rest (v0.length * p.rhs) (p.B - v0.length * p.rhs) k0 0 := by
  rw [leafTable, packLeaves_cons, if_neg (Nat.not_lt.2 hB), Nat.zero_add]

theorem leafArray_length_pos [Keyed H] (m : InMem H) (hm : m ≠ []) (hwf : WF m) :
    0 < (leafArray m).length := by
  match m, hm with
  | (k, v) :: m, _ =>
    have : 0 < v.length := List.length_pos_iff.2 (hwf.nonempty (k, v) (by simp))
    rw [leafArray_cons, List.length_append, List.length_reverse]
    omega

/-- `leaf_starts_at_key_boundary`: every leaf starts at the first (newest) header of some key, and its
    min key is that key -/
theorem leafTable_boundary (p : Params) (hB : p.rhs ≤ p.B) (m : InMem H) :
    ∀ e ∈ leafTable p m,
      ∃ m1 k v m2, m = m1 ++ (k, v) :: m2 ∧ e = (k, (leafArray m1).length * p.rhs) := by
  match m with
  | [] => intro e he; simp [leafTable] at he
  | (k0, v0) :: rest =>
    intro e he
    rw [leafTable_cons p hB, packLeaves_eq_cons] at he
    rcases List.mem_cons.1 he with rfl | he
    · exact ⟨[], k0, v0, rest, rfl, by simp [leafArray]⟩
    · obtain ⟨m1, k, v, m2, rfl, rfl⟩ := pack_boundary p _ _ _ _ _ e he
      exact ⟨(k0, v0) :: m1, k, v, m2, rfl, by rw [← Nat.zero_add (v0.length * _), leafArray_cons_off k0, Nat.zero_add]⟩

/-- every leaf offset is a multiple of `rhs`, and a whole header follows it in the file -/
theorem leafTable_entries [Keyed H] (p : Params) (hB : p.rhs ≤ p.B) (m : InMem H) (hwf : WF m) :
    ∀ e ∈ leafTable p m, p.rhs ∣ e.2 ∧ e.2 + p.rhs ≤ (leafArray m).length * p.rhs := by
  intro e he
  obtain ⟨m1, k, v, m2, rfl, rfl⟩ := leafTable_boundary p hB m e he
  have : 0 < v.length := List.length_pos_iff.2 (hwf.nonempty (k, v) (by simp))
  refine ⟨Nat.dvd_mul_left _ _, ?_⟩
  rw [← Nat.succ_mul, leafArray_append, leafArray_cons, List.length_append, List.length_append,
    List.length_reverse]
  exact Nat.mul_le_mul_right _ (by omega)

theorem leafTable_ne_nil (p : Params) (m : InMem H) (hm : m ≠ []) :
    ∃ k0 tl, leafTable p m = (k0, 0) :: tl := by
  match m, hm with
  | (k0, v0) :: rest, _ => exact ⟨k0, _, packLeaves_eq_cons p _ _ _ _ _⟩

/-- strictly increasing min keys + "a leaf is closed only when full" -/
theorem leafTable_pairwise [Keyed H] (p : Params) (hB : p.rhs ≤ p.B) (m : InMem H) (hwf : WF m) :
    (leafTable p m).Pairwise (fun a b => a.1 < b.1 ∧ a.2 + p.B < b.2 + p.rhs) := by
  match m with
  | [] => exact List.Pairwise.nil
  | (k0, v0) :: rest =>
    have hs := List.pairwise_cons.1 hwf.sorted
    rw [leafTable_cons p hB]
    exact pack_pairwise p rest _ _ k0 0 hs.2 hs.1 ⟨Nat.zero_le _, rfl⟩

theorem leafTable_sel [Keyed H] (p : Params) (hr : 0 < p.rhs) (hB : p.rhs ≤ p.B) (m : InMem H)
    (hwf : WF m) (m1 : InMem H) (k : Nat) (v : List H) (m2 : InMem H) (hdec : m = m1 ++ (k, v) :: m2) :
    (sel (leafTable p m) k).2 ≤ (leafArray m1).length * p.rhs ∧
      (leafArray m1).length * p.rhs + p.rhs ≤ (sel (leafTable p m) k).2 + p.B := by
  subst hdec
  obtain ⟨k0, hk0⟩ : ∃ k0, leafTable p (m1 ++ (k, v) :: m2) = packLeaves p (m1 ++ (k, v) :: m2) 0 p.B k0 0 := by
    cases m1 with
    | nil => exact ⟨k, rfl⟩
    | cons kv m1 => exact ⟨kv.1, rfl⟩
  have := pack_sel p hr hB k v m2 m1 0 p.B k0 0 hwf.sorted ⟨Nat.le_refl _, rfl⟩
  rwa [Nat.zero_add, ← hk0] at this

end Pearl.BPTree
