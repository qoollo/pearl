import Pearl.Proofs.BPTreeLeaves
/-
Reading inside the leaf region (`read_header_buf`, `get_leftmost`, `go_left`, `go_right`,
`go_right_file`), for any index file whose leaf region is sorted by key.  Positions are header indices:
the leaf that starts at header `s` is read into a window of `len` bytes, and byte `rhs * i` of the window
is the start of header `s + i`.
-/
set_option linter.unusedSectionVars false

namespace Pearl.BPTree

variable {H : Type} [Keyed H]

/-- key of the `i`-th header of a header list (0 past the end) -/
def keyIdx (L : List H) (i : Nat) : Nat := (L[i]?.map hkey).getD 0

theorem keyIdx_of_getElem? {L : List H} {i : Nat} {h : H} (e : L[i]? = some h) : keyIdx L i = hkey h := by
  simp [keyIdx, e]

theorem keyIdx_append_left {A B : List H} {i : Nat} (hi : i < A.length) :
    keyIdx (A ++ B) i = keyIdx A i := by
  rw [keyIdx, List.getElem?_append_left hi]; rfl

theorem keyIdx_append_right {A B : List H} {i : Nat} (hi : A.length ≤ i) :
    keyIdx (A ++ B) i = keyIdx B (i - A.length) := by
  rw [keyIdx, List.getElem?_append_right hi]; rfl

theorem keyIdx_of_forall {L : List H} {P : Nat → Prop} (hL : ∀ h ∈ L, P (hkey h)) {i : Nat}
    (hi : i < L.length) : P (keyIdx L i) := by
  rw [keyIdx_of_getElem? (List.getElem?_eq_getElem hi)]; exact hL _ (List.getElem_mem _)

/-- what the reader needs of the file around the leaf region -/
structure LeafOK (f : IndexFile H) : Prop where
  rhs_pos : 0 < f.p.rhs
  off_eq : f.leavesOffset = f.leavesStart
  cnt_eq : f.recordsCount = f.leaves.length
  sorted : f.leaves.Pairwise (fun a b => hkey a ≤ hkey b)

/-- the headers of key `k` occupy exactly the positions `[i0, i1)` of `L` -/
structure Run (L : List H) (k i0 i1 : Nat) : Prop where
  lt : i0 < i1
  le : i1 ≤ L.length
  before : ∀ i, i < i0 → keyIdx L i < k
  inside : ∀ i, i0 ≤ i → i < i1 → keyIdx L i = k
  after : ∀ i, i1 ≤ i → i < L.length → k < keyIdx L i

theorem keyIdx_mono {L : List H} (hs : L.Pairwise (fun a b => hkey a ≤ hkey b)) (i j : Nat)
    (hij : i ≤ j) (hj : j < L.length) : keyIdx L i ≤ keyIdx L j := by
  have hi : i < L.length := Nat.lt_of_le_of_lt hij hj
  rw [keyIdx_of_getElem? (List.getElem?_eq_getElem hi), keyIdx_of_getElem? (List.getElem?_eq_getElem hj)]
  rcases Nat.lt_or_eq_of_le hij with h | rfl
  · exact List.pairwise_iff_getElem.1 hs i j hi hj h
  · exact Nat.le_refl _

theorem Run.idx_of_key {L : List H} {k i0 i1 : Nat} (run : Run L k i0 i1) (i : Nat) (hi : i < L.length)
    (hk : keyIdx L i = k) : i0 ≤ i ∧ i < i1 := by
  constructor
  · apply Nat.le_of_not_lt; intro h; have := run.before i h; omega
  · apply Nat.lt_of_not_le; intro h; have := run.after i h hi; omega

theorem Run.lt_length {L : List H} {k i0 i1 : Nat} (run : Run L k i0 i1) : i0 < L.length :=
  Nat.lt_of_lt_of_le run.lt run.le

namespace IndexFile

theorem hdrAt_idx (f : IndexFile H) (hr : 0 < f.p.rhs) (t : Nat) :
    f.hdrAt (f.leavesStart + f.p.rhs * t) = f.leaves[t]? := by
  unfold hdrAt
  rw [if_neg (by omega), Nat.add_sub_cancel_left, Nat.mul_mod_right, Nat.mul_div_cancel_left _ hr]
  simp

theorem bufRead_idx (f : IndexFile H) (hr : 0 < f.p.rhs) (s len i : Nat)
    (hi : f.p.rhs * (i + 1) ≤ len) :
    f.bufRead (f.leavesStart + f.p.rhs * s) len (f.p.rhs * i) = f.leaves[s + i]? := by
  unfold bufRead
  rw [if_pos (by rw [← Nat.mul_succ]; exact hi), Nat.add_assoc, ← Nat.mul_add, hdrAt_idx f hr]

theorem fileSize_eq (f : IndexFile H) : f.fileSize = f.leavesStart + f.leaves.length * f.p.rhs := rfl

theorem hdr_le_fileSize (f : IndexFile H) (hr : 0 < f.p.rhs) (t : Nat) :
    f.leavesStart + f.p.rhs * t + f.p.rhs ≤ f.fileSize ↔ t < f.leaves.length := by
  rw [fileSize_eq, Nat.add_assoc, ← Nat.mul_succ, Nat.add_le_add_iff_left, Nat.mul_comm,
    Nat.mul_le_mul_right_iff hr]
  exact Nat.succ_le_iff

/-- length of the buffer read for the leaf that starts at header index `s` -/
def leafLen (f : IndexFile H) (s : Nat) : Nat := min ((f.leaves.length - s) * f.p.rhs) f.p.B

theorem leafNodeBufSize_idx (f : IndexFile H) (s : Nat) (hs : s ≤ f.leaves.length) :
    f.leafNodeBufSize (f.leavesStart + f.p.rhs * s) = some (f.leafLen s) := by
  have h1 : f.p.rhs * s ≤ f.leaves.length * f.p.rhs := by
    rw [Nat.mul_comm]; exact Nat.mul_le_mul_right _ hs
  unfold leafNodeBufSize leafLen
  rw [fileSize_eq, if_neg (by omega), Nat.sub_mul, Nat.mul_comm s, Nat.add_sub_add_left]

end IndexFile

theorem LeafOK.leavesEnd_eq {f : IndexFile H} (ok : LeafOK f) : f.leavesEnd = f.fileSize := by
  rw [IndexFile.leavesEnd, ok.off_eq, ok.cnt_eq, Nat.mul_comm]; rfl

/-- the window of a leaf: `len` bytes from header index `s`, at most a block and wholly inside the file, so
    that its `len / rhs` whole headers are headers of the file -/
structure Window (f : IndexFile H) (s len : Nat) : Prop where
  s_le : s ≤ f.leaves.length
  len_le : len ≤ (f.leaves.length - s) * f.p.rhs
  len_B : len ≤ f.p.B

theorem window_of_leaf (f : IndexFile H) (s : Nat) (hs : s ≤ f.leaves.length) : Window f s (f.leafLen s) :=
  ⟨hs, Nat.min_le_left _ _, Nat.min_le_right _ _⟩

section
variable {f : IndexFile H} {s len : Nat}

theorem Window.idx (w : Window f s len) (hr : 0 < f.p.rhs) (i : Nat) (hi : i < len / f.p.rhs) :
    f.p.rhs * (i + 1) ≤ len ∧ s + i < f.leaves.length := by
  have h1 : (i + 1) * f.p.rhs ≤ len := (Nat.le_div_iff_mul_le hr).1 hi
  have h3 : i + 1 ≤ f.leaves.length - s := Nat.le_of_mul_le_mul_right (Nat.le_trans h1 w.len_le) hr
  exact ⟨Nat.mul_comm _ _ ▸ h1, by omega⟩

theorem Window.read (w : Window f s len) (hr : 0 < f.p.rhs) (i : Nat) (hi : i < len / f.p.rhs) :
    ∃ h, f.bufRead (f.leavesStart + f.p.rhs * s) len (f.p.rhs * i) = some h ∧
      f.leaves[s + i]? = some h ∧ hkey h = keyIdx f.leaves (s + i) := by
  obtain ⟨h1, h2⟩ := w.idx hr i hi
  have e := List.getElem?_eq_getElem h2
  exact ⟨_, (IndexFile.bufRead_idx f hr s len i h1).trans e, e, (keyIdx_of_getElem? e).symm⟩

end

/-- `binsearch_buf`: `read_header_buf` returns a header of `k` (with its buffer offset) iff one lies in
    the window; here the two directions as one statement about the result -/
theorem readHeaderBuf_spec (f : IndexFile H) (ok : LeafOK f) (s len : Nat) (w : Window f s len) (k : Nat) :
    (∃ m0 h, m0 < len / f.p.rhs ∧ f.leaves[s + m0]? = some h ∧ hkey h = k ∧
        f.readHeaderBuf (f.leavesStart + f.p.rhs * s) len k = some (some (h, f.p.rhs * m0))) ∨
    ((∀ i, i < len / f.p.rhs → keyIdx f.leaves (s + i) ≠ k) ∧
        f.readHeaderBuf (f.leavesStart + f.p.rhs * s) len k = some none) := by
  have hr := ok.rhs_pos
  obtain ⟨res, hres, hspec⟩ := binSearch_spec
    (fun i => (f.bufRead (f.leavesStart + f.p.rhs * s) len (f.p.rhs * i)).map hkey)
    (fun i => keyIdx f.leaves (s + i)) (len / f.p.rhs) k
    (fun i hi => by
      obtain ⟨h, h1, _, h3⟩ := w.read hr i hi
      rw [h1, ← h3]; rfl)
    (fun i j hij hj => keyIdx_mono ok.sorted _ _ (Nat.add_le_add_left hij s) (w.idx hr j hj).2)
  unfold IndexFile.readHeaderBuf
  rw [if_neg (Nat.ne_of_gt hr), hres]
  cases res with
  | found m0 =>
    obtain ⟨h, h1, h2, h3⟩ := w.read hr m0 hspec.1
    exact .inl ⟨m0, h, hspec.1, h2, h3.trans hspec.2, by simp only [h1]⟩
  | notFound l =>
    refine .inr ⟨fun i hi => ?_, rfl⟩
    rcases Nat.lt_or_ge i l with hil | hil
    · exact Nat.ne_of_lt (hspec.2.1 i hil)
    · exact Nat.ne_of_gt (hspec.2.2 i hil hi)

/-! ### the walks to the left

The run of `k` starts at window index `a` (`s + a = i0`); a walk that is `d` headers into the run is at
window index `a + d`. -/

section Left
variable {f : IndexFile H} {s len : Nat} {k i0 i1 : Nat}

theorem Window.left_stop (w : Window f s len) (hr : 0 < f.p.rhs) (run : Run f.leaves k i0 i1) {a : Nat}
    (ha : s + a = i0) (hn : a < len / f.p.rhs) :
    a = 0 ∨ ∃ cur, f.bufRead (f.leavesStart + f.p.rhs * s) len (f.p.rhs * a - f.p.rhs) = some cur ∧
      hkey cur ≠ k ∧ f.p.rhs ≤ f.p.rhs * a := by
  cases a with
  | zero => exact .inl rfl
  | succ a =>
    obtain ⟨cur, hc1, _, hc3⟩ := w.read hr a (Nat.lt_of_succ_lt hn)
    have := run.before (s + a) (by omega)
    exact .inr ⟨cur, by rw [Nat.mul_succ, Nat.add_sub_cancel]; exact hc1, by omega, Nat.le_mul_of_pos_right _ a.succ_pos⟩

theorem Window.left_go (w : Window f s len) (hr : 0 < f.p.rhs) (run : Run f.leaves k i0 i1) {a d : Nat}
    (ha : s + a = i0) (hn : a + d < len / f.p.rhs) (hd : i0 + d < i1) :
    ∃ cur, f.bufRead (f.leavesStart + f.p.rhs * s) len (f.p.rhs * (a + (d + 1)) - f.p.rhs) = some cur ∧
      f.leaves[i0 + d]? = some cur ∧ hkey cur = k ∧ f.p.rhs ≤ f.p.rhs * (a + (d + 1)) := by
  obtain ⟨cur, hc1, hc2, hc3⟩ := w.read hr (a + d) hn
  rw [← Nat.add_assoc, ha] at hc2 hc3
  exact ⟨cur, by rw [← Nat.add_assoc, Nat.mul_succ, Nat.add_sub_cancel]; exact hc1, hc2,
    hc3.trans (run.inside _ (Nat.le_add_right _ _) hd), Nat.le_mul_of_pos_right _ (Nat.succ_pos _)⟩

/-- `leftmost`: `get_leftmost` walks from a header of `k`, `d` headers into the run, to the first header
    of the run, provided the run starts inside the window -/
theorem getLeftmostAux_spec (ok : LeafOK f) (w : Window f s len) (run : Run f.leaves k i0 i1) {a : Nat}
    (ha : s + a = i0) :
    ∀ (d fuel : Nat) (prev : H), a + d < len / f.p.rhs → i0 + d < i1 → d < fuel →
      f.leaves[i0 + d]? = some prev →
      f.getLeftmostAux (f.leavesStart + f.p.rhs * s) len k fuel (f.p.rhs * (a + d)) prev = f.leaves[i0]? := by
  have hr := ok.rhs_pos
  intro d
  induction d with
  | zero =>
    intro fuel prev hn _ hf hprev
    obtain ⟨fuel, rfl⟩ := Nat.exists_eq_succ_of_ne_zero (Nat.ne_of_gt hf)
    unfold IndexFile.getLeftmostAux
    rcases w.left_stop hr run ha hn with rfl | ⟨cur, hc1, hc2, hc3⟩
    · simpa using hprev.symm
    · simp only [Nat.add_zero, gt_iff_lt, Nat.lt_of_lt_of_le hr hc3, if_true, hc1, hc2, ne_eq,
        not_false_eq_true]
      exact hprev.symm
  | succ d ih =>
    intro fuel prev hn hd hf _
    obtain ⟨fuel, rfl⟩ := Nat.exists_eq_succ_of_ne_zero (Nat.ne_of_gt (Nat.zero_lt_of_lt hf))
    obtain ⟨cur, hc1, hc2, hc3, hc4⟩ := w.left_go hr run ha (Nat.lt_of_succ_lt hn) (Nat.lt_of_succ_lt hd)
    unfold IndexFile.getLeftmostAux
    simp only [gt_iff_lt, Nat.lt_of_lt_of_le hr hc4, if_true, hc1, hc3, ne_eq, not_true_eq_false, if_false]
    rw [← Nat.add_assoc, Nat.mul_succ, Nat.add_sub_cancel]
    exact ih fuel cur (Nat.lt_of_succ_lt hn) (Nat.lt_of_succ_lt hd) (Nat.lt_of_succ_lt_succ hf) hc2

/-- `go_left` collects the headers of `k` to the left of the position `d` headers into the run, nearest
    first, down to the start of the run -/
theorem goLeftAux_spec (ok : LeafOK f) (w : Window f s len) (run : Run f.leaves k i0 i1) {a : Nat}
    (ha : s + a = i0) :
    ∀ (d fuel : Nat) (hs0 : List H), a + d < len / f.p.rhs → i0 + d < i1 → d < fuel →
      f.goLeftAux (f.leavesStart + f.p.rhs * s) len k fuel hs0 (f.p.rhs * (a + d))
        = some (hs0 ++ ((f.leaves.drop i0).take d).reverse) := by
  have hr := ok.rhs_pos
  intro d
  induction d with
  | zero =>
    intro fuel hs0 hn _ hf
    obtain ⟨fuel, rfl⟩ := Nat.exists_eq_succ_of_ne_zero (Nat.ne_of_gt hf)
    unfold IndexFile.goLeftAux
    rcases w.left_stop hr run ha hn with rfl | ⟨cur, hc1, hc2, hc3⟩
    · simp [Nat.not_le.2 hr]
    · simp [hc3, hc1, hc2]
  | succ d ih =>
    intro fuel hs0 hn hd hf
    obtain ⟨fuel, rfl⟩ := Nat.exists_eq_succ_of_ne_zero (Nat.ne_of_gt (Nat.zero_lt_of_lt hf))
    obtain ⟨cur, hc1, hc2, hc3, hc4⟩ := w.left_go hr run ha (Nat.lt_of_succ_lt hn) (Nat.lt_of_succ_lt hd)
    unfold IndexFile.goLeftAux
    simp only [hc4, if_true, hc1, hc3]
    rw [← Nat.add_assoc, Nat.mul_succ, Nat.add_sub_cancel,
      ih fuel _ (Nat.lt_of_succ_lt hn) (Nat.lt_of_succ_lt hd) (Nat.lt_of_succ_lt_succ hf),
      List.take_add_one, List.getElem?_drop, hc2]
    simp

end Left

/-! ### the walks to the right

A walk at header `t` has `e` headers of the run still to collect (`t + e = i1`). -/

section Right
variable {f : IndexFile H} {k i0 i1 : Nat}

theorem head?_append_some {hs0 : List H} {h0 : H} (h : hs0.head? = some h0) (l : List H) :
    (hs0 ++ l).head? = some h0 := by
  rw [List.head?_append, h]; rfl

/-- `go_right_file` continues the run from header `t` to its end: no loss, no extra -/
theorem goRightFileAux_spec (ok : LeafOK f) (run : Run f.leaves k i0 i1) {h0 : H} (hk0 : hkey h0 = k) :
    ∀ (e fuel t : Nat) (hs0 : List H), hs0.head? = some h0 → i0 ≤ t → t + e = i1 → e < fuel →
      f.goRightFileAux fuel hs0 (f.leavesStart + f.p.rhs * t) = some (hs0 ++ (f.leaves.drop t).take e) := by
  have hr := ok.rhs_pos
  have step : ∀ (fuel t : Nat) (hs0 : List H) (ht : t < f.leaves.length), hs0.head? = some h0 →
      f.goRightFileAux (fuel + 1) hs0 (f.leavesStart + f.p.rhs * t)
        = if keyIdx f.leaves t = k
          then f.goRightFileAux fuel (hs0 ++ [f.leaves[t]]) (f.leavesStart + f.p.rhs * (t + 1)) else some hs0 := by
    intro fuel t hs0 ht hh0
    have hin := (f.hdr_le_fileSize hr t).2 ht
    rw [IndexFile.goRightFileAux, ok.leavesEnd_eq, if_pos hin, if_neg (Nat.not_lt.2 hin),
      IndexFile.hdrAt_idx f hr, List.getElem?_eq_getElem ht, hh0,
      keyIdx_of_getElem? (List.getElem?_eq_getElem ht), Nat.mul_succ, Nat.add_assoc]
    simp only [hk0]
  intro e
  induction e with
  | zero =>
    intro fuel t hs0 hh0 _ ht hf
    obtain ⟨fuel, rfl⟩ := Nat.exists_eq_succ_of_ne_zero (Nat.ne_of_gt hf)
    rw [List.take_zero, List.append_nil]
    rcases Nat.lt_or_ge t f.leaves.length with hlt | hge
    · rw [step fuel t hs0 hlt hh0, if_neg (Nat.ne_of_gt (run.after t (Nat.le_of_eq ht.symm) hlt))]
    · rw [IndexFile.goRightFileAux, ok.leavesEnd_eq, if_neg (by rw [f.hdr_le_fileSize hr]; exact Nat.not_lt.2 hge)]
  | succ e ih =>
    intro fuel t hs0 hh0 h1 ht hf
    obtain ⟨fuel, rfl⟩ := Nat.exists_eq_succ_of_ne_zero (Nat.ne_of_gt (Nat.zero_lt_of_lt hf))
    have hti : t < i1 := ht ▸ Nat.lt_add_of_pos_right (Nat.succ_pos e)
    have hlt : t < f.leaves.length := Nat.lt_of_lt_of_le hti run.le
    rw [step fuel t hs0 hlt hh0, if_pos (run.inside t h1 hti),
      ih fuel (t + 1) _ (head?_append_some hh0 _) (Nat.le_succ_of_le h1)
        ((Nat.succ_add_eq_add_succ t e).trans ht) (Nat.lt_of_succ_lt_succ hf),
      List.drop_eq_getElem_cons hlt, List.take_succ_cons, List.append_assoc]
    rfl

theorem goRightFile_spec (ok : LeafOK f) (run : Run f.leaves k i0 i1) {h0 : H} (hk0 : hkey h0 = k)
    (e t : Nat) (hs0 : List H) (hh0 : hs0.head? = some h0) (h1 : i0 ≤ t) (ht : t + e = i1) :
    f.goRightFile hs0 (f.leavesStart + f.p.rhs * t) = some (hs0 ++ (f.leaves.drop t).take e) := by
  rw [IndexFile.goRightFile, if_neg (Nat.ne_of_gt ok.rhs_pos)]
  exact goRightFileAux_spec ok run hk0 e _ t hs0 hh0 h1 ht (by rw [ok.cnt_eq]; have := run.le; omega)

/-- the buffer part of `go_right` (bound `right_bound = len`), then the hand-over to `go_right_file`:
    together they collect the rest of the run exactly -/
theorem goRightAux_spec (ok : LeafOK f) {s len : Nat} (w : Window f s len) (run : Run f.leaves k i0 i1)
    {h0 : H} (hk0 : hkey h0 = k) :
    ∀ (e fuel j : Nat) (hs0 : List H), hs0.head? = some h0 → i0 ≤ s + j → s + j + e = i1 →
      j ≤ len / f.p.rhs → len / f.p.rhs + 2 ≤ fuel + j →
      f.goRightAux (f.leavesStart + f.p.rhs * s) len len fuel hs0 (f.p.rhs * j)
        = some (hs0 ++ (f.leaves.drop (s + j)).take e) := by
  have hr := ok.rhs_pos
  -- either the loop reads header `s + j` from the buffer, or it hands over to `go_right_file`
  have step : ∀ (fuel j : Nat) (hs0 : List H), hs0.head? = some h0 →
      (j < len / f.p.rhs ∧ ∃ hlt : s + j < f.leaves.length,
        f.goRightAux (f.leavesStart + f.p.rhs * s) len len (fuel + 1) hs0 (f.p.rhs * j)
          = if keyIdx f.leaves (s + j) = k
            then f.goRightAux (f.leavesStart + f.p.rhs * s) len len fuel (hs0 ++ [f.leaves[s + j]])
              (f.p.rhs * (j + 1))
            else some hs0) ∨
      f.goRightAux (f.leavesStart + f.p.rhs * s) len len (fuel + 1) hs0 (f.p.rhs * j)
        = f.goRightFile hs0 (f.leavesStart + f.p.rhs * (s + j)) := by
    intro fuel j hs0 hh0
    by_cases hc : f.p.rhs * j + f.p.rhs < len
    · have hjn : j < len / f.p.rhs :=
        (Nat.le_div_iff_mul_le hr).2 (by rw [Nat.mul_comm, Nat.mul_succ]; exact Nat.le_of_lt hc)
      obtain ⟨cur, hc1, hc2, hc3⟩ := w.read hr j hjn
      have hlt := (w.idx hr j hjn).2
      refine .inl ⟨hjn, hlt, ?_⟩
      rw [List.getElem?_eq_getElem hlt, Option.some.injEq] at hc2
      rw [IndexFile.goRightAux, if_pos hc, hc1, hh0, ← hc3, hc2, Nat.mul_succ]
      simp only [hk0]
    · exact .inr (by rw [IndexFile.goRightAux, if_neg hc, Nat.add_assoc, ← Nat.mul_add])
  intro e
  induction e with
  | zero =>
    intro fuel j hs0 hh0 h1 ht hj hf
    obtain ⟨fuel, rfl⟩ : ∃ g, fuel = g + 1 := ⟨fuel - 1, by omega⟩
    rcases step fuel j hs0 hh0 with ⟨_, hlt, h⟩ | h
    · rw [h, if_neg (Nat.ne_of_gt (run.after (s + j) (Nat.le_of_eq ht.symm) hlt)), List.take_zero, List.append_nil]
    · rw [h]; exact goRightFile_spec ok run hk0 0 _ hs0 hh0 h1 ht
  | succ e ih =>
    intro fuel j hs0 hh0 h1 ht hj hf
    obtain ⟨fuel, rfl⟩ : ∃ g, fuel = g + 1 := ⟨fuel - 1, by omega⟩
    rcases step fuel j hs0 hh0 with ⟨hjn, hlt, h⟩ | h
    · rw [Nat.add_assoc, Nat.add_comm 1 j] at hf
      rw [h, if_pos (run.inside _ h1 (ht ▸ Nat.lt_add_of_pos_right (Nat.succ_pos e))),
        ih fuel (j + 1) _ (head?_append_some hh0 _) (Nat.le_succ_of_le h1)
          ((Nat.succ_add_eq_add_succ (s + j) e).trans ht) hjn hf,
        List.drop_eq_getElem_cons hlt, List.take_succ_cons, List.append_assoc]
      rfl
    · rw [h]; exact goRightFile_spec ok run hk0 _ _ hs0 hh0 h1 ht

end Right

section Leaf
variable (f : IndexFile H) (k : Nat) (s : Nat)

theorem reverse_if_long (l : List H) : (if l.length > 1 then l.reverse else l) = l.reverse := by
  match l with
  | [] | [a] => simp
  | a :: b :: t => simp

/-- `go_right` on a whole leaf: the right bound is the end of the buffer -/
theorem goRight_leaf (ok : LeafOK f) (hs : s ≤ f.leaves.length) (hs0 : List H) (off : Nat) :
    f.goRight hs0 (f.leavesStart + f.p.rhs * s) (f.leafLen s) off
      = f.goRightAux (f.leavesStart + f.p.rhs * s) (f.leafLen s) (f.leafLen s)
          (f.leafLen s / f.p.rhs + 1) hs0 (off + f.p.rhs) := by
  have h1 : f.p.rhs * s ≤ f.leaves.length * f.p.rhs := by
    rw [Nat.mul_comm]; exact Nat.mul_le_mul_right _ hs
  have h2 : f.leavesEnd - (f.leavesStart + f.p.rhs * s) = (f.leaves.length - s) * f.p.rhs := by
    rw [ok.leavesEnd_eq, IndexFile.fileSize_eq, Nat.sub_mul, Nat.mul_comm s, Nat.add_sub_add_left]
  rw [IndexFile.goRight, if_neg (Nat.ne_of_gt ok.rhs_pos),
    if_neg (by rw [ok.leavesEnd_eq, IndexFile.fileSize_eq]; omega)]
  simp only [h2, IndexFile.leafLen, Nat.min_eq_right (Nat.min_le_left _ _)]

/-- an absent key is reported absent, whatever leaf the descent arrived at -/
theorem read_absent (ok : LeafOK f) (habs : ∀ i, i < f.leaves.length → keyIdx f.leaves i ≠ k) (hsN : s ≤ f.leaves.length) :
    f.readHeader (f.leavesStart + f.p.rhs * s) k = some none ∧
    f.readHeaders (f.leavesStart + f.p.rhs * s) k = some none := by
  have w := window_of_leaf f s hsN
  have hrd : f.readHeaderBuf (f.leavesStart + f.p.rhs * s) (f.leafLen s) k = some none := by
    rcases readHeaderBuf_spec f ok s _ w k with ⟨m0, h, hm, hget, hk, _⟩ | ⟨_, hrd⟩
    · exact absurd ((keyIdx_of_getElem? hget).trans hk) (habs _ (w.idx ok.rhs_pos m0 hm).2)
    · exact hrd
  have hB := Nat.not_lt.2 w.len_B
  exact ⟨by simp only [IndexFile.readHeader, IndexFile.leafNodeBufSize_idx f s hsN, hB, if_false, hrd],
    by simp only [IndexFile.readHeaders, IndexFile.leafNodeBufSize_idx f s hsN, hB, if_false, hrd]⟩

variable {k} {i0 i1 : Nat} {s}

theorem readHeaderBuf_present (ok : LeafOK f) (run : Run f.leaves k i0 i1) {a : Nat} (ha : s + a = i0)
    (hfirst : f.p.rhs * (a + 1) ≤ f.p.B) :
    ∃ d h, a + d < f.leafLen s / f.p.rhs ∧ i0 + d < i1 ∧ f.leaves[i0 + d]? = some h ∧ hkey h = k ∧
      f.readHeaderBuf (f.leavesStart + f.p.rhs * s) (f.leafLen s) k = some (some (h, f.p.rhs * (a + d))) := by
  subst ha
  have hr := ok.rhs_pos
  have hi0 := run.lt_length
  have w := window_of_leaf f s (Nat.le_trans (Nat.le_add_right s a) (Nat.le_of_lt hi0))
  rcases readHeaderBuf_spec f ok s _ w k with ⟨m0, h, hm, hget, hk, hrd⟩ | ⟨hno, _⟩
  · obtain ⟨h1, h2⟩ := run.idx_of_key (s + m0) (w.idx hr m0 hm).2 ((keyIdx_of_getElem? hget).trans hk)
    obtain ⟨d, rfl⟩ := Nat.exists_eq_add_of_le (Nat.le_of_add_le_add_left h1)
    rw [← Nat.add_assoc] at hget h2
    exact ⟨d, h, hm, h2, hget, hk, hrd⟩
  · refine absurd (run.inside _ (Nat.le_refl _) run.lt) (hno a ?_)
    refine (Nat.le_div_iff_mul_le hr).2 (Nat.le_min.2 ⟨Nat.mul_le_mul_right _ (Nat.le_sub_of_add_le' hi0), ?_⟩)
    rw [Nat.mul_comm]; exact hfirst

/-- `read_header` on the leaf that starts at header index `s`, for a present key whose newest header
    lies wholly inside the first block: the newest header -/
theorem readHeader_present (ok : LeafOK f) (run : Run f.leaves k i0 i1) {a : Nat} (ha : s + a = i0)
    (hfirst : f.p.rhs * (a + 1) ≤ f.p.B) :
    f.readHeader (f.leavesStart + f.p.rhs * s) k = some (f.leaves[i0]?) := by
  have hs : s ≤ f.leaves.length := Nat.le_trans (Nat.le_add_right s a) (ha ▸ Nat.le_of_lt run.lt_length)
  obtain ⟨d, h, hn, hd, hget, _, hrd⟩ := readHeaderBuf_present f ok run ha hfirst
  simp only [IndexFile.readHeader, IndexFile.leafNodeBufSize_idx f s hs,
    Nat.not_lt.2 (window_of_leaf f s hs).len_B, if_false, hrd, IndexFile.getLeftmost, Nat.ne_of_gt ok.rhs_pos]
  rw [getLeftmostAux_spec ok (window_of_leaf f s hs) run ha d _ h hn hd
    (by rw [Nat.mul_div_cancel_left _ ok.rhs_pos]
        exact Nat.lt_of_le_of_lt (Nat.le_add_left d a) (Nat.lt_add_of_pos_right (by decide))) hget,
    List.getElem?_eq_getElem run.lt_length]
  rfl

/-- `read_headers` on the same leaf: the whole run, newest first, nothing lost or duplicated -/
theorem readHeaders_present (ok : LeafOK f) (run : Run f.leaves k i0 i1) {a : Nat} (ha : s + a = i0)
    (hfirst : f.p.rhs * (a + 1) ≤ f.p.B) :
    f.readHeaders (f.leavesStart + f.p.rhs * s) k = some (some ((f.leaves.drop i0).take (i1 - i0))) := by
  have hr := ok.rhs_pos
  have hs : s ≤ f.leaves.length := Nat.le_trans (Nat.le_add_right s a) (ha ▸ Nat.le_of_lt run.lt_length)
  have w := window_of_leaf f s hs
  obtain ⟨d, h, hn, hd, hget, hk, hrd⟩ := readHeaderBuf_present f ok run ha hfirst
  obtain ⟨e, he⟩ := Nat.exists_eq_add_of_le (Nat.succ_le_of_lt hd)
  have hi0 := List.getElem?_eq_getElem run.lt_length
  -- the headers of the run up to the one found: collected by `go_left`, reversed, the found one appended
  have hpre : ((f.leaves.drop i0).take d).reverse.reverse ++ [h] = (f.leaves.drop i0).take (d + 1) := by
    rw [List.reverse_reverse, List.take_add_one, List.getElem?_drop, hget]; rfl
  simp only [IndexFile.readHeaders, IndexFile.leafNodeBufSize_idx f s hs, Nat.not_lt.2 w.len_B, if_false, hrd,
    IndexFile.goLeft, Nat.ne_of_gt hr, hk]
  rw [goLeftAux_spec ok w run ha d _ [] hn hd
    (by rw [Nat.mul_div_cancel_left _ hr]; exact Nat.lt_succ_of_le (Nat.le_add_left d a))]
  simp only [List.nil_append, reverse_if_long, hpre]
  have e1 : s + (a + d + 1) = i0 + (d + 1) := by rw [← ha]; simp only [Nat.add_assoc]
  have e2 : i1 - i0 = d + 1 + e := by omega
  rw [goRight_leaf f s ok hs, ← Nat.mul_succ,
    goRightAux_spec ok w run ((keyIdx_of_getElem? hi0).symm.trans (run.inside i0 (Nat.le_refl _) run.lt)) e _
      (a + d + 1) _ (by rw [List.head?_take, if_neg (Nat.succ_ne_zero _), List.head?_drop, hi0])
      (e1 ▸ Nat.le_add_right _ _) (e1 ▸ he.symm) hn (Nat.add_le_add_left (Nat.succ_le_succ (Nat.zero_le _)) _),
    e1, e2, List.take_add (i := d + 1) (j := e), List.drop_drop]
  rfl

end Leaf

end Pearl.BPTree
