import Pearl.Proofs.AcctRuns
import Pearl.Props.C01
/-
The directory-level half of C07 ("no harm") over `Pearl/Model/Acct.lean`: no id is skipped (`run_ids_full`), blob files
only grow or are quarantined, the record list of a held blob is only ever extended (`Store.Ext` along every history), the
ghost run of creations and quarantines (`runG`, `GInv`), what happens to an index file (`IdxFate`), what a restart leaves
untouched (`restart_get_blobs`); then the counter-models of the seeded changes C07-4, its `init_new` variant and C07-3
(`namespace Buggy`), and, for the code as it is, the failed creation of a blob file (`inv_createFails`).  `Props/C01` is
imported for `apply_log_new`.
-/
namespace Pearl
namespace Acct

/-- no id is skipped: the ids below `next_blob_id` are exactly the names of the blob files of the work directory and of
    `corrupted` (`Inv.below` is one direction, `Inv.tight` the case `next_blob_id - 1` of the other) -/
theorem runFrom_ids_full {c : Cfg} : ∀ (ops : List AOp) {s : State}, Inv c s →
    (∀ i, i < s.store.nextId ↔ i ∈ keys s.dir.blobs ∨ i ∈ s.dir.corrupted) →
    ∀ i, i < (runFrom c s ops).store.nextId ↔
      i ∈ keys (runFrom c s ops).dir.blobs ∨ i ∈ (runFrom c s ops).dir.corrupted
  | [], _, _, hr => hr
  | op :: ops, s, h, hr => by
    refine runFrom_ids_full ops (inv_step h op) fun i => ?_
    have hfs := step_fileStep h op
    have hcr : i ∈ (stepC c s op).created ↔
        s.store.nextId ≤ i ∧ i < s.store.nextId + (stepC c s op).created.length := by
      rw [hfs.ids, List.mem_range'_1, List.length_range']
    rw [hfs.next, show i < s.store.nextId + (stepC c s op).created.length ↔ i < s.store.nextId ∨
        (s.store.nextId ≤ i ∧ i < s.store.nextId + (stepC c s op).created.length) by omega, hr i,
      hfs.files, hfs.corr, List.mem_append, hcr]
    by_cases hm : i ∈ (stepC c s op).moved
    · simp [hm, hfs.mvFiles i hm]
    · simp only [hm, not_false_eq_true, and_true, or_false]
      exact or_right_comm

theorem run_ids_full (c : Cfg) (dup : Bool) (ops : List AOp) :
    ∀ i, i < (run c dup ops).store.nextId ↔ i ∈ keys (run c dup ops).dir.blobs ∨ i ∈ (run c dup ops).dir.corrupted :=
  runFrom_ids_full ops (inv_init c dup) fun i => by
    show i < 1 ↔ i ∈ ([0] : List Nat) ∨ i ∈ ([] : List Nat)
    simp

/-- `s'` extends `s`: `next_blob_id` has not gone back, and every blob of `s'` continues a blob of `s` (same id, records
    extended) or carries an id that `s` had not handed out yet -/
def _root_.Pearl.Store.Ext (s s' : Store) : Prop :=
  s.nextId ≤ s'.nextId ∧
    ∀ b' ∈ s'.blobs, (∃ b ∈ s.blobs, b'.id = b.id ∧ b.recs <+: b'.recs) ∨ s.nextId ≤ b'.id

theorem _root_.Pearl.Store.Ext.refl (s : Store) : s.Ext s :=
  ⟨Nat.le_refl _, fun b' hb' => Or.inl ⟨b', hb', rfl, List.prefix_refl _⟩⟩

theorem _root_.Pearl.Store.Ext.trans {a b c : Store} (h1 : a.Ext b) (h2 : b.Ext c) : a.Ext c := by
  refine ⟨Nat.le_trans h1.1 h2.1, fun x hx => ?_⟩
  rcases h2.2 x hx with ⟨y, hy, hid, hpre⟩ | hge
  · rcases h1.2 y hy with ⟨z, hz, hid', hpre'⟩ | hge
    · exact Or.inl ⟨z, hz, hid.trans hid', hpre'.trans hpre⟩
    · exact Or.inr (by rw [hid]; exact hge)
  · exact Or.inr (Nat.le_trans h1.1 hge)

/-- ids are unique: a blob of `s` whose id is still held later is continued by the blob that holds it — an id, once its
    blob is quarantined or skipped, never names a held blob again -/
theorem _root_.Pearl.Store.Ext.recs {s s' : Store} (h : s.Ext s') (hwf : s.WF) :
    ∀ b ∈ s.blobs, ∀ b' ∈ s'.blobs, b'.id = b.id → b.recs <+: b'.recs := by
  intro b hb b' hb' hid
  rcases h.2 b' hb' with ⟨b₀, hb₀, hid₀, hpre⟩ | hge
  · rw [← Store.eq_of_id_eq hwf.1 hb₀ hb (by rw [← hid₀, hid])]; exact hpre
  · have := hwf.2 b hb
    omega

theorem store_apply_ext {s : Store} (hwf : s.WF) (op : Op) (hr : ∀ lazy, op ≠ .restart lazy) : s.Ext (s.apply op) := by
  refine ⟨Store.apply_nextId_le_of_not_restart s op hr, fun b' hb' => ?_⟩
  cases ((Store.apply_step s op hr).toShape hwf).1 with
  | same hc _ =>
    obtain ⟨x, hx, h1, h2, _⟩ := hc.bwd b' hb'
    exact Or.inl ⟨x, hx, h1, h2⟩
  | new nb hid _ hc _ =>
    obtain ⟨x, hx, h1, h2, _⟩ := hc.bwd b' hb'
    rcases List.mem_append.1 hx with hx | hx
    · exact Or.inl ⟨x, hx, h1, h2⟩
    · rw [List.mem_singleton] at hx
      subst hx
      exact Or.inr (by rw [h1, hid]; exact Nat.le_refl _)

/-- from a store whose `next_blob_id` is one above some blob id, every L2 run, restarts included -/
theorem _root_.Pearl.Store.run_ext_of_tight {s : Store} (hwf : s.WF) (ht : s.Tight) : ∀ ops : List Op, s.Ext (s.run ops)
  | [] => .refl s
  | op :: ops =>
    Store.Ext.trans ⟨Store.apply_nextId_le hwf ht op, fun b' hb' =>
        (apply_log_new hwf ht.ne_nil op b' hb').imp (fun ⟨b, hb, h1, h2, _⟩ => ⟨b, hb, h1, h2⟩)
          fun h => Nat.le_of_eq h.1.symm⟩
      (Store.run_ext_of_tight (Store.apply_WF' hwf op) (Store.apply_tight hwf ht op) ops)

theorem Blk.ext {c : Cfg} {s : State} (h : Inv c s) : ∀ {b : Blk}, b.Ok s → s.store.Ext (b.run c s).store
  | .ensure, _ => by
    rw [Blk.run, ensureActive_store, Store.ensureActive_eq_apply]
    exact store_apply_ext h.wf _ fun _ e => nomatch e
  | .replace, _ => store_apply_ext h.wf .replaceActive fun _ e => nomatch e
  | .dump, _ => store_apply_ext h.wf .settle fun _ e => nomatch e
  | .l2 _, .inl rfl => store_apply_ext h.wf .closeActive fun _ e => nomatch e
  | .l2 _, .inr rfl => store_apply_ext h.wf .restoreActive fun _ e => nomatch e
  | .writeRec k ts m d, _ => by
    simp only [Blk.run]
    cases s.store.active
    · exact .refl _
    · exact store_apply_ext h.wf (.write k ts m d) fun _ e => nomatch e
  | .marks k ts m oip, _ => store_apply_ext h.wf (.delete k ts m oip) fun _ e => nomatch e
  | .close, _ => by rw [Blk.run, closeSession_store]; exact .refl _
  | .initNew, hb =>
    have hm := maxNext_corrupted_of_empty h hb
    ⟨by show s.store.nextId ≤ maxNext s.dir.corrupted + 1; omega,
      fun b' hb' => Or.inr (by rw [List.mem_singleton.1 (show b' ∈ [_] from hb')]; exact Nat.le_of_eq hm.symm)⟩
  | .reopen lazy ignore bad, _ =>
    ⟨Nat.le_of_eq (initCore_nextId h lazy ignore bad).symm, fun b' hb' => by
      have hm : Blob.hist b' ∈ (keptBlobs s bad).map Blob.hist := by
        rw [← reopen_hist s lazy ignore bad]; exact List.mem_map_of_mem hb'
      obtain ⟨b, hb, he⟩ := List.mem_map.1 hm
      simp only [Blob.hist, Prod.mk.injEq] at he
      exact Or.inl ⟨b, ((mem_keptBlobs h.wf).1 hb).1, he.1.symm, by rw [he.2]; exact List.prefix_refl _⟩⟩

theorem runB_ext {c : Cfg} : ∀ (bs : List Blk) {s : State}, Inv c s → OkAll c s bs → s.store.Ext (runB c s bs).store
  | [], s, _, _ => .refl s.store
  | _ :: bs, _, h, hk => (Blk.ext h hk.1).trans (runB_ext bs (Blk.inv h hk.1) hk.2)

/-- one operation: `next_blob_id` does not go back (on the directory-level model this needs no tightness hypothesis:
    it is recomputed from the two directories, and the ids of the quarantined files are counted), and every blob held
    afterwards continues a blob held before (same id, records extended) or has an id at least the `next_blob_id` of before -/
theorem step_ext {c : Cfg} {s : State} (h : Inv c s) (op : AOp) : s.store.Ext (step c s op).store :=
  (step_blocks c s op).1 ▸ runB_ext _ h (step_blocks c s op).2

theorem runFrom_ext {c : Cfg} : ∀ (ops : List AOp) {s : State}, Inv c s → s.store.Ext (runFrom c s ops).store
  | [], s, _ => .refl s.store
  | op :: ops, _, h => (step_ext h op).trans (runFrom_ext ops (inv_step h op))

theorem run_nextId_le (c : Cfg) (dup : Bool) (ops more : List AOp) :
    nextBlobId (run c dup ops) ≤ nextBlobId (run c dup (ops ++ more)) :=
  (congrArg nextBlobId (runFrom_append c (init dup) ops more)).symm ▸ (runFrom_ext more (inv_run c dup ops)).1

/-- any number of operations: a blob held before and after (same id) has its record list extended -/
theorem runFrom_recs {c : Cfg} {s : State} (h : Inv c s) (ops : List AOp) :
    ∀ b ∈ s.store.blobs, ∀ b' ∈ (runFrom c s ops).store.blobs, b'.id = b.id → b.recs <+: b'.recs :=
  (runFrom_ext ops h).recs h.wf

/-- one operation: a blob held before and after (same id) has its record list extended -/
theorem step_recs {c : Cfg} {s : State} (h : Inv c s) (op : AOp) :
    ∀ b ∈ s.store.blobs, ∀ b' ∈ (step c s op).store.blobs, b'.id = b.id → b.recs <+: b'.recs :=
  runFrom_recs h [op]

/-- `rename` of the blob files `mv` of the directory `d` into `corrupted` (`q`: id ↦ length of the file there);
    `put` = create OR REPLACE, as `rename` does -/
def quarantine (d : Dir) (q : List (Nat × Nat)) (mv : List Nat) : List (Nat × Nat) :=
  mv.foldl (fun q i => put q i (blobFileLen d i)) q

/-- an `Acct.State` with ghost state -/
structure G where
  st : State
  /-- the ids of all blob files created so far, in creation order -/
  created : List Nat
  /-- the blob files of `corrupted` with the length each had when it was renamed there -/
  quar : List (Nat × Nat)

def stepG (c : Cfg) (g : G) (op : AOp) : G :=
  { st := (stepC c g.st op).st
    created := g.created ++ (stepC c g.st op).created
    quar := quarantine g.st.dir g.quar (stepC c g.st op).moved }

/-- `Builder::build` + `init` on an empty directory: `init_new` creates blob 0 -/
def initG (allowDup : Bool) : G :=
  { st := (initNewC { store := { allowDup := allowDup } }).st
    created := (initNewC { store := { allowDup := allowDup } }).created
    quar := [] }

def runGFrom (c : Cfg) (g : G) (ops : List AOp) : G := ops.foldl (stepG c) g

def runG (c : Cfg) (allowDup : Bool) (ops : List AOp) : G := runGFrom c (initG allowDup) ops

theorem runGFrom_cons (c : Cfg) (g : G) (op : AOp) (ops : List AOp) :
    runGFrom c g (op :: ops) = runGFrom c (stepG c g op) ops := rfl

theorem runG_append (c : Cfg) (allowDup : Bool) (ops ops' : List AOp) :
    runG c allowDup (ops ++ ops') = runGFrom c (runG c allowDup ops) ops' :=
  List.foldl_append

theorem stepG_st (c : Cfg) (g : G) (op : AOp) : (stepG c g op).st = step c g.st op := stepC_st c g.st op

theorem runGFrom_st (c : Cfg) : ∀ (g : G) (ops : List AOp), (runGFrom c g ops).st = runFrom c g.st ops
  | _, [] => rfl
  | g, op :: ops => by rw [runGFrom_cons, runGFrom_st c _ ops, stepG_st]; rfl

theorem runG_st (c : Cfg) (allowDup : Bool) (ops : List AOp) : (runG c allowDup ops).st = run c allowDup ops :=
  runGFrom_st c _ ops

theorem get_quarantine (d : Dir) : ∀ (mv : List Nat) (q : List (Nat × Nat)) (j : Nat),
    get (quarantine d q mv) j = if j ∈ mv then some (blobFileLen d j) else get q j
  | [], q, j => by simp [quarantine]
  | i :: mv, q, j => by
    have ih := get_quarantine d mv (put q i (blobFileLen d i)) j
    unfold quarantine at ih ⊢
    rw [List.foldl_cons, ih, get_put]
    by_cases h1 : j ∈ mv
    · simp [h1]
    · by_cases h2 : j = i
      · subst h2; simp
      · simp [h1, h2]

theorem keys_quarantine (d : Dir) : ∀ (mv : List Nat) (q : List (Nat × Nat)), (∀ i ∈ mv, i ∉ keys q) → mv.Nodup →
    keys (quarantine d q mv) = keys q ++ mv
  | [], q, _, _ => by simp [quarantine]
  | i :: mv, q, hq, hn => by
    rw [List.nodup_cons] at hn
    have hk := keys_put_of_not_mem (blobFileLen d i) (hq i List.mem_cons_self)
    have ih := keys_quarantine d mv (put q i (blobFileLen d i)) (by
      intro j hj
      rw [hk, List.mem_append, List.mem_singleton]
      rintro (h | h)
      · exact hq j (List.mem_cons_of_mem _ hj) h
      · exact hn.1 (h ▸ hj)) hn.2
    unfold quarantine at ih ⊢
    rw [List.foldl_cons, ih, hk]
    simp

structure GInv (c : Cfg) (g : G) : Prop where
  inv : Inv c g.st
  /-- the blob files ever created are numbered 0, 1, …, `next_blob_id - 1`, each id once, in this order -/
  created : g.created = List.range g.st.store.nextId
  /-- the ghost map lists exactly the files of `corrupted` -/
  quarKeys : keys g.quar = g.st.dir.corrupted

theorem ginv_step {c : Cfg} {g : G} (h : GInv c g) (op : AOp) : GInv c (stepG c g op) := by
  have hf := stepC_fileStep h.inv op
  refine ⟨by rw [stepG_st]; exact inv_step h.inv op, ?_, ?_⟩
  · show g.created ++ (stepC c g.st op).created = List.range (stepC c g.st op).st.store.nextId
    rw [h.created, hf.next, hf.ids, List.length_range', List.range_eq_range', List.range_eq_range',
      ← List.range'_append_1]
    simp
  · show keys (quarantine g.st.dir g.quar (stepC c g.st op).moved) = (stepC c g.st op).st.dir.corrupted
    rw [hf.corr, ← h.quarKeys]
    apply keys_quarantine _ _ _ _ hf.mvNodup
    intro i hi hk
    rw [h.quarKeys] at hk
    exact h.inv.corrFiles i hk (hf.mvFiles i hi)

theorem ginv_init (c : Cfg) (allowDup : Bool) : GInv c (initG allowDup) :=
  ⟨inv_init c allowDup, rfl, rfl⟩

theorem ginv_runFrom {c : Cfg} : ∀ {g : G}, GInv c g → ∀ ops : List AOp, GInv c (runGFrom c g ops)
  | _, h, [] => h
  | _, h, op :: ops => ginv_runFrom (ginv_step h op) ops

theorem ginv_run (c : Cfg) (allowDup : Bool) (ops : List AOp) : GInv c (runG c allowDup ops) :=
  ginv_runFrom (ginv_init c allowDup) ops

/-- one step: a blob file is afterwards in the work directory, at least as long, or it has just been renamed
    into `corrupted` (where no file of that name was) with the length it had -/
theorem stepG_file_fate {c : Cfg} {g : G} (h : GInv c g) (op : AOp) (i l : Nat)
    (hl : get g.st.dir.blobs i = some l) :
    (∃ l', get (stepG c g op).st.dir.blobs i = some l' ∧ l ≤ l') ∨
      (i ∈ (stepG c g op).st.dir.corrupted ∧ i ∉ g.st.dir.corrupted ∧ i ∉ keys (stepG c g op).st.dir.blobs ∧
        get (stepG c g op).quar i = some l ∧ i ∈ (stepC c g.st op).moved) := by
  have hf := stepC_fileStep h.inv op
  by_cases hm : i ∈ (stepC c g.st op).moved
  · right
    have hk : i ∈ keys g.st.dir.blobs := hf.mvFiles i hm
    refine ⟨?_, fun hc => h.inv.corrFiles i hc hk, ?_, ?_, hm⟩
    · show i ∈ (stepC c g.st op).st.dir.corrupted
      rw [hf.corr]; exact List.mem_append_right _ hm
    · show i ∉ keys (stepC c g.st op).st.dir.blobs
      rw [hf.files]
      rintro (⟨_, hn⟩ | hc)
      · exact hn hm
      · exact (hf.created_fresh h.inv.below i hc).2.1 hk
    · show get (quarantine g.st.dir g.quar (stepC c g.st op).moved) i = some l
      rw [get_quarantine, if_pos hm]
      simp [blobFileLen, hl]
  · left; exact hf.keep i l hl hm

/-- a file of `corrupted` is never touched again: not replaced by a later `rename`, not removed -/
theorem stepG_quar_forever {c : Cfg} {g : G} (h : GInv c g) (op : AOp) (i l : Nat) (hq : get g.quar i = some l) :
    get (stepG c g op).quar i = some l ∧ i ∉ (stepC c g.st op).moved := by
  have hf := stepC_fileStep h.inv op
  have hc : i ∈ g.st.dir.corrupted := by rw [← h.quarKeys]; exact mem_keys_of_get hq
  have hm : i ∉ (stepC c g.st op).moved := fun hm => h.inv.corrFiles i hc (hf.mvFiles i hm)
  refine ⟨?_, hm⟩
  show get (quarantine g.st.dir g.quar (stepC c g.st op).moved) i = some l
  rw [get_quarantine, if_neg hm]; exact hq

theorem runGFrom_quar_forever {c : Cfg} : ∀ {g : G}, GInv c g → ∀ (ops : List AOp) (i l : Nat),
    get g.quar i = some l → get (runGFrom c g ops).quar i = some l
  | _, _, [], _, _, hq => hq
  | _, h, op :: ops, i, l, hq =>
    runGFrom_quar_forever (ginv_step h op) ops i l (stepG_quar_forever h op i l hq).1

/-- any number of steps: a blob file is later in the work directory, at least as long, or in `corrupted`, with
    the length (at least the present one) it had when it was moved -/
theorem runGFrom_file_fate {c : Cfg} : ∀ {g : G}, GInv c g → ∀ (ops : List AOp) (i l : Nat),
    get g.st.dir.blobs i = some l →
      (∃ l', get (runGFrom c g ops).st.dir.blobs i = some l' ∧ l ≤ l') ∨
        (i ∈ (runGFrom c g ops).st.dir.corrupted ∧ i ∉ keys (runGFrom c g ops).st.dir.blobs ∧
          ∃ l', get (runGFrom c g ops).quar i = some l' ∧ l ≤ l')
  | _, _, [], _, l, hl => Or.inl ⟨l, hl, Nat.le_refl _⟩
  | g, h, op :: ops, i, l, hl => by
    rw [runGFrom_cons]
    have h' := ginv_step h op
    rcases stepG_file_fate h op i l hl with ⟨l₁, hl₁, hle⟩ | ⟨_, _, _, hq, _⟩
    · rcases runGFrom_file_fate h' ops i l₁ hl₁ with ⟨l₂, hl₂, hle₂⟩ | ⟨hc, hk, l₂, hl₂, hle₂⟩
      · exact Or.inl ⟨l₂, hl₂, Nat.le_trans hle hle₂⟩
      · exact Or.inr ⟨hc, hk, l₂, hl₂, Nat.le_trans hle hle₂⟩
    · have hq' := runGFrom_quar_forever h' ops i l hq
      have hfin := ginv_runFrom h' ops
      have hc : i ∈ (runGFrom c (stepG c g op) ops).st.dir.corrupted := by
        rw [← hfin.quarKeys]; exact mem_keys_of_get hq'
      exact Or.inr ⟨hc, hfin.inv.corrFiles i hc, l, hq', Nat.le_refl _⟩

/-- fate of the index file `i ↦ f` of `s` in `s'` (`mv`: the blob files quarantined in between):
    untouched; or replaced by a dump — then the new file validates against the blob file as it is now, and the
    blob was a held one (never the index of a blob skipped under `ignore_corrupted`); or removed — then its blob
    has just been quarantined -/
def IdxFate (s s' : State) (mv : List Nat) (i : Nat) (f : IdxFile) : Prop :=
  get s'.dir.idx i = some f ∨
    (∃ f', get s'.dir.idx i = some f' ∧ get s'.dir.blobs i = some f'.blobSize ∧ i ∉ s.ignored) ∨
    (get s'.dir.idx i = none ∧ i ∈ mv)

/-- a dump pass leaves an index file alone or writes it for a held blob, from the blob file as it is -/
theorem dumpPass_idx {c : Cfg} {s : State} (h : Inv c s) (i : Nat) :
    get (dumpPass c s).dir.idx i = get s.dir.idx i ∨
      ((∃ t ∈ (dumpPass c s).store.blobs, t.id = i) ∧
        ∃ f', get (dumpPass c s).dir.idx i = some f' ∧ get s.dir.blobs i = some f'.blobSize) := by
  cases hfd : (dumpTargets s.store).find? (·.id == i) with
  | none => left; rw [get_dumpPass_idx, hfd]
  | some t =>
    right
    have htc : t ∈ s.store.closed := (mem_dumpTargets.1 (List.mem_of_find?_eq_some hfd)).1
    have hti : t.id = i := by simpa using List.find?_some hfd
    refine ⟨⟨dumpFlag t, ?_, (dumpFlag_id t).trans hti⟩, idxOf c s t, by rw [get_dumpPass_idx, hfd], ?_⟩
    · rw [show (dumpPass c s).store.blobs = _ from Store.settle_blobs s.store]
      exact List.mem_append_left _ (List.mem_map_of_mem htc)
    · show get s.dir.blobs i = some (s.fsz t.id)
      rw [← hti]; exact (h.ok t (mem_blobs_of_closed htc)).file

theorem dumpPass_idx_fate {c : Cfg} {s : State} (h : Inv c s) (i : Nat) (f : IdxFile)
    (hf : get s.dir.idx i = some f) : IdxFate s (dumpPass c s) [] i f := by
  rcases dumpPass_idx h i with e | ⟨⟨t, ht, hti⟩, f', hf', hb⟩
  · exact Or.inl (e.trans hf)
  · exact Or.inr (Or.inl ⟨f', hf', hb, fun hi => (inv_dumpPass h).ignHeld i hi t ht hti⟩)

theorem initCore_idx_fate {c : Cfg} {s : State} (h : Inv c s) (lazy ignore : Bool) (bad : List Nat) (i : Nat)
    (f : IdxFile) (hf : get s.dir.idx i = some f) :
    IdxFate s (initCore c s lazy ignore bad) (if ignore then [] else unreadable s bad) i f := by
  rw [initCore_eq]
  rcases dumpPass_idx (inv_reopen h lazy ignore bad) i with e | ⟨⟨t, ht, hti⟩, f', hf', hb⟩
  · -- not dumped: removed with its quarantined blob file, or untouched
    unfold IdxFate
    rw [e, show get (reopen s lazy ignore bad).dir.idx i = _ from get_dirAfterRead_idx s ignore bad i]
    by_cases hm : i ∈ (if ignore then [] else unreadable s bad)
    · exact Or.inr (Or.inr ⟨if_pos hm, hm⟩)
    · exact Or.inl ((if_neg hm).trans hf)
  · refine Or.inr (Or.inl ⟨f', hf', hb, fun hi => ?_⟩)
    rcases ((Blk.ext h (b := .reopen lazy ignore bad) trivial).trans
      (Blk.ext (c := c) (inv_reopen h lazy ignore bad) (b := .dump) trivial)).2 t ht with ⟨b, hb', hid, _⟩ | hge
    · exact h.ignHeld i hi b hb' (hid.symm.trans hti)
    · exact absurd (h.below i (Or.inl (h.idxFiles i (mem_keys_of_get hf)))) (by omega)

theorem restart_idx_fate {c : Cfg} {s : State} (h : Inv c s) (lazy ignore : Bool) (bad : List Nat) (i : Nat)
    (f : IdxFile) (hf : get s.dir.idx i = some f) :
    IdxFate s (restart c s lazy ignore bad) (if ignore then [] else unreadable s bad) i f := by
  have h1 := inv_closeSession (c := c) h
  have hun := unreadable_closeSession c s bad
  have hig := closeSession_ignored c s
  have hbl := closeSession_blobs c s
  -- the index file after `close`: untouched, or written by the dump of the active blob
  have hA : get (closeSession c s).dir.idx i = some f ∨
      ∃ f', get (closeSession c s).dir.idx i = some f' ∧ get (closeSession c s).dir.blobs i = some f'.blobSize ∧
        i ∉ s.ignored := by
    unfold closeSession
    cases ha : s.store.active with
    | none => exact Or.inl hf
    | some a =>
      simp only
      split
      · by_cases hi : i = a.id
        · right
          refine ⟨idxOf c s a, by rw [get_put, if_pos hi], ?_,
            fun hig => h.ignHeld i hig a (mem_blobs_of_active ha) hi.symm⟩
          show get s.dir.blobs i = some (s.fsz a.id)
          rw [hi]; exact (h.ok a (mem_blobs_of_active ha)).file
        · left; rw [get_put, if_neg hi]; exact hf
      · exact Or.inl hf
  have hkey : i ∈ keys (closeSession c s).dir.blobs := by
    rw [hbl]; exact h.idxFiles i (mem_keys_of_get hf)
  rw [restart_eq]
  unfold IdxFate
  generalize closeSession c s = s1 at h1 hun hig hbl hA hkey ⊢
  rw [← hun, ← hig]
  rw [if_neg fun he => by rw [List.isEmpty_iff.1 he] at hkey; cases hkey]
  -- `ensure_active_blob_exists` touches neither the index files nor this blob file
  have hE : get (if lazy = true then initCore c s1 lazy ignore bad
        else ensureActive (initCore c s1 lazy ignore bad)).dir.idx i =
        get (initCore c s1 lazy ignore bad).dir.idx i ∧
      get (if lazy = true then initCore c s1 lazy ignore bad
        else ensureActive (initCore c s1 lazy ignore bad)).dir.blobs i =
        get (initCore c s1 lazy ignore bad).dir.blobs i := by
    split
    · exact ⟨rfl, rfl⟩
    · refine ⟨by rw [ensureActive_idx], ensureActive_get_blobs (Nat.ne_of_lt ?_)⟩
      rw [initCore_nextId h1]; exact h1.below i (Or.inl hkey)
  rw [hE.1, hE.2]
  have hC : ∀ f₁, get s1.dir.idx i = some f₁ →
      IdxFate s1 (initCore c s1 lazy ignore bad) (if ignore then [] else unreadable s1 bad) i f₁ :=
    fun f₁ hf₁ => initCore_idx_fate h1 lazy ignore bad i f₁ hf₁
  rcases hA with hA | ⟨f₁, hA, hAb, hAi⟩
  · exact hC f hA
  · rw [← hig] at hAi
    rcases hC f₁ hA with hB | hB | hB
    · -- the file written by `close` stays: it validates against the blob file, which has not moved
      refine Or.inr (Or.inl ⟨f₁, hB, ?_, hAi⟩)
      have hnm : i ∉ (if ignore then [] else unreadable s1 bad) :=
        ((mem_keys_dirAfterRead_blobs s1 ignore bad i).1
          ((inv_initCore h1 lazy ignore bad).idxFiles i (mem_keys_of_get hB))).2
      exact (get_dirAfterRead_blobs s1 ignore bad i).trans ((if_neg hnm).trans hAb)
    · exact Or.inr (Or.inl hB)
    · exact Or.inr (Or.inr hB)

theorem step_idx_fate {c : Cfg} {s : State} (h : Inv c s) (op : AOp) (i : Nat) (f : IdxFile)
    (hf : get s.dir.idx i = some f) : IdxFate s (step c s op) (stepC c s op).moved i f := by
  rcases op.restart_or with ⟨lazy, ignore, bad, rfl⟩ | hr
  · rw [show (stepC c s (.restart lazy ignore bad)).moved = if ignore then [] else unreadable s bad by
      rw [stepC_moved]; cases ignore <;> rfl]
    exact restart_idx_fate h lazy ignore bad i f hf
  · -- blocks that leave the index files alone, then possibly a dump pass
    obtain ⟨pre, hinv, hidx, hq, hstep⟩ := step_pre (c := c) (s := s) op hr
    have hpre := hinv h
    have hign := hq.1
    rcases hstep with e | e
    · left; rw [e, hidx]; exact hf
    · rw [e]
      rcases dumpPass_idx_fate hpre i f (by rw [hidx]; exact hf) with hB | ⟨f', h1, h2, h3⟩ | ⟨_, hm⟩
      · exact Or.inl hB
      · exact Or.inr (Or.inl ⟨f', h1, h2, by rw [← hign]; exact h3⟩)
      · cases hm

/-- a restart leaves every blob file it does not quarantine exactly as long as it was -/
theorem restart_get_blobs {c : Cfg} {s : State} (h : Inv c s) (lazy ignore : Bool) (bad : List Nat) (i v : Nat)
    (hv : get s.dir.blobs i = some v) (hm : i ∉ (if ignore then [] else unreadable s bad)) :
    get (restart c s lazy ignore bad).dir.blobs i = some v := by
  have h1 := inv_closeSession (c := c) h
  have hun := unreadable_closeSession c s bad
  have hbl := closeSession_blobs c s
  rw [restart_eq]
  generalize closeSession c s = s1 at h1 hun hbl ⊢
  rw [← hun] at hm
  rw [← hbl] at hv
  have hkey : i ∈ keys s1.dir.blobs := mem_keys_of_get hv
  have hcore : get (initCore c s1 lazy ignore bad).dir.blobs i = some v :=
    (get_dirAfterRead_blobs s1 ignore bad i).trans ((if_neg hm).trans hv)
  split
  · rename_i he
    rw [List.isEmpty_iff.1 he] at hkey; cases hkey
  · split
    · exact hcore
    · refine (ensureActive_get_blobs (Nat.ne_of_lt ?_)).trans hcore
      rw [initCore_nextId h1]; exact h1.below i (Or.inl hkey)

/-! ### counter-models

`Buggy.initExistingC074` / `restartC074` / `runG074`: seeded change C07-4 — `init_from_existing` calls
`reserve_old_corrupted_blob_ids` only at its end, after a missing active blob has been created with `next_blob_id` =
greatest id of a blob file of the work directory + 1.  `Buggy.initNewLateC` / `stepCLate` / `runGLate`: the same late
reservation in `init_new`.  `Buggy.createFailsC` / `runGF`: seeded change C07-3 — `ensure_active_blob_exists` hands the blob
id back when `Blob::open_new` fails, although the file may exist already (`giveBack = false` is the code as it is:
`inv_createFails`, after the namespace). -/

namespace Buggy

/-- `initExistingC` with the reservation of the quarantined ids moved behind the creation of the active blob.
    (Ids quarantined in this very session are still covered: `max_blob_id` is taken over all blob files.) -/
def initExistingC074 (c : Cfg) (s : State) (lazy ignore : Bool) (bad : List Nat) : Logged :=
  let s1 := initCore c s lazy ignore bad
  let mv := if ignore then [] else unreadable s bad
  -- `next_blob_id.store(max_blob_id + 1)`
  let nid := maxNext (keys s.dir.blobs)
  -- `reserve_old_corrupted_blob_ids`, here the last thing `init_from_existing` does
  let resv := maxNext s1.dir.corrupted
  if !lazy && s1.store.active.isNone then
    { st := { s1 with
              dir := { s1.dir with blobs := put s1.dir.blobs nid blobHeaderSize }
              fsz := fun j => if j = nid then blobHeaderSize else s1.fsz j
              store := { s1.store with active := some { id := nid, recs := [] }, nextId := max (nid + 1) resv } }
      moved := mv, created := [nid] }
  else { st := { s1 with store := { s1.store with nextId := max nid resv } }, moved := mv }

def restartC074 (c : Cfg) (s : State) (lazy ignore : Bool) (bad : List Nat) : Logged :=
  let s1 := closeSession c s
  if (keys s1.dir.blobs).isEmpty then initNewC s1 else initExistingC074 c s1 lazy ignore bad

def stepC074 (c : Cfg) (s : State) : AOp → Logged
  | .restart lazy ignore bad => restartC074 c s lazy ignore bad
  | op => stepC c s op

/-- the ghost step over an arbitrary instrumented step function -/
def stepGWith (f : State → AOp → Logged) (g : G) (op : AOp) : G :=
  { st := (f g.st op).st
    created := g.created ++ (f g.st op).created
    quar := quarantine g.st.dir g.quar (f g.st op).moved }

def runG074 (c : Cfg) (allowDup : Bool) (ops : List AOp) : G := ops.foldl (stepGWith (stepC074 c)) (initG allowDup)

/-- the correct model through the same wrapper -/
theorem stepGWith_stepC (c : Cfg) (g : G) (op : AOp) : stepGWith (stepC c) g op = stepG c g op := rfl

/-- when no active blob has to be created the seeded change changes nothing -/
theorem initExistingC074_same (c : Cfg) (s : State) (lazy ignore : Bool) (bad : List Nat)
    (h : (!lazy && (initCore c s lazy ignore bad).store.active.isNone) = false) :
    (initExistingC074 c s lazy ignore bad).st = (initExistingC c s lazy ignore bad).st ∧
      (initExistingC074 c s lazy ignore bad).created = (initExistingC c s lazy ignore bad).created := by
  unfold initExistingC074 initExistingC
  simp only [h]
  exact ⟨rfl, rfl⟩

/-- the same mistake in `init_new` (a start from an EMPTY work directory): a fresh `Inner` has `next_blob_id` = 0;
    the active blob is created first, the ids of `corrupted` are reserved afterwards -/
def initNewLateC (s : State) : Logged :=
  { st := { store := { allowDup := s.store.allowDup, active := some { id := 0, recs := [] }, slots := [],
                       nextId := max 1 (maxNext s.dir.corrupted) }
            fsz := fun j => if j = 0 then blobHeaderSize else 0
            isz := fun _ => 0
            corruptedCnt := s.dir.corrupted.length
            dir := { s.dir with blobs := put s.dir.blobs 0 blobHeaderSize }
            ignored := [] }
    created := [0] }

def stepCLate (c : Cfg) (s : State) : AOp → Logged
  | .restart lazy ignore bad =>
    let s1 := closeSession c s
    if (keys s1.dir.blobs).isEmpty then initNewLateC s1 else initExistingC c s1 lazy ignore bad
  | op => stepC c s op

def runGLate (c : Cfg) (allowDup : Bool) (ops : List AOp) : G := ops.foldl (stepGWith (stepCLate c)) (initG allowDup)

/-- an operation, or a creation of the active blob that fails after the file exists -/
inductive FOp where
  | op (o : AOp)
  /-- `ensure_active_blob_exists` (`try_create_active_blob`, or the implicit creation at the start of a write or
      delete) with `Blob::open_new` failing after `iodriver.create`: `len` bytes of the header are in the file -/
  | createFails (len : Nat)

/-- the failing creation.  The file `next_blob_id` is left in the work directory, held by nobody and unreadable
    (it goes to the ghost list `ignored`: the next start finds it unreadable).  `giveBack = false` is the code as
    it is (the id stays consumed), `giveBack = true` the seeded change C07-3 (`fetch_sub(1)`). -/
def createFailsC (giveBack : Bool) (s : State) (len : Nat) : Logged :=
  match s.store.active with
  | some _ => { st := s }
  | none =>
    { st := { s with dir := { s.dir with blobs := put s.dir.blobs s.store.nextId len }
                     store := { s.store with nextId := if giveBack then s.store.nextId else s.store.nextId + 1 }
                     ignored := s.ignored ++ [s.store.nextId] }
      created := [s.store.nextId] }

def stepF (giveBack : Bool) (c : Cfg) (s : State) : FOp → Logged
  | .op o => stepC c s o
  | .createFails len => createFailsC giveBack s len

def stepGF (giveBack : Bool) (c : Cfg) (g : G) (op : FOp) : G :=
  { st := (stepF giveBack c g.st op).st
    created := g.created ++ (stepF giveBack c g.st op).created
    quar := quarantine g.st.dir g.quar (stepF giveBack c g.st op).moved }

def runGF (giveBack : Bool) (c : Cfg) (allowDup : Bool) (ops : List FOp) : G :=
  ops.foldl (stepGF giveBack c) (initG allowDup)

end Buggy

/-- the code as it is: a failed creation keeps the invariant (the id stays consumed, the leftover file is one more
    unreadable file of the work directory), so the theorems over `Inv` hold along histories with such failures too -/
theorem inv_createFails {c : Cfg} {s : State} (h : Inv c s) (len : Nat) :
    Inv c (Buggy.createFailsC false s len).st ∧
      FileStep s (Buggy.createFailsC false s len).st [] (Buggy.createFailsC false s len).created := by
  unfold Buggy.createFailsC
  cases ha : s.store.active with
  | some a => exact ⟨h, FileStep.same rfl rfl rfl⟩
  | none =>
    simp only [Bool.false_eq_true, if_false]
    have hfresh : s.store.nextId ∉ keys s.dir.blobs := fun hm => Nat.lt_irrefl _ (h.below _ (Or.inl hm))
    have hold : ∀ b ∈ s.store.blobs, b.id ≠ s.store.nextId := fun b hb => Nat.ne_of_lt (h.wf.2 b hb)
    refine ⟨h.new_file len rfl rfl rfl rfl rfl ?_ ⟨h.wf.1, fun b hb => Nat.lt_succ_of_lt (h.wf.2 b hb)⟩
      h.activeMem ?_ ?_ ?_, FileStep.newBlob h.below len rfl rfl rfl⟩
    · intro i
      show (∃ b ∈ s.store.blobs, b.id = i) ∨ i ∈ s.ignored ++ [s.store.nextId] ↔ _
      rw [List.mem_append, List.mem_singleton, ← or_assoc, or_comm]
    · intro b hb
      have ob := h.ok b hb
      refine ob.keep rfl (List.prefix_refl _) ?_ ob.size rfl rfl fun ho => ⟨rfl, ho⟩
      show get (put s.dir.blobs s.store.nextId len) b.id = some (s.fsz b.id)
      rw [get_put, if_neg (hold b hb)]; exact ob.file
    · show (s.ignored ++ [s.store.nextId]).Nodup
      rw [List.nodup_append]
      refine ⟨h.ignNodup, by simp, fun a ha' b hb e => ?_⟩
      rw [List.mem_singleton.1 hb] at e
      exact hfresh ((h.files _).2 (Or.inr (e ▸ ha')))
    · intro i hi b hb
      rcases List.mem_append.1 (show i ∈ s.ignored ++ [s.store.nextId] from hi) with hi' | hi'
      · exact h.ignHeld i hi' b hb
      · rw [List.mem_singleton.1 hi']; exact hold b hb

end Acct
end Pearl
