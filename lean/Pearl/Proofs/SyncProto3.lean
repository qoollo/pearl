import Pearl.Proofs.SyncProto
/-
The sync request protocol with the re-check of /repo bc65670 (`Variant.recheck`): ghost wrappers over `step` that say which
exits of the task body are followed by the re-check, and count the bytes that no look of the task covers.  Headline
theorems in `Pearl/Props/C12.lean`.

THE CODE (/repo HEAD) is `Mode.amended` of the wrapper `MSt` below (`mstep .amended`): the second listing.  `step` with
`recheck := true` (`recheckOnly`; `Mode.everyExit`, `gstep false`) re-checks after every release, so it retries a failed sync
and the code does not; without a failing sync the two are the same (`mrun_amended_eq_run`).  `gstep true` =
`Mode.afterSyncOnly` is the first listing, what /repo had before bc65670 was amended, not the present code.

`Inner::fsyncdata` as /repo had it for a short while (src/storage/core.rs):

    loop {
        if compare_exchange(false, true).is_err() { return Ok(()) }            -- (x1) no re-check
        {   let _flag = ResetableFlag{..};
            let safe = self.safe.read().await;
            if let Some(ablob) = &safe.active_blob {
                if !too_many_dirty_bytes(ablob.read().await.file_dirty_bytes()) { return Ok(()) }   -- (x2) no re-check
            }
            safe.fsyncdata().await?;                                           -- (x3) `?`: no re-check
        }                                   -- locals dropped: storage lock, then the guard (flag := false)
        let safe = self.safe.read().await;  -- the RE-CHECK: `too_many_dirty_bytes` (the flag is not looked at)
        if !over_limit { return Ok(()) }    -- `Phase.done`, then the end of the task (`finish`)
    }                                       -- over the limit: round the loop, compare-exchange again (`Phase.spawned`)

So the re-check sits AFTER the reset of the flag and BEFORE the end of the task, as `step … .recheck` has it, and it goes
back to the compare-exchange, as `step` has it.  But it is on ONE exit path only, the one after a `safe.fsyncdata()` that
succeeded.  `step` with `recheck := true` puts it after EVERY exit (`.release` always leads to `.released`, from where only
`.recheck` is enabled): after the early return (x2), after a failed sync (x3) and after a lost compare-exchange (x1, not
reachable with one task).  The two-valued wrapper `GSt` / `gstep c` carries the ghost `afterSync` and has both readings:
`c = false` is `step v` itself (`gstep_false_st`), `c = true` is the function shown above (re-check after a successful
sync only).

`Inner::fsyncdata` at bc65670 (src/storage/core.rs):

    loop {
        if compare_exchange(false, true).is_err() { return Ok(()) }            -- (x1) no re-check (lost compare-exchange)
        {   let _flag = ResetableFlag{..};
            let safe = self.safe.read().await;
            let over_limit = match &safe.active_blob { Some(ablob) => too_many_dirty_bytes(..), None => true };
            if over_limit {
                safe.fsyncdata().await?;                                       -- (x3) `?`: no re-check, the task ends
            }
        }                                   -- BOTH non-failing paths (synced / not over the limit) end the scope here:
                                            -- locals dropped: storage lock, then the guard (flag := false)
        let safe = self.safe.read().await;  -- the RE-CHECK: `too_many_dirty_bytes` (the flag is not looked at)
        if !over_limit { return Ok(()) }    -- `Phase.done`, then the end of the task (`finish`)
    }                                       -- over the limit: round the loop, compare-exchange again (`Phase.spawned`)

There is no early `return` inside the guarded scope.  So the re-check follows every release of the flag EXCEPT
the one of a failed sync (x3) (and a lost compare-exchange (x1), which releases nothing and is not reachable with one
task).  A failing sync is not retried in a loop.

The three readings, one wrapper (`MSt` / `mstep m`, `m : Mode`):
* `Mode.everyExit`     = `step v` itself           = `gstep false` (`mstep_ofBool`);
* `Mode.afterSyncOnly` = re-check after a successful sync only (what /repo had for a short while)
                                                   = `gstep true` (`mstep_ofBool`);
* `Mode.amended`       = /repo HEAD (bc65670 as amended): re-check after every release except after a failed sync.
`MSt.toG` maps the three-valued wrapper onto the two-valued one for the first two modes; everything is proved for `MSt`, for
all modes at once, and carried over to `GSt` (and to `step` under it) in the section after the embedding of the first two
modes; the last section is about the amended reading alone: without a failing sync it is `step`.
-/
namespace Pearl
namespace SyncProto

/-! ### the two-valued wrapper -/

structure GSt where
  st : St
  /-- ghost: the task body's latest exit is the one after a `safe.fsyncdata()` that succeeded - in the reading
      `c = true`, the only exit that is followed by the re-check -/
  afterSync : Bool := false
  /-- ghost: bytes appended since the task took its last look at the dirty bytes of this exit path and not yet accounted
      to `late` / `unseen` (meaningful while the task is past that look) -/
  win : Nat := 0
  /-- ghost: bytes appended, since the latest size capture, in window (b) - the task has taken its LAST look at the dirty
      bytes, the flag is clear, the worker's handle is still unfinished - and given up at the moment the worker dropped
      a request in that window (`recv` with `hdl = running`) -/
  late : Nat := 0
  /-- ghost (stays 0 with `c = false`): bytes appended, since the latest size capture, in window (c) - between a look
      that is not followed by a re-check (early return, failed sync) and the reset of the flag by that exit -/
  unseen : Nat := 0
deriving DecidableEq, Repr, Inhabited

def ginit (base : Nat) : GSt := { st := init base }

/-- on the exit path the task is on, the re-check is still ahead.  `c = false`: on every exit (`step` as it is);
    `c = true`: only after a sync that succeeded (what /repo had for a short while; the code at bc65670 is
    `Mode.amended` below) -/
def GSt.look (c : Bool) (g : GSt) : Bool := !c || g.afterSync

/-- window (b): the task has taken its last look, the flag is clear, `JoinHandle::is_finished` is still false -/
def GSt.pastLook (c : Bool) (g : GSt) : Bool :=
  match g.st.phase with
  | .done => true
  | .released => !g.look c
  | _ => false

/-- window (c): the task has taken its last look and still holds the flag -/
def GSt.early (c : Bool) (g : GSt) : Bool :=
  match g.st.phase with
  | .returned _ => !g.look c
  | _ => false

/-- the variant whose `step` the task follows in this state: without the re-check when the exit taken has none -/
def GSt.eff (c : Bool) (v : Variant) (g : GSt) : Variant :=
  if g.st.phase = .released ∧ g.look c = false then { v with recheck := false } else v

def ghost (c : Bool) (g : GSt) (e : Ev) (t : St) : GSt :=
  match e with
  | .write n | .append n =>
    { g with st := t, win := if g.pastLook c || g.early c then g.win + n else g.win }
  | .recv =>
    if g.st.hdl = .running ∧ g.pastLook c = true then { g with st := t, late := g.late + g.win, win := 0 }
    else { g with st := t }
  | .cas => { g with st := t, afterSync := false, win := 0 }
  | .check => { g with st := t, win := 0 }
  | .start => { g with st := t, win := 0, late := 0, unseen := 0 }
  | .complete ok => { g with st := t, afterSync := ok, win := 0 }
  | .release =>
    if g.look c then { g with st := t } else { g with st := t, unseen := g.unseen + g.win, win := 0 }
  | .recheck => { g with st := t, win := 0 }
  | .rotate _ => { g with st := t, win := 0, late := 0, unseen := 0 }
  | .decide | .tick | .finish => { g with st := t }

def gstep (c : Bool) (v : Variant) (limit : Nat) (g : GSt) (e : Ev) : Option GSt :=
  (step (g.eff c v) limit g.st e).map (ghost c g e)

def grun (c : Bool) (v : Variant) (limit : Nat) (g : GSt) : List Ev → Option GSt
  | [] => some g
  | e :: es => (gstep c v limit g e).bind fun h => grun c v limit h es

def GReach (c : Bool) (v : Variant) (limit : Nat) (g : GSt) : Prop :=
  ∃ base evs, grun c v limit (ginit base) evs = some g

def GReachOk (c : Bool) (v : Variant) (limit : Nat) (g : GSt) : Prop :=
  ∃ base evs, (∀ e ∈ evs, e.isFailure = false) ∧ grun c v limit (ginit base) evs = some g

/-- the ghost `late` of a schedule of `step v` (0 when the schedule is not enabled) -/
def lateOf (v : Variant) (limit base : Nat) (evs : List Ev) : Nat :=
  ((grun false v limit (ginit base) evs).map (·.late)).getD 0

@[simp] theorem grun_nil (c : Bool) (v : Variant) (limit : Nat) (g : GSt) : grun c v limit g [] = some g := rfl

@[simp] theorem grun_cons (c : Bool) (v : Variant) (limit : Nat) (g : GSt) (e : Ev) (es : List Ev) :
    grun c v limit g (e :: es) = (gstep c v limit g e).bind fun h => grun c v limit h es := rfl

theorem isRun_grun (c : Bool) (v : Variant) (limit : Nat) : IsRun (gstep c v limit) (grun c v limit) :=
  ⟨fun _ => rfl, fun _ _ _ => rfl⟩

theorem grun_append (c : Bool) (v : Variant) (limit : Nat) (g : GSt) (es fs : List Ev) :
    grun c v limit g (es ++ fs) = (grun c v limit g es).bind fun h => grun c v limit h fs :=
  (isRun_grun c v limit).append g es fs

theorem GReachOk.greach {c : Bool} {v : Variant} {limit : Nat} {g : GSt} (h : GReachOk c v limit g) :
    GReach c v limit g := by
  obtain ⟨base, evs, _, h⟩ := h
  exact ⟨base, evs, h⟩

@[simp] theorem ghost_st (c : Bool) (g : GSt) (e : Ev) (t : St) : (ghost c g e t).st = t := by
  cases e <;> simp only [ghost] <;> (try split) <;> rfl

@[simp] theorem look_false (g : GSt) : g.look false = true := rfl

@[simp] theorem eff_false (v : Variant) (g : GSt) : g.eff false v = v := by
  simp [GSt.eff]

theorem gstep_false_st (v : Variant) (limit : Nat) (g : GSt) (e : Ev) :
    (gstep false v limit g e).map (·.st) = step v limit g.st e := by
  simp only [gstep, eff_false, Option.map_map]
  cases step v limit g.st e <;> simp

theorem grun_false_st (v : Variant) (limit : Nat) (evs : List Ev) (g : GSt) :
    (grun false v limit g evs).map (·.st) = run v limit g.st evs :=
  (isRun_grun false v limit).map (isRun_run v limit) (gstep_false_st v limit) evs g

theorem grun_false_of_run {v : Variant} {limit : Nat} {evs : List Ev} {g : GSt} {s : St}
    (h : run v limit g.st evs = some s) : ∃ g', grun false v limit g evs = some g' ∧ g'.st = s :=
  Option.map_eq_some_iff.1 ((grun_false_st v limit evs g).trans h)

theorem run_of_grun_false {v : Variant} {limit : Nat} {evs : List Ev} {g g' : GSt}
    (h : grun false v limit g evs = some g') : run v limit g.st evs = some g'.st := by
  rw [← grun_false_st, h]; rfl

/-! ### the three-valued wrapper -/

/-- which exits of the guarded scope of `Inner::fsyncdata` are followed by the re-check -/
inductive Mode where
  /-- every exit: `step` with `recheck := true` as it is -/
  | everyExit
  /-- only the exit after a `safe.fsyncdata()` that succeeded (/repo for a short while; `gstep true`) -/
  | afterSyncOnly
  /-- /repo at bc65670: every exit except the `?` of a failed sync (and the lost compare-exchange) -/
  | amended
deriving DecidableEq, Repr, Inhabited

/-- the two readings of `GSt` as modes -/
def Mode.ofBool : Bool → Mode
  | false => .everyExit
  | true => .afterSyncOnly

/-- the ghost `ahead` right after the compare-exchange (`won` = it was won): in the amended reading the re-check is ahead
    from the moment the guarded scope is entered (it is lost only by a failing sync) -/
def Mode.afterCas (m : Mode) (won : Bool) : Bool :=
  match m with
  | .amended => won
  | _ => false

structure MSt where
  st : St
  /-- ghost: on the exit path the task body is on, the re-check is still ahead (read in the modes `afterSyncOnly` and
      `amended`; in `afterSyncOnly` it is the `afterSync` of `GSt`) -/
  ahead : Bool := false
  /-- ghost: as `GSt.win` -/
  win : Nat := 0
  /-- ghost: as `GSt.late` (window (b)) -/
  late : Nat := 0
  /-- ghost: as `GSt.unseen` (window (c): between a look that is not followed by a re-check and the reset of the flag) -/
  unseen : Nat := 0
deriving DecidableEq, Repr, Inhabited

def minit (base : Nat) : MSt := { st := init base }

/-- the state of the two-valued wrapper -/
def MSt.toG (k : MSt) : GSt := { st := k.st, afterSync := k.ahead, win := k.win, late := k.late, unseen := k.unseen }

/-- on the exit path the task is on, the re-check is still ahead -/
def MSt.look (m : Mode) (k : MSt) : Bool :=
  match m with
  | .everyExit => true
  | _ => k.ahead

/-- window (b): the task has taken its last look, the flag is clear, `JoinHandle::is_finished` is still false -/
def MSt.pastLook (m : Mode) (k : MSt) : Bool :=
  match k.st.phase with
  | .done => true
  | .released => !k.look m
  | _ => false

/-- window (c): the task has taken its last look and still holds the flag -/
def MSt.early (m : Mode) (k : MSt) : Bool :=
  match k.st.phase with
  | .returned _ => !k.look m
  | _ => false

/-- the variant whose `step` the task follows in this state: without the re-check when the exit taken has none -/
def MSt.eff (m : Mode) (v : Variant) (k : MSt) : Variant :=
  if k.st.phase = .released ∧ k.look m = false then { v with recheck := false } else v

def mghost (m : Mode) (k : MSt) (e : Ev) (t : St) : MSt :=
  match e with
  | .write n | .append n =>
    { k with st := t, win := if k.pastLook m || k.early m then k.win + n else k.win }
  | .recv =>
    if k.st.hdl = .running ∧ k.pastLook m = true then { k with st := t, late := k.late + k.win, win := 0 }
    else { k with st := t }
  | .cas => { k with st := t, ahead := m.afterCas (!k.st.flag), win := 0 }
  | .check => { k with st := t, win := 0 }
  | .start => { k with st := t, win := 0, late := 0, unseen := 0 }
  | .complete ok => { k with st := t, ahead := ok, win := 0 }
  | .release =>
    if k.look m then { k with st := t } else { k with st := t, unseen := k.unseen + k.win, win := 0 }
  | .recheck => { k with st := t, win := 0 }
  | .rotate _ => { k with st := t, win := 0, late := 0, unseen := 0 }
  | .decide | .tick | .finish => { k with st := t }

def mstep (m : Mode) (v : Variant) (limit : Nat) (k : MSt) (e : Ev) : Option MSt :=
  (step (k.eff m v) limit k.st e).map (mghost m k e)

def mrun (m : Mode) (v : Variant) (limit : Nat) (k : MSt) : List Ev → Option MSt
  | [] => some k
  | e :: es => (mstep m v limit k e).bind fun h => mrun m v limit h es

def MReach (m : Mode) (v : Variant) (limit : Nat) (k : MSt) : Prop :=
  ∃ base evs, mrun m v limit (minit base) evs = some k

def MReachOk (m : Mode) (v : Variant) (limit : Nat) (k : MSt) : Prop :=
  ∃ base evs, (∀ e ∈ evs, e.isFailure = false) ∧ mrun m v limit (minit base) evs = some k

@[simp] theorem mrun_nil (m : Mode) (v : Variant) (limit : Nat) (k : MSt) : mrun m v limit k [] = some k := rfl

@[simp] theorem mrun_cons (m : Mode) (v : Variant) (limit : Nat) (k : MSt) (e : Ev) (es : List Ev) :
    mrun m v limit k (e :: es) = (mstep m v limit k e).bind fun h => mrun m v limit h es := rfl

theorem isRun_mrun (m : Mode) (v : Variant) (limit : Nat) : IsRun (mstep m v limit) (mrun m v limit) :=
  ⟨fun _ => rfl, fun _ _ _ => rfl⟩

theorem mrun_append (m : Mode) (v : Variant) (limit : Nat) (k : MSt) (es fs : List Ev) :
    mrun m v limit k (es ++ fs) = (mrun m v limit k es).bind fun h => mrun m v limit h fs :=
  (isRun_mrun m v limit).append k es fs

theorem MReachOk.mreach {m : Mode} {v : Variant} {limit : Nat} {k : MSt} (h : MReachOk m v limit k) :
    MReach m v limit k := by
  obtain ⟨base, evs, _, h⟩ := h
  exact ⟨base, evs, h⟩

@[simp] theorem mghost_st (m : Mode) (k : MSt) (e : Ev) (t : St) : (mghost m k e t).st = t := by
  cases e <;> simp only [mghost] <;> (try split) <;> rfl

theorem mstep_some {m : Mode} {v : Variant} {limit : Nat} {k h : MSt} {e : Ev} (hs : mstep m v limit k e = some h) :
    ∃ t, step (k.eff m v) limit k.st e = some t ∧ h = mghost m k e t := by
  simp only [mstep, Option.map_eq_some_iff] at hs
  obtain ⟨t, ht, rfl⟩ := hs
  exact ⟨t, ht, rfl⟩

/-- if `P` holds at the end of a schedule, it held at the start or some step of the schedule caused it (`Q`) -/
theorem mrun_cause {m : Mode} {v : Variant} {limit : Nat} {P : MSt → Prop} {Q : MSt → Ev → Prop}
    (hstep : ∀ k e h, mstep m v limit k e = some h → P h → P k ∨ Q k e) :
    ∀ (evs : List Ev) (k h : MSt), mrun m v limit k evs = some h → P h →
    P k ∨ ∃ pre e post j, evs = pre ++ e :: post ∧ mrun m v limit k pre = some j ∧ Q j e := by
  intro evs
  induction evs with
  | nil => intro k h hr hl; simp at hr; subst hr; exact Or.inl hl
  | cons e es ih =>
    intro k h hr hl
    obtain ⟨u, hst, hr⟩ := (isRun_mrun m v limit).cons_some hr
    rcases ih u h hr hl with h1 | ⟨pre, e', post, j, h1, h2, h3⟩
    · exact (hstep k e u hst h1).imp id fun h2 => ⟨[], e, es, k, rfl, rfl, h2⟩
    · exact Or.inr ⟨e :: pre, e', post, j, by simp [h1], by simp [hst, h2], h3⟩

theorem mghost_recv_drop {m : Mode} {k : MSt} (t : St) (hh : k.st.hdl = .running) (hp : k.pastLook m = true) :
    mghost m k .recv t = { k with st := t, late := k.late + k.win, win := 0 } := if_pos ⟨hh, hp⟩

theorem mghost_recv_keep {m : Mode} {k : MSt} (t : St) (h : ¬ (k.st.hdl = .running ∧ k.pastLook m = true)) :
    mghost m k .recv t = { k with st := t } := if_neg h

theorem mghost_release_look {m : Mode} {k : MSt} (t : St) (h : k.look m = true) :
    mghost m k .release t = { k with st := t } := if_pos h

theorem mghost_release_nolook {m : Mode} {k : MSt} (t : St) (h : k.look m = false) :
    mghost m k .release t = { k with st := t, unseen := k.unseen + k.win, win := 0 } := if_neg (by simp [h])

/-- `look` reads the ghost `ahead` only -/
theorem look_mk (m : Mode) (k : MSt) (s : St) (w l u : Nat) : MSt.look m ⟨s, k.ahead, w, l, u⟩ = k.look m := by
  cases m <;> rfl

theorem look_true (m : Mode) (s : St) (w l u : Nat) : MSt.look m ⟨s, true, w, l, u⟩ = true := by cases m <;> rfl

theorem look_mghost (m : Mode) (k : MSt) (e : Ev) (t : St) :
    (e = .complete true → (mghost m k e t).look m = true) ∧
      ((∀ ok, e ≠ .complete ok) → e ≠ .cas → (mghost m k e t).look m = k.look m) := by
  cases e <;> simp only [mghost] <;> (try split) <;> simp +contextual [look_mk, look_true]

/-- in window (b) the flag is clear -/
theorem MSt.owns_of_pastLook {m : Mode} {k : MSt} (h : k.pastLook m = true) : k.st.phase.owns = false := by
  unfold MSt.pastLook at h
  split at h <;> simp_all [Phase.owns]

theorem MSt.pastLook_of_early {m : Mode} {k : MSt} (h : k.early m = true) : k.pastLook m = false := by
  unfold MSt.early at h
  split at h <;> simp_all [MSt.pastLook]

/-- `eff` touches the field `recheck` only -/
theorem meff_eq (m : Mode) (v : Variant) (k : MSt) :
    k.eff m v = { v with recheck := v.recheck && !(decide (k.st.phase = .released) && !k.look m) } := by
  simp only [MSt.eff]
  split
  · rename_i h; simp [h.1, h.2]
  · rename_i h
    by_cases hp : k.st.phase = .released
    · have : k.look m = true := by simpa [hp] using h
      simp [this]
    · simp [hp]

@[simp] theorem meff_guarded (m : Mode) (v : Variant) (k : MSt) : (k.eff m v).guarded = v.guarded := by
  simp [Variant.guarded, meff_eq]

theorem mctl_step {m : Mode} {v : Variant} (hv : v.guarded = true) {limit : Nat} {k h : MSt} {e : Ev}
    (hc : Ctl k.st) (hs : mstep m v limit k e = some h) : Ctl h.st := by
  obtain ⟨t, ht, rfl⟩ := mstep_some hs
  rw [mghost_st]
  exact ctl_step (v := k.eff m v) (by simpa using hv) hc ht

theorem mctl_reach {m : Mode} {v : Variant} (hv : v.guarded = true) {limit : Nat} {k : MSt}
    (h : MReach m v limit k) : Ctl k.st := by
  obtain ⟨base, evs, h⟩ := h
  exact (isRun_mrun m v limit).reach (fun _ _ _ hk hs => mctl_step hv hk hs) (ctl_init base) h

theorem mcnt_step {m : Mode} {v : Variant} (hv : v.publishOnlyOnSuccess = true) {limit : Nat} {k h : MSt} {e : Ev}
    (hc : Cnt k.st) (hs : mstep m v limit k e = some h) : Cnt h.st := by
  obtain ⟨t, ht, rfl⟩ := mstep_some hs
  rw [mghost_st]
  exact cnt_step (v := k.eff m v) (by simpa [meff_eq] using hv) hc ht

theorem mcnt_reach {m : Mode} {v : Variant} (hv : v.publishOnlyOnSuccess = true) {limit : Nat} {k : MSt}
    (h : MReach m v limit k) : Cnt k.st := by
  obtain ⟨base, evs, h⟩ := h
  exact (isRun_mrun m v limit).reach (fun _ _ _ hk hs => mcnt_step hv hk hs) (cnt_init base) h

/-! ### all modes: the cover invariant by window, the two windows, coming to rest -/

/-- the un-synced bytes are within the limit, the bytes given up in the two windows, and `x` more -/
def MSt.within (limit : Nat) (k : MSt) (x : Nat) : Prop := k.st.size ≤ k.st.synced + limit + (k.late + k.unseen) + x

/-- either the un-synced bytes are within `limit + late + unseen`, or something is still going to look at them: at `idle` a
    request with no task in its way or a client call about to send one; in the other phases a look of the task at the
    dirty bytes, unless it is in one of the two windows, where the bytes appended since its last look (`win`) are not yet
    accounted for -/
def Cover3 (m : Mode) (limit : Nat) (k : MSt) : Prop :=
  (k.st.phase = .idle → Asked k.st ∨ k.within limit 0) ∧
  (k.early m = true → k.within limit k.win) ∧
  (k.pastLook m = true → k.within limit 0 ∨ (Asked k.st ∧ k.within limit k.win))

theorem cover3_init (m : Mode) (limit base : Nat) : Cover3 m limit (minit base) :=
  ⟨fun _ => Or.inr (by simp [MSt.within, minit, init]), nofun, nofun⟩

theorem cover3_step {m : Mode} {v : Variant} (hv : v.recheckOk = true) {limit : Nat} {k h : MSt} {e : Ev}
    (hc : Ctl k.st) (hs : Cover3 m limit k) (hq : m = .everyExit ∨ e.isFailure = false)
    (hst : mstep m v limit k e = some h) : Cover3 m limit h := by
  obtain ⟨t, ht, rfl⟩ := mstep_some hst
  clear hst
  obtain ⟨hf, hh, hr⟩ := hc
  obtain ⟨hI, hE, hP⟩ := hs
  simp only [Variant.recheckOk, Bool.and_eq_true] at hv
  obtain ⟨⟨⟨hv1, hv2⟩, hv3⟩, hv4⟩ := hv
  cases Step.of_step ht
  -- an append: at `idle` and in window (b) the flag is clear, so when it is over the limit a request follows; in the
  -- windows the bytes go to `win`
  case write n | append n =>
    all_goals
      refine ⟨fun hi => ?_, fun he => ?_, fun hp => ?_⟩
      · have hfl : k.st.flag = false := by rw [hf, show k.st.phase = .idle from hi]; rfl
        simp [Asked, MSt.within, mghost, afterWrite, shouldTryFsync, tooMany, hfl] at hi ⊢
        split <;> omega
      · have := hE he
        simp [MSt.within, mghost, afterWrite, show k.early m = true from he] at this ⊢
        omega
      · have := hP hp
        have hfl : k.st.flag = false := hf.trans (MSt.owns_of_pastLook hp)
        simp [MSt.within, mghost, afterWrite, show k.pastLook m = true from hp, Asked, shouldTryFsync, tooMany,
          hfl] at this ⊢
        split <;> omega
  case tickReap | tickIdle => exact ⟨hI, hE, hP⟩
  case decide hpd =>
    have hA : k.st.phase.owns = false → 0 < (if k.st.flag = true then k.st.queue else k.st.queue + 1) :=
      fun ho => by simp [hf.trans ho]
    exact ⟨fun hi => Or.inl (Or.inl (hA (by rw [show k.st.phase = .idle from hi]; rfl))), hE,
      fun hp => (hP hp).imp id fun h => ⟨Or.inl (hA (MSt.owns_of_pastLook hp)), h.2⟩⟩
  -- a request dropped in window (b) moves `win` into `late`
  case recvDrop hq' hh' ha =>
    refine ⟨fun hi => absurd (by rwa [mghost_st] at hi) (hh.1 hh'), ?_, ?_⟩ <;> by_cases hp : k.pastLook m = true
    · rw [mghost_recv_drop _ hh' hp]
      exact fun he => nomatch (MSt.pastLook_of_early he).symm.trans hp
    · rw [mghost_recv_keep _ fun h => hp h.2]
      exact hE
    · rw [mghost_recv_drop _ hh' hp]
      have := hP hp
      simp only [MSt.within] at this ⊢
      exact fun _ => Or.inl (by omega)
    · rw [mghost_recv_keep _ fun h => hp h.2]
      exact fun hp' => absurd hp' hp
  case rotate base hl =>
    refine ⟨fun _ => Or.inr ?_, fun _ => ?_, fun _ => Or.inl ?_⟩ <;> simp [MSt.within, mghost]
  case recvSpawn | casWon | checkOver | start | recheckOver => simp [Cover3, MSt.early, MSt.pastLook]
  case casLost hp hf' => rw [hp] at hf; cases hf.symm.trans hf'
  case recvUnreaped hq hh' hr' => simp [meff_eq, hv3] at hr'
  -- a failed sync loses the re-check, except where every exit has it
  case completeFail =>
    rcases hq with rfl | hq
    · simp [Cover3, MSt.early, MSt.pastLook, mghost, MSt.look]
    · cases hq
  case checkWithin hp hd =>
    simp [Cover3, MSt.early, MSt.pastLook, MSt.within, mghost, St.dirty] at hd ⊢
    omega
  case completeOk cap hp => simp [Cover3, MSt.early, MSt.pastLook, mghost, look_true]
  -- the release that ends window (c) moves `win` into `unseen` and opens window (b)
  case release r hp =>
    refine ⟨fun hi => (by rw [mghost_st] at hi; cases hi), ?_, ?_⟩ <;> cases hlk : k.look m
    · rw [mghost_release_nolook _ hlk]
      simp [MSt.early]
    · rw [mghost_release_look _ hlk]
      simp [MSt.early]
    · rw [mghost_release_nolook _ hlk]
      have := hE (by simp [MSt.early, hp, hlk])
      simp only [MSt.within] at this ⊢
      exact fun _ => Or.inl (by omega)
    · rw [mghost_release_look _ hlk]
      simp [MSt.pastLook, look_mk, hlk]
  case recheckDone hp hr' hd =>
    have hfl : k.st.flag = false := by rw [hf, hp]; rfl
    simp [Cover3, MSt.early, MSt.pastLook, MSt.within, mghost, St.dirty, hfl] at hd ⊢
    omega
  -- the task can end from window (b) only
  case finish hp =>
    have hpl : k.pastLook m = true := by
      rcases hp with hp | ⟨hp, hre⟩
      · simp [MSt.pastLook, hp]
      · simpa [MSt.pastLook, hp, meff_eq, hv4] using hre
    exact ⟨fun _ => (hP hpl).elim Or.inr fun h => Or.inl h.1, nofun, nofun⟩

theorem cover3_run {m : Mode} {v : Variant} (hv : v.recheckOk = true) {limit : Nat} {k h : MSt} {evs : List Ev}
    (hc : Ctl k.st) (hs : Cover3 m limit k) (hq : ∀ e ∈ evs, m = .everyExit ∨ e.isFailure = false)
    (hr : mrun m v limit k evs = some h) : Ctl h.st ∧ Cover3 m limit h :=
  (isRun_mrun m v limit).induct (P := fun k => Ctl k.st ∧ Cover3 m limit k) (Q := fun e => m = .everyExit ∨ e.isFailure = false)
    (fun _ _ _ hk hq hs => ⟨mctl_step (Variant.guarded_of_recheckOk hv) hk.1 hs, cover3_step hv hk.1 hk.2 hq hs⟩)
    evs k h ⟨hc, hs⟩ hq hr

theorem Cover3.bound {m : Mode} {limit : Nat} {k : MSt} (hc : Cover3 m limit k) (hq : k.st.quiescent = true) :
    k.st.dirty ≤ limit + k.late + k.unseen := by
  rw [quiescent_iff] at hq
  have := hc.1 hq.2.1
  simp only [Asked, hq.1, hq.2.2, Nat.lt_irrefl, false_or, MSt.within] at this
  simp only [St.dirty]
  omega

theorem mbounded_at_quiescence {m : Mode} {v : Variant} (hv : v.recheckOk = true) {limit : Nat} {k : MSt}
    (h : MReachOk m v limit k) (hq : k.st.quiescent = true) : k.st.dirty ≤ limit + k.late + k.unseen := by
  obtain ⟨base, evs, hok, h⟩ := h
  exact (cover3_run hv (ctl_init base) (cover3_init m limit base) (fun e he => Or.inr (hok e he)) h).2.bound hq

/-- failures allowed: where every exit has the re-check a failed sync is retried -/
theorem mbounded_everyExit {v : Variant} (hv : v.recheckOk = true) {limit : Nat} {k : MSt}
    (h : MReach .everyExit v limit k) (hq : k.st.quiescent = true) : k.st.dirty ≤ limit + k.late + k.unseen := by
  obtain ⟨base, evs, h⟩ := h
  exact (cover3_run hv (ctl_init base) (cover3_init _ limit base) (fun _ _ => Or.inl rfl) h).2.bound hq

theorem mlate_step {m : Mode} {v : Variant} {limit : Nat} {k h : MSt} {e : Ev}
    (hs : mstep m v limit k e = some h) (hl : h.late ≠ 0) :
    k.late ≠ 0 ∨
      (e = .recv ∧ 0 < k.st.queue ∧ k.st.hdl = .running ∧ k.pastLook m = true ∧ v.awaitRunning = false) := by
  obtain ⟨t, ht, rfl⟩ := mstep_some hs
  cases Step.of_step ht
  case recvDrop hq hh ha =>
    by_cases hp : k.pastLook m = true
    · exact Or.inr ⟨rfl, Nat.pos_of_ne_zero hq, hh, hp, by simpa [meff_eq] using ha⟩
    · rw [mghost_recv_keep _ fun h => hp h.2] at hl; exact Or.inl hl
  case recvSpawn hq hh hr => rw [mghost_recv_keep _ fun h => hh h.1] at hl; exact Or.inl hl
  case recvUnreaped hq hh hr => rw [mghost_recv_keep _ fun h => by simp [hh] at h] at hl; exact Or.inl hl
  case release => simp only [mghost] at hl; split at hl <;> exact Or.inl hl
  case start | rotate => cases hl rfl
  all_goals exact Or.inl hl

theorem mlate_pos_has_drop {m : Mode} {v : Variant} {limit : Nat} (evs : List Ev) (k h : MSt)
    (hr : mrun m v limit k evs = some h) (hl : h.late ≠ 0) :
    k.late ≠ 0 ∨ ∃ pre post j, evs = pre ++ .recv :: post ∧ mrun m v limit k pre = some j ∧
      0 < j.st.queue ∧ j.st.hdl = .running ∧ j.pastLook m = true ∧ v.awaitRunning = false :=
  (mrun_cause (P := fun k => k.late ≠ 0) (fun _ _ _ => mlate_step) evs k h hr hl).imp id
    fun ⟨pre, _, post, j, h1, h2, rfl, h3⟩ => ⟨pre, post, j, h1, h2, h3⟩

/-- a worker that awaits an unfinished task instead of dropping the request closes window (b), in every mode -/
theorem mlate_zero_of_awaitRunning {m : Mode} {v : Variant} (ha : v.awaitRunning = true) {limit : Nat} {k h : MSt}
    {evs : List Ev} (h0 : k.late = 0) (hr : mrun m v limit k evs = some h) : h.late = 0 := by
  apply Classical.byContradiction
  intro hl
  rcases mlate_pos_has_drop evs k h hr hl with h1 | ⟨_, _, _, _, _, _, _, _, h2⟩
  · exact h1 h0
  · rw [ha] at h2; cases h2

/-- no `recv` of the schedule meets an unfinished handle while the task is past its last re-check -/
def mnoLateDrop (m : Mode) (v : Variant) (limit : Nat) : MSt → List Ev → Bool
  | _, [] => true
  | k, e :: es =>
    (match e with
      | .recv => !(k.st.hdl == .running && k.st.phase == .done)
      | _ => true) &&
    (match mstep m v limit k e with
      | some h => mnoLateDrop m v limit h es
      | none => true)

theorem mnoLateDrop_split {m : Mode} {v : Variant} {limit : Nat} : ∀ (pre : List Ev) (k j : MSt) (post : List Ev),
    mnoLateDrop m v limit k (pre ++ .recv :: post) = true → mrun m v limit k pre = some j →
    ¬ (j.st.hdl = .running ∧ j.st.phase = .done) := by
  intro pre
  induction pre with
  | nil =>
    intro k j post hn hr
    simp only [mrun_nil, Option.some.injEq] at hr
    subst hr
    simp only [List.nil_append, mnoLateDrop, Bool.and_eq_true, Bool.not_eq_true'] at hn
    intro hd
    simp [hd.1, hd.2] at hn
  | cons e es ih =>
    intro k j post hn hr
    obtain ⟨u, hst, hr⟩ := (isRun_mrun m v limit).cons_some hr
    simp only [List.cons_append, mnoLateDrop, hst, Bool.and_eq_true] at hn
    exact ih u j post hn.2 hr

/-- the part of window (c) that matters: `unseen` (and the part of `win` that will become `unseen`) is 0 unless a
    write appends bytes while the task is past a look that has no re-check behind it and still holds the flag -/
theorem munseen_step {m : Mode} {v : Variant} {limit : Nat} {k h : MSt} {e : Ev}
    (hs : mstep m v limit k e = some h) (hl : h.unseen ≠ 0 ∨ (h.early m = true ∧ h.win ≠ 0)) :
    (k.unseen ≠ 0 ∨ (k.early m = true ∧ k.win ≠ 0)) ∨
      (k.early m = true ∧ ∃ n, 0 < n ∧ (e = .write n ∨ e = .append n)) := by
  obtain ⟨t, ht, rfl⟩ := mstep_some hs
  clear hs
  cases Step.of_step ht
  case write n | append n =>
    all_goals
      refine hl.elim (fun h => Or.inl (Or.inl h)) fun ⟨he, hw⟩ => ?_
      have he' : k.early m = true := he
      simp only [mghost, he', Bool.or_true, if_true] at hw
      by_cases hn : n = 0
      · exact Or.inl (Or.inr ⟨he', by omega⟩)
      · exact Or.inr ⟨he', n, by omega, by simp⟩
  case decide | tickReap | tickIdle => exact Or.inl hl
  case release r hp =>
    cases hlk : k.look m
    · rw [mghost_release_nolook _ hlk] at hl
      simp [MSt.early] at hl
      exact Or.inl (by simp [MSt.early, hp, hlk]; omega)
    · rw [mghost_release_look _ hlk] at hl
      simp [MSt.early] at hl
      exact Or.inl (Or.inl hl)
  case recvDrop hq hh ha =>
    by_cases hp : k.pastLook m = true
    · rw [mghost_recv_drop _ hh hp] at hl
      exact Or.inl (hl.imp id fun h => nomatch (MSt.pastLook_of_early h.1).symm.trans hp)
    · rw [mghost_recv_keep _ fun h => hp h.2] at hl
      exact Or.inl hl
  case recvSpawn hq hh hr =>
    rw [mghost_recv_keep _ fun h => hh h.1] at hl
    simp [MSt.early] at hl
    exact Or.inl (Or.inl hl)
  case recvUnreaped hq hh hr =>
    rw [mghost_recv_keep _ fun h => by simp [hh] at h] at hl
    exact Or.inl hl
  all_goals
    simp [mghost, MSt.early] at hl
  all_goals exact Or.inl (Or.inl hl)

theorem munseen_pos_has_early_write {m : Mode} {v : Variant} {limit : Nat} (evs : List Ev) (k h : MSt)
    (hr : mrun m v limit k evs = some h) (hl : h.unseen ≠ 0 ∨ (h.early m = true ∧ h.win ≠ 0)) :
    (k.unseen ≠ 0 ∨ (k.early m = true ∧ k.win ≠ 0)) ∨
      ∃ pre e post j n, evs = pre ++ e :: post ∧ mrun m v limit k pre = some j ∧ j.early m = true ∧ 0 < n ∧
        (e = .write n ∨ e = .append n) :=
  (mrun_cause (P := fun k => k.unseen ≠ 0 ∨ (k.early m = true ∧ k.win ≠ 0)) (fun _ _ _ => munseen_step) evs k h hr
    hl).imp id fun ⟨pre, e, post, j, h1, h2, h3, n, h4, h5⟩ => ⟨pre, e, post, j, n, h1, h2, h3, h4, h5⟩

theorem early_everyExit (k : MSt) : k.early .everyExit = false := by
  unfold MSt.early; split <;> rfl

theorem unseen_zero_everyExit {v : Variant} {limit : Nat} {k h : MSt} {evs : List Ev} (h0 : k.unseen = 0)
    (hr : mrun .everyExit v limit k evs = some h) : h.unseen = 0 := by
  apply Classical.byContradiction
  intro hl
  rcases munseen_pos_has_early_write evs k h hr (Or.inl hl) with (h1 | ⟨h1, _⟩) | ⟨_, _, _, j, _, _, _, h1, _⟩
  · exact h1 h0
  all_goals rw [early_everyExit] at h1; cases h1

def MSt.measure (m : Mode) (limit : Nat) (k : MSt) : Nat :=
  8 * k.st.queue + 9 * k.st.pending + k.st.phase.rank + 6 * jump limit (k.look m) k.st

/-- the internal event enabled in a state of the wrapper -/
def mnext (m : Mode) (v : Variant) (k : MSt) : Option Ev := next (k.eff m v) k.st

/-- let the wrapped protocol run by itself (every sync succeeding) for at most `fuel` steps -/
def msettle (m : Mode) (v : Variant) (limit : Nat) : Nat → MSt → MSt
  | 0, k => k
  | fuel + 1, k =>
    match mnext m v k with
    | none => k
    | some e =>
      match mstep m v limit k e with
      | some h => msettle m v limit fuel h
      | none => k

theorem mmeasure_step {m : Mode} {v : Variant} {limit : Nat} {k h : MSt} {e : Ev}
    (hc : Ctl k.st) (hi : e.internal = true) (hq : e.isFailure = false) (hst : mstep m v limit k e = some h) :
    h.measure m limit < k.measure m limit := by
  obtain ⟨t, ht, rfl⟩ := mstep_some hst
  have hl := look_mghost m k e t
  have := mu_step (w := k.eff m v) (lk := k.look m) (lk' := (mghost m k e t).look m) hc hi hq ht
    (by
      intro hp hre
      simp only [meff_eq, hp, decide_true, Bool.true_and, Bool.not_not, Bool.and_eq_true] at hre
      exact hre.2)
    hl.1 hl.2
  simpa [MSt.measure, mu] using this

theorem m_comes_to_rest {m : Mode} {v : Variant} (hv : v.guarded = true) (ha : v.awaitRunning = false) (limit : Nat)
    (k : MSt) (hc : Ctl k.st) :
    ∃ evs h, (∀ e ∈ evs, e.internal = true ∧ e.isFailure = false) ∧ mrun m v limit k evs = some h ∧
      h.st.quiescent = true ∧ evs.length ≤ k.measure m limit ∧ h.st.size = k.st.size ∧ h.st.blob = k.st.blob := by
  refine (isRun_mrun m v limit).finish (D := fun k => k.st.quiescent = true) (μ := MSt.measure m limit)
    (P := fun k => Ctl k.st) (K := fun a b => b.st.size = a.st.size ∧ b.st.blob = a.st.blob) (fun _ => ⟨rfl, rfl⟩)
    (fun h1 h2 => ⟨h2.1.trans h1.1, h2.2.trans h1.2⟩)
    (fun k hc hd => ?_) k hc
  obtain ⟨e, hx⟩ := Option.ne_none_iff_exists'.1 (mt (next_none_iff (k.eff m v) k.st).1 hd)
  obtain ⟨t, ht⟩ := Option.isSome_iff_exists.1 (next_enabled (v := k.eff m v) (by simpa [meff_eq] using ha) limit hx)
  have hst : mstep m v limit k e = some (mghost m k e t) := by simp [mstep, ht]
  have hie := next_internal hx
  have hk := internal_step_keeps hie.1 ht
  exact ⟨e, _, hst, mmeasure_step hc hie.1 hie.2 hst, mctl_step hv hc hst, hie, by simpa using hk.1,
    by simpa using hk.2.1⟩

theorem mwrite_over_limit_syncs {m : Mode} {v : Variant} (hv : v.recheckOk = true) {limit : Nat} {k : MSt}
    (hc : Ctl k.st) (hq : k.st.quiescent = true) {n : Nat} (hover : k.st.size + n - k.st.synced > limit) :
    ∃ t u, mrun m v limit k [.write n, .recv, .cas, .check, .start] = some t ∧
      t.st.phase = .syncing (k.st.size + n) ∧ t.st.flag = true ∧ t.st.hdl = .running ∧
      mrun m v limit t [.complete true, .release, .recheck, .finish] = some u ∧
      u.st.quiescent = true ∧ u.st.flag = false ∧ u.st.hdl = .finished ∧
      u.st.size = k.st.size + n ∧ u.st.synced = max k.st.synced (k.st.size + n) ∧ u.st.blob = k.st.blob ∧
      u.late = 0 ∧ u.unseen = 0 := by
  obtain ⟨hf, hh, hr⟩ := hc
  simp only [Variant.recheckOk, Bool.and_eq_true] at hv
  obtain ⟨⟨⟨hv1, hv2⟩, hv3⟩, hv4⟩ := hv
  rw [quiescent_iff] at hq
  obtain ⟨hq1, hq2, hq3⟩ := hq
  obtain ⟨⟨size, synced, flag, hdl, phase, queue, blob, durable, blind, pending⟩, ah, win, late, unseen⟩ := k
  simp only at hq1 hq2 hq3 hover hf hh
  subst hq1 hq2 hq3
  simp only [Phase.owns] at hf
  subst hf
  have hlt : limit < size + n - synced := hover
  have hle3 : ¬ (limit < size + n - max synced (size + n)) := by omega
  cases hdl
  case running => simp at hh
  all_goals
    simp [mrun, mstep, mghost, MSt.eff, look_true, MSt.pastLook, step, shouldTryFsync, tooMany, St.dirty,
      Phase.blind, hlt, hle3, St.quiescent, hv3, hv4]

/-! ### the first two modes are the two readings of `GSt` -/

@[simp] theorem toG_st (k : MSt) : k.toG.st = k.st := rfl

theorem look_ofBool (c : Bool) (k : MSt) : k.look (.ofBool c) = k.toG.look c := by
  cases c <;> simp [MSt.look, Mode.ofBool, GSt.look, MSt.toG]

theorem pastLook_ofBool (c : Bool) (k : MSt) : k.pastLook (.ofBool c) = k.toG.pastLook c := by
  simp only [MSt.pastLook, GSt.pastLook, look_ofBool, toG_st]

theorem early_ofBool (c : Bool) (k : MSt) : k.early (.ofBool c) = k.toG.early c := by
  simp only [MSt.early, GSt.early, look_ofBool, toG_st]

theorem eff_ofBool (c : Bool) (v : Variant) (k : MSt) : k.eff (.ofBool c) v = k.toG.eff c v := by
  simp only [MSt.eff, GSt.eff, look_ofBool, toG_st]
  rfl

theorem afterCas_ofBool (c : Bool) (w : Bool) : (Mode.ofBool c).afterCas w = false := by
  cases c <;> rfl

theorem mghost_ofBool (c : Bool) (k : MSt) (e : Ev) (t : St) :
    (mghost (.ofBool c) k e t).toG = ghost c k.toG e t := by
  have hp := pastLook_ofBool c k
  have he := early_ofBool c k
  have hl := look_ofBool c k
  cases e <;> simp only [mghost, ghost, hp, he, hl, afterCas_ofBool, toG_st, apply_ite MSt.toG] <;> rfl

theorem mstep_ofBool (c : Bool) (v : Variant) (limit : Nat) (k : MSt) (e : Ev) :
    (mstep (.ofBool c) v limit k e).map MSt.toG = gstep c v limit k.toG e := by
  simp only [mstep, gstep, eff_ofBool, toG_st, Option.map_map]
  cases step (k.toG.eff c v) limit k.st e with
  | none => rfl
  | some t => simp [mghost_ofBool]

theorem mrun_ofBool (c : Bool) (v : Variant) (limit : Nat) (evs : List Ev) (k : MSt) :
    (mrun (.ofBool c) v limit k evs).map MSt.toG = grun c v limit k.toG evs :=
  (isRun_mrun _ v limit).map (isRun_grun c v limit) (mstep_ofBool c v limit) evs k

/-- in the mode `everyExit` the wrapper is `step v` with ghost fields on top -/
theorem mrun_everyExit_st (v : Variant) (limit : Nat) (evs : List Ev) (k : MSt) :
    (mrun .everyExit v limit k evs).map (·.st) = run v limit k.st evs := by
  have h1 : (mrun .everyExit v limit k evs).map MSt.toG = grun false v limit k.toG evs := mrun_ofBool false v limit evs k
  have h2 : (grun false v limit k.toG evs).map (·.st) = run v limit k.st evs := grun_false_st v limit evs k.toG
  rw [← h2, ← h1, Option.map_map]
  rfl

theorem run_of_mrun_everyExit {v : Variant} {limit : Nat} {evs : List Ev} {k h : MSt}
    (hr : mrun .everyExit v limit k evs = some h) : run v limit k.st evs = some h.st := by
  rw [← mrun_everyExit_st, hr]; rfl

theorem mrun_everyExit_of_run {v : Variant} {limit : Nat} {evs : List Ev} {k : MSt} {s : St}
    (h : run v limit k.st evs = some s) : ∃ h, mrun .everyExit v limit k evs = some h ∧ h.st = s :=
  Option.map_eq_some_iff.1 ((mrun_everyExit_st v limit evs k).trans h)

/-- the state of this wrapper that `MSt.toG` maps to `g` -/
def GSt.toM (g : GSt) : MSt := ⟨g.st, g.afterSync, g.win, g.late, g.unseen⟩

theorem grun_iff {c : Bool} {v : Variant} {limit : Nat} {g h : GSt} {evs : List Ev} :
    grun c v limit g evs = some h ↔ mrun (.ofBool c) v limit g.toM evs = some h.toM := by
  have := mrun_ofBool c v limit evs g.toM
  change _ = grun c v limit g evs at this
  rw [← this]
  cases mrun (.ofBool c) v limit g.toM evs with
  | none => simp
  | some k =>
    simp only [Option.map_some, Option.some.injEq]
    exact ⟨fun e => e ▸ rfl, fun e => e ▸ rfl⟩

theorem greach_iff {c : Bool} {v : Variant} {limit : Nat} {g : GSt} :
    GReach c v limit g ↔ MReach (.ofBool c) v limit g.toM :=
  exists_congr fun base => exists_congr fun _ => grun_iff (g := ginit base)

theorem greachOk_iff {c : Bool} {v : Variant} {limit : Nat} {g : GSt} :
    GReachOk c v limit g ↔ MReachOk (.ofBool c) v limit g.toM :=
  exists_congr fun base => exists_congr fun _ => and_congr_right fun _ => grun_iff (g := ginit base)

/-! ### … so the two-valued wrapper, and `step` under it, have the theory of their modes -/

theorem late_pos_has_drop {c : Bool} {v : Variant} {limit : Nat} (evs : List Ev) (g h : GSt)
    (hr : grun c v limit g evs = some h) (hl : h.late ≠ 0) :
    g.late ≠ 0 ∨ ∃ pre post k, evs = pre ++ .recv :: post ∧ grun c v limit g pre = some k ∧
      0 < k.st.queue ∧ k.st.hdl = .running ∧ k.pastLook c = true ∧ v.awaitRunning = false :=
  (mlate_pos_has_drop evs g.toM h.toM (grun_iff.1 hr) hl).imp id fun ⟨pre, post, j, h1, h2, h3, h4, h5, h6⟩ =>
    ⟨pre, post, j.toG, h1, grun_iff.2 h2, h3, h4, pastLook_ofBool c j ▸ h5, h6⟩

theorem unseen_run_false {v : Variant} {limit : Nat} {g h : GSt} {evs : List Ev} (h0 : g.unseen = 0)
    (hr : grun false v limit g evs = some h) : h.unseen = 0 :=
  unseen_zero_everyExit (k := g.toM) h0 (grun_iff.1 hr)

def GSt.measure (c : Bool) (limit : Nat) (g : GSt) : Nat :=
  8 * g.st.queue + 9 * g.st.pending + g.st.phase.rank + 6 * jump limit (g.look c) g.st

theorem g_comes_to_rest {c : Bool} {v : Variant} (hv : v.guarded = true) (ha : v.awaitRunning = false) (limit : Nat)
    (g : GSt) (hc : Ctl g.st) :
    ∃ evs h, (∀ e ∈ evs, e.internal = true ∧ e.isFailure = false) ∧ grun c v limit g evs = some h ∧
      h.st.quiescent = true ∧ evs.length ≤ g.measure c limit ∧ h.st.size = g.st.size ∧ h.st.blob = g.st.blob := by
  obtain ⟨evs, h, h1, h2, h3, h4, h5, h6⟩ := m_comes_to_rest (m := .ofBool c) hv ha limit g.toM hc
  refine ⟨evs, h.toG, h1, grun_iff.2 h2, h3, ?_, h5, h6⟩
  rw [show g.measure c limit = g.toM.measure (.ofBool c) limit by simp only [MSt.measure, look_ofBool]; rfl]
  exact h4

theorem write_over_limit_syncs_recheck {v : Variant} (hv : v.recheckOk = true) {limit : Nat} {s : St} (hc : Ctl s)
    (hq : s.quiescent = true) {n : Nat} (hover : s.size + n - s.synced > limit) :
    ∃ t u, run v limit s [.write n, .recv, .cas, .check, .start] = some t ∧
      t.phase = .syncing (s.size + n) ∧ t.flag = true ∧ t.hdl = .running ∧
      run v limit t [.complete true, .release, .recheck, .finish] = some u ∧
      u.quiescent = true ∧ u.flag = false ∧ u.hdl = .finished ∧
      u.size = s.size + n ∧ u.synced = max s.synced (s.size + n) ∧ u.blob = s.blob := by
  obtain ⟨t, u, h1, h2, h3, h4, h5, h6, h7, h8, h9, h10, h11, _⟩ :=
    mwrite_over_limit_syncs (m := .everyExit) (k := { st := s }) hv hc hq hover
  exact ⟨t.st, u.st, run_of_mrun_everyExit h1, h2, h3, h4, run_of_mrun_everyExit h5, h6, h7, h8, h9, h10, h11⟩

/-! ### the amended reading without failures: the re-check is ahead of every release -/

/-- while the task body is between its compare-exchange and the re-check, the re-check is ahead -/
def Ahead (k : MSt) : Prop :=
  match k.st.phase with
  | .held | .checked | .syncing _ | .returned _ | .released => k.ahead = true
  | _ => True

theorem ahead_init (base : Nat) : Ahead (minit base) := by
  simp [Ahead, minit, init]

/-- in the amended reading only a failing sync (or a lost compare-exchange: excluded by `Ctl`) loses the re-check -/
theorem ahead_step {v : Variant} {limit : Nat} {k h : MSt} {e : Ev} (hc : Ctl k.st) (ha : Ahead k)
    (hq : e.isFailure = false) (hst : mstep .amended v limit k e = some h) : Ahead h := by
  obtain ⟨t, ht, rfl⟩ := mstep_some hst
  have hf := hc.flag
  cases Step.of_step ht
  case write | append | decide | tickReap | tickIdle | rotate => exact ha
  case recvDrop | recvUnreaped => simp only [mghost]; split <;> exact ha
  case casLost hp hf' => rw [hp] at hf; cases hf.symm.trans hf'
  case completeFail => cases hq
  case release r hp => simp only [mghost]; split <;> simpa [Ahead, hp] using ha
  all_goals rename_i hp; simp_all [Ahead, mghost, Mode.afterCas]

theorem amended_run {v : Variant} (hv : v.guarded = true) {limit : Nat} {k h : MSt} {evs : List Ev}
    (hc : Ctl k.st) (ha : Ahead k) (hq : ∀ e ∈ evs, e.isFailure = false)
    (hr : mrun .amended v limit k evs = some h) : Ctl h.st ∧ Ahead h :=
  (isRun_mrun .amended v limit).induct (P := fun k => Ctl k.st ∧ Ahead k) (Q := fun e => e.isFailure = false)
    (fun _ _ _ hk hq hs => ⟨mctl_step hv hk.1 hs, ahead_step hk.1 hk.2 hq hs⟩) evs k h ⟨hc, ha⟩ hq hr

/-! ### without a failing sync the amended reading IS `step` -/

/-- what the statements read off a state of either wrapper: the protocol state and the three byte-counting ghosts -/
def MSt.obs (k : MSt) : St × Nat × Nat × Nat := (k.st, k.win, k.late, k.unseen)
def gobs (g : GSt) : St × Nat × Nat × Nat := (g.st, g.win, g.late, g.unseen)

theorem eff_amended_of_ahead {v : Variant} {k : MSt} (ha : Ahead k) : k.eff .amended v = v := by
  simp only [MSt.eff]
  split
  · rename_i h
    simp [Ahead, h.1, MSt.look] at ha h
    simp [ha] at h
  · rfl

theorem mghost_amended_obs {k : MSt} {g : GSt} (ha : Ahead k) (ho : k.obs = gobs g) (e : Ev) (t : St)
    (hrel : e = .release → ∃ r, k.st.phase = .returned r) :
    (mghost .amended k e t).obs = gobs (ghost false g e t) := by
  obtain ⟨s, ah, win, late, unseen⟩ := k
  obtain ⟨s', as, win', late', unseen'⟩ := g
  simp only [MSt.obs, gobs, Prod.mk.injEq] at ho
  obtain ⟨rfl, rfl, rfl, rfl⟩ := ho
  -- the windows of the two wrappers coincide: where `look` is read, `Ahead` makes it true
  have hp : MSt.pastLook .amended ⟨s, ah, win, late, unseen⟩ = GSt.pastLook false ⟨s, as, win, late, unseen⟩ := by
    simp only [MSt.pastLook, GSt.pastLook, MSt.look, look_false]
    split <;> simp_all [Ahead]
  have he : MSt.early .amended ⟨s, ah, win, late, unseen⟩ = GSt.early false ⟨s, as, win, late, unseen⟩ := by
    simp only [MSt.early, GSt.early, MSt.look, look_false]
    split <;> simp_all [Ahead]
  cases e
  case release =>
    obtain ⟨r, hr⟩ := hrel rfl
    have : ah = true := by simpa [Ahead, show s.phase = .returned r from hr] using ha
    simp [mghost, ghost, MSt.look, this, MSt.obs, gobs]
  all_goals simp only [mghost, ghost, hp, he] <;> (try split) <;> rfl

theorem mstep_amended_obs {v : Variant} {limit : Nat} {k : MSt} {g : GSt} (ha : Ahead k) (ho : k.obs = gobs g) (e : Ev) :
    (mstep .amended v limit k e).map MSt.obs = (gstep false v limit g e).map gobs := by
  have hst : k.st = g.st := by simpa [MSt.obs, gobs] using congrArg Prod.fst ho
  simp only [mstep, gstep, eff_amended_of_ahead ha, eff_false, Option.map_map, ← hst]
  cases ht : step v limit k.st e with
  | none => rfl
  | some t =>
    have hrel : e = .release → ∃ r, k.st.phase = .returned r := by
      rintro rfl
      cases Step.of_step ht with | release r hp => exact ⟨r, hp⟩
    simp [mghost_amended_obs ha ho e t hrel]

theorem mrun_amended_obs {v : Variant} (hv : v.guarded = true) {limit : Nat} : ∀ (evs : List Ev) (k : MSt) (g : GSt),
    Ctl k.st → Ahead k → k.obs = gobs g → (∀ e ∈ evs, e.isFailure = false) →
    (mrun .amended v limit k evs).map MSt.obs = (grun false v limit g evs).map gobs := by
  intro evs
  induction evs with
  | nil => intro k g _ _ ho _; simp [ho]
  | cons e es ih =>
    intro k g hc ha ho hq
    have h1 := mstep_amended_obs (v := v) (limit := limit) ha ho e
    rw [mrun_cons, grun_cons]
    cases hm : mstep .amended v limit k e <;> cases hg : gstep false v limit g e <;> simp [hm, hg] at h1 ⊢
    exact ih _ _ (mctl_step hv hc hm) (ahead_step hc ha (hq e (by simp)) hm) h1 (fun e he => hq e (by simp [he]))

theorem mrun_amended_eq_run {v : Variant} (hv : v.guarded = true) {limit base : Nat} {evs : List Ev}
    (hok : ∀ e ∈ evs, e.isFailure = false) :
    (mrun .amended v limit (minit base) evs).map (·.st) = run v limit (init base) evs ∧
      ∀ k, mrun .amended v limit (minit base) evs = some k → k.late = lateOf v limit base evs ∧ k.unseen = 0 := by
  have h := mrun_amended_obs hv (limit := limit) evs (minit base) (ginit base) (ctl_init base) (ahead_init base) rfl hok
  have h2 := grun_false_st v limit evs (ginit base)
  constructor
  · have : (mrun .amended v limit (minit base) evs).map (·.st) = (grun false v limit (ginit base) evs).map (·.st) := by
      have := congrArg (Option.map Prod.fst) h
      simpa [Option.map_map, Function.comp_def, MSt.obs, gobs] using this
    rw [this, h2]; rfl
  · intro k hk
    rw [hk] at h
    cases hg : grun false v limit (ginit base) evs with
    | none => rw [hg] at h; simp at h
    | some g =>
      rw [hg] at h
      simp only [Option.map_some, Option.some.injEq, MSt.obs, gobs, Prod.mk.injEq] at h
      refine ⟨by simp [lateOf, hg, h.2.2.1], ?_⟩
      rw [h.2.2.2]
      exact unseen_run_false (g := ginit base) rfl hg

/-- window (c) needs an exit without the re-check: without a failing sync the amended reading has none, as `step` has none -/
theorem unseen_zero_amended {v : Variant} (hv : v.guarded = true) {limit : Nat} {k : MSt}
    (h : MReachOk .amended v limit k) : k.unseen = 0 :=
  have ⟨_, _, hok, h⟩ := h
  ((mrun_amended_eq_run hv hok).2 k h).2

end SyncProto
end Pearl
