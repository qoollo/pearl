import Pearl.Model.Bytes
/-
Lemmas for the bincode primitives, slicing (`readExactAt`) and patching (`patchAt`).  The lemmas about the data
generator of Pearl/Model/Bytes.lean (`genData_length'`, `genData_crc_zero`) are in Pearl/Proofs/CrcForce.lean: the
generator uses the forcing.
-/
namespace Pearl

@[simp] theorem leBytes_length (k n : Nat) : (leBytes k n).length = k := by
  induction k generalizing n with
  | zero => rfl
  | succ k ih => simp [leBytes, ih]

@[simp] theorem le64_length (n : Nat) : (le64 n).length = 8 := leBytes_length 8 n
@[simp] theorem le32_length (n : Nat) : (le32 n).length = 4 := leBytes_length 4 n

theorem fromLe_leBytes (k n : Nat) : fromLe (leBytes k n) = n % 256 ^ k := by
  induction k generalizing n with
  | zero => simp [leBytes, fromLe, Nat.mod_one]
  | succ k ih =>
    have h1 : (UInt8.ofNat n).toNat = n % 256 := by simp [UInt8.toNat_ofNat']
    simp only [leBytes, fromLe, ih]
    rw [h1, Nat.pow_succ, Nat.mul_comm (256 ^ k) 256, Nat.mod_mul]

theorem fromLe_le64 {n : Nat} (h : n < 2 ^ 64) : fromLe (le64 n) = n := by
  rw [le64, fromLe_leBytes]; exact Nat.mod_eq_of_lt (by omega)

theorem fromLe_le32 {n : Nat} (h : n < 2 ^ 32) : fromLe (le32 n) = n := by
  rw [le32, fromLe_leBytes]; exact Nat.mod_eq_of_lt (by omega)

theorem fromLe_lt (l : List UInt8) : fromLe l < 256 ^ l.length := by
  induction l with
  | nil => simp [fromLe]
  | cons b l ih =>
    simp only [fromLe, List.length_cons, Nat.pow_succ]
    have := b.toNat_lt
    omega

theorem ofNat_fromLe_le32 (c : UInt32) : UInt32.ofNat (fromLe (le32 c.toNat)) = c := by
  rw [fromLe_le32 c.toNat_lt]; exact UInt32.ofNat_toNat

theorem ofNat_fromLe_singleton (b : UInt8) : UInt8.ofNat (fromLe [b]) = b := by
  simp [fromLe]

@[simp] theorem serVec_length (v : List UInt8) : (serVec v).length = 8 + v.length := by
  simp [serVec]

@[simp] theorem keyBytes_length (klen k : Nat) : (keyBytes klen k).length = klen := by
  simp [keyBytes]

theorem patchAt_append {p a a' s : List UInt8} {n : Nat} (hn : p.length = n) (ha : a'.length = a.length) :
    patchAt (p ++ (a ++ s)) n a' = p ++ (a' ++ s) := by
  subst hn
  unfold patchAt
  rw [List.take_left' rfl, ha, ← List.append_assoc p a s, List.drop_left' (by simp)]
  simp

theorem readExactAt_some_iff {file : List UInt8} {size off : Nat} {b : List UInt8} :
    readExactAt file size off = some b ↔ b = (file.drop off).take size ∧ b.length = size := by
  simp only [readExactAt]
  split
  · next hl => exact ⟨fun h => (by cases h; exact ⟨rfl, hl⟩), fun h => (by rw [h.1])⟩
  · next hl => exact ⟨fun h => (by cases h), fun h => absurd (h.1 ▸ h.2) hl⟩

theorem readExactAt_eq_some {file : List UInt8} {size off : Nat} {b : List UInt8}
    (h : readExactAt file size off = some b) :
    b = (file.drop off).take size ∧ b.length = size :=
  readExactAt_some_iff.mp h

theorem readExactAt_append {p a s : List UInt8} {size off : Nat} (hp : p.length = off)
    (ha : a.length = size) : readExactAt (p ++ (a ++ s)) size off = some a := by
  rw [readExactAt_some_iff, List.drop_left' hp, List.take_left' ha]
  exact ⟨rfl, ha⟩

theorem readExactAt_none_of_short {file : List UInt8} {size off : Nat} (h : file.length < off + size)
    (hs : 0 < size) : readExactAt file size off = none := by
  unfold readExactAt
  simp only [List.length_take, List.length_drop]
  rw [if_neg]; omega

theorem readExactAt_length_le {file : List UInt8} {size off : Nat} {b : List UInt8}
    (h : readExactAt file size off = some b) (hs : 0 < size) : off + size ≤ file.length := by
  obtain ⟨rfl, h2⟩ := readExactAt_eq_some h
  rw [List.length_take, List.length_drop] at h2
  omega

end Pearl
