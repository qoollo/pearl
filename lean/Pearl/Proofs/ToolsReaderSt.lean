import Pearl.Proofs.ToolsMany
import Pearl.Model.ToolsReaderSt
/-
C16b, the reader with the field `latest_wrong_header` as explicit state (Model/ToolsReaderSt.lean) against the
reader of Model/Tools.lean, which carries the wrong header in the error value.

The code today is `ReaderVariant.real`; `ReaderVariant.stale` is the seeded change C16-7.  ("Stale" here always means
the field `latest_wrong_header` read after it should have been cleared; the writer variant with a stale
`written_cached`, `Writer.StaleInv` in ToolsWriterBuggy.lean, is another matter.)

One call at a time (`readSingleRecordSt_spec`, `ReadAgree`, `readRecordSt_agree_of`); the variants that never read
the field stale return what `recoveryBlob` returns on every file (`ReaderVariant.Harmless`,
`recoveryBlobSt_harmless`); the seeded variant does so on every file along which no data failure follows a header
failure (`staleSafe`, `recoveryBlobSt_stale_safe`), which on a produced blob with altered records is read off the
altered records alone (`safeAt`, `staleSafe_slots`, `recoveryBlobSt_stale_flips`, `safeAt_single`).
-/
namespace Pearl

/-- the variants of the reader that never read the field stale: data failures are not routed to the skip
    routine, or the field is cleared after every valid header and an empty field is not an error -/
def ReaderVariant.Harmless (v : ReaderVariant) : Prop :=
  v.dataFailSkips = false ∨ (v.clearOnValid = true ∧ v.noneIsOk = true)

instance (v : ReaderVariant) : Decidable v.Harmless := by unfold ReaderVariant.Harmless; infer_instance

/-- `read_single_record` with explicit state against the model without: same result, same position, and
    what happens to the field -/
theorem readSingleRecordSt_spec (v : ReaderVariant) (file : List UInt8) (st : ReaderSt) :
    (∃ r p, readSingleRecord file st.pos = .ok (r, p) ∧
      readSingleRecordSt v file st = (.ok r, ⟨p, if v.clearOnValid then none else st.lwh⟩)) ∨
    (∃ h p, readSingleRecord file st.pos = .error (.headerValidation h p) ∧
      readSingleRecordSt v file st = (.error (.headerValidation h p), ⟨p, some h⟩)) ∨
    (∃ p, readSingleRecord file st.pos = .error (.recordValidation p) ∧
      readSingleRecordSt v file st =
        (.error (.recordValidation p), ⟨p, if v.clearOnValid then none else st.lwh⟩)) ∨
    (readSingleRecord file st.pos = .error .other ∧
      ∃ p l, readSingleRecordSt v file st = (.error .other, ⟨p, l⟩) ∧
        (l = st.lwh ∨ l = if v.clearOnValid then none else st.lwh)) := by
  unfold readSingleRecordSt readSingleRecord
  cases deserHeader (List.drop st.pos file) with
  | none => exact Or.inr (Or.inr (Or.inr ⟨rfl, _, _, rfl, Or.inl rfl⟩))
  | some h =>
    simp only
    cases headerValidate h with
    | error e => exact Or.inr (Or.inl ⟨_, _, rfl, rfl⟩)
    | ok u =>
      simp only
      cases readExactAt file h.metaSize (st.pos + h.serializedSize) with
      | none => exact Or.inr (Or.inr (Or.inr ⟨rfl, _, _, rfl, Or.inr rfl⟩))
      | some mb =>
        simp only
        cases deserMeta mb with
        | none => exact Or.inr (Or.inr (Or.inr ⟨rfl, _, _, rfl, Or.inr rfl⟩))
        | some es =>
          simp only
          cases readExactAt file h.dataSize (st.pos + h.serializedSize + h.metaSize) with
          | none => exact Or.inr (Or.inr (Or.inr ⟨rfl, _, _, rfl, Or.inr rfl⟩))
          | some d =>
            simp only
            cases dataChecksumAudit h d with
            | error e => exact Or.inr (Or.inr (Or.inl ⟨_, rfl, rfl⟩))
            | ok u => exact Or.inl ⟨_, _, rfl, rfl⟩

/-- what the loop of `process_blob_with` can observe of a read -/
def ReadAgree (a : Except ToolErr (ToolRecord × Nat)) (b : Except ToolErr ToolRecord × ReaderSt) : Prop :=
  (∃ r p l, a = .ok (r, p) ∧ b = (.ok r, ⟨p, l⟩)) ∨ (∃ e e' st', a = .error e ∧ b = (.error e', st'))

theorem readSingleRecordSt_agree (v : ReaderVariant) (file : List UInt8) (st : ReaderSt) :
    ReadAgree (readSingleRecord file st.pos) (readSingleRecordSt v file st) := by
  rcases readSingleRecordSt_spec v file st with ⟨r, p, h1, h2⟩ | ⟨h, p, h1, h2⟩ | ⟨p, h1, h2⟩ | ⟨h1, p, l, h2, _⟩
  · exact Or.inl ⟨r, p, _, h1, h2⟩
  · exact Or.inr ⟨_, _, _, h1, h2⟩
  · exact Or.inr ⟨_, _, _, h1, h2⟩
  · exact Or.inr ⟨_, _, _, h1, h2⟩

theorem skipWrongRecordDataSt_some (v : ReaderVariant) (len p : Nat) (h : RecHeader) :
    skipWrongRecordDataSt v len ⟨p, some h⟩ = (skipWrongRecordData len h p).map (⟨·, some h⟩) := by
  simp only [skipWrongRecordDataSt, skipWrongRecordData]
  split
  · rfl
  · split <;> rfl

/-- `read_record(true)`: the reader with the explicit field and the model that carries the wrong header in
    the error value agree, WHATEVER the field holds on entry, unless a data failure is routed to the skip
    routine while the field is set or an empty field is refused: otherwise the field is only read right after
    it was written -/
theorem readRecordSt_agree_of (v : ReaderVariant) (file : List UInt8) (st : ReaderSt)
    (hc : v.dataFailSkips = true → (∀ p, readSingleRecord file st.pos ≠ .error (.recordValidation p)) ∨
      (v.noneIsOk = true ∧ (if v.clearOnValid then none else st.lwh) = none)) :
    ReadAgree (readRecord file true st.pos) (readRecordSt v file true st) := by
  unfold readRecord readRecordSt
  simp only [↓reduceIte]
  rcases readSingleRecordSt_spec v file st with ⟨r, p, h1, h2⟩ | ⟨h, p, h1, h2⟩ | ⟨p, h1, h2⟩ | ⟨h1, p, l, h2, _⟩
  · rw [h1, h2]; exact Or.inl ⟨r, p, _, rfl, rfl⟩
  · rw [h1, h2]
    simp only [skipWrongRecordDataSt_some]
    cases skipWrongRecordData file.length h p with
    | error e => exact Or.inr ⟨_, _, _, rfl, rfl⟩
    | ok p' => exact readSingleRecordSt_agree v file ⟨p', some h⟩
  · rw [h1, h2]
    cases hd : v.dataFailSkips with
    | false => exact readSingleRecordSt_agree v file ⟨p, _⟩
    | true =>
      rcases hc hd with hc | ⟨hn, hl⟩
      · exact absurd h1 (hc p)
      · simp only [hl, ↓reduceIte, skipWrongRecordDataSt, hn]
        exact readSingleRecordSt_agree v file ⟨p, none⟩
  · rw [h1, h2]; exact Or.inr ⟨_, _, _, rfl, rfl⟩

theorem processLoopSt_harmless (v : ReaderVariant) (hv : v.Harmless) (input : List UInt8) (skip : Bool) :
    ∀ (fuel : Nat) (st : ReaderSt) (out : List UInt8),
      processLoopSt v input skip fuel st out = processLoop input skip (fun r => .ok r) fuel st.pos out := by
  have hag : ∀ st, ReadAgree (readRecord input skip st.pos) (readRecordSt v input skip st) := by
    intro st
    cases skip
    · exact readSingleRecordSt_agree v input st
    · refine readRecordSt_agree_of v input st fun hd => Or.inr ?_
      rcases hv with hv | ⟨h1, h2⟩
      · rw [hv] at hd; cases hd
      · exact ⟨h2, by rw [h1]; rfl⟩
  intro fuel
  induction fuel with
  | zero => intro st out; rfl
  | succ fuel ih =>
    intro st out
    rw [processLoopSt, processLoop]
    split
    · rfl
    · rcases hag st with ⟨r, p, l, h1, h2⟩ | ⟨e, e', st', h1, h2⟩
      · rw [h1, h2]
        exact ih ⟨p, l⟩ _
      · rw [h1, h2]

/-- recovery over the two readers agrees when their loops do, started after the blob header -/
theorem recoveryBlobSt_eq (v : ReaderVariant) (input : List UInt8) (skip : Bool)
    (h : ∀ out, processLoopSt v input skip input.length ⟨blobHeaderSize, none⟩ out =
      processLoop input skip (fun r => .ok r) input.length blobHeaderSize out) :
    recoveryBlobSt v input skip = recoveryBlob input skip := by
  unfold recoveryBlobSt recoveryBlob processBlobWith readBlobHeader
  cases parseBlobHeader input with
  | none => rfl
  | some b =>
    simp only
    cases validateWithoutVersion b with
    | error e => rfl
    | ok u =>
      simp only
      cases writeHeader b with
      | error e => rfl
      | ok out => exact h out

/-- the model of `Model/Tools.lean` carries `latest_wrong_header` faithfully: on EVERY file, recovery over
    the reader with the field explicit returns what `recoveryBlob` returns — for the real code, and for each
    of the two edits of the seeded change alone -/
theorem recoveryBlobSt_harmless (v : ReaderVariant) (hv : v.Harmless) (input : List UInt8) (skip : Bool) :
    recoveryBlobSt v input skip = recoveryBlob input skip :=
  recoveryBlobSt_eq v input skip fun _ => processLoopSt_harmless v hv input skip _ _ _

theorem readRecordSt_stale_agree (file : List UInt8) (st : ReaderSt)
    (hc : st.lwh = none ∨ ∀ p, readSingleRecord file st.pos ≠ .error (.recordValidation p)) :
    ReadAgree (readRecord file true st.pos) (readRecordSt .stale file true st) :=
  readRecordSt_agree_of .stale file st fun _ => hc.symm.imp id fun h => ⟨rfl, h⟩

def isDataFail {α : Type} : Except ToolErr α → Bool
  | .error (.recordValidation _) => true
  | _ => false

def isHdrFail {α : Type} : Except ToolErr α → Bool
  | .error (.headerValidation _ _) => true
  | _ => false

/-- along the run of the REAL reader (with `skip_wrong_record`) from `pos`: no record fails its data checksum
    once a header failure has occurred (`set`: one has occurred already) -/
def staleSafe (input : List UInt8) : Nat → Bool → Nat → Bool
  | 0, _, _ => true
  | fuel+1, set, pos =>
    isEof input pos ||
    (!(set && isDataFail (readSingleRecord input pos)) &&
      match readRecord input true pos with
      | .error _ => true
      | .ok (_, p) => staleSafe input fuel (set || isHdrFail (readSingleRecord input pos)) p)

theorem readSingleRecordSt_stale_ok {file : List UInt8} {st st' : ReaderSt} {r : ToolRecord}
    (h : readSingleRecordSt .stale file st = (.ok r, st')) : st'.lwh = st.lwh := by
  rcases readSingleRecordSt_spec .stale file st with ⟨_, _, _, h2⟩ | ⟨_, _, _, h2⟩ | ⟨_, _, h2⟩ | ⟨_, _, _, h2, _⟩ <;>
    rw [h2] at h <;> cases h
  rfl

theorem readRecordSt_stale_lwh {file : List UInt8} {st st' : ReaderSt} {r : ToolRecord}
    (h : readRecordSt .stale file true st = (.ok r, st')) :
    st'.lwh = st.lwh ∨ isHdrFail (readSingleRecord file st.pos) = true := by
  rw [readRecordSt, if_pos rfl] at h
  rcases readSingleRecordSt_spec .stale file st with ⟨_, _, _, h2⟩ | ⟨_, _, h1, _⟩ | ⟨p, _, h2⟩ | ⟨_, _, _, h2, _⟩
  · rw [h2] at h; cases h; exact Or.inl rfl
  · exact Or.inr (by rw [h1]; rfl)
  · rw [h2] at h
    simp only [ReaderVariant.stale, Bool.false_eq_true, ↓reduceIte] at h
    left
    cases hl : st.lwh with
    | none =>
      rw [hl] at h
      exact readSingleRecordSt_stale_ok h
    | some h0 =>
      rw [hl, skipWrongRecordDataSt_some] at h
      cases hs : skipWrongRecordData file.length h0 p with
      | error e => rw [hs] at h; cases h
      | ok p' => rw [hs] at h; exact readSingleRecordSt_stale_ok h
  · rw [h2] at h; cases h

theorem processLoopSt_stale_safe (input : List UInt8) : ∀ (fuel : Nat) (set : Bool) (st : ReaderSt)
    (out : List UInt8), (st.lwh.isSome → set = true) → staleSafe input fuel set st.pos = true →
    processLoopSt .stale input true fuel st out =
      processLoop input true (fun r => .ok r) fuel st.pos out := by
  intro fuel
  induction fuel with
  | zero => intros; rfl
  | succ fuel ih =>
    intro set st out hset hsafe
    rw [processLoopSt, processLoop]
    rw [staleSafe] at hsafe
    split
    · rfl
    · next heof =>
      simp only [heof, Bool.false_or, Bool.and_eq_true, Bool.not_eq_true'] at hsafe
      obtain ⟨hd, hnext⟩ := hsafe
      have hc : st.lwh = none ∨ ∀ p, readSingleRecord input st.pos ≠ .error (.recordValidation p) := by
        cases hl : st.lwh with
        | none => exact Or.inl rfl
        | some h0 =>
          refine Or.inr fun p hp => ?_
          rw [hset (by rw [hl]; rfl), hp] at hd
          cases hd
      rcases readRecordSt_stale_agree input st hc with ⟨r, p, l, h1, h2⟩ | ⟨e, e', st', h1, h2⟩
      · rw [h1] at hnext
        rw [h1, h2]
        refine ih _ ⟨p, l⟩ _ (fun hl => ?_) hnext
        rcases readRecordSt_stale_lwh h2 with h | h
        · rw [Bool.or_eq_true]; exact Or.inl (hset (by rw [← h]; exact hl))
        · rw [h, Bool.or_true]
      · rw [h1, h2]

/-- the seeded variant returns what the real reader returns on every file on which no record fails its data
    checksum after a record that failed its header validation -/
theorem recoveryBlobSt_stale_safe (input : List UInt8)
    (h : staleSafe input input.length false blobHeaderSize = true) :
    recoveryBlobSt .stale input true = recoveryBlob input true :=
  recoveryBlobSt_eq .stale input true fun _ => processLoopSt_stale_safe input _ false _ _ (fun hl => by cases hl) h

/-- `staleSafe` read off the altered records alone: along the records of a produced blob (`off`: where the record
    with index `n` starts) of which those listed in `D` are altered, none fails its data checksum after one failed
    its header validation (`set`: one has) -/
def safeAt (input : List UInt8) (D : List Nat) : Bool → Nat → Nat → List Record → Bool
  | _, _, _, [] => true
  | set, off, n, R :: Rs =>
    if n ∈ D then
      !(set && isDataFail (readSingleRecord input off)) &&
        safeAt input D (set || isHdrFail (readSingleRecord input off)) (off + R.size) (n + 1) Rs
    else safeAt input D set (off + R.size) (n + 1) Rs

theorem staleSafe_slots {klen : Nat} (input : List UInt8) (hlen : input.length < 2 ^ 64) {D : List Nat} :
    ∀ (ss : List Slot) (pre : List UInt8) (off n k : Nat) (set : Bool), pre.length = off →
      input = pre ++ (slotsBytes off ss ++ []) →
      SlotsOK klen off ss → BadAt D n ss →
      safeAt input D set off n (ss.map Slot.record) = true →
      staleSafe input (ss.length + k) set off = true
  | [], pre, off, n, k, set, hoff, hf, _, _, _ => by
    cases k <;> simp [staleSafe, isEof_true (show input.length ≤ off by rw [hf, ← hoff]; simp [slotsBytes])]
  | ⟨R, none⟩ :: ss, pre, off, n, k, set, hoff, hf, hok, hb, hs => by
    obtain ⟨hstep, hlt, hl2, hf2⟩ := read_good_slot hoff hf hlen hok.1.1 hok.1.2.1
    have h0 : n ∉ D := hb.head_none
    rw [List.map_cons, safeAt, if_neg h0] at hs
    have ih := staleSafe_slots input hlen ss _ _ (n + 1) k set hl2 hf2 hok.2 hb.tail hs
    rw [List.length_cons, Nat.add_right_comm, staleSafe, isEof_false hlt, readRecord_of_ok hstep, hstep]
    simpa only [isDataFail, isHdrFail, Bool.and_false, Bool.not_false, Bool.true_and, Bool.or_false,
      Bool.false_or] using ih
  | ⟨R, some X⟩ :: ss, pre, off, n, k, set, hoff, hf, hok, hb, hs => by
    obtain ⟨hd, hlt, hl2, hf2⟩ := damaged_slot hoff hf hlen (hok.1.2.2 X rfl)
    have h0 : n ∈ D := hb.head_some
    rw [List.map_cons, safeAt, if_pos h0, Bool.and_eq_true] at hs
    rw [List.length_cons, Nat.add_right_comm, staleSafe, isEof_false hlt, hs.1]
    simp only [Bool.true_and, Bool.false_or]
    match ss, hf2, hok, hb, hs.2 with
    | [], hf2, _, _, _ =>
      obtain ⟨e, he⟩ := hd.readRecord_skip_eof (by rw [hf2, ← hl2]; simp [slotsBytes])
      rw [he]
    | ⟨R2, none⟩ :: ss, hf2, hok, hb, hs2 =>
      obtain ⟨hstep, hlt2, hl3, hf3⟩ := read_good_slot hl2 hf2 hlen hok.2.1.1 hok.2.1.2.1
      have h1 : n + 1 ∉ D := hb.tail.head_none
      rw [List.map_cons, safeAt, if_neg h1] at hs2
      have ih := staleSafe_slots input hlen ss _ _ (n + 2) (k + 1) _ hl3 hf3 hok.2.2 hb.tail.tail hs2
      rw [hd.readRecord_skip hlt2, hstep]
      simpa only [List.length_cons, Nat.add_assoc, Nat.add_comm 1 k] using ih
    | ⟨R2, some X2⟩ :: ss, hf2, hok, _, _ =>
      obtain ⟨hd2, hlt2, _, _⟩ := damaged_slot hl2 hf2 hlen (hok.2.1.2.2 X2 rfl)
      obtain ⟨e, he⟩ := hd2.1
      rw [hd.readRecord_skip hlt2, he]

/-- the seeded variant returns what the real reader returns on a produced blob with altered records unless one
    of them fails its data checksum after one of them failed its header validation -/
theorem recoveryBlobSt_stale_flips {klen : Nat} {recs : List (Rec × List UInt8)} {D : List Nat} {input : List UInt8}
    (hlen : (blobBytes klen recs).length < 2 ^ 64) (hts : ∀ x ∈ recs, x.1.ts < 2 ^ 64)
    (hflip : FlipMany klen recs D input) (hs : safeAt input D false 20 0 (recordsOf klen recs) = true) :
    recoveryBlobSt .stale input true = recoveryBlob input true := by
  obtain ⟨ss, hss⟩ := hflip.slots hts
  have hil := hss.length_eq
  have hge := slotsSize_ge ss
  have hsl : input.length = 20 + slotsSize ss := by
    rw [hss.file, List.length_append, serBlobHeader_length, slotsBytes_length ss 20 hss.ok]
  obtain ⟨k, hk⟩ : ∃ k, input.length = ss.length + k := ⟨input.length - ss.length, by omega⟩
  refine recoveryBlobSt_stale_safe input ?_
  rw [hk]
  exact staleSafe_slots (klen := klen) input (by omega) ss serBlobHeader 20 0 k false rfl hss.shape.1 hss.ok
    hss.badAt (by rw [hss.recs]; exact hs)

/-- in particular when at most one record is altered (`set`: it lies behind) -/
theorem safeAt_single (input : List UInt8) {D : List Nat} (hD : ∀ a ∈ D, ∀ b ∈ D, a = b) :
    ∀ (Rs : List Record) (set : Bool) (off n : Nat), (set = true → ∀ a ∈ D, a < n) →
      safeAt input D set off n Rs = true
  | [], _, _, _, _ => rfl
  | R :: Rs, set, off, n, hset => by
    rw [safeAt]
    split
    · next h0 =>
      have hs : set = false := by
        cases set
        · rfl
        · exact absurd (hset rfl n h0) (Nat.lt_irrefl n)
      subst hs
      rw [safeAt_single input hD Rs _ _ _ (fun _ a ha => by rw [hD a ha n h0]; omega)]
      rfl
    · exact safeAt_single input hD Rs _ _ _ (fun h a ha => Nat.lt_succ_of_lt (hset h a ha))

end Pearl
