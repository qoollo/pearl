import Pearl.Proofs.BPTreeRead
import Pearl.Proofs.BPTreeTree
/-
The file `build p metaLen m` of a well-formed map: its leaf region is the leaf array of `m`, the descent
for a key ends at the leaf selected for it, and reading that leaf gives the in-memory answers.
Also `get_records_headers` (`build_load`) and the real parameters (`valid_real`); `records_count` is `C09.count_eq`.
-/
set_option linter.unusedSectionVars false

namespace Pearl.BPTree

variable {H : Type} [Keyed H]

theorem mem_leafArray {m : InMem H} {h : H} (hm : h ∈ leafArray m) : ∃ kv ∈ m, h ∈ kv.2 := by
  simp only [leafArray, List.mem_flatMap, List.mem_reverse] at hm
  exact hm

theorem WF.append_left {m1 m2 : InMem H} (hwf : WF (m1 ++ m2)) : WF m1 :=
  ⟨(List.pairwise_append.1 hwf.sorted).1, fun x hx => hwf.nonempty x (by simp [hx]),
    fun x hx => hwf.keys x (by simp [hx])⟩

theorem WF.append_right {m1 m2 : InMem H} (hwf : WF (m1 ++ m2)) : WF m2 :=
  ⟨(List.pairwise_append.1 hwf.sorted).2.1, fun x hx => hwf.nonempty x (by simp [hx]),
    fun x hx => hwf.keys x (by simp [hx])⟩

theorem WF.tail {kv : Nat × List H} {m : InMem H} (hwf : WF (kv :: m)) : WF m :=
  WF.append_right (m1 := [kv]) hwf

theorem WF.key_of_mem {m : InMem H} (hwf : WF m) {h : H} (hh : h ∈ leafArray m) : ∃ kv ∈ m, hkey h = kv.1 := by
  obtain ⟨kv, hkv, hh'⟩ := mem_leafArray hh
  exact ⟨kv, hkv, hwf.keys kv hkv h hh'⟩

theorem leafArray_sorted (m : InMem H) (hwf : WF m) :
    (leafArray m).Pairwise (fun a b => hkey a ≤ hkey b) := by
  induction m with
  | nil => exact List.Pairwise.nil
  | cons kv m ih =>
    obtain ⟨k, v⟩ := kv
    have hk : ∀ a ∈ v.reverse, hkey a = k := fun a ha => hwf.keys (k, v) (by simp) a (by simpa using ha)
    rw [leafArray_cons, List.pairwise_append]
    refine ⟨?_, ih hwf.tail, fun a ha b hb => ?_⟩
    · exact (List.pairwise_of_forall (R := fun _ _ => True) (fun _ _ => trivial)).imp_of_mem
        (fun ha hb _ => Nat.le_of_eq ((hk _ ha).trans (hk _ hb).symm))
    · obtain ⟨kv, hkv, hb'⟩ := hwf.tail.key_of_mem hb
      have := (List.pairwise_cons.1 hwf.sorted).1 kv hkv
      rw [hk a ha, hb']; exact Nat.le_of_lt this

theorem run_of_append (k : Nat) (A R C : List H) (hA : ∀ h ∈ A, hkey h < k) (hR : ∀ h ∈ R, hkey h = k)
    (hC : ∀ h ∈ C, k < hkey h) (hne : R ≠ []) :
    Run (A ++ R ++ C) k A.length (A.length + R.length) := by
  have hRl : 0 < R.length := List.length_pos_iff.2 hne
  refine ⟨by omega, by simp only [List.length_append]; omega, fun i hi => ?_, fun i h1 h2 => ?_,
    fun i h1 h2 => ?_⟩
  · rw [List.append_assoc, keyIdx_append_left hi]
    exact keyIdx_of_forall (P := (· < k)) hA hi
  · rw [List.append_assoc, keyIdx_append_right h1, keyIdx_append_left (by omega)]
    exact keyIdx_of_forall (P := (· = k)) hR (by omega)
  · simp only [List.length_append] at h2
    rw [keyIdx_append_right (by simp only [List.length_append]; omega)]
    exact keyIdx_of_forall (P := (k < ·)) hC (by simp only [List.length_append]; omega)

theorem leafArray_decomp (m1 : InMem H) (k : Nat) (v : List H) (m2 : InMem H) :
    leafArray (m1 ++ (k, v) :: m2) = leafArray m1 ++ v.reverse ++ leafArray m2 := by
  rw [leafArray_append, leafArray_cons, List.append_assoc]

theorem run_of_decomp (m1 : InMem H) (k : Nat) (v : List H) (m2 : InMem H)
    (hwf : WF (m1 ++ (k, v) :: m2)) :
    Run (leafArray (m1 ++ (k, v) :: m2)) k (leafArray m1).length ((leafArray m1).length + v.length) := by
  have hs := List.pairwise_append.1 hwf.sorted
  have := run_of_append k (leafArray m1) v.reverse (leafArray m2)
    (fun h hh => by
      obtain ⟨kv, hkv, e⟩ := hwf.append_left.key_of_mem hh
      exact e ▸ hs.2.2 kv hkv (k, v) (by simp))
    (fun h hh => hwf.keys (k, v) (by simp) h (by simpa using hh))
    (fun h hh => by
      obtain ⟨kv, hkv, e⟩ := hwf.append_right.tail.key_of_mem hh
      exact e ▸ (List.pairwise_cons.1 hs.2.1).1 kv hkv)
    (by simpa using hwf.nonempty (k, v) (by simp))
  rwa [List.length_reverse, ← leafArray_decomp] at this

theorem leafArray_slice (m1 : InMem H) (k : Nat) (v : List H) (m2 : InMem H) :
    ((leafArray (m1 ++ (k, v) :: m2)).drop (leafArray m1).length).take v.length = v.reverse := by
  rw [leafArray_decomp, List.append_assoc, List.drop_left, ← List.length_reverse, List.take_left]

/-! ### `BTreeMap::get` on the iteration list -/

theorem lookup_none {m : InMem H} {k : Nat} (h : m.lookup k = none) : ∀ kv ∈ m, kv.1 ≠ k :=
  fun kv hkv e => by simpa [e] using List.lookup_eq_none_iff.1 h kv hkv

theorem absent_keys (m : InMem H) (hwf : WF m) (k : Nat) (h : m.lookup k = none) :
    ∀ i, i < (leafArray m).length → keyIdx (leafArray m) i ≠ k := fun i hi =>
  keyIdx_of_forall (P := (· ≠ k)) (fun _ hh => by
    obtain ⟨kv, hkv, e⟩ := hwf.key_of_mem hh
    exact e ▸ lookup_none h kv hkv) hi

section Build
variable (p : Params) (metaLen : Nat) (m : InMem H)

theorem build_p : (build p metaLen m).p = p := rfl
theorem build_leaves : (build p metaLen m).leaves = leafArray m := rfl
theorem build_nodes : (build p metaLen m).nodes
    = buildTree p (leafTable p m).length (leafTable p m) (build p metaLen m).treeOffset := rfl
theorem build_treeStart : (build p metaLen m).treeStart = (build p metaLen m).treeOffset := rfl
theorem build_leavesOffset : (build p metaLen m).leavesOffset = (build p metaLen m).leavesStart := rfl
theorem build_leavesOffset' : (build p metaLen m).leavesOffset
    = (build p metaLen m).treeOffset + nodesBytes p (build p metaLen m).nodes := rfl
theorem build_recordsCount : (build p metaLen m).recordsCount = (leafArray m).length := totalCount_eq m

theorem build_leafOK (hv : p.Valid) (hwf : WF m) : LeafOK (build p metaLen m) :=
  ⟨hv.rhs_pos, rfl, build_recordsCount p metaLen m, leafArray_sorted m hwf⟩

/-- every `read_exact_at` of a whole block at an inner node stays inside the file -/
theorem build_fit (hv : p.Valid) (hwf : WF m) (h : 2 ≤ (build p metaLen m).nodes.length) :
    (build p metaLen m).leavesOffset + (build p metaLen m).p.B ≤ (build p metaLen m).fileSize := by
  -- with fewer than two leaves no node is written
  have h2 : 2 ≤ (leafTable p m).length := Nat.le_of_not_lt fun hlt => by
    rw [build_nodes, buildTree_small _ _ _ _ (Nat.le_of_lt_succ hlt)] at h
    cases h
  have hpw := leafTable_pairwise p hv.rhs_le m hwf
  have hent := leafTable_entries p hv.rhs_le m hwf
  rw [IndexFile.fileSize_eq, build_leavesOffset, build_leaves, build_p]
  match hlt : leafTable p m, h2 with
  | e0 :: e1 :: tl, _ =>
    rw [hlt] at hpw hent
    have h1 := (List.pairwise_cons.1 hpw).1 e1 (by simp)
    have h3 := (hent e1 (by simp)).2
    omega

theorem build_findLeafNode (hv : p.Valid) (hwf : WF m) (hm : m ≠ []) (k : Nat) :
    (build p metaLen m).findLeafNode k
      = some ((build p metaLen m).leavesStart + (sel (leafTable p m) k).2) := by
  obtain ⟨k0, tl, hlt⟩ := leafTable_ne_nil p m hm
  have hpw := leafTable_pairwise p hv.rhs_le m hwf
  obtain ⟨d, hd, hdesc⟩ := descent_aux (build p metaLen m) hv k (build_treeStart p metaLen m)
    (build_fit p metaLen m hv hwf) (leafTable p m).length (leafTable p m) []
    (by rw [hlt]; simp) (Nat.le_refl _) (hpw.imp (fun h => h.1))
    (by intro e he; rw [hlt] at he; simp at he; rw [← he])
    (by rw [List.append_nil]; rfl) (Nat.le_refl _)
  have hd : d ≤ (build p metaLen m).nodes.length := hd
  have hdesc : ∀ g, (build p metaLen m).findLeafNodeAux k (d + g) (build p metaLen m).treeOffset
      = (build p metaLen m).findLeafNodeAux k g
          ((build p metaLen m).leavesStart + (sel (leafTable p m) k).2) := hdesc
  unfold IndexFile.findLeafNode
  have e : (build p metaLen m).nodes.length + 1 = d + ((build p metaLen m).nodes.length - d + 1) := by omega
  rw [e, hdesc]
  simp only [IndexFile.findLeafNodeAux]
  rw [if_neg (by rw [build_leavesOffset]; omega)]

end Build

/-- the leaf selected for `k` starts at header index `s` of the leaf region; the run of a present key
    starts `a` headers further, and its first header lies wholly inside the first block of that leaf -/
theorem sel_leaf (p : Params) (hv : p.Valid) (m : InMem H) (hwf : WF m) (hm : m ≠ []) (k : Nat) :
    ∃ s, (sel (leafTable p m) k).2 = p.rhs * s ∧ s ≤ (leafArray m).length ∧
      ∀ m1 v m2, m = m1 ++ (k, v) :: m2 → ∃ a, s + a = (leafArray m1).length ∧ p.rhs * (a + 1) ≤ p.B := by
  obtain ⟨k0, tl, hlt⟩ := leafTable_ne_nil p m hm
  obtain ⟨⟨s, hs⟩, h2⟩ := leafTable_entries p hv.rhs_le m hwf _ (sel_mem (leafTable p m) k (by rw [hlt]; simp))
  rw [hs, Nat.mul_comm _ p.rhs] at h2
  refine ⟨s, hs, Nat.le_of_lt (Nat.lt_of_mul_lt_mul_left (Nat.lt_of_lt_of_le (Nat.lt_add_of_pos_right hv.rhs_pos) h2)),
    fun m1 v m2 hdec => ?_⟩
  obtain ⟨h3, h4⟩ := leafTable_sel p hv.rhs_pos hv.rhs_le m hwf m1 k v m2 hdec
  rw [hs, Nat.mul_comm _ p.rhs] at h3 h4
  obtain ⟨a, ha⟩ := Nat.exists_eq_add_of_le (Nat.le_of_mul_le_mul_left h3 hv.rhs_pos)
  rw [ha, Nat.mul_add] at h4
  exact ⟨a, ha.symm, by rw [Nat.mul_succ]; omega⟩

/-- the two look-ups of the file answer as the map does: the descent ends at the leaf selected for `k`, and reading
    that leaf finds nothing for an absent key and the whole run of a present one -/
theorem build_read (p : Params) (hv : p.Valid) (metaLen : Nat) (m : InMem H) (hwf : WF m)
    (hm : m ≠ []) (k : Nat) :
    (build p metaLen m).getLatest k = some (memLatest m k) ∧
      (build p metaLen m).findByKey k = some (memAll m k) := by
  obtain ⟨s, hs, hsN, hdec⟩ := sel_leaf p hv m hwf hm k
  have ok := build_leafOK p metaLen m hv hwf
  simp only [IndexFile.getLatest, IndexFile.findByKey, build_findLeafNode p metaLen m hv hwf hm k, hs, memLatest,
    memAll]
  cases hlk : m.lookup k with
  | none => exact read_absent _ k s ok (absent_keys m hwf k hlk) hsN
  | some v =>
    obtain ⟨m1, m2, rfl, _⟩ := List.lookup_eq_some_iff.1 hlk
    obtain ⟨a, ha, hfirst⟩ := hdec m1 v m2 rfl
    have run := run_of_decomp m1 k v m2 hwf
    have hsl := leafArray_slice m1 k v m2
    refine ⟨(readHeader_present _ ok run ha hfirst).trans (congrArg some ?_),
      (readHeaders_present _ ok run ha hfirst).trans ?_⟩
    · have := congrArg List.head? hsl
      rwa [List.head?_take, if_neg (by simpa using hwf.nonempty (k, v) (by simp)), List.head?_drop,
        List.head?_reverse] at this
    · rw [Nat.add_sub_cancel_left]
      exact congrArg (some ∘ some) hsl

/-! ### `get_records_headers` -/

theorem mapPush_append (h : H) (tl : InMem H) : ∀ (acc : InMem H), (∀ kv ∈ acc, kv.1 < hkey h) →
    IndexFile.mapPush h (acc ++ tl) = acc ++ IndexFile.mapPush h tl
  | [], _ => rfl
  | (k, v) :: acc, hlt => by
    have : k < hkey h := hlt (k, v) (by simp)
    rw [List.cons_append, IndexFile.mapPush, if_neg (Nat.lt_asymm this), if_neg (Nat.ne_of_gt this),
      mapPush_append h tl acc (fun kv hkv => hlt kv (List.mem_cons_of_mem _ hkv))]
    rfl

theorem foldl_mapPush_same (k : Nat) (acc : InMem H) (hacc : ∀ kv ∈ acc, kv.1 < k) :
    ∀ (hs w : List H), (∀ h ∈ hs, hkey h = k) →
      hs.foldl (fun a h => IndexFile.mapPush h a) (acc ++ [(k, w)]) = acc ++ [(k, w ++ hs)]
  | [], w, _ => by simp
  | h :: hs, w, hk => by
    obtain rfl := hk h (by simp)
    rw [List.foldl_cons, mapPush_append h _ acc hacc, IndexFile.mapPush, if_neg (Nat.lt_irrefl _), if_pos rfl,
      foldl_mapPush_same _ acc hacc hs (w ++ [h]) (fun x hx => hk x (by simp [hx])), List.append_assoc]
    rfl

theorem foldl_mapPush_run (k : Nat) (acc : InMem H) (hacc : ∀ kv ∈ acc, kv.1 < k) (hs : List H)
    (hne : hs ≠ []) (hk : ∀ h ∈ hs, hkey h = k) :
    hs.foldl (fun a h => IndexFile.mapPush h a) acc = acc ++ [(k, hs)] := by
  match hs, hne with
  | h :: hs, _ =>
    obtain rfl := hk h (by simp)
    have := mapPush_append h [] acc hacc
    rw [List.append_nil] at this
    rw [List.foldl_cons, this]
    exact foldl_mapPush_same _ acc hacc hs [h] (fun x hx => hk x (by simp [hx]))

theorem foldl_mapPush_leafArray : ∀ (m : InMem H) (acc : InMem H), WF m →
    (∀ a ∈ acc, ∀ kv ∈ m, a.1 < kv.1) →
    (leafArray m).foldl (fun a h => IndexFile.mapPush h a) acc
      = acc ++ m.map (fun kv => (kv.1, kv.2.reverse)) := by
  intro m
  induction m with
  | nil => intro acc _ _; simp [leafArray]
  | cons x m ih =>
    intro acc hwf hacc
    obtain ⟨k, v⟩ := x
    rw [leafArray_cons, List.foldl_append]
    rw [foldl_mapPush_run k acc (fun a ha => hacc a ha (k, v) (by simp)) v.reverse
      (by have := hwf.nonempty (k, v) (by simp); simpa using this)
      (fun h hh => hwf.keys (k, v) (by simp) h (by simpa using hh))]
    rw [ih (acc ++ [(k, v.reverse)]) hwf.tail]
    · simp
    · intro a ha kv hkv
      rcases List.mem_append.1 ha with ha | ha
      · exact hacc a ha kv (by simp [hkv])
      · simp only [List.mem_singleton] at ha
        subst ha
        exact (List.pairwise_cons.1 hwf.sorted).1 kv hkv

theorem build_load (p : Params) (metaLen : Nat) (m : InMem H) (hwf : WF m) :
    (build p metaLen m).load = some m := by
  unfold IndexFile.load
  rw [if_neg (by rw [build_leavesOffset]; simp), build_recordsCount, build_leaves,
    if_neg (Nat.lt_irrefl _), List.take_length]
  simp only
  rw [foldl_mapPush_leafArray m [] hwf (by simp)]
  simp only [List.nil_append, List.map_map]
  congr 1
  induction m with
  | nil => rfl
  | cons x l ih =>
    rw [List.map_cons, ih hwf.tail, Function.comp, reverse_if_long, List.reverse_reverse]

theorem valid_real (K : Nat) (h : K ≤ 2032) : (Params.real K).Valid := by
  refine ⟨by simp only [Params.real]; omega, by simp only [Params.real]; omega, ?_⟩
  show 3 ≤ (4096 - 8 - 8) / (K + 8) + 1
  have : 2 ≤ (4096 - 8 - 8) / (K + 8) := (Nat.le_div_iff_mul_le (by omega)).2 (by omega)
  omega

end Pearl.BPTree
