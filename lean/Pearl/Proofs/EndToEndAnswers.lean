import Pearl.Proofs.EndToEndStartOffloadBytes
import Pearl.Props.C01
import Pearl.Props.C02
/-
"The byte-level storage answers per `Spec`", as one predicate: the block of conclusions shared by the end-to-end
theorems about `BState` (`end_to_end_read_bytes`, `end_to_end_offload_transparent`, `crash_with_indexes_spec`, …).
It follows from `L2Answers` (the storage answers as a well-formed L2 store: `L2Answers.spec`), so it holds of the
translation of every state satisfying the invariant, and it is carried along `SameAnswers`.  Also here: a value that
`read` serves is the value of the record `Spec.latest` finds (`found_per_spec`).  The vocabulary: `SameAnswers`,
`L2Answers`, `L2Answers.same` are in `Pearl/Proofs/EndToEndStartStore.lean`, `l2Answers_of_good` and `sameAnswers_of_*`
in `Pearl/Proofs/EndToEndStartOffloadBytes.lean`, `SpecAnswers` here.

THE FIVE START-UPS of the end-to-end models, and the lemma that ties each to the next:
* `CState.restart` (`Model/EndToEnd.lean`): no index files; a blob file that does not open leaves the state unchanged;
* `CState.recover` (`Model/EndToEndCrash.lean`): no index files, `read_blobs` with quarantine; it is `restart`
  whenever no file is rejected (`recover_eq_restart`, `Pearl/Proofs/EndToEndCrashRef.lean`);
* `BState.restart` (`Model/EndToEndMeta.lean`): `CState.restart` on the byte-level storage (`restart_toB`);
* `BState.restartWithIndexes` (`Model/EndToEndStart.lean`): index files, a failing `Blob::from_file` gives `none`; on
  index files that are current, stale or rejected it returns what `BState.restart` returns
  (`restartWithIndexes_toB_of`, `Pearl/Proofs/EndToEndStartStore.lean`);
* `BState.recoverWithIndexes` (`Model/EndToEndCrashIdx.lean`): index files and quarantine; it returns what
  `restartWithIndexes` returns whenever that succeeds (`recover_with_indexes_extends_restart`,
  `Pearl/Props/EndToEndCrash.lean`), and on a crashed directory what `CState.crashRecover` returns, translated
  (`crashRecoverWithIndexes_toB`, `Pearl/Proofs/EndToEndCrashIdx.lean`).
One difference is silent: the two `restart`s and `restartWithIndexes` take `next_blob_id` from the blobs they OPENED (0
for the fresh active blob when none is left and `lazy = false`), `recover` / `recoverWithIndexes` from all blob files of
the directory (`CState.ofBlobs`, `BState.ofBlobsIdx` get `maxNext`), so that a quarantined id stays reserved.
-/
namespace Pearl.E2E
open Pearl Pearl.BPTree Pearl.Container

section
variable {cfg : Cfg} {sha : List Nat → List Nat}

/-- for the key `k`, every read of the byte-level storage `b` returns without error what the specification says on
    the history `h`.  The statements of `Pearl/Props/` are fixed and spell this conjunction out (their proofs hand over
    a `SpecAnswers`, which unfolds to it); `end_to_end_restart_with_indexes_spec` states the first two clauses and the
    `readWithOpt` half of the third only. -/
def SpecAnswers (cfg : Cfg) (b : BState) (h : History) (k : Key) : Prop :=
  b.readWithOpt cfg k none = .ok ((Spec.latest h k).map (fun p => dataOf p.r.data)) ∧
  b.containsWith cfg k none = .ok ((Spec.latest h k).map (·.r.ts)) ∧
  (∀ m, MetaOK m →
    b.readWithOpt cfg k (some m) = .ok ((Spec.readWith h k m).map (fun p => dataOf p.r.data)) ∧
    b.containsWith cfg k (some m) = .ok ((Spec.readWith h k m).map (·.r.ts))) ∧
  (∃ es, b.readAllMarked cfg k = .ok es ∧ es.map entryView = (Spec.allCut h k).map (fun p => recView p.r)) ∧
  (∃ es, b.readAll cfg k = .ok es ∧ es.map entryView = (Spec.allLive h k).map (fun p => recView p.r))

theorem metaOK_some {m : Meta} (hm : MetaOK m) : ∀ x, some m = some x → MetaOK x :=
  fun _ hx => Option.some.inj hx ▸ hm

/-- a storage that answers as a well-formed L2 store answers per `Spec` on the history of that store (C01, C02) -/
theorem L2Answers.spec {b : BState} {s : Store} {k : Key} (h : L2Answers cfg b s k) (hwf : s.WF) :
    SpecAnswers cfg b s.history k := by
  obtain ⟨a1, a2, ⟨Z, a3, a3', a3z⟩, ⟨Y, a4, a4', a4z⟩⟩ := h
  have hl : s.getLatestEntry k none = (Spec.latest s.history k).map (·.r) := read_eq_spec hwf k
  have hw : ∀ m, s.getLatestEntry k (some m) = (Spec.readWith s.history k m).map (·.r) :=
    fun m => readWith_eq_spec hwf k m
  refine ⟨?_, ?_, fun m hm => ⟨?_, ?_⟩, ⟨_, a3, ?_⟩, ⟨_, a4, ?_⟩⟩
  · rw [a1 none nofun, Store.read, hl, ReadResult.map_map]
  · rw [a2 none nofun, hl, ReadResult.map_map]
  · rw [a1 _ (metaOK_some hm), Store.read, hw, ReadResult.map_map]
  · rw [a2 _ (metaOK_some hm), hw, ReadResult.map_map]
  · rw [views_eq Z a3z, ← a3', readAllMarked_eq_spec hwf k, List.map_map]
    rfl
  · rw [views_eq Y a4z, ← a4', readAll_eq_spec hwf k, List.map_map]
    rfl

/-- the translation to bytes of a state satisfying the invariants answers per `Spec` on its L2 history -/
theorem specAnswers_of_inv (hB : BytesOK cfg sha) {c : CState} (hinv : CInv cfg c)
    (hmeta : StoreMetaOK (c.abs cfg)) (hs : c.IdxSized) (k : Key) :
    SpecAnswers cfg (c.toB sha) (c.abs cfg).history k :=
  (l2Answers_of_good hB hinv.toCInvO hmeta (goodB_of_inv hB hinv hs) k).spec hinv.wf

/-- a value served by `read` is the value of the record `Spec.latest` finds -/
theorem found_per_spec (hcfg : cfg.OK) {c : CState} (hinv : CInv cfg c) {k : Key} {data : List UInt8}
    (h : c.read cfg k = .ok (.found data)) :
    ∃ p, Spec.latest (c.abs cfg).history k = .found p ∧ data = dataOf p.r.data := by
  rw [read_eq hcfg hinv k, read_eq_spec hinv.wf k, ReadResult.map_map] at h
  cases hl : Spec.latest (c.abs cfg).history k with
  | found p =>
    rw [hl] at h
    exact ⟨p, rfl, (ReadResult.found.inj (Except.ok.inj h)).symm⟩
  | deleted t => rw [hl] at h; cases h
  | notFound => rw [hl] at h; cases h

theorem SameAnswers.specAnswers {b b' : BState} (hsame : SameAnswers cfg b b') {h : History} {k : Key}
    (hspec : SpecAnswers cfg b h k) : SpecAnswers cfg b' h k := by
  obtain ⟨s1, s2, ⟨e3, e3', h3, h3', v3⟩, ⟨e4, e4', h4, h4', v4⟩⟩ := hsame k
  obtain ⟨r1, r2, r3, ⟨es3, he3, hv3⟩, ⟨es4, he4, hv4⟩⟩ := hspec
  refine ⟨(s1 none nofun).trans r1, (s2 none nofun).trans r2,
    fun m hm => ⟨(s1 _ (metaOK_some hm)).trans (r3 m hm).1, (s2 _ (metaOK_some hm)).trans (r3 m hm).2⟩,
    ⟨e3', h3', ?_⟩, ⟨e4', h4', ?_⟩⟩
  · cases h3.symm.trans he3
    exact v3.trans hv3
  · cases h4.symm.trans he4
    exact v4.trans hv4

end
end Pearl.E2E
