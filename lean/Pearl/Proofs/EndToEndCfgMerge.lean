import Pearl.Model.EndToEndCfg
import Pearl.Proofs.ContainerLemmas
/-
Sessions with different bloom configurations, lemmas: the MERGE RULE of the node filters
(`Bloom::checked_add_assign`, `Option<Bloom>::checked_add_assign`, `CombinedFilter::checked_add_assign`,
`Inner::merge_filters`), as an exact characterisation of the model functions `Bloom.merge`, `Combined.bloomMerge`,
`Combined.merge`, `Container.mergeFilters` of `Filter.lean` / `Container.lean`.

`Bloom.merge` of `Filter.lean` has the guard of the code
(`self.hashers.len() != other.hashers.len()` → `false`; both `inner` resident and of equal `len()`), so it is reused as
it is; the lemmas below state the guard as an `iff`.  The configurations (`config`) are NOT compared, neither by the
code nor by the model: two filters of different `elements` / `max_buf_bits_count` / `preferred_false_positive_rate`
merge as soon as hasher count and bit count agree (which is sound: positions depend on these two only).
-/
namespace Pearl.E2E.MC
open Pearl Pearl.E2E

/-- the guard of `Bloom::checked_add_assign` -/
def Mergeable (b o : Bloom) : Prop :=
  b.k = o.k ∧ ∃ v w, b.inner = some v ∧ o.inner = some w ∧ v.bits = w.bits

theorem orWith_isSome_of_bits {v w : ABV} (h : v.bits = w.bits) : ∃ r, v.orWith w = some r := by
  unfold ABV.orWith
  have : (v.bits != w.bits) = false := by simp [h]
  rw [this]
  exact ⟨_, rfl⟩

/-- **the merge rule, raw form**: `checked_add_assign` returns `true` exactly when the hasher counts are equal, both
    bit vectors are resident and their lengths are equal -/
theorem bloom_merge_true_iff (b o : Bloom) : (b.merge o).2 = true ↔ Mergeable b o := by
  constructor
  · intro h
    have hm : b.merge o = ((b.merge o).1, true) := by rw [← h]
    obtain ⟨v, w, r, hv, hw, hk, hbits, _, _⟩ := Bloom.merge_ok b o _ hm
    exact ⟨hk, v, w, hv, hw, hbits⟩
  · rintro ⟨hk, v, w, hv, hw, hbits⟩
    obtain ⟨r, hr⟩ := orWith_isSome_of_bits hbits
    unfold Bloom.merge
    have h1 : (b.k != o.k) = false := by simp [hk]
    have h2 : (v.bits == w.bits) = true := by simp [hbits]
    simp only [h1, hv, hw, h2, hr, Bool.false_eq_true, if_false, if_true]

/-- … in terms of the fields of well-formed filters: equal hasher count AND equal bit count AND neither side
    off-loaded -/
theorem bloom_merge_succeeds_iff (b o : Bloom) (hb : b.WF) (ho : o.WF) :
    (b.merge o).2 = true ↔
      b.k = o.k ∧ b.bits = o.bits ∧ b.isOffloaded = false ∧ o.isOffloaded = false := by
  rw [bloom_merge_true_iff]
  constructor
  · rintro ⟨hk, v, w, hv, hw, hbits⟩
    refine ⟨hk, ?_, by simp [Bloom.isOffloaded, hv], by simp [Bloom.isOffloaded, hw]⟩
    rw [← (hb.1 v hv).2, ← (ho.1 w hw).2]; exact hbits
  · rintro ⟨hk, hbits, h1, h2⟩
    obtain ⟨v, hv⟩ : ∃ v, b.inner = some v := by
      cases hh : b.inner with
      | none => simp [Bloom.isOffloaded, hh] at h1
      | some v => exact ⟨v, rfl⟩
    obtain ⟨w, hw⟩ : ∃ w, o.inner = some w := by
      cases hh : o.inner with
      | none => simp [Bloom.isOffloaded, hh] at h2
      | some w => exact ⟨w, rfl⟩
    refine ⟨hk, v, w, hv, hw, ?_⟩
    rw [(hb.1 v hv).2, (ho.1 w hw).2]; exact hbits

/-- a refused merge leaves `self` as it is -/
theorem bloom_merge_refused (b o : Bloom) (h : (b.merge o).2 = false) : (b.merge o).1 = b := by
  unfold Bloom.merge at h ⊢
  repeat' split
  all_goals first | rfl | (simp_all)

/-- in every other case the flag is `false`: different hasher counts … -/
theorem bloom_merge_hashers (b o : Bloom) (h : b.k ≠ o.k) : b.merge o = (b, false) := by
  unfold Bloom.merge
  have : (b.k != o.k) = true := by simp [h]
  rw [if_pos this]

/-- … different bit counts … -/
theorem bloom_merge_bits (b o : Bloom) (hb : b.WF) (ho : o.WF) (h : b.bits ≠ o.bits) : (b.merge o).2 = false := by
  cases hm : (b.merge o).2 with
  | false => rfl
  | true => exact absurd ((bloom_merge_succeeds_iff b o hb ho).mp hm).2.1 h

/-- … or one side off-loaded -/
theorem bloom_merge_offloaded (b o : Bloom) (h : b.isOffloaded = true ∨ o.isOffloaded = true) :
    (b.merge o).2 = false := by
  cases hm : (b.merge o).2 with
  | false => rfl
  | true =>
    obtain ⟨_, v, w, hv, hw, _⟩ := (bloom_merge_true_iff b o).mp hm
    rcases h with h | h
    · simp [Bloom.isOffloaded, hv] at h
    · simp [Bloom.isOffloaded, hw] at h

/-- `Bloom::empty()` itself: merging it into / with a well-formed filter succeeds iff that filter is resident, has no
    bits and no hashers -/
theorem bloom_merge_with_empty (o : Bloom) (ho : o.WF) :
    ((Bloom.empty.merge o).2 = true ↔ o.k = 0 ∧ o.bits = 0 ∧ o.isOffloaded = false) ∧
    ((o.merge Bloom.empty).2 = true ↔ o.k = 0 ∧ o.bits = 0 ∧ o.isOffloaded = false) := by
  have he : Bloom.empty.isOffloaded = false := rfl
  have hk : Bloom.empty.k = 0 := rfl
  have hbt : Bloom.empty.bits = 0 := rfl
  constructor
  · rw [bloom_merge_succeeds_iff _ _ Bloom.empty_WF ho, hk, hbt]
    constructor
    · rintro ⟨h1, h2, _, h4⟩; exact ⟨h1.symm, h2.symm, h4⟩
    · rintro ⟨h1, h2, h3⟩; exact ⟨h1.symm, h2.symm, he, h3⟩
  · rw [bloom_merge_succeeds_iff _ _ ho Bloom.empty_WF, hk, hbt]
    constructor
    · rintro ⟨h1, h2, h3, _⟩; exact ⟨h1, h2, h3⟩
    · rintro ⟨h1, h2, h3⟩; exact ⟨h1, h2, h3, he⟩

/-- a filter made by `Bloom::new` from a configuration with at least one bit never merges with the empty bloom -/
theorem bloom_new_not_merge_empty (cfg : BloomConfig) (bits : Nat) (hbits : 0 < bits) :
    ((Bloom.new cfg bits).merge Bloom.empty).2 = false ∧ (Bloom.empty.merge (Bloom.new cfg bits)).2 = false := by
  have hb : (Bloom.new cfg bits).bits ≠ Bloom.empty.bits := by
    show bits ≠ 0
    omega
  exact ⟨bloom_merge_bits _ _ (Bloom.new_WF _ _) Bloom.empty_WF hb,
    bloom_merge_bits _ _ Bloom.empty_WF (Bloom.new_WF _ _) (Ne.symm hb)⟩

/-- `Option<Bloom>::checked_add_assign`: both absent, or both present and mergeable -/
theorem bloomMerge_true_iff (a o : Option Bloom) :
    (Combined.bloomMerge a o).2 = true ↔
      (a = none ∧ o = none) ∨ ∃ x y, a = some x ∧ o = some y ∧ Mergeable x y := by
  cases a with
  | none =>
    cases o with
    | none => simp [Combined.bloomMerge]
    | some y => simp [Combined.bloomMerge]
  | some x =>
    cases o with
    | none => simp [Combined.bloomMerge]
    | some y =>
      simp only [Combined.bloomMerge, reduceCtorEq, false_and, Option.some.injEq, exists_and_left, false_or]
      rw [bloom_merge_true_iff]
      constructor
      · intro h; exact ⟨x, rfl, y, rfl, h⟩
      · rintro ⟨_, rfl, _, rfl, h⟩; exact h

/-- `CombinedFilter::checked_add_assign` succeeds exactly when its bloom part does (the range part always does) -/
theorem combined_merge_true_iff (c o : Combined) :
    (c.merge o).2 = true ↔
      (c.bloom = none ∧ o.bloom = none) ∨ ∃ x y, c.bloom = some x ∧ o.bloom = some y ∧ Mergeable x y := by
  rw [← bloomMerge_true_iff]
  simp [Combined.merge, Range.merge]

/-- `merge_filters` on two present filters: the merged filter if `checked_add_assign` succeeds, else `None` -/
theorem mergeFilters_some (h : Nat → Key → Nat) (d s : Combined) :
    Container.mergeFilters (combinedOps h) (some d) (some s) = if (d.merge s).2 then some (d.merge s).1 else none := by
  show (match Combined.merge d s with | (d', ok) => if ok then some d' else none) = _
  generalize d.merge s = p
  obtain ⟨d', ok⟩ := p
  rfl

/-- **`merge_filters`**: the node filter after a child filter has been merged in is `Some` exactly when both were
    `Some` and `checked_add_assign` succeeded; **in every other case the node becomes `None`** ("unknown": every key
    passes) — never the stale filter -/
theorem mergeFilters_isSome_iff (h : Nat → Key → Nat) (dest source : Option Combined) :
    (Container.mergeFilters (combinedOps h) dest source).isSome = true ↔
      ∃ d s, dest = some d ∧ source = some s ∧
        ((d.bloom = none ∧ s.bloom = none) ∨ ∃ x y, d.bloom = some x ∧ s.bloom = some y ∧ Mergeable x y) := by
  cases dest with
  | none => simp [Container.mergeFilters]
  | some d =>
    cases source with
    | none => simp [Container.mergeFilters]
    | some s =>
      have : (Container.mergeFilters (combinedOps h) (some d) (some s)).isSome = (d.merge s).2 := by
        rw [mergeFilters_some]; cases (d.merge s).2 <;> rfl
      rw [this, combined_merge_true_iff]
      constructor
      · intro hh; exact ⟨d, s, rfl, rfl, hh⟩
      · rintro ⟨_, _, hd, hs, hh⟩; cases hd; cases hs; exact hh

theorem mergeFilters_refused (h : Nat → Key → Nat) (d s : Combined) (hr : (d.merge s).2 = false) :
    Container.mergeFilters (combinedOps h) (some d) (some s) = none := by
  rw [mergeFilters_some, hr]; rfl

theorem mergeFilters_merged (h : Nat → Key → Nat) (d s : Combined) (hr : (d.merge s).2 = true) :
    Container.mergeFilters (combinedOps h) (some d) (some s) = some (d.merge s).1 := by
  rw [mergeFilters_some, hr]; rfl

/-- two of the three refusals that matter across configurations, at the level of the node: another hasher count,
    another bit count — the node becomes `None` -/
theorem mergeFilters_across_configs (h : Nat → Key → Nat) (d s : Combined) (x y : Bloom)
    (hd : d.bloom = some x) (hs : s.bloom = some y) (hx : x.WF) (hy : y.WF)
    (hne : x.k ≠ y.k ∨ x.bits ≠ y.bits) :
    Container.mergeFilters (combinedOps h) (some d) (some s) = none := by
  apply mergeFilters_refused
  cases hm : (d.merge s).2 with
  | false => rfl
  | true =>
    rcases (combined_merge_true_iff d s).mp hm with ⟨h1, _⟩ | ⟨x', y', hx', hy', hmg⟩
    · rw [hd] at h1; cases h1
    · rw [hd] at hx'; rw [hs] at hy'; cases hx'; cases hy'
      have := (bloom_merge_succeeds_iff x y hx hy).mp ((bloom_merge_true_iff x y).mpr hmg)
      rcases hne with hne | hne
      · exact absurd this.1 hne
      · exact absurd this.2.1 hne

/-- … and the third: a bloom-less child against a node with a bloom filter, or the converse -/
theorem mergeFilters_bloomless_vs_bloom (h : Nat → Key → Nat) (d s : Combined)
    (hne : d.bloom.isSome ≠ s.bloom.isSome) :
    Container.mergeFilters (combinedOps h) (some d) (some s) = none := by
  apply mergeFilters_refused
  cases hm : (d.merge s).2 with
  | false => rfl
  | true =>
    rcases (combined_merge_true_iff d s).mp hm with ⟨h1, h2⟩ | ⟨x', y', hx', hy', _⟩
    · rw [h1, h2] at hne; exact absurd rfl hne
    · rw [hx', hy'] at hne; exact absurd rfl hne

end Pearl.E2E.MC
