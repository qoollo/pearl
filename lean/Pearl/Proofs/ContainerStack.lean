import Pearl.Proofs.ContainerLemmas
/-
The stack machine `iterNext` / `iterStackCollect` / `iterPossibleStack` (literal transcription of
`PossibleRevIter::next`, `src/filter/hierarchical.rs`) against the recursive reading `walk` / `iterPossible`.
Three fuels are involved: `inner.len() + 2` for the recursive walks, `4 * (inner.len() + 2)` loop iterations per
`next`, `children.len() + 1` calls of `next` per collect.

`section machine` is shape-independent: for ANY arena in which
  * `walk … D` unfolds at every node with the same fuel `D` (i.e. `D` exceeds the depth), and
  * a function `cost : id → Nat` dominates the number of loop iterations needed below an entry
(`WalkOK`), one call of `iterNext` with fuel above the cost of the stack yields the head of the denotation of the stack
(`stackOut`) and leaves a stack denoting the tail, of no larger cost (`iterNext_spec`); hence
`iterStackCollect` computes the denotation (`iterStackCollect_eq`).

`section inv`, with the counting lemmas before it, instantiates this under `Container.Inv` (flat or two-level arena):
`D = inner.len() + 2` unfolds, and the explicit cost `1 + 2·groups + 2·leaves` is below `4 * (inner.len() + 2)` by a
pigeonhole argument on the arena (`groups ≤ inner.len()`, `leaves ≤ inner.len()`): `iterPossibleStack_eq_of_inv`.

At the end `check_filter`, `check_filter_fast` of the container and the pruning of the storage are read through the
stack machine (`checkFilterStack`, `checkFilterFastStack`, `storagePrunesStack`) and shown equal, under the invariant, to
their readings through `iterPossible` in `Pearl/Model/Container.lean`.
-/
namespace Pearl

namespace Container

variable {F C : Type}

/-- the children of a node in visiting order -/
def ord (rev : Bool) (nd : FNode F) : List Nat := if rev then nd.children.reverse else nd.children

@[simp] theorem ord_length (rev : Bool) (nd : FNode F) : (ord rev nd).length = nd.children.length := by
  unfold ord; split <;> simp

theorem mem_ord {rev : Bool} {nd : FNode F} {x : Nat} : x ∈ ord rev nd ↔ x ∈ nd.children := by
  unfold ord; split <;> simp

/-- the index computation of `next`: `node.children[if rev { len - index - 1 } else { index }]` -/
theorem ord_getD (rev : Bool) (nd : FNode F) (index : Nat) (h : index < nd.children.length) :
    nd.children.getD (if rev then nd.children.length - index - 1 else index) 0 =
      (ord rev nd)[index]'(by rw [ord_length]; exact h) := by
  unfold ord
  cases rev with
  | false => simp [List.getD_eq_getElem?_getD, h]
  | true =>
    have h2 : nd.children.length - index - 1 < nd.children.length := by
      rw [Nat.sub_sub]; exact Nat.sub_lt (Nat.zero_lt_of_lt h) (Nat.succ_pos index)
    simp only [if_true, List.getD_eq_getElem?_getD, List.getElem_reverse, List.getElem?_eq_getElem h2,
      Option.getD_some, Nat.sub_right_comm]

theorem ite_isNone_eq_ite_isSome {α β : Type} (o : Option α) (a b : β) :
    (if o.isNone then a else b) = if o.isSome then b else a := by
  cases o <;> rfl

section machine

variable (ops : FilterOps F) (c : Container F C) (rev : Bool) (k : Key)

theorem iterNext_nil (fuel : Nat) : iterNext ops c rev k fuel [] = none := by
  cases fuel <;> rfl

/-- top of stack is a leaf: the loop is left, the entry popped, `get_child(leaf.leaf).map(..)` returned -/
theorem iterNext_leaf (fuel index id p j : Nat) (rest : List (Nat × Nat))
    (h : c.getInner id = some (.leaf p j)) :
    iterNext ops c rev k (fuel + 1) ((index, id) :: rest) = if present c j then some (j, rest) else none := by
  simp only [iterNext, h]
  unfold present
  cases c.getChild j <;> rfl

/-- top of stack is a node all of whose children were seen: popped -/
theorem iterNext_node_done (fuel index id : Nat) (nd : FNode F) (rest : List (Nat × Nat))
    (h : c.getInner id = some (.node nd)) (hi : nd.children.length ≤ index) :
    iterNext ops c rev k (fuel + 1) ((index, id) :: rest) = iterNext ops c rev k fuel rest := by
  simp only [iterNext, h]
  rw [if_pos (by exact hi)]

/-- top of stack is a node with a child left: the index is advanced and the child pushed iff `accepts` -/
theorem iterNext_node_step (fuel index id : Nat) (nd : FNode F) (rest : List (Nat × Nat))
    (h : c.getInner id = some (.node nd)) (hi : index < nd.children.length) :
    iterNext ops c rev k (fuel + 1) ((index, id) :: rest) =
      iterNext ops c rev k fuel
        (if accepts ops c k ((ord rev nd)[index]'(by rw [ord_length]; exact hi)) then
          (0, (ord rev nd)[index]'(by rw [ord_length]; exact hi)) :: (index + 1, id) :: rest
        else (index + 1, id) :: rest) := by
  rw [apply_ite (iterNext ops c rev k fuel)]
  simp only [iterNext, h]
  rw [if_neg (Nat.not_le.mpr hi), ord_getD rev nd index hi]
  generalize (ord rev nd)[index]'(by rw [ord_length]; exact hi) = ch
  unfold accepts
  cases hch : c.getInner ch with
  | none => simp
  | some x =>
    cases x with
    | node n =>
      simp only []
      cases hf : (n.filter.map (fun f => ops.containsFast f k) == some FilterResult.notContains) <;>
        simp [bne, hf]
    | leaf p j =>
      simp only []
      exact ite_isNone_eq_ite_isSome _ _ _

/-- what a stack entry still has to yield (`D` = fuel of the recursive reading) -/
def frameOut (D : Nat) : Nat × Nat → List Nat
  | (index, id) =>
    match c.getInner id with
    | none => []
    | some (.leaf _ j) => if present c j then [j] else []
    | some (.node nd) => (((ord rev nd).drop index).filter (accepts ops c k)).flatMap (walk ops c rev k D)

/-- what the stack still has to yield, top entry first -/
def stackOut (D : Nat) (st : List (Nat × Nat)) : List Nat := st.flatMap (frameOut ops c rev k D)

/-- an upper bound of the loop iterations a stack entry can still cause, given a bound `cost` for the entries below
    it -/
def frameCost (cost : Nat → Nat) : Nat × Nat → Nat
  | (index, id) =>
    match c.getInner id with
    | none => 0
    | some (.leaf _ _) => 1
    | some (.node nd) => 1 + (((ord rev nd).drop index).map (fun ch => 1 + cost ch)).sum

def stackCost (cost : Nat → Nat) (st : List (Nat × Nat)) : Nat := (st.map (frameCost c rev cost)).sum

/-- stack entries exist in the arena, and leaf entries point to present children (they are pushed only then) -/
def StackOK (st : List (Nat × Nat)) : Prop :=
  ∀ fr ∈ st, match c.getInner fr.2 with
    | none => False
    | some (.leaf _ j) => present c j = true
    | some (.node _) => True

/-- what `iterNext_spec` needs to know about the arena -/
structure WalkOK (D : Nat) (cost : Nat → Nat) : Prop where
  dpos : 0 < D
  unfold : ∀ id nd, c.getInner id = some (.node nd) →
    walk ops c rev k D id = ((ord rev nd).filter (accepts ops c k)).flatMap (walk ops c rev k D)
  costLeaf : ∀ id p j, c.getInner id = some (.leaf p j) → 1 ≤ cost id
  costNode : ∀ id nd, c.getInner id = some (.node nd) → frameCost c rev cost (0, id) ≤ cost id

variable {ops c rev k}

theorem stackOut_cons (D : Nat) (fr : Nat × Nat) (st : List (Nat × Nat)) :
    stackOut ops c rev k D (fr :: st) = frameOut ops c rev k D fr ++ stackOut ops c rev k D st := by
  simp [stackOut]

theorem stackCost_cons (cost : Nat → Nat) (fr : Nat × Nat) (st : List (Nat × Nat)) :
    stackCost c rev cost (fr :: st) = frameCost c rev cost fr + stackCost c rev cost st := by
  simp [stackCost]

theorem StackOK.tail {fr : Nat × Nat} {st : List (Nat × Nat)} (h : StackOK c (fr :: st)) : StackOK c st :=
  fun x hx => h x (List.mem_cons_of_mem _ hx)

theorem frameOut_zero {D : Nat} {cost : Nat → Nat} (hw : WalkOK ops c rev k D cost) (ch : Nat) :
    frameOut ops c rev k D (0, ch) = walk ops c rev k D ch := by
  obtain ⟨d, rfl⟩ : ∃ d, D = d + 1 := ⟨D - 1, by have := hw.dpos; omega⟩
  unfold frameOut
  cases hch : c.getInner ch with
  | none => simp [walk, hch]
  | some x =>
    cases x with
    | leaf p j => simp only [hch]; rw [walk_leaf hch]
    | node nd => simp only [hch, List.drop_zero]; rw [hw.unfold ch nd hch]

/-- the stack after one loop iteration at a node entry with a child left (index advanced, child pushed iff
    accepted) denotes the same, is well-formed and costs less -/
theorem stack_step {D : Nat} {cost : Nat → Nat} (hw : WalkOK ops c rev k D cost) {index id : Nat} {nd : FNode F}
    (hid : c.getInner id = some (.node nd)) (hi : index < (ord rev nd).length) (rest : List (Nat × Nat))
    (hok : StackOK c ((index, id) :: rest)) (st2 : List (Nat × Nat))
    (hst2 : st2 = if accepts ops c k (ord rev nd)[index] then (0, (ord rev nd)[index]) :: (index + 1, id) :: rest
      else (index + 1, id) :: rest) :
    stackOut ops c rev k D st2 = stackOut ops c rev k D ((index, id) :: rest) ∧ StackOK c st2 ∧
      stackCost c rev cost st2 + 1 ≤ stackCost c rev cost ((index, id) :: rest) := by
  have eout : frameOut ops c rev k D (index, id) =
      (if accepts ops c k (ord rev nd)[index] then walk ops c rev k D (ord rev nd)[index] else []) ++
        frameOut ops c rev k D (index + 1, id) := by
    simp only [frameOut, hid, List.drop_eq_getElem_cons hi, List.filter_cons]
    split <;> simp
  have ecost : frameCost c rev cost (index, id) =
      1 + cost (ord rev nd)[index] + frameCost c rev cost (index + 1, id) := by
    simp only [frameCost, hid, List.drop_eq_getElem_cons hi, List.map_cons, List.sum_cons]
    omega
  have hadv : StackOK c ((index + 1, id) :: rest) := fun x hx => by
    rcases List.mem_cons.mp hx with rfl | hx
    · simp only [hid]
    · exact hok.tail x hx
  generalize (ord rev nd)[index] = ch at hst2 eout ecost
  cases hacc : accepts ops c k ch with
  | false =>
    simp only [hacc, Bool.false_eq_true, if_false] at hst2 eout
    subst hst2
    refine ⟨by rw [stackOut_cons, stackOut_cons, eout]; rfl, hadv, ?_⟩
    rw [stackCost_cons, stackCost_cons, ecost]; omega
  | true =>
    simp only [hacc, if_true] at hst2 eout
    subst hst2
    refine ⟨by rw [stackOut_cons, stackOut_cons, stackOut_cons, frameOut_zero hw ch, eout, List.append_assoc],
      fun x hx => ?_, ?_⟩
    · rcases List.mem_cons.mp hx with rfl | hx
      · -- the pushed entry was accepted: if it is a leaf, its slot is occupied
        simp only []
        unfold accepts at hacc
        cases hch : c.getInner ch with
        | none => rw [hch] at hacc; cases hacc
        | some y =>
          cases y with
          | node n => trivial
          | leaf p j => rw [hch] at hacc; exact hacc
      · exact hadv x hx
    · have hcch : frameCost c rev cost (0, ch) ≤ cost ch := by
        cases hch : c.getInner ch with
        | none => simp [frameCost, hch]
        | some y =>
          cases y with
          | node n => exact hw.costNode ch n hch
          | leaf p j => simpa [frameCost, hch] using hw.costLeaf ch p j hch
      rw [stackCost_cons, stackCost_cons, stackCost_cons, ecost]; omega

/-- one `next()`: with fuel above the cost of the stack it returns `None` only if nothing is left, and otherwise
    the head of what is left, leaving a stack that denotes the tail -/
theorem iterNext_spec {D : Nat} {cost : Nat → Nat} (hw : WalkOK ops c rev k D cost) :
    ∀ (fuel : Nat) (st : List (Nat × Nat)), StackOK c st → stackCost c rev cost st < fuel →
      (iterNext ops c rev k fuel st = none → stackOut ops c rev k D st = []) ∧
      (∀ j st', iterNext ops c rev k fuel st = some (j, st') →
        stackOut ops c rev k D st = j :: stackOut ops c rev k D st' ∧ StackOK c st' ∧
          stackCost c rev cost st' ≤ stackCost c rev cost st) := by
  intro fuel
  induction fuel with
  | zero => intro st _ h; cases h
  | succ fuel ih =>
    intro st hok hcost
    -- a loop iteration that leads to `st2`, denoting the same and costing less
    have reduce : ∀ st2, iterNext ops c rev k (fuel + 1) st = iterNext ops c rev k fuel st2 →
        stackOut ops c rev k D st2 = stackOut ops c rev k D st ∧ StackOK c st2 ∧
          stackCost c rev cost st2 + 1 ≤ stackCost c rev cost st →
        (iterNext ops c rev k (fuel + 1) st = none → stackOut ops c rev k D st = []) ∧
        (∀ j st', iterNext ops c rev k (fuel + 1) st = some (j, st') →
          stackOut ops c rev k D st = j :: stackOut ops c rev k D st' ∧ StackOK c st' ∧
            stackCost c rev cost st' ≤ stackCost c rev cost st) := by
      intro st2 hstep ⟨hout, hok2, hc2⟩
      obtain ⟨i1, i2⟩ := ih st2 hok2 (Nat.lt_of_succ_lt_succ (Nat.lt_of_le_of_lt hc2 hcost))
      rw [hstep, ← hout]
      refine ⟨i1, fun j st' h => ?_⟩
      obtain ⟨a, b, c'⟩ := i2 j st' h
      exact ⟨a, b, Nat.le_trans c' (Nat.le_of_succ_le hc2)⟩
    cases st with
    | nil =>
      refine ⟨fun _ => rfl, fun j st' h => ?_⟩
      rw [iterNext_nil] at h; cases h
    | cons fr rest =>
      obtain ⟨index, id⟩ := fr
      have hfr := hok (index, id) (List.mem_cons_self ..)
      simp only [] at hfr
      cases hid : c.getInner id with
      | none => rw [hid] at hfr; exact hfr.elim
      | some x =>
        cases x with
        | leaf p j =>
          rw [hid] at hfr
          simp only [] at hfr
          rw [iterNext_leaf ops c rev k fuel index id p j rest hid, hfr]
          simp only [if_true]
          refine ⟨fun h => (by cases h), fun j' st' h => ?_⟩
          simp only [Option.some.injEq, Prod.mk.injEq] at h
          obtain ⟨rfl, rfl⟩ := h
          refine ⟨?_, hok.tail, ?_⟩
          · rw [stackOut_cons]; simp [frameOut, hid, hfr]
          · rw [stackCost_cons]; exact Nat.le_add_left _ _
        | node nd =>
          by_cases hi : nd.children.length ≤ index
          · -- all children seen: pop
            have hdrop : (ord rev nd).drop index = [] := List.drop_eq_nil_of_le (by rw [ord_length]; exact hi)
            refine reduce rest (iterNext_node_done ops c rev k fuel index id nd rest hid hi) ⟨?_, hok.tail, ?_⟩
            · rw [stackOut_cons]; simp [frameOut, hid, hdrop]
            · rw [stackCost_cons]; simp only [frameCost, hid, hdrop, List.map_nil, List.sum_nil]; omega
          · have hi' : index < nd.children.length := Nat.lt_of_not_le hi
            exact reduce _ (iterNext_node_step ops c rev k fuel index id nd rest hid hi')
              (stack_step hw hid (by rw [ord_length]; exact hi') rest hok _ rfl)

/-- the iterator run to exhaustion yields what the stack denotes, provided the `next` fuel exceeds the cost of the
    stack and the `collect` fuel is at least the number of items -/
theorem iterStackCollect_eq {D : Nat} {cost : Nat → Nat} (hw : WalkOK ops c rev k D cost) :
    ∀ (fuel : Nat) (st : List (Nat × Nat)), StackOK c st →
      stackCost c rev cost st < 4 * (c.inner.length + 2) →
      (stackOut ops c rev k D st).length ≤ fuel →
      iterStackCollect ops c rev k fuel st = stackOut ops c rev k D st := by
  intro fuel
  induction fuel with
  | zero =>
    intro st _ _ hlen
    have : stackOut ops c rev k D st = [] := List.eq_nil_of_length_eq_zero (by omega)
    rw [this]; rfl
  | succ fuel ih =>
    intro st hok hcost hlen
    obtain ⟨h1, h2⟩ := iterNext_spec hw (4 * (c.inner.length + 2)) st hok hcost
    unfold iterStackCollect
    cases hres : iterNext ops c rev k (4 * (c.inner.length + 2)) st with
    | none => simp only []; exact (h1 hres).symm
    | some r =>
      obtain ⟨j, st'⟩ := r
      obtain ⟨e, hok', hc'⟩ := h2 j st' hres
      simp only []
      rw [e, ih st' hok' (by omega) (by rw [e] at hlen; simpa using hlen)]

theorem initStack {D : Nat} {cost : Nat → Nat} (hw : WalkOK ops c rev k D cost) (rd : FNode F)
    (hroot : c.getInner c.root = some (.node rd)) :
    stackOut ops c rev k D [(0, c.root)] = walk ops c rev k D c.root ∧ StackOK c [(0, c.root)] ∧
      stackCost c rev cost [(0, c.root)] ≤ cost c.root := by
  refine ⟨by rw [stackOut_cons, frameOut_zero hw]; simp [stackOut], fun x hx => ?_, ?_⟩
  · rw [List.mem_singleton.mp hx]
    simp only [hroot]
  · have := hw.costNode c.root rd hroot
    simpa [stackCost] using this

theorem iterPossibleStack_eq_walk {D : Nat} {cost : Nat → Nat} (hw : WalkOK ops c rev k D cost) (rd : FNode F)
    (hroot : c.getInner c.root = some (.node rd)) (hcost : cost c.root < 4 * (c.inner.length + 2))
    (hlen : (walk ops c rev k D c.root).length ≤ c.children.length + 1) :
    iterPossibleStack ops c rev k = walk ops c rev k D c.root := by
  obtain ⟨hout, hok, hc⟩ := initStack hw rd hroot
  rw [iterPossibleStack, iterStackCollect_eq hw _ _ hok (by omega) (by rw [hout]; exact hlen), hout]

end machine

/-! ### what `section inv` counts with: two list facts, which entries are leaves and groups, and that every slot has an
    arena entry of its own (`slots_le_inner`) -/

theorem flatMap_filter_congr {α β : Type} (p : α → Bool) (f g : α → List β) (l : List α)
    (h : ∀ x ∈ l, f x = g x) : (l.filter p).flatMap f = (l.filter p).flatMap g := by
  rw [List.flatMap_def, List.flatMap_def, List.map_congr_left fun x hx => h x (List.mem_filter.1 hx).1]

theorem sum_map_const_two {α : Type} (f : α → Nat) (l : List α) (h : ∀ x ∈ l, f x = 2) :
    (l.map f).sum = 2 * l.length := by
  rw [List.map_eq_replicate_iff.2 h, List.sum_replicate_nat, Nat.mul_comm]

theorem sum_map_ord (rev : Bool) (nd : FNode F) (f : Nat → Nat) :
    ((ord rev nd).map f).sum = (nd.children.map f).sum := by
  unfold ord
  split
  · rw [List.map_reverse, List.sum_reverse]
  · rfl

def IsLeafId (c : Container F C) (x : Nat) : Prop := ∃ p j, c.getInner x = some (.leaf p j)

def IsGroupId (c : Container F C) (x : Nat) : Prop :=
  ∃ gn, c.getInner x = some (.node gn) ∧ ∀ y ∈ gn.children, IsLeafId c y

theorem IsLeafRun.isLeafId {c : Container F C} {n : Nat} {ids : List Nat} {s : Nat} (h : IsLeafRun c n ids s) :
    ∀ y ∈ ids, IsLeafId c y := by
  intro y hy
  obtain ⟨p, hp, rfl⟩ := List.mem_iff_getElem.mp hy
  exact ⟨n, s + p, h p hp⟩

theorem Groups.isGroupId {ops : FilterOps F} {ok : F → Prop} {c : Container F C} {g : List (Option F)}
    {ids : List Nat} {s e : Nat} (hG : Groups ops ok c g ids s e) (x : Nat) (hx : x ∈ ids) : IsGroupId c x := by
  obtain ⟨gn, _, h1, h3, _⟩ := hG.mem hx
  exact ⟨gn, h1, h3.isLeafId⟩

theorem Groups.slot_leaf {ops : FilterOps F} {ok : F → Prop} {c : Container F C} {g : List (Option F)} :
    ∀ {ids : List Nat} {s e : Nat}, Groups ops ok c g ids s e → ∀ j, s ≤ j → j < e →
      ∃ id p, c.getInner id = some (.leaf p j)
  | [], s, e, hG, j, h1, h2 => absurd (hG ▸ h2 : j < s) (Nat.not_lt.mpr h1)
  | a :: rest, s, e, hG, j, h1, h2 => by
    obtain ⟨gn, _, _, h3, _, _, hr⟩ := hG
    by_cases hj : j < s + gn.children.length
    · have := h3 (j - s) (Nat.sub_lt_left_of_lt_add h1 hj)
      rw [Nat.add_sub_cancel' h1] at this
      exact ⟨_, _, this⟩
    · exact Groups.slot_leaf hr j (Nat.le_of_not_lt hj) h2

/-- if every slot below `n` has a leaf entry, the arena has at least `n` entries: reading the slot off every arena
    entry yields a list of at most `inner.len()` items that contains `0 … n-1` -/
theorem slots_le_inner (c : Container F C) (n : Nat)
    (h : ∀ j, j < n → ∃ id p, c.getInner id = some (.leaf p j)) : n ≤ c.inner.length := by
  let slot : Nat → Option Nat := fun id =>
    match c.getInner id with
    | some (.leaf _ j) => some j
    | _ => none
  have hsub : List.range n ⊆ (List.range c.inner.length).filterMap slot := fun j hj => by
    obtain ⟨id, p, hid⟩ := h j (List.mem_range.mp hj)
    exact List.mem_filterMap.mpr ⟨id, List.mem_range.mpr (getInner_lt_length hid), by simp only [slot, hid]⟩
  have h1 := List.nodup_range.length_le_of_subset hsub
  have h2 := List.length_filterMap_le slot (List.range c.inner.length)
  rw [List.length_range] at h1 h2
  exact Nat.le_trans h1 h2

section inv

variable {ops : FilterOps F} {ok : F → Prop}

theorem walk_stable_leaf (c : Container F C) (rev : Bool) (k : Key) (a b x : Nat) (h : IsLeafId c x) :
    walk ops c rev k (a + 1) x = walk ops c rev k (b + 1) x := by
  obtain ⟨p, j, hx⟩ := h
  rw [walk_leaf hx, walk_leaf hx]

theorem walk_stable_group (c : Container F C) (rev : Bool) (k : Key) (a b x : Nat) (h : IsGroupId c x) :
    walk ops c rev k (a + 2) x = walk ops c rev k (b + 2) x := by
  obtain ⟨gn, hx, hl⟩ := h
  rw [walk_node hx, walk_node hx]
  refine flatMap_filter_congr _ _ _ _ (fun y hy => walk_stable_leaf c rev k a b y (hl y ?_))
  split at hy
  · exact List.mem_reverse.mp hy
  · exact hy

/-- the shape of the arena: the children of a node are leaves, or the node is the root and its children are
    groups (other than the root) -/
theorem Inv.node_children {c : Container F C} {g : List (Option F)} (hinv : Inv ops ok c g) (id : Nat)
    (nd : FNode F) (h : c.getInner id = some (.node nd)) :
    (∀ y ∈ nd.children, IsLeafId c y) ∨ (id = c.root ∧ ∀ y ∈ nd.children, IsGroupId c y ∧ y ≠ c.root) := by
  rcases hinv.shape with hs | hs
  · obtain ⟨rd, hroot, _, hrun, _, _, _, _, honly⟩ := hs
    have := honly id nd h
    subst this
    rw [hroot] at h; cases h
    exact Or.inl hrun.isLeafId
  · obtain ⟨rd, hroot, _, _, _, hnd, hgroups, _, _, honly⟩ := hs
    rcases honly id nd h with rfl | hmem
    · rw [hroot] at h; cases h
      refine Or.inr ⟨rfl, fun y hy => ⟨Groups.isGroupId hgroups y hy, ?_⟩⟩
      rintro rfl
      exact (List.nodup_cons.mp hnd).1 hy
    · obtain ⟨gn, hg, hl⟩ := Groups.isGroupId hgroups id hmem
      rw [hg] at h; cases h
      exact Or.inl hl

theorem Inv.root_node {c : Container F C} {g : List (Option F)} (hinv : Inv ops ok c g) :
    ∃ rd, c.getInner c.root = some (.node rd) := by
  rcases hinv.shape with hs | hs
  · obtain ⟨rd, hroot, _⟩ := hs; exact ⟨rd, hroot⟩
  · obtain ⟨rd, hroot, _⟩ := hs; exact ⟨rd, hroot⟩

/-- the fuel `inner.len() + 2` of the recursive reading exceeds the depth at every node -/
theorem Inv.walk_unfold {c : Container F C} {g : List (Option F)} (hinv : Inv ops ok c g) (rev : Bool) (k : Key)
    (id : Nat) (nd : FNode F) (h : c.getInner id = some (.node nd)) :
    walk ops c rev k (c.inner.length + 2) id =
      ((ord rev nd).filter (accepts ops c k)).flatMap (walk ops c rev k (c.inner.length + 2)) := by
  obtain ⟨rd, hroot⟩ := hinv.root_node
  have hN := getInner_lt_length hroot
  obtain ⟨a, ha⟩ : ∃ a, c.inner.length = a + 1 := ⟨c.inner.length - 1, by omega⟩
  rw [walk_node h]
  show ((ord rev nd).filter (accepts ops c k)).flatMap (walk ops c rev k (c.inner.length + 1)) = _
  refine flatMap_filter_congr _ _ _ _ (fun y hy => ?_)
  rw [mem_ord] at hy
  rcases hinv.node_children id nd h with hl | ⟨_, hg⟩
  · exact walk_stable_leaf c rev k _ _ y (hl y hy)
  · rw [ha]
    exact walk_stable_group c rev k a (a + 1) y (hg y hy).1

/-- loop iterations below a leaf (1: the final pop) or a group (1 + two per leaf) -/
def costG (c : Container F C) (x : Nat) : Nat :=
  match c.getInner x with
  | none => 0
  | some (.leaf _ _) => 1
  | some (.node nd) => 1 + 2 * nd.children.length

/-- loop iterations below an arena entry -/
def costOf (c : Container F C) (x : Nat) : Nat :=
  if x = c.root then 1 + (((c.getNode c.root).getD {}).children.map (fun ch => 1 + costG c ch)).sum
  else costG c x

theorem costG_leaf {c : Container F C} {x : Nat} (h : IsLeafId c x) : costG c x = 1 := by
  obtain ⟨p, j, hx⟩ := h
  simp [costG, hx]

/-- the loop iterations the groups can cause: two per group and two per leaf -/
theorem Groups.cost_sum {c : Container F C} {g : List (Option F)} :
    ∀ {ids : List Nat} {s e : Nat}, Groups ops ok c g ids s e →
      (ids.map (fun ch => 1 + costG c ch)).sum + 2 * s = 2 * ids.length + 2 * e
  | [], s, e, hG => by simp only [Groups] at hG; subst hG; simp
  | a :: rest, s, e, hG => by
    obtain ⟨gn, h1, _, _, _, _, hr⟩ := hG
    have ih := Groups.cost_sum hr
    have hc : costG c a = 1 + 2 * gn.children.length := by simp only [costG, h1]
    simp only [List.map_cons, List.sum_cons, List.length_cons, hc]
    omega

theorem Inv.walkOK {c : Container F C} {g : List (Option F)} (hinv : Inv ops ok c g) (rev : Bool) (k : Key) :
    WalkOK ops c rev k (c.inner.length + 2) (costOf c) := by
  obtain ⟨rd, hroot⟩ := hinv.root_node
  have hleaf_ne : ∀ y, IsLeafId c y → y ≠ c.root := by
    rintro y ⟨p, j, hy⟩ rfl
    rw [hroot] at hy; cases hy
  refine ⟨by omega, hinv.walk_unfold rev k, ?_, ?_⟩
  · intro id p j hid
    have hne := hleaf_ne id ⟨p, j, hid⟩
    simp [costOf, hne, costG, hid]
  · intro id nd hid
    simp only [frameCost, hid, List.drop_zero]
    rw [sum_map_ord]
    by_cases hr : id = c.root
    · subst hr
      have hne : ∀ y ∈ nd.children, y ≠ c.root := by
        intro y hy
        rcases hinv.node_children c.root nd hid with hl | ⟨_, hg⟩
        · exact hleaf_ne y (hl y hy)
        · exact (hg y hy).2
      have : nd.children.map (fun ch => 1 + costOf c ch) = nd.children.map (fun ch => 1 + costG c ch) :=
        List.map_congr_left (fun y hy => by simp [costOf, hne y hy])
      rw [this]
      simp [costOf, getNode_eq hid]
    · rcases hinv.node_children id nd hid with hl | ⟨h1, _⟩
      · have : (nd.children.map (fun ch => 1 + costOf c ch)).sum = 2 * nd.children.length :=
          sum_map_const_two _ _ (fun y hy => by
            simp [costOf, hleaf_ne y (hl y hy), costG_leaf (hl y hy)])
        rw [this]
        simp [costOf, hr, costG, hid]
      · exact absurd h1 hr

/-- the `next` fuel `4 * (inner.len() + 2)` exceeds the loop iterations of a whole traversal -/
theorem Inv.cost_root_lt {c : Container F C} {g : List (Option F)} (hinv : Inv ops ok c g) :
    costOf c c.root < 4 * (c.inner.length + 2) := by
  rcases hinv.shape with hs | hs
  · obtain ⟨rd, hroot, _, hrun, hlen, _, _, _, _⟩ := hs
    have hL : c.children.length ≤ c.inner.length :=
      slots_le_inner c _ (fun j hj => ⟨_, _, Nat.zero_add j ▸ hrun j (hlen ▸ hj)⟩)
    have : (rd.children.map (fun ch => 1 + costG c ch)).sum = 2 * rd.children.length :=
      sum_map_const_two _ _ (fun y hy => by rw [costG_leaf (hrun.isLeafId y hy)])
    simp only [costOf, if_true, getNode_eq hroot, Option.getD_some, this, hlen]
    omega
  · obtain ⟨rd, hroot, _, _, _, hnd, hgroups, _, _, _⟩ := hs
    have hL : c.children.length ≤ c.inner.length :=
      slots_le_inner c _ (fun j hj => Groups.slot_leaf hgroups j (Nat.zero_le _) hj)
    have hG : rd.children.length ≤ c.inner.length :=
      List.length_range (n := c.inner.length) ▸ (List.nodup_cons.mp hnd).2.length_le_of_subset
        (fun x hx => List.mem_range.mpr (hgroups.mem_lt hx))
    simp only [costOf, if_true, getNode_eq hroot, Option.getD_some]
    have hs := Groups.cost_sum hgroups
    rw [Nat.mul_zero, Nat.add_zero] at hs
    omega

/-- **the stack machine of `PossibleRevIter::next` computes the recursive reading**, with the fuels of the model
    (`4 * (inner.len() + 2)` loop iterations per `next`, `children.len() + 1` items, depth `inner.len() + 2`), for
    every container satisfying the invariant -/
theorem iterPossibleStack_eq_of_inv (c : Container F C) (g : List (Option F)) (hinv : Inv ops ok c g) (rev : Bool)
    (k : Key) : iterPossibleStack ops c rev k = iterPossible ops c rev k := by
  obtain ⟨rd, hroot⟩ := hinv.root_node
  refine iterPossibleStack_eq_walk (hinv.walkOK rev k) rd hroot hinv.cost_root_lt ?_
  have hf := (iterPossible_spec c g k hinv).1.length_le
  rw [List.length_range] at hf
  show (iterPossible ops c rev k).length ≤ _
  cases rev with
  | false => omega
  | true => rw [iterPossible_rev, List.length_reverse]; omega

/-- `iter_possible_childs(key).next().is_some()` on the stack machine -/
theorem next_isSome_of_inv (c : Container F C) (g : List (Option F)) (hinv : Inv ops ok c g) (rev : Bool) (k : Key) :
    (iterNext ops c rev k (4 * (c.inner.length + 2)) [(0, c.root)]).isSome =
      !(iterPossible ops c rev k).isEmpty := by
  obtain ⟨rd, hroot⟩ := hinv.root_node
  have hw := hinv.walkOK (ops := ops) rev k
  obtain ⟨hout, hok, hc⟩ := initStack hw rd hroot
  have hcost : stackCost c rev (costOf c) [(0, c.root)] < 4 * (c.inner.length + 2) :=
    Nat.lt_of_le_of_lt hc hinv.cost_root_lt
  obtain ⟨h1, h2⟩ := iterNext_spec hw _ _ hok hcost
  rw [hout] at h1 h2
  show (iterNext ops c rev k _ _).isSome = !(walk ops c rev k _ c.root).isEmpty
  cases hres : iterNext ops c rev k (4 * (c.inner.length + 2)) [(0, c.root)] with
  | none => rw [h1 hres]; rfl
  | some r =>
    obtain ⟨j, st'⟩ := r
    rw [(h2 j st' hres).1]; rfl

end inv

/-! ### `check_filter`, `check_filter_fast` and the pruning of the storage through the stack machine -/

/-- `BloomProvider::check_filter` of the container, the iterator being the stack machine -/
def checkFilterStack (ops : FilterOps F) (cops : ChildOps F C) (c : Container F C) (k : Key) : FilterResult :=
  ((iterPossibleStack ops c false k).filterMap
    (fun j => (c.getChild j).map (fun lf => cops.checkFilter lf.data k))).foldl (· + ·) .notContains

/-- `BloomProvider::check_filter_fast` of the container: `iter_possible_childs(item).next().is_some()`, one call
    of `next` on the initial stack -/
def checkFilterFastStack (ops : FilterOps F) (c : Container F C) (k : Key) : FilterResult :=
  if (iterNext ops c false k (4 * (c.inner.length + 2)) [(0, c.root)]).isSome then .needAdditionalCheck
  else .notContains

theorem checkFilterStack_eq {ops : FilterOps F} {ok : F → Prop} (cops : ChildOps F C) (c : Container F C)
    (g : List (Option F)) (hinv : Inv ops ok c g) (k : Key) :
    checkFilterStack ops cops c k = checkFilter ops cops c k := by
  unfold checkFilterStack checkFilter
  rw [iterPossibleStack_eq_of_inv c g hinv]

theorem checkFilterFastStack_eq {ops : FilterOps F} {ok : F → Prop} (c : Container F C)
    (g : List (Option F)) (hinv : Inv ops ok c g) (k : Key) :
    checkFilterFastStack ops c k = checkFilterFast ops c k := by
  unfold checkFilterFastStack checkFilterFast
  rw [next_isSome_of_inv c g hinv]
  cases (iterPossible ops c false k).isEmpty <;> rfl

end Container

/-- `storagePrunes` with `iter_possible_childs_rev` read through the stack machine -/
def storagePrunesStack (h : Nat → Key → Nat) (c : Container Combined FBlob) (j : Nat) (k : Key) : Bool :=
  !(Container.iterPossibleStack (combinedOps h) c true k).contains j ||
    (match c.getChild j with
     | some lf => lf.data.checkFilter h k == .notContains
     | none => true)

theorem storagePrunesStack_eq (h : Nat → Key → Nat) (c : Container Combined FBlob) (g : List (Option Combined))
    (hinv : Container.Inv (combinedOps h) Combined.WF c g) (j : Nat) (k : Key) :
    storagePrunesStack h c j k = storagePrunes h c j k := by
  unfold storagePrunesStack storagePrunes
  rw [Container.iterPossibleStack_eq_of_inv c g hinv]
  cases c.getChild j <;> rfl

end Pearl
