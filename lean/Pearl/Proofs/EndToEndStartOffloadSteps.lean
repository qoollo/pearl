import Pearl.Proofs.EndToEndStartOffload
/-
End-to-end composition, bloom off-loading: a blob whose filter may be off-loaded satisfies a blob invariant
(`BlobInvO`) that meets `BlobIOLaws`, and `CInvO` is the storage invariant over it (`cinvO_iff`), so every operation of
`MOp` refines its L2 operation on such states by `stepM_ref_of`.  The off-loading calls change the children slot by slot
into the same child with the filter of its blob off-loaded (`OffSlots`), and node filters of the arena; that keeps the
invariant and the L2 state (`CInvG.offSlots`), so `CInvO` is an invariant of `stepO` and the abstraction to L2 does not
see the off-loading.
-/
namespace Pearl.E2E
open Pearl Pearl.BPTree Pearl.Container

section
variable {cfg : Cfg}

theorem Combined.offload_offload (c : Combined) : c.offload.1.offload.1 = c.offload.1 := by
  unfold Combined.offload
  cases hb : c.bloom with
  | none => simp [hb]
  | some b => simp [Bloom.offload]

theorem writeRec_reload (cfg : Cfg) (b : CBlob) (r : Rec) :
    (b.writeRec cfg r).reload cfg = (b.reload cfg).writeRec cfg r := by
  cases hi : b.index with
  | mem m =>
    rw [writeRec_mem cfg b m hi r, writeRec_mem cfg (b.reload cfg) m hi r]
    simp only [CBlob.reload, filterOf_snoc]
  | disk f mb off =>
    unfold CBlob.writeRec CBlob.indexPush
    have hri : (b.reload cfg).index = b.index := rfl
    simp only [hri, hi]
    rfl

theorem writeRec_blobOff {b : CBlob} (hb : BlobOff cfg b) (r : Rec) : BlobOff cfg (b.writeRec cfg r) := by
  cases hi : b.index with
  | mem m =>
    rw [writeRec_mem cfg b m hi r]
    left
    simp only [filterOf_snoc, hb.filter_of_mem (by rw [hi]; rfl)]
  | disk f mb off =>
    unfold CBlob.writeRec CBlob.indexPush
    simp only [hi]
    rcases hb with h | ⟨h1, h2⟩
    · exact Or.inl h
    · exact Or.inr ⟨by simp only []; rfl, h2⟩

/-- `load_index` reads the filter back from the file: an off-loaded blob and its reload load alike -/
theorem loadIndex_reload (hcfg : cfg.OK) {b : CBlob} (hoff : BlobOff cfg b) (hR : BlobInv cfg (b.reload cfg)) :
    b.loadIndex cfg = (b.reload cfg).loadIndex cfg := by
  have hri : (b.reload cfg).index = b.index := rfl
  cases hi : b.index with
  | mem m =>
    rw [hoff.of_mem (by rw [hi]; rfl)]
  | disk f mb off =>
    unfold CBlob.loadIndex
    simp only [hri, hi, (hR.disk_file (hri.trans hi)).2.2.2, hR.disk_filter hcfg (hri.trans hi)]
    rfl

theorem dump_reload {b : CBlob} (hoff : BlobOff cfg b) :
    (b.dump cfg).reload cfg = (b.reload cfg).dump cfg ∧ BlobOff cfg (b.dump cfg) := by
  cases hi : b.index with
  | disk f mb off =>
    have h1 : b.dump cfg = b := by unfold CBlob.dump; rw [hi]
    have h2 : (b.reload cfg).dump cfg = b.reload cfg := by
      unfold CBlob.dump
      have hri : (b.reload cfg).index = b.index := rfl
      rw [hri, hi]
    rw [h1, h2]
    exact ⟨rfl, hoff⟩
  | mem m =>
    have hfl := hoff.filter_of_mem (by rw [hi]; rfl)
    have hb := reload_of_filter hfl
    rw [hb]
    unfold CBlob.dump
    rw [hi]
    simp only []
    split
    · exact ⟨hb, Or.inl hfl⟩
    · split
      · exact ⟨hb, Or.inl hfl⟩
      · exact ⟨reload_of_filter hfl, Or.inl hfl⟩

theorem offloadFilter_reload (cfg : Cfg) (b : CBlob) : (b.offloadFilter.1).reload cfg = b.reload cfg := by
  unfold CBlob.offloadFilter
  cases hi : b.index with
  | mem m => rfl
  | disk f mb off =>
    simp only []
    generalize b.filter.offload = p
    obtain ⟨f', n⟩ := p
    simp only [CBlob.reload, hi]

theorem offloadFilter_blobOff {b : CBlob} (hoff : BlobOff cfg b) : BlobOff cfg b.offloadFilter.1 := by
  unfold CBlob.offloadFilter
  cases hi : b.index with
  | mem m => exact hoff
  | disk f mb off =>
    right
    refine ⟨by simp only []; rfl, ?_⟩
    rcases hoff with h | ⟨_, h⟩
    · show b.filter.offload.1 = _
      rw [h]
    · show b.filter.offload.1 = _
      rw [h, Combined.offload_offload]

theorem openNew_reload (cfg : Cfg) (id : Nat) : (CBlob.openNew cfg id).reload cfg = CBlob.openNew cfg id := rfl

theorem openNew_blobOff (cfg : Cfg) (id : Nat) : BlobOff cfg (CBlob.openNew cfg id) := Or.inl rfl

/-! ### off-loaded filters as a blob invariant

A blob whose filter may be off-loaded satisfies an invariant that meets `BlobIOLaws`, and `CInvO` is the storage
invariant over it: the refinement and read-path theorems written for any such invariant apply as they stand. -/

def BlobInvO0 (cfg : Cfg) (b : CBlob) : Prop := BlobInv0 cfg (b.reload cfg) ∧ BlobOff cfg b

def BlobInvO (cfg : Cfg) (b : CBlob) : Prop := BlobInv cfg (b.reload cfg) ∧ BlobOff cfg b

theorem BlobInvO.core {b : CBlob} (hb : BlobInvO cfg b) : BlobCore cfg b := by
  have hc := hb.1.core
  have hf : b.filter.WF ∧ ∀ r ∈ b.ghost, b.filter.containsFast cfg.h r.key ≠ .notContains := by
    rcases hb.2 with h | ⟨_, h⟩
    · rw [h]; exact ⟨hc.wf, hc.covers⟩
    · rw [h]
      exact ⟨Combined.offload_WF _ hc.wf, fun r hr => Combined.offload_containsFast cfg.h _ r.key (hc.covers r hr)⟩
  refine ⟨hc.key, hc.ts, hc.file, hf.1, hf.2, ?_, hc.mem, hc.disk⟩
  intro hmem
  have := hc.resident hmem
  rwa [hb.2.of_mem hmem] at this

theorem blobIOLawsO (hcfg : cfg.OK) : BlobIOLaws cfg (BlobInvO0 cfg) (BlobInvO cfg) where
  openNew id := ⟨by rw [openNew_reload]; exact openNew_inv cfg id, openNew_blobOff cfg id⟩
  core hb := hb.core
  dump hb := ⟨by rw [(dump_reload hb.2).1]; exact dump_inv hb.1, (dump_reload hb.2).2⟩
  ok := hcfg
  checkFilter hb r hr := by
    rw [checkFilter_reload hb.2 hb.1]
    exact hb.1.checkFilter_no_fn r.key ⟨r, hr, rfl⟩
  toI0 hb := ⟨hb.1.toBlobInv0, hb.2⟩
  ofSize h0 hsz := ⟨⟨h0.1, by rw [h0.1.file]; exact hsz⟩, h0.2⟩
  size hb := hb.1.size
  writeRec h0 hmem r hk hts :=
    ⟨by rw [writeRec_reload]; exact (writeRec_inv0 h0.1 hmem r hk hts).1, writeRec_blobOff h0.2 r⟩
  loadIndex hb := by
    rw [loadIndex_reload hcfg hb.2 hb.1]
    have h := loadIndex_inv hcfg hb.1
    exact ⟨⟨by rw [reload_of_filter h.1.filter]; exact h.1, Or.inl h.1.filter⟩, h.2⟩
  regen hb := ⟨((blobIOLaws hcfg).regen hb.1).1, ((blobIOLaws hcfg).regen hb.1).2, Or.inl rfl⟩

/-- the invariant of a storage with off-loaded filters is the storage invariant over `BlobInvO` -/
theorem cinvO_iff {c : CState} : CInvO cfg c ↔ CInvG (BlobInvO cfg) cfg c := by
  constructor
  · intro h
    obtain ⟨g, hci, hcov⟩ := h.inv.cont
    refine ⟨by rw [← reload_abs]; exact h.inv.wf, ?_, ?_, g, setChildren_inv hci c.cont.children (by simp [CState.reload, mapData]), ?_⟩
    · intro a ha
      have := h.inv.active (a.reload cfg) (by show c.active.map (CBlob.reload cfg) = _; rw [ha]; rfl)
      exact ⟨⟨this.1, h.off a (mem_blobs_active ha)⟩, this.2⟩
    · intro b hb
      exact ⟨h.blobInv (mem_blobs_closed hb), h.off b (mem_blobs_closed hb)⟩
    · intro j b hj r hr
      refine hcov j (b.reload cfg) ?_ r hr
      show (slotsOf (mapChildren c.cont (CBlob.reload cfg)))[j]? = _
      rw [slotsOf_mapChildren, List.getElem?_map, hj]
      rfl
  · intro h
    refine ⟨?_, fun b hb => (h.blobInv hb).2⟩
    exact h.mapChildren (CBlob.reload cfg) (c.active.map (CBlob.reload cfg))
      (by show ((c.reload cfg).abs cfg).WF; rw [reload_abs]; exact h.wf)
      (fun a ha => by
        obtain ⟨a0, ha0, rfl⟩ := Option.map_eq_some_iff.mp ha
        exact ⟨(h.active a0 ha0).1.1, (h.active a0 ha0).2⟩)
      (fun b hb => ⟨(h.closed b hb).1, fun r hr => ⟨r, hr, rfl⟩⟩)

/-! ### the storage: `restart` does not look at the filters -/

def AllOff (cfg : Cfg) (c : CState) : Prop := ∀ b ∈ c.blobs, BlobOff cfg b

theorem AllOff.closed {c : CState} (h : AllOff cfg c) : ∀ b ∈ closedBlobs c.cont, BlobOff cfg b :=
  fun b hb => h b (by unfold CState.blobs; exact List.mem_append_left _ hb)

theorem sortById_map_reload (cfg : Cfg) (l : List CBlob) :
    sortById (l.map (CBlob.reload cfg)) = (sortById l).map (CBlob.reload cfg) :=
  sortById_map_of_id (CBlob.reload cfg) (fun _ => rfl) l

theorem regen_reload (cfg : Cfg) (b : CBlob) : regen cfg (b.reload cfg) = regen cfg b := rfl

theorem regenAll_map_reload (cfg : Cfg) : ∀ (l : List CBlob),
    regenAll cfg (l.map (CBlob.reload cfg)) = regenAll cfg l
  | [] => rfl
  | b :: l => by simp only [List.map_cons, regenAll, regen_reload, regenAll_map_reload cfg l]

theorem restart_reload_eq (cfg : Cfg) (c : CState) (lazy : Bool) :
    (c.reload cfg).restart cfg lazy = if (regenAll cfg (sortById c.blobs)).isSome then c.restart cfg lazy
      else c.reload cfg := by
  unfold CState.restart
  rw [reload_blobs, sortById_map_reload, regenAll_map_reload]
  cases regenAll cfg (sortById c.blobs) <;> rfl

/-! ### the off-loading calls keep the invariant and the L2 state -/

theorem offloadRound_children {F C : Type} (ops : FilterOps F) (needed : Nat) :
    ∀ (ps : List Nat) (c : Container F C) (freed : Nat) (np : List Nat),
      (offloadRound ops needed ps c freed np).1.children = c.children
  | [], _, _, _ => rfl
  | p :: ps, c, freed, np => by
    simp only [offloadRound]
    split
    · rfl
    · cases c.getNode p with
      | none => exact offloadRound_children ops needed ps c freed np
      | some n =>
        simp only []
        rw [offloadRound_children ops needed ps]
        rfl

theorem offloadNodes_children {F C : Type} (ops : FilterOps F) (needed : Nat) :
    ∀ (fuel : Nat) (c : Container F C) (freed : Nat) (ps : List Nat),
      (offloadNodes ops needed fuel c freed ps).1.children = c.children
  | 0, _, _, _ => rfl
  | _ + 1, _, _, [] => rfl
  | fuel + 1, c, freed, p :: ps => by
    simp only [offloadNodes]
    have h1 := offloadRound_children ops needed (p :: ps) c freed []
    split
    · exact h1
    · rw [offloadNodes_children ops needed fuel]
      exact h1

theorem offload_children {F C : Type} (ops : FilterOps F) (cops : ChildOps F C) (c : Container F C)
    (needed level : Nat) :
    (Container.offload ops cops c needed level).1.children
      = (offloadChildren cops needed level c.level c.children 0 []).1 := by
  unfold Container.offload
  simp only []
  split
  · rfl
  · split
    · rfl
    · rw [offloadNodes_children]

theorem offloadFilter_abs (b : CBlob) : b.offloadFilter.1.abs = b.abs := by
  unfold CBlob.offloadFilter
  cases hi : b.index <;> simp [CBlob.abs, hi]

theorem BlobInvO.offloadFilter {b : CBlob} (h : BlobInvO cfg b) : BlobInvO cfg b.offloadFilter.1 :=
  ⟨by rw [offloadFilter_reload]; exact h.1, offloadFilter_blobOff h.2⟩

/-- the children after off-loading: slot by slot the same child, possibly with the filter of its blob off-loaded -/
abbrev OffSlots (chs chs' : List (Option (FLeaf CBlob))) : Prop :=
  ∀ j : Nat, chs'[j]? = chs[j]? ∨
    chs'[j]? = chs[j]?.map (Option.map fun lf : FLeaf CBlob => { lf with data := lf.data.offloadFilter.1 })

theorem OffSlots.slot {chs chs' : List (Option (FLeaf CBlob))} (h : OffSlots chs chs') {j : Nat} {lf' : FLeaf CBlob}
    (hj : chs'[j]? = some (some lf')) :
    ∃ lf, chs[j]? = some (some lf) ∧ (lf'.data = lf.data ∨ lf'.data = lf.data.offloadFilter.1) := by
  rcases h j with e | e <;> rw [e] at hj
  · exact ⟨lf', hj, Or.inl rfl⟩
  · cases hc : chs[j]? with
    | none => rw [hc] at hj; cases hj
    | some o =>
      rw [hc] at hj
      cases o with
      | none => cases hj
      | some lf => cases hj; exact ⟨lf, rfl, Or.inr rfl⟩

/-- off-loading filters of closed blobs, over any arena that keeps the container invariant for the same push-time
    filters, keeps the invariant and the L2 state -/
theorem CInvG.offSlots {c : CState} (hinv : CInvG (BlobInvO cfg) cfg c) {cont' : Container Combined CBlob}
    (hs : OffSlots c.cont.children cont'.children)
    (hcont : ∀ g, Container.Inv (fops cfg) Combined.WF c.cont g → Container.Inv (fops cfg) Combined.WF cont' g) :
    CInvG (BlobInvO cfg) cfg { c with cont := cont' } ∧ ({ c with cont := cont' } : CState).abs cfg = c.abs cfg := by
  have habs : ({ c with cont := cont' } : CState).abs cfg = c.abs cfg := by
    unfold CState.abs
    congr 1
    apply List.ext_getElem?
    intro j
    simp only [List.getElem?_map]
    rcases hs j with e | e <;> rw [e]
    cases c.cont.children[j]? with
    | none => rfl
    | some o => cases o <;> simp [offloadFilter_abs]
  have hslot : ∀ (j : Nat) (b' : CBlob), (slotsOf cont')[j]? = some (some b') →
      ∃ b : CBlob, (slotsOf c.cont)[j]? = some (some b) ∧ BlobInvO cfg b' ∧ b'.ghost = b.ghost := by
    intro j b' hj
    unfold slotsOf at hj ⊢
    rw [List.getElem?_map] at hj ⊢
    cases hc : cont'.children[j]? with
    | none => rw [hc] at hj; cases hj
    | some o' =>
      rw [hc] at hj
      cases o' with
      | none => cases hj
      | some lf' =>
        cases hj
        obtain ⟨lf, hlf, hd⟩ := hs.slot hc
        have hI : BlobInvO cfg lf.data := hinv.closed lf.data (List.mem_map.mpr ⟨some lf, List.mem_of_getElem? hlf, rfl⟩)
        refine ⟨lf.data, by rw [hlf]; rfl, ?_⟩
        show BlobInvO cfg lf'.data ∧ lf'.data.ghost = lf.data.ghost
        rcases hd with hd | hd <;> rw [hd]
        · exact ⟨hI, rfl⟩
        · exact ⟨hI.offloadFilter, congrArg Blob.recs (offloadFilter_abs lf.data)⟩
  obtain ⟨g, hci, hcov⟩ := hinv.cont
  refine ⟨⟨by rw [habs]; exact hinv.wf, hinv.active, fun b' hb' => ?_, g, hcont g hci, fun j b' hj r hr => ?_⟩, habs⟩
  · obtain ⟨j, hj⟩ := List.mem_iff_getElem?.mp hb'
    obtain ⟨_, _, hI, _⟩ := hslot j b' hj
    exact hI
  · obtain ⟨b, hb, _, hg⟩ := hslot j b' hj
    exact hcov j b hb r (hg ▸ hr)

theorem offSlots_modify (chs : List (Option (FLeaf CBlob))) (i : Nat) :
    OffSlots chs (chs.modify i (Option.map fun lf : FLeaf CBlob => { lf with data := lf.data.offloadFilter.1 })) := by
  intro j
  rw [List.getElem?_modify]
  by_cases hij : i = j
  · exact Or.inr (by simp [hij])
  · exact Or.inl (by simp [hij])

/-- the first loop of `offload_buffer` over blobs -/
theorem offSlots_offloadChildren (cfg : Cfg) (needed level selfLevel : Nat) :
    ∀ (chs : List (Option (FLeaf CBlob))) (freed : Nat) (ps : List Nat),
      OffSlots chs (offloadChildren (childOps cfg) needed level selfLevel chs freed ps).1
  | [], _, _ => fun _ => Or.inl rfl
  | none :: rest, freed, ps => by
    have ih := offSlots_offloadChildren cfg needed level selfLevel rest freed ps
    simp only [offloadChildren]
    intro j
    cases j with
    | zero => exact Or.inl rfl
    | succ j => simpa using ih j
  | some lf :: rest, freed, ps => by
    simp only [offloadChildren]
    split
    · exact fun _ => Or.inl rfl
    · have ih := offSlots_offloadChildren cfg needed level selfLevel rest
        (freed + ((childOps cfg).offload lf.data (needed - freed) level).2)
        (if level ≥ selfLevel then setInsert lf.parent ps else ps)
      intro j
      cases j with
      | zero => exact Or.inr rfl
      | succ j => simpa using ih j

/-- `Blob::offload_buffer` of one closed blob -/
theorem offloadBlob_invO {c : CState} (h : CInvO cfg c) (j : Nat) :
    CInvO cfg (c.offloadBlob j) ∧ (c.offloadBlob j).abs cfg = c.abs cfg := by
  obtain ⟨h1, h2⟩ := (cinvO_iff.mp h).offSlots (cont' := modifyChild c.cont j fun b => b.offloadFilter.1)
    (offSlots_modify c.cont.children j) (fun g hci => setChildren_inv hci _ (by simp))
  exact ⟨cinvO_iff.mpr h1, h2⟩

/-- `Storage::offload_buffer(needed, level)`: besides the filters of closed blobs only node filters change -/
theorem offloadBuffer_invO {c : CState} (h : CInvO cfg c) (needed level : Nat) :
    CInvO cfg (c.offloadBuffer cfg needed level).1 ∧ (c.offloadBuffer cfg needed level).1.abs cfg = c.abs cfg := by
  obtain ⟨h1, h2⟩ := (cinvO_iff.mp h).offSlots
    (cont' := (Container.offload (fops cfg) (childOps cfg) c.cont needed level).1)
    (by rw [offload_children]; exact offSlots_offloadChildren cfg needed level _ _ _ _)
    (fun g hci => hci.refine (Container.offload_refines (combinedLaws cfg.h) (childOps cfg) c.cont needed level))
  exact ⟨cinvO_iff.mpr h1, h2⟩

/-! ### refinement: the L2 state does not see the off-loading -/

def OOp.OK (cfg : Cfg) : OOp → Prop
  | .op o => o.OK cfg
  | _ => True

instance (cfg : Cfg) (op : OOp) : Decidable (op.OK cfg) := by
  cases op <;> unfold OOp.OK <;> infer_instance

/-- the L2 step of an operation: off-loading is the identity -/
def OOp.applyAbs (s : Store) : OOp → Store
  | .op o => s.apply o.abs
  | _ => s

theorem OOp.erase_cons_op (o : MOp) (l : List OOp) : OOp.erase (.op o :: l) = o :: OOp.erase l := rfl

theorem run_erase (s : Store) : ∀ (ops : List OOp),
    s.run ((OOp.erase ops).map MOp.abs) = ops.foldl OOp.applyAbs s
  | [] => rfl
  | .op o :: l => by
    simp only [OOp.erase, List.map_cons, Store.run_cons, List.foldl_cons, OOp.applyAbs]
    exact run_erase _ l
  | .offloadBlob j :: l => by
    simp only [OOp.erase, List.foldl_cons, OOp.applyAbs]
    exact run_erase _ l
  | .offloadBuffer n lv :: l => by
    simp only [OOp.erase, List.foldl_cons, OOp.applyAbs]
    exact run_erase _ l

theorem stepO_ref (hcfg : cfg.OK) {c : CState} (h : CInvO cfg c) (hmeta : StoreMetaOK (c.abs cfg)) (op : OOp)
    (hop : op.OK cfg) (hsz : StoreSized cfg.klen (op.applyAbs (c.abs cfg))) :
    (c.stepO cfg op).abs cfg = op.applyAbs (c.abs cfg) ∧ CInvO cfg (c.stepO cfg op) ∧
      StoreMetaOK ((c.stepO cfg op).abs cfg) := by
  cases op with
  | op o =>
    obtain ⟨habs, hi⟩ := stepM_ref_of (blobIOLawsO hcfg) (cinvO_iff.mp h) o hop (fun _ _ _ _ _ => hmeta) hsz
    refine ⟨habs, cinvO_iff.mpr hi, ?_⟩
    show StoreMetaOK ((c.stepM cfg o).abs cfg)
    rw [habs]
    exact stepM_metaOK (cfg := cfg) (cinvO_iff.mp h).wf hmeta o hop
  | offloadBlob j =>
    obtain ⟨h', habs⟩ := offloadBlob_invO h j
    exact ⟨habs, h', by show StoreMetaOK ((c.offloadBlob j).abs cfg); rw [habs]; exact hmeta⟩
  | offloadBuffer n lv =>
    obtain ⟨h', habs⟩ := offloadBuffer_invO h n lv
    exact ⟨habs, h', by show StoreMetaOK ((c.offloadBuffer cfg n lv).1.abs cfg); rw [habs]; exact hmeta⟩

theorem erase_take (ops : List OOp) (n : Nat) : ∃ m, OOp.erase (ops.take n) = (OOp.erase ops).take m := by
  induction ops generalizing n with
  | nil => exact ⟨0, by simp [OOp.erase]⟩
  | cons op ops ih =>
    cases n with
    | zero => exact ⟨0, by simp [OOp.erase]⟩
    | succ n =>
      obtain ⟨m, hm⟩ := ih n
      cases op with
      | op o => exact ⟨m + 1, by simp [OOp.erase, hm]⟩
      | _ => exact ⟨m, by simp [OOp.erase, hm]⟩

/-- **a run with off-loading calls**: it refines the L2 run of the history without them and keeps `CInvO`, and any second
    system that every step keeps related to the storage stays related; the size condition `Sz` is asked of the final L2
    state only -/
theorem runO_rel {β : Type} {bstep : β → OOp → β} {Q : CState → β → Prop} {Sz : Store → Prop} (hcfg : cfg.OK)
    (hSz : ∀ s, Sz s → StoreSized cfg.klen s)
    (hpre : ∀ {s : Store}, s.WF → ∀ (l : List Op) (n : Nat), Sz (s.run l) → Sz (s.run (l.take n)))
    (hstep : ∀ c b op, CInvO cfg c → StoreMetaOK (c.abs cfg) → Sz (c.abs cfg) → CInvO cfg (c.stepO cfg op) →
      (c.stepO cfg op).abs cfg = op.applyAbs (c.abs cfg) → Q c b → Q (c.stepO cfg op) (bstep b op))
    (ops : List OOp) (c : CState) (b : β) (hinv : CInvO cfg c) (hmeta : StoreMetaOK (c.abs cfg)) (hQ : Q c b)
    (hops : ∀ op ∈ ops, op.OK cfg) (hsz : Sz ((c.abs cfg).run ((OOp.erase ops).map MOp.abs))) :
    (c.runO cfg ops).abs cfg = (c.abs cfg).run ((OOp.erase ops).map MOp.abs) ∧ CInvO cfg (c.runO cfg ops) ∧
      StoreMetaOK ((c.runO cfg ops).abs cfg) ∧ Q (c.runO cfg ops) (ops.foldl bstep b) := by
  have h := foldl_rel (step := CState.stepO cfg) (astep := fun (p : β × Store) op => (bstep p.1 op, op.applyAbs p.2))
    (R := fun c p => c.abs cfg = p.2 ∧ CInvO cfg c ∧ StoreMetaOK p.2 ∧ Q c p.1) (C := fun _ p => Sz p.2)
    (fun c p op hR ho hC hC' => by
      obtain ⟨b, s⟩ := p
      obtain ⟨rfl, hi, hm, hq⟩ := hR
      obtain ⟨ha, hi', hm'⟩ := stepO_ref hcfg hi hm op ho (hSz _ hC')
      exact ⟨ha, hi', ha ▸ hm', hstep c b op hi hm hC hi' ha hq⟩)
    ops c (b, c.abs cfg) ⟨rfl, hinv, hmeta, hQ⟩ hops (fun n _ => by
      obtain ⟨m, hm⟩ := erase_take ops n
      rw [foldl_prod, ← run_erase, hm, List.map_take]
      exact hpre (cinvO_iff.mp hinv).wf _ m hsz)
  rw [foldl_prod, ← run_erase] at h
  exact ⟨h.1, h.2.1, h.1 ▸ h.2.2.1, h.2.2.2⟩

theorem erase_ok {ops : List OOp} (h : ∀ op ∈ ops, op.OK cfg) : ∀ o ∈ OOp.erase ops, o.OK cfg := by
  induction ops with
  | nil => intro o ho; simp [OOp.erase] at ho
  | cons op ops ih =>
    intro o ho
    cases op with
    | op o' =>
      simp only [OOp.erase, List.mem_cons] at ho
      rcases ho with rfl | ho
      · exact h (.op o) (by simp)
      · exact ih (fun x hx => h x (by simp [hx])) o ho
    | _ => exact ih (fun x hx => h x (by simp [hx])) o ho

/-- **refinement along every history with off-loading interleaved**: the L2 state is the L2 state of the history
    without the off-loading calls, and `CInvO` holds -/
theorem runO_ref (hcfg : cfg.OK) (ops : List OOp) (hops : ∀ op ∈ ops, op.OK cfg)
    (hsz : StoreSized cfg.klen ((Store.init cfg.allowDup).run ((OOp.erase ops).map MOp.abs))) :
    ((CState.init cfg).runO cfg ops).abs cfg = (Store.init cfg.allowDup).run ((OOp.erase ops).map MOp.abs) ∧
      CInvO cfg ((CState.init cfg).runO cfg ops) ∧ StoreMetaOK (((CState.init cfg).runO cfg ops).abs cfg) := by
  have := runO_rel (β := Unit) (bstep := fun u _ => u) (Q := fun _ _ => True) hcfg (fun _ h => h)
    (fun hwf l n h => storeSized_prefix cfg.klen hwf l h n) (fun _ _ _ _ _ _ _ _ _ => trivial)
    ops (CState.init cfg) () (init_inv hcfg).toCInvO (by rw [init_abs]; exact init_metaOK _) trivial hops
    (by rw [init_abs]; exact hsz)
  rw [init_abs] at this
  exact ⟨this.1, this.2.1, this.2.2.1⟩

end
end Pearl.E2E
