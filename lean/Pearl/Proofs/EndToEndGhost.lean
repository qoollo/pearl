import Pearl.Proofs.EndToEndCont
/-
End-to-end composition: the history variable `CBlob.ghost` is pure instrumentation.  For ANY concrete
state (no invariant needed):
* `readWithOpt_ghost_irrelevant`, `read_ghost_irrelevant`: replacing every `ghost` by the empty list changes no answer
  of `read` / `read_with` / `contains` / `contains_with`;
* `readAll_ghost_irrelevant`: nor of `read_all` / `read_all_with_deletion_marker`;
* `step_eraseGhost`, `stepM_eraseGhost`: the physical part of the next state depends on the physical part of the
  current state only (`(c.step op).eraseGhost = (c.eraseGhost.step op).eraseGhost`), for every operation, with or
  without metadata.
`write` and `delete` are treated with an optional meta (`Pearl/Model/EndToEndMeta.lean`); the operations of
`Pearl/Model/EndToEnd.lean` are the case `none`.  `eraseGhost` is a map of the blobs of the storage
(`CState.mapBlobs`, like `reload` of `EndToEndStartOffload` and `crash` of the crash model): what such a map does to
the consulted blobs, the blob list and the entry loops is said once here.  The container part rests on the `mapData`
lemmas of `EndToEndCont` only: the `_mapChildren` lemmas are the `_mapData` lemmas at `C' = C`.
-/
namespace Pearl.E2E
open Pearl Pearl.Container

def CBlob.eraseGhost (b : CBlob) : CBlob := { b with ghost := [] }

def CState.eraseGhost (c : CState) : CState :=
  { c with active := c.active.map CBlob.eraseGhost, cont := mapChildren c.cont CBlob.eraseGhost }

-- `mapChildren c f` is `mapData f c` by definition: each lemma is the `_mapData` lemma of `EndToEndCont` at `C' = C`

theorem getChild_mapChildren (c : Container Combined CBlob) (f : CBlob → CBlob) (j : Nat) :
    (mapChildren c f).getChild j = (c.getChild j).map (fun lf => { lf with data := f lf.data }) :=
  getChild_mapData f c j

theorem getInner_mapChildren (c : Container Combined CBlob) (f : CBlob → CBlob) (id : Nat) :
    (mapChildren c f).getInner id = c.getInner id := rfl

theorem iterPossibleStack_mapChildren (ops : FilterOps Combined) (c : Container Combined CBlob) (f : CBlob → CBlob)
    (rev : Bool) (k : Key) :
    Container.iterPossibleStack ops (mapChildren c f) rev k = Container.iterPossibleStack ops c rev k :=
  iterPossibleStack_mapData f ops c rev k

section Ops
variable (f : CBlob → CBlob)

theorem push_mapChildren (ops : FilterOps Combined) (cops : ChildOps Combined CBlob)
    (hf : ∀ b, cops.filterOf (f b) = cops.filterOf b) (c : Container Combined CBlob) (child : CBlob) :
    Container.push ops cops (mapChildren c f) (f child) =
      (mapChildren (Container.push ops cops c child).1 f, (Container.push ops cops c child).2) :=
  push_mapData f ops cops cops hf c child

theorem extend_mapChildren (ops : FilterOps Combined) (cops : ChildOps Combined CBlob)
    (hf : ∀ b, cops.filterOf (f b) = cops.filterOf b) (xs : List CBlob) (c : Container Combined CBlob) :
    Container.extend ops cops (mapChildren c f) (xs.map f) = mapChildren (Container.extend ops cops c xs) f :=
  extend_mapData f ops cops cops hf xs c

theorem mapChildren_mapChildren (c : Container Combined CBlob) (g : CBlob → CBlob) :
    mapChildren (mapChildren c f) g = mapChildren c (fun b => g (f b)) :=
  mapData_comp f g c

theorem closedBlobs_mapChildren (c : Container Combined CBlob) :
    closedBlobs (mapChildren c f) = (closedBlobs c).map f :=
  data_mapData f c

theorem lastId_mapChildren (c : Container Combined CBlob) : (mapChildren c f).lastId = c.lastId :=
  lastId_mapData f c

theorem pop_mapChildren (c : Container Combined CBlob) :
    (mapChildren c f).pop = (mapChildren c.pop.1 f, c.pop.2.map f) :=
  pop_mapData f c

theorem modifyChild_mapChildren (c : Container Combined CBlob) (i : Nat) (g g' : CBlob → CBlob)
    (h : ∀ b, g (f b) = f (g' b)) :
    modifyChild (mapChildren c f) i g = mapChildren (modifyChild c i g') f :=
  modify_mapData f c i g g' fun lf _ => h lf.data

end Ops

/-- apply `g` to every blob of the storage (the container's nodes are not touched) -/
def CState.mapBlobs (c : CState) (g : CBlob → CBlob) : CState :=
  { c with active := c.active.map g, cont := mapChildren c.cont g }

/-- the blobs `get_latest_entry` asks are the images of those it asks in `c`; `eraseGhost`, `reload` and `crash` are such
    maps (by `rfl`) -/
theorem consulted_mapBlobs (cfg : Cfg) (c : CState) (g : CBlob → CBlob) (k : Key) :
    (c.mapBlobs g).consulted cfg k = (c.consulted cfg k).map g := by
  obtain ⟨a, cont, n⟩ := c
  unfold CState.consulted
  rw [List.map_append, ← consultedChildren_mapData]
  cases a <;> rfl

theorem blobs_mapBlobs (c : CState) (g : CBlob → CBlob) : (c.mapBlobs g).blobs = c.blobs.map g := by
  unfold CState.blobs CState.mapBlobs
  simp only [closedBlobs_mapChildren, List.map_append]
  cases c.active <;> rfl

theorem consulted_eraseGhost (cfg : Cfg) (c : CState) (k : Key) :
    c.eraseGhost.consulted cfg k = (c.consulted cfg k).map CBlob.eraseGhost :=
  consulted_mapBlobs cfg c _ k

theorem foldEntries_map_congr (f f' : CBlob → Except CErr (ReadResult CEntry)) (g : CBlob → CBlob) :
    ∀ (l : List CBlob) (acc : ReadResult CEntry), (∀ b ∈ l, f' (g b) = f b) →
      foldEntries f' (l.map g) acc = foldEntries f l acc
  | [], _, _ => rfl
  | b :: l, acc, h => by
    simp only [List.map_cons, foldEntries, h b (by simp)]
    cases f b with
    | error e => rfl
    | ok r => exact foldEntries_map_congr f f' g l _ (fun x hx => h x (by simp [hx]))

theorem collectEntries_map_congr (f f' : CBlob → Except CErr (List CEntry)) (g : CBlob → CBlob) :
    ∀ (l : List CBlob), (∀ b ∈ l, f' (g b) = f b) → collectEntries f' (l.map g) = collectEntries f l
  | [], _ => rfl
  | b :: l, h => by
    simp only [List.map_cons, collectEntries, h b (by simp),
      collectEntries_map_congr f f' g l (fun x hx => h x (by simp [hx]))]

theorem getLatestEntryM_eraseGhost (cfg : Cfg) (c : CState) (k : Key) (m : Option Meta) :
    c.eraseGhost.getLatestEntryM cfg k m = c.getLatestEntryM cfg k m := by
  unfold CState.getLatestEntryM
  rw [consulted_eraseGhost]
  exact foldEntries_map_congr _ _ _ _ _ fun _ _ => rfl

theorem readWithOpt_ghost_irrelevant (cfg : Cfg) (c : CState) (k : Key) (m : Option Meta) :
    c.eraseGhost.readWithOpt cfg k m = c.readWithOpt cfg k m ∧
      c.eraseGhost.containsWith cfg k m = c.containsWith cfg k m := by
  unfold CState.readWithOpt CState.containsWith
  rw [getLatestEntryM_eraseGhost]
  exact ⟨rfl, rfl⟩

/-- the read path does not read the history variable -/
theorem read_ghost_irrelevant (cfg : Cfg) (c : CState) (k : Key) :
    c.eraseGhost.read cfg k = c.read cfg k ∧ c.eraseGhost.contains cfg k = c.contains cfg k :=
  readWithOpt_ghost_irrelevant cfg c k none

theorem readAll_ghost_irrelevant (cfg : Cfg) (c : CState) (k : Key) :
    c.eraseGhost.readAllMarked cfg k = c.readAllMarked cfg k ∧ c.eraseGhost.readAll cfg k = c.readAll cfg k := by
  have h : c.eraseGhost.readAllMarked cfg k = c.readAllMarked cfg k := by
    unfold CState.readAllMarked
    rw [consulted_eraseGhost, collectEntries_map_congr (fun b => b.readAllEntriesMarked k) _ _ _ fun _ _ => rfl]
  refine ⟨h, ?_⟩
  unfold CState.readAll
  rw [h]

theorem eraseGhost_idem (b : CBlob) : b.eraseGhost.eraseGhost = b.eraseGhost := rfl

theorem writeRec_eraseGhost (cfg : Cfg) (b : CBlob) (r : Rec) :
    (b.eraseGhost.writeRec cfg r).eraseGhost = (b.writeRec cfg r).eraseGhost := by
  obtain ⟨id, file, index, filter, ghost⟩ := b
  unfold CBlob.writeRec CBlob.indexPush CBlob.eraseGhost
  cases index <;> rfl

theorem loadIndex_eraseGhost (cfg : Cfg) (b : CBlob) : b.eraseGhost.loadIndex cfg = (b.loadIndex cfg).eraseGhost := by
  obtain ⟨id, file, index, filter, ghost⟩ := b
  unfold CBlob.loadIndex CBlob.eraseGhost
  cases index with
  | mem m => rfl
  | disk fl mb off =>
    simp only []
    cases fl.load <;> cases combinedOfFile cfg.bloomIsOn mb <;> rfl

theorem dump_eraseGhost (cfg : Cfg) (b : CBlob) : b.eraseGhost.dump cfg = (b.dump cfg).eraseGhost := by
  obtain ⟨id, file, index, filter, ghost⟩ := b
  unfold CBlob.dump CBlob.eraseGhost
  cases index with
  | disk fl mb off => rfl
  | mem m =>
    simp only []
    split
    · rfl
    · cases serializeFilters cfg.klen filter <;> rfl

theorem deleteM_eraseGhost (cfg : Cfg) (b : CBlob) (k : Key) (ts : Nat) (m : Option Meta) (oip : Bool) :
    (b.eraseGhost.deleteM cfg k ts m oip).1.eraseGhost = (b.deleteM cfg k ts m oip).1.eraseGhost ∧
      (b.eraseGhost.deleteM cfg k ts m oip).2 = (b.deleteM cfg k ts m oip).2 := by
  unfold CBlob.deleteM
  rw [show b.eraseGhost.indexLatest k = b.indexLatest k from rfl]
  simp only []
  generalize (!oip || _) = go
  cases go
  · exact ⟨rfl, rfl⟩
  · exact ⟨by simp only [if_true]; rw [loadIndex_eraseGhost, writeRec_eraseGhost], rfl⟩

theorem indexPush_eraseGhost (cfg : Cfg) (b : CBlob) (k : Key) (h : RecHeader) :
    b.eraseGhost.indexPush cfg k h = (b.indexPush cfg k h).map CBlob.eraseGhost := by
  obtain ⟨id, file, index, filter, ghost⟩ := b
  unfold CBlob.indexPush CBlob.eraseGhost
  cases index <;> rfl

theorem foldl_indexPush_eraseGhost (cfg : Cfg) : ∀ (hs : List RecHeader) (b : CBlob),
    hs.foldl (fun b h => (b.indexPush cfg (hdrKey h) h).getD b) b.eraseGhost
      = (hs.foldl (fun b h => (b.indexPush cfg (hdrKey h) h).getD b) b).eraseGhost
  | [], _ => rfl
  | h :: hs, b => by
    simp only [List.foldl_cons]
    have : (b.eraseGhost.indexPush cfg (hdrKey h) h).getD b.eraseGhost
        = ((b.indexPush cfg (hdrKey h) h).getD b).eraseGhost := by
      rw [indexPush_eraseGhost]
      cases b.indexPush cfg (hdrKey h) h <;> rfl
    rw [this]
    exact foldl_indexPush_eraseGhost cfg hs _

theorem regen_eraseGhost (cfg : Cfg) (b : CBlob) : regen cfg b.eraseGhost = (regen cfg b).map CBlob.eraseGhost := by
  unfold regen
  have hfile : b.eraseGhost.file = b.file := rfl
  rw [hfile]
  cases blobHeaderFromFile b.file with
  | error e => rfl
  | ok _ =>
    simp only []
    split
    · cases rawRecordsLoad cfg.klen cfg.validateData b.file with
      | error e => rfl
      | ok hs =>
        simp only [Option.map_some]
        exact congrArg some (foldl_indexPush_eraseGhost cfg hs { b with index := .mem [], filter := newFilter cfg })
    · rfl

theorem regenAll_eraseGhost (cfg : Cfg) : ∀ (l : List CBlob),
    regenAll cfg (l.map CBlob.eraseGhost) = (regenAll cfg l).map (List.map CBlob.eraseGhost)
  | [] => rfl
  | b :: l => by
    simp only [List.map_cons, regenAll, regen_eraseGhost, regenAll_eraseGhost cfg l]
    cases regen cfg b <;> cases regenAll cfg l <;> rfl

theorem sortById_eraseGhost (l : List CBlob) :
    sortById (l.map CBlob.eraseGhost) = (sortById l).map CBlob.eraseGhost :=
  sortById_map_of_id CBlob.eraseGhost (fun _ => rfl) l

theorem childOps_filterOf_eraseGhost (cfg : Cfg) (b : CBlob) :
    (childOps cfg).filterOf b.eraseGhost = (childOps cfg).filterOf b := rfl

theorem eraseGhost_active (c : CState) : c.eraseGhost.active = c.active.map CBlob.eraseGhost := rfl
theorem eraseGhost_cont (c : CState) : c.eraseGhost.cont = mapChildren c.cont CBlob.eraseGhost := rfl
theorem eraseGhost_nextId (c : CState) : c.eraseGhost.nextId = c.nextId := rfl

theorem mapChildren_eraseGhost_idem (c : Container Combined CBlob) :
    mapChildren (mapChildren c CBlob.eraseGhost) CBlob.eraseGhost = mapChildren c CBlob.eraseGhost := by
  rw [mapChildren_mapChildren]
  rfl

theorem eraseGhost_eraseGhost (c : CState) : c.eraseGhost.eraseGhost = c.eraseGhost := by
  apply CState.ext'
  · simp only [eraseGhost_active, Option.map_map]
    cases c.active <;> rfl
  · simp only [eraseGhost_cont, mapChildren_eraseGhost_idem]
  · rfl

theorem createActive_eraseGhost (cfg : Cfg) (c : CState) :
    (c.createActive cfg).eraseGhost = c.eraseGhost.createActive cfg := rfl

theorem ensureActive_eraseGhost (cfg : Cfg) (c : CState) :
    (c.ensureActive cfg).eraseGhost = c.eraseGhost.ensureActive cfg := by
  unfold CState.ensureActive
  rw [eraseGhost_active]
  cases c.active <;> rfl

theorem writeWithOpt_eraseGhost (cfg : Cfg) (c : CState) (k : Key) (ts : Nat) (m : Option Meta) (d : Data) :
    (c.writeWithOpt cfg k ts m d).eraseGhost = (c.eraseGhost.writeWithOpt cfg k ts m d).eraseGhost := by
  unfold CState.writeWithOpt
  simp only []
  rw [← ensureActive_eraseGhost, (readWithOpt_ghost_irrelevant cfg (c.ensureActive cfg) k m).2]
  generalize (if cfg.allowDup = true then (Except.ok false : Except CErr Bool)
    else match (c.ensureActive cfg).containsWith cfg k m with
      | .error e => .error e
      | .ok r => .ok r.isFound) = dup
  cases dup with
  | error e => simp only [eraseGhost_eraseGhost]
  | ok b =>
    cases b with
    | true => simp only [eraseGhost_eraseGhost]
    | false =>
      simp only [eraseGhost_active]
      cases ha : (c.ensureActive cfg).active with
      | none => simp only [Option.map_none, eraseGhost_eraseGhost]
      | some a =>
        simp only [Option.map_some]
        apply CState.ext'
        · simp only [eraseGhost_active, Option.map_some, writeRec_eraseGhost]
        · simp only [eraseGhost_cont, mapChildren_eraseGhost_idem]
        · rfl

theorem deleteWithOpt_eraseGhost (cfg : Cfg) (c : CState) (k : Key) (ts : Nat) (m : Option Meta) (oip : Bool) :
    (c.deleteWithOpt cfg k ts m oip).1.eraseGhost = (c.eraseGhost.deleteWithOpt cfg k ts m oip).1.eraseGhost := by
  have hbase : (if oip = true then c else c.ensureActive cfg).eraseGhost
      = (if oip = true then c.eraseGhost else c.eraseGhost.ensureActive cfg) := by
    cases oip
    · exact ensureActive_eraseGhost cfg c
    · rfl
  unfold CState.deleteWithOpt
  simp only []
  rw [← hbase]
  generalize (if oip = true then c else c.ensureActive cfg) = c0
  apply CState.ext'
  · simp only [eraseGhost_active, Option.map_map]
    cases c0.active with
    | none => rfl
    | some a =>
      simp only [Option.map_some, Function.comp_apply]
      rw [(deleteM_eraseGhost cfg a k ts m oip).1]
  · simp only [eraseGhost_cont, mapChildren_mapChildren]
    exact congrArg _ (funext fun b => ((deleteM_eraseGhost cfg b k ts m true).1).symm)
  · rfl

theorem step_eraseGhost (cfg : Cfg) (c : CState) (op : COp) :
    (c.step cfg op).eraseGhost = (c.eraseGhost.step cfg op).eraseGhost := by
  cases op with
  | write k ts d => exact writeWithOpt_eraseGhost cfg c k ts none d
  | delete k ts oip => exact deleteWithOpt_eraseGhost cfg c k ts none oip
  | closeActive =>
    simp only [CState.step, CState.closeActive, eraseGhost_active]
    cases c.active with
    | none => simp only [Option.map_none, eraseGhost_eraseGhost]
    | some a =>
      simp only [Option.map_some, eraseGhost_cont]
      rw [push_mapChildren CBlob.eraseGhost (fops cfg) (childOps cfg) (childOps_filterOf_eraseGhost cfg)]
      exact CState.ext' rfl (mapChildren_eraseGhost_idem _).symm rfl
  | createActive =>
    simp only [CState.step, CState.tryCreateActive, eraseGhost_active]
    cases c.active with
    | none => simp only [Option.map_none, ← createActive_eraseGhost, eraseGhost_eraseGhost]
    | some a => simp only [Option.map_some, eraseGhost_eraseGhost]
  | restoreActive =>
    simp only [CState.step, CState.restoreActive, eraseGhost_active]
    cases c.active with
    | some a => simp only [Option.map_some, eraseGhost_eraseGhost]
    | none =>
      simp only [Option.map_none, eraseGhost_cont, lastId_mapChildren]
      cases c.cont.lastId with
      | none => simp only [eraseGhost_eraseGhost]
      | some i =>
        simp only []
        rw [modifyChild_mapChildren CBlob.eraseGhost c.cont i (CBlob.loadIndex cfg) (CBlob.loadIndex cfg)
          (fun b => loadIndex_eraseGhost cfg b), pop_mapChildren]
        cases hp : (modifyChild c.cont i (CBlob.loadIndex cfg)).pop with
        | mk cont' ob =>
          cases ob with
          | none => simp only [Option.map_none, eraseGhost_eraseGhost]
          | some b =>
            simp only [Option.map_some]
            exact CState.ext' rfl (mapChildren_eraseGhost_idem _).symm rfl
  | replaceActive =>
    simp only [CState.step, CState.replaceActive, eraseGhost_active]
    cases c.active with
    | none => simp only [Option.map_none, ← createActive_eraseGhost, eraseGhost_eraseGhost]
    | some a =>
      simp only [Option.map_some]
      have h1 : (c.eraseGhost.createActive cfg).cont = mapChildren (c.createActive cfg).cont CBlob.eraseGhost := rfl
      rw [h1, push_mapChildren CBlob.eraseGhost (fops cfg) (childOps cfg) (childOps_filterOf_eraseGhost cfg)]
      exact CState.ext' rfl (mapChildren_eraseGhost_idem _).symm rfl
  | settle =>
    simp only [CState.step, CState.settle]
    apply CState.ext'
    · simp only [eraseGhost_active, Option.map_map]
      cases c.active <;> rfl
    · simp only [eraseGhost_cont, mapChildren_mapChildren]
      refine congrArg _ (funext fun b => ?_)
      show (b.dump cfg).eraseGhost = (b.eraseGhost.dump cfg).eraseGhost
      rw [dump_eraseGhost]; rfl
    · rfl
  | restart lazy =>
    simp only [CState.step, CState.restart]
    have hblobs : c.eraseGhost.blobs = c.blobs.map CBlob.eraseGhost := by
      unfold CState.blobs
      rw [eraseGhost_cont, closedBlobs_mapChildren, eraseGhost_active, List.map_append]
      cases c.active <;> rfl
    rw [hblobs, sortById_eraseGhost, regenAll_eraseGhost]
    cases regenAll cfg (sortById c.blobs) with
    | none => simp only [Option.map_none, eraseGhost_eraseGhost]
    | some bs =>
      simp only [Option.map_some]
      have hmax : (bs.map CBlob.eraseGhost).foldl (fun m b => max m (b.id + 1)) 0
          = bs.foldl (fun m b => max m (b.id + 1)) 0 :=
        foldl_maxSucc_congr CBlob.id CBlob.id _ _ 0 (by rw [List.map_map]; rfl)
      have hdump : ∀ (l : List CBlob), (l.map CBlob.eraseGhost).map (CBlob.dump cfg)
          = (l.map (CBlob.dump cfg)).map CBlob.eraseGhost := by
        intro l
        simp only [List.map_map]
        apply List.map_congr_left
        intro b _
        exact dump_eraseGhost cfg b
      have hext : ∀ (l : List CBlob),
          Container.extend (fops cfg) (childOps cfg) (CState.emptyCont cfg) (l.map CBlob.eraseGhost)
            = mapChildren (Container.extend (fops cfg) (childOps cfg) (CState.emptyCont cfg) l) CBlob.eraseGhost :=
        fun l => extend_mapChildren CBlob.eraseGhost (fops cfg) (childOps cfg) (childOps_filterOf_eraseGhost cfg) l
          (CState.emptyCont cfg)
      rw [hmax]
      cases lazy with
      | true =>
        simp only [if_true]
        rw [hdump, hext]
        exact CState.ext' rfl (mapChildren_eraseGhost_idem _).symm rfl
      | false =>
        simp only [Bool.false_eq_true, if_false]
        rw [List.getLast?_map]
        cases bs.getLast? with
        | none => simp only [Option.map_none]
        | some a =>
          simp only [Option.map_some]
          rw [← List.map_dropLast, hdump, hext]
          exact CState.ext' rfl (mapChildren_eraseGhost_idem _).symm rfl

/-- for ANY state and operation with metadata, the physical part of the next state is a function of the physical
    part of the current state -/
theorem stepM_eraseGhost (cfg : Cfg) (c : CState) (op : MOp) :
    (c.stepM cfg op).eraseGhost = (c.eraseGhost.stepM cfg op).eraseGhost := by
  cases op with
  | write k ts m d => exact writeWithOpt_eraseGhost cfg c k ts m d
  | delete k ts m oip => exact deleteWithOpt_eraseGhost cfg c k ts m oip
  | closeActive | createActive | restoreActive | replaceActive | settle | restart lazy =>
    exact step_eraseGhost cfg c _

/-- two states with the same physical part stay so: the history variable never influences the files, indexes,
    filters or the container -/
theorem step_phys_congr (cfg : Cfg) (c c' : CState) (h : c.eraseGhost = c'.eraseGhost) (op : COp) :
    (c.step cfg op).eraseGhost = (c'.step cfg op).eraseGhost := by
  rw [step_eraseGhost, h, ← step_eraseGhost]

theorem run_eraseGhost (cfg : Cfg) : ∀ (ops : List COp) (c : CState),
    (c.run cfg ops).eraseGhost = (c.eraseGhost.run cfg ops).eraseGhost
  | [], c => (eraseGhost_eraseGhost c).symm
  | op :: ops, c => by
    show ((c.step cfg op).run cfg ops).eraseGhost = ((c.eraseGhost.step cfg op).run cfg ops).eraseGhost
    rw [run_eraseGhost cfg ops (c.step cfg op), step_eraseGhost,
      ← run_eraseGhost cfg ops (c.eraseGhost.step cfg op)]

/-- the answers after any history depend on the physical part of the starting state only -/
theorem run_read_phys (cfg : Cfg) (c c' : CState) (h : c.eraseGhost = c'.eraseGhost) (ops : List COp) (k : Key) :
    (c.run cfg ops).read cfg k = (c'.run cfg ops).read cfg k ∧
      (c.run cfg ops).contains cfg k = (c'.run cfg ops).contains cfg k := by
  have h1 := read_ghost_irrelevant cfg (c.run cfg ops) k
  have h2 := read_ghost_irrelevant cfg (c'.run cfg ops) k
  have he : (c.run cfg ops).eraseGhost = (c'.run cfg ops).eraseGhost := by
    rw [run_eraseGhost, h, ← run_eraseGhost]
  rw [← h1.1, ← h1.2, ← h2.1, ← h2.2, he]
  exact ⟨rfl, rfl⟩

end Pearl.E2E
