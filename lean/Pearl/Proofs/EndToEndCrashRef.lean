import Pearl.Proofs.EndToEndCrash
import Pearl.Proofs.EndToEndGhost
import Pearl.Proofs.ListLemmas
/-
End-to-end crash recovery: the storage.

* `Store.ofBlobs` / `CState.ofBlobs`: what `init_from_existing` builds from a list of opened blobs — the L2
  store is well formed, the concrete state satisfies `CInv` and abstracts to it (`ofBlobs_ref`: for an arbitrary
  sorted list of blobs and an arbitrary `next_blob_id` above their ids; the container part is `initCont_dumped`,
  as for `restart`);
* start-up on the crashed directory (`crashRecover_eq`): the surviving blobs are `recovered`, blob by blob as
  `fate` says; `recover` = `restart` when no file is rejected (`recover_eq_restart`, `crashRecover_eq_restart`);
* the crashed directory abstracts to `Store.crash` (`crash_abs`); when no blob is opened with a torn tail record
  the recovered storage satisfies `CInv` and abstracts to `Store.crashRecover`, quarantined blobs left out
  (`crash_recover_ref`); at L2, when every cut is clean, crash + start-up is `Store.crash` then `Store.restart`
  (`Store.crashRecover_clean`).
-/
namespace Pearl
open Pearl.E2E

/-- the three shapes of `init`: lazy; no blob is left; the last blob becomes the active one -/
theorem init_cases {α : Type} {P : List α → Bool → Prop} (lazy : ∀ bs, P bs true) (fresh : P [] false)
    (last : ∀ cl a, P (cl ++ [a]) false) : ∀ bs l, P bs l
  | bs, true => lazy bs
  | bs, false => by
    rcases List.eq_nil_or_concat bs with rfl | ⟨cl, a, rfl⟩
    · exact fresh
    · exact List.concat_eq_append ▸ last cl a

theorem Store.ofBlobs_lazy (d : Bool) (bs : List Blob) (m : Nat) :
    (Store.ofBlobs d bs m true).blobs = bs.map dumpFlag ∧ (Store.ofBlobs d bs m true).nextId = m := by
  refine ⟨?_, rfl⟩
  unfold Store.ofBlobs Store.blobs Store.closed
  simp only [if_true, Option.toList_none, List.append_nil]
  exact filterMap_id_map_some dumpFlag bs

theorem Store.ofBlobs_blobs_nil (d : Bool) (m : Nat) :
    (Store.ofBlobs d [] m false).blobs = [{ id := m, recs := [] }] := rfl

theorem Store.ofBlobs_last (d : Bool) (cl : List Blob) (a : Blob) (m : Nat) :
    (Store.ofBlobs d (cl ++ [a]) m false).blobs = cl.map dumpFlag ++ [{ a with onDisk := false }] ∧
      (Store.ofBlobs d (cl ++ [a]) m false).nextId = m := by
  unfold Store.ofBlobs Store.blobs Store.closed
  simp only [Bool.false_eq_true, if_false, List.getLast?_append, List.getLast?_singleton, Option.some_or,
    List.dropLast_concat, Option.toList_some]
  exact ⟨congrArg (· ++ _) (filterMap_id_map_some dumpFlag cl), trivial⟩

/-- the blobs of the store `init` builds: the opened blobs (with their index flags set), or one fresh blob -/
theorem Store.ofBlobs_blobs (d : Bool) (bs : List Blob) (m : Nat) (lazy : Bool) :
    (bs ≠ [] ∨ lazy = true) →
    ((Store.ofBlobs d bs m lazy).blobs.map (fun b => (b.id, b.recs))) = bs.map (fun b => (b.id, b.recs)) := by
  induction bs, lazy using init_cases with
  | lazy bs => intro _; rw [(Store.ofBlobs_lazy d bs m).1]; exact map_dumpFlag_hist bs
  | fresh => intro h; rcases h with h | h <;> simp at h
  | last cl a =>
    intro _
    rw [(Store.ofBlobs_last d cl a m).1, List.map_append, List.map_append]
    exact congrArg (· ++ _) (map_dumpFlag_hist cl)

theorem Store.ofBlobs_nextId (d : Bool) (bs : List Blob) (m : Nat) (lazy : Bool) :
    (Store.ofBlobs d bs m lazy).nextId = if bs = [] ∧ lazy = false then m + 1 else m := by
  induction bs, lazy using init_cases with
  | lazy bs => rw [(Store.ofBlobs_lazy d bs m).2, if_neg (by simp)]
  | fresh => rfl
  | last cl a => rw [(Store.ofBlobs_last d cl a m).2, if_neg (by simp)]

theorem nonempty_or_lazy {α : Type} (bs : List α) (lazy : Bool) :
    (bs ≠ [] ∨ lazy = true) ∨ (bs = [] ∧ lazy = false) := by
  cases lazy
  · by_cases h : bs = []
    · exact Or.inr ⟨h, rfl⟩
    · exact Or.inl (Or.inl h)
  · exact Or.inl (Or.inr rfl)

theorem Store.ofBlobs_WF (d : Bool) (bs : List Blob) (m : Nat) (lazy : Bool)
    (hs : (bs.map (·.id)).Pairwise (· < ·)) (hlt : ∀ b ∈ bs, b.id < m) : (Store.ofBlobs d bs m lazy).WF := by
  rcases nonempty_or_lazy bs lazy with h | ⟨rfl, rfl⟩
  · have hb := Store.ofBlobs_blobs d bs m lazy h
    have hids : (Store.ofBlobs d bs m lazy).blobs.map (·.id) = bs.map (·.id) := by
      have := congrArg (List.map Prod.fst) hb
      simpa [List.map_map, Function.comp_def] using this
    refine ⟨by rw [hids]; exact hs, ?_⟩
    intro b hb'
    have hmem : b.id ∈ bs.map (·.id) := by rw [← hids]; exact List.mem_map.mpr ⟨b, hb', rfl⟩
    obtain ⟨b0, hb0, he⟩ := List.mem_map.mp hmem
    rw [Store.ofBlobs_nextId, if_neg (by
      intro hh
      rcases h with h | h
      · exact h hh.1
      · rw [h] at hh; cases hh.2)]
    rw [← he]; exact hlt b0 hb0
  · refine ⟨by simp [Store.ofBlobs_blobs_nil], ?_⟩
    intro b hb
    rw [Store.ofBlobs_blobs_nil] at hb
    simp only [List.mem_singleton] at hb
    subst hb
    show m < m + 1
    omega

theorem Store.restart_eq_ofBlobs (s : Store) (lazy : Bool) :
    s.restart lazy = Store.ofBlobs s.allowDup (Store.sortById s.blobs)
      ((Store.sortById s.blobs).foldl (fun m b => max m (b.id + 1)) 0) lazy := by
  unfold Store.restart Store.ofBlobs
  simp only []
  cases lazy with
  | true => simp only [if_true]
  | false =>
    simp only [Bool.false_eq_true, if_false]
    cases hl : (Store.sortById s.blobs).getLast? with
    | none =>
      rw [List.getLast?_eq_none_iff.mp hl]
      rfl
    | some a => rfl

end Pearl

namespace Pearl.E2E
open Pearl Pearl.BPTree Pearl.Container

theorem ofBlobs_snoc (cfg : Cfg) (bs : List CBlob) (a : CBlob) (m : Nat) :
    CState.ofBlobs cfg (bs ++ [a]) m false =
      { active := some a
        cont := Container.extend (fops cfg) (childOps cfg) (CState.emptyCont cfg) (bs.map (CBlob.dump cfg))
        nextId := m } := by
  unfold CState.ofBlobs
  simp only [Bool.false_eq_true, if_false, List.getLast?_append, List.getLast?_singleton, Option.some_or,
    List.dropLast_concat]

/-- **what `init` builds satisfies the invariant** and abstracts to the L2 store built from the abstractions of
    the blobs: for every list of blobs that satisfy the blob invariant with their index in memory, in strictly
    increasing id order, and every `next_blob_id` above their ids -/
theorem ofBlobs_ref {cfg : Cfg} (hcfg : cfg.OK) (bs : List CBlob) (maxNext : Nat) (lazy : Bool)
    (hbs : ∀ b ∈ bs, BlobInv cfg b ∧ b.index.onDisk = false)
    (hsorted : (bs.map (·.id)).Pairwise (· < ·)) (hlt : ∀ b ∈ bs, b.id < maxNext) :
    (CState.ofBlobs cfg bs maxNext lazy).abs cfg = Store.ofBlobs cfg.allowDup (bs.map CBlob.abs) maxNext lazy ∧
      CInv cfg (CState.ofBlobs cfg bs maxNext lazy) := by
  -- the container filled with the dumped blobs `l`: `initCont_dumped`, with nothing done to a blob before `dump`
  have hcont : ∀ (l : List CBlob), (∀ b ∈ l, BlobInv cfg b) →
      (slotsOf (initCont cfg (l.map (CBlob.dump cfg)))).map (Option.map CBlob.abs)
        = (l.map CBlob.abs).map (fun b => some (if b.recs.isEmpty then b else { b with onDisk := true })) ∧
      (∀ b, some b ∈ slotsOf (initCont cfg (l.map (CBlob.dump cfg))) → BlobInv cfg b) ∧
      ContInv cfg (initCont cfg (l.map (CBlob.dump cfg))) := by
    intro l hl
    have := initCont_dumped (blobLaws cfg) hcfg (ρ := id) (fun b hb => ⟨hb, rfl, rfl⟩) l hl
    rwa [List.map_id] at this
  suffices h : (CState.ofBlobs cfg bs maxNext lazy).abs cfg
        = Store.ofBlobs cfg.allowDup (bs.map CBlob.abs) maxNext lazy ∧
      (∀ a, (CState.ofBlobs cfg bs maxNext lazy).active = some a → BlobInv cfg a ∧ a.index.onDisk = false) ∧
      (∀ b, some b ∈ slotsOf (CState.ofBlobs cfg bs maxNext lazy).cont → BlobInv cfg b) ∧
      ContInv cfg (CState.ofBlobs cfg bs maxNext lazy).cont by
    obtain ⟨h1, h2, h3, h4⟩ := h
    refine ⟨h1, ?_, h2, h3, h4⟩
    rw [h1]
    apply Store.ofBlobs_WF
    · rw [List.map_map]; exact hsorted
    · intro b hb
      obtain ⟨b0, hb0, rfl⟩ := List.mem_map.mp hb
      exact hlt b0 hb0
  have hL : ∀ b ∈ bs, BlobInv cfg b := fun b hb => (hbs b hb).1
  unfold CState.ofBlobs Store.ofBlobs
  cases lazy with
  | true =>
    simp only [if_true]
    obtain ⟨hs, hcl, hg⟩ := hcont bs hL
    exact ⟨Store.ext' rfl (by rw [abs_slots]; exact hs) rfl rfl, fun a h => (by cases h), hcl, hg⟩
  | false =>
    simp only [Bool.false_eq_true, if_false]
    rw [List.getLast?_map]
    cases hlast : bs.getLast? with
    | none =>
      simp only [Option.map_none]
      refine ⟨rfl, ?_, ?_, ?_⟩
      · intro a h
        simp only [CState.createActive, Option.some.injEq] at h
        subst h
        exact ⟨openNew_inv cfg _, rfl⟩
      · intro b hb
        simp [CState.createActive, CState.emptyCont, slotsOf_new] at hb
      · refine ⟨[], Container.new_inv _ _ cfg.group 1 hcfg.group, ?_⟩
        intro j b hj
        simp [CState.createActive, CState.emptyCont, slotsOf_new] at hj
    | some a =>
      simp only [Option.map_some]
      obtain ⟨hs, hcl, hg⟩ := hcont bs.dropLast (fun b hb => hL b (List.dropLast_subset _ hb))
      have ha := hbs a (List.mem_of_getLast? hlast)
      refine ⟨Store.ext' ?_ (by rw [abs_slots, ← List.map_dropLast]; exact hs) rfl rfl,
        fun a' h => (by cases h; exact ha), hcl, hg⟩
      -- the active blob keeps its index in memory, so its L2 flag is already clear
      show some a.abs = some { a.abs with onDisk := false }
      have : a.abs.onDisk = false := ha.2
      cases hab : a.abs with
      | mk i r o => rw [hab] at this; simp only at this; subst this; rfl

theorem regen_id {cfg : Cfg} {b b' : CBlob} (h : regen cfg b = some b') : b'.id = b.id := by
  rw [regen_of_openBlob] at h
  split at h
  · cases h; rfl
  · cases h

theorem regen_some_openBlob {cfg : Cfg} {b b' : CBlob} (h : regen cfg b = some b') :
    ∃ hs, openBlob cfg.klen cfg.validateData b.file = .ok hs := by
  rw [regen_of_openBlob] at h
  split at h
  · next hs heq => exact ⟨hs, heq⟩
  · cases h

theorem readBlobs_of_regenAll {cfg : Cfg} : ∀ (l bs : List CBlob), regenAll cfg l = some bs →
    readBlobs cfg l = some bs
  | [], bs, h => by simpa [regenAll, readBlobs] using h
  | b :: l, bs, h => by
    simp only [regenAll] at h
    cases hr : regen cfg b with
    | none => rw [hr] at h; simp at h
    | some b' =>
      cases hra : regenAll cfg l with
      | none => rw [hr, hra] at h; simp at h
      | some bs' =>
        rw [hr, hra] at h
        obtain ⟨hs, ho⟩ := regen_some_openBlob hr
        simp only [readBlobs, ho, hr, readBlobs_of_regenAll l bs' hra]
        exact h

theorem regenAll_ids {cfg : Cfg} : ∀ (l bs : List CBlob), regenAll cfg l = some bs →
    bs.map (·.id) = l.map (·.id)
  | [], bs, h => by simp [regenAll] at h; subst h; rfl
  | b :: l, bs, h => by
    simp only [regenAll] at h
    cases hr : regen cfg b with
    | none => rw [hr] at h; simp at h
    | some b' =>
      cases hra : regenAll cfg l with
      | none => rw [hr, hra] at h; simp at h
      | some bs' =>
        rw [hr, hra] at h
        simp only [Option.some.injEq] at h
        subst h
        simp only [List.map_cons, regen_id hr, regenAll_ids l bs' hra]

theorem restart_eq_ofBlobs (cfg : Cfg) (c : CState) (lazy : Bool) (bs : List CBlob)
    (h : regenAll cfg (sortById c.blobs) = some bs) :
    c.restart cfg lazy = CState.ofBlobs cfg bs (maxNextId bs) lazy := by
  unfold CState.restart CState.ofBlobs
  rw [h]
  simp only []
  cases lazy with
  | true => rfl
  | false =>
    simp only [Bool.false_eq_true, if_false]
    cases hl : bs.getLast? with
    | none => rw [List.getLast?_eq_none_iff.mp hl]; rfl
    | some a => rfl

/-- `recover` is `restart` whenever `restart` does not fail (no blob file is rejected) -/
theorem recover_eq_restart (cfg : Cfg) (c : CState) (lazy : Bool) (bs : List CBlob)
    (h : regenAll cfg (sortById c.blobs) = some bs) : c.recover cfg lazy = some (c.restart cfg lazy) := by
  unfold CState.recover
  rw [readBlobs_of_regenAll _ _ h, restart_eq_ofBlobs cfg c lazy bs h]
  simp only []
  exact congrArg (fun m => some (CState.ofBlobs cfg bs m lazy)) (foldl_maxSucc_congr CBlob.id CBlob.id _ _ 0 (regenAll_ids _ _ h).symm)

theorem crash_blobs (cfg : Cfg) (c : CState) (cut : Nat → Nat) :
    (c.crash cfg cut).blobs = c.blobs.map (fun b => b.crash cfg (cut b.id)) :=
  blobs_mapBlobs c _

theorem insertById_of_lt (b : CBlob) : ∀ (l : List CBlob), (∀ x ∈ l, b.id < x.id) → insertById b l = b :: l
  | [], _ => rfl
  | c :: cs, h => by
    simp only [insertById]
    rw [if_pos (h c (by simp))]

theorem sortById_of_sorted : ∀ (l : List CBlob), (l.map (·.id)).Pairwise (· < ·) → sortById l = l
  | [], _ => rfl
  | b :: l, h => by
    simp only [List.map_cons, List.pairwise_cons] at h
    have ih := sortById_of_sorted l h.2
    simp only [sortById, List.foldr_cons] at ih ⊢
    rw [ih]
    apply insertById_of_lt
    intro x hx
    exact h.1 x.id (List.mem_map.mpr ⟨x, hx, rfl⟩)

theorem blobs_lt_nextId {I : CBlob → Prop} {cfg : Cfg} {c : CState} (hinv : CInvG I cfg c) :
    ∀ b ∈ c.blobs, b.id < c.nextId := by
  intro b hb
  have := hinv.wf.2 b.abs (mem_abs_blobs cfg hb)
  exact this

/-- the crash keeps the ids, so the blobs of the crashed directory are already in the order `init` sorts them into -/
theorem sortById_crash_blobs {I : CBlob → Prop} {cfg : Cfg} {c : CState} (hinv : CInvG I cfg c) (cut : Nat → Nat) :
    sortById (c.crash cfg cut).blobs = c.blobs.map (fun b => b.crash cfg (cut b.id)) := by
  rw [crash_blobs]
  apply sortById_of_sorted
  rw [List.map_map]
  exact ids_pairwise hinv.wf

/-- the survivor of `b`: the blob `read_blobs` opens from the file of `b` cut at `cut b.id` (`recovered`, as `fate`
    says), or none when the file is quarantined -/
def surv (cfg : Cfg) (cut : Nat → Nat) (b : CBlob) : Option CBlob :=
  match fate cfg.klen cfg.validateData b.ghost (cut b.id) with
  | .quarantined => none
  | .opened n torn => some (recovered cfg b (cut b.id) n (if torn then n + 1 else n))

theorem surv_of_opened {cfg : Cfg} {cut : Nat → Nat} {b : CBlob} {n : Nat} {torn : Bool}
    (hf : fate cfg.klen cfg.validateData b.ghost (cut b.id) = .opened n torn) :
    surv cfg cut b = some (recovered cfg b (cut b.id) n (if torn then n + 1 else n)) := by
  unfold surv; rw [hf]

theorem surv_of_quarantined {cfg : Cfg} {cut : Nat → Nat} {b : CBlob}
    (hf : fate cfg.klen cfg.validateData b.ghost (cut b.id) = .quarantined) : surv cfg cut b = none := by
  unfold surv; rw [hf]

theorem surv_some {cfg : Cfg} {cut : Nat → Nat} {b b' : CBlob} (h : surv cfg cut b = some b') :
    ∃ n torn, fate cfg.klen cfg.validateData b.ghost (cut b.id) = .opened n torn ∧
      b' = recovered cfg b (cut b.id) n (if torn then n + 1 else n) := by
  unfold surv at h
  split at h
  · cases h
  · next n torn hf => cases h; exact ⟨n, torn, hf, rfl⟩

theorem surv_id {cfg : Cfg} {cut : Nat → Nat} {b b' : CBlob} (h : surv cfg cut b = some b') : b'.id = b.id := by
  obtain ⟨_, _, _, rfl⟩ := surv_some h
  rfl

/-- `read_blobs` on the crashed directory: blob by blob what `fate` says; it never fails -/
theorem readBlobs_crash {cfg : Cfg} (cut : Nat → Nat) : ∀ (l : List CBlob), (∀ b ∈ l, BlobInv cfg b) →
    readBlobs cfg (l.map (fun b => b.crash cfg (cut b.id))) = some (l.filterMap (surv cfg cut))
  | [], _ => rfl
  | b :: l, h => by
    have hb := h b (by simp)
    have ih := readBlobs_crash cut l (fun x hx => h x (by simp [hx]))
    have hf : (b.crash cfg (cut b.id)).file = b.file.take (cut b.id) := rfl
    simp only [List.map_cons, readBlobs, hf]
    cases hfate : fate cfg.klen cfg.validateData b.ghost (cut b.id) with
    | quarantined =>
      rw [openBlob_quarantined hb hfate]
      simp only []
      rw [ih, List.filterMap_cons]
      simp only [surv, hfate]
    | opened n torn =>
      rw [openBlob_opened hb hfate]
      simp only []
      rw [regen_crash_opened hb hfate, ih, List.filterMap_cons]
      simp only [surv, hfate]

theorem filterMap_sorted {f : CBlob → Option CBlob} (hf : ∀ b b', f b = some b' → b'.id = b.id) :
    ∀ (l : List CBlob), (l.map (·.id)).Pairwise (· < ·) → ((l.filterMap f).map (·.id)).Pairwise (· < ·)
  | [], _ => by simp
  | b :: l, h => by
    simp only [List.map_cons, List.pairwise_cons] at h
    have ih := filterMap_sorted hf l h.2
    rw [List.filterMap_cons]
    cases hb : f b with
    | none => exact ih
    | some b' =>
      simp only [List.map_cons, List.pairwise_cons]
      refine ⟨?_, ih⟩
      intro i hi
      obtain ⟨x, hx, rfl⟩ := List.mem_map.mp hi
      obtain ⟨x0, hx0, hfx⟩ := List.mem_filterMap.mp hx
      rw [hf b b' hb, hf x0 x hfx]
      exact h.1 x0.id (List.mem_map.mpr ⟨x0, hx0, rfl⟩)

theorem lt_maxNextId : ∀ (l : List CBlob) (b : CBlob), b ∈ l → b.id < maxNextId l := by
  intro l b hb
  unfold maxNextId
  exact ((foldl_maxSucc_le_iff CBlob.id l 0 _).1 (Nat.le_refl _)).2 b hb

theorem crash_maxNextId (cfg : Cfg) (cut : Nat → Nat) (l : List CBlob) :
    maxNextId (l.map (fun b => b.crash cfg (cut b.id))) = maxNextId l :=
  foldl_maxSucc_congr CBlob.id CBlob.id _ _ 0 (by rw [List.map_map]; rfl)

/-- **start-up on the crashed directory**: it does not fail, and builds the storage from the surviving blobs -/
theorem crashRecover_eq {cfg : Cfg} {c : CState} (hinv : CInv cfg c) (cut : Nat → Nat) (lazy : Bool) :
    c.crashRecover cfg cut lazy =
      some (CState.ofBlobs cfg (c.blobs.filterMap (surv cfg cut)) (maxNextId c.blobs) lazy) := by
  unfold CState.crashRecover CState.recover
  rw [sortById_crash_blobs hinv, readBlobs_crash cut c.blobs (fun b hb => CInvG.blobInv hinv hb), crash_maxNextId]

end Pearl.E2E

namespace Pearl
open Pearl.E2E

theorem Store.crash_blobs (klen : Nat) (s : Store) (cut : Nat → Nat) :
    (s.crash klen cut).blobs = s.blobs.map (fun b => b.crash klen (cut b.id)) := by
  unfold Store.blobs Store.closed Store.crash
  simp only [List.map_append]
  rw [filterMap_id_map]
  cases s.active <;> rfl

theorem Store.crash_ids (klen : Nat) (s : Store) (cut : Nat → Nat) :
    (s.crash klen cut).blobs.map (·.id) = s.blobs.map (·.id) := by
  rw [Store.crash_blobs, List.map_map]
  rfl

theorem Store.crash_WF {klen : Nat} {s : Store} (hwf : s.WF) (cut : Nat → Nat) : (s.crash klen cut).WF := by
  refine ⟨by rw [Store.crash_ids]; exact hwf.1, ?_⟩
  intro b hb
  rw [Store.crash_blobs] at hb
  obtain ⟨b0, hb0, rfl⟩ := List.mem_map.mp hb
  exact hwf.2 b0 hb0

/-- when every cut is clean, crash + start-up with quarantine is the crash followed by the plain restart -/
theorem Store.crashRecover_clean {klen : Nat} {v : Bool} {s : Store} (hwf : s.WF) (cut : Nat → Nat) (lazy : Bool)
    (hclean : ∀ b ∈ s.blobs, ∃ n, cutKind klen b.recs (cut b.id) = .clean n) :
    s.crashRecover klen v cut lazy = (s.crash klen cut).restart lazy := by
  have hsort : Store.sortById s.blobs = s.blobs := Store.sortById_of_sorted _ hwf.1
  have hsort' : Store.sortById (s.crash klen cut).blobs = (s.crash klen cut).blobs :=
    Store.sortById_of_sorted _ (Store.crash_WF hwf cut).1
  rw [Store.restart_eq_ofBlobs, hsort']
  unfold Store.crashRecover Store.survivors
  rw [hsort]
  congr 1
  · rw [Store.crash_blobs]
    rw [← List.filterMap_eq_map]
    apply filterMap_congr'
    intro b hb
    obtain ⟨n, hn⟩ := hclean b hb
    have hf : fate klen v b.recs (cut b.id) = .opened n false := by unfold fate; rw [hn]
    simp only [hf, Function.comp_apply, Blob.crash, ← (cutKind_clean hn).2.1]
  · exact foldl_maxSucc_congr Blob.id Blob.id _ _ 0 (Store.crash_ids klen s cut).symm

/-- a crash that loses nothing (every cut at or after the end of its file) leaves every L2 blob with its id and its
    records -/
theorem Store.crash_history_of_ge {klen : Nat} (s : Store) (cut : Nat → Nat)
    (h : ∀ b ∈ s.blobs, Fs.contentLen klen b.recs ≤ cut b.id) : (s.crash klen cut).history = s.history := by
  show (s.crash klen cut).blobs.map (fun b => (b.id, b.recs)) = s.blobs.map (fun b => (b.id, b.recs))
  rw [Store.crash_blobs, List.map_map]
  apply List.map_congr_left
  intro b hb
  simp only [Function.comp_apply, Blob.crash, complete_of_ge klen b.recs _ (h b hb), List.take_length]

end Pearl

namespace Pearl.E2E
open Pearl Pearl.BPTree Pearl.Container

theorem crashBlob_abs (cfg : Cfg) (b : CBlob) (t : Nat) : (b.crash cfg t).abs = b.abs.crash cfg.klen t := rfl

theorem crash_abs (cfg : Cfg) (c : CState) (cut : Nat → Nat) :
    (c.crash cfg cut).abs cfg = (c.abs cfg).crash cfg.klen cut := by
  apply Store.ext'
  · show (c.active.map _).map CBlob.abs = (c.active.map CBlob.abs).map _
    cases c.active <;> rfl
  · rw [abs_slots]
    show (slotsOf (mapChildren c.cont _)).map _ = ((c.abs cfg).slots).map _
    rw [abs_slots, slotsOf_mapChildren, List.map_map, List.map_map]
    apply List.map_congr_left
    intro o _
    cases o <;> rfl
  · rfl
  · rfl

theorem survivors_abs {cfg : Cfg} {c : CState} (hinv : CInv cfg c) (cut : Nat → Nat) :
    (c.blobs.filterMap (surv cfg cut)).map CBlob.abs =
      (c.abs cfg).survivors cfg.klen cfg.validateData cut := by
  unfold Store.survivors
  rw [Store.sortById_of_sorted _ hinv.wf.1, abs_blobs, List.filterMap_map, List.map_filterMap]
  apply filterMap_congr'
  intro b _
  simp only [Function.comp_apply, surv]
  show _ = match fate cfg.klen cfg.validateData b.ghost (cut b.id) with
    | .quarantined => none
    | .opened n _ => some ({ id := b.id, recs := b.ghost.take n, onDisk := false } : Blob)
  cases fate cfg.klen cfg.validateData b.ghost (cut b.id) with
  | quarantined => rfl
  | opened n torn => rfl

theorem maxNextId_abs {cfg : Cfg} {c : CState} (hinv : CInv cfg c) :
    (Store.sortById (c.abs cfg).blobs).foldl (fun m b => max m (b.id + 1)) 0 = maxNextId c.blobs := by
  rw [Store.sortById_of_sorted _ hinv.wf.1, abs_blobs, List.foldl_map]
  rfl

/-- no blob is opened with a torn tail record (finding E8 does not occur at this cut) -/
def NoTorn (cfg : Cfg) (c : CState) (cut : Nat → Nat) : Prop :=
  ∀ b ∈ c.blobs, ∀ n, fate cfg.klen cfg.validateData b.ghost (cut b.id) ≠ .opened n true

theorem surv_noTorn {cfg : Cfg} {c : CState} {cut : Nat → Nat} (hinv : CInv cfg c) (hnt : NoTorn cfg c cut)
    {b b' : CBlob} (hb : b ∈ c.blobs) (h : surv cfg cut b = some b') :
    BlobInv cfg b' ∧ b'.index.onDisk = false := by
  obtain ⟨n, torn, hf, rfl⟩ := surv_some h
  cases torn with
  | true => exact absurd hf (hnt b hb n)
  | false => exact ⟨recovered_inv (CInvG.blobInv hinv hb) (fate_opened_false hf), rfl⟩

/-- **crash + start-up refines the L2 crash + start-up**: for every state satisfying the invariant and every cut
    at which no blob is opened with a torn tail, start-up succeeds, the recovered storage satisfies the invariant and
    abstracts to the L2 store holding, of every blob that was not quarantined, exactly the records that are
    complete in the surviving prefix of its file -/
theorem crash_recover_ref {cfg : Cfg} (hcfg : cfg.OK) {c : CState} (hinv : CInv cfg c) (cut : Nat → Nat)
    (lazy : Bool) (hnt : NoTorn cfg c cut) :
    ∃ c₁, c.crashRecover cfg cut lazy = some c₁ ∧ CInv cfg c₁ ∧
      c₁.abs cfg = (c.abs cfg).crashRecover cfg.klen cfg.validateData cut lazy := by
  refine ⟨_, crashRecover_eq hinv cut lazy, ?_⟩
  have href := ofBlobs_ref hcfg (c.blobs.filterMap (surv cfg cut)) (maxNextId c.blobs) lazy
    (by
      intro b' hb'
      obtain ⟨b, hb, hs⟩ := List.mem_filterMap.mp hb'
      exact surv_noTorn hinv hnt hb hs)
    (filterMap_sorted (fun b b' h => surv_id h) _ (ids_pairwise hinv.wf))
    (by
      intro b' hb'
      obtain ⟨b, hb, hs⟩ := List.mem_filterMap.mp hb'
      rw [surv_id hs]
      exact lt_maxNextId _ b hb)
  refine ⟨href.2, ?_⟩
  rw [href.1, survivors_abs hinv cut]
  unfold Store.crashRecover
  rw [maxNextId_abs hinv]
  rfl

/-! ### without quarantine: start-up is `CState.restart` -/

theorem regenAll_crash {cfg : Cfg} (cut : Nat → Nat) : ∀ (l : List CBlob), (∀ b ∈ l, BlobInv cfg b) →
    (∀ b ∈ l, fate cfg.klen cfg.validateData b.ghost (cut b.id) ≠ .quarantined) →
    regenAll cfg (l.map (fun b => b.crash cfg (cut b.id))) = some (l.filterMap (surv cfg cut))
  | [], _, _ => rfl
  | b :: l, h, hq => by
    have hb := h b (by simp)
    have ih := regenAll_crash cut l (fun x hx => h x (by simp [hx])) (fun x hx => hq x (by simp [hx]))
    simp only [List.map_cons, regenAll]
    cases hfate : fate cfg.klen cfg.validateData b.ghost (cut b.id) with
    | quarantined => exact absurd hfate (hq b (by simp))
    | opened n torn =>
      rw [regen_crash_opened hb hfate, ih, List.filterMap_cons]
      simp only [surv, hfate]

/-- when no blob file is rejected, start-up on the crashed directory is `CState.restart` of the crashed directory -/
theorem crashRecover_eq_restart {cfg : Cfg} {c : CState} (hinv : CInv cfg c) (cut : Nat → Nat) (lazy : Bool)
    (hq : ∀ b ∈ c.blobs, fate cfg.klen cfg.validateData b.ghost (cut b.id) ≠ .quarantined) :
    c.crashRecover cfg cut lazy = some ((c.crash cfg cut).restart cfg lazy) := by
  unfold CState.crashRecover
  apply recover_eq_restart cfg _ lazy (c.blobs.filterMap (surv cfg cut))
  rw [sortById_crash_blobs hinv]
  exact regenAll_crash cut c.blobs (fun b hb => CInvG.blobInv hinv hb) hq

end Pearl.E2E
