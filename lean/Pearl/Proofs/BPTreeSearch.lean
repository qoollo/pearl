import Pearl.Model.BPTree
/-
The binary search shared by `read_header_buf` and `binary_search_serialized`.
-/
namespace Pearl.BPTree

/-- specification of a binary-search result over `n` items with key function `key` -/
def BS.Spec (key : Nat → Nat) (n : Nat) (k : Nat) : BS → Prop
  | .found m => m < n ∧ key m = k
  | .notFound l => l ≤ n ∧ (∀ i, i < l → key i < k) ∧ (∀ i, l ≤ i → i < n → k < key i)

/-- `m = (l + r) / 2` for `l = a`, `r = b - 1` -/
theorem binSearch_midpoint {a b : Nat} (h : a < b) :
    ∃ m : Nat, ((a : Int) + ((b : Int) - 1)) / 2 = m ∧ a ≤ m ∧ m < b :=
  ⟨(a + b - 1) / 2, by omega⟩

/-- the loop searches the index interval `[a, b)`: `l = a`, `r = b - 1` -/
theorem binSearchAux_spec (keyAt : Nat → Option Nat) (key : Nat → Nat) (n : Nat) (k : Nat)
    (hk : ∀ i, i < n → keyAt i = some (key i))
    (hmono : ∀ i j, i ≤ j → j < n → key i ≤ key j) :
    ∀ (fuel a b : Nat), a ≤ b → b ≤ n → b - a < fuel →
      (∀ i, i < a → key i < k) → (∀ i, b ≤ i → i < n → k < key i) →
      ∃ res, binSearchAux keyAt k fuel a ((b : Int) - 1) = some res ∧ BS.Spec key n k res := by
  intro fuel
  induction fuel with
  | zero => intro a b _ _ h; omega
  | succ fuel ih =>
    intro a b hab hb hf hlo hhi
    unfold binSearchAux
    by_cases hlt : a < b
    · have hle : (a : Int) ≤ (b : Int) - 1 := by omega
      obtain ⟨m, hm, hm1, hm2⟩ := binSearch_midpoint hlt
      have hmn : m < n := Nat.lt_of_lt_of_le hm2 hb
      simp only [hle, if_true, hm, Int.toNat_natCast, hk m hmn]
      clear hm hle
      by_cases h1 : k < key m
      · rw [if_pos h1]
        exact ih a m hm1 (Nat.le_of_lt hmn) (by omega) hlo
          fun i hi hin => Nat.lt_of_lt_of_le h1 (hmono m i hi hin)
      · rw [if_neg h1]
        by_cases h2 : key m < k
        · rw [if_pos h2]
          exact ih (m + 1) b hm2 hb (by omega)
            (fun i hi => Nat.lt_of_le_of_lt (hmono i m (Nat.le_of_lt_succ hi) hmn) h2) hhi
        · rw [if_neg h2]
          exact ⟨_, rfl, hmn, Nat.le_antisymm (Nat.le_of_not_lt h1) (Nat.le_of_not_lt h2)⟩
    · obtain rfl : a = b := Nat.le_antisymm hab (Nat.le_of_not_lt hlt)
      have hle : ¬ (a : Int) ≤ (a : Int) - 1 := by omega
      simp only [hle, if_false, Int.toNat_natCast]
      exact ⟨_, rfl, hb, hlo, hhi⟩

theorem binSearch_spec (keyAt : Nat → Option Nat) (key : Nat → Nat) (n : Nat) (k : Nat)
    (hk : ∀ i, i < n → keyAt i = some (key i))
    (hmono : ∀ i j, i ≤ j → j < n → key i ≤ key j) :
    ∃ res, binSearch keyAt n k = some res ∧ BS.Spec key n k res :=
  binSearchAux_spec keyAt key n k hk hmono (n + 1) 0 n (Nat.zero_le _) (Nat.le_refl _) (Nat.lt_succ_self _)
    (fun _ hi => absurd hi (Nat.not_lt_zero _)) (fun _ hi hin => absurd hin (Nat.not_lt.2 hi))

/-- over strictly increasing keys: the number of items with key `≤ k` -/
def BS.idx : BS → Nat
  | .found m => m + 1
  | .notFound l => l

theorem binSearch_idx (keyAt : Nat → Option Nat) (key : Nat → Nat) (n : Nat) (k : Nat)
    (hk : ∀ i, i < n → keyAt i = some (key i))
    (hstrict : ∀ i j, i < j → j < n → key i < key j) :
    ∃ res, binSearch keyAt n k = some res ∧ res.idx ≤ n ∧ (∀ i, i < res.idx → key i ≤ k) ∧
      (∀ i, res.idx ≤ i → i < n → k < key i) := by
  obtain ⟨res, hres, hspec⟩ := binSearch_spec keyAt key n k hk (fun i j hij hj =>
    (Nat.lt_or_eq_of_le hij).elim (fun h => Nat.le_of_lt (hstrict i j h hj)) (fun h => h ▸ Nat.le_refl _))
  refine ⟨res, hres, ?_⟩
  cases res with
  | found m =>
    obtain ⟨hm, rfl⟩ := hspec
    refine ⟨hm, fun i hi => ?_, fun i hi hn => hstrict m i hi hn⟩
    rcases Nat.lt_or_eq_of_le (Nat.le_of_lt_succ hi) with h | rfl
    · exact Nat.le_of_lt (hstrict i m h hm)
    · exact Nat.le_refl _
  | notFound l => exact ⟨hspec.1, fun i hi => Nat.le_of_lt (hspec.2.1 i hi), hspec.2.2⟩

end Pearl.BPTree
