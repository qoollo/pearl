import Pearl.Model.CancelLoad
import Pearl.Proofs.CancelLemmas
/-
Helper lemmas for Props/C14b.lean (cancellation of `load_index`, defect E24): segment lists in which every suspension
point precedes every assignment are cancel-atomic; the states a cancelled `load` / `restore` leaves; the invariant `Good`;
the absorbing state `Stuck` (`stuck_*`); composition of `exec` and `Reach`.
-/
namespace Pearl.CancelLoad
open Pearl.Cancel

/-- every await is without a closure and precedes all synchronous code -/
def AwaitsFirstItems {σ : Type} : List (Item σ) → Prop
  | [] => True
  | .await none :: rest => AwaitsFirstItems rest
  | .await (some _) :: _ => False
  | .sync _ :: rest => awaits rest = 0

theorem cancelAfter_sync {σ : Type} (k : Nat) (f : σ → σ) (rest : List (Item σ)) (s : σ) :
    cancelAfter k (.sync f :: rest) s = cancelAfter k rest (f s) :=
  Cancel.cancelAfter_sync k f rest s

theorem awaitsFirst_of_awaits_zero {σ : Type} (items : List (Item σ)) (h : awaits items = 0) :
    AwaitsFirstItems items := by
  cases items with
  | nil => trivial
  | cons i rest =>
    cases i with
    | sync f => exact h
    | await c => exact absurd h (Nat.succ_ne_zero _)

theorem cancel_awaitsFirst_eq {σ : Type} (items : List (Item σ)) (h : AwaitsFirstItems items) (k : Nat) (s : σ) :
    cancelAfter k items s = if k < awaits items then s else runItems items s := by
  induction items generalizing k with
  | nil => exact cancelAfter_nil k s
  | cons i rest ih =>
    cases i with
    | sync f =>
      have h0 : awaits (.sync f :: rest) = 0 := h
      rw [h0]
      exact cancelAfter_ge _ k s (h0 ▸ Nat.zero_le k)
    | await c =>
      cases c with
      | some g => exact absurd h id
      | none =>
        cases k with
        | zero => rfl
        | succ k => exact (ih h k).trans (by simp only [awaits, Nat.add_lt_add_iff_right]; rfl)

theorem cancel_atomic_of_awaitsFirst {σ : Type} (items : List (Item σ)) (h : AwaitsFirstItems items) (k : Nat) (s : σ) :
    cancelAfter k items s = s ∨ cancelAfter k items s = runItems items s := by
  rw [cancel_awaitsFirst_eq items h]
  split
  · exact Or.inl rfl
  · exact Or.inr rfl

theorem segsOf_await (es : List String) (fs : List (IdxSt → IdxSt)) :
    segsOf ("await" :: es) fs = .await none :: segsOf es fs := rfl

theorem segsOf_set (e : String) (es : List String) (f : IdxSt → IdxSt) (fs : List (IdxSt → IdxSt))
    (he : (e == "await") = false) : segsOf (e :: es) (f :: fs) = .sync f :: segsOf es fs := by
  simp only [segsOf, he, Bool.false_eq_true, if_false]

theorem segsOf_set_nil (e : String) (es : List String) (he : (e == "await") = false) :
    segsOf (e :: es) ([] : List (IdxSt → IdxSt)) = segsOf es [] := by
  simp only [segsOf, he, Bool.false_eq_true, if_false]

theorem awaits_segsOf (evs : List String) (fs : List (IdxSt → IdxSt)) :
    awaits (segsOf evs fs) = evs.countP (· == "await") := by
  induction evs generalizing fs with
  | nil => rfl
  | cons e es ih =>
    cases he : e == "await"
    · rw [List.countP_cons_of_neg (by simp [he])]
      cases fs with
      | nil => rw [segsOf_set_nil e es he]; exact ih []
      | cons f fs' => rw [segsOf_set e es f fs' he]; exact ih fs'
    · rw [eq_of_beq he, segsOf_await, List.countP_cons_of_pos (by simp)]
      exact congrArg (· + 1) (ih fs)

theorem awaitsFirstItems_segsOf (evs : List String) (fs : List (IdxSt → IdxSt)) (h : AwaitsFirst evs) :
    AwaitsFirstItems (segsOf evs fs) := by
  induction evs with
  | nil => trivial
  | cons e es ih =>
    cases he : e == "await"
    · -- the awaits are over: only `"set"` events follow, so no await is left
      apply awaitsFirst_of_awaits_zero
      rw [awaits_segsOf]
      have hall : ((e :: es).all (· == "set")) = true := by simpa [AwaitsFirst, List.dropWhile, he] using h
      refine List.countP_eq_zero.mpr (fun x hx => ?_)
      rw [eq_of_beq (List.all_eq_true.mp hall x hx)]
      decide
    · rw [eq_of_beq he, segsOf_await]
      exact ih (by simpa [AwaitsFirst, List.dropWhile, he] using h)

theorem awaits_replicate_sync {σ : Type} (n : Nat) (g : σ → σ) :
    awaits (List.replicate n (Item.await none) ++ [.sync g]) = n := by
  rw [awaits_append, awaits_replicate]; rfl

theorem awaitsFirst_replicate_sync {σ : Type} (n : Nat) (g : σ → σ) :
    AwaitsFirstItems (List.replicate n (Item.await none) ++ [.sync g]) := by
  induction n with
  | zero => exact (rfl : awaits ([] : List (Item σ)) = 0)
  | succ n ih => exact ih

theorem run_replicate_sync {σ : Type} (n : Nat) (g : σ → σ) (s : σ) :
    runItems (List.replicate n (Item.await none) ++ [.sync g]) s = g s := by
  rw [runItems_append, plain_run _ (plain_replicate n)]; rfl

theorem run_segsOf (evs : List String) (fs : List (IdxSt → IdxSt)) (s : IdxSt) :
    runItems (segsOf evs fs) s = oneSeg (fs.take (evs.countP (fun e => !(e == "await")))) s := by
  induction evs generalizing fs s with
  | nil => simp [segsOf, runItems, oneSeg]
  | cons e es ih =>
    cases he : e == "await"
    · rw [List.countP_cons_of_pos (by simp [he])]
      cases fs with
      | nil => rw [segsOf_set_nil e es he, ih [] s]; simp [oneSeg]
      | cons f fs' => rw [segsOf_set e es f fs' he]; exact ih fs' (f s)
    · rw [eq_of_beq he, segsOf_await, List.countP_cons_of_neg (by simp)]
      exact ih fs s

theorem run_segsOf_eq_oneFinal (evs : List String) (fs : List (IdxSt → IdxSt)) (s : IdxSt) :
    runItems (segsOf evs fs) s = runItems (segsOneFinal evs fs) s := by
  rw [run_segsOf, segsOneFinal, run_replicate_sync]

theorem awaitsFirst_loadNew (s0 : IdxSt) : AwaitsFirstItems (loadNew s0) := by
  unfold loadNew; split <;> simp [AwaitsFirstItems, awaits]

theorem awaitsFirst_restoreNew (s0 : IdxSt) : AwaitsFirstItems (restore .new s0) := by
  show AwaitsFirstItems ([.await none, .await none, .await none] ++ loadNew s0 ++ [.sync makeActive])
  unfold loadNew; split <;> simp [AwaitsFirstItems, awaits]

/-- what a `load` polled to completion leaves: the same for both variants -/
def loaded (s : IdxSt) : IdxSt := if s.index = .inMemory then s else setFilter (setInner s)

theorem run_loadNew (s0 : IdxSt) :
    runItems (loadNew s0) s0 = if s0.index = .inMemory then s0 else setFilter (setInner s0) := by
  unfold loadNew; split <;> rfl

theorem run_loadOld (s0 : IdxSt) :
    runItems (loadOld s0) s0 = if s0.index = .inMemory then s0 else setFilter (setInner s0) := by
  unfold loadOld; split <;> rfl

theorem run_restore (v : Variant) (s0 : IdxSt) :
    runItems (restore v s0) s0 = makeActive (runItems (load v s0) s0) := by
  cases v <;> simp only [restore, load, loadOld, loadNew] <;> split <;> rfl

theorem runCut_awaitsFirst {items : List (Item IdxSt)} (h : AwaitsFirstItems items) (cut : Option Nat) (s : IdxSt) :
    runCut cut items s = s ∨ runCut cut items s = runItems items s := by
  cases cut with
  | none => exact Or.inr rfl
  | some k => exact cancel_atomic_of_awaitsFirst _ h k s

theorem runCut_load_new (cut : Option Nat) (s : IdxSt) :
    runCut cut (load .new s) s = s ∨ runCut cut (load .new s) s = loaded s :=
  (runCut_awaitsFirst (awaitsFirst_loadNew s) cut s).imp_right (·.trans (run_loadNew s))

theorem runCut_restore_new (cut : Option Nat) (s : IdxSt) :
    runCut cut (restore .new s) s = s ∨ runCut cut (restore .new s) s = makeActive (loaded s) :=
  (runCut_awaitsFirst (awaitsFirst_restoreNew s) cut s).imp_right
    (·.trans ((run_restore .new s).trans (congrArg makeActive (run_loadNew s))))

theorem good_new : Good IdxSt.new := by decide

theorem good_fromFile (n : Nat) : Good (IdxSt.fromFile n) :=
  ⟨fun h => by simp [IdxSt.fromFile] at h, fun _ => rfl, fun _ => Nat.succ_pos n, fun _ => rfl,
   fun h => by simp [IdxSt.fromFile] at h⟩

theorem good_offload {s : IdxSt} (h : Good s) : Good (offload s) := by
  obtain ⟨h1, h2, h3, h4, h5⟩ := h
  unfold offload; split
  · next hd => exact ⟨fun hm => by simp_all, h2, h3, h4, h5⟩
  · exact ⟨h1, h2, h3, h4, h5⟩

theorem good_loaded {s : IdxSt} (h : Good s) : Good (loaded s) := by
  obtain ⟨h1, h2, h3, h4, h5⟩ := h
  unfold loaded; split
  · exact ⟨h1, h2, h3, h4, h5⟩
  · exact ⟨fun _ => rfl, fun hd => by simp [setFilter, setInner] at hd, fun hd => by simp [setFilter, setInner] at hd,
      fun hd => by simp [setFilter, setInner] at hd, h5⟩

theorem good_makeActive {s : IdxSt} (h : Good s) : Good (makeActive s) := by
  obtain ⟨h1, h2, h3, h4, h5⟩ := h
  exact ⟨h1, h2, h3, h4, h5⟩

theorem good_push {s : IdxSt} (h : Good s) : Good (push s).2 := by
  obtain ⟨h1, h2, h3, h4, h5⟩ := h
  unfold push; split
  · next hm =>
    exact ⟨h1, fun hd => by simp_all, fun hd => by simp_all, fun hd => by simp_all, fun _ => Nat.succ_pos _⟩
  · exact ⟨h1, h2, h3, h4, h5⟩

/-- on a `Good` state `dump` succeeds: nothing to do for an on-disk or empty index, otherwise the index file is
    written (the filter buffer is there) -/
theorem dump_of_good {s : IdxSt} (h : Good s) :
    dump s = (.ok, if s.index = .onDisk ∨ s.count = 0 then s
      else { s with index := .onDisk, dirty := false, bloomOffset := some BLOOM_OFFSET }) := by
  unfold dump
  by_cases hd : s.index = .onDisk
  · rw [if_pos hd, if_pos (Or.inl hd)]
  · by_cases hc : s.count = 0
    · rw [if_neg hd, if_pos hc, if_pos (Or.inr hc)]
    · have hm : s.index = .inMemory := by
        cases hi : s.index
        · exact absurd hi hd
        · rfl
      rw [if_neg hd, if_neg hc, if_neg (by rw [h.mem_resident hm]; decide), if_neg (not_or.mpr ⟨hd, hc⟩)]

theorem dump_ok_of_good {s : IdxSt} (h : Good s) : (dump s).1 = .ok := by rw [dump_of_good h]

theorem good_dump {s : IdxSt} (h : Good s) : Good (dump s).2 := by
  rw [dump_of_good h]
  split
  · exact h
  · next hn =>
    exact ⟨fun hm => (nomatch hm), fun _ => rfl, fun _ => Nat.pos_of_ne_zero (not_or.mp hn).2, fun _ => rfl,
      fun hd => (nomatch hd)⟩

theorem dump_clean_of_good {s : IdxSt} (h : Good s) : (dump s).2.dirty = false := by
  rw [dump_of_good h]
  split
  · next hn =>
    rcases hn with hd | hc
    · exact h.disk_clean hd
    · cases hdirty : s.dirty
      · rfl
      · exact absurd (h.dirty_count hdirty) (by omega)
  · rfl

theorem good_close {s : IdxSt} (h : Good s) : Good (close s).2 := by
  unfold close; split
  · exact good_dump h
  · exact h

theorem good_step_new {s : IdxSt} (h : Good s) (op : Op) : Good (step .new op s).2 := by
  cases op with
  | offload => exact good_offload h
  | load cut =>
    show Good (runCut cut (load .new s) s)
    rcases runCut_load_new cut s with e | e <;> rw [e]
    · exact h
    · exact good_loaded h
  | push => exact good_push h
  | dump => exact good_dump h
  | restore cut =>
    show Good (runCut cut (restore .new s) s)
    rcases runCut_restore_new cut s with e | e <;> rw [e]
    · exact h
    · exact good_makeActive (good_loaded h)
  | close => exact good_close h

theorem reach_new_good {s : IdxSt} (h : Reach .new s) : Good s := by
  induction h with
  | init => exact good_new
  | opened n => exact good_fromFile n
  | step op _ ih => exact good_step_new ih op

theorem close_ok_of_good {s : IdxSt} (h : Good s) : (close s).1 = .ok := by
  unfold close; split
  · exact dump_ok_of_good h
  · rfl

theorem filterReadable_of_good {s : IdxSt} (h : Good s) : filterReadable s = true := by
  unfold filterReadable
  cases hi : s.index with
  | inMemory => simp [h.mem_resident hi]
  | onDisk => simp [h.disk_offset hi]

theorem runCut_nil (cut : Option Nat) (s : IdxSt) : runCut cut [] s = s := by
  cases cut with
  | none => rfl
  | some k => cases k <;> rfl

theorem load_inMemory (v : Variant) {s : IdxSt} (h : s.index = .inMemory) : load v s = [] := by
  cases v <;> simp [load, loadOld, loadNew, h]

theorem step_load_inMemory (v : Variant) (cut : Option Nat) {s : IdxSt} (h : s.index = .inMemory) :
    step v (.load cut) s = (.ok, s) := by
  show (Res.ok, runCut cut (load v s) s) = _
  rw [load_inMemory v h, runCut_nil]

theorem step_restore_inMemory (v : Variant) (cut : Option Nat) {s : IdxSt} (h : s.index = .inMemory) :
    (step v (.restore cut) s).2 = s ∨ (step v (.restore cut) s).2 = makeActive s := by
  show runCut cut (restore v s) s = s ∨ runCut cut (restore v s) s = makeActive s
  simp only [restore, load_inMemory v h]
  exact runCut_awaitsFirst (awaitsFirst_replicate_sync 3 makeActive) cut s

/-- an in-memory, non-empty index whose filter buffer is off-loaded -/
def Stuck (s : IdxSt) : Prop := s.index = .inMemory ∧ s.filter = .offloaded ∧ 0 < s.count

theorem stuck_dump {s : IdxSt} (h : Stuck s) : dump s = (.error, s) := by
  obtain ⟨h1, h2, h3⟩ := h
  unfold dump
  rw [if_neg (by rw [h1]; decide), if_neg (by omega), if_pos h2]

theorem stuck_close {s : IdxSt} (h : Stuck s) : close s = (.error, s) := by
  unfold close; rw [if_pos h.1]; exact stuck_dump h

theorem stuck_step (v : Variant) (op : Op) {s : IdxSt} (h : Stuck s) : Stuck (step v op s).2 := by
  cases op with
  | offload =>
    show Stuck (offload s)
    unfold offload; rw [if_neg (by rw [h.1]; decide)]; exact h
  | load cut => rw [step_load_inMemory v cut h.1]; exact h
  | push =>
    show Stuck (push s).2
    unfold push; rw [if_pos h.1]; exact ⟨h.1, h.2.1, Nat.succ_pos _⟩
  | dump => show Stuck (dump s).2; rw [stuck_dump h]; exact h
  | restore cut =>
    rcases step_restore_inMemory v cut h.1 with e | e <;> rw [e]
    · exact h
    · exact h
  | close => show Stuck (close s).2; rw [stuck_close h]; exact h

theorem exec_induct (v : Variant) {P : IdxSt → Prop} (hstep : ∀ s op, P s → P (step v op s).2) (ops : List Op)
    {s : IdxSt} (h : P s) : P (exec v ops s).2 := by
  induction ops generalizing s with
  | nil => exact h
  | cons op ops ih => exact ih (hstep s op h)

theorem stuck_not_good {s : IdxSt} (h : Stuck s) : ¬ Good s := by
  intro g
  have := g.mem_resident h.1
  rw [h.2.1] at this; cases this

theorem exec_new_good {s : IdxSt} (h : Good s) (ops : List Op) : Good (exec .new ops s).2 :=
  exec_induct .new (P := Good) (fun _ op hs => good_step_new hs op) ops h

theorem exec_append (v : Variant) (a b : List Op) (s : IdxSt) :
    exec v (a ++ b) s = ((exec v a s).1 ++ (exec v b (exec v a s).2).1, (exec v b (exec v a s).2).2) := by
  induction a generalizing s with
  | nil => rfl
  | cons op a ih => simp only [List.cons_append, exec, ih]

theorem reach_exec (v : Variant) {s : IdxSt} (h : Reach v s) (ops : List Op) : Reach v (exec v ops s).2 :=
  exec_induct v (P := Reach v) (fun _ op => Reach.step op) ops h

end Pearl.CancelLoad
