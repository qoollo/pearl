import Pearl.Model.ConcCreate
import Pearl.Proofs.Run
import Pearl.Proofs.ListLemmas
/-
`Pearl.ConcCreate` (`Pearl/Model/ConcCreate.lean`), the unseeded system with failing I/O included: the invariant `Inv` (lock
discipline and the data clauses `Data`) and the reader count `LockInv`, kept by every step (`Start.reach`); from them no
deadlock, the lock free at quiescence, and a schedule that lets everybody return (`Start.finish`, measure `Pc.weight`).
For both variants: monotonicity of counter, files and burned ids (`fire_mono`) and the bound that survives the seeded
change (`Bounded`).  Headline statements: `Pearl/Props/C15b.lean`.

`fire` is opened once (`fire_move`): a step is one line of the table at the head of the model file (`Move`) applied
to one client.  Every invariant is then shown line by line.
-/
namespace Pearl
namespace ConcCreate

variable {sd f : Bool} {s s' t : State} {i n id : Nat} {k : Kind} {pc pc' : Pc} {c : Client} {l : Label} {l' : Lock}
  {a : Option Nat} {cd fl b : List Nat} {cl : List Client}

theorem maxSucc_le_iff {l : List Nat} : maxSucc l ≤ n ↔ ∀ x ∈ l, x < n := by
  induction l with
  | nil => exact ⟨nofun, fun _ => Nat.zero_le _⟩
  | cons y l ih => rw [maxSucc, Nat.max_le, ih, List.forall_mem_cons, Nat.add_one_le_iff]

theorem lt_maxSucc {l : List Nat} {x : Nat} (h : x ∈ l) : x < maxSucc l :=
  maxSucc_le_iff.1 (Nat.le_refl _) x h

theorem maxSucc_le {l : List Nat} (h : ∀ x ∈ l, x < n) : maxSucc l ≤ n :=
  maxSucc_le_iff.2 h

theorem maxSucc_append (l₁ l₂ : List Nat) : maxSucc (l₁ ++ l₂) = max (maxSucc l₁) (maxSucc l₂) := by
  induction l₁ with
  | nil => exact (Nat.zero_max _).symm
  | cons x l ih => rw [List.cons_append, maxSucc, maxSucc, ih, Nat.max_assoc]

theorem maxSucc_range (n : Nat) : maxSucc (List.range n) = n := by
  apply Nat.le_antisymm (maxSucc_le fun _ => List.mem_range.1)
  cases n with
  | zero => exact Nat.zero_le _
  | succ n => exact lt_maxSucc (List.mem_range.2 (Nat.lt_succ_self n))

theorem maxSucc_pos_mem {l : List Nat} (h : l ≠ []) : ∃ x ∈ l, maxSucc l = x + 1 := by
  induction l with
  | nil => exact absurd rfl h
  | cons y l ih =>
    rcases Nat.le_total (maxSucc l) (y + 1) with hc | hc
    · exact ⟨y, List.mem_cons_self .., Nat.max_eq_left hc⟩
    · have hl : l ≠ [] := by rintro rfl; exact Nat.not_succ_le_zero _ hc
      obtain ⟨x, hx, hm⟩ := ih hl
      exact ⟨x, List.mem_cons_of_mem _ hx, (Nat.max_eq_right hc).trans hm⟩

/-- the two variants of `ensure_active_blob_exists` differ only when the race is lost -/
theorem ensure_eq (sd : Bool) (s : State) : (if sd then ensureSeeded s else ensure s) =
    if s.active.isSome then (.rel .raced, if sd then s.nextId + 1 else s.nextId)
    else (.creating s.nextId, s.nextId + 1) := by
  unfold ensure ensureSeeded
  cases sd <;> cases s.active.isSome <;> rfl

/-- `Move sd s i k f pc pc' t`: client `i`, of kind `k`, goes from `pc` to `pc'` and leaves the shared state `t`
    (`clients` untouched); `f`: by a failing I/O.  One constructor per line of the table at the head of the model
    file (the two outcomes of a test are two constructors). -/
inductive Move (sd : Bool) (s : State) (i : Nat) (k : Kind) : Bool → Pc → Pc → State → Prop
  | startFree : s.lock = .free → Move sd s i k false .start .pre { s with lock := .shared 1 }
  | startShared {n : Nat} : s.lock = .shared n →
      Move sd s i k false .start .pre { s with lock := .shared (n + 1) }
  | answer {n : Nat} : s.lock = .shared (n + 1) →
      Move sd s i k false .pre (.preDone s.active.isSome) { s with lock := if n = 0 then .free else .shared n }
  | exists_ : k = .firstOp → Move sd s i k false (.preDone true) (.done .exists_) s
  | noActive : k = .closeActive → Move sd s i k false (.preDone false) (.done .noActive) s
  | lockFirst : k = .firstOp → s.lock = .free →
      Move sd s i k false (.preDone false) .locked { s with lock := .excl i }
  | lockClose : k = .closeActive → s.lock = .free →
      Move sd s i k false (.preDone true) .locked { s with lock := .excl i }
  | raced : k = .firstOp → s.active.isSome = true →
      Move sd s i k false .locked (.rel .raced) { s with nextId := if sd then s.nextId + 1 else s.nextId }
  | take : k = .firstOp → s.active = none →
      Move sd s i k false .locked (.creating s.nextId) { s with nextId := s.nextId + 1 }
  | testSome : k = .closeActive → s.active.isSome = true → Move sd s i k false .locked .closing s
  | testNone : k = .closeActive → s.active = none → Move sd s i k false .locked (.rel .noActive) s
  | create {id : Nat} : Move sd s i k false (.creating id) (.created id) { s with files := s.files ++ [id] }
  | install {id : Nat} : Move sd s i k false (.created id) (.rel (.created id)) { s with active := some id }
  | move {a : Nat} : s.active = some a →
      Move sd s i k false .closing (.rel (.closed a)) { s with active := none, closed := s.closed ++ [a] }
  | moveNone : s.active = none → Move sd s i k false .closing (.rel .noActive) s
  | release {r : Res} : Move sd s i k false (.rel r) (.done r) { s with lock := .free }
  | createFail {id : Nat} :
      Move sd s i k true (.creating id) (.rel (.createFailed id)) { s with burned := id :: s.burned }
  | syncFail : Move sd s i k true .closing (.rel .syncFailed) s

theorem Move.of_cstep (hs : cstep sd s i ⟨k, pc⟩ = some (pc', t)) : Move sd s i k false pc pc' t := by
  cases pc with
  | start =>
    simp only [cstep] at hs
    split at hs
    · rename_i hl; cases hs; exact .startFree hl
    · rename_i hl; cases hs; exact .startShared hl
    · cases hs
  | pre =>
    simp only [cstep] at hs
    split at hs
    · rename_i hl; cases hs; exact .answer hl
    · cases hs
  | preDone has =>
    cases k <;> cases has
    · simp only [cstep] at hs
      split at hs
      · rename_i hl; cases hs; exact .lockFirst rfl hl
      · cases hs
    · cases hs; exact .exists_ rfl
    · cases hs; exact .noActive rfl
    · simp only [cstep] at hs
      split at hs
      · rename_i hl; cases hs; exact .lockClose rfl hl
      · cases hs
  | locked =>
    cases k with
    | firstOp =>
      cases hs
      rw [ensure_eq]
      split
      · rename_i ha; exact .raced rfl ha
      · rename_i ha; exact .take rfl (Option.not_isSome_iff_eq_none.1 ha)
    | closeActive =>
      cases hs
      split
      · rename_i ha; exact .testSome rfl ha
      · rename_i ha; exact .testNone rfl (Option.not_isSome_iff_eq_none.1 ha)
  | creating id => cases hs; exact .create
  | created id => cases hs; exact .install
  | closing =>
    simp only [cstep] at hs
    split at hs
    · rename_i ha; cases hs; exact .move ha
    · rename_i ha; cases hs; exact .moveNone ha
  | rel r => cases hs; exact .release
  | done r => cases hs

theorem Move.of_cfail (hs : cfail s ⟨k, pc⟩ = some (pc', t)) : Move sd s i k true pc pc' t := by
  cases pc with
  | creating id => cases hs; exact .createFail
  | closing => cases hs; exact .syncFail
  | _ => cases hs

theorem fire_move (hf : fire sd l s = some s') :
    ∃ k pc pc' t, s.clients[l.client]? = some ⟨k, pc⟩ ∧ Move sd s l.client k l.isFail pc pc' t ∧
      s' = { t with clients := s.clients.set l.client ⟨k, pc'⟩ } := by
  unfold fire at hf
  split at hf
  · cases hf
  rename_i c hc
  split at hf
  · cases hf
  rename_i pc' t hstep
  cases hf
  refine ⟨c.kind, c.pc, pc', t, hc, ?_, rfl⟩
  cases l with
  | step i => exact .of_cstep hstep
  | fail i => exact .of_cfail hstep

theorem fire_step_of_cstep (hc : s.clients[i]? = some c) (hs : cstep sd s i c = some (pc', t)) :
    fire sd (.step i) s = some { t with clients := s.clients.set i { c with pc := pc' } } := by
  unfold fire; simp only [Label.client, hc, hs]

@[elab_as_elim]
theorem Reach.induction {s0 : State} {P : State → Prop} (h0 : P s0)
    (hstep : ∀ {s s' l}, P s → fire sd l s = some s' → P s') (hr : Reach sd s0 s) : P s := by
  induction hr with
  | refl => exact h0
  | step _ hs ih => obtain ⟨l, hl⟩ := hs; exact hstep ih hl

theorem isRun_runSched (sd : Bool) : IsRun (fun s l => fire sd l s) (fun s ls => runSched sd ls s) :=
  ⟨fun _ => rfl, fun s l ls => by show runSched sd (l :: ls) s = _; rw [runSched]; cases fire sd l s <;> rfl⟩

theorem reach_of_sched {ls : List Label} {s0 : State} (h : runSched sd ls s0 = some s) : Reach sd s0 s :=
  (isRun_runSched sd).reach (fun _ l _ hr hl => .step hr ⟨l, hl⟩) .refl h

theorem runSched_append (ls₁ ls₂ : List Label) (s : State) :
    runSched sd (ls₁ ++ ls₂) s = (runSched sd ls₁ s).bind (runSched sd ls₂) :=
  (isRun_runSched sd).append s ls₁ ls₂

theorem sched_of_reach {s0 : State} (h : Reach sd s0 s) : ∃ ls, runSched sd ls s0 = some s := by
  refine h.induction ?_ ?_
  · exact ⟨[], rfl⟩
  · rintro _ _ l ⟨ls, hls⟩ hl
    exact ⟨ls ++ [l], by rw [runSched_append, hls]; simp [runSched, hl]⟩

/-- the id between "taken" and "file created", read off the pc of the lock holder -/
def takingOf : Option Pc → List Nat
  | some (.creating id) => [id]
  | _ => []

def uninstalledOf : Option Pc → List Nat
  | some (.created id) => [id]
  | _ => []

theorem taking_eq (s : State) : taking s = takingOf (holderPc s) := rfl

theorem uninstalled_eq (s : State) : uninstalled s = uninstalledOf (holderPc s) := rfl

theorem mem_takingOf {p : Option Pc} : id ∈ takingOf p ↔ p = some (.creating id) := by
  unfold takingOf; split
  · simp [eq_comm]
  · rename_i h; exact ⟨nofun, fun e => (h id e).elim⟩

theorem mem_uninstalledOf {p : Option Pc} : id ∈ uninstalledOf p ↔ p = some (.created id) := by
  unfold uninstalledOf; split
  · simp [eq_comm]
  · rename_i h; exact ⟨nofun, fun e => (h id e).elim⟩

theorem holderPc_of_not_excl (h : ∀ j, s.lock ≠ .excl j) : holderPc s = none := by
  unfold holderPc; split
  · rename_i c hc; exact absurd hc (h c)
  · rfl

theorem holderPc_excl {j : Nat} (h : s.lock = .excl j) : holderPc s = (s.clients[j]?).map (·.pc) := by
  unfold holderPc; rw [h]

theorem holderPc_eq_some {p : Pc} (h : holderPc s = some p) :
    ∃ i c, s.lock = .excl i ∧ s.clients[i]? = some c ∧ c.pc = p := by
  unfold holderPc at h
  split at h
  · rename_i i hl
    obtain ⟨c, hc, hp⟩ := Option.map_eq_some_iff.1 h
    exact ⟨i, c, hl, hc, hp⟩
  · cases h

theorem holderPc_set {c' : Client} (hl : ∀ j, l' = .excl j ↔ s.lock = .excl j) (hne : s.lock ≠ .excl i) :
    holderPc { s with lock := l', clients := s.clients.set i c' } = holderPc s := by
  by_cases hj : ∃ j, s.lock = .excl j
  · obtain ⟨j, hj⟩ := hj
    have e : i ≠ j := fun e => hne (e ▸ hj)
    rw [holderPc_excl hj, holderPc_excl (s := { s with lock := l', clients := s.clients.set i c' }) ((hl j).2 hj)]
    exact congrArg _ (List.getElem?_set_ne e)
  · rw [holderPc_of_not_excl fun j e => hj ⟨j, e⟩, holderPc_of_not_excl fun j e => hj ⟨j, (hl j).1 e⟩]

theorem holderPc_set_self {c' : Client} (hc : cl[i]? = some c) :
    holderPc ⟨a, cd, fl, n, .excl i, cl.set i c', b⟩ = some c'.pc := by
  rw [holderPc_excl rfl, List.getElem?_set_self (List.getElem?_eq_some_iff.1 hc).1]; rfl

/-! ### the invariant, kept by every `Move` -/

structure Inv (s : State) : Prop where
  /-- whoever is between `safe.write().await` and the drop of the guard is THE holder of the lock -/
  mutex : ∀ j c, s.clients[j]? = some c → c.pc.holdsX = true → s.lock = .excl j
  holder : ∀ j, s.lock = .excl j → ∃ c, s.clients[j]? = some c ∧ c.pc.holdsX = true
  /-- owners = files, in the order of creation: the closed blobs, then the active one or the one being installed -/
  own : s.closed ++ s.active.toList ++ uninstalled s = s.files
  /-- the ids handed out are `0 … nextId-1`; those not burned are the files and the one being created, in order -/
  ids : s.files ++ taking s = (List.range s.nextId).filter (fun x => decide (x ∉ s.burned))
  burn : ∀ b ∈ s.burned, b < s.nextId
  bnd : s.burned.Nodup
  cnt : s.files.length + (taking s).length + s.burned.length = s.nextId
  /-- creation happens only while there is no active blob -/
  noAct : taking s ≠ [] ∨ uninstalled s ≠ [] → s.active = none

/-- the clauses of `Inv` that speak about the data only, as a predicate on the data: what the code between
    `safe.write().await` and the drop of the guard maintains, sequentially.  `t`, `u`: `taking`, `uninstalled`. -/
structure Data (a : Option Nat) (cd fl : List Nat) (n : Nat) (b t u : List Nat) : Prop where
  own : cd ++ a.toList ++ u = fl
  ids : fl ++ t = (List.range n).filter (fun x => decide (x ∉ b))
  burn : ∀ x ∈ b, x < n
  bnd : b.Nodup
  cnt : fl.length + t.length + b.length = n
  noAct : t ≠ [] ∨ u ≠ [] → a = none

theorem Inv.data {p : Option Pc} (h : Inv s) (hp : holderPc s = p) :
    Data s.active s.closed s.files s.nextId s.burned (takingOf p) (uninstalledOf p) := by
  subst hp; exact ⟨h.own, h.ids, h.burn, h.bnd, h.cnt, h.noAct⟩

theorem Inv.lock_iff (h : Inv s) (j : Nat) :
    s.lock = .excl j ↔ ∃ c, s.clients[j]? = some c ∧ c.pc.holdsX = true :=
  ⟨h.holder j, fun ⟨c, hc, hx⟩ => h.mutex j c hc hx⟩

theorem Inv.of_data {p : Option Pc}
    (hl : ∀ j, s.lock = .excl j ↔ ∃ c, s.clients[j]? = some c ∧ c.pc.holdsX = true) (hp : holderPc s = p)
    (d : Data s.active s.closed s.files s.nextId s.burned (takingOf p) (uninstalledOf p)) : Inv s := by
  subst hp
  exact ⟨fun j c hc hx => (hl j).2 ⟨c, hc, hx⟩, fun j => (hl j).1, d.own, d.ids, d.burn, d.bnd, d.cnt, d.noAct⟩

theorem filter_range_succ_of_burn {burned : List Nat} (hb : ∀ b ∈ burned, b < n) :
    (List.range (n + 1)).filter (fun x => decide (x ∉ burned)) =
      (List.range n).filter (fun x => decide (x ∉ burned)) ++ [n] := by
  have : n ∉ burned := fun hm => Nat.lt_irrefl _ (hb n hm)
  rw [List.range_succ, List.filter_append]
  simp [this]

theorem filter_cons_burned {l fs burned : List Nat} (hnd : l.Nodup)
    (h : fs ++ [id] = l.filter (fun x => decide (x ∉ burned))) :
    fs = l.filter (fun x => decide (x ∉ id :: burned)) := by
  have hid : id ∉ fs := fun hm =>
    (List.nodup_append.1 (h ▸ hnd.filter _)).2.2 id hm id (List.mem_singleton.2 rfl) rfl
  have hfs : fs.filter (fun x => decide (x ≠ id)) = fs :=
    List.filter_eq_self.2 fun x hx => decide_eq_true fun e => hid (e ▸ hx)
  calc fs = (fs ++ [id]).filter (fun x => decide (x ≠ id)) := by rw [List.filter_append, hfs]; simp
    _ = _ := by rw [h, List.filter_filter]; congr 1; funext x; simp [List.mem_cons]

/-- nobody has started -/
theorem Data.fresh (hown : cd ++ a.toList = List.range n) : Data a cd (List.range n) n [] [] [] :=
  ⟨(List.append_nil _).trans hown,
   (List.append_nil _).trans (List.filter_eq_self.2 fun _ _ => decide_eq_true List.not_mem_nil).symm,
   nofun, List.nodup_nil, List.length_range, fun h => h.elim (absurd rfl) (absurd rfl)⟩

/-- `next_blob_id.fetch_add(1)` -/
theorem Data.take (d : Data a cd fl n b [] []) (ha : a = none) : Data a cd fl (n + 1) b [n] [] := by
  refine ⟨d.own, ?_, fun x hx => Nat.lt_succ_of_lt (d.burn x hx), d.bnd, ?_, fun _ => ha⟩
  · rw [filter_range_succ_of_burn d.burn, ← d.ids, List.append_nil]
  · exact (Nat.add_right_comm ..).trans (congrArg (· + 1) d.cnt)

/-- `Blob::open_new` returned -/
theorem Data.create (d : Data a cd fl n b [id] []) : Data a cd (fl ++ [id]) n b [] [id] := by
  have ha := d.noAct (.inl (List.cons_ne_nil _ _))
  refine ⟨?_, (List.append_nil _).trans d.ids, d.burn, d.bnd, ?_, fun _ => ha⟩
  · rw [← d.own, List.append_nil]
  · rw [List.length_append]; exact d.cnt

/-- `safe.active_blob = Some(..)` -/
theorem Data.install (d : Data a cd fl n b [] [id]) : Data (some id) cd fl n b [] [] := by
  refine ⟨?_, d.ids, d.burn, d.bnd, d.cnt, fun h => h.elim (absurd rfl) (absurd rfl)⟩
  rw [← d.own, d.noAct (.inr (List.cons_ne_nil _ _))]; simp

/-- `safe.active_blob.take()`, `blobs.push(..)` -/
theorem Data.move {x : Nat} (d : Data a cd fl n b [] []) (ha : a = some x) : Data none (cd ++ [x]) fl n b [] [] := by
  refine ⟨?_, d.ids, d.burn, d.bnd, d.cnt, fun _ => rfl⟩
  rw [← d.own, ha]; simp

/-- `open_new` failed: the id is gone -/
theorem Data.burnId (d : Data a cd fl n b [id] []) : Data a cd fl n (id :: b) [] [] := by
  have hm : id ∈ (List.range n).filter (fun x => decide (x ∉ b)) := by
    rw [← d.ids]; exact List.mem_append_right _ (List.mem_singleton.2 rfl)
  obtain ⟨hlt, hnb⟩ := List.mem_filter.1 hm
  refine ⟨d.own, ?_, ?_, List.nodup_cons.2 ⟨of_decide_eq_true hnb, d.bnd⟩, ?_,
    fun h => h.elim (absurd rfl) (absurd rfl)⟩
  · rw [List.append_nil]; exact filter_cons_burned List.nodup_range d.ids
  · intro x hx
    rcases List.mem_cons.1 hx with rfl | hx
    · exact List.mem_range.1 hlt
    · exact d.burn x hx
  · exact (Nat.add_right_comm fl.length 1 b.length).symm.trans d.cnt

theorem Inv.holderPc_eq (h : Inv s) (hc : s.clients[i]? = some c) (hx : c.pc.holdsX = true) :
    holderPc s = some c.pc := by
  rw [holderPc_excl (h.mutex i c hc hx), hc]; rfl

theorem Inv.data_at (h : Inv s) (hc : s.clients[i]? = some c) (hx : c.pc.holdsX = true) :
    Data s.active s.closed s.files s.nextId s.burned (takingOf (some c.pc)) (uninstalledOf (some c.pc)) :=
  h.data (h.holderPc_eq hc hx)

/-- the lock part of the invariant after client `i` moved and the lock became `l'`: the new pc of `i` says
    whether `i` holds `l'`, and for everybody else nothing changed -/
theorem Inv.lock_set {c' : Client} (h : Inv s) (hc : s.clients[i]? = some c)
    (hi : l' = .excl i ↔ c'.pc.holdsX = true) (ho : ∀ j, j ≠ i → (l' = .excl j ↔ s.lock = .excl j)) (j : Nat) :
    l' = .excl j ↔ ∃ cj, (s.clients.set i c')[j]? = some cj ∧ cj.pc.holdsX = true := by
  by_cases e : i = j
  · subst e
    rw [List.getElem?_set_self (List.getElem?_eq_some_iff.1 hc).1, hi]
    exact ⟨fun hx => ⟨c', rfl, hx⟩, fun ⟨_, hc, hx⟩ => Option.some.inj hc ▸ hx⟩
  · rw [List.getElem?_set_ne e, ho j (Ne.symm e)]; exact h.lock_iff j

/-- a step outside the exclusive section: same data, the holder (if any) untouched -/
theorem Inv.of_silent (h : Inv s) (hc : s.clients[i]? = some ⟨k, pc⟩) (hx : pc.holdsX = false)
    (hx' : pc'.holdsX = false) (hl : ∀ j, l' = .excl j ↔ s.lock = .excl j) :
    Inv { s with lock := l', clients := s.clients.set i ⟨k, pc'⟩ } := by
  have hne : s.lock ≠ .excl i := fun hl => by
    obtain ⟨c', hc', hx'⟩ := h.holder i hl
    rw [hc] at hc'; cases hc'; rw [hx] at hx'; cases hx'
  refine .of_data (h.lock_set (c' := ⟨k, pc'⟩) hc ⟨fun e => absurd ((hl i).1 e) hne, fun e => ?_⟩ fun j _ => hl j)
    (holderPc_set hl hne) (h.data rfl)
  rw [hx'] at e; cases e

/-- `safe.write().await` granted -/
theorem Inv.of_acquire (h : Inv s) (hc : s.clients[i]? = some ⟨k, pc⟩) (hl : s.lock = .free) :
    Inv { s with lock := .excl i, clients := s.clients.set i ⟨k, .locked⟩ } := by
  have d := h.data (holderPc_of_not_excl (by rw [hl]; nofun))
  exact .of_data (h.lock_set (c' := ⟨k, .locked⟩) (l' := .excl i) hc ⟨fun _ => rfl, fun _ => rfl⟩
    fun j e => by simp [hl, e.symm]) (holderPc_set_self hc) d

/-- the exclusive guard dropped -/
theorem Inv.of_release {r : Res} (h : Inv s) (hc : s.clients[i]? = some ⟨k, .rel r⟩) :
    Inv { s with lock := .free, clients := s.clients.set i ⟨k, .done r⟩ } :=
  .of_data (h.lock_set (c' := ⟨k, .done r⟩) (l' := .free) hc ⟨nofun, nofun⟩
    fun j e => by simp [h.mutex i _ hc rfl, e.symm]) (holderPc_of_not_excl nofun) (h.data_at hc rfl)

/-- a step of the holder that keeps the lock: the data part is left to the caller -/
theorem Inv.of_holder (h : Inv s) (hc : s.clients[i]? = some ⟨k, pc⟩) (hx : pc.holdsX = true)
    (hx' : pc'.holdsX = true) (d : Data a cd fl n b (takingOf (some pc')) (uninstalledOf (some pc'))) :
    Inv ⟨a, cd, fl, n, s.lock, s.clients.set i ⟨k, pc'⟩, b⟩ := by
  have hli := h.mutex i _ hc hx
  refine .of_data (h.lock_set (c' := ⟨k, pc'⟩) hc ⟨fun _ => hx', fun _ => hli⟩ fun _ _ => Iff.rfl) ?_ d
  rw [hli]; exact holderPc_set_self hc

theorem Inv.move (h : Inv s) (hc : s.clients[i]? = some ⟨k, pc⟩) (ht : Move false s i k f pc pc' t) :
    Inv { t with clients := s.clients.set i ⟨k, pc'⟩ } := by
  cases ht with
  | startFree hl => exact h.of_silent hc rfl rfl fun j => by simp [hl]
  | startShared hl => exact h.of_silent hc rfl rfl fun j => by simp [hl]
  | answer hl => exact h.of_silent hc rfl rfl fun j => by split <;> simp [hl]
  | exists_ | noActive => exact h.of_silent hc rfl rfl fun _ => Iff.rfl
  | lockFirst _ hl | lockClose _ hl => exact h.of_acquire hc hl
  | take _ ha => exact h.of_holder hc rfl rfl ((h.data_at hc rfl).take ha)
  | create => exact h.of_holder hc rfl rfl (h.data_at hc rfl).create
  | install => exact h.of_holder hc rfl rfl (h.data_at hc rfl).install
  | move ha => exact h.of_holder hc rfl rfl ((h.data_at hc rfl).move ha)
  | createFail => exact h.of_holder hc rfl rfl (h.data_at hc rfl).burnId
  | raced | testSome | testNone | moveNone | syncFail => exact h.of_holder hc rfl rfl (h.data_at hc rfl)
  | release => exact h.of_release hc

theorem Inv.fire (h : Inv s) (hf : fire false l s = some s') : Inv s' := by
  obtain ⟨k, pc, pc', t, hc, ht, rfl⟩ := fire_move hf
  exact h.move hc ht

theorem exists_of_mem_taking (h : id ∈ taking s) :
    ∃ i c, s.lock = .excl i ∧ s.clients[i]? = some c ∧ c.pc = .creating id :=
  holderPc_eq_some (mem_takingOf.1 h)

theorem exists_of_mem_uninstalled (h : id ∈ uninstalled s) :
    ∃ i c, s.lock = .excl i ∧ s.clients[i]? = some c ∧ c.pc = .created id :=
  holderPc_eq_some (mem_uninstalledOf.1 h)

theorem taking_nil_of_no_creating (h : ∀ c ∈ s.clients, ∀ id, c.pc ≠ .creating id) : taking s = [] :=
  List.eq_nil_iff_forall_not_mem.2 fun id hm =>
    have ⟨_, c, _, hc, hpc⟩ := exists_of_mem_taking hm
    h c (List.mem_of_getElem? hc) id hpc

theorem uninstalled_nil_of_no_created (h : ∀ c ∈ s.clients, ∀ id, c.pc ≠ .created id) : uninstalled s = [] :=
  List.eq_nil_iff_forall_not_mem.2 fun id hm =>
    have ⟨_, c, _, hc, hpc⟩ := exists_of_mem_uninstalled hm
    h c (List.mem_of_getElem? hc) id hpc

theorem taking_nil_of_quiescent (hq : quiescent s) : taking s = [] :=
  taking_nil_of_no_creating fun c hc id hpc => by have := hq c hc; rw [hpc] at this; cases this

theorem uninstalled_nil_of_quiescent (hq : quiescent s) : uninstalled s = [] :=
  uninstalled_nil_of_no_created fun c hc id hpc => by have := hq c hc; rw [hpc] at this; cases this

theorem Inv.of_creating (h : Inv s) (hc : s.clients[i]? = some c) (hpc : c.pc = .creating id) :
    taking s = [id] ∧ uninstalled s = [] ∧ s.active = none := by
  have hp := h.holderPc_eq hc (by rw [hpc]; rfl)
  rw [hpc] at hp
  have ht : taking s = [id] := by rw [taking_eq, hp]; rfl
  exact ⟨ht, by rw [uninstalled_eq, hp]; rfl, h.noAct (.inl (ht ▸ List.cons_ne_nil _ _))⟩

theorem Inv.of_created (h : Inv s) (hc : s.clients[i]? = some c) (hpc : c.pc = .created id) :
    taking s = [] ∧ uninstalled s = [id] ∧ s.active = none := by
  have hp := h.holderPc_eq hc (by rw [hpc]; rfl)
  rw [hpc] at hp
  have hu : uninstalled s = [id] := by rw [uninstalled_eq, hp]; rfl
  exact ⟨by rw [taking_eq, hp]; rfl, hu, h.noAct (.inr (hu ▸ List.cons_ne_nil _ _))⟩

/-- at most one client holds the exclusive lock -/
theorem Inv.exclusive {s : State} (h : Inv s) {i j : Nat} {ci cj : Client} (hi : s.clients[i]? = some ci)
    (hj : s.clients[j]? = some cj) (hxi : ci.pc.holdsX = true) (hxj : cj.pc.holdsX = true) : i = j := by
  have h1 := h.mutex i ci hi hxi
  have h2 := h.mutex j cj hj hxj
  rw [h1] at h2; cases h2; rfl

theorem Inv.files_sorted (h : Inv s) : (s.files ++ taking s).Pairwise (· < ·) := by
  rw [h.ids]; exact List.pairwise_lt_range.filter _

theorem Inv.mem_ids (h : Inv s) {x : Nat} : x ∈ s.files ++ taking s ↔ x < s.nextId ∧ x ∉ s.burned := by
  rw [h.ids, List.mem_filter, List.mem_range, decide_eq_true_eq]

theorem Inv.ids_nodup (h : Inv s) : (s.files ++ taking s ++ s.burned).Nodup := by
  refine List.nodup_append.2 ⟨?_, h.bnd, ?_⟩
  · rw [h.ids]; exact List.nodup_range.filter _
  · intro a ha b hb e; subst e; exact (h.mem_ids.1 ha).2 hb

theorem Inv.files_eq_range (h : Inv s) (hb : s.burned = []) : s.files ++ taking s = List.range s.nextId := by
  rw [h.ids, hb]; exact List.filter_eq_self.2 fun _ _ => decide_eq_true List.not_mem_nil

theorem Inv.nextId_eq_maxSucc (h : Inv s) (hb : s.burned = []) : s.nextId = maxSucc (s.files ++ taking s) := by
  rw [h.files_eq_range hb, maxSucc_range]

theorem Inv.nextId_eq_maxSucc_all (h : Inv s) : s.nextId = maxSucc (s.files ++ taking s ++ s.burned) := by
  apply Nat.le_antisymm
  · cases hn : s.nextId with
    | zero => exact Nat.zero_le _
    | succ n =>
      by_cases hm : n ∈ s.burned
      · exact lt_maxSucc (List.mem_append_right _ hm)
      · have : n ∈ s.files ++ taking s := by
          rw [h.ids, hn]; exact List.mem_filter.2 ⟨List.mem_range.2 (Nat.lt_succ_self n), decide_eq_true hm⟩
        exact lt_maxSucc (List.mem_append_left _ this)
  · apply ConcCreate.maxSucc_le
    intro x hx
    rcases List.mem_append.1 hx with hx | hx
    · exact (h.mem_ids.1 hx).1
    · exact h.burn x hx

/-! ### the lock counts its shared holders -/

def Pc.isPre : Pc → Bool
  | .pre => true
  | _ => false

/-- number of clients inside `has_active_blob` -/
def readersOf (cl : List Client) : Nat := cl.countP (fun c => c.pc.isPre)

def lockOK : Lock → Nat → Prop
  | .free, r => r = 0
  | .shared n, r => r = n ∧ 0 < n
  | .excl _, r => r = 0

/-- the lock says how many clients hold it shared -/
def LockInv (s : State) : Prop := lockOK s.lock (readersOf s.clients)

theorem Pc.eq_pre (h : pc.isPre = true) : pc = .pre := by
  cases pc with
  | pre => rfl
  | _ => cases h

theorem Pc.eq_done (h : pc.isDone = true) : ∃ r, pc = .done r := by
  cases pc with
  | done r => exact ⟨r, rfl⟩
  | _ => cases h

theorem readersOf_eq_sum (cl : List Client) : readersOf cl = (cl.map fun c => c.pc.isPre.toNat).sum := by
  induction cl with
  | nil => rfl
  | cons x l ih =>
    rw [readersOf, List.countP_cons, ← readersOf, ih, List.map_cons, List.sum_cons, Nat.add_comm]
    cases x.pc.isPre <;> rfl

theorem readersOf_set (hc : cl[i]? = some ⟨k, pc⟩) (pc' : Pc) :
    readersOf (cl.set i ⟨k, pc'⟩) + pc.isPre.toNat = readersOf cl + pc'.isPre.toNat := by
  rw [readersOf_eq_sum, readersOf_eq_sum]; exact sum_map_set _ _ hc

theorem LockInv.of_readers {r : Nat} (hr : readersOf cl = r) (h : lockOK l' r) :
    LockInv ⟨a, cd, fl, n, l', cl, b⟩ := by
  subst hr; exact h

theorem LockInv.move (h : Inv s) (hL : LockInv s) (hc : s.clients[i]? = some ⟨k, pc⟩)
    (ht : Move false s i k f pc pc' t) : LockInv { t with clients := s.clients.set i ⟨k, pc'⟩ } := by
  unfold LockInv at hL
  cases ht with
  | startFree hl =>
    rw [hl] at hL
    exact .of_readers (r := readersOf s.clients + 1) (readersOf_set hc .pre) ⟨congrArg (· + 1) hL, Nat.one_pos⟩
  | startShared hl =>
    rw [hl] at hL
    exact .of_readers (r := readersOf s.clients + 1) (readersOf_set hc .pre) ⟨congrArg (· + 1) hL.1, Nat.succ_pos _⟩
  | @answer n hl =>
    rw [hl] at hL
    have e : readersOf _ + 1 = readersOf s.clients := readersOf_set hc (.preDone s.active.isSome)
    refine .of_readers (r := n) (Nat.add_right_cancel (e.trans hL.1)) ?_
    split
    next hn => exact hn
    next hn => exact ⟨rfl, Nat.pos_of_ne_zero hn⟩
  -- `free` and `excl _` both say: no reader
  | lockFirst _ hl | lockClose _ hl => rw [hl] at hL; exact .of_readers (readersOf_set hc .locked) hL
  | release => rw [h.mutex i _ hc rfl] at hL; exact .of_readers (readersOf_set hc (.done _)) hL
  -- neither pc is `pre`: both `toNat`s in `readersOf_set` are `0`
  | _ => exact .of_readers (readersOf_set hc _) hL

theorem LockInv.fire (h : Inv s) (hL : LockInv s) (hf : fire false l s = some s') : LockInv s' := by
  obtain ⟨k, pc, pc', t, hc, ht, rfl⟩ := fire_move hf
  exact hL.move h hc ht

/-- a state from which the theorems of `Pearl/Props/C15b.lean` hold: both invariants -/
structure Start (s : State) : Prop where
  inv : Inv s
  lock : LockInv s

theorem Start.fire (h : Start s) (hf : ConcCreate.fire false l s = some s') : Start s' :=
  ⟨h.inv.fire hf, h.lock.fire h.inv hf⟩

theorem Start.reach {s0 : State} (h0 : Start s0) (hr : Reach false s0 s) : Start s :=
  hr.induction h0 Start.fire

theorem pc_of_mem_map {kinds : List Kind} (hc : c ∈ kinds.map (fun k => { kind := k })) : c.pc = .start := by
  obtain ⟨k, _, rfl⟩ := List.mem_map.1 hc; rfl

theorem start_fresh (kinds : List Kind) (hown : cd ++ a.toList = List.range n) :
    Start ⟨a, cd, List.range n, n, .free, kinds.map (fun k => { kind := k }), []⟩ := by
  refine ⟨.of_data (fun j => ⟨nofun, fun ⟨c, hj, hx⟩ => ?_⟩) (holderPc_of_not_excl nofun) (.fresh hown), ?_⟩
  · rw [pc_of_mem_map (List.mem_of_getElem? hj)] at hx; cases hx
  · exact List.countP_eq_zero.2 fun c hc => by rw [pc_of_mem_map hc]; nofun

theorem start_initAt (n : Nat) (kinds : List Kind) : Start (initAt n kinds) :=
  start_fresh kinds (List.append_nil _)

theorem start_initActive (n : Nat) (kinds : List Kind) : Start (initActive n kinds) :=
  start_fresh kinds List.range_succ.symm

theorem lockInv_reach {n : Nat} {kinds : List Kind} {s : State} (hr : Reach false (initAt n kinds) s) :
    Inv s ∧ LockInv s :=
  have h := (start_initAt n kinds).reach hr
  ⟨h.inv, h.lock⟩

/-! ### progress: no deadlock, every schedule is finite, everybody can return -/

theorem cstep_of_free (hl : s.lock = .free) (hx : c.pc.holdsX = false) (hp : c.pc.isPre = false)
    (hd : c.pc.isDone = false) : ∃ r, cstep sd s i c = some r := by
  obtain ⟨k, pc⟩ := c
  cases pc with
  | start => exact ⟨_, by simp only [cstep, hl]; rfl⟩
  | preDone b => cases k <;> cases b <;> exact ⟨_, by simp only [cstep, hl]; rfl⟩
  | pre => cases hp
  | done r => cases hd
  | _ => cases hx

theorem cstep_of_holdsX (hx : c.pc.holdsX = true) : ∃ r, cstep sd s i c = some r := by
  obtain ⟨k, pc⟩ := c
  cases pc with
  | locked => cases k <;> exact ⟨_, rfl⟩
  | closing => simp only [cstep]; split <;> exact ⟨_, rfl⟩
  | creating id | created id | rel r => exact ⟨_, rfl⟩
  | _ => cases hx

theorem LockInv.exists_pre (hL : LockInv s) (hl : s.lock = .shared n) :
    ∃ (i : Nat) (c : Client), s.clients[i]? = some c ∧ c.pc = .pre := by
  unfold LockInv at hL; rw [hl] at hL
  obtain ⟨c, hm, hp⟩ := List.countP_pos_iff.1 (hL.1 ▸ hL.2)
  obtain ⟨i, hc⟩ := List.mem_iff_getElem?.1 hm
  exact ⟨i, c, hc, Pc.eq_pre hp⟩

theorem Start.no_deadlock (h : Start s) (hnq : ¬ quiescent s) :
    ∃ i s', ConcCreate.fire false (.step i) s = some s' := by
  suffices ∃ i c r, s.clients[i]? = some c ∧ cstep false s i c = some r by
    obtain ⟨i, c, ⟨pc', t⟩, hc, hr⟩ := this
    exact ⟨i, _, fire_step_of_cstep hc hr⟩
  have hL := h.lock
  unfold LockInv at hL
  cases hl : s.lock with
  | excl j =>
    obtain ⟨c, hc, hx⟩ := h.inv.holder j hl
    obtain ⟨r, hr⟩ := cstep_of_holdsX (sd := false) (s := s) (i := j) hx
    exact ⟨j, c, r, hc, hr⟩
  | shared n =>
    obtain ⟨i, ⟨k, _⟩, hc, rfl⟩ := h.lock.exists_pre hl
    rw [hl] at hL
    obtain ⟨m, rfl⟩ : ∃ m, n = m + 1 := ⟨n - 1, by have := hL.2; omega⟩
    exact ⟨i, _, _, hc, by simp only [cstep, hl]; rfl⟩
  | free =>
    rw [hl] at hL
    obtain ⟨c, hc⟩ := Classical.not_forall.1 hnq
    obtain ⟨hm, hd⟩ := Classical.not_imp.1 hc
    obtain ⟨i, hc⟩ := List.mem_iff_getElem?.1 hm
    have hx : c.pc.holdsX = false := Bool.eq_false_iff.2 fun hx => by
      have := h.inv.mutex i c hc hx; rw [hl] at this; cases this
    have hp : c.pc.isPre = false := Bool.eq_false_iff.2 (List.countP_eq_zero.1 hL c hm)
    obtain ⟨r, hr⟩ := cstep_of_free (sd := false) (i := i) hl hx hp (Bool.eq_false_iff.2 hd)
    exact ⟨i, c, r, hc, hr⟩

theorem Start.lock_free (h : Start s) (hq : quiescent s) : s.lock = .free := by
  cases hl : s.lock with
  | free => rfl
  | excl j =>
    obtain ⟨c, hc, hx⟩ := h.inv.holder j hl
    obtain ⟨r, hr⟩ := Pc.eq_done (hq c (List.mem_of_getElem? hc))
    rw [hr] at hx; cases hx
  | shared n =>
    obtain ⟨i, c, hc, hpc⟩ := h.lock.exists_pre hl
    have := hq c (List.mem_of_getElem? hc)
    rw [hpc] at this; cases this

/-- steps left, at most -/
def Pc.weight : Pc → Nat
  | .start => 7
  | .pre => 6
  | .preDone _ => 5
  | .locked => 4
  | .creating _ => 3
  | .closing => 3
  | .created _ => 2
  | .rel _ => 1
  | .done _ => 0

def measure (s : State) : Nat := (s.clients.map (fun c => c.pc.weight)).sum

theorem Move.weight (ht : Move sd s i k f pc pc' t) : pc'.weight < pc.weight := by
  cases ht <;> simp only [Pc.weight] <;> decide

theorem fire_measure (hf : fire sd l s = some s') : measure s' < measure s := by
  obtain ⟨k, pc, pc', t, hc, ht, rfl⟩ := fire_move hf
  have := sum_map_set (fun c => c.pc.weight) ⟨k, pc'⟩ hc
  have := ht.weight
  unfold measure
  dsimp only at *
  omega

theorem run_length_bound {ls : List Label} {s0 : State} (h : runSched sd ls s0 = some s) :
    ls.length + measure s ≤ measure s0 := by
  induction ls generalizing s0 with
  | nil => cases h; exact Nat.le_of_eq (Nat.zero_add _)
  | cons l ls ih =>
    obtain ⟨s1, h1, h⟩ := (isRun_runSched sd).cons_some h
    have := ih h
    have := fire_measure h1
    rw [List.length_cons]; omega

theorem measure_fresh {l : Lock} (kinds : List Kind) :
    measure ⟨a, cd, fl, n, l, kinds.map (fun k => { kind := k }), b⟩ = 7 * kinds.length := by
  unfold measure
  induction kinds with
  | nil => rfl
  | cons k ks ih => rw [List.map_cons, List.map_cons, List.sum_cons, ih, List.length_cons, Nat.mul_succ, Nat.add_comm]; rfl

theorem Start.finish (h : Start s) :
    ∃ ls s', runSched false ls s = some s' ∧ quiescent s' ∧ (∀ l ∈ ls, l.isFail = false) :=
  have ⟨ls, s', hok, hrun, hq, _⟩ := (isRun_runSched false).finish (μ := measure) (P := Start) (D := quiescent)
    (Q := fun l => l.isFail = false) (K := fun _ _ => True) (fun _ => trivial) (fun _ _ => trivial)
    (fun _ h hq => have ⟨i, s1, h1⟩ := h.no_deadlock hq; ⟨.step i, s1, h1, fire_measure h1, h.fire h1, rfl, trivial⟩) s h
  ⟨ls, s', hrun, hq, hok⟩

/-! ### both variants: monotonicity, and what survives the seeded change -/

theorem fire_mono (hf : fire sd l s = some s') :
    s.nextId ≤ s'.nextId ∧ s.files <+: s'.files ∧ s.burned <:+ s'.burned ∧
      s'.clients.length = s.clients.length ∧ (l.isFail = false → s'.burned = s.burned) := by
  obtain ⟨k, pc, pc', t, _, ht, rfl⟩ := fire_move hf
  generalize l.isFail = f at ht ⊢
  cases ht with
  | raced => exact ⟨by dsimp only; split <;> omega, List.prefix_refl _, List.suffix_refl _, List.length_set, fun _ => rfl⟩
  | take => exact ⟨Nat.le_succ _, List.prefix_refl _, List.suffix_refl _, List.length_set, fun _ => rfl⟩
  | create => exact ⟨Nat.le_refl _, List.prefix_append _ _, List.suffix_refl _, List.length_set, fun _ => rfl⟩
  | createFail => exact ⟨Nat.le_refl _, List.prefix_refl _, List.suffix_cons _ _, List.length_set, nofun⟩
  | _ => exact ⟨Nat.le_refl _, List.prefix_refl _, List.suffix_refl _, List.length_set, fun _ => rfl⟩

theorem burned_of_failure_free {ls : List Label} {s0 : State} (h : runSched sd ls s0 = some s)
    (hok : ∀ l ∈ ls, l.isFail = false) : s.burned = s0.burned :=
  (isRun_runSched sd).induct (P := fun s => s.burned = s0.burned) (Q := fun l => l.isFail = false)
    (fun _ _ _ hs hq hl => ((fire_mono hl).2.2.2.2 hq).trans hs) ls s0 s rfl hok h

/-- what survives the seeded change: the counter is above every id in use -/
def Bounded (s : State) : Prop :=
  (∀ x ∈ s.files, x < s.nextId) ∧
    ∀ c ∈ s.clients, ∀ id, (c.pc = .creating id ∨ c.pc = .created id) → id < s.nextId

/-- client `i` moves to `pc'`, the counter does not go back.  `takingOf (some pc') ++ uninstalledOf (some pc')` is
    the id `pc'` carries, if any. -/
theorem Bounded.set {l : Lock} (h : Bounded s) (hn : s.nextId ≤ n) (hf : ∀ x ∈ fl, x < n)
    (hpc : ∀ id ∈ takingOf (some pc') ++ uninstalledOf (some pc'), id < n) :
    Bounded ⟨a, cd, fl, n, l, s.clients.set i ⟨k, pc'⟩, b⟩ := by
  refine ⟨hf, fun c' hc' id hid => ?_⟩
  rcases List.mem_or_eq_of_mem_set hc' with hm | rfl
  · exact Nat.lt_of_lt_of_le (h.2 c' hm id hid) hn
  · exact hpc id (List.mem_append.2 (hid.imp (fun e => mem_takingOf.2 (congrArg some e))
      fun e => mem_uninstalledOf.2 (congrArg some e)))

theorem Bounded.fire (h : Bounded s) (hf : ConcCreate.fire sd l s = some s') : Bounded s' := by
  obtain ⟨k, pc, pc', t, hc, ht, rfl⟩ := fire_move hf
  generalize l.isFail = f at ht
  cases ht with
  | raced =>
    have hn : s.nextId ≤ if sd then s.nextId + 1 else s.nextId := by split <;> omega
    exact h.set hn (fun x hx => Nat.lt_of_lt_of_le (h.1 x hx) hn) fun _ hm => absurd hm List.not_mem_nil
  | take =>
    exact h.set (Nat.le_succ _) (fun x hx => Nat.lt_succ_of_lt (h.1 x hx))
      fun _ hm => List.mem_singleton.1 hm ▸ Nat.lt_succ_self _
  | @create id =>
    have hid := h.2 _ (List.mem_of_getElem? hc) id (.inl rfl)
    refine h.set (Nat.le_refl _) (fun x hx => ?_) fun _ hm => List.mem_singleton.1 hm ▸ hid
    rcases List.mem_append.1 hx with hx | hx
    · exact h.1 x hx
    · exact List.mem_singleton.1 hx ▸ hid
  | _ => exact h.set (Nat.le_refl _) h.1 fun _ hm => absurd hm List.not_mem_nil

theorem Bounded.reach {s0 : State} (h0 : Bounded s0) (hr : Reach sd s0 s) : Bounded s :=
  hr.induction h0 Bounded.fire

theorem bounded_fresh {l : Lock} (kinds : List Kind) :
    Bounded ⟨a, cd, List.range n, n, l, kinds.map (fun k => { kind := k }), b⟩ :=
  ⟨fun _ => List.mem_range.1, fun c hc id hid => by rw [pc_of_mem_map hc] at hid; exact nomatch hid⟩

theorem bounded_initAt (n : Nat) (kinds : List Kind) : Bounded (initAt n kinds) := bounded_fresh kinds

theorem bounded_initActive (n : Nat) (kinds : List Kind) : Bounded (initActive n kinds) := bounded_fresh kinds

end ConcCreate
end Pearl
