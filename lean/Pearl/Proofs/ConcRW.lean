import Pearl.Model.ConcRW
import Pearl.Props.C01
import Pearl.Proofs.MaintLemmas
import Pearl.Proofs.Run
/-
The concurrent read/write model `Pearl.ConcRW` (`Pearl/Model/ConcRW.lean`) as relations and invariants; the theorems
are in `Pearl/Props/C08.lean`.  `cstep` and `fire` become relations (`CStep`, `Fire`).  A per-client invariant holds of
a client not yet invoked, is re-established by the client that steps (by cases on `CStep`) and is stable under what the
others do, who rewrite the blobs where they stand (`InPlace`): `Rely`, `Fire.split` and `Reach.induct_client` say this
once.  Then: the trace against store and clients (`TInv`), the replay of the trace as a run of the sequential model
(`applyAll_eq_run`), the events of one client in the trace (`TraceOK`, `HCInv`), answers of the sequential model at the
look-up event (`SeqRes`), the blob lock and enabledness (`Typed`, `BInv`, `cstep_enabled`), the step bound (`measure`).

The invariants, what each speaks about, and the lemma that gives it in every reachable state:
* `Inv` (`GInv`, `CInv`): store well-formed with an active blob, landed bytes; per program counter, what a client knows
  of its answer (`ResOK`, `RespOK`) - `tinv_reach` (first part), `inv_reach` from any state with `Inv`;
* `TInv`: the store is the replay of the trace, every event belongs to the operation of its client - `tinv_reach`;
* `HCInv`, `TraceOK`: the events of one client in the trace - `hcinv_reach`, `traceOK_reach`;
* `BInv`: who holds the blob lock, program counters fit the operations - `binv_reach`;
* `RCInv` (`RCInv2`, `TwoPhase`; `Proofs/ConcRW2.lean`): the two instants of a look-up in the trace - `rinv_reach`;
* `PInv` (`LCInv`, `BytesOK`), `LayInv`, `SeqInv` (ConcRW2, the product with byte ranges): reservations against
  clients, size counters against the file layout, a stored write's reservation against its place - `pinv_reach`,
  `layinv_reach`, `seqinv_reach`;
* `DCInv` has no such lemma: delete-free answers come from `RCInv` and `TwoPh.seqRes`.
-/
namespace Pearl
namespace ConcRW

/-! ### records stay at their places: `BLe`, `Sub`, `hyb`, `InPlace` -/

def BLe (b b' : Blob) : Prop := b'.id = b.id ∧ b.recs <+: b'.recs

theorem BLe.refl (b : Blob) : BLe b b := ⟨rfl, List.prefix_refl _⟩

theorem BLe.trans {a b c : Blob} (h1 : BLe a b) (h2 : BLe b c) : BLe a c :=
  ⟨h2.1.trans h1.1, h1.2.trans h2.2⟩

theorem BLe.of_step {a b : Blob} (h : StepOf a b) : BLe a b := ⟨h.1, h.2.1⟩

theorem BLe.mem_pos {b b' : Blob} (h : BLe b b') {p : PRec} (hp : p ∈ positionedFrom b.id 0 b.recs) :
    p ∈ positionedFrom b'.id 0 b'.recs := by
  obtain ⟨hid, t, ht⟩ := h
  rw [hid, ← ht, positionedFrom_append']
  exact List.mem_append_left _ hp

def Sub (a b : Store) : Prop :=
  ∀ p, p ∈ History.positioned a.history → p ∈ History.positioned b.history

theorem Sub.refl (a : Store) : Sub a a := fun _ h => h

theorem Sub.trans {a b c : Store} (h1 : Sub a b) (h2 : Sub b c) : Sub a c := fun p h => h2 p (h1 p h)

theorem Sub.of_blobs {a b : Store} (h : ∀ x ∈ a.blobs, ∃ y ∈ b.blobs, BLe x y) : Sub a b := by
  intro p hp
  obtain ⟨x, hx, hpx⟩ := Store.mem_history_positioned.1 hp
  obtain ⟨y, hy, hxy⟩ := h x hx
  exact Store.mem_history_positioned.2 ⟨y, hy, hxy.mem_pos hpx⟩

theorem BLe.of_cont {a b : List Blob} (h : Cont a b) {x : Blob} (hx : x ∈ a) : ∃ y ∈ b, BLe x y :=
  let ⟨y, hy, hs⟩ := h.fwd x hx; ⟨y, hy, .of_step hs⟩

theorem Sub.of_cont {a b : Store} (h : Cont a.blobs b.blobs) : Sub a b :=
  Sub.of_blobs (fun _ hx => BLe.of_cont h hx)

theorem BLe.of_shape {a b : Store} (h : OpShape a b) {x : Blob} (hx : x ∈ a.blobs) : ∃ y ∈ b.blobs, BLe x y := by
  cases h with
  | same hc _ => exact BLe.of_cont hc hx
  | new nb _ _ hc _ => exact BLe.of_cont hc (List.mem_append_left _ hx)

theorem Sub.of_shape {a b : Store} (h : OpShape a b) : Sub a b := Sub.of_blobs fun _ hx => BLe.of_shape h hx

/-- the store with the active blob replaced by an (older) version `a1` of it: what a reader that looked into
    the active blob earlier and into the closed blobs now has seen -/
def hyb (st : Store) (a1 : Blob) : Store := { st with active := some a1 }

theorem hyb_blobs (st : Store) (a1 : Blob) : (hyb st a1).blobs = st.closed ++ [a1] := by
  simp [hyb, Store.blobs, Store.closed]

theorem hyb_self {st : Store} {a : Blob} (h : st.active = some a) : hyb st a = st := by
  cases st; simp_all [hyb]

/-- a step that creates no blob: closed blobs and the active blob are continued in place -/
structure InPlace (st st' : Store) : Prop where
  closed : Cont st.closed st'.closed
  active : ∃ a a', st.active = some a ∧ st'.active = some a' ∧ StepOf a a'
  nextId : st'.nextId = st.nextId
  allowDup : st'.allowDup = st.allowDup

namespace InPlace

variable {st st' : Store}

theorem blobs_cont (h : InPlace st st') : Cont st.blobs st'.blobs := by
  obtain ⟨a, a', ha, ha', hs⟩ := h.active
  rw [Store.blobs_of_active ha, Store.blobs_of_active ha']
  exact Cont.append h.closed (.cons hs .nil)

theorem shape (h : InPlace st st') (hwf : st.WF) : OpShape st st' :=
  .same h.blobs_cont (Store.lt_nextId_of_cont h.blobs_cont (by rw [h.nextId]; exact hwf.2))

theorem wf (h : InPlace st st') (hwf : st.WF) : st'.WF := Store.WF_of_shape hwf (h.shape hwf)

theorem sub (h : InPlace st st') : Sub st st' := Sub.of_cont h.blobs_cont

theorem hyb_sub (h : InPlace st st') (a1 : Blob) : Sub (hyb st a1) (hyb st' a1) := by
  apply Sub.of_cont
  rw [hyb_blobs, hyb_blobs]
  exact Cont.append h.closed (Cont.refl _)

theorem active_some (h : InPlace st st') : ∃ a', st'.active = some a' :=
  let ⟨_, a', _, ha', _⟩ := h.active; ⟨a', ha'⟩

theorem active_step (h : InPlace st st') {a : Blob} (ha : st.active = some a) :
    ∃ a', st'.active = some a' ∧ StepOf a a' := by
  obtain ⟨x, x', hx, hx', hs⟩ := h.active
  cases ha.symm.trans hx
  exact ⟨x', hx', hs⟩

theorem active_id (h : InPlace st st') (a : Blob) (ha : st.active = some a) :
    ∃ a', st'.active = some a' ∧ a'.id = a.id :=
  let ⟨a', ha', hs⟩ := h.active_step ha; ⟨a', ha', hs.1⟩

end InPlace

/-! ### every effect of a step maps the blobs where they stand -/

/-- `fa` on the active blob, `fc` on every closed blob.  Every `Eff` and the dump are such maps (`Eff.store_eq`,
    `settle_eq`); the name is `CrossDel`'s because crossing deletes compose them (`Proofs/ConcRW2.lean`). -/
def _root_.Pearl.CrossDel.mapBlobs (s : Store) (fa fc : Blob → Blob) : Store :=
  { s with active := s.active.map fa, slots := s.slots.map (Option.map fc) }

theorem closed_mapBlobs (s : Store) (fa fc : Blob → Blob) :
    (CrossDel.mapBlobs s fa fc).closed = s.closed.map fc :=
  filterMap_id_map fc s.slots

theorem inPlace_mapBlobs {st : Store} {a : Blob} (h : st.active = some a) {fa fc : Blob → Blob}
    (hfa : ∀ b, StepOf b (fa b)) (hfc : ∀ b, StepOf b (fc b)) : InPlace st (CrossDel.mapBlobs st fa fc) :=
  ⟨by rw [closed_mapBlobs]; exact Cont.map_right hfc _, ⟨a, fa a, h, by simp [CrossDel.mapBlobs, h], hfa a⟩,
    rfl, rfl⟩

theorem mem_blobs_mapBlobs {st : Store} {fa fc : Blob → Blob} {b' : Blob}
    (h : b' ∈ (CrossDel.mapBlobs st fa fc).blobs) : ∃ b ∈ st.blobs, b' = fc b ∨ b' = fa b := by
  simp only [Store.blobs, closed_mapBlobs, List.mem_append, List.mem_map] at h
  rcases h with ⟨b, hb, rfl⟩ | h
  · exact ⟨b, List.mem_append_left _ hb, Or.inl rfl⟩
  · cases ha : st.active with
    | none => simp [CrossDel.mapBlobs, ha] at h
    | some a =>
      simp only [CrossDel.mapBlobs, ha, Option.map_some, Option.toList, List.mem_singleton] at h
      exact ⟨a, by simp [Store.blobs, ha], Or.inr h⟩

theorem mapBlobs_self (st : Store) : CrossDel.mapBlobs st id id = st := by
  cases st; simp [CrossDel.mapBlobs]

theorem delActive_eq (s : Store) (k : Key) (ts : Nat) (oip : Bool) :
    (delActive s k ts oip).1 = CrossDel.mapBlobs s (fun b => (Store.blobDelete b k ts none oip).1) id := by
  unfold delActive CrossDel.mapBlobs
  cases s with
  | mk active slots nextId allowDup =>
    cases active <;> simp

theorem delClosed_eq (s : Store) (k : Key) (ts : Nat) :
    (delClosed s k ts).1 = CrossDel.mapBlobs s id (fun b => (Store.blobDelete b k ts none true).1) := by
  unfold delClosed CrossDel.mapBlobs
  cases s with
  | mk active slots nextId allowDup =>
    simp only [List.map_map, Option.map_id, id_eq, Store.mk.injEq, true_and, and_true]
    apply List.map_congr_left
    intro o _
    cases o <;> rfl

theorem closed_delClosed (st : Store) (k : Key) (ts : Nat) :
    (delClosed st k ts).1.closed = st.closed.map (fun b => (Store.blobDelete b k ts none true).1) := by
  rw [delClosed_eq, closed_mapBlobs]

theorem settle_eq (st : Store) : st.settle =
    CrossDel.mapBlobs st id (fun b => if b.recs.isEmpty then b else { b with onDisk := true }) := by
  cases st; simp [Store.settle, CrossDel.mapBlobs]

theorem inPlace_settle {st : Store} {a : Blob} (h : st.active = some a) : InPlace st st.settle := by
  rw [settle_eq]
  exact inPlace_mapBlobs h (fun _ => .same rfl rfl) Store.dumpFlag_cont

/-- what a client step does to the active blob -/
def Eff.onActive : Eff → Blob → Blob
  | .push r => (·.append r)
  | .delA k ts oip => fun b => (Store.blobDelete b k ts none oip).1
  | _ => id

/-- … and to every closed blob -/
def Eff.onClosed : Eff → Blob → Blob
  | .delC k ts => fun b => (Store.blobDelete b k ts none true).1
  | _ => id

theorem Eff.store_eq (e : Eff) (st : Store) : e.store st = CrossDel.mapBlobs st e.onActive e.onClosed := by
  cases e with
  | push r =>
    cases st with
    | mk active slots nextId allowDup =>
      cases active <;> simp [Eff.store, appendActive, CrossDel.mapBlobs, Eff.onActive, Eff.onClosed]
  | delA k ts oip => exact delActive_eq st k ts oip
  | delC k ts => exact delClosed_eq st k ts
  | _ => exact (mapBlobs_self st).symm

theorem Eff.onActive_step (e : Eff) (b : Blob) : StepOf b (e.onActive b) := by
  cases e with
  | push r => exact .app rfl rfl
  | delA k ts oip => exact Store.blobDelete_cont b k ts none oip
  | _ => exact .same rfl rfl

theorem Eff.onClosed_step (e : Eff) (b : Blob) : StepOf b (e.onClosed b) := by
  cases e with
  | delC k ts => exact Store.blobDelete_cont b k ts none true
  | _ => exact .same rfl rfl

theorem Eff.inPlace (e : Eff) {st : Store} {a : Blob} (h : st.active = some a) : InPlace st (e.store st) := by
  rw [e.store_eq]
  exact inPlace_mapBlobs h e.onActive_step e.onClosed_step

/-! ### look-ups: the two halves, and what an answer is worth (`Wit`, `ResOK`) -/

theorem lookActive_of_active {st : Store} {a : Blob} (h : st.active = some a) (k : Key) :
    lookActive st k = ReadResult.notFound.latest (a.getLatestEntry k none) := by
  simp [lookActive, h]

/-- the two halves of a look-up, taken on stores with the same closed blobs, make up `get_latest_entry` -/
theorem lookClosed_of_closed_eq {st s' : Store} (h : s'.closed = st.closed) (k : Key) :
    lookClosed st k (lookActive s' k) = s'.getLatestEntry k none := by
  unfold lookClosed lookActive Store.getLatestEntry Store.getLatestEntryP
  simp only [Bool.not_false]
  rw [List.filter_eq_self.2 (fun _ _ => rfl), Store.visit, h]
  cases s'.active <;> simp

theorem lookClosed_hyb (st : Store) (a1 : Blob) (k : Key) :
    lookClosed st k (ReadResult.notFound.latest (a1.getLatestEntry k none)) =
      (hyb st a1).getLatestEntry k none :=
  lookClosed_of_closed_eq (s' := hyb st a1) rfl k

/-- `q` is a record of key `k` in the store that the answer `res` classifies -/
def Wit (st : Store) (k : Key) (res : ReadResult Rec) (q : PRec) : Prop :=
  q ∈ History.positioned st.history ∧ q.r.key = k ∧
    match res with
    | .found r => q.r = r ∧ r.del = false
    | .deleted t => q.r.del = true ∧ q.r.ts = t
    | .notFound => False

theorem Wit.mono {st st' : Store} (h : Sub st st') {k : Key} {res : ReadResult Rec} {q : PRec}
    (hw : Wit st k res q) : Wit st' k res q := ⟨h q hw.1, hw.2⟩

/-- the answer `res` for key `k` is backed by a record of the store `st`, and that record is ranked at least as
    high as every record of key `k` that the store `born` held -/
def ResOK (born st : Store) (k : Key) (res : ReadResult Rec) : Prop :=
  (res ≠ .notFound → ∃ q, Wit st k res q) ∧
    ∀ p ∈ History.positioned born.history, p.r.key = k → ∃ q, Wit st k res q ∧ rankLe q p = true

theorem ResOK.mono {born born' st st' : Store} (hb : Sub born' born) (hs : Sub st st') {k : Key}
    {res : ReadResult Rec} (h : ResOK born st k res) : ResOK born' st' k res :=
  ⟨fun hne => let ⟨q, hq⟩ := h.1 hne; ⟨q, hq.mono hs⟩,
   fun p hp hk => let ⟨q, hq, hr⟩ := h.2 p (hb p hp) hk; ⟨q, hq.mono hs, hr⟩⟩

theorem read_top {st : Store} (hwf : st.WF) (k : Key) :
    (st.getLatestEntry k none = .notFound ∧ ∀ p ∈ History.positioned st.history, p.r.key ≠ k) ∨
    ∃ top, Wit st k (st.getLatestEntry k none) top ∧
      ∀ p ∈ History.positioned st.history, p.r.key = k → rankLe top p = true := by
  rw [show st.getLatestEntry k none = _ from read_eq_spec hwf k, Spec.latest_eq]
  cases hh : (Spec.all st.history k).head? with
  | none =>
    rw [List.head?_eq_none_iff] at hh
    refine Or.inl ⟨rfl, fun p hp hk => ?_⟩
    have := mem_all_iff.2 ⟨hp, hk⟩
    rw [hh] at this
    cases this
  | some q =>
    obtain ⟨hq, hmax⟩ := RankSorted.of_head? (sortedBy_sorted _ hwf.history_nodup) hh
    obtain ⟨hq1, hq2⟩ := mem_all_iff.1 hq
    refine Or.inr ⟨q, ⟨hq1, hq2, ?_⟩, fun p hp hk => ?_⟩
    · simp only [classify]
      cases hd : q.r.del <;> simp [ReadResult.map, hd]
    · rw [rankLe_iff]
      rcases hmax p (mem_all_iff.2 ⟨hp, hk⟩) with rfl | h
      · exact rankBefore_irrefl _
      · exact rankBefore_asymm h

theorem getLatestEntry_resOK {st : Store} (hwf : st.WF) (k : Key) :
    ResOK st st k (st.getLatestEntry k none) := by
  rcases read_top hwf k with ⟨h0, hno⟩ | ⟨top, hw, hmax⟩
  · exact ⟨fun hne => absurd h0 hne, fun p hp hk => absurd hk (hno p hp)⟩
  · exact ⟨fun _ => ⟨top, hw⟩, fun p hp hk => ⟨top, hw, hmax p hp hk⟩⟩

theorem top_bound {st : Store} (hwf : st.WF) {k : Key} {q : PRec} (hq : q ∈ History.positioned st.history)
    (hk : q.r.key = k) : ∃ top, Wit st k (st.read k none) top ∧
      ∀ p ∈ History.positioned st.history, p.r.key = k → rankLe top p = true := by
  rcases read_top hwf k with ⟨_, hno⟩ | h
  · exact absurd hk (hno q hq)
  · exact h

theorem hyb_wf {st : Store} {act a1 : Blob} (hwf : st.WF) (ha : st.active = some act) (hid : a1.id = act.id) :
    (hyb st a1).WF := by
  have h1 : (hyb st a1).blobs.map (·.id) = st.blobs.map (·.id) := by
    rw [hyb_blobs, Store.blobs_of_active ha]; simp [hid]
  refine ⟨by rw [h1]; exact hwf.1, ?_⟩
  intro b hb
  have : b.id ∈ st.blobs.map (·.id) := by rw [← h1]; exact List.mem_map_of_mem hb
  obtain ⟨x, hx, hxe⟩ := List.mem_map.1 this
  have := hwf.2 x hx
  show b.id < st.nextId
  omega

theorem hyb_sub_self {st : Store} {act a1 : Blob} (ha : st.active = some act) (hle : BLe a1 act) :
    Sub (hyb st a1) st := by
  apply Sub.of_blobs
  rw [hyb_blobs, Store.blobs_of_active ha]
  intro x hx
  rcases List.mem_append.1 hx with hx | hx
  · exact ⟨x, List.mem_append_left _ hx, BLe.refl x⟩
  · simp only [List.mem_singleton] at hx
    subst hx
    exact ⟨act, by simp, hle⟩

theorem lookClosed_resOK {st born : Store} {act a1 : Blob} (hwf : st.WF) (ha : st.active = some act)
    (hle : BLe a1 act) (hb : Sub born (hyb st a1)) (k : Key) :
    ResOK born st k (lookClosed st k (ReadResult.notFound.latest (a1.getLatestEntry k none))) := by
  rw [lookClosed_hyb]
  exact (getLatestEntry_resOK (hyb_wf hwf ha hle.1.symm) k).mono hb (hyb_sub_self ha hle)

/-! ### records and landed bytes, responses, the per-client invariant `CInv`, `Inv` -/

def InStore (st : Store) (r : Rec) : Prop := ∃ b ∈ st.blobs, r ∈ b.recs

theorem inStore_of_positioned {st : Store} {p : PRec} (h : p ∈ History.positioned st.history) :
    InStore st p.r :=
  let ⟨b, hb, hp⟩ := Store.mem_history_positioned.1 h
  ⟨b, hb, mem_positionedFrom_r hp⟩

theorem mem_allRecs {st : Store} {r : Rec} : r ∈ allRecs st ↔ InStore st r := by
  simp [allRecs, InStore]

/-- the data bytes of every live record an index points to are in the file -/
def Landed (st : Store) (landed : List Rec) : Prop := ∀ r, InStore st r → r.del = false → r ∈ landed

theorem mem_blobDelete {b : Blob} {k : Key} {ts : Nat} {oip : Bool} {r : Rec}
    (h : r ∈ (Store.blobDelete b k ts none oip).1.recs) : r ∈ b.recs ∨ r.del = true :=
  ((Store.blobDelete_step b k ts none oip).2 r h).imp_right fun e => by cases e; rfl

theorem eff_recs (e : Eff) {st : Store} {r : Rec} (hr : InStore (e.store st) r) :
    InStore st r ∨ e = .push r ∨ r.del = true := by
  obtain ⟨b', hb', hrb⟩ := hr
  rw [e.store_eq] at hb'
  obtain ⟨b, hb, rfl | rfl⟩ := mem_blobs_mapBlobs hb'
  · cases e with
    | delC k ts => exact (mem_blobDelete hrb).imp (fun h => ⟨b, hb, h⟩) Or.inr
    | _ => exact Or.inl ⟨b, hb, hrb⟩
  · cases e with
    | push r0 =>
      simp only [Eff.onActive, Blob.append, List.mem_append, List.mem_singleton] at hrb
      exact hrb.imp (fun h => ⟨b, hb, h⟩) (fun h => Or.inl (by rw [h]))
    | delA k ts oip => exact (mem_blobDelete hrb).imp (fun h => ⟨b, hb, h⟩) Or.inr
    | _ => exact Or.inl ⟨b, hb, hrb⟩

/-- rotation and dump add no record -/
theorem maint_recs {st : Store} (hwf : st.WF) {m : Op} (hm : m.isMaint = true) (hr : ∀ lazy, m ≠ .restart lazy)
    {r : Rec} (h : InStore (st.apply m) r) : InStore st r :=
  let ⟨b', hb', hrb⟩ := h
  ((((Store.apply_life_step st hm hr).mono fun _ _ => .of_hist).toShape (o := none) hwf).2 b' hb' r hrb).resolve_right nofun

/-- the record a write stored, at its place -/
def PlaceOK (st : Store) (op : COp) (p : PRec) : Prop :=
  p ∈ History.positioned st.history ∧ ∃ k ts d, op = .write k ts d ∧ p.r = wrec k ts d

/-- what is known about a response that has been decided -/
def RespOK (born st : Store) (landed : List Rec) (op : COp) : Resp → Prop
  | .value res => (∃ k, op = .read k) ∧ ResOK born st op.key res ∧ ∀ x, res = .found x → x ∈ landed
  | .torn => False
  | .has x => (∃ k, op = .contains k) ∧ ∃ res, x = res.map (·.ts) ∧ ResOK born st op.key res
  | .wrote (some p) => PlaceOK st op p
  | .wrote none => (∃ k ts d, op = .write k ts d) ∧ ∃ q x, Wit st op.key (.found x) q
  | .deleted _ => ∃ k ts oip, op = .delete k ts oip

theorem RespOK.mono {born st st' : Store} {landed landed' : List Rec} {op : COp} {r : Resp}
    (hs : Sub st st') (hl : ∀ x ∈ landed, x ∈ landed') (h : RespOK born st landed op r) :
    RespOK born st' landed' op r := by
  cases r with
  | value res => exact ⟨h.1, h.2.1.mono (Sub.refl _) hs, fun x hx => hl x (h.2.2 x hx)⟩
  | torn => exact h
  | has x => obtain ⟨h0, res, h1, h2⟩ := h; exact ⟨h0, res, h1, h2.mono (Sub.refl _) hs⟩
  | wrote p =>
    cases p with
    | none => obtain ⟨h0, q, x, hq⟩ := h; exact ⟨h0, q, x, hq.mono hs⟩
    | some p => exact ⟨hs p h.1, h.2⟩
  | deleted n => exact h

/-- what is known about a client at its program counter -/
def CInv (st : Store) (landed : List Rec) (c : Client) : Prop :=
  match c.pc with
  | .lookC acc snap =>
    ∃ a1 act, snap.active = some a1 ∧ st.active = some act ∧ BLe a1 act ∧ acc = lookActive snap c.op.key ∧
      Sub c.born (hyb st a1)
  | .load res => (∃ k, c.op = .read k) ∧ ResOK c.born st c.op.key res
  | .chk res => (∃ k ts d, c.op = .write k ts d) ∧ ResOK c.born st c.op.key res
  | .wWritten => ∀ k ts d, c.op = .write k ts d → wrec k ts d ∈ landed
  | .wPushed p => PlaceOK st c.op p
  | .rel r => RespOK c.born st landed c.op r
  | .ret r => RespOK c.born st landed c.op r
  | .done r => RespOK c.born st landed c.op r
  | _ => True

/-- `CInv` survives every step of somebody else that creates no blob -/
theorem CInv.stable {st st' : Store} {landed landed' : List Rec} {c : Client} (hp : InPlace st st')
    (hl : ∀ x ∈ landed, x ∈ landed') (h : CInv st landed c) : CInv st' landed' c := by
  obtain ⟨op, pc, born⟩ := c
  cases pc with
  | lookC acc snap =>
    obtain ⟨a1, act, h1, h2, h3, h4, h5⟩ := h
    obtain ⟨a', ha', hs⟩ := hp.active_step h2
    exact ⟨a1, a', h1, ha', h3.trans (.of_step hs), h4, h5.trans (hp.hyb_sub a1)⟩
  | load res => exact ⟨h.1, ResOK.mono (Sub.refl _) hp.sub h.2⟩
  | chk res => exact ⟨h.1, ResOK.mono (Sub.refl _) hp.sub h.2⟩
  | wWritten => exact fun k ts d ho => hl _ (h k ts d ho)
  | wPushed p => exact ⟨hp.sub p h.1, h.2⟩
  | rel r => exact RespOK.mono hp.sub hl h
  | ret r => exact RespOK.mono hp.sub hl h
  | done r => exact RespOK.mono hp.sub hl h
  | _ => trivial

/-- … and a rotation, which happens only while the client holds no lock -/
theorem CInv.stable_rot {st : Store} {landed : List Rec} {c : Client} (hn : c.pc.holdsS = false)
    (h : CInv st landed c) : CInv st.replaceActive landed c := by
  have hs : Sub st st.replaceActive := Sub.of_shape (Store.replaceActive_shape st)
  obtain ⟨op, pc, born⟩ := c
  cases pc with
  | ret r => exact RespOK.mono hs (fun _ hx => hx) h
  | done r => exact RespOK.mono hs (fun _ hx => hx) h
  | idle => trivial
  | start => trivial
  | wStart => trivial
  | _ => simp [Pc.holdsS] at hn

structure GInv (s : CState) : Prop where
  wf : s.store.WF
  active : ∃ a, s.store.active = some a
  landed : Landed s.store s.landed

structure Inv (s : CState) : Prop extends GInv s where
  born : ∀ c ∈ s.clients, Sub c.born s.store
  client : ∀ c ∈ s.clients, CInv s.store s.landed c

theorem done_respOK {s : CState} (hi : Inv s) {i : Nat} {c : Client} {r : Resp} (hc : s.clients[i]? = some c)
    (hd : c.pc = .done r) : RespOK c.born s.store s.landed c.op r := by
  have := hi.client c (List.mem_of_getElem? hc)
  unfold CInv at this
  rw [hd] at this
  exact this

theorem Eff.landed_mono (e : Eff) (landed : List Rec) : ∀ x ∈ landed, x ∈ e.landed landed := by
  intro x hx
  cases e <;> simp [Eff.landed, hx]

theorem bornAfter_sub {st : Store} {c : Client} (h : Sub c.born st) : Sub (bornAfter st c) st := by
  unfold bornAfter
  split
  · exact Sub.refl _
  · exact h

theorem bornAfter_idle {st : Store} {c : Client} (h : c.pc = .idle) : bornAfter st c = st := by
  simp [bornAfter, h]

theorem bornAfter_not_idle {st : Store} {c : Client} (h : c.pc ≠ .idle) : bornAfter st c = c.born := by
  unfold bornAfter
  split
  · rename_i h'; exact absurd h' h
  · rfl

theorem mem_positioned_appendActive {st : Store} {a : Blob} (h : st.active = some a) (r : Rec) :
    ({ r := r, blob := a.id, seq := a.recs.length } : PRec) ∈ History.positioned (appendActive st r).history := by
  apply Store.mem_history_positioned.2
  refine ⟨a.append r, by simp [appendActive, h, Store.blobs], ?_⟩
  simp [Blob.append, positionedFrom_append]

/-! ### functions of events and program counters -/

def Ev.client : Ev → Option Nat
  | .inv i _ | .res i _ | .look i | .push i _ | .delA i _ _ _ | .delC i _ _ => some i
  | _ => none

/-- program counters at which the operation's linearization event has been emitted -/
def Pc.hasLin : Pc → Bool
  | .lookC _ _ | .load _ | .chk _ | .wPushed _ | .dClosed _ | .rel _ | .ret _ | .done _ => true
  | _ => false

def Resp.place : Resp → Option PRec
  | .wrote (some p) => some p
  | _ => none

/-- the place a stored write reports, from `wPushed` on -/
def Pc.place : Pc → Option PRec
  | .wPushed p => some p
  | .rel r | .ret r | .done r => r.place
  | _ => none

/-- before the first look-up -/
def Pc.preLook : Pc → Bool
  | .idle | .start | .lookA => true
  | _ => false

/-- a bound on the remaining steps of a client -/
def Pc.weight : Pc → Nat
  | .idle => 17 | .start => 16 | .lookA => 15 | .lookC _ _ => 14 | .load _ => 13 | .chk _ => 13
  | .wStart => 12 | .wLocked => 11 | .wBlob => 10 | .wReserved => 9 | .wWritten => 8 | .wPushed _ => 7
  | .dActive => 15 | .dClosed _ => 14 | .rel _ => 3 | .ret _ => 2 | .done _ => 0

/-! ### the steps of a client as a relation -/

/-- the steps of a client as a relation between its operation, its program counter and the outcome: one constructor
    per line of the program in `Pearl/Model/ConcRW.lean`, the conditions as hypotheses.  every outcome of `cstep` is one of these
    (`CStep.of_cstep`); what the invariants need to know about a step is read off by cases on this relation. -/
inductive CStep (st : Store) (landed : List Rec) (bl : Option Nat) (i : Nat) : COp → Pc → Out → Prop
  | invoke (op : COp) : CStep st landed bl i op .idle { pc := .start, evs := [.inv i op] }
  | startDup (k : Key) (ts : Nat) (d : Data) : st.allowDup = true →
      CStep st landed bl i (.write k ts d) .start { pc := .wLocked }
  | startChk (k : Key) (ts : Nat) (d : Data) : st.allowDup = false →
      CStep st landed bl i (.write k ts d) .start { pc := .lookA }
  | startR (k : Key) : CStep st landed bl i (.read k) .start { pc := .lookA }
  | startC (k : Key) : CStep st landed bl i (.contains k) .start { pc := .lookA }
  | startD (k : Key) (ts : Nat) (oip : Bool) : CStep st landed bl i (.delete k ts oip) .start { pc := .dActive }
  | lookA (op : COp) : CStep st landed bl i op .lookA { pc := .lookC (lookActive st op.key) st, evs := [.look i] }
  | lookCR (k : Key) (acc : ReadResult Rec) (snap : Store) :
      CStep st landed bl i (.read k) (.lookC acc snap) { pc := .load (lookClosed st k acc) }
  | lookCC (k : Key) (acc : ReadResult Rec) (snap : Store) :
      CStep st landed bl i (.contains k) (.lookC acc snap) { pc := .rel (.has ((lookClosed st k acc).map (·.ts))) }
  | lookCW (k : Key) (ts : Nat) (d : Data) (acc : ReadResult Rec) (snap : Store) :
      CStep st landed bl i (.write k ts d) (.lookC acc snap) { pc := .chk (lookClosed st k acc) }
  | loadOk (op : COp) (r : Rec) : r ∈ landed →
      CStep st landed bl i op (.load (.found r)) { pc := .rel (.value (.found r)) }
  | loadTorn (op : COp) (r : Rec) : r ∉ landed → CStep st landed bl i op (.load (.found r)) { pc := .rel .torn }
  | loadDel (op : COp) (t : Nat) : CStep st landed bl i op (.load (.deleted t)) { pc := .rel (.value (.deleted t)) }
  | loadNone (op : COp) : CStep st landed bl i op (.load .notFound) { pc := .rel (.value .notFound) }
  | chkDup (op : COp) (res : ReadResult Rec) : res.isFound = true →
      CStep st landed bl i op (.chk res) { pc := .ret (.wrote none) }
  | chkNew (op : COp) (res : ReadResult Rec) : res.isFound = false →
      CStep st landed bl i op (.chk res) { pc := .wStart }
  | wStart (op : COp) : CStep st landed bl i op .wStart { pc := .wLocked }
  | lockB (op : COp) : bl = none → CStep st landed bl i op .wLocked { pc := .wBlob, eff := .lockB }
  | reserve (op : COp) : CStep st landed bl i op .wBlob { pc := .wReserved }
  | land (k : Key) (ts : Nat) (d : Data) :
      CStep st landed bl i (.write k ts d) .wReserved { pc := .wWritten, eff := .land (wrec k ts d) }
  | push (k : Key) (ts : Nat) (d : Data) (a : Blob) : st.active = some a →
      CStep st landed bl i (.write k ts d) .wWritten
        { pc := .wPushed { r := wrec k ts d, blob := a.id, seq := a.recs.length }, eff := .push (wrec k ts d) }
  | unlockB (op : COp) (p : PRec) :
      CStep st landed bl i op (.wPushed p) { pc := .rel (.wrote (some p)), eff := .unlockB }
  | delA (k : Key) (ts : Nat) (oip : Bool) : bl = none →
      CStep st landed bl i (.delete k ts oip) .dActive
        { pc := .dClosed (delActive st k ts oip).2, eff := .delA k ts oip }
  | delC (k : Key) (ts : Nat) (oip : Bool) (n : Nat) :
      CStep st landed bl i (.delete k ts oip) (.dClosed n)
        { pc := .rel (.deleted (n + (delClosed st k ts).2)), eff := .delC k ts }
  | release (op : COp) (r : Resp) : CStep st landed bl i op (.rel r) { pc := .ret r }
  | respond (op : COp) (r : Resp) : CStep st landed bl i op (.ret r) { pc := .done r, evs := [.res i r] }

namespace CStep

variable {st : Store} {landed : List Rec} {bl : Option Nat} {i : Nat} {op : COp} {pc : Pc} {o : Out}

theorem of_cstep {c : Client} (h : cstep st landed bl i c = some o) :
    CStep st landed bl i c.op c.pc o := by
  obtain ⟨op, pc, born⟩ := c
  cases pc with
  | idle => cases h; exact .invoke op
  | start =>
    cases op with
    | write k ts d =>
      cases h
      cases hd : st.allowDup
      · exact .startChk k ts d hd
      · exact .startDup k ts d hd
    | read k => cases h; exact .startR k
    | contains k => cases h; exact .startC k
    | delete k ts oip => cases h; exact .startD k ts oip
  | lookA => cases h; exact .lookA op
  | lookC acc snap =>
    cases op with
    | write k ts d => cases h; exact .lookCW k ts d acc snap
    | read k => cases h; exact .lookCR k acc snap
    | contains k => cases h; exact .lookCC k acc snap
    | delete k ts oip => cases h
  | load res =>
    cases res with
    | found r =>
      cases h
      by_cases hr : r ∈ landed
      · simp only [hr, if_true]; exact .loadOk op r hr
      · simp only [hr, if_false]; exact .loadTorn op r hr
    | deleted t => cases h; exact .loadDel op t
    | notFound => cases h; exact .loadNone op
  | chk res =>
    cases h
    cases hf : res.isFound
    · exact .chkNew op res hf
    · exact .chkDup op res hf
  | wStart => cases h; exact .wStart op
  | wLocked =>
    cases bl with
    | none => cases h; exact .lockB op rfl
    | some x => cases h
  | wBlob => cases h; exact .reserve op
  | wReserved => cases op <;> cases h; exact .land _ _ _
  | wWritten =>
    cases op <;> try cases h
    cases ha : st.active with
    | none => simp [cstep, ha] at h
    | some a => simp only [cstep, ha, Option.some.injEq] at h; subst h; exact .push _ _ _ a ha
  | wPushed p => cases h; exact .unlockB op p
  | dActive =>
    cases op <;> try cases h
    cases bl with
    | none => cases h; exact .delA _ _ _ rfl
    | some x => cases h
  | dClosed n => cases op <;> cases h; exact .delC _ _ _ n
  | rel r => cases h; exact .release op r
  | ret r => cases h; exact .respond op r
  | done r => cases h

/-- what an event says about the step that emitted it -/
def EvOK (i : Nat) (op : COp) (pc : Pc) (o : Out) : Ev → Prop
  | .inv j op' => j = i ∧ op' = op ∧ pc = .idle
  | .res j r => j = i ∧ pc = .ret r ∧ o.pc = .done r
  | .look j => j = i ∧ pc = .lookA
  | .push j r => j = i ∧ o.eff = .push r ∧ ∃ k ts d, op = .write k ts d ∧ r = wrec k ts d
  | .delA j k ts oip => j = i ∧ op = .delete k ts oip
  | .delC j k ts => j = i ∧ ∃ oip, op = .delete k ts oip
  | .rot | .dump => False

theorem new (h : CStep st landed bl i op pc o) :
    o.eff.evs i ++ o.evs = [] ∨ ∃ e, o.eff.evs i ++ o.evs = [e] ∧ EvOK i op pc o e := by
  cases h with
  | invoke => exact Or.inr ⟨_, rfl, rfl, rfl, rfl⟩
  | lookA => exact Or.inr ⟨_, rfl, rfl, rfl⟩
  | respond => exact Or.inr ⟨_, rfl, rfl, rfl, rfl⟩
  | push => exact Or.inr ⟨_, rfl, rfl, rfl, _, _, _, rfl, rfl⟩
  | delA => exact Or.inr ⟨_, rfl, rfl, rfl⟩
  | delC => exact Or.inr ⟨_, rfl, rfl, _, rfl⟩
  | _ => exact Or.inl rfl

theorem evOK (h : CStep st landed bl i op pc o) {e : Ev} (he : e ∈ o.eff.evs i ++ o.evs) : EvOK i op pc o e := by
  rcases h.new with h0 | ⟨e', h0, hok⟩ <;> rw [h0] at he
  · cases he
  · rw [List.mem_singleton.1 he]; exact hok

theorem EvOK.client {e : Ev} (h : EvOK i op pc o e) : e.client = some i := by
  cases e <;> first | exact congrArg some h.1 | exact h.elim

theorem replay_new (h : CStep st landed bl i op pc o) (st' : Store) :
    replay st' (o.eff.evs i ++ o.evs) = o.eff.store st' := by
  cases h <;> rfl

theorem pc_ne_idle (h : CStep st landed bl i op pc o) : o.pc ≠ .idle := by cases h <;> nofun

theorem of_idle (h : CStep st landed bl i op .idle o) : o = { pc := .start, evs := [.inv i op] } := by
  cases h; rfl

theorem hasLin (h : CStep st landed bl i op pc o) (hl : o.pc.hasLin = true) :
    pc.hasLin = true ∨ ∃ x ∈ o.eff.evs i ++ o.evs, Ev.linOf i x = true := by
  cases h with
  | lookA | push | delA => exact Or.inr ⟨_, List.mem_singleton.2 rfl, by simp [Ev.linOf]⟩
  | invoke | startDup | startChk | startR | startC | startD | chkNew | wStart | lockB | reserve | land => cases hl
  | _ => exact Or.inl rfl

theorem place (h : CStep st landed bl i op pc o) {p : PRec} (hp : o.pc.place = some p) :
    pc.place = some p ∨ o.eff = .push p.r := by
  cases h with
  | push => cases hp; exact Or.inr rfl
  | unlockB | release | respond => exact Or.inl hp
  | _ => cases hp

theorem preLook (h : CStep st landed bl i op pc o) (hp : o.pc.preLook = true) :
    pc.preLook = true ∧ pc ≠ .lookA := by
  cases h with
  | invoke | startChk | startR | startC => exact ⟨rfl, nofun⟩
  | _ => cases hp

theorem weight_lt (h : CStep st landed bl i op pc o) : o.pc.weight < pc.weight := by
  cases h <;> exact Nat.le_of_ble_eq_true rfl

theorem not_done (h : CStep st landed bl i op pc o) (r : Resp) : pc ≠ .done r := by
  rintro rfl
  exact Nat.not_lt_zero _ h.weight_lt

theorem lock (h : CStep st landed bl i op pc o) :
    (pc.holdsB = false ∧ o.pc.holdsB = true ∧ bl = none ∧ o.eff.blobLock i bl = some i) ∨
    (pc.holdsB = true ∧ o.pc.holdsB = false ∧ o.eff.blobLock i bl = none) ∨
    (o.pc.holdsB = pc.holdsB ∧ o.eff.blobLock i bl = bl) := by
  cases h with
  | lockB _ hb => exact Or.inl ⟨rfl, rfl, hb, rfl⟩
  | unlockB => exact Or.inr (Or.inl ⟨rfl, rfl, rfl⟩)
  | _ => exact Or.inr (Or.inr ⟨rfl, rfl⟩)

end CStep

/-! ### the transitions as a relation; `Inv` in every reachable state -/

/-- the transitions of the system as a relation (`Fire.of_fire`) -/
inductive Fire (s : CState) : Label → CState → Prop
  | step {i : Nat} {c : Client} {o : Out} (hc : s.clients[i]? = some c)
      (ho : CStep s.store s.landed s.blobLock i c.op c.pc o) :
      Fire s (.step i)
        { store := o.eff.store s.store, landed := o.eff.landed s.landed, blobLock := o.eff.blobLock i s.blobLock,
          clients := s.clients.set i { op := c.op, pc := o.pc, born := bornAfter s.store c },
          trace := o.eff.evs i ++ o.evs ++ s.trace }
  | rotate (hs : ∀ c ∈ s.clients, c.pc.holdsS = false) :
      Fire s .rotate { s with store := s.store.replaceActive, trace := .rot :: s.trace }
  | dump : Fire s .dump { s with store := s.store.settle, trace := .dump :: s.trace }

theorem Fire.of_fire {l : Label} {s s' : CState} (h : fire l s = some s') : Fire s l s' := by
  cases l with
  | step i =>
    simp only [fire] at h
    split at h
    · cases h
    · rename_i c hc
      split at h
      · cases h
      · rename_i o ho
        cases h
        exact .step hc (.of_cstep ho)
  | rotate =>
    simp only [fire] at h
    split at h
    · rename_i hall
      cases h
      exact .rotate (fun c hc => by simpa using List.all_eq_true.1 hall c hc)
    · cases h
  | dump => cases h; exact .dump

theorem replaceActive_active (st : Store) : ∃ a, st.replaceActive.active = some a :=
  ⟨_, st.active_replaceActive⟩

theorem getElem?_set_self' {α} {l : List α} {i : Nat} {c : α} (x : α) (hc : l[i]? = some c) :
    (l.set i x)[i]? = some x :=
  List.getElem?_set_self (List.getElem?_eq_some_iff.1 hc).1

theorem CInv.lookC_resOK {st : Store} {landed : List Rec} {op : COp} {acc : ReadResult Rec} {snap born : Store}
    (hwf : st.WF) (hc : CInv st landed ⟨op, .lookC acc snap, born⟩) :
    ResOK born st op.key (lookClosed st op.key acc) := by
  obtain ⟨a1, act, h1, h2, h3, h4, h5⟩ := hc
  rw [h4, lookActive_of_active h1]
  exact lookClosed_resOK hwf h2 h3 h5 _

theorem CStep.own {st : Store} {landed : List Rec} {bl : Option Nat} {i : Nat} {op : COp} {pc : Pc} {born : Store}
    {o : Out} {a : Blob} (hwf : st.WF) (ha : st.active = some a) (hld : Landed st landed) (hb : Sub born st)
    (hc : CInv st landed ⟨op, pc, born⟩) (h : CStep st landed bl i op pc o) :
    CInv (o.eff.store st) (o.eff.landed landed) ⟨op, o.pc, bornAfter st ⟨op, pc, born⟩⟩ := by
  cases h with
  | lookA =>
    refine ⟨a, a, ha, ha, BLe.refl a, rfl, ?_⟩
    show Sub born (hyb st a)
    rw [hyb_self ha]; exact hb
  | lookCR => exact ⟨⟨_, rfl⟩, hc.lookC_resOK hwf⟩
  | lookCC => exact ⟨⟨_, rfl⟩, _, rfl, hc.lookC_resOK hwf⟩
  | lookCW => exact ⟨⟨_, _, _, rfl⟩, hc.lookC_resOK hwf⟩
  | loadOk _ r hr => exact ⟨hc.1, hc.2, fun x hx => by cases hx; exact hr⟩
  | loadTorn _ r hr =>
    -- the index points to `r`, so its bytes have landed
    obtain ⟨q, hq1, _, hq3, hq4⟩ := hc.2.1 nofun
    exact hr (hld r (hq3 ▸ inStore_of_positioned hq1) hq4)
  | loadDel => exact ⟨hc.1, hc.2, nofun⟩
  | loadNone => exact ⟨hc.1, hc.2, nofun⟩
  | chkDup _ res hf =>
    cases res with
    | found x => obtain ⟨q, hq⟩ := hc.2.1 nofun; exact ⟨hc.1, q, x, hq⟩
    | deleted t => cases hf
    | notFound => cases hf
  | land k ts d => intro k' ts' d' ho; cases ho; exact List.mem_cons_self
  | push k ts d a' ha' => exact ⟨mem_positioned_appendActive ha' _, k, ts, d, rfl, rfl⟩
  | delC => exact ⟨_, _, _, rfl⟩
  | unlockB | release | respond => exact hc
  | _ => trivial

theorem CStep.push_landed {st : Store} {landed : List Rec} {bl : Option Nat} {i : Nat} {op : COp} {pc : Pc}
    {born : Store} {o : Out} (hc : CInv st landed ⟨op, pc, born⟩) (h : CStep st landed bl i op pc o) {r : Rec}
    (he : o.eff = .push r) : r ∈ landed := by
  cases h <;> cases he
  exact hc _ _ _ rfl

theorem init_idle {st : Store} {ops : List COp} {i : Nat} {c : Client} (hc : (init st ops).clients[i]? = some c) :
    c.pc = .idle := by
  obtain ⟨op, _, rfl⟩ := List.mem_map.1 (List.mem_of_getElem? hc)
  rfl

theorem inv_init {st : Store} (hwf : st.WF) (ha : ∃ a, st.active = some a) (ops : List COp) :
    Inv (init st ops) where
  wf := hwf
  active := ha
  landed := fun r hr _ => mem_allRecs.2 hr
  born := by
    intro c hc
    obtain ⟨op, _, rfl⟩ := List.mem_map.1 hc
    exact Sub.refl _
  client := by
    intro c hc
    obtain ⟨op, _, rfl⟩ := List.mem_map.1 hc
    trivial

/-- `Inv` goes by its own walk over `Fire`, not through `Reach.induct_client`: that every live record of the store has
    landed needs `CInv` of the client that pushes (`CStep.push_landed`), and `CInv` needs the store well-formed -/
theorem Fire.inv {s s' : CState} {l : Label} (hi : Inv s) (h : Fire s l s') : Inv s' := by
  obtain ⟨a, ha⟩ := hi.active
  cases h with
  | @step i c o hci hs =>
    have hcm : c ∈ s.clients := List.mem_of_getElem? hci
    have hip : InPlace s.store (o.eff.store s.store) := o.eff.inPlace ha
    have hlm := o.eff.landed_mono s.landed
    refine ⟨⟨hip.wf hi.wf, hip.active_some, fun r hr hd => ?_⟩, fun c' hc' => ?_, fun c' hc' => ?_⟩
    · rcases eff_recs o.eff hr with h1 | h1 | h1
      · exact hlm r (hi.landed r h1 hd)
      · exact hlm r (hs.push_landed (hi.client c hcm) h1)
      · rw [h1] at hd; cases hd
    · rcases List.mem_or_eq_of_mem_set hc' with hc' | rfl
      · exact (hi.born c' hc').trans hip.sub
      · exact (bornAfter_sub (hi.born c hcm)).trans hip.sub
    · rcases List.mem_or_eq_of_mem_set hc' with hc' | rfl
      · exact (hi.client c' hc').stable hip hlm
      · exact hs.own hi.wf ha hi.landed (hi.born c hcm) (hi.client c hcm)
  | rotate hall =>
    have hs : Sub s.store s.store.replaceActive := Sub.of_shape (Store.replaceActive_shape _)
    exact ⟨⟨Store.WF_of_shape hi.wf (Store.replaceActive_shape _), replaceActive_active _,
        fun r hr hd => hi.landed r (maint_recs hi.wf (m := .replaceActive) rfl nofun hr) hd⟩,
      fun c hc => (hi.born c hc).trans hs, fun c hc => (hi.client c hc).stable_rot (hall c hc)⟩
  | dump =>
    have hip : InPlace s.store s.store.settle := inPlace_settle ha
    exact ⟨⟨hip.wf hi.wf, hip.active_some, fun r hr hd => hi.landed r (maint_recs hi.wf (m := .settle) rfl nofun hr) hd⟩,
      fun c hc => (hi.born c hc).trans hip.sub, fun c hc => (hi.client c hc).stable hip (fun _ hx => hx)⟩

theorem Reach.induct {s0 : CState} {P : CState → Prop} (h0 : P s0)
    (hs : ∀ {s s' : CState} {l : Label}, Reach s0 s → P s → fire l s = some s' → P s') {s : CState}
    (h : Reach s0 s) : P s := by
  induction h with
  | refl => exact h0
  | step hr hst ih => obtain ⟨l, hl⟩ := hst; exact hs hr ih hl

theorem inv_reach {s0 s : CState} (h0 : Inv s0) (h : Reach s0 s) : Inv s :=
  h.induct h0 (fun _ ih hl => (Fire.of_fire hl).inv ih)

theorem reach_trans {s0 s s' : CState} (h1 : Reach s0 s) (h2 : Reach s s') : Reach s0 s' := by
  induction h2 with
  | refl => exact h1
  | step _ hs ih => exact .step ih hs

theorem isRun_runSched : IsRun (fun s l => fire l s) (fun s ls => runSched ls s) :=
  ⟨fun _ => rfl, fun s l ls => by show runSched (l :: ls) s = _; rw [runSched]; cases fire l s <;> rfl⟩

theorem runSched_reach (sched : List Label) (s0 s s' : CState) (h0 : Reach s0 s)
    (h : runSched sched s = some s') : Reach s0 s' :=
  isRun_runSched.reach (fun _ l _ hr hl => .step hr ⟨l, hl⟩) h0 h

/-! ### what a transition is to the clients that do not take it -/

/-- a transition as the clients that do not take it see it: the trace grows by `l` and the blobs are
    continued in place, unless it is the rotation, which waits until nobody holds the storage lock -/
structure Rely (s s' : CState) (l : List Ev) : Prop where
  trace : s'.trace = l ++ s.trace
  store : (∃ a, s.store.active = some a) → (InPlace s.store s'.store ∧ Ev.rot ∉ l) ∨
    ((∀ c ∈ s.clients, c.pc.holdsS = false) ∧ s'.store = s.store.replaceActive ∧ l = [.rot])

theorem Rely.held {s s' : CState} {l : List Ev} (h : Rely s s' l) (ha : ∃ a, s.store.active = some a) {c : Client}
    (hc : c ∈ s.clients) (hS : c.pc.holdsS = true) : InPlace s.store s'.store ∧ Ev.rot ∉ l :=
  (h.store ha).resolve_right (fun ⟨hall, _⟩ => by rw [hall c hc] at hS; cases hS)

theorem Rely.sub {s s' : CState} {l : List Ev} (h : Rely s s' l) (ha : ∃ a, s.store.active = some a) :
    Sub s.store s'.store :=
  (h.store ha).elim (·.1.sub) (fun ⟨_, e, _⟩ => e ▸ Sub.of_shape (Store.replaceActive_shape _))

/-- every transition is a step (`CStep`) of at most one client; all the others keep their program counter and see
    the transition through `Rely`, and none of the new events is theirs -/
theorem Fire.split {s s' : CState} {lb : Label} (h : Fire s lb s') :
    ∃ l, Rely s s' l ∧ ∀ j cj, s'.clients[j]? = some cj →
      (s.clients[j]? = some cj ∧ ∀ e ∈ l, e.client ≠ some j) ∨
      ∃ c o, s.clients[j]? = some c ∧ CStep s.store s.landed s.blobLock j c.op c.pc o ∧
        cj = ⟨c.op, o.pc, bornAfter s.store c⟩ ∧ l = o.eff.evs j ++ o.evs ∧
        s'.store = o.eff.store s.store := by
  cases h with
  | @step i c o hci hs =>
    refine ⟨_, ⟨rfl, fun ⟨a, ha⟩ => .inl ⟨o.eff.inPlace ha, fun hm => hs.evOK hm⟩⟩, fun j cj hcj => ?_⟩
    rcases getElem?_set_cases hcj with ⟨rfl, rfl⟩ | ⟨hji, hcj⟩
    · exact .inr ⟨c, o, hci, hs, rfl, rfl, rfl⟩
    · exact .inl ⟨hcj, fun e he => (hs.evOK he).client ▸ fun h => hji (Option.some.inj h).symm⟩
  | rotate hall =>
    exact ⟨[.rot], ⟨rfl, fun _ => .inr ⟨hall, rfl, rfl⟩⟩,
      fun j cj hcj => .inl ⟨hcj, fun e he => by cases List.mem_singleton.1 he; nofun⟩⟩
  | dump =>
    exact ⟨[.dump], ⟨rfl, fun ⟨a, ha⟩ => .inl ⟨inPlace_settle ha, by simp⟩⟩,
      fun j cj hcj => .inl ⟨hcj, fun e he => by cases List.mem_singleton.1 he; nofun⟩⟩

/-- OWICKI–GRIES for the clients: a property `P store trace i c` of every client holds in every reachable state
    if it holds of a client not yet invoked, is re-established by the client that steps (`own`) and survives the
    transitions the client does not take (`others`); `J` is whatever is already known of the reachable states -/
theorem Reach.induct_client {st : Store} {ops : List COp} {J : CState → Prop}
    {P : Store → List Ev → Nat → Client → Prop}
    (hJ : ∀ {s}, Reach (init st ops) s → J s) (idle : ∀ i op, P st [] i ⟨op, .idle, st⟩)
    (own : ∀ {s i c o}, J s → s.clients[i]? = some c → CStep s.store s.landed s.blobLock i c.op c.pc o →
      P s.store s.trace i c →
      P (o.eff.store s.store) (o.eff.evs i ++ o.evs ++ s.trace) i ⟨c.op, o.pc, bornAfter s.store c⟩)
    (others : ∀ {s s' l j c}, J s → Rely s s' l → c ∈ s.clients → (∀ e ∈ l, e.client ≠ some j) →
      P s.store s.trace j c → P s'.store (l ++ s.trace) j c)
    {s : CState} (h : Reach (init st ops) s) : ∀ i c, s.clients[i]? = some c → P s.store s.trace i c :=
  h.induct (P := fun s => ∀ i c, s.clients[i]? = some c → P s.store s.trace i c)
    (fun i c hc => by obtain ⟨op, _, rfl⟩ := List.mem_map.1 (List.mem_of_getElem? hc); exact idle i op)
    (fun hr ih hl j cj hcj => by
      obtain ⟨l, hrel, hcl⟩ := (Fire.of_fire hl).split
      rw [hrel.trace]
      rcases hcl j cj hcj with ⟨hc, hne⟩ | ⟨c, o, hc, ho, rfl, rfl, es⟩
      · exact others (hJ hr) hrel (List.mem_of_getElem? hc) hne (ih j cj hc)
      · rw [es]; exact own (hJ hr) hc ho (ih j c hc))

theorem reach_sub {s s' : CState} (hi : Inv s) (h : Reach s s') : Sub s.store s'.store :=
  h.induct (P := fun s' => Sub s.store s'.store) (Sub.refl _) (fun hr ih hl =>
    let ⟨_, hrel, _⟩ := (Fire.of_fire hl).split
    ih.trans (hrel.sub (inv_reach hi hr).active))

/-! ### the trace against store and clients: `TInv` -/

theorem replay_cons (st0 : Store) (e : Ev) (t : List Ev) : replay st0 (e :: t) = Ev.apply (replay st0 t) e := rfl

theorem replay_append (st0 : Store) (l t : List Ev) : replay st0 (l ++ t) = replay (replay st0 t) l := by
  simp [replay, List.foldr_append]

theorem AckedBefore.res_mem {i j : Nat} : ∀ {t : List Ev}, AckedBefore i j t → ∃ r, Ev.res i r ∈ t
  | [], h => by cases h
  | e :: t, h => by
    rcases h with ⟨_, r, hr⟩ | h
    · exact ⟨r, by simp [hr]⟩
    · obtain ⟨r, hr⟩ := AckedBefore.res_mem h
      exact ⟨r, by simp [hr]⟩

theorem ackedBefore_append {i j : Nat} (l t : List Ev) (h : ∀ e ∈ l, ∀ op, e ≠ .inv j op) :
    AckedBefore i j (l ++ t) ↔ AckedBefore i j t := by
  induction l with
  | nil => rfl
  | cons e l ih =>
    have ih := ih (fun x hx => h x (by simp [hx]))
    simp only [List.cons_append, AckedBefore]
    constructor
    · rintro (⟨⟨op, rfl⟩, _⟩ | h')
      · exact absurd rfl (h _ (by simp) op)
      · exact ih.1 h'
    · intro h'; exact Or.inr (ih.2 h')

theorem set_self_of_getElem? {α} {l : List α} {i : Nat} {x : α} (h : l[i]? = some x) : l.set i x = l := by
  obtain ⟨hlt, rfl⟩ := List.getElem?_eq_some_iff.1 h
  exact List.set_getElem_self hlt

/-- the trace part of the invariant, relative to the initial store `st0` and the operations `ops` -/
structure TInv (st0 : Store) (ops : List COp) (s : CState) : Prop where
  replay : s.store = replay st0 s.trace
  opsEq : s.clients.map (·.op) = ops
  inv : ∀ j op, Ev.inv j op ∈ s.trace → ∃ c, s.clients[j]? = some c ∧ c.op = op ∧ c.pc ≠ .idle
  res : ∀ j r, Ev.res j r ∈ s.trace → ∃ c, s.clients[j]? = some c ∧ c.pc = .done r
  push : ∀ j r, Ev.push j r ∈ s.trace → ∃ k ts d, ops[j]? = some (COp.write k ts d) ∧ r = wrec k ts d
  prov : ∀ r, InStore s.store r → r.del = false → InStore st0 r ∨ ∃ j, Ev.push j r ∈ s.trace
  del : ∀ j k ts, ((∃ oip, Ev.delA j k ts oip ∈ s.trace) ∨ Ev.delC j k ts ∈ s.trace) →
    ∃ oip, ops[j]? = some (COp.delete k ts oip)
  acked : ∀ i j ci cj p, AckedBefore i j s.trace → s.clients[i]? = some ci → s.clients[j]? = some cj →
    ci.pc = .done (.wrote (some p)) → p ∈ History.positioned cj.born.history

theorem tinv_init (st : Store) (ops : List COp) : TInv st ops (init st ops) where
  replay := rfl
  opsEq := by simp [init, List.map_map, Function.comp_def]
  inv := by intro j op h; simp [init] at h
  res := by intro j r h; simp [init] at h
  push := by intro j r h; simp [init] at h
  prov := fun r hr _ => Or.inl hr
  del := by intro j k ts h; simp [init] at h
  acked := by intro i j ci cj p h; simp [init, AckedBefore] at h

theorem ops_getElem? {st0 : Store} {ops : List COp} {s : CState} (ht : TInv st0 ops s) {i : Nat} {c : Client}
    (h : s.clients[i]? = some c) : ops[i]? = some c.op := by
  rw [← ht.opsEq, List.getElem?_map, h]; rfl

theorem TInv.worker {st0 : Store} {ops : List COp} {s : CState} (ht : TInv st0 ops s) {e : Ev}
    (he : e = .rot ∨ e = .dump) (hrec : ∀ r, InStore (Ev.apply s.store e) r → InStore s.store r) :
    TInv st0 ops { s with store := Ev.apply s.store e, trace := e :: s.trace } := by
  have hmem : ∀ {x : Ev}, x.client ≠ none → x ∈ e :: s.trace → x ∈ s.trace := fun hx hm =>
    (List.mem_cons.1 hm).resolve_left (by rintro rfl; rcases he with rfl | rfl <;> exact hx rfl)
  exact ⟨by show _ = ConcRW.replay st0 (e :: s.trace); rw [replay_cons, ← ht.replay], ht.opsEq,
    fun j op hj => ht.inv j op (hmem nofun hj), fun j r hj => ht.res j r (hmem nofun hj),
    fun j r hj => ht.push j r (hmem nofun hj),
    fun r hr hd => (ht.prov r (hrec r hr) hd).imp_right (fun ⟨j, h1⟩ => ⟨j, List.mem_cons_of_mem _ h1⟩),
    fun j k ts hj => ht.del j k ts (hj.imp (fun ⟨oip, h⟩ => ⟨oip, hmem nofun h⟩) (hmem nofun)),
    fun i' j ci cj p hab => ht.acked i' j ci cj p
      (hab.resolve_left (fun ⟨⟨_, hop⟩, _⟩ => by rcases he with rfl | rfl <;> cases hop))⟩

theorem tinv_fire {st0 : Store} {ops : List COp} {s s' : CState} {l : Label} (hi : Inv s)
    (ht : TInv st0 ops s) (h : fire l s = some s') : TInv st0 ops s' := by
  obtain ⟨a, ha⟩ := hi.active
  cases Fire.of_fire h with
  | @step i c o hci hs =>
    have hself := getElem?_set_self' { op := c.op, pc := o.pc, born := bornAfter s.store c } hci
    refine ⟨?_, ?_, ?_, ?_, ?_, ?_, ?_, ?_⟩
    · show o.eff.store s.store = replay st0 (o.eff.evs i ++ o.evs ++ s.trace)
      rw [replay_append, ← ht.replay, hs.replay_new]
    · show (s.clients.set i _).map (·.op) = ops
      rw [List.map_set, ← ht.opsEq]
      exact set_self_of_getElem? (by rw [List.getElem?_map, hci]; rfl)
    · intro j op hj
      rcases List.mem_append.1 hj with hj | hj
      · obtain ⟨rfl, rfl, _⟩ := hs.evOK hj
        exact ⟨_, hself, rfl, hs.pc_ne_idle⟩
      · obtain ⟨c0, h0, h1, h2⟩ := ht.inv j op hj
        by_cases hji : j = i
        · subst hji
          rw [hci] at h0; cases h0
          exact ⟨_, hself, h1, hs.pc_ne_idle⟩
        · exact ⟨c0, (List.getElem?_set_ne (Ne.symm hji)).trans h0, h1, h2⟩
    · intro j r hj
      rcases List.mem_append.1 hj with hj | hj
      · obtain ⟨rfl, _, hd⟩ := hs.evOK hj
        exact ⟨_, hself, hd⟩
      · obtain ⟨c0, h0, h1⟩ := ht.res j r hj
        by_cases hji : j = i
        · subst hji
          rw [hci] at h0; cases h0
          exact absurd h1 (hs.not_done r)
        · exact ⟨c0, (List.getElem?_set_ne (Ne.symm hji)).trans h0, h1⟩
    · intro j r hj
      rcases List.mem_append.1 hj with hj | hj
      · obtain ⟨rfl, _, k, ts, d, h1, h2⟩ := hs.evOK hj
        exact ⟨k, ts, d, by rw [ops_getElem? ht hci, h1], h2⟩
      · exact ht.push j r hj
    · intro r hr hd
      rcases eff_recs o.eff hr with h1 | h1 | h1
      · rcases ht.prov r h1 hd with h2 | ⟨j, h2⟩
        · exact Or.inl h2
        · exact Or.inr ⟨j, List.mem_append_right _ h2⟩
      · exact Or.inr ⟨i, List.mem_append_left _
          (List.mem_append_left _ (by rw [h1]; exact List.mem_singleton.2 rfl))⟩
      · rw [h1] at hd; cases hd
    · intro j k ts hj
      rcases hj with ⟨oip, hj⟩ | hj <;> rcases List.mem_append.1 hj with hj | hj
      · obtain ⟨rfl, h1⟩ := hs.evOK hj
        exact ⟨oip, by rw [ops_getElem? ht hci, h1]⟩
      · exact ht.del j k ts (Or.inl ⟨oip, hj⟩)
      · obtain ⟨rfl, oip, h1⟩ := hs.evOK hj
        exact ⟨oip, by rw [ops_getElem? ht hci, h1]⟩
      · exact ht.del j k ts (Or.inr hj)
    · intro i' j ci cj p hab hci' hcj hdone
      -- `i'` had finished before this step, so it is not the client that moves
      obtain ⟨r, hr⟩ : ∃ r, Ev.res i' r ∈ s.trace := by
        rcases hs.new with h0 | ⟨e, h0, _⟩ <;> rw [h0] at hab
        · exact hab.res_mem
        · rcases hab with ⟨_, hr⟩ | hab
          · exact hr
          · exact hab.res_mem
      obtain ⟨c0, h0, h1⟩ := ht.res i' r hr
      rcases getElem?_set_cases hci' with ⟨rfl, _⟩ | ⟨_, hc'⟩
      · rw [hci] at h0; cases h0
        exact absurd h1 (hs.not_done r)
      by_cases hidle : c.pc = .idle
      · rcases getElem?_set_cases hcj with ⟨rfl, rfl⟩ | ⟨hji, hcj'⟩
        · -- `j` is invoked now: it is born with the present store, which holds what `i'` stored
          show p ∈ History.positioned (bornAfter s.store c).history
          rw [bornAfter_idle hidle]
          exact (done_respOK hi hc' hdone).1
        · rw [hidle] at hs
          cases hs.of_idle
          rcases hab with ⟨⟨op, hop⟩, _⟩ | hab
          · cases hop; exact absurd rfl hji
          · exact ht.acked i' j ci cj p hab hc' hcj' hdone
      · -- any other step of `i` emits no invocation
        rw [ackedBefore_append _ _ (fun e he op hx => hidle (hx ▸ hs.evOK he).2.2)] at hab
        rcases getElem?_set_cases hcj with ⟨rfl, rfl⟩ | ⟨_, hcj⟩
        · show p ∈ History.positioned (bornAfter s.store c).history
          rw [bornAfter_not_idle hidle]
          exact ht.acked i' j ci c p hab hc' hci hdone
        · exact ht.acked i' j ci cj p hab hc' hcj hdone
  | rotate _ => exact ht.worker (Or.inl rfl) (fun _ => maint_recs hi.wf (m := .replaceActive) rfl nofun)
  | dump => exact ht.worker (Or.inr rfl) (fun _ => maint_recs hi.wf (m := .settle) rfl nofun)

theorem tinv_reach {st : Store} {ops : List COp} {s : CState} (hwf : st.WF) (ha : ∃ a, st.active = some a)
    (h : Reach (init st ops) s) : Inv s ∧ TInv st ops s :=
  h.induct (P := fun s => Inv s ∧ TInv st ops s) ⟨inv_init hwf ha ops, tinv_init st ops⟩
    (fun _ ih hl => ⟨(Fire.of_fire hl).inv ih.1, tinv_fire ih.1 ih.2 hl⟩)

/-! ### the replay of the trace as a run of the sequential model -/

theorem write_eq_appendActive {s : Store} {a : Blob} (ha : s.active = some a) (k : Key) (ts : Nat) (d : Data)
    (h : s.allowDup = true ∨ (s.getLatestEntry k none).isFound = false) :
    s.write k ts none d = appendActive s (wrec k ts d) := by
  simp only [Store.write, Store.ensureActive_of_some ha, appendActive, ha]
  rcases h with h | h
  · simp [h, wrec]
  · simp [h, wrec]

theorem delete_eq_phases {s : Store} {a : Blob} (ha : s.active = some a) (k : Key) (ts : Nat) (oip : Bool) :
    (s.delete k ts none oip).1 = (delClosed (delActive s k ts oip).1 k ts).1 := by
  simp only [Store.delete, Store.ensureActive_of_some ha, ite_self, ha, delActive, delClosed]

theorem delete_count_phases {s : Store} {a : Blob} (ha : s.active = some a) (k : Key) (ts : Nat) (oip : Bool) :
    (s.delete k ts none oip).2 = (delActive s k ts oip).2 + (delClosed (delActive s k ts oip).1 k ts).2 := by
  simp only [Store.delete, Store.ensureActive_of_some ha, ite_self, ha, delActive, delClosed]
  rfl

/-- the events of `l` (oldest first) applied to `st` -/
def applyAll (st : Store) (l : List Ev) : Store := l.foldl Ev.apply st

theorem replay_eq_muts (st : Store) (tr : List Ev) : replay st tr = applyAll st (muts tr) := by
  rw [muts, applyAll, foldl_filter_neutral _ _ _ _ fun e _ hm _ => by cases e <;> simp [Ev.mutates] at hm <;> rfl]
  simp [replay, List.foldl_reverse]

/-- a chronological list of mutations whose delete phases are adjacent is the run of the sequential model on
    the operations it stands for -/
theorem applyAll_eq_run : ∀ (l : List Ev) (st : Store) (seq : List Op),
    coalesce l = some seq → NoSkip st seq → (∃ a, st.active = some a) →
    (∀ i r, Ev.push i r ∈ l → r = wrec r.key r.ts r.data) →
    applyAll st l = st.run seq := by
  intro l
  fun_induction coalesce l with
  | case1 => intro st seq h _ _ _; cases h; rfl
  | case2 i r t ih =>
    intro st seq h hns ⟨a, ha⟩ hp
    obtain ⟨seq', hc, rfl⟩ := Option.map_eq_some_iff.1 h
    have hw : st.apply (.write r.key r.ts none r.data) = appendActive st r := by
      show st.write r.key r.ts none r.data = _
      rw [write_eq_appendActive ha _ _ _ hns.1, ← hp i r List.mem_cons_self]
    show applyAll (appendActive st r) t = (st.apply (.write r.key r.ts none r.data)).run seq'
    rw [hw]
    exact ih _ _ hc (hw ▸ hns.2) (Eff.inPlace (.push r) ha).active_some
      (fun i' r' h' => hp i' r' (List.mem_cons_of_mem _ h'))
  | case3 i k ts oip j k' ts' t hcond ih =>
    intro st seq h hns ⟨a, ha⟩ hp
    obtain ⟨rfl, rfl, rfl⟩ := hcond
    obtain ⟨seq', hc, rfl⟩ := Option.map_eq_some_iff.1 h
    have hw : st.apply (.delete k ts none oip) = (delClosed (delActive st k ts oip).1 k ts).1 :=
      delete_eq_phases ha k ts oip
    show applyAll (delClosed (delActive st k ts oip).1 k ts).1 t = (st.apply (.delete k ts none oip)).run seq'
    rw [hw]
    obtain ⟨a1, ha1⟩ := (Eff.inPlace (.delA k ts oip) ha).active_some
    exact ih _ _ hc (hw ▸ hns.2) (Eff.inPlace (.delC k ts) ha1).active_some
      (fun i' r' h' => hp i' r' (List.mem_cons_of_mem _ (List.mem_cons_of_mem _ h')))
  | case4 i k ts oip j k' ts' t hcond => intro st seq h; cases h
  | case5 t ih =>
    intro st seq h hns _ hp
    obtain ⟨seq', hc, rfl⟩ := Option.map_eq_some_iff.1 h
    exact ih _ _ hc hns.2 (replaceActive_active st) (fun i' r' h' => hp i' r' (List.mem_cons_of_mem _ h'))
  | case6 t ih =>
    intro st seq h hns ⟨a, ha⟩ hp
    obtain ⟨seq', hc, rfl⟩ := Option.map_eq_some_iff.1 h
    exact ih _ _ hc hns.2 (inPlace_settle ha).active_some (fun i' r' h' => hp i' r' (List.mem_cons_of_mem _ h'))
  | case7 l h1 h2 h3 h4 h5 => intro st seq h; cases h

theorem noSkip_of_allowDup : ∀ (seq : List Op) (st : Store), st.allowDup = true → NoSkip st seq
  | [], _, _ => trivial
  | op :: seq, st, hd =>
    ⟨by cases op <;> first | exact Or.inl hd | trivial,
      noSkip_of_allowDup seq _ ((Store.apply_allowDup st op).trans hd)⟩

theorem coalesce_of_noDel : ∀ l : List Ev, (∀ e ∈ l, e.mutates = true) →
    (∀ e ∈ l, ∀ i k ts oip, e ≠ .delA i k ts oip) → (∀ e ∈ l, ∀ i k ts, e ≠ .delC i k ts) →
    ∃ seq, coalesce l = some seq
  | [], _, _, _ => ⟨[], rfl⟩
  | e :: t, hm, hA, hC => by
    obtain ⟨seq, hs⟩ := coalesce_of_noDel t (fun x hx => hm x (by simp [hx])) (fun x hx => hA x (by simp [hx]))
      (fun x hx => hC x (by simp [hx]))
    have h1 := hm e (by simp)
    cases e with
    | push i r => exact ⟨Op.write r.key r.ts none r.data :: seq, by simp [coalesce, hs]⟩
    | rot => exact ⟨Op.replaceActive :: seq, by simp [coalesce, hs]⟩
    | dump => exact ⟨Op.settle :: seq, by simp [coalesce, hs]⟩
    | delA i k ts oip => exact absurd rfl (hA _ (by simp) i k ts oip)
    | delC i k ts => exact absurd rfl (hC _ (by simp) i k ts)
    | inv i op => simp [Ev.mutates] at h1
    | res i r => simp [Ev.mutates] at h1
    | look i => simp [Ev.mutates] at h1

/-! ### the events of one client in the trace: `TraceOK`, `HCInv` -/

/-- shape of a trace (newest first): a response comes after the linearization event of its operation, an
    invocation is the first event of its client -/
def TraceOK : List Ev → Prop
  | [] => True
  | e :: t => (∀ i r, e = .res i r → ∃ x ∈ t, Ev.linOf i x = true) ∧
      (∀ j op, e = .inv j op → ∀ x ∈ t, x.client ≠ some j) ∧ TraceOK t

theorem linOf_client {i : Nat} {x : Ev} (h : Ev.linOf i x = true) : x.client = some i := by
  cases x <;> simp [Ev.linOf] at h <;> simp [Ev.client, h]

theorem TraceOK.res_lin : ∀ {t : List Ev}, TraceOK t → ∀ {i r}, Ev.res i r ∈ t → ∃ x ∈ t, Ev.linOf i x = true
  | [], _, _, _, h => by cases h
  | e :: t, hok, i, r, h => by
    rcases List.mem_cons.1 h with h | h
    · obtain ⟨x, hx, hl⟩ := hok.1 i r h.symm
      exact ⟨x, List.mem_cons_of_mem _ hx, hl⟩
    · obtain ⟨x, hx, hl⟩ := TraceOK.res_lin hok.2.2 h
      exact ⟨x, List.mem_cons_of_mem _ hx, hl⟩

/-- real-time order is respected by the order of the linearization events -/
theorem ackedBefore_linBefore {i j : Nat} : ∀ {t : List Ev}, TraceOK t → (∃ y ∈ t, Ev.linOf j y = true) →
    AckedBefore i j t → LinBefore i j t
  | [], _, _, h => by cases h
  | e :: t, hok, hj, h => by
    rcases h with ⟨⟨op, rfl⟩, _⟩ | h
    · obtain ⟨y, hy, hl⟩ := hj
      rcases List.mem_cons.1 hy with rfl | hy
      · simp [Ev.linOf] at hl
      · exact absurd (linOf_client hl) (hok.2.1 j op rfl y hy)
    · by_cases hjt : ∃ y ∈ t, Ev.linOf j y = true
      · exact Or.inr (ackedBefore_linBefore hok.2.2 hjt h)
      · obtain ⟨y, hy, hl⟩ := hj
        rcases List.mem_cons.1 hy with rfl | hy
        · obtain ⟨r, hr⟩ := h.res_mem
          exact Or.inl ⟨hl, hok.2.2.res_lin hr⟩
        · exact absurd ⟨y, hy, hl⟩ hjt

/-- what the trace holds of one client, by its program counter -/
structure HCInv (tr : List Ev) (i : Nat) (c : Client) : Prop where
  lin : c.pc.hasLin = true → ∃ x ∈ tr, Ev.linOf i x = true
  pushed : ∀ p, c.pc.place = some p → Ev.push i p.r ∈ tr
  fresh : c.pc = .idle → ∀ x ∈ tr, x.client ≠ some i
  noLook : c.pc.preLook = true → Ev.look i ∉ tr

theorem HCInv.stable {tr l : List Ev} {i : Nat} {c : Client} (hl : ∀ e ∈ l, e.client ≠ some i)
    (h : HCInv tr i c) : HCInv (l ++ tr) i c :=
  ⟨fun hp => let ⟨x, hx, h2⟩ := h.lin hp; ⟨x, List.mem_append_right _ hx, h2⟩,
    fun p hp => List.mem_append_right _ (h.pushed p hp),
    fun hp x hx => (List.mem_append.1 hx).elim (hl x) (h.fresh hp x),
    fun hp hx => (List.mem_append.1 hx).elim (fun hx => hl _ hx rfl) (h.noLook hp)⟩

theorem CStep.hist {st : Store} {landed : List Rec} {bl : Option Nat} {i : Nat} {op : COp} {pc : Pc}
    {born born' : Store} {o : Out} {tr : List Ev} (h : CStep st landed bl i op pc o)
    (hh : HCInv tr i ⟨op, pc, born⟩) : HCInv (o.eff.evs i ++ o.evs ++ tr) i ⟨op, o.pc, born'⟩ := by
  refine ⟨fun hl => ?_, fun p hp => ?_, fun hidle => absurd hidle h.pc_ne_idle, fun hpre hx => ?_⟩
  · rcases h.hasLin hl with h1 | ⟨x, hx, h1⟩
    · obtain ⟨x, hx, h2⟩ := hh.lin h1
      exact ⟨x, List.mem_append_right _ hx, h2⟩
    · exact ⟨x, List.mem_append_left _ hx, h1⟩
  · rcases h.place hp with h1 | h1
    · exact List.mem_append_right _ (hh.pushed p h1)
    · exact List.mem_append_left _ (List.mem_append_left _ (by rw [h1]; exact List.mem_singleton.2 rfl))
  · obtain ⟨h1, h2⟩ := h.preLook hpre
    rcases List.mem_append.1 hx with hx | hx
    · exact h2 (h.evOK hx).2
    · exact hh.noLook h1 hx

theorem hcinv_reach {st : Store} {ops : List COp} {s : CState} (h : Reach (init st ops) s) :
    ∀ i c, s.clients[i]? = some c → HCInv s.trace i c :=
  h.induct_client (J := fun _ => True) (P := fun _ tr i c => HCInv tr i c) (fun _ => trivial)
    (fun _ _ => ⟨nofun, nofun, fun _ _ hx => (nomatch hx), fun _ hx => (nomatch hx)⟩)
    (fun _ _ ho hh => ho.hist hh) (fun _ _ _ hne hh => hh.stable hne)

/-- the trace is well-shaped and holds at most one look-up per client -/
theorem traceOK_reach {st : Store} {ops : List COp} {s : CState} (h : Reach (init st ops) s) :
    TraceOK s.trace ∧ ∀ i, s.trace.count (.look i) ≤ 1 :=
  h.induct (P := fun s => TraceOK s.trace ∧ ∀ i, s.trace.count (.look i) ≤ 1)
    (by exact ⟨trivial, fun _ => Nat.zero_le 1⟩)
    (@fun s _ _ hr ih hl => by
      cases Fire.of_fire hl with
      | @step i c o hci hs =>
        have hh := hcinv_reach hr i c hci
        show TraceOK (o.eff.evs i ++ o.evs ++ s.trace) ∧
          ∀ j, List.count (Ev.look j) (o.eff.evs i ++ o.evs ++ s.trace) ≤ 1
        rcases hs.new with h0 | ⟨e, h0, hok⟩ <;> rw [h0]
        · exact ih
        · refine ⟨⟨?_, ?_, ih.1⟩, fun j => ?_⟩
          · rintro i' r rfl
            obtain ⟨rfl, hret, _⟩ := hok
            exact hh.lin (by rw [hret]; rfl)
          · rintro j op rfl
            obtain ⟨rfl, _, hidle⟩ := hok
            exact hh.fresh hidle
          · by_cases he : e = .look j
            · -- the first look-up of `i`: none before
              subst he
              obtain ⟨rfl, hpc⟩ := hok
              rw [List.singleton_append, List.count_cons_self,
                List.count_eq_zero.2 (hh.noLook (by rw [hpc]; rfl))]
              exact Nat.le_refl 1
            · rw [List.singleton_append, List.count_cons_of_ne he]
              exact ih.2 j
      | rotate _ =>
        exact ⟨⟨nofun, nofun, ih.1⟩, fun j => (List.count_cons_of_ne (a := Ev.look j) (b := Ev.rot) nofun).symm ▸ ih.2 j⟩
      | dump =>
        exact ⟨⟨nofun, nofun, ih.1⟩, fun j => (List.count_cons_of_ne (a := Ev.look j) (b := Ev.dump) nofun).symm ▸ ih.2 j⟩)

/-! ### answers of the sequential model at the look-up event: `SeqRes`, `DCInv` -/

theorem getLatestEntry_congr {b b' : Blob} (h : b.hist = b'.hist) (k : Key) :
    b.getLatestEntry k none = b'.getLatestEntry k none := by
  have hr : b.recs = b'.recs := congrArg Prod.snd h
  simp [Blob.getLatestEntry, Blob.getLatest, Blob.vec, hr]

theorem foldl_latest_congr (k : Key) : ∀ (l l' : List Blob) (acc : ReadResult Rec),
    l.map Blob.hist = l'.map Blob.hist →
    l.foldl (fun acc b => acc.latest (b.getLatestEntry k none)) acc =
      l'.foldl (fun acc b => acc.latest (b.getLatestEntry k none)) acc
  | [], [], _, _ => rfl
  | [], _ :: _, _, h => by simp at h
  | _ :: _, [], _, h => by simp at h
  | b :: l, b' :: l', acc, h => by
    simp only [List.map_cons, List.cons.injEq] at h
    simp only [List.foldl_cons, getLatestEntry_congr h.1]
    exact foldl_latest_congr k l l' _ h.2

theorem lookClosed_congr {a b : Store} (h : a.closed.map Blob.hist = b.closed.map Blob.hist) (k : Key)
    (acc : ReadResult Rec) : lookClosed a k acc = lookClosed b k acc := by
  unfold lookClosed
  apply foldl_latest_congr
  rw [List.map_reverse, List.map_reverse, h]

theorem Eff.closed_hist (e : Eff) (st : Store) (hne : ∀ k ts, e ≠ .delC k ts) :
    (e.store st).closed.map Blob.hist = st.closed.map Blob.hist := by
  rw [e.store_eq, closed_mapBlobs, List.map_map]
  cases e with
  | delC k ts => exact absurd rfl (hne k ts)
  | _ => rfl

theorem settle_closed_hist (st : Store) : st.settle.closed.map Blob.hist = st.closed.map Blob.hist := by
  rw [settle_eq, closed_mapBlobs, List.map_map]
  apply List.map_congr_left
  intro b _
  simp only [Function.comp]
  split <;> rfl

/-- the answer `res` is the answer of the sequential model at the client's look-up event -/
def SeqRes (st0 : Store) (tr : List Ev) (i : Nat) (k : Key) (res : ReadResult Rec) : Prop :=
  ∃ l1 past, tr = l1 ++ Ev.look i :: past ∧ res = (replay st0 past).getLatestEntry k none

theorem SeqRes.mono {st0 : Store} {tr : List Ev} {i : Nat} {k : Key} {res : ReadResult Rec} (l : List Ev)
    (h : SeqRes st0 tr i k res) : SeqRes st0 (l ++ tr) i k res := by
  obtain ⟨l1, past, h1, h2⟩ := h
  exact ⟨l ++ l1, past, by rw [h1, List.append_assoc], h2⟩

def SeqResp (st0 : Store) (tr : List Ev) (i : Nat) (k : Key) : Resp → Prop
  | .value res => SeqRes st0 tr i k res
  | .has x => ∃ res, x = res.map (·.ts) ∧ SeqRes st0 tr i k res
  | .wrote none => ∃ res, res.isFound = true ∧ SeqRes st0 tr i k res
  | _ => True

theorem SeqResp.mono {st0 : Store} {tr : List Ev} {i : Nat} {k : Key} {r : Resp} (l : List Ev)
    (h : SeqResp st0 tr i k r) : SeqResp st0 (l ++ tr) i k r := by
  cases r with
  | value res => exact SeqRes.mono l h
  | has x => obtain ⟨res, h1, h2⟩ := h; exact ⟨res, h1, h2.mono l⟩
  | wrote p =>
    cases p with
    | none => obtain ⟨res, h1, h2⟩ := h; exact ⟨res, h1, h2.mono l⟩
    | some p => trivial
  | torn => trivial
  | deleted n => trivial

/-- delete-free systems: what a client knows about its look-up.  Nothing establishes it along `Reach` here: the
    delete-free answers of `C08.linearizable_partial` come from `RCInv` and `TwoPh.seqRes`. -/
def DCInv (st0 st : Store) (tr : List Ev) (i : Nat) (c : Client) : Prop :=
  match c.pc with
  | .lookC _ snap =>
    (∃ l1 past, tr = l1 ++ Ev.look i :: past ∧ snap = replay st0 past) ∧
      snap.closed.map Blob.hist = st.closed.map Blob.hist
  | .load res => SeqRes st0 tr i c.op.key res
  | .chk res => SeqRes st0 tr i c.op.key res
  | .rel r => SeqResp st0 tr i c.op.key r
  | .ret r => SeqResp st0 tr i c.op.key r
  | .done r => SeqResp st0 tr i c.op.key r
  | _ => True

theorem DCInv.stable {st0 st st' : Store} {tr : List Ev} {i : Nat} {c : Client} (l : List Ev)
    (hcl : c.pc.holdsS = true → st'.closed.map Blob.hist = st.closed.map Blob.hist)
    (h : DCInv st0 st tr i c) : DCInv st0 st' (l ++ tr) i c := by
  obtain ⟨op, pc, born⟩ := c
  cases pc with
  | lookC acc snap =>
    obtain ⟨⟨l1, past, h1, h2⟩, h3⟩ := h
    exact ⟨⟨l ++ l1, past, by rw [h1, List.append_assoc], h2⟩, h3.trans (hcl rfl).symm⟩
  | load res => exact SeqRes.mono l h
  | chk res => exact SeqRes.mono l h
  | rel r => exact SeqResp.mono l h
  | ret r => exact SeqResp.mono l h
  | done r => exact SeqResp.mono l h
  | _ => trivial

/-! ### the blob lock and enabledness: `Typed`, `BInv` -/

/-- the program counter fits the operation -/
def Typed (c : Client) : Prop :=
  match c.pc with
  | .chk _ | .wStart | .wLocked | .wBlob | .wReserved | .wWritten | .wPushed _ => ∃ k ts d, c.op = .write k ts d
  | .dActive | .dClosed _ => ∃ k ts oip, c.op = .delete k ts oip
  | .lookA | .lookC _ _ => c.op.isDelete = false
  | _ => True

theorem CStep.typed {st : Store} {landed : List Rec} {bl : Option Nat} {i : Nat} {op : COp} {pc : Pc} {o : Out}
    {b b' : Store} (h : CStep st landed bl i op pc o) (ht : Typed ⟨op, pc, b⟩) : Typed ⟨op, o.pc, b'⟩ := by
  cases h with
  | startDup | lookCW | land | push | startD | delA => exact ⟨_, _, _, rfl⟩
  | startChk | startR | startC => rfl
  | lookA | chkNew | wStart | lockB | reserve => exact ht
  | _ => trivial

/-- a client that is not finished can move unless it waits for the blob lock -/
theorem cstep_enabled {st : Store} {landed : List Rec} {bl : Option Nat} {i : Nat} {c : Client} {a : Blob}
    (ht : Typed c) (ha : st.active = some a) (hnd : ∀ r, c.pc ≠ .done r)
    (hb : bl = none ∨ (c.pc ≠ .wLocked ∧ c.pc ≠ .dActive)) :
    ∃ o, cstep st landed bl i c = some o := by
  obtain ⟨op, pc, born⟩ := c
  have hbl : pc = .wLocked ∨ pc = .dActive → bl = none := fun h =>
    hb.resolve_right (fun h' => h.elim h'.1 h'.2)
  cases pc with
  | start => cases op <;> exact ⟨_, rfl⟩
  | lookC acc snap => cases op <;> first | exact ⟨_, rfl⟩ | cases ht
  | load res => cases res <;> exact ⟨_, rfl⟩
  | wLocked => cases hbl (Or.inl rfl); exact ⟨_, rfl⟩
  | wReserved => obtain ⟨k, ts, d, rfl⟩ := ht; exact ⟨_, rfl⟩
  | wWritten => obtain ⟨k, ts, d, rfl⟩ := ht; simp only [cstep, ha]; exact ⟨_, rfl⟩
  | dActive => obtain ⟨k, ts, oip, rfl⟩ := ht; cases hbl (Or.inr rfl); exact ⟨_, rfl⟩
  | dClosed n => obtain ⟨k, ts, oip, rfl⟩ := ht; exact ⟨_, rfl⟩
  | done r => exact absurd rfl (hnd r)
  | _ => exact ⟨_, rfl⟩

/-- the blob lock is held by exactly the client inside `Blob::write`'s critical section, and program counters
    fit the operations -/
structure BInv (s : CState) : Prop where
  typed : ∀ c ∈ s.clients, Typed c
  holder : ∀ x, s.blobLock = some x → ∃ c, s.clients[x]? = some c ∧ c.pc.holdsB = true
  inside : ∀ i c, s.clients[i]? = some c → c.pc.holdsB = true → s.blobLock = some i

theorem BInv.excl {s : CState} (hb : BInv s) {i j : Nat} {ci cj : Client} (hi : s.clients[i]? = some ci)
    (hbi : ci.pc.holdsB = true) (hj : s.clients[j]? = some cj) (hbj : cj.pc.holdsB = true) : j = i :=
  Option.some.inj ((hb.inside i ci hi hbi).symm.trans (hb.inside j cj hj hbj)) |>.symm

theorem binv_init (st : Store) (ops : List COp) : BInv (init st ops) where
  typed := by
    intro c hc
    obtain ⟨op, _, rfl⟩ := List.mem_map.1 hc
    trivial
  holder := by intro x h; cases h
  inside := by intro i c hc hb; rw [init_idle hc] at hb; cases hb

theorem binv_fire {s s' : CState} {l : Label} (hb : BInv s) (h : fire l s = some s') : BInv s' := by
  cases Fire.of_fire h with
  | @step i c o hci hs =>
    have hself := getElem?_set_self' { op := c.op, pc := o.pc, born := bornAfter s.store c } hci
    refine ⟨fun c' hc' => ?_, ?_, ?_⟩
    · rcases List.mem_or_eq_of_mem_set hc' with hc' | rfl
      · exact hb.typed c' hc'
      · exact hs.typed (hb.typed c (List.mem_of_getElem? hci))
    all_goals
      show ∀ _, _
      dsimp only
      rcases hs.lock with ⟨_, h2, h3, h4⟩ | ⟨h1, h2, h4⟩ | ⟨h2, h4⟩ <;> rw [h4]
    · -- `i` takes the lock
      rintro x ⟨⟩
      exact ⟨_, hself, h2⟩
    · rintro x ⟨⟩
    · intro x hx
      obtain ⟨cx, hcx, hbx⟩ := hb.holder x hx
      by_cases hxi : x = i
      · subst hxi
        rw [hci] at hcx; cases hcx
        exact ⟨_, hself, h2.trans hbx⟩
      · exact ⟨cx, (List.getElem?_set_ne (Ne.symm hxi)).trans hcx, hbx⟩
    · -- `i` takes the lock: nobody was inside
      intro j cj hcj hbj
      rcases getElem?_set_cases hcj with ⟨rfl, _⟩ | ⟨_, hcj⟩
      · rfl
      · have := hb.inside j cj hcj hbj
        rw [h3] at this; cases this
    · -- `i` leaves: it was the one inside
      intro j cj hcj hbj
      rcases getElem?_set_cases hcj with ⟨rfl, rfl⟩ | ⟨hji, hcj⟩
      · rw [h2] at hbj; cases hbj
      · have hj := hb.inside j cj hcj hbj
        rw [hb.inside i c hci h1] at hj
        exact absurd (Option.some.inj hj).symm hji
    · intro j cj hcj hbj
      rcases getElem?_set_cases hcj with ⟨rfl, rfl⟩ | ⟨_, hcj⟩
      · exact hb.inside j c hci (h2 ▸ hbj)
      · exact hb.inside j cj hcj hbj
  | rotate _ => exact ⟨hb.typed, hb.holder, hb.inside⟩
  | dump => exact ⟨hb.typed, hb.holder, hb.inside⟩

theorem binv_reach {st : Store} {ops : List COp} {s : CState} (h : Reach (init st ops) s) : BInv s :=
  h.induct (binv_init st ops) (fun _ ih hl => binv_fire ih hl)

theorem fire_step_of_cstep {s : CState} {i : Nat} {c : Client} {o : Out} (hc : s.clients[i]? = some c)
    (ho : cstep s.store s.landed s.blobLock i c = some o) : ∃ s', fire (.step i) s = some s' := by
  simp [fire, hc, ho]

/-! ### the step bound -/

def measure (s : CState) : Nat := (s.clients.map (·.pc.weight)).sum

def Label.isStep : Label → Bool
  | .step _ => true
  | _ => false

theorem Fire.measure {s s' : CState} {l : Label} (h : Fire s l s') :
    (if l.isStep then 1 else 0) + measure s' ≤ measure s := by
  cases h with
  | @step i c o hci hs =>
    have h1 := sum_map_set (fun c => c.pc.weight) { op := c.op, pc := o.pc, born := bornAfter s.store c } hci
    dsimp only at h1
    have := hs.weight_lt
    show 1 + (List.map _ (s.clients.set i _)).sum ≤ (List.map _ s.clients).sum
    omega
  | rotate _ => exact Nat.le_of_eq (Nat.zero_add _)
  | dump => exact Nat.le_of_eq (Nat.zero_add _)

theorem runSched_measure : ∀ (sched : List Label) (s s' : CState), runSched sched s = some s' →
    (sched.filter Label.isStep).length + measure s' ≤ measure s
  | [], s, s', h => by cases h; simp
  | l :: ls, s, s', h => by
    obtain ⟨s1, hf, h⟩ := isRun_runSched.cons_some h
    have ih := runSched_measure ls s1 s' h
    have hm := (Fire.of_fire hf).measure
    rw [List.filter_cons]
    split at hm <;> simp only [*, List.length_cons, if_true, if_false, Bool.false_eq_true] <;> omega

theorem measure_init (st : Store) (ops : List COp) : measure (init st ops) = 17 * ops.length := by
  have h : ∀ l : List COp,
      ((l.map (fun op => ({ op := op, pc := .idle, born := st } : Client))).map (·.pc.weight)).sum =
        17 * l.length := by
    intro l
    induction l with
    | nil => rfl
    | cons op l ih =>
      simp only [List.map_cons, List.sum_cons, List.length_cons, ih]
      show 17 + _ = _
      omega
  exact h ops

end ConcRW
end Pearl

