import Pearl.Proofs.ToolsLemmas
import Pearl.Proofs.BlobDemo
/-
Evaluated facts about the demonstration files of C16: the hypotheses of the C16 theorems for `C05.recs4`,
a cut position, the form in which a witness of the shape "three facts and `∃ out, tool file = .ok out ∧ …`"
is decided, and the file `C16.oddFile` with the checksum of its one header.
-/
namespace Pearl

theorem recs4_hyps : (blobBytes 3 C05.recs4).length = 327 ∧ (blobBytes 3 C05.recs4).length < 2 ^ 64 ∧
    ∀ x ∈ C05.recs4, x.1.ts < 2 ^ 64 := by
  rw [BlobDemo.blobBytes_recs4_length]
  decide

/-- record 1 occupies 104 .. 191 -/
theorem recs4_cut : CutIn 3 C05.recs4 1 150 := by
  simp only [CutIn, blobBytes_length]
  decide

/-- three decidable facts and `∃ a, x = .ok a ∧ p a` about the same file in a form that `decide` evaluates as
    one conjunction: `x` is computed once and `p` tested on its value, and the kernel reuses what the
    facts share -/
theorem and_exists_ok_of_decide {ε α : Type} {A B C : Prop} {x : Except ε α} {p : α → Prop}
    [DecidablePred p] (h : A ∧ B ∧ C ∧ (x.toOption.any fun a => decide (p a)) = true) :
    A ∧ B ∧ C ∧ ∃ a, x = .ok a ∧ p a := by
  obtain ⟨h1, h2, h3, h4⟩ := h
  refine ⟨h1, h2, h3, ?_⟩
  cases x with
  | error e => cases h4
  | ok a => exact ⟨a, rfl, of_decide_eq_true h4⟩

namespace C16

/-- a record that the storage accepts, whose meta region carries a trailing byte after the (empty) map -/
def oddHdr : RecHeader := (RecHeader.new [0, 0, 7] 5 9 3 (crc32c [1, 2, 3])).final 20
def oddFile : List UInt8 := serBlobHeader ++ (serHeader oddHdr ++ ((le64 0 ++ [0xFF]) ++ [1, 2, 3]))

theorem oddHdr_eq : oddHdr =
    { RecHeader.new [0, 0, 7] 5 9 3 4046516766 with blobOffset := 20, headerChecksum := 3037443484 } := by
  decide +kernel

end C16

end Pearl
