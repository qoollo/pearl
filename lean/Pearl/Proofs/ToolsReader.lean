import Pearl.Model.Tools
import Pearl.Proofs.BlobProduced
import Pearl.Proofs.ListLemmas
/-
The tools' reader (C16), one call at a time, in the order of the file: `read_single_record` on a record-shaped
region (`readSingleRecord_region`) and at the end of the file; every read advances or fails, so the loop bounds of
the model are never the reason for an error; what `read_record` makes of a record that does not read
(`DamagedAt`); a record image cut short does not read (`readSingleRecord_truncated`); little-endian bytes and slices
(generic, `leBytes_fromLe`); a serialised header with at most 4 adjacent bytes altered (`hdrOfBytes`,
`header_window`: the bytes still parse, and the header checksum or the data checksum gives the change away); and
locating a window inside a decomposition of a file (generic, `window_in_middle`).
-/
namespace Pearl

/-! ### what the writer writes for a record read; `read_single_record` on a record-shaped region and at the end of the file -/

theorem serMetaEntries_metaEntries (m : Meta) : serMetaEntries (metaEntries m) = serMeta m := by
  cases m with
  | none => rfl
  | some v => simp [serMetaEntries, metaEntries, serEntries, serMeta]

theorem final_final (h : RecHeader) (a b : Nat) : (h.final a).final b = h.final b := rfl

theorem final_key (h : RecHeader) (off : Nat) : (h.final off).key = h.key := rfl

theorem writeRecord_toTool (out : List UInt8) (R : Record) (off : Nat) :
    writeRecord out (R.toTool off) = out ++ R.image out.length := by
  unfold writeRecord Record.toTool Record.image
  simp only [final_final, serMetaEntries_metaEntries]

theorem readRecord_false (file : List UInt8) (pos : Nat) :
    readRecord file false pos = readSingleRecord file pos := rfl

theorem readRecord_of_ok {file : List UInt8} {skip : Bool} {pos : Nat} {x : ToolRecord × Nat}
    (h : readSingleRecord file pos = .ok x) : readRecord file skip pos = .ok x := by
  cases skip
  · exact h
  · simp only [readRecord, h, ↓reduceIte]

/-- `read_single_record` on a record-shaped region: a serialised header followed by as many metadata and
    data bytes as it announces -/
theorem readSingleRecord_region (pre post : List UInt8) (h : RecHeader) (mb d : List UInt8)
    (es : List (String × List UInt8)) (off : Nat) (hoff : pre.length = off) (hr : h.InRange)
    (hms : h.metaSize = mb.length) (hds : h.dataSize = d.length) (hdm : deserMeta mb = some es) :
    readSingleRecord (pre ++ ((serHeader h ++ (mb ++ d)) ++ post)) off =
      match headerValidate h with
      | .error _ => .error (.headerValidation h (off + (57 + h.key.length)))
      | .ok _ =>
        match dataChecksumAudit h d with
        | .error _ => .error (.recordValidation (off + (57 + h.key.length) + mb.length + d.length))
        | .ok _ => .ok ({ header := h, mt := es, data := d }, off + (57 + h.key.length) + mb.length + d.length) := by
  have hp1 : (pre ++ serHeader h).length = off + (57 + h.key.length) := by
    rw [List.length_append, serHeader_length, hoff]
  have hp2 : (pre ++ serHeader h ++ mb).length = off + (57 + h.key.length) + mb.length := by
    rw [List.length_append, hp1]
  have hfile : pre ++ ((serHeader h ++ (mb ++ d)) ++ post) = pre ++ serHeader h ++ (mb ++ (d ++ post)) := by
    simp only [List.append_assoc]
  unfold readSingleRecord
  rw [hfile, List.append_assoc, List.drop_left' hoff, deserHeader_serHeader _ _ hr,
    ← List.append_assoc pre]
  simp only [RecHeader.serializedSize, hms, hds]
  cases headerValidate h with
  | error e => rfl
  | ok u =>
    simp only
    rw [readExactAt_append hp1 rfl]
    simp only [hdm]
    rw [← List.append_assoc, readExactAt_append hp2 rfl]
    rfl

theorem readSingleRecord_image {klen : Nat} (pre post : List UInt8) (R : Record) (hwf : R.WF klen)
    (off : Nat) (hoff : pre.length = off) (hr : (R.header.final off).InRange)
    (hm : (serMeta R.mt).length < 2 ^ 64) :
    readSingleRecord (pre ++ (R.image off ++ post)) off =
      .ok (R.toTool off, off + (R.image off).length) := by
  have hdm := deserMeta_serMeta R.mt hm
  rw [Record.image_length, image_eq,
    readSingleRecord_region pre post _ _ _ _ off hoff hr hwf.msize hwf.dsize hdm,
    headerValidate_final _ _ hwf.magic,
    (dataChecksumAudit_ok (h := R.header.final off)).mpr hwf.dcrc.symm]
  simp only [Record.toTool, final_key, Nat.add_assoc]

theorem isEof_false {file : List UInt8} {pos : Nat} (h : pos < file.length) : isEof file pos = false := by
  simp [isEof]; omega

theorem isEof_true {file : List UInt8} {pos : Nat} (h : file.length ≤ pos) : isEof file pos = true := by
  simp [isEof]; omega

theorem validateLoop_eof {file : List UInt8} {pos : Nat} (h : file.length ≤ pos) (k : Nat) :
    validateLoop file k pos = .ok () := by
  cases k <;> simp [validateLoop, isEof_true h]

theorem readSingleRecord_eof {file : List UInt8} {pos : Nat} (h : file.length ≤ pos) :
    readSingleRecord file pos = .error .other := by
  unfold readSingleRecord
  rw [List.drop_eq_nil_of_le h]
  rfl

/-! ### every read advances by at least 57 bytes or fails: the loop bounds are never the reason for an error -/

theorem readSingleRecord_cases (file : List UInt8) (pos : Nat) :
    (∃ r pos', readSingleRecord file pos = .ok (r, pos') ∧ pos + 57 ≤ pos') ∨
    (∃ h pos1, readSingleRecord file pos = .error (.headerValidation h pos1) ∧ pos ≤ pos1) ∨
    (∃ pos3, readSingleRecord file pos = .error (.recordValidation pos3) ∧ pos ≤ pos3) ∨
    readSingleRecord file pos = .error .other := by
  unfold readSingleRecord
  split
  · exact Or.inr (Or.inr (Or.inr rfl))
  · next h _ =>
    simp only
    split
    · exact Or.inr (Or.inl ⟨_, _, rfl, by omega⟩)
    · split
      · exact Or.inr (Or.inr (Or.inr rfl))
      · split
        · exact Or.inr (Or.inr (Or.inr rfl))
        · split
          · exact Or.inr (Or.inr (Or.inr rfl))
          · split
            · exact Or.inr (Or.inr (Or.inl ⟨_, rfl, by omega⟩))
            · exact Or.inl ⟨_, _, rfl, by simp only [RecHeader.serializedSize]; omega⟩

theorem readRecord_cases (file : List UInt8) (skip : Bool) (pos : Nat) :
    (∃ r pos', readRecord file skip pos = .ok (r, pos') ∧ pos + 57 ≤ pos') ∨
    (∃ e, readRecord file skip pos = .error e ∧ e ≠ .fuel) := by
  have hs : ∀ p, pos ≤ p →
      (∃ r pos', readSingleRecord file p = .ok (r, pos') ∧ pos + 57 ≤ pos') ∨
      (∃ e, readSingleRecord file p = .error e ∧ e ≠ .fuel) := by
    intro p hp
    rcases readSingleRecord_cases file p with ⟨r, pos', h, hl⟩ | ⟨h', p1, h, _⟩ | ⟨p3, h, _⟩ | h
    · exact Or.inl ⟨r, pos', h, by omega⟩
    · exact Or.inr ⟨_, h, by intro c; cases c⟩
    · exact Or.inr ⟨_, h, by intro c; cases c⟩
    · exact Or.inr ⟨_, h, by intro c; cases c⟩
  cases skip
  · exact hs pos (Nat.le_refl _)
  · rcases readSingleRecord_cases file pos with ⟨r, pos', h, hl⟩ | ⟨h', p1, h, hp1⟩ | ⟨p3, h, hp3⟩ | h
    · exact Or.inl ⟨r, pos', by simp only [readRecord, h, ↓reduceIte], hl⟩
    · simp only [readRecord, h, ↓reduceIte, skipWrongRecordData]
      by_cases c1 : 2 ^ 64 ≤ p1 + h'.dataSize + h'.metaSize
      · rw [if_pos c1]; exact Or.inr ⟨_, rfl, by intro c; cases c⟩
      · rw [if_neg c1]
        by_cases c2 : file.length ≤ p1 + h'.dataSize + h'.metaSize
        · rw [if_pos c2]; exact Or.inr ⟨_, rfl, by intro c; cases c⟩
        · rw [if_neg c2]; exact hs _ (by omega)
    · simp only [readRecord, h, ↓reduceIte]
      exact hs _ hp3
    · exact Or.inr ⟨.other, by simp only [readRecord, h, ↓reduceIte], by intro c; cases c⟩

theorem validateLoop_ne_fuel (file : List UInt8) (fuel pos : Nat) (hf : file.length ≤ pos + fuel) :
    validateLoop file fuel pos ≠ .error .fuel := by
  induction fuel generalizing pos with
  | zero =>
    rw [validateLoop, isEof_true (by omega)]
    intro h; cases h
  | succ fuel ih =>
    rw [validateLoop]
    split
    · intro h; cases h
    · rcases readRecord_cases file false pos with ⟨r, pos', h, hl⟩ | ⟨e, h, hne⟩
      · rw [h]; exact ih pos' (by omega)
      · rw [h]; intro c; cases c; exact hne rfl

theorem readBlobHeader_ok {file : List UInt8} {b : BlobHeader} {pos : Nat}
    (h : readBlobHeader file = .ok (b, pos)) : pos = 20 := by
  unfold readBlobHeader at h
  split at h
  · cases h
  · split at h
    · cases h
    · cases h; rfl

theorem readBlobHeader_ne_fuel (file : List UInt8) : readBlobHeader file ≠ .error .fuel := by
  unfold readBlobHeader
  split
  · intro c; cases c
  · unfold validateWithoutVersion
    split
    · next hv =>
      split at hv
      · cases hv; intro c; cases c
      · cases hv
    · intro c; cases c

theorem validateBlob_ne_fuel (file : List UInt8) : validateBlob file ≠ .error .fuel := by
  unfold validateBlob
  split
  · next e he => intro c; cases c; exact readBlobHeader_ne_fuel file he
  · next b pos he => exact validateLoop_ne_fuel file _ _ (by omega)

theorem writeHeader_ne_fuel (b : BlobHeader) : writeHeader b ≠ .error .fuel := by
  unfold writeHeader
  simp only
  split
  · next e he => intro c; cases c; exact readBlobHeader_ne_fuel _ he
  · split <;> (intro c; cases c)


/-! ### `DamagedAt`: what `read_record` makes of a record that does not read -/

/-- what the loops need to know about a record that does not read at `pos`; `next` is where the next
    record starts.  Clauses 2 and 3 are the two outcomes of the single retry of `read_record(skip_wrong)`
    (after `skip_wrong_record_data`, or directly after a data checksum error): it reads at `next`, or fails
    because `next` is not inside the file -/
def DamagedAt (file : List UInt8) (pos next : Nat) : Prop :=
  (∃ e, readSingleRecord file pos = .error e) ∧
  (next < file.length → readRecord file true pos = readSingleRecord file next) ∧
  (file.length ≤ next → ∃ e, readRecord file true pos = .error e)

theorem DamagedAt.readRecord_false {file : List UInt8} {pos next : Nat} (h : DamagedAt file pos next) :
    ∃ e, readRecord file false pos = .error e := h.1

theorem DamagedAt.readRecord_skip {file : List UInt8} {pos next : Nat} (h : DamagedAt file pos next)
    (hn : next < file.length) : readRecord file true pos = readSingleRecord file next := h.2.1 hn

theorem DamagedAt.readRecord_skip_eof {file : List UInt8} {pos next : Nat} (h : DamagedAt file pos next)
    (hn : file.length ≤ next) : ∃ e, readRecord file true pos = .error e := h.2.2 hn

/-- the region `X` at `off` does not read as a record, and the reader with `skip_wrong_record` continues
    right after it — whatever precedes and follows it in the file -/
def BadRegion (off : Nat) (X : List UInt8) : Prop :=
  ∀ pre post : List UInt8, pre.length = off → (pre ++ (X ++ post)).length < 2 ^ 64 →
    DamagedAt (pre ++ (X ++ post)) off (off + X.length)

theorem damagedAt_recordValidation {file : List UInt8} {pos next : Nat}
    (h : readSingleRecord file pos = .error (.recordValidation next)) : DamagedAt file pos next := by
  refine ⟨⟨_, h⟩, fun _ => ?_, fun hle => ?_⟩
  · simp only [readRecord, h, ↓reduceIte]
  · refine ⟨.other, ?_⟩
    simp only [readRecord, h, ↓reduceIte]
    exact readSingleRecord_eof hle

theorem damagedAt_headerValidation {file : List UInt8} {pos next pos1 : Nat} {h' : RecHeader}
    (h : readSingleRecord file pos = .error (.headerValidation h' pos1))
    (hn : next = pos1 + h'.dataSize + h'.metaSize) (h64 : next < 2 ^ 64) : DamagedAt file pos next := by
  refine ⟨⟨_, h⟩, fun hlt => ?_, fun hle => ?_⟩
  · simp only [readRecord, h, ↓reduceIte, skipWrongRecordData, ← hn]
    rw [if_neg (by omega), if_neg (by omega)]
  · refine ⟨.skipRecordData, ?_⟩
    simp only [readRecord, h, ↓reduceIte, skipWrongRecordData, ← hn]
    rw [if_neg (by omega), if_pos hle]

theorem damagedAt_other {file : List UInt8} {pos next : Nat}
    (h : readSingleRecord file pos = .error .other) (hn : file.length ≤ next) :
    DamagedAt file pos next := by
  refine ⟨⟨_, h⟩, fun hlt => by omega, fun _ => ⟨.other, ?_⟩⟩
  simp only [readRecord, h, ↓reduceIte]

theorem damagedAt_parts (pre post : List UInt8) (h' : RecHeader) (m : Meta) (d : List UInt8)
    (off : Nat) (hoff : pre.length = off) (hr : h'.InRange) (hms : h'.metaSize = (serMeta m).length)
    (hds : h'.dataSize = d.length)
    (hlen : (pre ++ ((serHeader h' ++ (serMeta m ++ d)) ++ post)).length < 2 ^ 64)
    (hbad : headerValidate h' ≠ .ok () ∨ crc32c d ≠ h'.dataChecksum) :
    DamagedAt (pre ++ ((serHeader h' ++ (serMeta m ++ d)) ++ post)) off
      (off + (57 + h'.key.length) + (serMeta m).length + d.length) := by
  have hl : off + (57 + h'.key.length) + (serMeta m).length + d.length ≤
      (pre ++ ((serHeader h' ++ (serMeta m ++ d)) ++ post)).length := by
    simp [hoff]; omega
  have hdm := deserMeta_serMeta m (by omega)
  have hrd := readSingleRecord_region pre post h' (serMeta m) d _ off hoff hr hms hds hdm
  cases hv : headerValidate h' with
  | error e =>
    rw [hv] at hrd
    exact damagedAt_headerValidation hrd (by rw [hms, hds]; omega) (by omega)
  | ok u =>
    rw [hv] at hrd
    have hcrc : crc32c d ≠ h'.dataChecksum := by
      rcases hbad with h | h
      · exact absurd hv h
      · exact h
    have : dataChecksumAudit h' d = .error .recordDataChecksum := by
      unfold dataChecksumAudit; rw [if_neg hcrc]
    rw [this] at hrd
    exact damagedAt_recordValidation hrd

/-! ### a record image cut short does not read -/

theorem takeN_some {n : Nat} {l a r : List UInt8} (h : takeN n l = some (a, r)) :
    l = a ++ r ∧ a.length = n := by
  unfold takeN at h
  split at h
  · cases h
  · next hl =>
    simp only [Option.some.injEq, Prod.mk.injEq] at h
    obtain ⟨rfl, rfl⟩ := h
    exact ⟨(List.take_append_drop n l).symm, by rw [List.length_take]; omega⟩

theorem deserVec_some {l v r : List UInt8} (h : deserVec l = some (v, r)) :
    ∃ nb, l = nb ++ (v ++ r) ∧ nb.length = 8 ∧ v.length = fromLe nb := by
  unfold deserVec at h
  split at h
  · cases h
  · next nb r1 h1 =>
    obtain ⟨e1, l1⟩ := takeN_some h1
    obtain ⟨e2, l2⟩ := takeN_some h
    exact ⟨nb, by rw [e1, e2], l1, l2⟩

theorem deserHeader_some_length {buf : List UInt8} {h : RecHeader} (hd : deserHeader buf = some h) :
    57 + h.key.length ≤ buf.length ∧ h.key.length = fromLe ((buf.drop 8).take 8) := by
  unfold deserHeader at hd
  split at hd
  · cases hd
  · next magic r0 h0 =>
    obtain ⟨e0, l0⟩ := takeN_some h0
    split at hd
    · cases hd
    · next key r1 h1 =>
      obtain ⟨nb, e1, l1, l1'⟩ := deserVec_some h1
      split at hd
      · cases hd
      · next ms r2 h2 =>
        obtain ⟨e2, l2⟩ := takeN_some h2
        split at hd
        · cases hd
        · next ds r3 h3 =>
          obtain ⟨e3, l3⟩ := takeN_some h3
          split at hd
          · cases hd
          · next fl r4 h4 =>
            obtain ⟨e4, l4⟩ := takeN_some h4
            split at hd
            · cases hd
            · next bo r5 h5 =>
              obtain ⟨e5, l5⟩ := takeN_some h5
              split at hd
              · cases hd
              · next ts r6 h6 =>
                obtain ⟨e6, l6⟩ := takeN_some h6
                split at hd
                · cases hd
                · next dc r7 h7 =>
                  obtain ⟨e7, l7⟩ := takeN_some h7
                  split at hd
                  · cases hd
                  · next hc r8 h8 =>
                    obtain ⟨e8, l8⟩ := takeN_some h8
                    simp only [Option.some.injEq] at hd
                    subst hd
                    simp only
                    subst e8 e7 e6 e5 e4 e3 e2
                    subst e1
                    subst e0
                    refine ⟨by simp only [List.length_append]; omega, ?_⟩
                    rw [List.drop_left' l0, List.take_left' l1]
                    exact l1'

theorem serHeader_keylen_bytes (h : RecHeader) : ((serHeader h).drop 8).take 8 = le64 h.key.length := by
  have : serHeader h = le64 h.magicByte ++ (le64 h.key.length ++
      (h.key ++ (le64 h.metaSize ++ le64 h.dataSize ++ [h.flags]) ++
        (le64 h.blobOffset ++ (le64 h.timestamp ++ le32 h.dataChecksum.toNat ++
          le32 h.headerChecksum.toNat)))) := by
    simp [serHeader, serHeaderPre, serVec, List.append_assoc]
  rw [this, List.drop_left' (le64_length _), List.take_left' (le64_length _)]

theorem image_keylen_bytes (R : Record) (off : Nat) :
    ((R.image off).drop 8).take 8 = le64 R.header.key.length := by
  rw [image_eq, List.drop_append_of_le_length (by rw [serHeader_length]; omega),
    List.take_append_of_le_length (by rw [List.length_drop, serHeader_length]; omega), serHeader_keylen_bytes]
  rfl

theorem readSingleRecord_truncated {klen : Nat} (pre : List UInt8) (R : Record) (hwf : R.WF klen)
    (off : Nat) (hoff : pre.length = off) (hr : (R.header.final off).InRange)
    (hm : (serMeta R.mt).length < 2 ^ 64) (k : Nat) (hk : k < (R.image off).length) :
    readSingleRecord (pre ++ (R.image off).take k) off = .error .other := by
  have hkl : (R.header.final off).key.length = klen := hwf.key
  have hms : (R.header.final off).metaSize = (serMeta R.mt).length := hwf.msize
  have hds : (R.header.final off).dataSize = R.data.length := hwf.dsize
  have him := R.image_length off
  rw [hwf.key] at him
  have hXl : ((R.image off).take k).length = k := by rw [List.length_take]; omega
  by_cases hcase : k < 57 + klen
  · -- cut inside the header
    unfold readSingleRecord
    rw [List.drop_left' hoff]
    cases hd : deserHeader ((R.image off).take k) with
    | none => rfl
    | some h'' =>
      exfalso
      obtain ⟨h1, h2⟩ := deserHeader_some_length hd
      rw [hXl] at h1
      have : (((R.image off).take k).drop 8).take 8 = ((R.image off).drop 8).take 8 := by
        rw [List.drop_take, List.take_take, Nat.min_eq_left (by omega)]
      rw [this, image_keylen_bytes, hwf.key, fromLe_le64 (by have := hr.2.1; rw [hkl] at this; exact this)] at h2
      omega
  · -- cut inside meta / data
    have hX : (R.image off).take k =
        serHeader (R.header.final off) ++ (serMeta R.mt ++ R.data).take (k - (57 + klen)) := by
      rw [image_eq, List.take_append, serHeader_length, hkl,
        List.take_of_length_le (by rw [serHeader_length, hkl]; omega)]
    have hp1 : (pre ++ serHeader (R.header.final off)).length = off + (57 + klen) := by
      simp [hkl, hoff]
    unfold readSingleRecord
    rw [List.drop_left' hoff, hX, deserHeader_serHeader _ _ hr]
    simp only [headerValidate_final _ _ hwf.magic, hms, hds,
      show (R.header.final off).serializedSize = 57 + klen by simp [RecHeader.serializedSize, hkl]]
    by_cases hc2 : k - (57 + klen) < (serMeta R.mt).length
    · rw [readExactAt_none_of_short (by
        simp only [List.length_append, List.length_take, serHeader_length, hkl, hoff]; omega)
        (Nat.lt_of_lt_of_le (by decide) (serMeta_length_ge _))]
    · have hY : (serMeta R.mt ++ R.data).take (k - (57 + klen)) =
          serMeta R.mt ++ R.data.take (k - (57 + klen) - (serMeta R.mt).length) := by
        rw [List.take_append, List.take_of_length_le (by omega)]
      rw [hY]
      have hfile1 : pre ++ (serHeader (R.header.final off) ++
          (serMeta R.mt ++ R.data.take (k - (57 + klen) - (serMeta R.mt).length))) =
          (pre ++ serHeader (R.header.final off)) ++
            (serMeta R.mt ++ R.data.take (k - (57 + klen) - (serMeta R.mt).length)) := by
        simp [List.append_assoc]
      rw [hfile1, readExactAt_append hp1 rfl]
      have hdm := deserMeta_serMeta R.mt hm
      simp only [hdm]
      rw [readExactAt_none_of_short (by
        simp only [List.length_append, List.length_take, serHeader_length, hkl, hoff]; omega)
        (by omega)]

/-! ### little-endian bytes and slices of a byte string (generic) -/

theorem leBytes_fromLe (l : List UInt8) : leBytes l.length (fromLe l) = l := by
  induction l with
  | nil => rfl
  | cons b r ih =>
    have hb := b.toNat_lt
    have h1 : UInt8.ofNat (b.toNat + 256 * fromLe r) = b := by
      apply UInt8.toNat_inj.mp
      rw [UInt8.toNat_ofNat']
      omega
    have h2 : (b.toNat + 256 * fromLe r) / 256 = fromLe r := by omega
    simp only [List.length_cons, leBytes, fromLe, h1, h2, ih]

theorem le64_fromLe {l : List UInt8} (h : l.length = 8) : le64 (fromLe l) = l := by
  rw [le64, ← h]; exact leBytes_fromLe l

theorem le32_fromLe {l : List UInt8} (h : l.length = 4) : le32 (fromLe l) = l := by
  rw [le32, ← h]; exact leBytes_fromLe l

theorem fromLe_inj {a b : List UInt8} (hl : a.length = b.length) (h : fromLe a = fromLe b) : a = b := by
  rw [← leBytes_fromLe a, ← leBytes_fromLe b, hl, h]

theorem le32_ofNat_fromLe {l : List UInt8} (h : l.length = 4) :
    le32 (UInt32.ofNat (fromLe l)).toNat = l := by
  have := fromLe_lt l
  rw [h] at this
  rw [UInt32.toNat_ofNat', Nat.mod_eq_of_lt (by omega), le32_fromLe h]

theorem ofNat32_fromLe_inj {a b : List UInt8} (ha : a.length = 4) (hb : b.length = 4)
    (h : UInt32.ofNat (fromLe a) = UInt32.ofNat (fromLe b)) : a = b := by
  rw [← le32_ofNat_fromLe ha, ← le32_ofNat_fromLe hb, h]

theorem singleton_ofNat_fromLe {l : List UInt8} (h : l.length = 1) : [UInt8.ofNat (fromLe l)] = l := by
  match l, h with
  | [b], _ => simp [fromLe]


/-! ### a serialised header with at most 4 adjacent bytes altered: `hdrOfBytes`, `header_window` -/

/-- the header whose serialisation is the byte string `H` (with a `klen`-byte key): the fields read at
    their positions, independently of `deserHeader`; the two agree on serialised headers
    (`hdrOfBytes_serHeader`) -/
def hdrOfBytes (klen : Nat) (H : List UInt8) : RecHeader :=
  { magicByte := fromLe (H.take 8)
    key := (H.drop 16).take klen
    metaSize := fromLe ((H.drop (16 + klen)).take 8)
    dataSize := fromLe ((H.drop (24 + klen)).take 8)
    flags := UInt8.ofNat (fromLe ((H.drop (32 + klen)).take 1))
    blobOffset := fromLe ((H.drop (33 + klen)).take 8)
    timestamp := fromLe ((H.drop (41 + klen)).take 8)
    dataChecksum := UInt32.ofNat (fromLe ((H.drop (49 + klen)).take 4))
    headerChecksum := UInt32.ofNat (fromLe ((H.drop (53 + klen)).take 4)) }

theorem slice_step (l : List UInt8) {a n b : Nat} (h : a + n = b) :
    (l.drop a).take n ++ l.drop b = l.drop a := by
  rw [← h, ← List.drop_drop]; exact List.take_append_drop n _

theorem hdrOfBytes_key_length {klen : Nat} {H : List UInt8} (hl : H.length = 57 + klen) :
    (hdrOfBytes klen H).key.length = klen := slice_length (by omega)

theorem serHeader_hdrOfBytes {klen : Nat} {H : List UInt8} (hl : H.length = 57 + klen)
    (hk : (H.drop 8).take 8 = le64 klen) : serHeader (hdrOfBytes klen H) = H := by
  have hkl := hdrOfBytes_key_length hl
  unfold serHeader serHeaderPre serVec
  rw [hkl]
  simp only [hdrOfBytes]
  rw [le64_fromLe (show (H.take 8).length = 8 by rw [List.length_take]; omega),
    le64_fromLe (slice_length (l := H) (a := 16 + klen) (n := 8) (by omega)),
    le64_fromLe (slice_length (l := H) (a := 24 + klen) (n := 8) (by omega)),
    le64_fromLe (slice_length (l := H) (a := 33 + klen) (n := 8) (by omega)),
    le64_fromLe (slice_length (l := H) (a := 41 + klen) (n := 8) (by omega)),
    le32_ofNat_fromLe (slice_length (l := H) (a := 49 + klen) (n := 4) (by omega)),
    le32_ofNat_fromLe (slice_length (l := H) (a := 53 + klen) (n := 4) (by omega)),
    singleton_ofNat_fromLe (slice_length (l := H) (a := 32 + klen) (n := 1) (by omega)), ← hk]
  simp only [List.append_assoc]
  have e9 : (H.drop (53 + klen)).take 4 = H.drop (53 + klen) :=
    List.take_of_length_le (by rw [List.length_drop]; omega)
  have s8 := slice_step H (show 49 + klen + 4 = 53 + klen by omega)
  have s7 := slice_step H (show 41 + klen + 8 = 49 + klen by omega)
  have s6 := slice_step H (show 33 + klen + 8 = 41 + klen by omega)
  have s5 := slice_step H (show 32 + klen + 1 = 33 + klen by omega)
  have s4 := slice_step H (show 24 + klen + 8 = 32 + klen by omega)
  have s3 := slice_step H (show 16 + klen + 8 = 24 + klen by omega)
  have s2 := slice_step H (show 16 + klen = 16 + klen from rfl)
  have s1 := slice_step H (show 8 + 8 = 16 from rfl)
  rw [e9, s8, s7, s6, s5, s4, s3, s2, s1, List.take_append_drop]

theorem hdrOfBytes_inRange {klen : Nat} {H : List UInt8} (hl : H.length = 57 + klen)
    (hk : klen < 2 ^ 64) : (hdrOfBytes klen H).InRange := by
  have h8 : ∀ a, a + 8 ≤ H.length → fromLe ((H.drop a).take 8) < 2 ^ 64 := by
    intro a ha
    have := fromLe_lt ((H.drop a).take 8)
    rw [slice_length ha] at this
    exact this
  refine ⟨?_, ?_, h8 _ (by omega), h8 _ (by omega), h8 _ (by omega), h8 _ (by omega)⟩
  · have := h8 0 (by omega)
    simpa [hdrOfBytes] using this
  · rw [hdrOfBytes_key_length hl]; exact hk

theorem hdrOfBytes_serHeader (h : RecHeader) (hr : h.InRange) :
    hdrOfBytes h.key.length (serHeader h) = h := by
  have hl := serHeader_length h
  have h1 := serHeader_hdrOfBytes hl (serHeader_keylen_bytes h)
  have hr' := hdrOfBytes_inRange hl hr.2.1
  -- both headers serialise to the same bytes, and `deserHeader` inverts `serHeader` on headers in range
  have d1 := deserHeader_serHeader _ [] hr'
  have d2 := deserHeader_serHeader _ [] hr
  rw [h1, d2] at d1
  exact (Option.some.inj d1).symm

theorem serHeader_zero_checksum (h : RecHeader) :
    serHeader { h with headerChecksum := 0 } = (serHeader h).take (53 + h.key.length) ++ le32 0 := by
  have e : ∀ c : UInt32, serHeader { h with headerChecksum := c } =
      (serHeaderPre h ++ (le64 h.blobOffset ++ (le64 h.timestamp ++ le32 h.dataChecksum.toNat))) ++
        le32 c.toNat := by
    intro c; simp [serHeader, serHeaderPre, List.append_assoc]
  have hl : (serHeaderPre h ++ (le64 h.blobOffset ++ (le64 h.timestamp ++ le32 h.dataChecksum.toNat))).length =
      53 + h.key.length := by simp; omega
  have := e h.headerChecksum
  rw [show ({ h with headerChecksum := h.headerChecksum } : RecHeader) = h from rfl] at this
  rw [this, List.take_left' hl, e 0]
  rfl


theorem slice_agree {H H' : List UInt8} {j w : Nat}
    (hout : ∀ k, (k < j ∨ j + w ≤ k) → H[k]? = H'[k]?) {x n : Nat} (h : x + n ≤ j ∨ j + w ≤ x) :
    (H.drop x).take n = (H'.drop x).take n := by
  apply List.ext_getElem?
  intro i
  simp only [List.getElem?_take, List.getElem?_drop]
  split
  · exact hout _ (by omega)
  · rfl

theorem take_agree {H H' : List UInt8} {j w : Nat}
    (hout : ∀ k, (k < j ∨ j + w ≤ k) → H[k]? = H'[k]?) {B : Nat} (h : B ≤ j) :
    H.take B = H'.take B := by
  have := slice_agree hout (x := 0) (n := B) (Or.inl (by omega))
  simpa using this

theorem drop_agree {H H' : List UInt8} {j w : Nat}
    (hout : ∀ k, (k < j ∨ j + w ≤ k) → H[k]? = H'[k]?) {x : Nat} (h : j + w ≤ x) :
    H.drop x = H'.drop x := by
  apply List.ext_getElem?
  intro i
  simp only [List.getElem?_drop]
  exact hout _ (by omega)

/-- validity of the header parsed from `L`, on the bytes: the checksum field (the last 4 bytes) holds the
    CRC of the bytes before it followed by 4 zero bytes -/
theorem headerValidate_hdrOfBytes {k : Nat} {L : List UInt8} (hser : serHeader (hdrOfBytes k L) = L)
    (hkl : (hdrOfBytes k L).key.length = k) (hv : headerValidate (hdrOfBytes k L) = .ok ()) :
    crc32c (L.take (53 + k) ++ le32 0) = UInt32.ofNat (fromLe ((L.drop (53 + k)).take 4)) := by
  have := (headerValidate_ok.mp hv).2
  unfold headerCrc headerCrcWith at this
  rwa [serHeader_zero_checksum, hser, hkl] at this

/-- a change confined to at most 4 adjacent bytes of a valid serialised header, outside the three length
    fields: the bytes still parse to a header with the same lengths, and that header fails validation
    or carries another data checksum -/
theorem header_window {klen : Nat} (hf : RecHeader) (hr : hf.InRange) (hk : hf.key.length = klen)
    (hv : headerValidate hf = .ok ()) (H' : List UInt8) (j w : Nat) (hw : w ≤ 4)
    (hl : H'.length = (serHeader hf).length)
    (hout : ∀ k, (k < j ∨ j + w ≤ k) → (serHeader hf)[k]? = H'[k]?)
    (hne : H' ≠ serHeader hf)
    (hfields : j + w ≤ 8 ∨ (16 ≤ j ∧ j + w ≤ 16 + klen) ∨ 32 + klen ≤ j) :
    serHeader (hdrOfBytes klen H') = H' ∧ (hdrOfBytes klen H').InRange ∧
    (hdrOfBytes klen H').key.length = klen ∧ (hdrOfBytes klen H').metaSize = hf.metaSize ∧
    (hdrOfBytes klen H').dataSize = hf.dataSize ∧
    (headerValidate (hdrOfBytes klen H') ≠ .ok () ∨
      (hdrOfBytes klen H').dataChecksum ≠ hf.dataChecksum) := by
  subst hk
  have hHl := serHeader_length hf
  rw [hHl] at hl
  have hself := hdrOfBytes_serHeader hf hr
  have hkb : (H'.drop 8).take 8 = le64 hf.key.length := by
    rw [← serHeader_keylen_bytes hf]
    exact (slice_agree hout (by omega)).symm
  have hser := serHeader_hdrOfBytes hl hkb
  have hkl := hdrOfBytes_key_length hl
  have hms : (hdrOfBytes hf.key.length H').metaSize = hf.metaSize := by
    conv => rhs; rw [← hself]
    simp only [hdrOfBytes]
    rw [slice_agree hout (by omega)]
  have hds : (hdrOfBytes hf.key.length H').dataSize = hf.dataSize := by
    conv => rhs; rw [← hself]
    simp only [hdrOfBytes]
    rw [slice_agree hout (by omega)]
  refine ⟨hser, hdrOfBytes_inRange hl hr.2.1, hkl, hms, hds, ?_⟩
  -- the checksum analysis
  have hvS := headerValidate_hdrOfBytes (L := serHeader hf) (by rw [hself]) (by rw [hself]) (by rwa [hself])
  have hdc' : (hdrOfBytes hf.key.length H').dataChecksum =
      UInt32.ofNat (fromLe ((H'.drop (49 + hf.key.length)).take 4)) := rfl
  have hdc : hf.dataChecksum =
      UInt32.ofNat (fromLe (((serHeader hf).drop (49 + hf.key.length)).take 4)) := by
    conv => lhs; rw [← hself]
    rfl
  have hsplit : ∀ l : List UInt8, l.length = 57 + hf.key.length →
      l = l.take (53 + hf.key.length) ++ (l.drop (53 + hf.key.length)).take 4 := by
    intro l hll
    rw [List.take_of_length_le (l := l.drop _) (by rw [List.length_drop]; omega), List.take_append_drop]
  by_cases hpos : j + w ≤ 53 + hf.key.length
  · -- the checksum field is untouched
    left
    intro hv'
    have hC : ((serHeader hf).drop (53 + hf.key.length)).take 4 = (H'.drop (53 + hf.key.length)).take 4 :=
      slice_agree hout (Or.inr hpos)
    have hA : (serHeader hf).take (53 + hf.key.length) ≠ H'.take (53 + hf.key.length) := by
      intro hA
      apply hne
      rw [hsplit H' hl, hsplit _ hHl, hA, hC]
    have hcne := crc32c_window_pos ((serHeader hf).take (53 + hf.key.length) ++ le32 0)
      (H'.take (53 + hf.key.length) ++ le32 0) (by simp [hl]) j
      (by
        intro k hk
        have hlenA : ((serHeader hf).take (53 + hf.key.length)).length = 53 + hf.key.length := by
          rw [List.length_take]; omega
        have hlenA' : (H'.take (53 + hf.key.length)).length = 53 + hf.key.length := by
          rw [List.length_take]; omega
        by_cases hkB : k < 53 + hf.key.length
        · rw [List.getElem?_append_left (by omega), List.getElem?_append_left (by omega),
            List.getElem?_take, List.getElem?_take, if_pos hkB, if_pos hkB]
          exact hout k (by omega)
        · rw [List.getElem?_append_right (by omega), List.getElem?_append_right (by omega),
            hlenA, hlenA'])
      (by intro h; exact hA (List.append_cancel_right h))
    rw [hvS, headerValidate_hdrOfBytes hser hkl hv', hC] at hcne
    exact hcne rfl
  · -- the window reaches into the checksum field: it starts after byte 49 + klen
    have hj : 50 + hf.key.length ≤ j := by omega
    by_cases hD : ((serHeader hf).drop (49 + hf.key.length)).take 4 = (H'.drop (49 + hf.key.length)).take 4
    · left
      intro hv'
      have hA : (serHeader hf).take (53 + hf.key.length) = H'.take (53 + hf.key.length) := by
        have e : ∀ l : List UInt8, l.take (53 + hf.key.length) =
            l.take (49 + hf.key.length) ++ (l.drop (49 + hf.key.length)).take 4 := fun l => by
          rw [show 53 + hf.key.length = (49 + hf.key.length) + 4 by omega, List.take_add]
        rw [e, e, take_agree hout (show 49 + hf.key.length ≤ j by omega), hD]
      have hC : ((serHeader hf).drop (53 + hf.key.length)).take 4 ≠ (H'.drop (53 + hf.key.length)).take 4 := by
        intro hC
        apply hne
        rw [hsplit H' hl, hsplit _ hHl, hA, hC]
      have h2 := headerValidate_hdrOfBytes hser hkl hv'
      rw [← hA, hvS] at h2
      exact hC (ofNat32_fromLe_inj (slice_length (by omega)) (slice_length (by omega)) h2)
    · right
      rw [hdc', hdc]
      intro h
      exact hD (ofNat32_fromLe_inj (slice_length (by omega)) (slice_length (by omega)) h).symm


/-! ### locating a window `p ++ w ++ s` inside a decomposition of the file (generic) -/

theorem window_in_middle {p w s X M Y : List UInt8} (h : p ++ w ++ s = X ++ (M ++ Y))
    (h1 : X.length ≤ p.length) (h2 : p.length + w.length ≤ X.length + M.length) :
    ∃ d1 d2, p = X ++ d1 ∧ M = d1 ++ w ++ d2 ∧ s = d2 ++ Y := by
  have hp : p = X ++ p.drop X.length := by
    have := congrArg (List.take X.length) h
    rw [List.append_assoc, List.take_append_of_le_length h1, List.take_left' rfl] at this
    conv => lhs; rw [← List.take_append_drop X.length p, this]
  generalize p.drop X.length = d1 at hp
  subst hp
  rw [List.append_assoc, List.append_assoc, List.append_cancel_left_eq] at h
  simp only [List.length_append] at h2
  have hM : M = (d1 ++ w) ++ M.drop (d1 ++ w).length := by
    have := congrArg (List.take (d1 ++ w).length) h
    rw [← List.append_assoc, List.take_left' rfl,
      List.take_append_of_le_length (by simp only [List.length_append]; omega)] at this
    conv => lhs; rw [← List.take_append_drop (d1 ++ w).length M, ← this]
  refine ⟨d1, M.drop (d1 ++ w).length, rfl, hM, ?_⟩
  generalize M.drop (d1 ++ w).length = d2 at hM
  subst hM
  simp only [List.append_assoc, List.append_cancel_left_eq] at h
  exact h

theorem window_hout (a w1 w2 c : List UInt8) (hl : w1.length = w2.length) :
    ∀ k, (k < a.length ∨ a.length + w1.length ≤ k) → (a ++ w1 ++ c)[k]? = (a ++ w2 ++ c)[k]? := by
  intro k hk
  rcases hk with hk | hk
  · rw [List.append_assoc, List.append_assoc, List.getElem?_append_left hk, List.getElem?_append_left hk]
  · rw [List.getElem?_append_right (by simp only [List.length_append]; omega),
      List.getElem?_append_right (by simp only [List.length_append]; omega)]
    simp only [List.length_append, hl]

end Pearl
