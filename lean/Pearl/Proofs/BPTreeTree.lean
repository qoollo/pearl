import Pearl.Proofs.BPTreeLeaves
/-
The inner tree (`build_tree`: portions, node layout) and the descent through it (`find_leaf_node`,
`key_offset_serialized`).
-/
set_option linter.unusedSectionVars false

namespace Pearl.BPTree

section Portions
variable {α : Type}

/-- `portions_partition`: the portions are consecutive slices covering the layer exactly once -/
theorem portionsAux_flatten (mn mx : Nat) : ∀ (fuel : Nat) (xs : List α),
    (portionsAux mn mx fuel xs).flatten = xs := by
  intro fuel
  induction fuel with
  | zero => intro xs; simp [portionsAux]
  | succ fuel ih =>
    intro xs
    simp only [portionsAux]
    split
    · simp [ih]
    · simp

theorem portions_flatten (mn mx : Nat) (xs : List α) : (portions mn mx xs).flatten = xs :=
  portionsAux_flatten mn mx _ xs

/-- the portion cut off a layer longer than `max`: `min` to `max` children, and at least `min` remain -/
theorem portion_cut {mn mx len : Nat} (h1 : 1 ≤ mn) (h2 : 2 * mn ≤ mx + 1) (h3 : mn ≤ mx) (hgt : mx < len) :
    mn ≤ min mx (len - mn) ∧ min mx (len - mn) ≤ mx ∧ min mx (len - mn) ≤ len ∧
      mn ≤ len - min mx (len - mn) ∧ len - min mx (len - mn) < len := by
  have c1 : mn ≤ min mx (len - mn) := Nat.le_min.2 ⟨h3, Nat.le_sub_of_add_le (by omega)⟩
  have c2 := Nat.min_le_left mx (len - mn)
  have c0 : min mx (len - mn) + mn ≤ len := Nat.add_le_of_le_sub (by omega) (Nat.min_le_right _ _)
  generalize min mx (len - mn) = a at c1 c2 c0 ⊢
  omega

/-- `portion_sizes`: when the layer is longer than `max`, every portion has between `min` and `max`
    children -/
theorem portionsAux_sizes (mn mx : Nat) (h1 : 1 ≤ mn) (h2 : 2 * mn ≤ mx + 1) (h3 : mn ≤ mx) :
    ∀ (fuel : Nat) (xs : List α), xs.length ≤ fuel → mn ≤ xs.length →
      ∀ P ∈ portionsAux mn mx fuel xs, mn ≤ P.length ∧ P.length ≤ mx := by
  intro fuel
  induction fuel with
  | zero => intro xs hf hmn; exact absurd (Nat.le_trans hmn hf) (Nat.not_le.2 h1)
  | succ fuel ih =>
    intro xs hf hmn P hP
    simp only [portionsAux] at hP
    split at hP
    · rename_i hgt
      obtain ⟨c1, c2, c3, c4, c5⟩ := portion_cut h1 h2 h3 hgt
      rcases List.mem_cons.1 hP with rfl | hP
      · rw [List.length_take, Nat.min_eq_left c3]; exact ⟨c1, c2⟩
      · exact ih _ (by rw [List.length_drop]; exact Nat.le_of_lt_succ (Nat.lt_of_lt_of_le c5 hf))
          (by rw [List.length_drop]; exact c4) P hP
    · rw [List.mem_singleton.1 hP]
      exact ⟨hmn, Nat.le_of_not_gt (by assumption)⟩

theorem portions_small (mn mx : Nat) (xs : List α) (h : xs.length ≤ mx) : portions mn mx xs = [xs] := by
  unfold portions
  cases hl : xs.length with
  | zero => rfl
  | succ n =>
    simp only [portionsAux]
    rw [if_neg (by omega)]

theorem flatten_length_ge (Ps : List (List α)) (h : ∀ P ∈ Ps, 2 ≤ P.length) :
    2 * Ps.length ≤ Ps.flatten.length := by
  induction Ps with
  | nil => simp
  | cons P Ps ih =>
    have h1 := h P (by simp)
    have h2 := ih (fun Q hQ => h Q (by simp [hQ]))
    simp only [List.flatten_cons, List.length_append, List.length_cons]
    omega

end Portions

/-- hypotheses on the parameters: `0 < rhs ≤ B`, and fan-out at least 3 (`min_amount ≥ 2`, so that no
    node without keys is produced); for the real parameters: `K ≤ 2032` -/
structure Params.Valid (p : Params) : Prop where
  rhs_pos : 0 < p.rhs
  rhs_le : p.rhs ≤ p.B
  fan : 3 ≤ maxAmount p

theorem minAmount_facts (p : Params) (h : 3 ≤ maxAmount p) :
    2 ≤ minAmount p ∧ 2 * minAmount p ≤ maxAmount p + 1 ∧ minAmount p ≤ maxAmount p := by
  unfold minAmount; omega

/-- `portion_sizes` for the layers `build_tree` makes: at least two, at most `max_amount` children -/
theorem portions_sizes (p : Params) (h : 3 ≤ maxAmount p) (es : List Entry) (hes : 2 ≤ es.length) :
    ∀ P ∈ portions (minAmount p) (maxAmount p) es, 2 ≤ P.length ∧ P.length ≤ maxAmount p := by
  obtain ⟨m1, m2, m3⟩ := minAmount_facts p h
  intro P hP
  by_cases hl : es.length ≤ maxAmount p
  · rw [portions_small _ _ _ hl] at hP
    simp only [List.mem_singleton] at hP
    subst hP; omega
  · have := portionsAux_sizes (minAmount p) (maxAmount p) (by omega) m2 m3 es.length es (Nat.le_refl _)
      (by omega) P hP
    omega

/-- `node_fits_block`: `q` keys with their offsets fill at most `B - 16` bytes, a node with `m ≤ q` keys is
    16 bytes longer -/
theorem node_fits {K B q m : Nat} (hq : 2 ≤ q) (hmul : (K + 8) * q ≤ B - 8 - 8) (hm : m ≤ q) :
    8 + (K * m + (m + 1) * 8) ≤ B := by
  have h1 : (K + 8) * m ≤ (K + 8) * q := Nat.mul_le_mul_left _ hm
  have h2 : (K + 8) * 2 ≤ (K + 8) * q := Nat.mul_le_mul_left _ hq
  rw [Nat.add_mul] at h1
  omega

theorem nodeSize_le_B (p : Params) (h : 3 ≤ maxAmount p) (n : Nat) (_ : 1 ≤ n) (hn : n ≤ maxAmount p) :
    nodeSize p (n - 1) ≤ p.B :=
  node_fits (Nat.le_of_succ_le_succ h) (Nat.mul_div_le _ _) (Nat.sub_le_of_le_add hn)

theorem nodeSize_pos (p : Params) (n : Nat) : 0 < nodeSize p n := by
  unfold nodeSize nodeMetaSize; omega

theorem mkNode_size (p : Params) (base : Nat) (P : List Entry) :
    (mkNode base P).size p = nodeSize p (P.length - 1) := by
  simp [mkNode, Node.size]

theorem nodesBytes_nil (p : Params) : nodesBytes p [] = 0 := rfl
theorem nodesBytes_cons (p : Params) (n : Node) (ns : List Node) :
    nodesBytes p (n :: ns) = n.size p + nodesBytes p ns := by simp [nodesBytes]
theorem nodesBytes_append (p : Params) (a b : List Node) :
    nodesBytes p (a ++ b) = nodesBytes p a + nodesBytes p b := by simp [nodesBytes]

theorem collectNext_length (p : Params) : ∀ (Ps : List (List Entry)) (off : Nat),
    (collectNext p Ps off).1.length = Ps.length := by
  intro Ps
  induction Ps with
  | nil => intro off; rfl
  | cons P Ps ih => intro off; simp [collectNext, ih]

/-- the layer size returned is the size of the nodes `shift_all_and_write` writes -/
theorem collectNext_size (p : Params) (base : Nat) : ∀ (Ps : List (List Entry)) (off : Nat),
    (collectNext p Ps off).2 = off + nodesBytes p (Ps.map (mkNode base)) := by
  intro Ps
  induction Ps with
  | nil => intro off; simp [collectNext, nodesBytes]
  | cons P Ps ih =>
    intro off
    simp only [collectNext, List.map_cons, nodesBytes_cons, ih, mkNode_size]
    omega

theorem collectNext_keys (p : Params) : ∀ (Ps : List (List Entry)) (off : Nat),
    (collectNext p Ps off).1.map (·.1) = Ps.map (fun P => (P.headD (0, 0)).1) := by
  intro Ps
  induction Ps with
  | nil => intro off; rfl
  | cons P Ps ih => intro off; simp [collectNext, ih]

theorem collectNext_head (p : Params) (P : List Entry) (Ps : List (List Entry)) (off : Nat) :
    (collectNext p (P :: Ps) off).1
      = ((P.headD (0, 0)).1, off) :: (collectNext p Ps (off + nodeSize p (P.length - 1))).1 := rfl

theorem heads_pairwise {R : Nat → Nat → Prop} : ∀ (Ps : List (List Entry)), (∀ P ∈ Ps, P ≠ []) →
    Ps.flatten.Pairwise (fun a b => R a.1 b.1) →
    (Ps.map (fun P => (P.headD (0, 0)).1)).Pairwise R := by
  intro Ps
  induction Ps with
  | nil => intro _ _; simp
  | cons P Ps ih =>
    intro hne hp
    simp only [List.flatten_cons, List.pairwise_append] at hp
    obtain ⟨_, hp2, hp3⟩ := hp
    simp only [List.map_cons, List.pairwise_cons]
    refine ⟨?_, ih (fun Q hQ => hne Q (by simp [hQ])) hp2⟩
    intro b hb
    obtain ⟨Q, hQ, rfl⟩ := List.mem_map.1 hb
    have hP := hne P (by simp)
    have hQ' := hne Q (by simp [hQ])
    cases P with
    | nil => exact absurd rfl hP
    | cons e0 P' =>
      cases Q with
      | nil => exact absurd rfl hQ'
      | cons q0 Q' =>
        simp only [List.headD_cons]
        exact hp3 e0 (by simp) q0 (List.mem_flatten.2 ⟨_, hQ, by simp⟩)

theorem collectNext_pairwise (p : Params) (Ps : List (List Entry)) (off : Nat) (hne : ∀ P ∈ Ps, P ≠ [])
    (hp : Ps.flatten.Pairwise (fun a b => a.1 < b.1)) :
    (collectNext p Ps off).1.Pairwise (fun a b => a.1 < b.1) := by
  have := heads_pairwise (R := fun a b => a < b) Ps hne hp
  rw [← collectNext_keys p Ps off] at this
  exact List.pairwise_map.1 this

/-- the child chosen in the whole layer is the child chosen inside the portion chosen one level up -/
theorem sel_portions (p : Params) (base k : Nat) : ∀ (Ps : List (List Entry)) (off : Nat),
    (∀ P ∈ Ps, P ≠ []) → Ps ≠ [] → Ps.flatten.Pairwise (fun a b => a.1 < b.1) →
    ∃ A P R, Ps = A ++ P :: R ∧
      sel (collectNext p Ps off).1 k = ((P.headD (0, 0)).1, off + nodesBytes p (A.map (mkNode base))) ∧
      sel Ps.flatten k = sel P k := by
  intro Ps
  induction Ps with
  | nil => intro _ _ h; exact absurd rfl h
  | cons P Ps ih =>
    intro off hne _ hp
    have hP := hne P (by simp)
    cases Ps with
    | nil =>
      refine ⟨[], P, [], rfl, ?_, by simp⟩
      simp [collectNext, sel, selFrom, nodesBytes]
    | cons Q Ps =>
      have hQ := hne Q (by simp)
      cases P with
      | nil => exact absurd rfl hP
      | cons e0 P' =>
        cases Q with
        | nil => exact absurd rfl hQ
        | cons q0 Q' =>
          have hflat : ((e0 :: P') :: (q0 :: Q') :: Ps).flatten
              = e0 :: (P' ++ q0 :: (Q' ++ Ps.flatten)) := by simp
          have hp' : ((q0 :: Q') :: Ps).flatten.Pairwise (fun a b => a.1 < b.1) :=
            (List.pairwise_append.1 (List.flatten_cons ▸ hp)).2.1
          rw [hflat] at hp ⊢
          rw [collectNext_head, collectNext_head]
          by_cases hk : q0.1 ≤ k
          · obtain ⟨A, P0, R, hdec, hsel, hflat2⟩ :=
              ih (off + nodeSize p ((e0 :: P').length - 1)) (fun Z hZ => hne Z (by simp [hZ]))
                (by simp) hp'
            refine ⟨(e0 :: P') :: A, P0, R, by rw [hdec]; rfl, ?_, ?_⟩
            · rw [collectNext_head] at hsel
              simp only [sel, selFrom, List.headD_cons] at hsel ⊢
              simp only [hk, ↓reduceIte]
              rw [hsel]
              simp only [List.map_cons, nodesBytes_cons, mkNode_size, Nat.add_assoc]
            · rw [← hflat2]
              have hall : ∀ x ∈ P', x.1 ≤ k := by
                intro x hx
                have h1 := (List.pairwise_cons.1 hp).2
                have h3 := (List.pairwise_append.1 h1).2.2 x hx q0 (by simp)
                omega
              simp only [sel]
              rw [selFrom_append_le k q0 _ hk P' e0 hall]
              simp
          · refine ⟨[], e0 :: P', (q0 :: Q') :: Ps, rfl, ?_, ?_⟩
            · simp only [sel, selFrom, List.headD_cons]
              simp only [hk, ↓reduceIte]
              simp [nodesBytes]
            · simp only [sel]
              exact selFrom_append_gt k q0 _ (by omega) P' e0

/-- descent step (`key_offset_selects`): `key_offset_serialized` on the node written for portion `P` returns the (shifted)
    offset of the child selected for `k`: the index is the number of separator keys `≤ k` -/
theorem mkNode_keyOffset (base k : Nat) (P : List Entry) (hlen : 2 ≤ P.length)
    (hp : P.Pairwise (fun a b => a.1 < b.1)) :
    (mkNode base P).keyOffset k = some ((sel P k).2 + base) := by
  match P, hlen with
  | e0 :: P', hlen =>
    have hkl : (P'.map Prod.fst).length = P'.length := List.length_map _
    have key_of : ∀ (i : Nat) (e : Entry), P'[i]? = some e → ((P'[i]?).map Prod.fst).getD 0 = e.1 := by
      intro i e he; rw [he]; rfl
    obtain ⟨res, hres, hidx, hlo, hhi⟩ := binSearch_idx (fun i => (P'.map Prod.fst)[i]?)
      (fun i => ((P'[i]?).map Prod.fst).getD 0) (P'.map Prod.fst).length k
      (fun i hi => by rw [List.getElem?_map, List.getElem?_eq_getElem (hkl ▸ hi)]; rfl)
      (fun i j hij hj => by
        have hj' : j < P'.length := hkl ▸ hj
        rw [List.getElem?_eq_getElem hj', List.getElem?_eq_getElem (Nat.lt_trans hij hj')]
        exact List.pairwise_iff_getElem.1 (List.pairwise_cons.1 hp).2 i j _ hj' hij)
    have hsel := selFrom_idx k P' e0 res.idx (hkl ▸ hidx)
      (fun i e hi he => key_of i e he ▸ hlo i hi)
      (fun i e hi he => key_of i e he ▸ hhi i hi (hkl ▸ (List.getElem?_eq_some_iff.1 he).1))
    have : (mkNode base (e0 :: P')).keyOffset k = (mkNode base (e0 :: P')).offsets[res.idx]? := by
      unfold Node.keyOffset
      rw [show (mkNode base (e0 :: P')).keys = P'.map Prod.fst from rfl,
        if_neg (by rw [hkl]; exact Nat.ne_of_gt (Nat.le_of_succ_le_succ hlen)), hres]
      cases res <;> rfl
    rw [this, show (mkNode base (e0 :: P')).offsets = (e0 :: P').map (fun e => e.2 + base) from rfl,
      List.getElem?_map, hsel]
    rfl

theorem nodeAtRel_append (p : Params) (n : Node) (R : List Node) : ∀ (A : List Node),
    IndexFile.nodeAtRel p (A ++ n :: R) (nodesBytes p A) = some n := by
  intro A
  induction A with
  | nil => simp [IndexFile.nodeAtRel, nodesBytes]
  | cons a A ih =>
    have hpos : 0 < a.size p := nodeSize_pos p _
    simp only [List.cons_append, IndexFile.nodeAtRel, nodesBytes_cons]
    rw [if_neg (by omega), if_neg (by omega), Nat.add_sub_cancel_left]
    exact ih

theorem buildTree_small (p : Params) (fuel : Nat) (es : List Entry) (to : Nat) (h : es.length ≤ 1) :
    buildTree p fuel es to = [] := by
  cases fuel with
  | zero => rfl
  | succ fuel => simp only [buildTree]; rw [if_pos h]

theorem buildTree_succ (p : Params) (fuel : Nat) (es : List Entry) (to : Nat) (h : 2 ≤ es.length) :
    buildTree p (fuel + 1) es to
      = buildTree p fuel (collectNext p (portions (minAmount p) (maxAmount p) es) 0).1 to
        ++ (portions (minAmount p) (maxAmount p) es).map (mkNode (to
            + (collectNext p (portions (minAmount p) (maxAmount p) es) 0).2
            + nodesBytes p
                (buildTree p fuel (collectNext p (portions (minAmount p) (maxAmount p) es) 0).1 to))) := by
  simp only [buildTree]
  rw [if_neg (by omega)]

/-- `single_leaf_no_tree`: one leaf, no inner node -/
theorem buildTree_single (p : Params) (fuel : Nat) (e : Entry) (to : Nat) :
    buildTree p fuel [e] to = [] := buildTree_small p fuel [e] to (by simp)

variable {H : Type} [Keyed H]

theorem findLeafNodeAux_step (f : IndexFile H) (k g off : Nat) (n : Node) (off' : Nat)
    (h1 : off < f.leavesOffset) (h2 : f.readNode off = some n) (h3 : n.keyOffset k = some off') :
    f.findLeafNodeAux k (g + 1) off = f.findLeafNodeAux k g off' := by
  simp only [IndexFile.findLeafNodeAux, h1, if_true, h2, h3]

theorem collectNext_head_off (p : Params) (Ps : List (List Entry)) (hPs : Ps ≠ []) :
    ∀ e, (collectNext p Ps 0).1.head? = some e → e.2 = 0 := by
  match Ps, hPs with
  | P :: Ps, _ => intro e he; rw [collectNext_head, List.head?_cons, Option.some.injEq] at he; rw [← he]

theorem readNode_at (f : IndexFile H) (hts : f.treeStart = f.treeOffset)
    (hfit : 2 ≤ f.nodes.length → f.leavesOffset + f.p.B ≤ f.fileSize)
    (A R : List Node) (n : Node) (hnodes : f.nodes = A ++ n :: R) (hsz : n.size f.p ≤ f.p.B)
    (hoff : f.treeOffset + nodesBytes f.p A < f.leavesOffset) :
    f.readNode (f.treeOffset + nodesBytes f.p A) = some n := by
  -- below the root a whole block is read: it must end inside the file
  have hblock : ¬ (f.treeOffset + nodesBytes f.p A ≠ f.treeOffset
      ∧ f.fileSize < f.treeOffset + nodesBytes f.p A + f.p.B) := by
    rintro ⟨hne, hlt⟩
    have : 2 ≤ f.nodes.length := by
      cases A with
      | nil => exact absurd rfl hne
      | cons a A => rw [hnodes]; simp only [List.length_append, List.length_cons]; omega
    have := hfit this
    omega
  unfold IndexFile.readNode
  rw [if_neg (by omega), if_neg hblock, hts, Nat.add_sub_cancel_left, hnodes, nodeAtRel_append]
  simp only [hsz, if_true]

/-- one step of the descent: from the node written for the portion selected one level up to the child
    selected in the whole layer -/
theorem descent_layer (f : IndexFile H) (hv : f.p.Valid) (k : Nat) (hts : f.treeStart = f.treeOffset)
    (hfit : 2 ≤ f.nodes.length → f.leavesOffset + f.p.B ≤ f.fileSize)
    (up rest : List Node) (Ps : List (List Entry)) (base : Nat)
    (hsz : ∀ P ∈ Ps, 2 ≤ P.length ∧ P.length ≤ maxAmount f.p) (hPs : Ps ≠ [])
    (hpw : Ps.flatten.Pairwise (fun a b => a.1 < b.1))
    (hnodes : f.nodes = up ++ Ps.map (mkNode base) ++ rest)
    (hbase : base = f.treeOffset + nodesBytes f.p (up ++ Ps.map (mkNode base)))
    (hle : base ≤ f.leavesOffset) (g : Nat) :
    f.findLeafNodeAux k (g + 1) (f.treeOffset + nodesBytes f.p up + (sel (collectNext f.p Ps 0).1 k).2)
      = f.findLeafNodeAux k g (base + (sel Ps.flatten k).2) := by
  have hne : ∀ P ∈ Ps, P ≠ [] := fun P hP h => by have := (hsz P hP).1; rw [h] at this; simp at this
  obtain ⟨A, P, R, rfl, hsel, hselP⟩ := sel_portions f.p base k Ps 0 hne hPs hpw
  have hP := hsz P (by simp)
  rw [List.map_append, List.map_cons] at hnodes hbase
  have hoff : f.treeOffset + nodesBytes f.p (up ++ A.map (mkNode base)) < f.leavesOffset := by
    have := nodeSize_pos f.p (P.length - 1)
    rw [hbase, ← List.append_assoc up, nodesBytes_append _ (up ++ _), nodesBytes_cons, mkNode_size] at hle
    omega
  rw [hsel, Nat.zero_add, hselP, Nat.add_assoc, ← nodesBytes_append,
    findLeafNodeAux_step f k g _ _ _ hoff
      (readNode_at f hts hfit _ (R.map (mkNode base) ++ rest) _ (by rw [hnodes]; simp)
        (by rw [mkNode_size]; exact nodeSize_le_B f.p hv.fan _ (by omega) hP.2) hoff)
      (mkNode_keyOffset base k P hP.1 ((List.pairwise_flatten.1 hpw).1 P (by simp))), Nat.add_comm]

/-- layer offsets are absolute (DESIGN §4) + `descent_finds_leaf`, by induction over `build_tree`: from the root, after
    as many steps as there are layers, `find_leaf_node` is at `children base + offset of the selected child` -/
theorem descent_aux (f : IndexFile H) (hv : f.p.Valid) (k : Nat)
    (hts : f.treeStart = f.treeOffset)
    (hfit : 2 ≤ f.nodes.length → f.leavesOffset + f.p.B ≤ f.fileSize) :
    ∀ (fuel : Nat) (E : List Entry) (rest : List Node),
      E ≠ [] → E.length ≤ fuel → E.Pairwise (fun a b => a.1 < b.1) → (∀ e, E.head? = some e → e.2 = 0) →
      f.nodes = buildTree f.p fuel E f.treeOffset ++ rest →
      f.treeOffset + nodesBytes f.p (buildTree f.p fuel E f.treeOffset) ≤ f.leavesOffset →
      ∃ d, d ≤ (buildTree f.p fuel E f.treeOffset).length ∧ ∀ g,
        f.findLeafNodeAux k (d + g) f.treeOffset
          = f.findLeafNodeAux k g
              (f.treeOffset + nodesBytes f.p (buildTree f.p fuel E f.treeOffset) + (sel E k).2) := by
  intro fuel
  induction fuel with
  | zero =>
    intro E rest hE hlen
    exact absurd (List.eq_nil_of_length_eq_zero (Nat.le_zero.1 hlen)) hE
  | succ fuel ih =>
    intro E rest hE hlen hpw hhead hnodes hle
    by_cases hsmall : E.length ≤ 1
    · -- a single entry: nothing is written for it
      rw [buildTree_small _ _ _ _ hsmall, sel_single E k hE hsmall hhead]
      exact ⟨0, Nat.le_refl _, fun g => by rw [Nat.zero_add]; rfl⟩
    · have h2 : 2 ≤ E.length := Nat.lt_of_not_le hsmall
      -- the layer written for `E`: its portions `Ps`, the layers `up` above it, the start `base` of its children
      obtain ⟨Ps, up, base, hPsE, hup, hbase, hbt⟩ : ∃ Ps up base,
          portions (minAmount f.p) (maxAmount f.p) E = Ps ∧
          buildTree f.p fuel (collectNext f.p Ps 0).1 f.treeOffset = up ∧
          f.treeOffset + (collectNext f.p Ps 0).2 + nodesBytes f.p up = base ∧
          buildTree f.p (fuel + 1) E f.treeOffset = up ++ Ps.map (mkNode base) :=
        ⟨_, _, _, rfl, rfl, rfl, buildTree_succ f.p fuel E f.treeOffset h2⟩
      have hsz := hPsE ▸ portions_sizes f.p hv.fan E h2
      obtain rfl : Ps.flatten = E := hPsE ▸ portions_flatten _ _ E
      clear hPsE
      rw [hbt] at hnodes hle ⊢
      have hPs : Ps ≠ [] := by rintro rfl; exact hE rfl
      have hcnt := flatten_length_ge Ps (fun P hP => (hsz P hP).1)
      have hE'len := collectNext_length f.p Ps 0
      have hbase' : base = f.treeOffset + nodesBytes f.p (up ++ Ps.map (mkNode base)) := by
        have := collectNext_size f.p base Ps 0
        rw [nodesBytes_append]; omega
      obtain ⟨d', hd', hdesc⟩ := ih (collectNext f.p Ps 0).1 (Ps.map (mkNode base) ++ rest)
        (fun h => hPs (List.eq_nil_of_length_eq_zero (by rw [← hE'len, h]; rfl))) (by omega)
        (collectNext_pairwise f.p Ps 0
          (fun P hP h => by have := (hsz P hP).1; rw [h] at this; simp at this) hpw)
        (collectNext_head_off f.p Ps hPs) (by rw [hup, hnodes, List.append_assoc])
        (by rw [hup]; rw [nodesBytes_append] at hle; omega)
      rw [hup] at hdesc hd'
      have := List.length_pos_iff.2 hPs
      refine ⟨d' + 1, by rw [List.length_append, List.length_map]; omega, fun g => ?_⟩
      rw [Nat.add_assoc, Nat.add_comm 1 g, hdesc (g + 1),
        descent_layer f hv k hts hfit up rest Ps base hsz hPs hpw hnodes hbase' (Nat.le_trans (Nat.le_of_eq hbase') hle) g, ← hbase']

end Pearl.BPTree
