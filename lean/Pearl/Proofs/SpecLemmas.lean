import Pearl.Spec
/-
Helper lemmas about the specification: `rankBefore` is a strict total order on positioned records
with distinct positions; what `positionedFrom` / `History.positioned` list, and in which order;
`Spec.all` (and, generally, `sortedBy q`) is *the* rank-sorted list of the selected records, and its
first record over a history is the better of the first records of the oldest blob and of the others
(`pick`, `head?_sortedBy_cons`: the induction step C01 rests on); `Spec.latest` and `Spec.readWith` as
classifications of one record (`classify`); list facts about `cut`, among them `cut_absorb` (records
ranked below a marker that is already there do not change the cut).
-/
namespace Pearl

/-! ### the rank order -/

theorem rankBefore_iff {a b : PRec} : rankBefore a b = true ↔
    a.r.ts > b.r.ts ∨ (a.r.ts = b.r.ts ∧ (a.blob > b.blob ∨ (a.blob = b.blob ∧ a.seq > b.seq))) := by
  simp [rankBefore]

theorem rankLe_iff {a b : PRec} : rankLe a b = true ↔ ¬ rankBefore b a = true := by
  simp [rankLe]

theorem rankBefore_irrefl (a : PRec) : ¬ rankBefore a a = true := by
  rw [rankBefore_iff]; omega

theorem rankBefore_asymm {a b : PRec} : rankBefore a b = true → ¬ rankBefore b a = true := by
  rw [rankBefore_iff, rankBefore_iff]; omega

theorem rankBefore_trans {a b c : PRec} :
    rankBefore a b = true → rankBefore b c = true → rankBefore a c = true := by
  rw [rankBefore_iff, rankBefore_iff, rankBefore_iff]
  rintro (h1 | ⟨e1, h1⟩) (h2 | ⟨e2, h2⟩)
  · exact .inl (Nat.lt_trans h2 h1)
  · exact .inl (e2 ▸ h1)
  · exact .inl (e1 ▸ h2)
  · exact .inr ⟨e1.trans e2, by omega⟩

theorem rankBefore_ne {a b : PRec} (h : rankBefore a b = true) : a ≠ b := by
  rintro rfl; exact rankBefore_irrefl a h

-- explicit arguments: the form `List.pairwise_mergeSort` asks for
theorem rankLe_trans (a b c : PRec) : rankLe a b = true → rankLe b c = true → rankLe a c = true := by
  rw [rankLe_iff, rankLe_iff, rankLe_iff, rankBefore_iff, rankBefore_iff, rankBefore_iff]; omega

theorem rankLe_total (a b : PRec) : (rankLe a b || rankLe b a) = true := by
  rw [Bool.or_eq_true, rankLe_iff, rankLe_iff]
  by_cases h : rankBefore b a = true
  · exact .inr (rankBefore_asymm h)
  · exact .inl h

def PDistinct (a b : PRec) : Prop := a.blob ≠ b.blob ∨ a.seq ≠ b.seq

theorem PDistinct.symm {a b : PRec} : PDistinct a b → PDistinct b a := by
  unfold PDistinct; omega

theorem rankBefore_total {a b : PRec} (h : PDistinct a b) :
    rankBefore a b = true ∨ rankBefore b a = true := by
  unfold PDistinct at h; rw [rankBefore_iff, rankBefore_iff]; omega

theorem rankBefore_of_rankLe {a b : PRec} (h : rankLe a b = true) (hd : PDistinct a b) :
    rankBefore a b = true := by
  rw [rankLe_iff] at h
  rcases rankBefore_total hd with h' | h'
  · exact h'
  · exact absurd h' h

abbrev RankSorted (l : List PRec) : Prop := l.Pairwise (fun a b => rankBefore a b = true)

theorem rankSorted_cons {x : PRec} {xs : List PRec} :
    RankSorted (x :: xs) ↔ (∀ p ∈ xs, rankBefore x p = true) ∧ RankSorted xs := List.pairwise_cons

theorem RankSorted.nodup {l : List PRec} (h : RankSorted l) : l.Nodup :=
  List.Pairwise.imp (fun hab => rankBefore_ne hab) h

theorem RankSorted.eq_of_perm {l₁ l₂ : List PRec} (h₁ : RankSorted l₁) (h₂ : RankSorted l₂)
    (hp : l₁.Perm l₂) : l₁ = l₂ :=
  List.Perm.eq_of_pairwise (fun _ _ _ _ hab hba => absurd hba (rankBefore_asymm hab)) h₁ h₂ hp

theorem RankSorted.eq_of_mem_iff {l₁ l₂ : List PRec} (h₁ : RankSorted l₁) (h₂ : RankSorted l₂)
    (hm : ∀ a, a ∈ l₁ ↔ a ∈ l₂) : l₁ = l₂ :=
  h₁.eq_of_perm h₂ ((List.perm_ext_iff_of_nodup h₁.nodup h₂.nodup).2 hm)

theorem RankSorted.head?_eq {l : List PRec} {p : PRec} (hl : RankSorted l) (hp : p ∈ l)
    (hmax : ∀ z ∈ l, z = p ∨ rankBefore p z = true) : l.head? = some p := by
  cases l with
  | nil => simp at hp
  | cons x xs =>
    rw [rankSorted_cons] at hl
    rcases List.mem_cons.1 hp with rfl | hp
    · rfl
    · rcases hmax x (by simp) with rfl | h
      · rfl
      · exact absurd h (rankBefore_asymm (hl.1 p hp))

theorem RankSorted.of_head? {l : List PRec} {p : PRec} (hl : RankSorted l) (hp : l.head? = some p) :
    p ∈ l ∧ ∀ z ∈ l, z = p ∨ rankBefore p z = true := by
  cases l with
  | nil => cases hp
  | cons x xs =>
    cases hp
    exact ⟨List.mem_cons_self, fun z hz => (List.mem_cons.1 hz).imp_right ((rankSorted_cons.1 hl).1 z)⟩

/-! ### positioned records of a blob and of a history -/

theorem positionedFrom_eq (id : Nat) : ∀ (rs : List Rec) (i : Nat),
    positionedFrom id i rs = (rs.zipIdx i).map fun x => ⟨x.1, id, x.2⟩
  | [], _ => rfl
  | r :: rs, i => by rw [positionedFrom, positionedFrom_eq id rs, List.zipIdx_cons, List.map_cons]

/-- the positioned records of a blob are its records, each with the blob's id and its index -/
theorem mem_positionedFrom_iff {id i : Nat} {rs : List Rec} {p : PRec} :
    p ∈ positionedFrom id i rs ↔ p.blob = id ∧ i ≤ p.seq ∧ rs[p.seq - i]? = some p.r := by
  rw [positionedFrom_eq, List.mem_map]
  constructor
  · rintro ⟨⟨r, n⟩, h, rfl⟩
    exact ⟨rfl, List.mk_mem_zipIdx_iff_le_and_getElem?_sub.1 h⟩
  · rintro ⟨rfl, h⟩
    exact ⟨(p.r, p.seq), List.mk_mem_zipIdx_iff_le_and_getElem?_sub.2 h, rfl⟩

theorem mem_positionedFrom {id : Nat} {rs : List Rec} {i : Nat} {p : PRec}
    (h : p ∈ positionedFrom id i rs) : p.blob = id ∧ i ≤ p.seq :=
  ⟨(mem_positionedFrom_iff.1 h).1, (mem_positionedFrom_iff.1 h).2.1⟩

theorem mem_positionedFrom_r {id : Nat} {rs : List Rec} {i : Nat} {p : PRec}
    (h : p ∈ positionedFrom id i rs) : p.r ∈ rs :=
  List.mem_of_getElem? (mem_positionedFrom_iff.1 h).2.2

theorem exists_positionedFrom_of_mem {id : Nat} {rs : List Rec} {i : Nat} {r : Rec} (h : r ∈ rs) :
    ∃ p ∈ positionedFrom id i rs, p.r = r := by
  obtain ⟨n, hn⟩ := List.getElem?_of_mem h
  exact ⟨⟨r, id, i + n⟩, mem_positionedFrom_iff.2 ⟨rfl, Nat.le_add_right _ _, by simpa using hn⟩, rfl⟩

theorem positionedFrom_map_r (id : Nat) (rs : List Rec) (i : Nat) :
    (positionedFrom id i rs).map (·.r) = rs := by
  rw [positionedFrom_eq, List.map_map]
  exact List.zipIdx_map_fst i rs

theorem positionedFrom_pairwise (id : Nat) : ∀ (rs : List Rec) (i : Nat),
    (positionedFrom id i rs).Pairwise (fun a b => a.blob = b.blob ∧ a.seq < b.seq)
  | [], _ => by simp [positionedFrom]
  | r :: rs, i => by
    simp only [positionedFrom, List.pairwise_cons]
    refine ⟨fun p hp => ?_, positionedFrom_pairwise id rs (i+1)⟩
    have := mem_positionedFrom hp
    exact ⟨this.1.symm, Nat.lt_of_succ_le this.2⟩

theorem positionedFrom_append' (id : Nat) (l₁ l₂ : List Rec) (i : Nat) :
    positionedFrom id i (l₁ ++ l₂) =
      positionedFrom id i l₁ ++ positionedFrom id (i + l₁.length) l₂ := by
  rw [positionedFrom_eq, positionedFrom_eq, positionedFrom_eq, List.zipIdx_append, List.map_append]

theorem positionedFrom_append (id : Nat) (rs : List Rec) (r : Rec) (i : Nat) :
    positionedFrom id i (rs ++ [r]) = positionedFrom id i rs ++ [⟨r, id, i + rs.length⟩] :=
  positionedFrom_append' id rs [r] i

theorem positioned_nil : History.positioned [] = [] := rfl

theorem positioned_cons (b : Nat × List Rec) (h : History) :
    History.positioned (b :: h) = positionedFrom b.1 0 b.2 ++ History.positioned h :=
  List.flatMap_cons

theorem positioned_append (h₁ h₂ : History) :
    History.positioned (h₁ ++ h₂) = History.positioned h₁ ++ History.positioned h₂ :=
  List.flatMap_append

theorem positioned_singleton (b : Nat × List Rec) :
    History.positioned [b] = positionedFrom b.1 0 b.2 :=
  List.append_nil _

theorem mem_positioned {h : History} {p : PRec} :
    p ∈ h.positioned ↔ ∃ b ∈ h, p ∈ positionedFrom b.1 0 b.2 :=
  List.mem_flatMap

theorem blob_mem_of_mem_positioned {h : History} {p : PRec} (hp : p ∈ h.positioned) :
    p.blob ∈ h.map (·.1) := by
  obtain ⟨b, hb, hpb⟩ := mem_positioned.1 hp
  rw [(mem_positionedFrom hpb).1]
  exact List.mem_map_of_mem hb

theorem positioned_perm {h₁ h₂ : History} (hp : h₁.Perm h₂) : h₁.positioned.Perm h₂.positioned :=
  List.Perm.flatMap_right _ hp

/-- the records of a history in list order: by blob as the ids are ordered, then by position -/
theorem positioned_pairwise_of {R : Nat → Nat → Prop} {h : History} (hs : (h.map (·.1)).Pairwise R) :
    h.positioned.Pairwise (fun a b => R a.blob b.blob ∨ (a.blob = b.blob ∧ a.seq < b.seq)) := by
  unfold History.positioned
  rw [List.pairwise_flatMap]
  refine ⟨fun b _ => (positionedFrom_pairwise b.1 b.2 0).imp .inr, ?_⟩
  rw [List.pairwise_map] at hs
  refine hs.imp fun hR x hx y hy => .inl ?_
  rw [(mem_positionedFrom hx).1, (mem_positionedFrom hy).1]
  exact hR

theorem positioned_distinct {h : History} (hn : (h.map (·.1)).Nodup) :
    h.positioned.Pairwise PDistinct :=
  (positioned_pairwise_of hn).imp fun hab => by unfold PDistinct; omega

/-- later in the log: in a newer blob, or later in the same blob -/
def Later (a b : PRec) : Prop := a.blob > b.blob ∨ (a.blob = b.blob ∧ a.seq > b.seq)

/-- with ascending blob ids, `positioned` lists the records in log order -/
theorem positioned_pairwise {h : History} (hs : (h.map (·.1)).Pairwise (· < ·)) :
    h.positioned.Pairwise (fun a b => Later b a) :=
  (positioned_pairwise_of hs).imp fun hab => hab.imp id fun h => ⟨h.1.symm, h.2⟩

theorem positioned_map_r : ∀ h : History, h.positioned.map (·.r) = h.flatMap (·.2)
  | [] => rfl
  | b :: h => by
    rw [positioned_cons, List.map_append, positionedFrom_map_r, positioned_map_r h, List.flatMap_cons]

/-! ### `sortedBy q`: the rank-sorted list of the selected records -/

/-- the records of the history satisfying `q`, in rank order -/
def sortedBy (q : PRec → Bool) (h : History) : List PRec := (h.positioned.filter q).mergeSort rankLe

theorem Spec.all_eq_sortedBy (h : History) (k : Key) :
    Spec.all h k = sortedBy (fun p => p.r.key == k) h := rfl

theorem sortedBy_nil (q : PRec → Bool) : sortedBy q [] = [] := by
  simp [sortedBy, positioned_nil]

theorem sortedBy_perm (q : PRec → Bool) (h : History) :
    (sortedBy q h).Perm (h.positioned.filter q) := List.mergeSort_perm _ _

theorem mem_sortedBy {q : PRec → Bool} {h : History} {p : PRec} :
    p ∈ sortedBy q h ↔ p ∈ h.positioned ∧ q p = true := by
  rw [(sortedBy_perm q h).mem_iff, List.mem_filter]

theorem mem_all_iff {h : History} {k : Key} {p : PRec} :
    p ∈ Spec.all h k ↔ p ∈ History.positioned h ∧ p.r.key = k := by
  rw [Spec.all_eq_sortedBy, mem_sortedBy]
  simp

theorem sortedBy_sorted_of_distinct (q : PRec → Bool) {h : History}
    (hd : h.positioned.Pairwise PDistinct) : RankSorted (sortedBy q h) := by
  have h1 : (sortedBy q h).Pairwise (fun a b => rankLe a b = true) :=
    List.pairwise_mergeSort rankLe_trans rankLe_total _
  have h2 : (sortedBy q h).Pairwise PDistinct :=
    (List.Perm.pairwise_iff (fun hab => PDistinct.symm hab) (sortedBy_perm q h)).2
      (hd.sublist List.filter_sublist)
  exact (h1.and h2).imp (fun hab => rankBefore_of_rankLe hab.1 hab.2)

theorem sortedBy_sorted (q : PRec → Bool) {h : History} (hn : (h.map (·.1)).Nodup) :
    RankSorted (sortedBy q h) :=
  sortedBy_sorted_of_distinct q (positioned_distinct hn)

theorem sortedBy_unique {q : PRec → Bool} {h : History} (hn : (h.map (·.1)).Nodup) {l : List PRec}
    (hp : l.Perm (h.positioned.filter q)) (hs : RankSorted l) : l = sortedBy q h :=
  hs.eq_of_perm (sortedBy_sorted q hn) (hp.trans (sortedBy_perm q h).symm)

theorem sortedBy_congr_perm (q : PRec → Bool) {h₁ h₂ : History} (hn : (h₁.map (·.1)).Nodup)
    (hp : h₁.Perm h₂) : sortedBy q h₁ = sortedBy q h₂ := by
  have hn₂ : (h₂.map (·.1)).Nodup := ((hp.map _).nodup_iff).1 hn
  refine (sortedBy_sorted q hn).eq_of_mem_iff (sortedBy_sorted q hn₂) (fun p => ?_)
  rw [mem_sortedBy, mem_sortedBy, (positioned_perm hp).mem_iff]

theorem filter_sortedBy (q q' : PRec → Bool) {h : History} (hn : (h.map (·.1)).Nodup) :
    (sortedBy q h).filter q' = sortedBy (fun p => q p && q' p) h :=
  RankSorted.eq_of_mem_iff ((sortedBy_sorted q hn).sublist List.filter_sublist) (sortedBy_sorted _ hn)
    fun p => by rw [List.mem_filter, mem_sortedBy, mem_sortedBy, Bool.and_eq_true, and_assoc]

theorem sortedBy_eq_nil_iff {q : PRec → Bool} {h : History} :
    sortedBy q h = [] ↔ ∀ p ∈ h.positioned, q p = false := by
  simp only [List.eq_nil_iff_forall_not_mem, mem_sortedBy, not_and, Bool.not_eq_true]

/-- who comes first: `x` from a blob with a smaller id, `y` from blobs with greater ids -/
def pick : Option PRec → Option PRec → Option PRec
  | none, y => y
  | some x, none => some x
  | some x, some y => if x.r.ts > y.r.ts then some x else some y

/-- the first-ranked selected record of a history = the better of the first-ranked one in the
    oldest blob and the first-ranked one in the others -/
theorem head?_sortedBy_cons (q : PRec → Bool) {b : Nat × List Rec} {h : History}
    (hlt : ∀ i ∈ h.map (·.1), b.1 < i) (hn : (h.map (·.1)).Nodup) :
    (sortedBy q (b :: h)).head? = pick (sortedBy q [b]).head? (sortedBy q h).head? := by
  have hS : RankSorted (sortedBy q (b :: h)) :=
    sortedBy_sorted q (List.nodup_cons.2 ⟨fun hb => Nat.lt_irrefl _ (hlt _ hb), hn⟩)
  have hS1 : RankSorted (sortedBy q [b]) := sortedBy_sorted q (by simp)
  have hS2 := sortedBy_sorted q hn
  have hmem : ∀ p, p ∈ sortedBy q (b :: h) ↔ p ∈ sortedBy q [b] ∨ p ∈ sortedBy q h := fun p => by
    simp only [mem_sortedBy, positioned_cons, positioned_nil, List.mem_append, List.append_nil,
      or_and_right]
  -- the records of `b` lie in an older blob than those of `h`: timestamps decide, ties go to `h`
  have hb : ∀ x ∈ sortedBy q [b], ∀ y ∈ sortedBy q h, x.blob < y.blob := fun x hx y hy => by
    rw [(mem_positionedFrom (positioned_singleton b ▸ (mem_sortedBy.1 hx).1)).1]
    exact hlt _ (blob_mem_of_mem_positioned (mem_sortedBy.1 hy).1)
  cases e1 : sortedBy q [b] with
  | nil => rw [hS.eq_of_mem_iff hS2 (by simpa [e1] using hmem)]; rfl
  | cons x xs =>
    cases e2 : sortedBy q h with
    | nil => rw [hS.eq_of_mem_iff hS1 (by simpa [e2] using hmem), e1]; rfl
    | cons y ys =>
      rw [e1, e2] at hmem hb
      rw [e1] at hS1
      rw [e2] at hS2
      have hxy := hb x (by simp) y (by simp)
      have hx := (rankSorted_cons.1 hS1).1
      have hy := (rankSorted_cons.1 hS2).1
      simp only [List.head?_cons, pick]
      split
      · rename_i hgt
        have hxy : rankBefore x y = true := rankBefore_iff.2 (.inl hgt)
        refine hS.head?_eq ((hmem x).2 (.inl (by simp))) fun z hz => ?_
        rcases (hmem z).1 hz with hz | hz <;> rcases List.mem_cons.1 hz with rfl | hz
        · exact .inl rfl
        · exact .inr (hx z hz)
        · exact .inr hxy
        · exact .inr (rankBefore_trans hxy (hy z hz))
      · rename_i hgt
        have hyx : rankBefore y x = true := by rw [rankBefore_iff]; omega
        refine hS.head?_eq ((hmem y).2 (.inr (by simp))) fun z hz => ?_
        rcases (hmem z).1 hz with hz | hz <;> rcases List.mem_cons.1 hz with rfl | hz
        · exact .inr hyx
        · exact .inr (rankBefore_trans hyx (hx z hz))
        · exact .inl rfl
        · exact .inr (hy z hz)

/-! ### `read` as a classification -/

/-- `Found` / `Deleted(ts)` / `NotFound` from the first relevant record -/
def classify : Option PRec → ReadResult PRec
  | none => .notFound
  | some p => if p.r.del then .deleted p.r.ts else .found p

theorem Spec.latest_eq (h : History) (k : Key) : Spec.latest h k = classify (Spec.all h k).head? := by
  unfold Spec.latest
  cases Spec.all h k <;> rfl

/-! ### `cut` -/

theorem cut_sublist : ∀ l : List PRec, (Spec.cut l).Sublist l
  | [] => List.Sublist.slnil
  | x :: xs => by
    unfold Spec.cut
    split
    · exact (List.Sublist.cons_cons x (List.nil_sublist xs))
    · exact (cut_sublist xs).cons_cons x

theorem cut_eq_nil_iff {l : List PRec} : Spec.cut l = [] ↔ l = [] := by
  cases l with
  | nil => simp [Spec.cut]
  | cons x xs => simp only [Spec.cut]; split <;> simp

theorem cut_head? : ∀ l : List PRec, (Spec.cut l).head? = l.head?
  | [] => rfl
  | p :: ps => by simp only [Spec.cut]; split <;> rfl

theorem cut_eq_self_of_no_del : ∀ {l : List PRec}, (∀ p ∈ l, p.r.del = false) → Spec.cut l = l
  | [], _ => rfl
  | x :: xs, h => by
    simp only [Spec.cut, h x (by simp), Bool.false_eq_true, if_false]
    rw [cut_eq_self_of_no_del (fun p hp => h p (by simp [hp]))]

theorem getLast?_cut_of_del : ∀ {l : List PRec} {d : PRec}, d ∈ Spec.cut l → d.r.del = true →
    (Spec.cut l).getLast? = some d
  | [], d, h, _ => by simp [Spec.cut] at h
  | x :: xs, d, h, hd => by
    unfold Spec.cut at h ⊢
    split
    · rename_i hx; rw [if_pos hx] at h; simp at h; simp [h]
    · rename_i hx
      rw [if_neg hx] at h
      rcases List.mem_cons.1 h with rfl | h
      · exact absurd hd hx
      · have ih := getLast?_cut_of_del h hd
        cases hc : Spec.cut xs with
        | nil => rw [hc] at h; simp at h
        | cons c cs => rw [hc] at ih; rw [List.getLast?_cons_cons]; exact ih

theorem cut_cut : ∀ l : List PRec, Spec.cut (Spec.cut l) = Spec.cut l
  | [] => rfl
  | x :: xs => by
    by_cases hx : x.r.del = true
    · simp [Spec.cut, hx]
    · simp [Spec.cut, hx, cut_cut xs]

/-! ### `read_with` as a classification -/

/-- `read_with` looks at the first record that is a marker or carries the wanted metadata -/
theorem readWith_list_eq (m : Meta) : ∀ l : List PRec,
    (match (Spec.cut l).find? (fun p => !p.r.del && p.r.mt == m) with
      | some p => ReadResult.found p
      | none =>
        match (Spec.cut l).getLast? with
        | some p => if p.r.del then .deleted p.r.ts else .notFound
        | none => .notFound) = classify (l.find? (fun p => p.r.del || p.r.mt == m))
  | [] => rfl
  | x :: xs => by
    have ih := readWith_list_eq m xs
    cases hd : x.r.del with
    | true => simp [Spec.cut, hd, classify]
    | false =>
      cases hm : x.r.mt == m with
      | true => simp [Spec.cut, hd, hm, classify]
      | false =>
        simp only [Spec.cut, hd, Bool.false_eq_true, if_false, List.find?_cons, Bool.not_false,
          hm, Bool.and_false, Bool.or_false]
        rw [← ih]
        cases hc : Spec.cut xs with
        | nil => simp [hd]
        | cons c cs => rw [List.getLast?_cons_cons]

theorem Spec.readWith_eq (h : History) (k : Key) (m : Meta) :
    Spec.readWith h k m = classify ((Spec.all h k).find? (fun p => p.r.del || p.r.mt == m)) := by
  unfold Spec.readWith Spec.allCut
  exact readWith_list_eq m _

theorem Spec.readWith_cut (h : History) (k : Key) (m : Meta) :
    Spec.readWith h k m =
      classify ((Spec.allCut h k).find? (fun p => p.r.del || p.r.mt == m)) := by
  have := readWith_list_eq m (Spec.allCut h k)
  unfold Spec.allCut at this ⊢
  rw [cut_cut] at this
  exact this

/-! ### `cut` of a rank-sorted list -/

theorem mem_cut_iff : ∀ {l : List PRec}, RankSorted l → ∀ {p : PRec},
    (p ∈ Spec.cut l ↔ p ∈ l ∧ ∀ d ∈ l, d.r.del = true → ¬ rankBefore d p = true)
  | [], _, p => by simp [Spec.cut]
  | x :: xs, hl, p => by
    rw [rankSorted_cons] at hl
    have ih := mem_cut_iff hl.2 (p := p)
    by_cases hx : x.r.del = true
    · simp only [Spec.cut, hx, if_true, List.mem_cons, List.not_mem_nil, or_false, forall_eq_or_imp]
      constructor
      · rintro rfl
        exact ⟨.inl rfl, fun _ => rankBefore_irrefl _, fun d hd _ => rankBefore_asymm (hl.1 d hd)⟩
      · rintro ⟨rfl | hp, hno, _⟩
        · rfl
        · exact absurd (hl.1 p hp) (hno trivial)
    · simp only [Spec.cut, hx, Bool.false_eq_true, if_false, List.mem_cons, forall_eq_or_imp, ih]
      constructor
      · rintro (rfl | ⟨hp, hno⟩)
        · exact ⟨.inl rfl, False.elim, fun d hd _ => rankBefore_asymm (hl.1 d hd)⟩
        · exact ⟨.inr hp, False.elim, hno⟩
      · rintro ⟨rfl | hp, _, hno⟩
        · exact .inl rfl
        · exact .inr ⟨hp, hno⟩

theorem exists_del_cut : ∀ {l : List PRec}, RankSorted l → ∀ {d : PRec}, d ∈ l → d.r.del = true →
    ∃ d' ∈ Spec.cut l, d'.r.del = true ∧ (d' = d ∨ rankBefore d' d = true)
  | [], _, d, h, _ => by simp at h
  | x :: xs, hl, d, h, hd => by
    rw [rankSorted_cons] at hl
    by_cases hx : x.r.del = true
    · refine ⟨x, by simp [Spec.cut, hx], hx, ?_⟩
      rcases List.mem_cons.1 h with rfl | h
      · exact Or.inl rfl
      · exact Or.inr (hl.1 d h)
    · rcases List.mem_cons.1 h with rfl | h
      · exact absurd hd hx
      · obtain ⟨d', h1, h2, h3⟩ := exists_del_cut hl.2 h hd
        exact ⟨d', by simp [Spec.cut, hx, h1], h2, h3⟩

theorem exists_del_cut_before {l : List PRec} (hl : RankSorted l) {y : PRec} (hy : y ∈ l)
    (hn : y ∉ Spec.cut l) : ∃ d ∈ Spec.cut l, d.r.del = true ∧ rankBefore d y = true := by
  obtain ⟨d, hd, hdd, hdy⟩ : ∃ d ∈ l, d.r.del = true ∧ rankBefore d y = true := by
    simpa using fun h => hn ((mem_cut_iff hl).2 ⟨hy, h⟩)
  obtain ⟨d', h1, h2, h3⟩ := exists_del_cut hl hd hdd
  exact ⟨d', h1, h2, h3.elim (· ▸ hdy) (rankBefore_trans · hdy)⟩

/-- records ranked below a marker that is already there do not change the cut -/
theorem cut_absorb {C₁ C' : List PRec} (h₁ : RankSorted C₁) (h' : RankSorted C')
    (hsub : ∀ p ∈ C₁, p ∈ C')
    (hR : ∀ y ∈ C', y ∉ C₁ → ∃ d ∈ C₁, d.r.del = true ∧ rankBefore d y = true) :
    Spec.cut C' = Spec.cut C₁ := by
  refine RankSorted.eq_of_mem_iff (h'.sublist (cut_sublist _)) (h₁.sublist (cut_sublist _)) fun p => ?_
  rw [mem_cut_iff h', mem_cut_iff h₁]
  constructor
  · rintro ⟨hp, hno⟩
    refine ⟨?_, fun d hd => hno d (hsub d hd)⟩
    refine Decidable.by_contra fun hp1 => ?_
    obtain ⟨d, hd, hdd, hdp⟩ := hR p hp hp1
    exact hno d (hsub d hd) hdd hdp
  · rintro ⟨hp, hno⟩
    refine ⟨hsub p hp, fun d hd hdd hdp => ?_⟩
    by_cases hd1 : d ∈ C₁
    · exact hno d hd1 hdd hdp
    · obtain ⟨e, he, hed, hedd⟩ := hR d hd hd1
      exact hno e he hed (rankBefore_trans hedd hdp)

theorem cut_map_r_filter : ∀ l : List PRec,
    ((Spec.cut l).filter (fun p => !p.r.del)) = l.takeWhile (fun p => !p.r.del)
  | [] => rfl
  | x :: xs => by
    by_cases hx : x.r.del = true
    · simp [Spec.cut, hx]
    · simp [Spec.cut, hx, cut_map_r_filter xs]

end Pearl
