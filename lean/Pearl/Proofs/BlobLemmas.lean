import Pearl.Proofs.RecordLemmas
/-
Whole-blob lemmas: what `appendRecords` produces (`Record.image`, `tailOf`, `scanOf`), and what `Entry::load`,
`load_data` and one `read_current_record` return where a record image, or at least its complete header, stands.
The vocabulary of produced blobs `blobBytes klen recs` and their prefixes (`GoodRecs`, `ProducedAt`, `CutIn`) is in
Pearl/Proofs/BlobProduced.lean.
-/
namespace Pearl

/-- a record as `Record::create` / `Record::deleted` build it, for `klen`-byte keys -/
structure Record.WF (klen : Nat) (R : Record) : Prop where
  magic : R.header.magicByte = RECORD_MAGIC_BYTE
  key : R.header.key.length = klen
  msize : R.header.metaSize = (serMeta R.mt).length
  dsize : R.header.dataSize = R.data.length
  dcrc : R.header.dataChecksum = crc32c R.data

theorem Record.create_WF (klen key ts : Nat) (m : Meta) (d : List UInt8) :
    (Record.create klen key ts m d).WF klen := by
  constructor <;> simp [Record.create, RecHeader.new]

theorem Record.deleted_WF (klen key ts : Nat) (m : Meta) : (Record.deleted klen key ts m).WF klen := by
  constructor <;> simp [Record.deleted, Record.create, RecHeader.new, markDeleted, RecHeader.updateChecksum]

theorem recordOf_WF (klen : Nat) (r : Rec) (d : List UInt8) : (recordOf klen r d).WF klen := by
  unfold recordOf
  split
  · exact Record.deleted_WF ..
  · exact Record.create_WF ..

theorem recordsOf_getElem? {klen : Nat} {recs : List (Rec × List UInt8)} {i : Nat} {r : Rec} {d : List UInt8}
    (hr : recs[i]? = some (r, d)) : (recordsOf klen recs)[i]? = some (recordOf klen r d) := by
  simp [recordsOf, List.getElem?_map, hr]

theorem recordsOf_length (klen : Nat) (recs : List (Rec × List UInt8)) :
    (recordsOf klen recs).length = recs.length := by simp [recordsOf]

theorem recordsOf_getElem (klen : Nat) (recs : List (Rec × List UInt8)) (i : Nat)
    (hi : i < (recordsOf klen recs).length) (r : Rec) (d : List UInt8) (hr : recs[i]? = some (r, d)) :
    (recordsOf klen recs)[i] = recordOf klen r d := by
  have := recordsOf_getElem? (klen := klen) hr
  rw [List.getElem?_eq_getElem hi] at this
  exact Option.some.inj this

theorem recordOf_mt (klen : Nat) (r : Rec) (d : List UInt8) : (recordOf klen r d).mt = r.mt := by
  unfold recordOf; split <;> rfl

theorem recordOf_data (klen : Nat) (r : Rec) (d : List UInt8) :
    (recordOf klen r d).data = if r.del then [] else d := by
  unfold recordOf; split <;> rfl

theorem recordOf_timestamp (klen : Nat) (r : Rec) (d : List UInt8) :
    (recordOf klen r d).header.timestamp = r.ts := by
  unfold recordOf; split <;> rfl

/-- the plain serialisation of a record placed at `off`: the header with offset and checksum set (`final`), the
    meta, the data.  What the write path produces by patching its buffer, `recordBytes`, equals it
    (`recordBytes_eq_image`); `appendRecord_eq` and `appendRecords_eq` rewrite appended files to it. -/
def Record.image (R : Record) (off : Nat) : List UInt8 :=
  serHeader (R.header.final off) ++ (serMeta R.mt ++ R.data)

theorem Record.image_length (R : Record) (off : Nat) :
    (R.image off).length = 57 + R.header.key.length + (serMeta R.mt).length + R.data.length := by
  simp [Record.image, RecHeader.final, finalWith_key]; omega

/-- the size of a record in the file does not depend on where it is written -/
def Record.size (R : Record) : Nat := 57 + R.header.key.length + (serMeta R.mt).length + R.data.length

theorem Record.image_length_eq_size (R : Record) (off : Nat) : (R.image off).length = R.size :=
  R.image_length off

theorem size_pos (R : Record) : 57 ≤ R.size := by unfold Record.size; omega

theorem recordBytes_eq_image (R : Record) (off maxSP : Nat) : recordBytes R off maxSP = R.image off := by
  unfold recordBytes writableOf Record.image RecHeader.final
  rw [(writableWith_toPartial crc32c R off maxSP).1, List.append_assoc]

theorem appendRecord_eq (file : List UInt8) (R : Record) (maxSP : Nat) :
    appendRecord file R maxSP = file ++ R.image file.length := by
  unfold appendRecord
  rw [writeData_end]
  exact congrArg (file ++ ·) (recordBytes_eq_image R file.length maxSP)

theorem writtenHeader_eq (R : Record) (off maxSP : Nat) : writtenHeader R off maxSP = R.header.final off := by
  unfold writtenHeader writableOf
  rw [(writableWith_toPartial crc32c R off maxSP).2]
  rfl

theorem headerValidate_final (h : RecHeader) (off : Nat) (hm : h.magicByte = RECORD_MAGIC_BYTE) :
    headerValidate (h.final off) = .ok () := by
  rw [headerValidate_ok]
  exact ⟨hm, rfl⟩

theorem final_inRange {klen : Nat} {R : Record} (hwf : R.WF klen) (off : Nat)
    (hts : R.header.timestamp < 2 ^ 64) (hlen : off + (R.image off).length < 2 ^ 64) :
    (R.header.final off).InRange := by
  rw [Record.image_length] at hlen
  have h1 := hwf.msize
  have h2 := hwf.dsize
  refine ⟨?_, ?_, ?_, ?_, ?_, hts⟩ <;> simp only [RecHeader.final, RecHeader.finalWith]
  · rw [hwf.magic]; decide
  all_goals omega

theorem serString_m : serString "m" = serVec [0x6d] := by decide

theorem fromUTF8_m : String.fromUTF8? ⟨[(0x6d : UInt8)].toArray⟩ = some "m" := by decide

theorem deserMeta_serMeta (m : Meta) (hm : (serMeta m).length < 2 ^ 64) :
    deserMeta (serMeta m) = some (metaEntries m) := by
  rw [← List.append_nil (serMeta m)]
  cases m with
  | none =>
    simp only [deserMeta, serMeta, takeN_le64, fromLe_le64 (show 0 < 2 ^ 64 by decide)]
    rfl
  | some v =>
    have hv : (metaVal v).length < 2 ^ 64 := by
      simp [serMeta, serString_m] at hm; omega
    simp only [deserMeta, serMeta, List.append_assoc, takeN_le64, fromLe_le64 (show 1 < 2 ^ 64 by decide),
      deserEntries, deserString, serString_m, deserVec_serVec [0x6d] _ (by decide), fromUTF8_m,
      deserVec_serVec _ _ hv, metaEntries]

theorem Record.WF.audit {klen : Nat} {R : Record} (hwf : R.WF klen) (off : Nat) :
    dataChecksumAudit (R.header.final off) R.data = .ok () :=
  dataChecksumAudit_ok.mpr hwf.dcrc.symm

theorem readExactAt_image_data {klen : Nat} (pre post : List UInt8) (R : Record) (hwf : R.WF klen) (off : Nat)
    (hoff : pre.length = off) :
    readExactAt (pre ++ (R.image off ++ post)) R.data.length (off + (57 + klen) + (serMeta R.mt).length) =
      some R.data := by
  rw [show pre ++ (R.image off ++ post) =
      (pre ++ (serHeader (R.header.final off) ++ serMeta R.mt)) ++ (R.data ++ post) by
    simp [Record.image, List.append_assoc]]
  refine readExactAt_append ?_ rfl
  simp [hoff, show (R.header.final off).key.length = klen from hwf.key]
  omega

theorem entryLoad_image {klen : Nat} (pre post : List UInt8) (R : Record) (hwf : R.WF klen) (off : Nat)
    (hoff : pre.length = off) (hm : (serMeta R.mt).length < 2 ^ 64) :
    entryLoad (pre ++ (R.image off ++ post)) (R.header.final off) = .ok (serMeta R.mt, R.data) := by
  have hmo : (pre ++ serHeader (R.header.final off)).length = (R.header.final off).metaOffset := by
    simp [RecHeader.metaOffset, RecHeader.serializedSize, RecHeader.final, RecHeader.finalWith, hoff]
  have hms : (R.header.final off).metaSize = (serMeta R.mt).length := hwf.msize
  have hds : (R.header.final off).dataSize = R.data.length := hwf.dsize
  have hmeta := deserMeta_serMeta R.mt hm
  unfold entryLoad
  rw [show pre ++ (R.image off ++ post) =
      (pre ++ serHeader (R.header.final off)) ++ ((serMeta R.mt ++ R.data) ++ post) by
    simp [Record.image, List.append_assoc],
    readExactAt_append hmo (by rw [hms, hds, List.length_append]; omega)]
  simp only [hms, List.take_left' rfl, List.drop_left' rfl, hmeta, headerValidate_final _ _ hwf.magic,
    hwf.audit]

theorem final_dataOffset {klen : Nat} {R : Record} (hwf : R.WF klen) (off : Nat) :
    (R.header.final off).dataOffset = off + (57 + klen) + (serMeta R.mt).length := by
  simp [RecHeader.dataOffset, RecHeader.metaOffset, RecHeader.serializedSize, RecHeader.final,
    RecHeader.finalWith, hwf.msize, hwf.key]

theorem loadData_image {klen : Nat} (pre post : List UInt8) (R : Record) (hwf : R.WF klen) (off : Nat)
    (hoff : pre.length = off) :
    loadData (pre ++ (R.image off ++ post)) (R.header.final off) = .ok R.data := by
  unfold loadData
  rw [final_dataOffset hwf, show (R.header.final off).dataSize = R.data.length from hwf.dsize,
    readExactAt_image_data pre post R hwf off hoff]
  simp only [hwf.audit]

theorem readExactAt_image_header {klen : Nat} (P Y : List UInt8) (R : Record) (hwf : R.WF klen) (off n : Nat)
    (hoff : P.length = off) (hn : 57 + klen ≤ n) :
    readExactAt (P ++ ((R.image off).take n ++ Y)) (57 + klen) off = some (serHeader (R.header.final off)) := by
  have hkl : (R.header.final off).key.length = klen := hwf.key
  rw [Record.image, List.take_append, serHeader_length, hkl,
    List.take_of_length_le (by rw [serHeader_length, hkl]; omega), List.append_assoc]
  exact readExactAt_append hoff (by rw [serHeader_length, hkl])

/-- `read_current_record` where the complete header of `R` stands: the header is accepted, whatever follows
    it in the file; only with data validation are further bytes read, where the header says the data is -/
theorem readCurrentRecord_of_header {klen : Nat} (v : Bool) (file : List UInt8) (R : Record) (hwf : R.WF klen)
    (off : Nat) (hr : (R.header.final off).InRange)
    (hh : readExactAt file (57 + klen) off = some (serHeader (R.header.final off))) :
    readCurrentRecord v file (57 + klen) off =
      if v then
        match readExactAt file R.data.length (off + (57 + klen) + (serMeta R.mt).length) with
        | none => .error (.load .bincode)
        | some d => .ok (R.header.final off, some d, off + (57 + klen) + (serMeta R.mt).length + R.data.length)
      else .ok (R.header.final off, none, off + (57 + klen) + (serMeta R.mt).length + R.data.length) := by
  have hms : (R.header.final off).metaSize = (serMeta R.mt).length := hwf.msize
  have hds : (R.header.final off).dataSize = R.data.length := hwf.dsize
  have hd := deserHeader_serHeader (R.header.final off) [] hr
  rw [List.append_nil] at hd
  unfold readCurrentRecord
  rw [hh]
  simp only [hd, headerValidate_final _ _ hwf.magic, hms, hds]
  cases v
  · rfl
  · cases readExactAt file R.data.length (off + (57 + klen) + (serMeta R.mt).length) <;> rfl

theorem readCurrentRecord_image {klen : Nat} (v : Bool) (pre post : List UInt8) (R : Record)
    (hwf : R.WF klen) (off : Nat) (hoff : pre.length = off) (hr : (R.header.final off).InRange) :
    readCurrentRecord v (pre ++ (R.image off ++ post)) (57 + klen) off =
      .ok (R.header.final off, if v then some R.data else none, off + (R.image off).length) := by
  have him := R.image_length off
  rw [hwf.key] at him
  have hh := readExactAt_image_header pre post R hwf off (R.image off).length hoff (by omega)
  rw [List.take_length] at hh
  rw [readCurrentRecord_of_header v _ R hwf off hr hh, readExactAt_image_data pre post R hwf off hoff, him]
  cases v <;> simp only [Bool.false_eq_true, ↓reduceIte, Nat.add_assoc]

/-- the bytes `appendRecords` adds after a file of length `off` -/
def tailOf : Nat → List Record → List UInt8
  | _, [] => []
  | off, R :: Rs => R.image off ++ tailOf (off + (R.image off).length) Rs

/-- the scan result expected for `tailOf` -/
def scanOf : Nat → List Record → List (Nat × RecHeader)
  | _, [] => []
  | off, R :: Rs => (off, R.header.final off) :: scanOf (off + (R.image off).length) Rs

theorem appendRecords_eq (p : List UInt8) (Rs : List Record) :
    appendRecords p Rs = p ++ tailOf p.length Rs := by
  induction Rs generalizing p with
  | nil => simp [appendRecords, tailOf]
  | cons R Rs ih =>
    simp only [appendRecords, tailOf]
    rw [appendRecord_eq, ih, List.length_append, List.append_assoc]

theorem appendRecords_length (p : List UInt8) (Rs : List Record) :
    (appendRecords p Rs).length = p.length + (tailOf p.length Rs).length := by
  rw [appendRecords_eq, List.length_append]

theorem writtenHeaders_eq (p : List UInt8) (Rs : List Record) :
    writtenHeaders p Rs = (scanOf p.length Rs).map (·.2) := by
  induction Rs generalizing p with
  | nil => rfl
  | cons R Rs ih =>
    simp only [writtenHeaders, scanOf, List.map_cons]
    rw [writtenHeader_eq, appendRecord_eq, ih, List.length_append]

theorem appendRecords_eq_flatten (p : List UInt8) (Rs : List Record) :
    appendRecords p Rs = p ++ (List.zipWith (fun h R => serHeader h ++ (serMeta R.mt ++ R.data))
      (writtenHeaders p Rs) Rs).flatten := by
  induction Rs generalizing p with
  | nil => simp [appendRecords, writtenHeaders]
  | cons R Rs ih =>
    simp only [appendRecords, writtenHeaders, List.zipWith_cons_cons, List.flatten_cons]
    rw [ih, appendRecord_eq, writtenHeader_eq, List.append_assoc]
    rfl

theorem appendRecords_append (p : List UInt8) (Rs1 Rs2 : List Record) :
    appendRecords p (Rs1 ++ Rs2) = appendRecords (appendRecords p Rs1) Rs2 := by
  induction Rs1 generalizing p with
  | nil => rfl
  | cons R Rs ih => exact ih _

theorem blobBytes_append (klen : Nat) (a b : List (Rec × List UInt8)) :
    blobBytes klen (a ++ b) = blobBytes klen a ++ tailOf (blobBytes klen a).length (recordsOf klen b) := by
  unfold blobBytes recordsOf
  rw [List.map_append, appendRecords_append, appendRecords_eq (appendRecords _ _)]

theorem blobBytes_snoc (klen : Nat) (recs : List (Rec × List UInt8)) (r : Rec) (d : List UInt8) :
    blobBytes klen (recs ++ [(r, d)]) = blobBytes klen recs ++
      serHeader ((recordOf klen r d).header.final (blobBytes klen recs).length) ++
        (serMeta r.mt ++ if r.del then [] else d) := by
  rw [blobBytes_append]
  simp only [recordsOf, List.map_cons, List.map_nil, tailOf, Record.image, recordOf_mt, recordOf_data,
    List.append_nil, List.append_assoc]

/-- the blob image as a function of its index headers: the checksums occur only through `blobHeaders` -/
theorem blobBytes_eq_of_headers (klen : Nat) (recs : List (Rec × List UInt8)) :
    blobBytes klen recs = serBlobHeader ++ (List.zipWith
      (fun h x => serHeader h ++ (serMeta x.1.mt ++ if x.1.del then [] else x.2))
      (blobHeaders klen recs) recs).flatten := by
  simp only [blobBytes, blobHeaders, appendRecords_eq_flatten serBlobHeader, recordsOf,
    List.zipWith_map_right, recordOf_mt, recordOf_data]

/-- every entry of `scanOf` carries its position as blob offset, and lies before the end of the run -/
theorem scanOf_offsets (off : Nat) (Rs : List Record) :
    ∀ x ∈ scanOf off Rs, x.2.blobOffset = x.1 ∧ x.1 < off + (tailOf off Rs).length := by
  induction Rs generalizing off with
  | nil => intro x hx; cases hx
  | cons R Rs ih =>
    intro x hx
    simp only [scanOf, List.mem_cons] at hx
    simp only [tailOf, List.length_append]
    have hp := R.image_length off
    rcases hx with rfl | hx
    · exact ⟨rfl, by simp only; omega⟩
    · exact ⟨(ih _ x hx).1, by have := (ih _ x hx).2; omega⟩

theorem tailOf_length (off : Nat) (Rs : List Record) :
    (tailOf off Rs).length = (Rs.map Record.size).sum := by
  induction Rs generalizing off with
  | nil => rfl
  | cons R Rs ih =>
    simp only [tailOf, List.length_append, List.map_cons, List.sum_cons, ih, Record.image_length,
      Record.size]

theorem tailOf_length_indep (a b : Nat) (Rs : List Record) :
    (tailOf a Rs).length = (tailOf b Rs).length := by
  rw [tailOf_length, tailOf_length]

theorem sum_size_ge (Rs : List Record) : 57 * Rs.length ≤ (Rs.map Record.size).sum := by
  induction Rs with
  | nil => simp
  | cons R Rs ih =>
    simp only [List.map_cons, List.sum_cons, List.length_cons]
    have := size_pos R
    omega

theorem tailOf_length_ge (off : Nat) (Rs : List Record) : 57 * Rs.length ≤ (tailOf off Rs).length := by
  rw [tailOf_length]; exact sum_size_ge Rs

theorem tailOf_append (off : Nat) (Rs1 Rs2 : List Record) :
    tailOf off (Rs1 ++ Rs2) = tailOf off Rs1 ++ tailOf (off + (tailOf off Rs1).length) Rs2 := by
  induction Rs1 generalizing off with
  | nil => simp [tailOf]
  | cons R Rs ih =>
    simp only [List.cons_append, tailOf, ih, List.append_assoc, List.length_append]
    rw [Nat.add_assoc]

theorem tailOf_snoc (off : Nat) (Rs : List Record) (R : Record) :
    tailOf off (Rs ++ [R]) = tailOf off Rs ++ R.image (off + (tailOf off Rs).length) := by
  rw [tailOf_append]; simp [tailOf]

theorem scanOf_append (off : Nat) (Rs1 Rs2 : List Record) :
    scanOf off (Rs1 ++ Rs2) = scanOf off Rs1 ++ scanOf (off + (tailOf off Rs1).length) Rs2 := by
  induction Rs1 generalizing off with
  | nil => simp [scanOf, tailOf]
  | cons R Rs ih =>
    simp only [List.cons_append, scanOf, tailOf, ih, List.length_append]
    rw [Nat.add_assoc]

theorem scanOf_length (off : Nat) (Rs : List Record) : (scanOf off Rs).length = Rs.length := by
  induction Rs generalizing off with
  | nil => rfl
  | cons R Rs ih => simp [scanOf, ih]

/-- `RawRecords::start` reads the 16 bytes after the blob header: it succeeds as soon as the magic byte and the key
    length of a first record stand there -/
theorem rawStart_of_prefix {klen : Nat} (R : Record) (hwf : R.WF klen) (hk : klen < 2 ^ 64) {body : List UInt8}
    (h : (R.image 20).take 16 <+: body) : rawStart klen (serBlobHeader ++ body) = .ok (57 + klen) := by
  obtain ⟨rest, rfl⟩ := h
  have h16 : (R.image 20).take 16 = le64 R.header.magicByte ++ le64 R.header.key.length := by
    simp only [Record.image, serHeader, serHeaderPre, serVec, RecHeader.final, RecHeader.finalWith,
      List.append_assoc]
    rw [← List.append_assoc (le64 _) (le64 _), List.take_left' (by simp)]
  unfold rawStart
  rw [h16, readExactAt_append (by simp [serBlobHeader, blobHeaderSize]) (by simp)]
  simp only [List.take_left' (le64_length _), List.drop_left' (le64_length _)]
  rw [hwf.magic, hwf.key, fromLe_le64 hk, fromLe_le64 (by decide)]
  simp

end Pearl
