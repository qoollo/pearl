import Pearl.Model.BPTreeBytes
import Pearl.Proofs.BPTreeLemmas
import Pearl.Proofs.ListLemmas
/-
Layout consistency of the byte-level serializer with the offset arithmetic of the structured model.
-/
set_option linter.unusedSectionVars false

namespace Pearl.BPTree

theorem leBytes_length : ∀ (w n : Nat), (leBytes w n).length = w := by
  intro w
  induction w with
  | zero => intro n; rfl
  | succ w ih => intro n; simp [leBytes, ih]

theorem beBytes_length (w n : Nat) : (beBytes w n).length = w := by
  simp [beBytes, leBytes_length]

theorem RawHeader.bytes_length (K : Nat) (h : RawHeader) : (h.bytes K).length = 57 + K := by
  simp only [RawHeader.bytes, List.length_append, leBytes_length, beBytes_length]
  omega

theorem Node.bytes_length (p : Params) (n : Node) (hn : n.offsets.length = n.keys.length + 1) :
    (n.bytes p.K).length = n.size p := by
  simp only [Node.bytes, List.length_append, leBytes_length]
  rw [flatMap_length_const (beBytes p.K) p.K n.keys (fun x _ => beBytes_length _ _),
    flatMap_length_const (leBytes 8) 8 n.offsets (fun x _ => leBytes_length _ _), hn]
  simp only [Node.size, nodeSize, nodeMetaSize, offsetSize]
  rw [Nat.mul_comm p.K]
  omega

theorem nodes_bytes_length (p : Params) : ∀ (ns : List Node),
    (∀ n ∈ ns, n.offsets.length = n.keys.length + 1) →
    (ns.flatMap (Node.bytes p.K)).length = nodesBytes p ns := by
  intro ns
  induction ns with
  | nil => intro _; rfl
  | cons n ns ih =>
    intro h
    simp only [List.flatMap_cons, List.length_append, nodesBytes_cons]
    rw [Node.bytes_length p n (h n (by simp)), ih (fun x hx => h x (by simp [hx]))]

/-- the byte string has exactly the length, and hence every region exactly the position, that the offset
    arithmetic of the structured model assumes -/
theorem indexFileBytes_length (f : IndexFile RawHeader) (metaBuf hash : List Nat) (blobSize : Nat)
    (hnodes : ∀ n ∈ f.nodes, n.offsets.length = n.keys.length + 1) (hrhs : f.p.rhs = 57 + f.p.K)
    (hmeta : metaBuf.length = f.metaLen) (hhash : hash.length = 32) :
    (indexFileBytes f metaBuf hash blobSize).length = f.fileSize ∧
    (indexHeaderBytes f hash true blobSize ++ metaBuf ++ treeMetaBytes f).length = f.treeStart ∧
    (indexHeaderBytes f hash true blobSize ++ metaBuf ++ treeMetaBytes f
      ++ f.nodes.flatMap (Node.bytes f.p.K)).length = f.leavesStart := by
  have h1 : (indexHeaderBytes f hash true blobSize ++ metaBuf ++ treeMetaBytes f).length = f.treeStart := by
    simp only [indexHeaderBytes, treeMetaBytes, List.length_append, leBytes_length, List.length_cons,
      List.length_nil, hmeta, hhash, IndexFile.treeStart, indexHeaderSize, treeMetaSize]
  have h2 := nodes_bytes_length f.p f.nodes hnodes
  have h3 : (f.leaves.flatMap (RawHeader.bytes f.p.K)).length = f.leaves.length * f.p.rhs := by
    rw [hrhs]
    exact flatMap_length_const _ _ _ (fun x _ => RawHeader.bytes_length _ _)
  refine ⟨?_, h1, ?_⟩
  · unfold indexFileBytes
    rw [List.length_append, List.length_append, h1, h2, h3]
    rfl
  · rw [List.length_append, h1, h2]; rfl

theorem buildTree_nodes_wf (p : Params) (hfan : 3 ≤ maxAmount p) (to : Nat) :
    ∀ (fuel : Nat) (E : List Entry), ∀ n ∈ buildTree p fuel E to, n.offsets.length = n.keys.length + 1 := by
  intro fuel
  induction fuel with
  | zero => intro E n hn; simp [buildTree] at hn
  | succ fuel ih =>
    intro E n hn
    by_cases hsmall : E.length ≤ 1
    · rw [buildTree_small _ _ _ _ hsmall] at hn; simp at hn
    · rw [buildTree_succ p fuel E to (by omega)] at hn
      rcases List.mem_append.1 hn with hn | hn
      · exact ih _ n hn
      · obtain ⟨P, hP, rfl⟩ := List.mem_map.1 hn
        have := (portions_sizes p hfan E (by omega) P hP).1
        simp only [mkNode, List.length_map, List.length_tail]
        omega

theorem build_bytes_length (K : Nat) (hK : K ≤ 2032) (m : InMem RawHeader) (metaBuf hash : List Nat)
    (blobSize : Nat) (hhash : hash.length = 32) :
    (indexFileBytes (build (Params.real K) metaBuf.length m) metaBuf hash blobSize).length
      = (build (Params.real K) metaBuf.length m).fileSize :=
  (indexFileBytes_length _ metaBuf hash blobSize
    (buildTree_nodes_wf _ (valid_real K hK).fan _ _ _) rfl rfl hhash).1

end Pearl.BPTree
