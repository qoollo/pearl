import Pearl.Proofs.BlobLemmas
import Pearl.Proofs.ListLemmas
/-
The vocabulary of produced blobs (`blobBytes klen recs`) and their prefixes, which the crash statements (C05, C06), the
fault statements (C11) and the tools statements (C16) share: `GoodRecs` (records as the storage builds them), the
length of a produced blob from the record sizes, `ProducedAt` (record `i` of a produced blob: the blob around it, its
index header), the positions in a produced blob (`IsBoundary`, `CutIn`) with the case analysis of a prefix, and
`produced_addressable`: every record sits, parses and loads where its index header says.
-/
namespace Pearl

theorem image_eq (R : Record) (off : Nat) :
    R.image off = serHeader (R.header.final off) ++ (serMeta R.mt ++ R.data) := rfl

/-- the records are as the storage builds them, with `u64` timestamps -/
def GoodRecs (klen : Nat) (Rs : List Record) : Prop :=
  ∀ R ∈ Rs, R.WF klen ∧ R.header.timestamp < 2 ^ 64

theorem GoodRecs.tail {klen : Nat} {R : Record} {Rs : List Record} (h : GoodRecs klen (R :: Rs)) :
    GoodRecs klen Rs := fun R' hR' => h R' (List.mem_cons_of_mem _ hR')

theorem GoodRecs.head {klen : Nat} {R : Record} {Rs : List Record} (h : GoodRecs klen (R :: Rs)) :
    R.WF klen ∧ R.header.timestamp < 2 ^ 64 := h R (List.mem_cons_self ..)

theorem GoodRecs.append {klen : Nat} {Rs1 Rs2 : List Record} (h1 : GoodRecs klen Rs1)
    (h2 : GoodRecs klen Rs2) : GoodRecs klen (Rs1 ++ Rs2) := by
  intro R hR
  rcases List.mem_append.mp hR with h | h
  · exact h1 R h
  · exact h2 R h

theorem GoodRecs.take {klen : Nat} {Rs : List Record} (h : GoodRecs klen Rs) (i : Nat) :
    GoodRecs klen (Rs.take i) := fun R hR => h R (List.mem_of_mem_take hR)

theorem goodRecs_recordsOf (klen : Nat) (recs : List (Rec × List UInt8))
    (hts : ∀ x ∈ recs, x.1.ts < 2 ^ 64) : GoodRecs klen (recordsOf klen recs) := by
  intro R hR
  obtain ⟨x, hx, rfl⟩ := List.mem_map.mp hR
  exact ⟨recordOf_WF klen x.1 x.2, by rw [recordOf_timestamp]; exact hts x hx⟩

theorem serBlobHeader_length (b : BlobHeader) : (serBlobHeader b).length = 20 := by
  simp [serBlobHeader]

theorem blobHeaderNew_inRange : BlobHeader.new.InRange := by decide

/-! ### the index headers and the length of a produced blob -/

theorem list_split_at {α} (l : List α) (i : Nat) (hi : i < l.length) :
    l = l.take i ++ l[i] :: l.drop (i + 1) := by
  rw [← List.drop_eq_getElem_cons hi, List.take_append_drop]

theorem writtenHeaders_length (p : List UInt8) (Rs : List Record) :
    (writtenHeaders p Rs).length = Rs.length := by
  rw [writtenHeaders_eq, List.length_map, scanOf_length]

theorem writtenHeaders_getElem? (Rs : List Record) (i : Nat) (hi : i < Rs.length) :
    (writtenHeaders serBlobHeader Rs)[i]? =
      some (Rs[i].header.final (20 + (tailOf 20 (Rs.take i)).length)) := by
  rw [writtenHeaders_eq, serBlobHeader_length]
  conv => lhs; rw [list_split_at Rs i hi]
  rw [scanOf_append, List.map_append,
    List.getElem?_append_right (by simp [scanOf_length]; omega)]
  simp [scanOf_length, Nat.min_eq_left (Nat.le_of_lt hi), scanOf]

/-- the index headers of a blob depend on the records only through their headers and sizes: neither the
    metadata nor the data bytes enter a header checksum -/
theorem blobHeaders_congr (klen : Nat) (recs recs' : List (Rec × List UInt8))
    (h : (recordsOf klen recs).map (fun R => (R.header, R.size)) =
      (recordsOf klen recs').map (fun R => (R.header, R.size))) :
    blobHeaders klen recs = blobHeaders klen recs' := by
  have key : ∀ (Rs Rs' : List Record) (off : Nat),
      Rs.map (fun R => (R.header, R.size)) = Rs'.map (fun R => (R.header, R.size)) →
      scanOf off Rs = scanOf off Rs' := by
    intro Rs
    induction Rs with
    | nil => intro Rs' off h; cases Rs' with
      | nil => rfl
      | cons _ _ => cases h
    | cons R Rs ih =>
      intro Rs' off h
      cases Rs' with
      | nil => cases h
      | cons R' Rs' =>
        simp only [List.map_cons, List.cons.injEq, Prod.mk.injEq] at h
        obtain ⟨⟨hh, hs⟩, ht⟩ := h
        simp only [scanOf, Record.image_length_eq_size, hh, hs, ih Rs' _ ht]
  rw [blobHeaders, blobHeaders, writtenHeaders_eq, writtenHeaders_eq, key _ _ _ h]

theorem blobBytes_eq (klen : Nat) (recs : List (Rec × List UInt8)) :
    blobBytes klen recs = serBlobHeader ++ tailOf 20 (recordsOf klen recs) := by
  rw [blobBytes, appendRecords_eq, serBlobHeader_length]

theorem recordsOf_take (klen : Nat) (recs : List (Rec × List UInt8)) (i : Nat) :
    recordsOf klen (recs.take i) = (recordsOf klen recs).take i := by
  simp [recordsOf, List.map_take]

theorem blobBytes_length (klen : Nat) (recs : List (Rec × List UInt8)) :
    (blobBytes klen recs).length = 20 + ((recordsOf klen recs).map Record.size).sum := by
  rw [blobBytes_eq, List.length_append, serBlobHeader_length, tailOf_length]

theorem blobBytes_length_ge (klen : Nat) (recs : List (Rec × List UInt8)) :
    20 ≤ (blobBytes klen recs).length := by
  rw [blobBytes_length]; omega

theorem blobBytes_sublist_length_le (klen : Nat) {S recs : List (Rec × List UInt8)} (h : S.Sublist recs) :
    (blobBytes klen S).length ≤ (blobBytes klen recs).length := by
  rw [blobBytes_length, blobBytes_length]
  have := sublist_sum_le ((h.map fun x => recordOf klen x.1 x.2).map Record.size)
  simp only [recordsOf]
  omega

theorem blobBytes_take_length_le (klen : Nat) (recs : List (Rec × List UInt8)) (i : Nat) :
    (blobBytes klen (recs.take i)).length ≤ (blobBytes klen recs).length :=
  blobBytes_sublist_length_le klen (List.take_sublist i recs)

theorem blobBytes_eraseIdx_length_le (klen : Nat) (recs : List (Rec × List UInt8)) (i : Nat) :
    (blobBytes klen (recs.eraseIdx i)).length ≤ (blobBytes klen recs).length :=
  blobBytes_sublist_length_le klen (List.eraseIdx_sublist recs i)

/-- record `i` of a produced blob is `R`: the blob around it, the prefix that ends with it, its index header.
    The statements about produced blobs speak of `blobBytes klen (recs.take i)`, the lemmas about readers of
    `serBlobHeader ++ tailOf 20 Rs`; `pre` and `recs_eq` translate. -/
structure ProducedAt (klen : Nat) (recs : List (Rec × List UInt8)) (i : Nat) (R : Record) : Prop where
  blob : blobBytes klen recs = blobBytes klen (recs.take i) ++
    (R.image (blobBytes klen (recs.take i)).length ++
      tailOf ((blobBytes klen (recs.take i)).length + R.size) ((recordsOf klen recs).drop (i + 1)))
  next : blobBytes klen (recs.take (i + 1)) =
    blobBytes klen (recs.take i) ++ R.image (blobBytes klen (recs.take i)).length
  pre : blobBytes klen (recs.take i) = serBlobHeader ++ tailOf 20 (recordsOf klen (recs.take i))
  recs_eq : recordsOf klen (recs.take (i + 1)) = recordsOf klen (recs.take i) ++ [R]
  hdr : (blobHeaders klen recs)[i]? = some (R.header.final (blobBytes klen (recs.take i)).length)
  wf : R.WF klen

theorem producedAt (klen : Nat) (recs : List (Rec × List UInt8)) (i : Nat) (r : Rec) (d : List UInt8)
    (hr : recs[i]? = some (r, d)) : ProducedAt klen recs i (recordOf klen r d) := by
  obtain ⟨hi, hri⟩ := List.getElem?_eq_some_iff.mp hr
  have hi' : i < (recordsOf klen recs).length := by rw [recordsOf_length]; exact hi
  have hsucc : recs.take (i + 1) = recs.take i ++ [(r, d)] := by rw [List.take_succ_eq_append_getElem hi, hri]
  have hpre : blobBytes klen (recs.take i) = serBlobHeader ++ tailOf 20 (recordsOf klen (recs.take i)) :=
    blobBytes_eq ..
  have hhdr := writtenHeaders_getElem? (recordsOf klen recs) i hi'
  rw [recordsOf_getElem klen recs i hi' r d hr, ← recordsOf_take,
    show 20 + (tailOf 20 (recordsOf klen (recs.take i))).length = (blobBytes klen (recs.take i)).length by
      rw [hpre, List.length_append, serBlobHeader_length]] at hhdr
  refine ⟨?_, ?_, hpre, by rw [hsucc]; simp [recordsOf], hhdr, recordOf_WF klen r d⟩
  · conv => lhs; rw [list_split_at recs i hi, hri, blobBytes_append]
    simp only [recordsOf, List.map_cons, List.map_drop, tailOf, Record.image_length_eq_size]
  · rw [hsucc, blobBytes_append]
    simp only [recordsOf, List.map_cons, List.map_nil, tailOf, List.append_nil]

namespace ProducedAt
variable {klen : Nat} {recs : List (Rec × List UInt8)} {i : Nat} {R : Record} (s : ProducedAt klen recs i R)
include s

theorem off_eq : (blobBytes klen (recs.take i)).length = 20 + (tailOf 20 (recordsOf klen (recs.take i))).length := by
  rw [s.pre, List.length_append, serBlobHeader_length]

theorem next_length : (blobBytes klen (recs.take (i + 1))).length = (blobBytes klen (recs.take i)).length + R.size := by
  rw [s.next, List.length_append, R.image_length_eq_size]

theorem fits : (blobBytes klen (recs.take i)).length + R.size ≤ (blobBytes klen recs).length := by
  conv => rhs; rw [s.blob]
  simp only [List.length_append, R.image_length_eq_size]; omega

theorem range (hlen : (blobBytes klen recs).length < 2 ^ 64) (hts : R.header.timestamp < 2 ^ 64) :
    (R.header.final (blobBytes klen (recs.take i)).length).InRange :=
  final_inRange s.wf _ hts (by have := s.fits; rw [R.image_length_eq_size]; omega)

theorem mlen (hlen : (blobBytes klen recs).length < 2 ^ 64) : (serMeta R.mt).length < 2 ^ 64 := by
  have := s.fits; unfold Record.size at this; omega

/-- a prefix of the blob that ends inside the record -/
theorem take {t : Nat} (h1 : (blobBytes klen (recs.take i)).length ≤ t)
    (h2 : t ≤ (blobBytes klen (recs.take i)).length + R.size) :
    (blobBytes klen recs).take t = blobBytes klen (recs.take i) ++
      (R.image (blobBytes klen (recs.take i)).length).take (t - (blobBytes klen (recs.take i)).length) := by
  conv => lhs; rw [s.blob]
  rw [List.take_append, List.take_of_length_le h1, List.take_append_of_le_length
    (by rw [R.image_length_eq_size]; omega)]

end ProducedAt

/-! ### positions in a produced blob: inside a record, at a boundary -/

/-- `t` lies strictly inside record `i` of the produced blob: after the end of record `i - 1` (or of the
    blob header) and before the end of record `i` -/
def CutIn (klen : Nat) (recs : List (Rec × List UInt8)) (i t : Nat) : Prop :=
  i < recs.length ∧ (blobBytes klen (recs.take i)).length < t ∧
    t < (blobBytes klen (recs.take (i + 1))).length

instance (klen : Nat) (recs : List (Rec × List UInt8)) (i t : Nat) : Decidable (CutIn klen recs i t) := by
  unfold CutIn; infer_instance

/-- a cut strictly inside the record -/
theorem ProducedAt.take_cut {klen : Nat} {recs : List (Rec × List UInt8)} {i : Nat} {R : Record}
    (s : ProducedAt klen recs i R) {t : Nat} (hc : CutIn klen recs i t) :
    (blobBytes klen recs).take t = blobBytes klen (recs.take i) ++
      (R.image (blobBytes klen (recs.take i)).length).take (t - (blobBytes klen (recs.take i)).length) ∧
    t - (blobBytes klen (recs.take i)).length < (R.image (blobBytes klen (recs.take i)).length).length := by
  have h1 := hc.2.1
  have h2 := hc.2.2
  rw [s.next_length] at h2
  exact ⟨s.take (Nat.le_of_lt h1) (Nat.le_of_lt h2), by rw [R.image_length_eq_size]; omega⟩

/-- `t` is the end of record `n - 1` (`n = 0`: the end of the blob header) -/
def IsBoundary (klen : Nat) (recs : List (Rec × List UInt8)) (t : Nat) : Prop :=
  ∃ n, n ≤ recs.length ∧ t = (blobBytes klen (recs.take n)).length

theorem blobBytes_nil_length (klen : Nat) : (blobBytes klen []).length = 20 := by
  rw [blobBytes_length]; simp [recordsOf]

theorem cutIn_of_not_boundary (klen : Nat) (recs : List (Rec × List UInt8)) (t : Nat) (h20 : 20 ≤ t)
    (ht : t < (blobBytes klen recs).length) (hnb : ¬ IsBoundary klen recs t) :
    ∃ i, CutIn klen recs i t := by
  -- the first record whose end lies beyond `t`
  have key : ∀ n, n ≤ recs.length → t < (blobBytes klen (recs.take n)).length →
      ∃ i, i < n ∧ (blobBytes klen (recs.take i)).length ≤ t ∧
        t < (blobBytes klen (recs.take (i + 1))).length := by
    intro n
    induction n with
    | zero =>
      intro _ h
      rw [List.take_zero, blobBytes_nil_length] at h
      omega
    | succ n ih =>
      intro hn h
      by_cases hc : (blobBytes klen (recs.take n)).length ≤ t
      · exact ⟨n, by omega, hc, h⟩
      · obtain ⟨i, hi, h1, h2⟩ := ih (by omega) (by omega)
        exact ⟨i, by omega, h1, h2⟩
  obtain ⟨i, hi, h1, h2⟩ := key recs.length (Nat.le_refl _) (by rw [List.take_length]; exact ht)
  refine ⟨i, hi, ?_, h2⟩
  rcases Nat.lt_or_ge (blobBytes klen (recs.take i)).length t with h | h
  · exact h
  · exact absurd ⟨i, by omega, by omega⟩ hnb

theorem CutIn.not_boundary {klen : Nat} {recs : List (Rec × List UInt8)} {i t : Nat}
    (hc : CutIn klen recs i t) : ¬ IsBoundary klen recs t := by
  rintro ⟨n, _, rfl⟩
  have mono : ∀ a b, a ≤ b →
      (blobBytes klen (recs.take a)).length ≤ (blobBytes klen (recs.take b)).length :=
    fun a b hab => blobBytes_sublist_length_le klen (List.take_sublist_take_left hab)
  rcases Nat.lt_or_ge i n with h | h
  · have := mono (i + 1) n h
    have := hc.2.2
    omega
  · have := mono n i h
    have := hc.2.1
    omega

theorem blobBytes_take_boundary (klen : Nat) (recs : List (Rec × List UInt8)) (n : Nat) :
    (blobBytes klen recs).take (blobBytes klen (recs.take n)).length = blobBytes klen (recs.take n) := by
  conv => lhs; rw [← List.take_append_drop n recs, blobBytes_append]
  rw [List.take_append_drop, List.take_left' rfl]

/-! ### every record of a produced blob is where its index header says -/

theorem produced_addressable (klen : Nat) (S : List (Rec × List UInt8))
    (hlen : (blobBytes klen S).length < 2 ^ 64) (hts : ∀ x ∈ S, x.1.ts < 2 ^ 64)
    (j : Nat) (h : RecHeader) (r : Rec) (d : List UInt8)
    (hh : (blobHeaders klen S)[j]? = some h) (hr : S[j]? = some (r, d)) :
    h.blobOffset = (blobBytes klen (S.take j)).length ∧
    parseHeader klen ((blobBytes klen S).drop h.blobOffset) = some h ∧
    headerValidate h = .ok () ∧
    entryLoad (blobBytes klen S) h = .ok (serMeta r.mt, if r.del then [] else d) := by
  have s := producedAt klen S j r d hr
  have hts' : (recordOf klen r d).header.timestamp < 2 ^ 64 := by
    rw [recordOf_timestamp]; exact hts _ (List.mem_of_getElem? hr)
  obtain rfl := Option.some.inj (hh.symm.trans s.hdr)
  refine ⟨rfl, ?_, headerValidate_final _ _ s.wf.magic, ?_⟩
  · show parseHeader klen ((blobBytes klen S).drop (blobBytes klen (S.take j)).length) = _
    rw [s.blob, List.drop_left' rfl, image_eq, List.append_assoc]
    exact parseHeader_serHeader klen _ _ s.wf.key (s.range hlen hts')
  · rw [s.blob, ← recordOf_mt klen r d, ← recordOf_data klen r d]
    exact entryLoad_image _ _ _ s.wf _ rfl (s.mlen hlen)

end Pearl
