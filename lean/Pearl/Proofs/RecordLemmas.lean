import Pearl.Model.Record
import Pearl.Proofs.BytesLemmas
import Pearl.Proofs.CrcLemmas
/-
The record byte layer: the in-place patch of `finalize_with_checksum` equals re-serialisation, parsing inverts
serialisation, what `Entry::load` and the scan have checked when they succeed, and that both fail on a data region
altered inside 4 adjacent bytes.
-/
namespace Pearl

@[simp] theorem serHeaderPre_length (h : RecHeader) : (serHeaderPre h).length = 33 + h.key.length := by
  simp [serHeaderPre]; omega

@[simp] theorem serHeader_length (h : RecHeader) : (serHeader h).length = 57 + h.key.length := by
  simp [serHeader]; omega

/-- the patch of `finalize_with_checksum` on a buffer with the layout
    `pre ++ offset(8) ++ mid ++ checksum(4) ++ rest` -/
theorem finalizeWith_layout (crc : List UInt8 → UInt32) (pre mid rest : List UInt8) (bo off hc n : Nat)
    (hn : n = pre.length + 8 + mid.length + 4) :
    finalizeWith crc (pre ++ (le64 bo ++ (mid ++ (le32 hc ++ rest)))) n off (8 + mid.length + 4) 4 =
      (pre ++ (le64 off ++ (mid ++ (le32 (crc (pre ++ (le64 off ++ (mid ++ le32 0)))).toNat ++ rest))),
       crc (pre ++ (le64 off ++ (mid ++ le32 0)))) := by
  unfold finalizeWith
  have h1 : n - (8 + mid.length + 4) = pre.length := by omega
  have h2 : n - 4 = (pre ++ (le64 off ++ mid)).length := by simp; omega
  simp only [h1]
  rw [patchAt_append rfl (by simp)]
  have e1 : ∀ x : List UInt8, pre ++ (le64 off ++ (mid ++ (x ++ rest))) = (pre ++ (le64 off ++ mid)) ++ (x ++ rest) := by
    intro x; simp [List.append_assoc]
  rw [e1, patchAt_append h2.symm (by simp)]
  have e2 : (pre ++ (le64 off ++ mid)) ++ (le32 0 ++ rest) = ((pre ++ (le64 off ++ mid)) ++ le32 0) ++ rest := by
    simp [List.append_assoc]
  have h3 : ((pre ++ (le64 off ++ mid)) ++ le32 0).length = n := by simp; omega
  have e3 : List.take n ((pre ++ (le64 off ++ mid)) ++ (le32 0 ++ rest)) = pre ++ (le64 off ++ (mid ++ le32 0)) := by
    rw [e2, List.take_left' h3]; simp [List.append_assoc]
  rw [e3, patchAt_append h2.symm (by simp), ← e1]

theorem serHeader_layout (h : RecHeader) :
    serHeader h = serHeaderPre h ++ (le64 h.blobOffset ++ ((le64 h.timestamp ++ le32 h.dataChecksum.toNat) ++
      le32 h.headerChecksum.toNat)) := by
  simp [serHeader, List.append_assoc]

theorem finalizeWith_serHeader (crc : List UInt8 → UInt32) (h : RecHeader) (rest : List UInt8) (off : Nat) :
    finalizeWith crc (serHeader h ++ rest) (serHeader h).length off =
      (serHeader (h.finalWith crc off) ++ rest, (h.finalWith crc off).headerChecksum) := by
  have hl := finalizeWith_layout crc (serHeaderPre h) (le64 h.timestamp ++ le32 h.dataChecksum.toNat) rest
    h.blobOffset off h.headerChecksum.toNat (serHeader h).length (by simp; omega)
  have hm : 8 + (le64 h.timestamp ++ le32 h.dataChecksum.toNat).length + 4 = 24 := by simp
  rw [hm] at hl
  have e0 : serHeader { h with blobOffset := off, headerChecksum := 0 } =
      serHeaderPre h ++ (le64 off ++ ((le64 h.timestamp ++ le32 h.dataChecksum.toNat) ++ le32 0)) := by
    rw [serHeader_layout]; rfl
  -- the length term must not be touched by the next rewrite of `serHeader h`
  generalize (serHeader h).length = N at hl ⊢
  rw [serHeader_layout h, List.append_assoc, List.append_assoc, List.append_assoc]
  rw [hl, ← e0]
  simp [RecHeader.finalWith, serHeader, serHeaderPre, List.append_assoc]

theorem writableWith_toPartial (crc : List UInt8 → UInt32) (r : Record) (off maxSP : Nat) :
    (writableWith crc (toPartial r maxSP) off).1.bytes =
        serHeader (r.header.finalWith crc off) ++ serMeta r.mt ++ r.data ∧
      (writableWith crc (toPartial r maxSP) off).2 = (r.header.finalWith crc off).headerChecksum := by
  unfold toPartial
  simp only
  split
  · simp only [writableWith]
    rw [List.append_assoc, finalizeWith_serHeader]
    simp [Writable.bytes]
  · simp only [writableWith]
    rw [finalizeWith_serHeader]
    simp [Writable.bytes]

theorem serMeta_length_ge (m : Meta) : 8 ≤ (serMeta m).length := by
  cases m <;> simp [serMeta]

theorem toPartial_len (r : Record) (maxSP : Nat) :
    (toPartial r maxSP).len = (serHeader r.header).length + (serMeta r.mt).length + r.data.length := by
  unfold toPartial
  simp only
  split <;> simp [Partial.len] <;> omega

theorem finalWith_key (crc : List UInt8 → UInt32) (h : RecHeader) (off : Nat) :
    (h.finalWith crc off).key = h.key := rfl

theorem pwrite_end (file b : List UInt8) : pwrite file file.length b = file ++ b := by
  unfold pwrite
  simp [List.drop_eq_nil_of_le]

theorem writeData_end (file : List UInt8) (w : Writable) :
    writeData file file.length w = file ++ w.bytes := by
  cases w with
  | single b => simp [writeData, Writable.bytes, pwrite_end]
  | double b1 b2 =>
    rw [writeData, pwrite_end, ← List.length_append, pwrite_end, Writable.bytes, List.append_assoc]

theorem takeN_append {a r : List UInt8} {n : Nat} (h : a.length = n) : takeN n (a ++ r) = some (a, r) := by
  unfold takeN
  rw [if_neg (by simp; omega), List.take_left' h, List.drop_left' h]

theorem takeN_le64 (n : Nat) (r : List UInt8) : takeN 8 (le64 n ++ r) = some (le64 n, r) :=
  takeN_append (le64_length n)

theorem takeN_le32 (n : Nat) (r : List UInt8) : takeN 4 (le32 n ++ r) = some (le32 n, r) :=
  takeN_append (le32_length n)

theorem deserVec_serVec (v r : List UInt8) (h : v.length < 2 ^ 64) :
    deserVec (serVec v ++ r) = some (v, r) := by
  simp only [deserVec, serVec, List.append_assoc, takeN_le64, fromLe_le64 h, takeN_append rfl]

theorem deserHeader_serHeader (h : RecHeader) (rest : List UInt8) (hr : h.InRange) :
    deserHeader (serHeader h ++ rest) = some h := by
  obtain ⟨h1, h2, h3, h4, h5, h6⟩ := hr
  simp only [deserHeader, serHeader, serHeaderPre, List.append_assoc, takeN_le64, takeN_le32,
    deserVec_serVec _ _ h2, takeN_append (a := [h.flags]) (n := 1) rfl, fromLe_le64 h1, fromLe_le64 h3, fromLe_le64 h4,
    fromLe_le64 h5, fromLe_le64 h6, ofNat_fromLe_le32, ofNat_fromLe_singleton]

theorem parseHeader_serHeader (klen : Nat) (h : RecHeader) (rest : List UInt8) (hk : h.key.length = klen)
    (hr : h.InRange) : parseHeader klen (serHeader h ++ rest) = some h := by
  unfold parseHeader headerSize
  have hl : (serHeader h).length = 57 + klen := by rw [serHeader_length, hk]
  rw [if_neg (by simp only [List.length_append]; omega), List.take_left' hl]
  simpa using deserHeader_serHeader h [] hr

theorem parseBlobHeader_ser (b : BlobHeader) (rest : List UInt8) (hr : b.InRange) :
    parseBlobHeader (serBlobHeader b ++ rest) = some b := by
  obtain ⟨h1, h2, h3⟩ := hr
  simp only [parseBlobHeader, serBlobHeader, List.append_assoc, takeN_le64, takeN_le32, fromLe_le64 h1, fromLe_le32 h2,
    fromLe_le64 h3]

theorem dataChecksumAudit_ok {h : RecHeader} {d : List UInt8} :
    dataChecksumAudit h d = .ok () ↔ crc32c d = h.dataChecksum := by
  unfold dataChecksumAudit
  split <;> simp [*]

theorem headerValidate_ok {h : RecHeader} :
    headerValidate h = .ok () ↔ h.magicByte = RECORD_MAGIC_BYTE ∧ headerCrc h = h.headerChecksum := by
  unfold headerValidate
  split
  · simp [*]
  · split <;> simp_all

theorem entryLoad_ok {file : List UInt8} {h : RecHeader} {m d : List UInt8}
    (hh : entryLoad file h = .ok (m, d)) :
    m = (file.drop h.metaOffset).take h.metaSize ∧ m.length = h.metaSize ∧
    d = (file.drop h.dataOffset).take h.dataSize ∧ d.length = h.dataSize ∧
    (deserMeta m).isSome ∧ headerValidate h = .ok () ∧ crc32c d = h.dataChecksum := by
  unfold entryLoad at hh
  split at hh
  · cases hh
  · next buf hb =>
    obtain ⟨hb1, hb2⟩ := readExactAt_eq_some hb
    simp only at hh
    split at hh
    · cases hh
    · next es hm =>
      split at hh
      · cases hh
      · next hv =>
        split at hh
        · cases hh
        · next ha =>
          cases hh
          refine ⟨?_, ?_, ?_, ?_, ?_, hv, dataChecksumAudit_ok.mp ha⟩
          · rw [hb1, List.take_take]; congr 1; omega
          · rw [List.length_take, hb2]; omega
          · rw [hb1, List.drop_take, List.drop_drop, RecHeader.dataOffset]; congr 1; omega
          · rw [List.length_drop, hb2]; omega
          · rw [hm]; rfl

theorem loadData_ok {file : List UInt8} {h : RecHeader} {d : List UInt8}
    (hh : loadData file h = .ok d) :
    d = (file.drop h.dataOffset).take h.dataSize ∧ d.length = h.dataSize ∧ crc32c d = h.dataChecksum := by
  unfold loadData at hh
  split at hh
  · cases hh
  · next buf hb =>
    obtain ⟨hb1, hb2⟩ := readExactAt_eq_some hb
    split at hh
    · cases hh
    · next ha =>
      cases hh
      exact ⟨hb1, hb2, dataChecksumAudit_ok.mp ha⟩

theorem slice_window (p w s : List UInt8) (o n : Nat) (h1 : o ≤ p.length)
    (h2 : p.length + w.length ≤ o + n) :
    ((p ++ w ++ s).drop o).take n = p.drop o ++ w ++ s.take (o + n - p.length - w.length) := by
  rw [List.append_assoc, List.drop_append, show o - p.length = 0 by omega, List.drop_zero,
    List.take_append, List.take_of_length_le (by simp; omega), List.take_append,
    List.take_of_length_le (by simp; omega), List.length_drop, List.append_assoc]
  congr 3
  omega

theorem crc32c_slice_window (p w1 w2 s : List UInt8) (o n : Nat) (hl : w1.length = w2.length)
    (h4 : w1.length ≤ 4) (hne : w1 ≠ w2) (h1 : o ≤ p.length) (h2 : p.length + w1.length ≤ o + n) :
    crc32c (((p ++ w1 ++ s).drop o).take n) ≠ crc32c (((p ++ w2 ++ s).drop o).take n) := by
  rw [slice_window p w1 s o n h1 h2, slice_window p w2 s o n h1 (by omega), ← hl]
  exact crc32c_window_split _ _ _ _ hl h4 hne

theorem load_altered (p w1 w2 s : List UInt8) (h : RecHeader) (hl : w1.length = w2.length)
    (h4 : w1.length ≤ 4) (hne : w1 ≠ w2) (hin1 : h.dataOffset ≤ p.length)
    (hin2 : p.length + w1.length ≤ h.dataOffset + h.dataSize)
    (hcrc : crc32c (((p ++ w1 ++ s).drop h.dataOffset).take h.dataSize) = h.dataChecksum) :
    (∃ e, entryLoad (p ++ w2 ++ s) h = .error e) ∧ (∃ e, loadData (p ++ w2 ++ s) h = .error e) := by
  have hbad : crc32c (((p ++ w2 ++ s).drop h.dataOffset).take h.dataSize) ≠ h.dataChecksum :=
    hcrc ▸ (crc32c_slice_window p w1 w2 s _ _ hl h4 hne hin1 hin2).symm
  constructor
  · cases hres : entryLoad (p ++ w2 ++ s) h with
    | error e => exact ⟨e, rfl⟩
    | ok md =>
      obtain ⟨_, _, hd, _, _, _, hc⟩ := entryLoad_ok (m := md.1) (d := md.2) hres
      exact absurd (hd ▸ hc) hbad
  · cases hres : loadData (p ++ w2 ++ s) h with
    | error e => exact ⟨e, rfl⟩
    | ok d =>
      obtain ⟨hd, _, hc⟩ := loadData_ok hres
      exact absurd (hd ▸ hc) hbad

theorem rawStart_ok {klen : Nat} {file : List UInt8} {hsz : Nat} (h : rawStart klen file = .ok hsz) :
    hsz = 57 + klen := by
  unfold rawStart at h
  split at h
  · cases h
  · simp only at h
    split at h
    · cases h
    · split at h
      · cases h
      · next hk =>
        simp only [Except.ok.injEq] at h
        have hk' := Decidable.not_not.mp hk
        omega

theorem readCurrentRecord_ok {v : Bool} {file : List UInt8} {hsz off : Nat} {h : RecHeader}
    {data : Option (List UInt8)} {off' : Nat}
    (hh : readCurrentRecord v file hsz off = .ok (h, data, off')) :
    (∃ buf, readExactAt file hsz off = some buf ∧ deserHeader buf = some h) ∧
    headerValidate h = .ok () ∧ off' = off + hsz + h.metaSize + h.dataSize ∧
    (v = true → ∃ d, data = some d ∧ readExactAt file h.dataSize (off + hsz + h.metaSize) = some d) ∧
    (v = false → data = none) := by
  unfold readCurrentRecord at hh
  split at hh
  · cases hh
  · next buf hb =>
    split at hh
    · cases hh
    · next h0 hd =>
      split at hh
      · cases hh
      · next hv =>
        simp only at hh
        cases v with
        | true =>
          simp only [↓reduceIte] at hh
          split at hh
          · cases hh
          · next d hrd =>
            cases hh
            exact ⟨⟨buf, hb, hd⟩, hv, rfl, fun _ => ⟨d, rfl, hrd⟩, fun c => by cases c⟩
        | false =>
          cases hh
          exact ⟨⟨buf, hb, hd⟩, hv, rfl, (fun c => by cases c), fun _ => rfl⟩

/-- what a successful run of the loop has done: nothing, or one record read and audited and the rest of the run -/
theorem rawLoop_ok {v : Bool} {file : List UInt8} {hsz fuel off : Nat} {hs : List (Nat × RecHeader)}
    (hh : rawLoop v file hsz fuel off = .ok hs) :
    hs = [] ∨ ∃ fuel' h data off' rest, fuel = fuel' + 1 ∧ off < file.length ∧
      readCurrentRecord v file hsz off = .ok (h, data, off') ∧
      (∀ d, data = some d → crc32c d = h.dataChecksum) ∧
      rawLoop v file hsz fuel' off' = .ok rest ∧ hs = (off, h) :: rest := by
  cases fuel with
  | zero =>
    unfold rawLoop at hh
    split at hh <;> cases hh
    exact .inl rfl
  | succ fuel =>
    unfold rawLoop at hh
    split at hh
    · next hlt =>
      split at hh
      · cases hh
      · next h data off' hrc =>
        split at hh
        · cases hh
        · next haud =>
          split at hh
          · cases hh
          · next rest hrest =>
            cases hh
            refine .inr ⟨fuel, h, data, off', rest, rfl, hlt, hrc, ?_, hrest, rfl⟩
            rintro d rfl
            exact dataChecksumAudit_ok.mp haud
    · cases hh; exact .inl rfl

theorem rawLoop_mem {v : Bool} {file : List UInt8} {hsz fuel off : Nat} {hs : List (Nat × RecHeader)}
    (hh : rawLoop v file hsz fuel off = .ok hs) {x : Nat × RecHeader} (hx : x ∈ hs) :
    off ≤ x.1 ∧ (∃ buf, readExactAt file hsz x.1 = some buf ∧ deserHeader buf = some x.2) ∧
    headerValidate x.2 = .ok () ∧
    (v = true → ∃ d, readExactAt file x.2.dataSize (x.1 + hsz + x.2.metaSize) = some d ∧
      crc32c d = x.2.dataChecksum) := by
  induction hs generalizing fuel off with
  | nil => cases hx
  | cons y rest ih =>
    obtain h0 | ⟨_, h, data, off', _, _, _, hrc, haud, hrest, heq⟩ := rawLoop_ok hh
    · cases h0
    cases heq
    obtain ⟨hbuf, hv, hoff', hd1, _⟩ := readCurrentRecord_ok hrc
    rcases List.mem_cons.mp hx with rfl | hx
    · refine ⟨Nat.le_refl _, hbuf, hv, fun hvt => ?_⟩
      obtain ⟨d, rfl, hrd⟩ := hd1 hvt
      exact ⟨d, hrd, haud d rfl⟩
    · have := ih hrest hx
      exact ⟨by omega, this.2⟩

theorem readCurrentRecord_ne_fuel (v : Bool) (file : List UInt8) (hsz off : Nat) :
    readCurrentRecord v file hsz off ≠ .error .fuel := by
  unfold readCurrentRecord
  split
  · simp
  · split
    · simp
    · split
      · simp
      · simp only
        split
        · split <;> simp
        · simp

theorem rawLoop_ne_fuel (v : Bool) (file : List UInt8) (hsz : Nat) (hpos : 0 < hsz) (fuel off : Nat)
    (hf : file.length ≤ off + fuel) : rawLoop v file hsz fuel off ≠ .error .fuel := by
  induction fuel generalizing off with
  | zero =>
    unfold rawLoop
    rw [if_neg (by omega)]
    intro h; cases h
  | succ fuel ih =>
    unfold rawLoop
    split
    · split
      · next e he =>
        intro h
        cases h
        exact readCurrentRecord_ne_fuel _ _ _ _ he
      · next h data off' hrc =>
        obtain ⟨_, _, hoff', _, _⟩ := readCurrentRecord_ok hrc
        split
        · intro h; cases h
        · split
          · next e he =>
            intro h
            cases h
            exact ih off' (by omega) he
          · intro h; cases h
    · intro h; cases h

theorem rawRecordsScan_ne_fuel (klen : Nat) (v : Bool) (file : List UInt8) :
    rawRecordsScan klen v file ≠ .error .fuel := by
  unfold rawRecordsScan
  split
  · next e he =>
    intro h
    cases h
    unfold rawStart at he
    split at he
    · cases he
    · simp only at he
      split at he
      · cases he
      · split at he <;> cases he
  · next hsz hst =>
    exact rawLoop_ne_fuel v file hsz (by have := rawStart_ok hst; omega) _ _ (by omega)

theorem readExactAt_of_prefix (p a b : List UInt8) (size off : Nat) (h : off + size ≤ p.length) :
    readExactAt (p ++ a) size off = readExactAt (p ++ b) size off := by
  have : ∀ c : List UInt8, ((p ++ c).drop off).take size = (p.drop off).take size := by
    intro c
    rw [List.drop_append, List.take_append, List.length_drop, show size - (p.length - off) = 0 by omega]
    simp
  unfold readExactAt
  simp only [this]

theorem readCurrentRecord_before (p a b : List UInt8) (hsz off : Nat) (h : RecHeader)
    (data : Option (List UInt8)) (off' : Nat)
    (hrc : readCurrentRecord true (p ++ a) hsz off = .ok (h, data, off')) (hle : off' ≤ p.length) :
    readCurrentRecord true (p ++ b) hsz off = .ok (h, data, off') := by
  obtain ⟨⟨buf, hb, hd⟩, hv, hoff', hd1, _⟩ := readCurrentRecord_ok hrc
  obtain ⟨d, rfl, hrd⟩ := hd1 rfl
  rw [readExactAt_of_prefix p a b _ _ (by omega)] at hb hrd
  unfold readCurrentRecord
  simp only [hb, hd, hv, ↓reduceIte, hrd, hoff']

theorem rawLoop_altered (hsz : Nat) (p w1 w2 s : List UInt8) (hl : w1.length = w2.length)
    (h4 : w1.length ≤ 4) (hne : w1 ≠ w2) (fuel off : Nat) (hs : List (Nat × RecHeader))
    (hok : rawLoop true (p ++ (w1 ++ s)) hsz fuel off = .ok hs) (x : Nat × RecHeader) (hx : x ∈ hs)
    (hin1 : x.1 + hsz + x.2.metaSize ≤ p.length)
    (hin2 : p.length + w1.length ≤ x.1 + hsz + x.2.metaSize + x.2.dataSize) :
    ∃ e, rawLoop true (p ++ (w2 ++ s)) hsz fuel off = .error e := by
  have hlen : (p ++ (w2 ++ s)).length = (p ++ (w1 ++ s)).length := by simp [hl]
  induction hs generalizing fuel off with
  | nil => cases hx
  | cons y rest ih =>
    obtain h0 | ⟨fuel, h, data, off', _, rfl, hlt, hrc, haud, hrest, heq⟩ := rawLoop_ok hok
    · cases h0
    cases heq
    obtain ⟨⟨buf, hb, hd⟩, _, hoff', hd1, _⟩ := readCurrentRecord_ok hrc
    obtain ⟨d, rfl, hrd⟩ := hd1 rfl
    have hcrc := haud d rfl
    unfold rawLoop
    rw [if_pos (hlen ▸ hlt)]
    rcases List.mem_cons.mp hx with rfl | hx'
    · -- the altered record: if it is read at all, the header is the same and the data are not
      cases hrc2 : readCurrentRecord true (p ++ (w2 ++ s)) hsz off with
      | error e => exact ⟨e, rfl⟩
      | ok r =>
        obtain ⟨h2, data2, off2⟩ := r
        obtain ⟨⟨buf2, hb2, hd2⟩, _, _, hd1', _⟩ := readCurrentRecord_ok hrc2
        rw [readExactAt_of_prefix p _ (w1 ++ s) _ _ (by omega), hb] at hb2
        cases hb2
        rw [hd] at hd2
        cases hd2
        obtain ⟨d2, rfl, hrd2⟩ := hd1' rfl
        have hbad : crc32c d2 ≠ h.dataChecksum := by
          rw [← hcrc, (readExactAt_eq_some hrd).1, (readExactAt_eq_some hrd2).1, ← List.append_assoc,
            ← List.append_assoc]
          exact (crc32c_slice_window p w1 w2 s _ _ hl h4 hne hin1 hin2).symm
        simp only [dataChecksumAudit, if_neg hbad]
        exact ⟨_, rfl⟩
    · -- a later record: this one is read identically, the rest fails by induction
      have hge := (rawLoop_mem hrest hx').1
      rw [readCurrentRecord_before p (w1 ++ s) (w2 ++ s) hsz off h _ off' hrc (by omega)]
      simp only [dataChecksumAudit_ok.mpr hcrc]
      obtain ⟨e, he⟩ := ih _ _ hrest hx'
      rw [he]
      exact ⟨_, rfl⟩

theorem rawRecordsScan_ok {klen : Nat} {v : Bool} {file : List UInt8} {hs : List (Nat × RecHeader)}
    (hok : rawRecordsScan klen v file = .ok hs) :
    rawStart klen file = .ok (57 + klen) ∧ rawLoop v file (57 + klen) file.length blobHeaderSize = .ok hs := by
  unfold rawRecordsScan at hok
  split at hok
  · cases hok
  · next hsz hst =>
    cases rawStart_ok hst
    exact ⟨hst, hok⟩

end Pearl
