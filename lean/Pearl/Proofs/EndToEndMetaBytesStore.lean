import Pearl.Proofs.EndToEndMetaBytesBlob
/-
Byte image of the index file: the storage.  `CState.toB` replaces every dumped index by its byte image.
When the translation of every blob answers and is updated like the blob itself (`ToBOK`; for a state: `GoodB`), the
translation commutes with every read and every operation (`stepM_toB_good`).  This is so under the invariant when every
index file on disk is shorter than `2^64` bytes (`goodB_of_inv`: `readWithOpt_toB`, `stepM_toB`), and also in states with
off-loaded filters
(`Pearl/Proofs/EndToEndStartOffloadBytes.lean`).  Along a run the byte-level storage started from the empty directory
is the translation of the structured one (`runB_eq`).
-/
namespace Pearl.E2E
open Pearl Pearl.BPTree Pearl.Container

instance (b : CBlob) : Decidable b.IdxSized := by
  unfold CBlob.IdxSized
  cases hi : b.index with
  | mem m => exact isTrue (by intro f mb off h; cases h)
  | disk f mb off =>
    exact decidable_of_iff (f.fileSize < 2 ^ 64)
      ⟨fun h f' mb' off' he => by cases he; exact h, fun h => h f mb off rfl⟩

instance (c : CState) : Decidable c.IdxSized := by
  unfold CState.IdxSized; infer_instance

section
variable {cfg : Cfg} {sha : List Nat → List Nat}

theorem consulted_toB (cfg : Cfg) (sha : List Nat → List Nat) (c : CState) (k : Key) :
    (c.toB sha).consulted cfg k = (c.consulted cfg k).map (CBlob.toB sha) := by
  obtain ⟨a, cont, n⟩ := c
  unfold BState.consulted CState.consulted
  rw [List.map_append, ← consultedChildren_mapData]
  cases a <;> rfl

theorem foldEntriesB_map (sha : List Nat → List Nat) (fB : BBlob → Except CErr (ReadResult CEntry))
    (fC : CBlob → Except CErr (ReadResult CEntry)) : ∀ (l : List CBlob) (acc : ReadResult CEntry),
    (∀ b ∈ l, fB (b.toB sha) = fC b) → foldEntriesB fB (l.map (CBlob.toB sha)) acc = foldEntries fC l acc
  | [], _, _ => rfl
  | b :: l, acc, h => by
    simp only [List.map_cons, foldEntriesB, foldEntries, h b (by simp)]
    cases fC b with
    | error e => rfl
    | ok r => exact foldEntriesB_map sha fB fC l _ (fun x hx => h x (by simp [hx]))

theorem collectEntriesB_map (sha : List Nat → List Nat) (fB : BBlob → Except CErr (List CEntry))
    (fC : CBlob → Except CErr (List CEntry)) : ∀ (l : List CBlob),
    (∀ b ∈ l, fB (b.toB sha) = fC b) → collectEntriesB fB (l.map (CBlob.toB sha)) = collectEntries fC l
  | [], _ => rfl
  | b :: l, h => by
    simp only [List.map_cons, collectEntriesB, collectEntries, h b (by simp),
      collectEntriesB_map sha fB fC l (fun x hx => h x (by simp [hx]))]

theorem BState.ext' {a b : BState} (h1 : a.active = b.active) (h2 : a.cont = b.cont) (h3 : a.nextId = b.nextId) :
    a = b := by
  cases a; cases b; simp_all

theorem toB_active (sha : List Nat → List Nat) (c : CState) : (c.toB sha).active = c.active.map (CBlob.toB sha) := rfl

theorem toB_cont (sha : List Nat → List Nat) (c : CState) : (c.toB sha).cont = mapData (CBlob.toB sha) c.cont := rfl

theorem createActive_toB (cfg : Cfg) (sha : List Nat → List Nat) (c : CState) :
    (c.createActive cfg).toB sha = (c.toB sha).createActive cfg := rfl

theorem ensureActive_toB (cfg : Cfg) (sha : List Nat → List Nat) (c : CState) :
    (c.ensureActive cfg).toB sha = (c.toB sha).ensureActive cfg := by
  unfold CState.ensureActive BState.ensureActive
  rw [toB_active]
  cases c.active <;> rfl

theorem openNew_idxSized (cfg : Cfg) (id : Nat) : (CBlob.openNew cfg id).IdxSized := by
  intro f mb off h; cases h

theorem deleteBase_toB (cfg : Cfg) (sha : List Nat → List Nat) (c : CState) (oip : Bool) :
    (if oip = true then c else c.ensureActive cfg).toB sha
      = (if oip = true then c.toB sha else (c.toB sha).ensureActive cfg) := by
  cases oip
  · exact ensureActive_toB cfg sha c
  · rfl

theorem childOps_filterOf_toB (cfg : Cfg) (sha : List Nat → List Nat) (b : CBlob) :
    (childOpsB cfg).filterOf (b.toB sha) = (childOps cfg).filterOf b := rfl

theorem blobs_toB (sha : List Nat → List Nat) (c : CState) : (c.toB sha).blobs = c.blobs.map (CBlob.toB sha) := by
  unfold BState.blobs CState.blobs
  rw [toB_cont, closedBlobsB_mapData, toB_active, List.map_append]
  cases c.active <;> rfl

theorem insertByIdB_map (sha : List Nat → List Nat) (b : CBlob) : ∀ (l : List CBlob),
    insertByIdB (b.toB sha) (l.map (CBlob.toB sha)) = (insertById b l).map (CBlob.toB sha)
  | [] => rfl
  | c :: cs => by
    simp only [List.map_cons, insertByIdB, insertById]
    by_cases h : b.id < c.id
    · have h' : (b.toB sha).id < (c.toB sha).id := h
      rw [if_pos h, if_pos h']; rfl
    · have h' : ¬ (b.toB sha).id < (c.toB sha).id := h
      rw [if_neg h, if_neg h']
      simp only [List.map_cons, insertByIdB_map sha b cs]

theorem sortByIdB_map (sha : List Nat → List Nat) : ∀ (l : List CBlob),
    sortByIdB (l.map (CBlob.toB sha)) = (sortById l).map (CBlob.toB sha)
  | [] => rfl
  | b :: l => by
    have ih := sortByIdB_map sha l
    simp only [sortByIdB, sortById, List.map_cons, List.foldr_cons] at ih ⊢
    rw [ih, insertByIdB_map]

theorem regenAllB_map (cfg : Cfg) (sha : List Nat → List Nat) : ∀ (l : List CBlob),
    regenAllB cfg (l.map (CBlob.toB sha)) = (regenAll cfg l).map (List.map (CBlob.toB sha))
  | [] => rfl
  | b :: l => by
    simp only [List.map_cons, regenAllB, regenAll, regen_toB, regenAllB_map cfg sha l]
    cases regen cfg b <;> cases regenAll cfg l <;> rfl

theorem map_dump_toB (cfg : Cfg) (sha : List Nat → List Nat) (l : List CBlob) :
    (l.map (CBlob.toB sha)).map (BBlob.dump cfg sha) = (l.map (CBlob.dump cfg)).map (CBlob.toB sha) := by
  simp only [List.map_map]
  exact List.map_congr_left fun b _ => dump_toB cfg sha b

theorem extend_toB (cfg : Cfg) (sha : List Nat → List Nat) (l : List CBlob) :
    Container.extend (fops cfg) (childOpsB cfg) (BState.emptyCont cfg) (l.map (CBlob.toB sha))
      = mapData (CBlob.toB sha) (Container.extend (fops cfg) (childOps cfg) (CState.emptyCont cfg) l) :=
  extend_mapData (CBlob.toB sha) (fops cfg) (childOps cfg) (childOpsB cfg)
    (childOps_filterOf_toB cfg sha) l (CState.emptyCont cfg)

theorem restart_toB (cfg : Cfg) (sha : List Nat → List Nat) (c : CState) (lazy : Bool) :
    (c.restart cfg lazy).toB sha = (c.toB sha).restart cfg sha lazy := by
  unfold CState.restart BState.restart
  rw [blobs_toB, sortByIdB_map, regenAllB_map]
  cases regenAll cfg (sortById c.blobs) with
  | none => rfl
  | some bs =>
    simp only [Option.map_some]
    have hmax : (bs.map (CBlob.toB sha)).foldl (fun m b => max m (b.id + 1)) 0
        = bs.foldl (fun m b => max m (b.id + 1)) 0 := by
      rw [List.foldl_map]; rfl
    rw [hmax]
    cases lazy with
    | true =>
      simp only [if_true]
      rw [map_dump_toB, extend_toB]
      rfl
    | false =>
      simp only [Bool.false_eq_true, if_false]
      rw [List.getLast?_map]
      cases bs.getLast? with
      | none => rfl
      | some a =>
        simp only [Option.map_some]
        rw [← List.map_dropLast, map_dump_toB, extend_toB]
        rfl

/-! ### every operation commutes with the translation when every blob translates well -/

/-- what the storage-level commutation needs of the translation of one blob -/
structure ToBOK (cfg : Cfg) (sha : List Nat → List Nat) (b : CBlob) : Prop where
  entry : ∀ k m, (b.toB sha).getLatestEntryM cfg k m = b.getLatestEntryM cfg k m
  readAll : ∀ k, (b.toB sha).readAllEntriesMarked cfg k = b.readAllEntriesMarked k
  delete : ∀ k ts m oip, (b.toB sha).deleteM cfg k ts m oip
    = ((b.deleteM cfg k ts m oip).1.toB sha, (b.deleteM cfg k ts m oip).2)
  load : (b.toB sha).loadIndex cfg = (b.loadIndex cfg).toB sha

theorem toBOK_of_inv (hB : BytesOK cfg sha) {b : CBlob} (hb : BlobInv cfg b) (hs : b.IdxSized) : ToBOK cfg sha b :=
  ⟨getLatestEntryM_toB hB hb hs, readAllEntriesMarked_toB hB hb hs, deleteM_toB hB hb hs, loadIndex_toB hB hb hs⟩

/-- every blob translates well, and the active blob keeps its index in memory -/
structure GoodB (cfg : Cfg) (sha : List Nat → List Nat) (c : CState) : Prop where
  blob : ∀ b ∈ c.blobs, ToBOK cfg sha b
  act : ∀ a, c.active = some a → a.index.onDisk = false

theorem goodB_of_inv (hB : BytesOK cfg sha) {c : CState} (hinv : CInv cfg c) (hs : c.IdxSized) : GoodB cfg sha c :=
  ⟨fun b hb => toBOK_of_inv hB (CInvG.blobInv hinv hb) (hs b hb), fun a ha => (hinv.active a ha).2⟩

theorem GoodB.ensureActive (hB : BytesOK cfg sha) {c : CState} (h : GoodB cfg sha c) :
    GoodB cfg sha (c.ensureActive cfg) := by
  unfold CState.ensureActive
  cases ha : c.active with
  | some a => exact h
  | none =>
    refine ⟨?_, ?_⟩
    · intro b hb
      unfold CState.blobs CState.createActive at hb
      simp only [Option.toList_some, List.mem_append, List.mem_singleton] at hb
      rcases hb with hb | hb
      · exact h.blob b (by unfold CState.blobs; exact List.mem_append_left _ hb)
      · subst hb
        exact toBOK_of_inv hB (openNew_inv cfg _) (openNew_idxSized cfg _)
    · intro a ha'
      simp only [CState.createActive, Option.some.injEq] at ha'
      subst ha'
      rfl

theorem getLatestEntryM_toB_good {c : CState} (h : GoodB cfg sha c) (k : Key) (m : Option Meta) :
    (c.toB sha).getLatestEntryM cfg k m = c.getLatestEntryM cfg k m := by
  unfold BState.getLatestEntryM CState.getLatestEntryM
  rw [consulted_toB]
  apply foldEntriesB_map
  intro b hb
  exact (h.blob b (mem_consulted_blobs hb)).entry k m

theorem containsWith_toB_good {c : CState} (h : GoodB cfg sha c) (k : Key) (m : Option Meta) :
    (c.toB sha).containsWith cfg k m = c.containsWith cfg k m := by
  unfold BState.containsWith CState.containsWith
  rw [getLatestEntryM_toB_good h]

theorem readWithOpt_toB_good {c : CState} (h : GoodB cfg sha c) (k : Key) (m : Option Meta) :
    (c.toB sha).readWithOpt cfg k m = c.readWithOpt cfg k m := by
  unfold BState.readWithOpt CState.readWithOpt
  rw [getLatestEntryM_toB_good h]

theorem readAllMarked_toB_good {c : CState} (h : GoodB cfg sha c) (k : Key) :
    (c.toB sha).readAllMarked cfg k = c.readAllMarked cfg k := by
  unfold BState.readAllMarked CState.readAllMarked
  rw [consulted_toB, collectEntriesB_map sha _ (fun b => b.readAllEntriesMarked k)]
  intro b hb
  exact (h.blob b (mem_consulted_blobs hb)).readAll k

theorem readAll_toB_good {c : CState} (h : GoodB cfg sha c) (k : Key) :
    (c.toB sha).readAll cfg k = c.readAll cfg k := by
  unfold BState.readAll CState.readAll
  rw [readAllMarked_toB_good h]

theorem writeWithOpt_toB_good (hB : BytesOK cfg sha) {c : CState} (h : GoodB cfg sha c)
    (k : Key) (ts : Nat) (m : Option Meta) (d : Data) :
    (c.writeWithOpt cfg k ts m d).toB sha = (c.toB sha).writeWithOpt cfg k ts m d := by
  have h1 := h.ensureActive hB
  unfold CState.writeWithOpt BState.writeWithOpt
  simp only []
  rw [← ensureActive_toB, containsWith_toB_good h1]
  generalize (if cfg.allowDup = true then (Except.ok false : Except CErr Bool)
    else match (c.ensureActive cfg).containsWith cfg k m with
      | .error e => .error e
      | .ok r => .ok r.isFound) = dup
  cases dup with
  | error e => rfl
  | ok bdup =>
    cases bdup with
    | true => rfl
    | false =>
      simp only []
      rw [toB_active]
      cases ha : (c.ensureActive cfg).active with
      | none => rfl
      | some a =>
        simp only [Option.map_some]
        apply BState.ext'
        · show some ((a.writeRec cfg _).toB sha) = some ((a.toB sha).writeRec cfg _)
          rw [writeRec_toB cfg sha a _ (h1.act a ha)]
        · rfl
        · rfl

theorem deleteWithOpt_toB_good (hB : BytesOK cfg sha) {c : CState} (h : GoodB cfg sha c)
    (k : Key) (ts : Nat) (m : Option Meta) (oip : Bool) :
    (c.deleteWithOpt cfg k ts m oip).1.toB sha = ((c.toB sha).deleteWithOpt cfg k ts m oip).1 ∧
    (c.deleteWithOpt cfg k ts m oip).2 = ((c.toB sha).deleteWithOpt cfg k ts m oip).2 := by
  obtain ⟨c0, hc0, h0⟩ : ∃ c0, c0 = (if oip then c else c.ensureActive cfg) ∧ GoodB cfg sha c0 := by
    refine ⟨_, rfl, ?_⟩
    cases oip
    · exact h.ensureActive hB
    · exact h
  unfold CState.deleteWithOpt BState.deleteWithOpt
  simp only []
  rw [← deleteBase_toB, ← hc0]
  have hclosed : ∀ b ∈ closedBlobs c0.cont, ToBOK cfg sha b :=
    fun b hb => h0.blob b (by unfold CState.blobs; exact List.mem_append_left _ hb)
  constructor
  · apply BState.ext'
    · show (c0.active.map (fun a => (a.deleteM cfg k ts m oip).1)).map (CBlob.toB sha) = _
      rw [toB_active]
      cases ha : c0.active with
      | none => rfl
      | some a =>
        simp only [Option.map_some]
        rw [(h0.blob a (mem_blobs_active ha)).delete]
    · show mapData (CBlob.toB sha) (mapChildren c0.cont (fun b => (b.deleteM cfg k ts m true).1))
        = mapChildrenB (mapData (CBlob.toB sha) c0.cont) (fun b => (b.deleteM cfg k ts m true).1)
      symm
      apply mapChildrenB_mapData
      intro b hb
      rw [(hclosed b hb).delete]
    · rfl
  · rw [toB_active, toB_cont, closedBlobsB_mapData]
    congr 1
    · cases ha : c0.active with
      | none => rfl
      | some a =>
        simp only [Option.map_some]
        rw [(h0.blob a (mem_blobs_active ha)).delete]
    · rw [List.filter_map, List.length_map]
      congr 1
      apply List.filter_congr
      intro b hb
      simp only [Function.comp_apply]
      rw [(hclosed b hb).delete]

theorem stepM_toB_good (hB : BytesOK cfg sha) {c : CState} (h : GoodB cfg sha c) (op : MOp) :
    (c.stepM cfg op).toB sha = (c.toB sha).stepB cfg sha op := by
  cases op with
  | write k ts m d => exact writeWithOpt_toB_good hB h k ts m d
  | delete k ts m oip => exact (deleteWithOpt_toB_good hB h k ts m oip).1
  | closeActive =>
    simp only [CState.stepM, CState.step, BState.stepB, CState.closeActive, BState.closeActive, toB_active]
    cases c.active with
    | none => rfl
    | some a =>
      simp only [Option.map_some, toB_cont]
      rw [push_mapData (CBlob.toB sha) (fops cfg) (childOps cfg) (childOpsB cfg) (childOps_filterOf_toB cfg sha)]
      rfl
  | createActive =>
    simp only [CState.stepM, CState.step, BState.stepB, CState.tryCreateActive, BState.tryCreateActive, toB_active]
    cases c.active with
    | none => rfl
    | some a => rfl
  | restoreActive =>
    simp only [CState.stepM, CState.step, BState.stepB, CState.restoreActive, BState.restoreActive, toB_active]
    cases c.active with
    | some a => rfl
    | none =>
      simp only [Option.map_none, toB_cont, lastId_mapData]
      cases c.cont.lastId with
      | none => rfl
      | some i =>
        simp only []
        have hload : ∀ b ∈ closedBlobs c.cont, (BBlob.loadIndex cfg) (b.toB sha) = (b.loadIndex cfg).toB sha :=
          fun b hb => (h.blob b (by unfold CState.blobs; exact List.mem_append_left _ hb)).load
        rw [modifyChildB_mapData sha c.cont i (BBlob.loadIndex cfg) (CBlob.loadIndex cfg) hload, pop_mapData]
        cases hp : (modifyChild c.cont i (CBlob.loadIndex cfg)).pop with
        | mk cont' ob =>
          cases ob with
          | none => rfl
          | some b => rfl
  | replaceActive =>
    simp only [CState.stepM, CState.step, BState.stepB, CState.replaceActive, BState.replaceActive, toB_active]
    cases c.active with
    | none => rfl
    | some a =>
      simp only [Option.map_some]
      have h1 : ((c.toB sha).createActive cfg).cont = mapData (CBlob.toB sha) (c.createActive cfg).cont := rfl
      rw [h1, push_mapData (CBlob.toB sha) (fops cfg) (childOps cfg) (childOpsB cfg) (childOps_filterOf_toB cfg sha)]
      rfl
  | settle =>
    simp only [CState.stepM, CState.step, BState.stepB, CState.settle, BState.settle]
    apply BState.ext'
    · rfl
    · show mapData (CBlob.toB sha) (mapChildren c.cont (CBlob.dump cfg))
        = mapChildrenB (mapData (CBlob.toB sha) c.cont) (BBlob.dump cfg sha)
      symm
      apply mapChildrenB_mapData
      intro b _
      exact dump_toB cfg sha b
    · rfl
  | restart lazy => exact restart_toB cfg sha c lazy

/-! ### … in particular under the invariant, with every index file shorter than `2^64` bytes -/

theorem readWithOpt_toB (hB : BytesOK cfg sha) {c : CState} (hinv : CInv cfg c) (hs : c.IdxSized)
    (k : Key) (m : Option Meta) : (c.toB sha).readWithOpt cfg k m = c.readWithOpt cfg k m :=
  readWithOpt_toB_good (goodB_of_inv hB hinv hs) k m

theorem stepM_toB (hB : BytesOK cfg sha) {c : CState} (hinv : CInv cfg c) (hs : c.IdxSized) (op : MOp) :
    (c.stepM cfg op).toB sha = (c.toB sha).stepB cfg sha op :=
  stepM_toB_good hB (goodB_of_inv hB hinv hs) op

theorem init_toB (cfg : Cfg) (sha : List Nat → List Nat) : (CState.init cfg).toB sha = BState.init cfg := rfl

/-- along a run from the empty directory the byte-level storage is the translation of the structured one, when every
    state passed through has its index files shorter than `2^64` bytes (its invariant is `runM_ref` of the prefix) -/
theorem runB_eq (hB : BytesOK cfg sha) (ops : List MOp) (hops : ∀ op ∈ ops, op.OK cfg)
    (hsz : StoreSized cfg.klen ((Store.init cfg.allowDup).run (ops.map MOp.abs)))
    (hidx : ∀ n, n ≤ ops.length → ((CState.init cfg).runM cfg (ops.take n)).IdxSized) :
    (BState.init cfg).runB cfg sha ops = ((CState.init cfg).runM cfg ops).toB sha := by
  rw [← init_toB cfg sha]
  refine (foldl_rel (R := fun c b => c.toB sha = b) (C := fun c _ => CInv cfg c ∧ c.IdxSized) (ok := fun _ => True)
    (fun c _ op hR _ hC _ => hR ▸ stepM_toB hB hC.1 hC.2 op) ops (CState.init cfg) _ rfl (fun _ _ => trivial)
    fun n hn => ⟨?_, hidx n hn⟩).symm
  exact (runM_ref hB.ok (ops.take n) (fun op hop => hops op (List.mem_of_mem_take hop))
    (by rw [List.map_take]; exact storeSized_prefix cfg.klen (Store.init_WF' _) _ hsz n)).2.1

end

end Pearl.E2E
