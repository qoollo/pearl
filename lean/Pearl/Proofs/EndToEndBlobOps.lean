import Pearl.Model.EndToEndMeta
import Pearl.Proofs.EndToEndBlob
/-
End-to-end composition: the operations of one blob keep `BlobInv` and commute with the L2 blob
operations (`Blob.append`, `Store.blobDelete`, the `onDisk` flag for dump / load), and the regeneration of the
index from the blob file (`regen`: L5 scan + pushes) rebuilds exactly the index and the filter (`MC.regenerated`; under
`BlobInv` only the index changes: `reidx`).  The part of each
operation that concerns file and index is a lemma about `BlobCore`.  At the end: the interface (`BlobLaws`,
`BlobIOLaws`) through which the storage-level proofs use a blob invariant.
-/
namespace Pearl.E2E
open Pearl Pearl.BPTree

theorem openNew_inv (cfg : Cfg) (id : Nat) : BlobInv cfg (CBlob.openNew cfg id) where
  key := by intro r hr; simp [CBlob.openNew] at hr
  ts := by intro r hr; simp [CBlob.openNew] at hr
  file := rfl
  size := by
    show (serBlobHeader).length < 2 ^ 64
    rw [serBlobHeader_length]; decide
  filter := rfl
  index := by
    show IndexInv cfg (CBlob.openNew cfg id)
    unfold IndexInv CBlob.openNew
    rfl

theorem openNew_abs (cfg : Cfg) (id : Nat) : (CBlob.openNew cfg id).abs = { id := id, recs := [] } := rfl

theorem writeRec_mem (cfg : Cfg) (b : CBlob) (m : InMem RecHeader) (hi : b.index = .mem m) (r : Rec) :
    b.writeRec cfg r =
      { b with
        file := appendRecord b.file (recOf cfg.klen r)
        index := .mem (memPush r.key (writtenHeader (recOf cfg.klen r) b.file.length) m)
        filter := b.filter.add cfg.h r.key
        ghost := b.ghost ++ [r] } := by
  unfold CBlob.writeRec CBlob.indexPush
  simp only [hi]
  rfl

/-- `Blob::write` on an in-memory index: the common part of the invariants is kept, the key goes into the filter, the
    record onto the history and the file; the index stays in memory -/
theorem BlobCore.writeRec_rest {cfg : Cfg} {b : CBlob} (hb : BlobCore cfg b) (hmem : b.index.onDisk = false) (r : Rec)
    (hk : r.key < 256 ^ cfg.klen) (hts : r.ts < 2 ^ 64) :
    (BlobCore cfg (b.writeRec cfg r) ∧ (b.writeRec cfg r).filter = b.filter.add cfg.h r.key ∧
      ∀ f metaBuf off, (b.writeRec cfg r).index ≠ .disk f metaBuf off) ∧
    (b.writeRec cfg r).id = b.id ∧ (b.writeRec cfg r).ghost = b.ghost ++ [r] ∧
      (b.writeRec cfg r).index.onDisk = false ∧
      (b.writeRec cfg r).file = appendRecord b.file (recOf cfg.klen r) := by
  cases hi : b.index with
  | disk f mb off => rw [hi] at hmem; cases hmem
  | mem m =>
    obtain rfl := hb.mem m hi
    rw [writeRec_mem cfg b _ hi r]
    obtain ⟨hwf, hcov, hres⟩ := Combined.add_facts cfg ⟨hb.wf, hb.covers, hb.resident hmem⟩ r
    refine ⟨⟨⟨?_, ?_, ?_, hwf, hcov, fun _ => hres, ?_, fun _ _ _ h => by cases h⟩, rfl, fun _ _ _ h => by cases h⟩,
      rfl, rfl, rfl, rfl⟩
    · exact List.forall_mem_append.mpr ⟨hb.key, by simpa using hk⟩
    · exact List.forall_mem_append.mpr ⟨hb.ts, by simpa using hts⟩
    · show appendRecord b.file (recOf cfg.klen r) = blobBytes cfg.klen (full (b.ghost ++ [r]))
      rw [blobBytes_snoc, ← hb.file]
    · intro m' hm'
      cases hm'
      show _ = indexOf (hdrsOf cfg (b.ghost ++ [r]))
      rw [hdrsOf_snoc, indexOf_snoc, ← hb.file, hdrOf_key_of_lt _ _ _ hk, writtenHeader_recOf]

theorem writeRec_inv0 {cfg : Cfg} {b : CBlob} (hb : BlobInv0 cfg b) (hmem : b.index.onDisk = false) (r : Rec)
    (hk : r.key < 256 ^ cfg.klen) (hts : r.ts < 2 ^ 64) :
    BlobInv0 cfg (b.writeRec cfg r) ∧ (b.writeRec cfg r).id = b.id ∧ (b.writeRec cfg r).ghost = b.ghost ++ [r] ∧
      (b.writeRec cfg r).index.onDisk = false ∧
      (b.writeRec cfg r).file = appendRecord b.file (recOf cfg.klen r) := by
  obtain ⟨⟨hc, hf, hnd⟩, hrest⟩ := hb.core.writeRec_rest hmem r hk hts
  refine ⟨BlobInv0.of_core hc ?_ (fun f mb off hi => absurd hi (hnd f mb off)), hrest⟩
  rw [hf, hrest.2.1, filterOf_snoc, ← hb.filter]

theorem writeRec_inv {cfg : Cfg} {b : CBlob} (hb : BlobInv cfg b) (hmem : b.index.onDisk = false) (r : Rec)
    (hk : r.key < 256 ^ cfg.klen) (hts : r.ts < 2 ^ 64)
    (hsz : (appendRecord b.file (recOf cfg.klen r)).length < 2 ^ 64) :
    BlobInv cfg (b.writeRec cfg r) ∧ (b.writeRec cfg r).id = b.id ∧ (b.writeRec cfg r).ghost = b.ghost ++ [r] ∧
      (b.writeRec cfg r).index.onDisk = false ∧
      (b.writeRec cfg r).file = appendRecord b.file (recOf cfg.klen r) := by
  obtain ⟨h0, h1, h2, h3, h4⟩ := writeRec_inv0 hb.toBlobInv0 hmem r hk hts
  exact ⟨⟨h0, by rw [h4]; exact hsz⟩, h1, h2, h3, h4⟩

/-- `load_index` of a blob whose filter section (if its index is on disk) deserializes to `flt` -/
theorem BlobCore.loadIndex_eq {cfg : Cfg} {b : CBlob} (hb : BlobCore cfg b) (flt : Combined)
    (hmem : ∀ m, b.index = .mem m → flt = b.filter)
    (hdisk : ∀ f metaBuf off, b.index = .disk f metaBuf off →
      ∃ off', combinedOfFile cfg.bloomIsOn metaBuf = some (flt, off')) :
    b.loadIndex cfg = { b with index := .mem (indexOf (hdrsOf cfg b.ghost)), filter := flt } := by
  unfold CBlob.loadIndex
  cases hi : b.index with
  | mem m =>
    obtain rfl := hb.mem m hi
    obtain rfl := hmem _ hi
    -- `{ b with index := b.index } = b`: structure eta needs `b` as a constructor application
    cases b
    simp only at hi
    subst hi
    rfl
  | disk f metaBuf off =>
    obtain ⟨_, rfl⟩ := hb.disk f metaBuf off hi
    obtain ⟨off', hc⟩ := hdisk _ metaBuf off hi
    simp only []
    rw [build_load _ _ _ (indexOf_WF _), hc]

theorem BlobInv0.serialize {cfg : Cfg} {b : CBlob} (hb : BlobInv0 cfg b) {f : IndexFile RecHeader}
    {metaBuf : List Nat} {off : Nat} (hi : b.index = .disk f metaBuf off) :
    serializeFilters cfg.klen b.filter = some (metaBuf, off) := by
  have hidx := hb.index
  unfold IndexInv at hidx
  rw [hi] at hidx
  exact hidx.2.1

theorem loadIndex_inv {cfg : Cfg} {b : CBlob} (hcfg : cfg.OK) (hb : BlobInv cfg b) :
    BlobInv cfg (b.loadIndex cfg) ∧ (b.loadIndex cfg).index.onDisk = false := by
  have he : b.loadIndex cfg = { b with index := .mem (indexOf (hdrsOf cfg b.ghost)) } := by
    refine hb.core.loadIndex_eq b.filter (fun _ _ => rfl) (fun f metaBuf off hi => ⟨off, ?_⟩)
    have hsz : FBlob.Sized cfg.klen b.filter := by
      rw [hb.filter]; exact filterOf_sized cfg hcfg b.ghost hb.key
    have hon : b.filter.bloom.isSome = cfg.bloomIsOn := by
      rw [hb.filter]; exact filterOf_bloom_isSome cfg b.ghost
    exact combinedOfFile_serialize cfg b.filter metaBuf off hb.core.wf hsz hon (hb.serialize hi)
  rw [he]
  exact ⟨⟨⟨hb.key, hb.ts, hb.file, hb.filter, rfl⟩, hb.size⟩, rfl⟩

theorem isEmpty_indexOf (hs : List RecHeader) : (indexOf hs).isEmpty = hs.isEmpty := by
  rw [Bool.eq_iff_iff, List.isEmpty_iff, List.isEmpty_iff, indexOf_eq_nil_iff]

/-- `Blob::dump`: nothing happens to an on-disk or empty index; else the serialized filter (which cannot fail, the
    bloom buffer being resident) and the B+tree image of the index are written -/
theorem BlobCore.dump_cases {cfg : Cfg} {b : CBlob} (hb : BlobCore cfg b) :
    (b.dump cfg = b ∧ (b.index.onDisk = true ∨ b.ghost = [])) ∨
    ∃ metaBuf off, serializeFilters cfg.klen b.filter = some (metaBuf, off) ∧ b.ghost ≠ [] ∧
      b.index.onDisk = false ∧
      b.dump cfg = { b with index := .disk (build (Params.real cfg.klen) metaBuf.length
        (indexOf (hdrsOf cfg b.ghost))) metaBuf off } := by
  unfold CBlob.dump
  cases hi : b.index with
  | disk f metaBuf off => exact Or.inl ⟨rfl, Or.inl rfl⟩
  | mem m =>
    obtain rfl := hb.mem m hi
    simp only [isEmpty_indexOf, List.isEmpty_iff, hdrsOf_eq_nil_iff]
    by_cases he : b.ghost = []
    · rw [if_pos he]; exact Or.inl ⟨rfl, Or.inr he⟩
    · rw [if_neg he]
      obtain ⟨⟨metaBuf, off⟩, hs⟩ := serializeFilters_isSome cfg.klen b.filter (hb.resident (by rw [hi]; rfl))
      simp only [hs]
      exact Or.inr ⟨metaBuf, off, rfl, he, rfl, rfl⟩

/-- where the index is after `dump` -/
theorem BlobCore.dump_rest {cfg : Cfg} {b : CBlob} (hb : BlobCore cfg b) :
    (b.dump cfg).index.onDisk = (b.index.onDisk || !b.ghost.isEmpty) := by
  rcases hb.dump_cases with ⟨he, hd⟩ | ⟨metaBuf, off, _, hne, _, he⟩
  · rw [he]
    rcases hd with hd | hd
    · simp [hd]
    · simp [hd, hb.onDisk_of_empty hd]
  · rw [he]
    simp [CIndex.onDisk, hne]

theorem dump_inv {cfg : Cfg} {b : CBlob} (hb : BlobInv cfg b) : BlobInv cfg (b.dump cfg) := by
  rcases hb.core.dump_cases with ⟨he, _⟩ | ⟨metaBuf, off, hs, hne, _, he⟩
  · rw [he]; exact hb
  · rw [he]; exact ⟨⟨hb.key, hb.ts, hb.file, hb.filter, ⟨hne, hs, rfl⟩⟩, hb.size⟩

theorem foldl_indexPush (cfg : Cfg) : ∀ (hs : List RecHeader) (b : CBlob) (m : InMem RecHeader), b.index = .mem m →
    hs.foldl (fun b h => (b.indexPush cfg (hdrKey h) h).getD b) b =
      { b with
        index := .mem (hs.foldl (fun m h => memPush (hdrKey h) h m) m)
        filter := (hs.map hdrKey).foldl (Combined.add cfg.h) b.filter }
  | [], b, m, hi => by
    cases b; simp only at hi; subst hi; rfl
  | h :: hs, b, m, hi => by
    simp only [List.foldl_cons, List.map_cons]
    have : b.indexPush cfg (hdrKey h) h
        = some { b with index := .mem (memPush (hdrKey h) h m), filter := b.filter.add cfg.h (hdrKey h) } := by
      unfold CBlob.indexPush; rw [hi]
    rw [this, Option.getD_some, foldl_indexPush cfg hs _ _ rfl]

namespace MC

/-- the blob after `Index::new` + `try_regenerate_index` under `cfg`: the result of `regen` under every blob invariant
    (`BlobCore.regen_eq`).  It stands in `MC`, the namespace of the sessions-with-different-configurations model
    (`Pearl/Model/EndToEndCfg.lean`, `EndToEndCfg.lean`), where the filter of the new configuration matters; under
    `BlobInv` the filter is that one already and only the index changes (`regenerated_eq`, `reidx`) -/
def regenerated (cfg : Cfg) (b : CBlob) : CBlob :=
  { b with index := .mem (indexOf (hdrsOf cfg b.ghost)), filter := filterOf cfg b.ghost }

end MC

/-- the index regenerated from the blob file (C05: the scan returns the headers that were written) is the index the
    writes built, with the filter of the RUNNING configuration -/
theorem BlobCore.regen_eq {cfg : Cfg} {b : CBlob} (hb : BlobCore cfg b) (hsz : b.file.length < 2 ^ 64) :
    regen cfg b = some (MC.regenerated cfg b) := by
  unfold regen MC.regenerated
  rw [hb.file, blobHeader_blob]
  simp only []
  by_cases he : b.ghost = []
  · have hlen : ¬ (blobBytes cfg.klen (full b.ghost)).length > blobHeaderSize := by
      rw [he, blobBytes_nil, serBlobHeader_length]; omega
    rw [if_neg hlen, he]
    rfl
  · have hlen : (blobBytes cfg.klen (full b.ghost)).length > blobHeaderSize := blobBytes_length_gt _ _ he
    rw [if_pos hlen]
    rw [scan_blob cfg.klen cfg.validateData b.ghost he (by rw [← hb.file]; exact hsz) hb.ts]
    simp only []
    rw [foldl_indexPush cfg _ _ [] rfl]
    have hk : (blobHeaders cfg.klen (full b.ghost)).map hdrKey = b.ghost.map (·.key) := hdrsOf_keys cfg b.ghost hb.key
    simp only [hk]
    rfl

theorem regenerated_eq {cfg : Cfg} {b : CBlob} (hb : BlobInv cfg b) :
    MC.regenerated cfg b = { b with index := .mem (indexOf (hdrsOf cfg b.ghost)) } := by
  unfold MC.regenerated
  rw [← hb.filter]

theorem regen_eq {cfg : Cfg} {b : CBlob} (hb : BlobInv cfg b) :
    regen cfg b = some { b with index := .mem (indexOf (hdrsOf cfg b.ghost)) } := by
  rw [hb.core.regen_eq hb.size, regenerated_eq hb]

theorem regen_inv {cfg : Cfg} {b : CBlob} (hb : BlobInv cfg b) :
    BlobInv cfg { b with index := .mem (indexOf (hdrsOf cfg b.ghost)) } :=
  ⟨⟨hb.key, hb.ts, hb.file, hb.filter, rfl⟩, hb.size⟩

/-- a blob with its index regenerated in memory: `MC.regenerated` for a blob whose filter is `filterOf cfg` already
    (`regenerated_eq`) -/
def reidx (cfg : Cfg) (b : CBlob) : CBlob := { b with index := .mem (indexOf (hdrsOf cfg b.ghost)) }

theorem reidx_inv {cfg : Cfg} {b : CBlob} (hb : BlobInv cfg b) : BlobInv cfg (reidx cfg b) := regen_inv hb

/-! ### what holds of any blob -/

theorem writeRec_id_file (cfg : Cfg) (b : CBlob) (r : Rec) :
    (b.writeRec cfg r).id = b.id ∧ (b.writeRec cfg r).file = appendRecord b.file (recOf cfg.klen r) := by
  unfold CBlob.writeRec CBlob.indexPush
  cases b.index <;> exact ⟨rfl, rfl⟩

theorem loadIndex_phys (cfg : Cfg) (b : CBlob) :
    (b.loadIndex cfg).id = b.id ∧ (b.loadIndex cfg).ghost = b.ghost ∧ (b.loadIndex cfg).file = b.file := by
  unfold CBlob.loadIndex
  cases b.index with
  | mem m => exact ⟨rfl, rfl, rfl⟩
  | disk f metaBuf off =>
    simp only []
    cases f.load <;> cases combinedOfFile cfg.bloomIsOn metaBuf <;> exact ⟨rfl, rfl, rfl⟩

theorem dump_phys (cfg : Cfg) (b : CBlob) :
    (b.dump cfg).id = b.id ∧ (b.dump cfg).ghost = b.ghost ∧ (b.dump cfg).file = b.file ∧
      (b.dump cfg).filter = b.filter := by
  unfold CBlob.dump
  cases b.index with
  | disk f metaBuf off => exact ⟨rfl, rfl, rfl, rfl⟩
  | mem m =>
    simp only []
    split
    · exact ⟨rfl, rfl, rfl, rfl⟩
    · cases serializeFilters cfg.klen b.filter <;> exact ⟨rfl, rfl, rfl, rfl⟩

/-- `Blob::write` against `Blob.append` -/
theorem writeRec_abs (cfg : Cfg) {b : CBlob} (hmem : b.index.onDisk = false) (r : Rec) :
    (b.writeRec cfg r).abs = b.abs.append r ∧ (b.writeRec cfg r).index.onDisk = false := by
  cases hi : b.index with
  | disk f mb off => rw [hi] at hmem; cases hmem
  | mem m =>
    rw [writeRec_mem cfg b m hi r]
    simp only [CBlob.abs, Blob.append, hi]
    exact ⟨rfl, rfl⟩

/-- a blob that is not marked keeps its file; a marked one grows by the marker -/
theorem delete_file_cases (cfg : Cfg) (b : CBlob) (k : Key) (ts : Nat) (oip : Bool) :
    (b.delete cfg k ts oip).1.file = b.file ∨
      (b.delete cfg k ts oip).1.file = appendRecord b.file (recOf cfg.klen ⟨k, ts, true, none, ⟨0, 0⟩⟩) := by
  unfold CBlob.delete
  simp only []
  generalize (!oip || _) = go
  cases go
  · exact Or.inl rfl
  · exact Or.inr (by rw [if_pos rfl, (writeRec_id_file cfg _ _).2, (loadIndex_phys cfg b).2.2])

/-! ### what the storage needs from a blob invariant

The storage-level proofs (`EndToEndLemmas.lean`, `EndToEndSteps.lean`) are written once, for any blob invariant
`I` (and its variant `I0` without the size condition) with the properties below.  The instances: `BlobInv`, the
configuration-independent `MC.BlobInvC` of `EndToEndCfg.lean`, and `BlobInvO` of `EndToEndStartOffloadSteps.lean` (filters
that may be off-loaded). -/

/-- what creating, closing and dumping blobs need; the read path and the filters handed to the container use `core` only -/
structure BlobLaws (cfg : Cfg) (I : CBlob → Prop) : Prop where
  openNew : ∀ id, I (CBlob.openNew cfg id)
  core : ∀ {b}, I b → BlobCore cfg b
  dump : ∀ {b}, I b → I (b.dump cfg)

/-- … and what reading, writing, loading and regenerating need.  Two predicates, because a write can only promise `I0`
    (nothing bounds the file it made); `I` comes back through `ofSize` from `StoreSized` of the L2 result: hence every step
    theorem of `EndToEndSteps.lean` has a form `_ref0_of` and a form `_ref_of` -/
structure BlobIOLaws (cfg : Cfg) (I0 I : CBlob → Prop) : Prop extends BlobLaws cfg I where
  ok : cfg.OK
  checkFilter : ∀ {b}, I b → ∀ r ∈ b.ghost, b.checkFilter cfg r.key ≠ .notContains
  toI0 : ∀ {b}, I b → I0 b
  ofSize : ∀ {b}, I0 b → (blobBytes cfg.klen (full b.ghost)).length < 2 ^ 64 → I b
  size : ∀ {b}, I b → b.file.length < 2 ^ 64
  writeRec : ∀ {b}, I0 b → b.index.onDisk = false → ∀ r : Rec, r.key < 256 ^ cfg.klen → r.ts < 2 ^ 64 →
    I0 (b.writeRec cfg r)
  loadIndex : ∀ {b}, I b → I (b.loadIndex cfg) ∧ (b.loadIndex cfg).index.onDisk = false
  regen : ∀ {b}, I b → regen cfg b = some (MC.regenerated cfg b) ∧ I (MC.regenerated cfg b)

section
variable {cfg : Cfg} {I0 I : CBlob → Prop}

theorem BlobLaws.dump_abs (L : BlobLaws cfg I) {b : CBlob} (hb : I b) :
    (b.dump cfg).abs = if b.abs.recs.isEmpty then b.abs else { b.abs with onDisk := true } := by
  obtain ⟨h1, h2, _⟩ := dump_phys cfg b
  unfold CBlob.abs
  rw [h1, h2, (L.core hb).dump_rest]
  cases hg : b.ghost with
  | nil => simp [(L.core hb).onDisk_of_empty hg]
  | cons x xs => simp

theorem BlobIOLaws.indexLatest (L : BlobIOLaws cfg I0 I) {b : CBlob} (hb : I b) (k : Key) :
    ∃ x, b.indexLatest k = .ok x ∧ RR (b.abs.getLatest k) x :=
  (L.core hb).indexLatest_rr L.ok (L.size hb) k

/-- `Blob::delete(key, ts, meta, only_if_presented)` against `Store.blobDelete`, without a size condition on the
    result (`Blob::delete` without a meta is `m = none`) -/
theorem BlobIOLaws.deleteM (L : BlobIOLaws cfg I0 I) {b : CBlob} (hb : I b) (k : Key) (ts : Nat) (m : Option Meta)
    (oip : Bool) (hk : k < 256 ^ cfg.klen) (hts : ts < 2 ^ 64) :
    I0 (b.deleteM cfg k ts m oip).1 ∧
      (b.deleteM cfg k ts m oip).1.abs = (Store.blobDelete b.abs k ts m oip).1 ∧
      (b.deleteM cfg k ts m oip).2 = (Store.blobDelete b.abs k ts m oip).2 := by
  obtain ⟨x, hx, hrr⟩ := L.indexLatest hb k
  unfold CBlob.deleteM Store.blobDelete
  simp only [hx, hrr.isFound]
  by_cases hgo : (!oip || (b.abs.getLatest k).isFound) = true
  · rw [if_pos hgo, if_pos hgo]
    obtain ⟨hl, hlm⟩ := L.loadIndex hb
    obtain ⟨hlid, hlg, _⟩ := loadIndex_phys cfg b
    refine ⟨L.writeRec (L.toI0 hl) hlm _ hk hts, ?_, rfl⟩
    rw [(writeRec_abs cfg hlm _).1]
    simp only [CBlob.abs, hlid, hlg, hlm]
    rfl
  · rw [if_neg hgo, if_neg hgo]
    exact ⟨L.toI0 hb, rfl, rfl⟩

end

theorem blobLaws (cfg : Cfg) : BlobLaws cfg (BlobInv cfg) where
  openNew := openNew_inv cfg
  core hb := hb.core
  dump := dump_inv

theorem blobIOLaws {cfg : Cfg} (hcfg : cfg.OK) : BlobIOLaws cfg (BlobInv0 cfg) (BlobInv cfg) where
  toBlobLaws := blobLaws cfg
  ok := hcfg
  checkFilter hb r hr := hb.checkFilter_no_fn r.key ⟨r, hr, rfl⟩
  toI0 := BlobInv.toBlobInv0
  ofSize h0 hsz := ⟨h0, by rw [h0.file]; exact hsz⟩
  size hb := hb.size
  writeRec h0 hmem r hk hts := (writeRec_inv0 h0 hmem r hk hts).1
  loadIndex := loadIndex_inv hcfg
  regen hb := by rw [regenerated_eq hb]; exact ⟨regen_eq hb, regen_inv hb⟩

theorem delete_spec {cfg : Cfg} {b : CBlob} (hcfg : cfg.OK) (hb : BlobInv cfg b) (k : Key) (ts : Nat) (oip : Bool)
    (hk : k < 256 ^ cfg.klen) (hts : ts < 2 ^ 64)
    (hsz : (b.delete cfg k ts oip).1.file.length < 2 ^ 64) :
    BlobInv cfg (b.delete cfg k ts oip).1 ∧
      (b.delete cfg k ts oip).1.abs = (Store.blobDelete b.abs k ts none oip).1 ∧
      (b.delete cfg k ts oip).2 = (Store.blobDelete b.abs k ts none oip).2 := by
  obtain ⟨h0, h1, h2⟩ := (blobIOLaws hcfg).deleteM hb k ts none oip hk hts
  exact ⟨⟨h0, hsz⟩, h1, h2⟩

set_option linter.unusedVariables false in
/-- a blob that is not marked keeps its file; a marked one grows by the marker (true of any blob:
    `delete_file_cases`) -/
theorem delete_file {cfg : Cfg} {b : CBlob} (hcfg : cfg.OK) (hb : BlobInv cfg b) (k : Key) (ts : Nat) (oip : Bool) :
    (b.delete cfg k ts oip).1.file = b.file ∨
      (b.delete cfg k ts oip).1.file = appendRecord b.file (recOf cfg.klen ⟨k, ts, true, none, ⟨0, 0⟩⟩) :=
  delete_file_cases cfg b k ts oip

end Pearl.E2E
