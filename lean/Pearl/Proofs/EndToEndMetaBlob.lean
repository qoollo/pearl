import Pearl.Proofs.EndToEndBlobOps
import Pearl.Proofs.StoreLemmas
/-
End-to-end composition with metadata: one blob, on top of the per-blob lemmas of `EndToEndBlob` / `EndToEndBlobOps`
(`BlobCore`, `load_of_mem`, `indexLatest_rr`).  Under `BlobCore` (what every blob invariant says of file and index)
* `get_all_with_deletion_marker` through the vector or the index file is the cut, reversed, sorted vector of
  the key (`index_getAllMarked`, C09 `ondisk_all_eq`);
* `Entry::load_meta` of an entry of the blob returns the entries of the meta that was written (C05);
* `Blob::get_entry_with_meta` represents the L2 answer `Blob.getWithMeta` (`getEntryWithMeta_rr`).
-/
namespace Pearl.E2E
open Pearl Pearl.BPTree

/-- the value of the one entry of a meta map is a byte string -/
def MetaOK (m : Meta) : Prop := ∀ v, m = some v → ∀ x ∈ v, x < 256

instance (m : Meta) : Decidable (MetaOK m) := by
  unfold MetaOK
  cases m with
  | none => exact isTrue (by intro v h; cases h)
  | some w =>
    exact decidable_of_iff (∀ x ∈ w, x < 256)
      ⟨fun h v hv => by cases hv; exact h, fun h => h w rfl⟩

theorem metaOK_none : MetaOK none := by intro v h; cases h

theorem metaOK_getD {m : Option Meta} (h : ∀ x, m = some x → MetaOK x) : MetaOK (m.getD none) := by
  cases m with
  | none => exact metaOK_none
  | some x => exact h x rfl

theorem metaVal_inj : ∀ (v w : List Nat), (∀ x ∈ v, x < 256) → (∀ x ∈ w, x < 256) → metaVal v = metaVal w → v = w
  | [], [], _, _, _ => rfl
  | [], _ :: _, _, _, h => by simp [metaVal] at h
  | _ :: _, [], _, _, h => by simp [metaVal] at h
  | a :: v, b :: w, hv, hw, h => by
    simp only [metaVal, List.map_cons, List.cons.injEq] at h
    have ha := hv a (by simp)
    have hb := hw b (by simp)
    have hab : a = b := by
      have := congrArg UInt8.toNat h.1
      simp only [UInt8.toNat_ofNat'] at this
      omega
    rw [hab, metaVal_inj v w (fun x hx => hv x (by simp [hx])) (fun x hx => hw x (by simp [hx])) h.2]

theorem metaEntries_eq_iff {m m' : Meta} (h : MetaOK m) (h' : MetaOK m') : metaEntries m = metaEntries m' ↔ m = m' := by
  constructor
  · intro he
    cases m with
    | none =>
      cases m' with
      | none => rfl
      | some w => simp [metaEntries] at he
    | some v =>
      cases m' with
      | none => simp [metaEntries] at he
      | some w =>
        simp only [metaEntries, List.cons.injEq, Prod.mk.injEq, true_and, and_true] at he
        rw [metaVal_inj v w (h v rfl) (h' w rfl) he]
  · intro he; rw [he]

/-- through the first element satisfying `d` -/
def cutBy {α : Type} (d : α → Bool) : List α → List α
  | [] => []
  | x :: xs => if d x then [x] else x :: cutBy d xs

theorem cutDel_eq (l : List RecHeader) : cutDel l = cutBy RecHeader.isDeleted l := by
  induction l with
  | nil => rfl
  | cons x xs ih => simp only [cutDel, cutBy, ih]

theorem cutHdrs_eq (l : List Rec) : cutHdrs l = cutBy Rec.del l := by
  induction l with
  | nil => rfl
  | cons x xs ih => simp only [cutHdrs, cutBy, ih]

theorem cutEntries_eq (l : List CEntry) : cutEntries l = cutBy (fun e => e.hdr.isDeleted) l := by
  induction l with
  | nil => rfl
  | cons x xs ih => simp only [cutEntries, cutBy, ih]

theorem cutBy_map {α β : Type} (g : α → β) (d : β → Bool) : ∀ (l : List α),
    cutBy d (l.map g) = (cutBy (fun a => d (g a)) l).map g
  | [] => rfl
  | x :: xs => by
    simp only [List.map_cons, cutBy]
    split
    · rfl
    · rw [List.map_cons, cutBy_map g d xs]

theorem cutBy_sublist {α : Type} (d : α → Bool) : ∀ (l : List α), (cutBy d l).Sublist l
  | [] => List.Sublist.slnil
  | x :: xs => by
    simp only [cutBy]
    split
    · exact (List.nil_sublist xs).cons_cons x
    · exact (cutBy_sublist d xs).cons_cons x

theorem mem_of_mem_cutBy {α : Type} {d : α → Bool} {l : List α} {x : α} (h : x ∈ cutBy d l) : x ∈ l :=
  (cutBy_sublist d l).subset h

theorem cutBy_split {α : Type} (d : α → Bool) : ∀ (l : List α), ∃ (A : List α) (o : Option α),
    cutBy d l = A ++ o.toList ∧ (∀ a ∈ A, a ∈ l ∧ d a = false) ∧ ∀ q, o = some q → d q = true
  | [] => ⟨[], none, rfl, by simp, by simp⟩
  | x :: xs => by
    cases hx : d x with
    | true => exact ⟨[], some x, by simp [cutBy, hx], by simp, by simp [hx]⟩
    | false =>
      obtain ⟨A, o, h1, h2, h3⟩ := cutBy_split d xs
      refine ⟨x :: A, o, by simp [cutBy, hx, h1], ?_, h3⟩
      intro a ha
      rcases List.mem_cons.mp ha with rfl | ha
      · exact ⟨by simp, hx⟩
      · exact ⟨List.mem_cons_of_mem _ (h2 a ha).1, (h2 a ha).2⟩

/-- the cut, newest-first vector of key `k` as (record, offset) pairs -/
def ocut (klen : Nat) (recs : List Rec) (k : Key) : List (Rec × Nat) :=
  cutBy (fun p => p.1.del) (ovecOf klen recs k).reverse

theorem mem_ocut {klen : Nat} {recs : List Rec} {k : Key} {p : Rec × Nat} (hp : p ∈ ocut klen recs k) :
    p ∈ withOff klen blobHeaderSize recs ∧ p.1.key = k :=
  mem_ovecOf (List.mem_reverse.mp (mem_of_mem_cutBy hp))

/-- **C09** for `find_by_key`: the index file of a blob answers with the vector of the key, reversed -/
theorem BlobCore.findByKey_disk {cfg : Cfg} {b : CBlob} (hcfg : cfg.OK) (hb : BlobCore cfg b)
    {f : IndexFile RecHeader} {mb : List Nat} {off : Nat} (hi : b.index = .disk f mb off) (k : Key) :
    f.findByKey k = some (memAll (indexOf (hdrsOf cfg b.ghost)) k) := by
  obtain ⟨hne, rfl⟩ := hb.disk f mb off hi
  exact (build_read (Params.real cfg.klen) (BPTree.valid_real cfg.klen hcfg.klen) mb.length
    (indexOf (hdrsOf cfg b.ghost)) (indexOf_WF _)
    (by rw [Ne, indexOf_eq_nil_iff, hdrsOf_eq_nil_iff]; exact hne) k).2

theorem BlobCore.index_getAllMarked {cfg : Cfg} {b : CBlob} (hcfg : cfg.OK) (hb : BlobCore cfg b) (k : Key) :
    b.index.getAllMarked k = some (cutDel (hvecOf (hdrsOf cfg b.ghost) k).reverse) := by
  have hmem : (memAll (indexOf (hdrsOf cfg b.ghost)) k).getD [] = (hvecOf (hdrsOf cfg b.ghost) k).reverse := by
    rw [← indexOf_lookup]
    unfold memAll
    cases (indexOf (hdrsOf cfg b.ghost)).lookup k <;> rfl
  rw [← hmem]
  cases hi : b.index with
  | mem m =>
    rw [hb.mem m hi]
    rfl
  | disk f mb off => simp only [CIndex.getAllMarked, hb.findByKey_disk hcfg hi k, Option.map_some]

theorem BlobCore.getAllMarked_ocut {cfg : Cfg} {b : CBlob} (hcfg : cfg.OK) (hb : BlobCore cfg b) (k : Key) :
    b.index.getAllMarked k = some ((ocut cfg.klen b.ghost k).map (fun p => hdrOf cfg.klen p.1 p.2)) := by
  rw [hb.index_getAllMarked hcfg k]
  unfold hdrsOf
  rw [← ovecOf_hdr cfg.klen b.ghost k hb.key, ← List.map_reverse, cutDel_eq, cutBy_map]
  unfold ocut
  have : (fun a : Rec × Nat => (hdrOf cfg.klen a.1 a.2).isDeleted) = fun p => p.1.del := by
    funext p; exact hdrOf_isDeleted _ _ _
  rw [this]

theorem getAllCut_ocut (klen : Nat) (b : CBlob) (k : Key) :
    b.abs.getAllCut k = (ocut klen b.ghost k).map (·.1) := by
  unfold Blob.getAllCut allCutOfVec Blob.vec ocut
  show cutHdrs (vecOf b.ghost k).reverse = _
  rw [cutHdrs_eq, ← ovecOf_fst klen b.ghost k, ← List.map_reverse, cutBy_map]

theorem loadMeta_of_entryLoad {file : List UInt8} {h : RecHeader} {mt : Meta} {d : List UInt8}
    (hl : entryLoad file h = .ok (serMeta mt, d)) (hlen : file.length < 2 ^ 64) :
    loadMeta file h = .ok (metaEntries mt) := by
  obtain ⟨h1, h2, _⟩ := entryLoad_ok hl
  have hr : readExactAt file h.metaSize h.metaOffset = some (serMeta mt) := readExactAt_some_iff.mpr ⟨h1, h2⟩
  have hm : (serMeta mt).length < 2 ^ 64 := by
    have : (serMeta mt).length ≤ file.length := by
      rw [h1, List.length_take, List.length_drop]; omega
    omega
  have hd := deserMeta_serMeta mt hm
  unfold loadMeta
  rw [hr]
  simp only [hd]

/-- the answer of `get_entry_with_meta` from the first match above the local marker and the marker -/
def answerOf {α β : Type} (ts : β → Nat) (hit : Option α) (marker : Option β) : ReadResult α :=
  match hit with
  | some p => .found p
  | none =>
    match marker with
    | some q => .deleted (ts q)
    | none => .notFound

/-- `Blob::get_entry_with_meta` (L2) on a cut list given as its unmarked records and its marker -/
theorem getWithMeta_append {b : Blob} {k : Key} (m : Meta) (A : List Rec) (o : Option Rec)
    (hcut : b.getAllCut k = A ++ o.toList) (hA : ∀ a ∈ A, a.del = false) (ho : ∀ q, o = some q → q.del = true) :
    b.getWithMeta k m = answerOf Rec.ts (A.find? (fun r => r.mt == m)) o := by
  unfold Blob.getWithMeta answerOf
  rw [hcut]
  cases o with
  | some q =>
    simp [ho q rfl]
    cases A.find? (fun r => r.mt == m) <;> rfl
  | none =>
    rw [Option.toList_none, List.append_nil]
    cases hl : A.getLast? with
    | none =>
      simp [hl]
      cases A.find? (fun r => r.mt == m) <;> rfl
    | some y =>
      simp [hl, hA y (List.mem_of_getLast? hl)]
      cases A.find? (fun r => r.mt == m) <;> rfl

theorem getEntryWithMeta_append {b : CBlob} {k : Key} (m : Meta) (A : List RecHeader) (o : Option RecHeader)
    (hcut : b.index.getAllMarked k = some (A ++ o.toList)) (hA : ∀ a ∈ A, a.isDeleted = false)
    (ho : ∀ q, o = some q → q.isDeleted = true) {hit : Option CEntry}
    (hfe : CBlob.filterEntries m (b.toEntries A) = .ok hit) :
    b.getEntryWithMeta k m = .ok (answerOf RecHeader.timestamp hit o) := by
  unfold CBlob.getEntryWithMeta answerOf
  rw [hcut]
  cases o with
  | some q =>
    simp [ho q rfl, Option.filter, hfe]
    cases hit <;> rfl
  | none =>
    rw [Option.toList_none, List.append_nil]
    cases hl : A.getLast? with
    | none => simp [hl, hfe]; cases hit <;> rfl
    | some y => simp [hl, Option.filter, hA y (List.mem_of_getLast? hl), hfe]; cases hit <;> rfl

theorem filterEntries_map (m : Meta) (file : List UInt8) (hd : Rec × Nat → RecHeader) :
    ∀ (X : List (Rec × Nat)), (∀ p ∈ X, loadMeta file (hd p) = .ok (metaEntries p.1.mt)) →
      (∀ p ∈ X, MetaOK p.1.mt) → MetaOK m →
      CBlob.filterEntries m (X.map (fun p => (⟨hd p, file⟩ : CEntry)))
        = .ok ((X.find? (fun p => p.1.mt == m)).map (fun p => (⟨hd p, file⟩ : CEntry)))
  | [], _, _, _ => rfl
  | p :: X, hload, hok, hm => by
    simp only [List.map_cons, CBlob.filterEntries, hload p (by simp), List.find?_cons]
    by_cases he : p.1.mt = m
    · have : metaEntries p.1.mt = metaEntries m := by rw [he]
      simp [he]
    · have : ¬ metaEntries p.1.mt = metaEntries m := fun h =>
        he ((metaEntries_eq_iff (hok p (by simp)) hm).mp h)
      have hb : (p.1.mt == m) = false := by simpa using he
      rw [if_neg this, hb]
      exact filterEntries_map m file hd X (fun q hq => hload q (by simp [hq])) (fun q hq => hok q (by simp [hq])) hm

/-- **`Blob::get_entry_with_meta`** represents the L2 answer: C09 (`find_by_key`), C05 (`load_meta` per
    candidate, `load` of the match) -/
theorem BlobCore.getEntryWithMeta_rr {cfg : Cfg} {b : CBlob} (hcfg : cfg.OK) (hb : BlobCore cfg b)
    (hsz : b.file.length < 2 ^ 64) (hmeta : ∀ r ∈ b.ghost, MetaOK r.mt) (k : Key) (m : Meta) (hm : MetaOK m) :
    ∃ x, b.getEntryWithMeta k m = .ok x ∧ RR (b.abs.getWithMeta k m) x := by
  have hlen : (blobBytes cfg.klen (full b.ghost)).length < 2 ^ 64 := by rw [← hb.file]; exact hsz
  let hd : Rec × Nat → RecHeader := fun p => hdrOf cfg.klen p.1 p.2
  -- the cut vector: unmarked records `A`, then the local marker `o`
  obtain ⟨A, o, hX, hA, ho⟩ := cutBy_split (fun p : Rec × Nat => p.1.del) (ovecOf cfg.klen b.ghost k).reverse
  have hmem : ∀ p ∈ A, p ∈ withOff cfg.klen blobHeaderSize b.ghost :=
    fun p hp => (mem_ovecOf (List.mem_reverse.mp (hA p hp).1)).1
  have hmap : ∀ {β : Type} (g : Rec × Nat → β), (A ++ o.toList).map g = A.map g ++ (o.map g).toList := by
    intro β g; cases o <;> simp
  have hL2 := getWithMeta_append (b := b.abs) (k := k) m (A.map (·.1)) (o.map (·.1))
    (by rw [getAllCut_ocut cfg.klen, ocut, hX, hmap])
    (fun a ha => by obtain ⟨p, hp, rfl⟩ := List.mem_map.mp ha; exact (hA p hp).2)
    (fun q hq => by obtain ⟨p, rfl, rfl⟩ := Option.map_eq_some_iff.mp hq; exact ho p rfl)
  have hfe := filterEntries_map m b.file hd A
    (fun p hp => by rw [hb.file]; exact loadMeta_of_entryLoad (load_of_mem cfg.klen b.ghost hlen p (hmem p hp)) hlen)
    (fun p hp => hmeta p.1 (mem_withOff_fst (hmem p hp))) hm
  have hC := getEntryWithMeta_append (b := b) (k := k) m (A.map hd) (o.map hd)
    (by rw [hb.getAllMarked_ocut hcfg k, ocut, hX, hmap])
    (fun a ha => by obtain ⟨p, hp, rfl⟩ := List.mem_map.mp ha; exact (hdrOf_isDeleted _ _ _).trans (hA p hp).2)
    (fun q hq => by
      obtain ⟨p, rfl, rfl⟩ := Option.map_eq_some_iff.mp hq; exact (hdrOf_isDeleted _ _ _).trans (ho p rfl))
    (by rw [CBlob.toEntries, List.map_map]; exact hfe)
  refine ⟨_, hC, ?_⟩
  rw [hL2, List.find?_map,
    show ((fun r : Rec => r.mt == m) ∘ fun x : Rec × Nat => x.1) = fun p => p.1.mt == m from rfl]
  cases hf : A.find? (fun p => p.1.mt == m) with
  | none =>
    cases o with
    | none => exact trivial
    | some q => exact (hdrOf_timestamp _ _ _).symm
  | some p =>
    have hp := List.mem_of_find?_eq_some hf
    have := load_of_mem cfg.klen b.ghost hlen p (hmem p hp)
    rw [(hA p hp).2, ← hb.file] at this
    exact (⟨hdrOf_timestamp _ _ _, (hA p hp).2, this⟩ : Serves ⟨hd p, b.file⟩ p.1)

/-- the per-blob look-up of `get_latest_entry(key, meta)` represents the L2 answer; when a meta is given, it and the
    stored ones have to be byte strings (`filter_entries` compares bytes) -/
theorem BlobCore.entryM_rr {cfg : Cfg} {b : CBlob} (hcfg : cfg.OK) (hb : BlobCore cfg b) (hsz : b.file.length < 2 ^ 64)
    (k : Key) (m : Option Meta) (hm : ∀ x, m = some x → MetaOK x ∧ ∀ r ∈ b.ghost, MetaOK r.mt) :
    ∃ x, (match m with
          | some m => b.getEntryWithMeta k m
          | none => b.indexLatest k) = .ok x ∧ RR (b.abs.getLatestEntry k m) x := by
  cases m with
  | none => exact hb.indexLatest_rr hcfg hsz k
  | some m => exact hb.getEntryWithMeta_rr hcfg hsz (hm m rfl).2 k m (hm m rfl).1

theorem deleteM_none (cfg : Cfg) (b : CBlob) (k : Key) (ts : Nat) (oip : Bool) :
    b.deleteM cfg k ts none oip = b.delete cfg k ts oip := rfl

/-- the liveness test `Blob::delete` performs through the concrete index is the one of the specification -/
theorem deleteM_live {cfg : Cfg} {b : CBlob} (hcfg : cfg.OK) (hb : BlobInv cfg b) (k : Key) (ts : Nat)
    (m : Option Meta) :
    (b.deleteM cfg k ts m true).2 = Spec.liveIn b.id b.ghost k := by
  obtain ⟨x, hx, hrr⟩ := hb.indexLatest_rr hcfg k
  have h1 : (b.deleteM cfg k ts m true).2 = x.isFound := by
    unfold CBlob.deleteM
    simp only [hx, Bool.not_true, Bool.false_or]
    cases x.isFound <;> rfl
  rw [h1, hrr.isFound]
  exact (Blob.liveIn_eq b.abs k).symm

end Pearl.E2E
