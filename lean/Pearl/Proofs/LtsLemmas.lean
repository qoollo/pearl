import Pearl.Model.Lts
import Pearl.Proofs.Run
import Pearl.Proofs.ListLemmas
/-
Lemmas for the first half of C08.  `Pearl.Lts`: schedules and reachability, the steps read as a relation (`Move`,
`step_iff`), the invariant `Inv`, progress, the termination measure, and the deadlock witness of `sendUnderLock`.
`Pearl.Append`: the ranges of successive `fetch_add`s (`reserveAll_mem`, `_sorted`, `_length`, `_lens`) and, for the
interleaved writers, the invariants `AInv` (ranges, file contents) and `AExcl` (the upgradable lock).
-/
namespace Pearl
namespace Lts

theorem isRun_runSched (proto : Proto) (cap : Nat) :
    IsRun (fun s l => fire proto cap l s) (fun s ls => runSched proto cap ls s) :=
  ⟨fun _ => rfl, fun s l ls => by show runSched proto cap (l :: ls) s = _; rw [runSched]; cases fire proto cap l s <;> rfl⟩

theorem runSched_append (proto : Proto) (cap : Nat) (a b : List Label) (s : LState) :
    runSched proto cap (a ++ b) s = (runSched proto cap a s).bind (runSched proto cap b) :=
  (isRun_runSched proto cap).append s a b

theorem runSched_reach (proto : Proto) (cap : Nat) (sched : List Label) (s0 s s' : LState)
    (h0 : Reach proto cap s0 s) (h : runSched proto cap sched s = some s') : Reach proto cap s0 s' :=
  (isRun_runSched proto cap).reach (fun _ l _ hr hl => .step hr ⟨l, hl⟩) h0 h

theorem reach_runSched (proto : Proto) (cap : Nat) (s0 s : LState) (h : Reach proto cap s0 s) :
    ∃ sched, runSched proto cap sched s0 = some s := by
  induction h with
  | refl => exact ⟨[], rfl⟩
  | step _ hs ih =>
    obtain ⟨sched, hr⟩ := ih
    obtain ⟨l, hl⟩ := hs
    exact ⟨sched ++ [l], by simp [runSched_append, hr, runSched, hl]⟩

theorem reach_trans {proto : Proto} {cap : Nat} {s0 s1 s2 : LState}
    (h1 : Reach proto cap s0 s1) (h2 : Reach proto cap s1 s2) : Reach proto cap s0 s2 := by
  induction h2 with
  | refl => exact h1
  | step _ hs ih => exact .step ih hs

def cnt (pc : CPc) (s : LState) : Nat := s.clients.count pc

/-- messages the worker has taken out of the channel and not finished with -/
def busy : WPc → Nat
  | .recv => 0
  | _ => 1

def writerOf : WPc → Writer
  | .recv => .idle
  | .waitWrite => .waiting
  | .switching => .holding

/-- holds in every state reachable from `init n` or `initInside n`, under either protocol -/
structure Inv (n : Nat) (s : LState) : Prop where
  len : s.clients.length = n
  /-- the shared holders are the clients between `acquire` and `release` -/
  readers : s.readers = cnt .append s + cnt .send s + cnt .release s + cnt .relSend s
  /-- every message in the channel or in the worker's hands was sent by a client that is past `send` -/
  chan : s.chan + busy s.wpc ≤ cnt .release s + cnt .done s
  writer : s.writer = writerOf s.wpc
  /-- readers and the writer exclude each other -/
  excl : s.wpc = .switching → s.readers = 0

/-- what a client still has to do, in units that pay for the worker's handling of its message -/
def CPc.weight : CPc → Nat
  | .start => 16
  | .append => 12
  | .send => 8
  | .relSend => 8
  | .release => 4
  | .sendFree => 4
  | .done => 0

def WPc.weight : WPc → Nat
  | .recv => 0
  | .waitWrite => 2
  | .switching => 1

/-- every step makes this smaller: a client step pays 4 (a `send` puts 3 back for the message), taking a
    message out pays 3 and may put 2 back for the lock, grant and switch pay 1 each -/
def measure (s : LState) : Nat := (s.clients.map CPc.weight).sum + 3 * s.chan + s.wpc.weight

variable {proto : Proto} {cap n : Nat} {s s' : LState} {lab : Nat → Label} {a c : CPc} {rd ch i : Nat}

/-- `fire` on the client labels, read as a relation: a client at `a` may take the step `lab` to `c`, which leaves
    `rd` shared holders and `ch` messages in the channel -/
inductive Move (proto : Proto) (cap : Nat) (s : LState) : (Nat → Label) → CPc → CPc → Nat → Nat → Prop where
  | acquire : s.writer = .idle → Move proto cap s .cAcquire .start .append (s.readers + 1) s.chan
  | append : Move proto cap s .cAppend .append (appendTarget proto s.full) s.readers s.chan
  | send : s.chan < cap → Move proto cap s .cSend .send .release s.readers (s.chan + 1)
  | sendFree : s.chan < cap → Move proto cap s .cSend .sendFree .done s.readers (s.chan + 1)
  | release : Move proto cap s .cRelease .release .done (s.readers - 1) s.chan
  | relSend : Move proto cap s .cRelease .relSend .sendFree (s.readers - 1) s.chan

theorem Move.fire_eq (hm : Move proto cap s lab a c rd ch) (hci : s.clients[i]? = some a) :
    fire proto cap (lab i) s = some { s with clients := s.clients.set i c, readers := rd, chan := ch } := by
  cases hm <;> simp [fire, *]

theorem step_iff : Step proto cap s s' ↔
    (∃ lab i a c rd ch, s.clients[i]? = some a ∧ Move proto cap s lab a c rd ch ∧
      s' = { s with clients := s.clients.set i c, readers := rd, chan := ch }) ∨
    (s.wpc = .recv ∧ 0 < s.chan ∧
      s' = if s.full then { s with chan := s.chan - 1, wpc := .waitWrite, writer := .waiting }
           else { s with chan := s.chan - 1 }) ∨
    (s.wpc = .waitWrite ∧ s.readers = 0 ∧ s' = { s with wpc := .switching, writer := .holding }) ∨
    (s.wpc = .switching ∧ s' = { s with wpc := .recv, writer := .idle, full := false }) := by
  constructor
  · rintro ⟨l, h⟩
    cases l with
    | cAcquire i =>
      simp only [fire] at h
      split at h <;> cases h
      rename_i hg
      exact .inl ⟨_, i, _, _, _, _, hg.1, .acquire hg.2, rfl⟩
    | cAppend i =>
      simp only [fire] at h
      split at h <;> cases h
      rename_i hg
      exact .inl ⟨_, i, _, _, _, _, hg, .append, rfl⟩
    | cSend i =>
      simp only [fire] at h
      split at h
      · rename_i hg
        cases h
        exact .inl ⟨_, i, _, _, _, _, hg.1, .send hg.2, rfl⟩
      · split at h <;> cases h
        rename_i hg
        exact .inl ⟨_, i, _, _, _, _, hg.1, .sendFree hg.2, rfl⟩
    | cRelease i =>
      simp only [fire] at h
      split at h
      · rename_i hg
        cases h
        exact .inl ⟨_, i, _, _, _, _, hg, .release, rfl⟩
      · split at h <;> cases h
        rename_i hg
        exact .inl ⟨_, i, _, _, _, _, hg, .relSend, rfl⟩
    | wRecv =>
      simp only [fire] at h
      split at h
      · rename_i hg
        refine .inr (.inl ⟨hg.1, hg.2, ?_⟩)
        split at h <;> cases h
        · exact (if_pos ‹_›).symm
        · exact (if_neg ‹_›).symm
      · cases h
    | wGrant =>
      simp only [fire] at h
      split at h <;> cases h
      rename_i hg
      exact .inr (.inr (.inl ⟨hg.1, hg.2, rfl⟩))
    | wSwitch =>
      simp only [fire] at h
      split at h <;> cases h
      rename_i hg
      exact .inr (.inr (.inr ⟨hg, rfl⟩))
  · rintro (⟨lab, i, a, c, rd, ch, hci, hm, rfl⟩ | ⟨h1, h2, rfl⟩ | ⟨h1, h2, rfl⟩ | ⟨h1, rfl⟩)
    · exact ⟨lab i, hm.fire_eq hci⟩
    · exact ⟨.wRecv, by simp only [fire, h1, h2, and_self, if_true]; split <;> rfl⟩
    · exact ⟨.wGrant, by simp [fire, h1, h2]⟩
    · exact ⟨.wSwitch, by simp [fire, h1]⟩

theorem step_of_mem (ha : a ∈ s.clients) (hm : Move proto cap s lab a c rd ch) : ∃ s', Step proto cap s s' :=
  let ⟨i, hci⟩ := List.mem_iff_getElem?.1 ha
  ⟨_, lab i, hm.fire_eq hci⟩

/-- 1 if `a` is `b`, else 0: what a client at `a` adds to the number of clients at `b` -/
def CPc.ind (a b : CPc) : Nat := if a = b then 1 else 0

/-- what a client adds to the right side of `Inv.readers`: 1 where it holds the lock shared -/
def CPc.locks : CPc → Nat
  | .append | .send | .release | .relSend => 1
  | _ => 0

/-- what a client adds to the right side of `Inv.chan` -/
def CPc.past : CPc → Nat
  | .release | .done => 1
  | _ => 0

theorem CPc.locks_eq (a : CPc) : a.locks = a.ind .append + a.ind .send + a.ind .release + a.ind .relSend := by
  cases a <;> rfl

theorem CPc.past_eq (a : CPc) : a.past = a.ind .release + a.ind .done := by cases a <;> rfl

theorem CPc.ind_sum (a : CPc) : a.ind .start + a.ind .append + a.ind .send + a.ind .release + a.ind .relSend +
    a.ind .sendFree + a.ind .done = 1 := by cases a <;> rfl

theorem count_cons_ind (a b : CPc) (l : List CPc) : (a :: l).count b = l.count b + a.ind b := by
  simp [List.count_cons, CPc.ind]

theorem length_eq_counts (l : List CPc) : l.length = l.count .start + l.count .append + l.count .send +
    l.count .release + l.count .relSend + l.count .sendFree + l.count .done := by
  induction l with
  | nil => rfl
  | cons x xs ih =>
    have := x.ind_sum
    simp only [List.length_cons, count_cons_ind]
    omega

theorem sum_locks (l : List CPc) :
    (l.map CPc.locks).sum = l.count .append + l.count .send + l.count .release + l.count .relSend := by
  induction l with
  | nil => rfl
  | cons x xs ih =>
    simp only [List.map_cons, List.sum_cons, count_cons_ind, ih, x.locks_eq]
    omega

theorem sum_past (l : List CPc) : (l.map CPc.past).sum = l.count .release + l.count .done := by
  induction l with
  | nil => rfl
  | cons x xs ih =>
    simp only [List.map_cons, List.sum_cons, count_cons_ind, ih, x.past_eq]
    omega

/-- how the moves change the quantities of the invariant: the reader count follows the lock status of the client,
    a new message is paid for by its sender passing `send`, and nobody joins the readers unless the writer side is
    idle -/
theorem Move.counts (hm : Move proto cap s lab a c rd ch) :
    (a.locks ≤ s.readers → rd + a.locks = s.readers + c.locks) ∧ ch + a.past ≤ s.chan + c.past ∧
      (s.writer ≠ .idle → rd ≤ s.readers) := by
  cases hm with
  | acquire hw => exact ⟨fun _ => rfl, Nat.le_refl _, fun h => absurd hw h⟩
  | append =>
    refine ⟨fun _ => ?_, Nat.le_add_right _ _, fun _ => Nat.le_refl _⟩
    cases proto <;> cases s.full <;> rfl
  | send _ => exact ⟨fun _ => rfl, Nat.le_refl _, fun _ => Nat.le_refl _⟩
  | sendFree _ => exact ⟨fun _ => rfl, Nat.le_refl _, fun _ => Nat.le_refl _⟩
  | release => exact ⟨fun h => Nat.sub_add_cancel h, Nat.le_refl _, fun _ => Nat.sub_le _ _⟩
  | relSend => exact ⟨fun h => Nat.sub_add_cancel h, Nat.le_refl _, fun _ => Nat.sub_le _ _⟩

theorem Inv.move (hi : Inv n s) (hci : s.clients[i]? = some a) (hm : Move proto cap s lab a c rd ch) :
    Inv n { s with clients := s.clients.set i c, readers := rd, chan := ch } := by
  obtain ⟨h1, h2, h3⟩ := hm.counts
  have hr : s.readers = (s.clients.map CPc.locks).sum := (sum_locks _ ▸ hi.readers :)
  have hc : s.chan + busy s.wpc ≤ (s.clients.map CPc.past).sum := (sum_past _ ▸ hi.chan :)
  have el1 := le_sum_map_of_getElem? CPc.locks hci
  have el2 := sum_map_set CPc.locks c hci
  have ep := sum_map_set CPc.past c hci
  refine ⟨by simpa using hi.len, ?_, ?_, hi.writer, fun hw => ?_⟩
  · simp only [cnt, ← sum_locks]; omega
  · simp only [cnt, ← sum_past]; omega
  · have := h3 (by rw [hi.writer, hw]; exact fun h => nomatch h)
    exact Nat.le_zero.1 (hi.excl hw ▸ this)

theorem inv_init (n : Nat) : Inv n (init n) := by
  constructor <;> simp [init, cnt, busy, writerOf, List.count_replicate]

theorem inv_initInside (n : Nat) : Inv n (initInside n) := by
  constructor <;> simp [initInside, cnt, busy, writerOf, List.count_replicate]

theorem inv_step (hi : Inv n s) (hs : Step proto cap s s') :
    Inv n s' := by
  have hc := hi.chan
  rcases step_iff.1 hs with ⟨lab, i, a, c, rd, ch, hci, hm, rfl⟩ | ⟨hw, hpos, rfl⟩ | ⟨hw, hz, rfl⟩ | ⟨hw, rfl⟩
  · exact hi.move hci hm
  · simp only [hw, busy] at hc
    split
    · exact ⟨hi.len, hi.readers, by simp only [busy, cnt] at hc ⊢; omega, rfl, fun h => nomatch h⟩
    · exact ⟨hi.len, hi.readers, by simp only [hw, busy, cnt] at hc ⊢; omega, hi.writer, hi.excl⟩
  · exact ⟨hi.len, hi.readers, by rw [hw] at hc; exact hc, rfl, fun _ => hz⟩
  · exact ⟨hi.len, hi.readers, by simp only [hw, busy, cnt] at hc ⊢; omega, rfl, fun h => nomatch h⟩

theorem inv_reach {s0 : LState} (h0 : Inv n s0) (h : Reach proto cap s0 s) :
    Inv n s := by
  induction h with
  | refl => exact h0
  | step _ hs ih => exact inv_step ih hs

/-- a state that is not final has a successor, unless the worker waits for the lock while a client that holds it
    shared is blocked in `send` on a full channel.  (Whoever else holds the lock can move — `append`, `release`,
    `relSend` are never blocked —, so the readers drain and the worker gets the lock; the worker in `recv` empties
    the channel for the senders.) -/
theorem progress_of (hi : Inv n s) (hcap : 0 < cap) (hnf : ¬ final s)
    (hsend : CPc.send ∈ s.clients → s.wpc = .waitWrite → s.chan < cap) : ∃ s', Step proto cap s s' := by
  cases hwp : s.wpc with
  | switching => exact ⟨_, step_iff.2 (.inr (.inr (.inr ⟨hwp, rfl⟩)))⟩
  | waitWrite =>
    by_cases hz : s.readers = 0
    · exact ⟨_, step_iff.2 (.inr (.inr (.inl ⟨hwp, hz, rfl⟩)))⟩
    · have hr := hi.readers
      simp only [cnt] at hr
      have : 0 < s.clients.count .append ∨ 0 < s.clients.count .send ∨ 0 < s.clients.count .release ∨
          0 < s.clients.count .relSend := by omega
      rcases this with h | h | h | h <;> have hm := List.count_pos_iff.1 h
      · exact step_of_mem hm .append
      · exact step_of_mem hm (.send (hsend hm hwp))
      · exact step_of_mem hm .release
      · exact step_of_mem hm .relSend
  | recv =>
    by_cases hpos : 0 < s.chan
    · exact ⟨_, step_iff.2 (.inr (.inl ⟨hwp, hpos, rfl⟩))⟩
    · have hlt : s.chan < cap := by omega
      have hw : s.writer = .idle := by rw [hi.writer, hwp]; rfl
      -- with an idle lock and an empty channel every client that is not done can move
      apply Classical.byContradiction
      intro hno
      refine hnf ⟨fun a ha => ?_, by omega, hwp⟩
      cases a with
      | start => exact absurd (step_of_mem ha (.acquire hw)) hno
      | append => exact absurd (step_of_mem ha .append) hno
      | send => exact absurd (step_of_mem ha (.send hlt)) hno
      | release => exact absurd (step_of_mem ha .release) hno
      | relSend => exact absurd (step_of_mem ha .relSend) hno
      | sendFree => exact absurd (step_of_mem ha (.sendFree hlt)) hno
      | done => rfl

/-- progress, bounded: with at most `cap + 1` clients a state that is not final has a successor
    (either protocol) -/
theorem progress {proto : Proto} {cap n : Nat} {s : LState} (hi : Inv n s)
    (hcap : 0 < cap) (hle : n ≤ cap + 1) (hnf : ¬ final s) : ∃ s', Step proto cap s s' := by
  refine progress_of hi hcap hnf fun hs hwp => ?_
  -- the blocked sender is not among the clients past `send`, who account for the messages
  have hc := hi.chan
  have hl := length_eq_counts s.clients
  have := List.count_pos_iff.2 hs
  simp only [cnt, hwp, busy, hi.len] at hc hl
  omega

theorem Move.ne_send (hm : Move .sendAfterRelease cap s lab a c rd ch) : c ≠ .send := by
  cases hm with
  | append => cases s.full <;> exact fun h => nomatch h
  | _ => exact fun h => nomatch h

/-- a step of `sendAfterRelease` puts no client at `send` (= in `sender.send` with the lock held) -/
theorem noSend_step (hn : CPc.send ∉ s.clients)
    (hs : Step .sendAfterRelease cap s s') : CPc.send ∉ s'.clients := by
  rcases step_iff.1 hs with ⟨lab, i, a, c, rd, ch, hci, hm, rfl⟩ | ⟨-, -, rfl⟩ | ⟨-, -, rfl⟩ | ⟨-, rfl⟩
  · intro hmem
    rcases List.mem_or_eq_of_mem_set hmem with h | h
    · exact hn h
    · exact hm.ne_send h.symm
  · split <;> exact hn
  · exact hn
  · exact hn

theorem noSend_reach {s0 : LState} (h0 : CPc.send ∉ s0.clients)
    (h : Reach .sendAfterRelease cap s0 s) : CPc.send ∉ s.clients := by
  induction h with
  | refl => exact h0
  | step _ hs ih => exact noSend_step ih hs

theorem noSend_init (n : Nat) : CPc.send ∉ (init n).clients := by simp [init]
theorem noSend_initInside (n : Nat) : CPc.send ∉ (initInside n).clients := by simp [initInside]

theorem Move.weight_lt (hm : Move proto cap s lab a c rd ch) : c.weight + 3 * ch < a.weight + 3 * s.chan := by
  cases hm with
  | append => cases proto <;> cases s.full <;> exact Nat.add_lt_add_right (by decide) _
  | send _ | sendFree _ => simp only [CPc.weight]; omega
  | _ => exact Nat.add_lt_add_right (by decide) _

theorem measure_step (hs : Step proto cap s s') :
    measure s' < measure s := by
  rcases step_iff.1 hs with ⟨lab, i, a, c, rd, ch, hci, hm, rfl⟩ | ⟨hw, hpos, rfl⟩ | ⟨hw, hz, rfl⟩ | ⟨hw, rfl⟩
  · have := sum_map_set CPc.weight c hci
    have := hm.weight_lt
    simp only [measure]
    omega
  · split <;> simp only [measure, hw, WPc.weight] <;> omega
  · simp only [measure, hw, WPc.weight]; omega
  · simp only [measure, hw, WPc.weight]; omega

theorem runSched_length_le (sched : List Label) (s s' : LState)
    (h : runSched proto cap sched s = some s') : sched.length + measure s' ≤ measure s := by
  induction sched generalizing s with
  | nil => cases h; simp
  | cons l ls ih =>
    obtain ⟨s1, hf, h⟩ := (isRun_runSched proto cap).cons_some h
    have h1 := ih s1 h
    have h2 := measure_step (s := s) ⟨l, hf⟩
    simp only [List.length_cons]
    omega

theorem no_deadlock_from {s0 : LState} (h0 : Inv n s0) (hns : CPc.send ∉ s0.clients) (hcap : 0 < cap)
    (hr : Reach .sendAfterRelease cap s0 s) (hnf : ¬ final s) : ∃ s', Step .sendAfterRelease cap s s' :=
  progress_of (inv_reach h0 hr) hcap hnf fun hs => absurd hs (noSend_reach hns hr)

theorem finish_from {s0 : LState} (h0 : Inv n s0) (hns : CPc.send ∉ s0.clients) (hcap : 0 < cap)
    (hr : Reach .sendAfterRelease cap s0 s) :
    ∃ sched s', runSched .sendAfterRelease cap sched s = some s' ∧ final s' :=
  have ⟨ls, s', _, hrun, hf, _⟩ := (isRun_runSched .sendAfterRelease cap).finish (μ := measure)
    (P := Reach .sendAfterRelease cap s0) (D := final) (Q := fun _ => True) (K := fun _ _ => True)
    (fun _ => trivial) (fun _ _ => trivial)
    (fun _ ht hnf => have ⟨s1, l, hl⟩ := no_deadlock_from h0 hns hcap ht hnf
      ⟨l, s1, hl, measure_step ⟨l, hl⟩, .step ht ⟨l, hl⟩, trivial, trivial⟩) s hr
  ⟨ls, s', hrun, hf⟩

theorem getElem?_replicate_append_cons {α} (j : Nat) (x y : α) (t : List α) :
    (List.replicate j x ++ y :: t)[j]? = some y := by
  rw [List.getElem?_append_right (by simp)]
  simp

theorem set_replicate_append_cons {α} (j : Nat) (x y : α) (t : List α) :
    (List.replicate j x ++ y :: t).set j x = List.replicate (j + 1) x ++ t := by
  rw [List.set_append_right _ _ (by simp)]
  simp [List.replicate_succ']

/-- clients `j, …, j + k - 1` stand at `a` and take the step `lab` to `c` one after the other; `rd m` and `ch m` are
    the readers and the messages when the clients below `m` have moved -/
theorem run_block (wpc : WPc) (wr : Writer) (fl : Bool) (rd ch : Nat → Nat)
    (hm : ∀ m < n, ∀ cl, Move proto cap ⟨cl, ch m, wpc, rd m, wr, fl⟩ lab a c (rd (m + 1)) (ch (m + 1)))
    (rest : List CPc) (k : Nat) : ∀ j, j + k ≤ n →
    runSched proto cap ((List.range' j k).map lab)
        ⟨List.replicate j c ++ (List.replicate k a ++ rest), ch j, wpc, rd j, wr, fl⟩ =
      some ⟨List.replicate (j + k) c ++ rest, ch (j + k), wpc, rd (j + k), wr, fl⟩ := by
  induction k with
  | zero => intro j _; rfl
  | succ k ih =>
    intro j hj
    simp only [List.range'_succ, List.map_cons, runSched, List.replicate_succ, List.cons_append,
      (hm j (by omega) _).fire_eq (getElem?_replicate_append_cons ..), set_replicate_append_cons]
    rw [show j + (k + 1) = j + 1 + k by omega]
    exact ih (j + 1) (by omega)

theorem init_to_inside (proto : Proto) (cap n : Nat) :
    runSched proto cap ((List.range' 0 n).map .cAcquire) (init n) = some (initInside n) := by
  have := run_block (proto := proto) (cap := cap) .recv .idle true id (fun _ => 0)
    (fun m (_ : m < n) _ => .acquire rfl) [] n 0 (by omega)
  simpa [init, initInside] using this

theorem witnessSched_runs (cap : Nat) :
    runSched .sendUnderLock cap (witnessSched cap) (initInside (cap + 2)) = some (witnessState cap) := by
  -- everybody appends
  have h1 := run_block (proto := .sendUnderLock) (cap := cap) .recv .idle true (fun _ => cap + 2) (fun _ => 0)
    (fun m (_ : m < cap + 2) _ => .append) [] (cap + 2) 0 (by omega)
  -- `cap` clients fill the channel
  have h2 := run_block (proto := .sendUnderLock) .recv .idle true (fun _ => cap + 2) id
    (fun m (hm : m < cap) _ => .send hm) [.send, .send] cap 0 (by omega)
  simp only [List.replicate_zero, List.nil_append, List.append_nil, Nat.zero_add, id] at h1 h2
  unfold witnessSched initInside
  rw [runSched_append, runSched_append, h1, Option.bind_some,
    show List.replicate (cap + 2) CPc.send = List.replicate cap CPc.send ++ [.send, .send] by
      simp [List.replicate_succ'], h2, Option.bind_some]
  cases cap with
  | zero => rfl
  | succ c =>
    -- the worker takes a message and queues for the lock; one more client refills the channel
    have h3 : runSched .sendUnderLock (c + 1) [.wRecv, .cSend (c + 1)]
        ⟨List.replicate (c + 1) .release ++ [.send, .send], c + 1, .recv, c + 1 + 2, .idle, true⟩ =
        some ⟨List.replicate (c + 2) .release ++ [.send], c + 1, .waitWrite, c + 1 + 2, .waiting, true⟩ := by
      simp only [runSched, fire, Nat.zero_lt_succ, ↓reduceIte, Nat.add_sub_cancel,
        getElem?_replicate_append_cons, Nat.lt_add_one, and_self, set_replicate_append_cons]
    -- the `c + 2` clients that have sent leave
    have h4 := run_block (proto := .sendUnderLock) (cap := c + 1) .waitWrite .waiting true (fun m => c + 1 + 2 - m)
      (fun _ => c + 1) (fun m (_ : m < c + 2) _ => .release) [.send] (c + 2) 0 (by omega)
    simp only [List.replicate_zero, List.nil_append, Nat.zero_add, Nat.sub_zero] at h4
    rw [runSched_append, h3, Option.bind_some, h4, witnessState]
    congr 2
    omega

theorem no_step_of_blocked (hcl : ∀ a ∈ s.clients, a = .send ∨ a = .done) (hfull : cap ≤ s.chan)
    (hw : s.wpc = .recv ∧ s.chan = 0 ∨ s.wpc = .waitWrite ∧ s.readers ≠ 0) (s' : LState) :
    ¬ Step proto cap s s' := by
  rw [step_iff]
  rintro (⟨lab, i, a, c, rd, ch, hci, hm, -⟩ | ⟨h1, h2, -⟩ | ⟨h1, h2, -⟩ | ⟨h1, -⟩)
  · rcases hcl a (List.mem_of_getElem? hci) with rfl | rfl <;> cases hm
    omega
  · rcases hw with ⟨-, h⟩ | ⟨h, -⟩
    · omega
    · rw [h1] at h; cases h
  · rcases hw with ⟨h, -⟩ | ⟨-, h⟩
    · rw [h1] at h; cases h
    · exact h h2
  · rcases hw with ⟨h, -⟩ | ⟨h, -⟩ <;> rw [h1] at h <;> cases h

/-- the end of the witness schedule is a deadlock (whatever the protocol of the clients still to come:
    nobody is left at `append`) -/
theorem witnessState_stuck (proto : Proto) (cap : Nat) : Stuck proto cap (witnessState cap) := by
  cases cap with
  | zero =>
    exact ⟨by decide, no_step_of_blocked (s := witnessState 0) (by simp [witnessState]) (Nat.le_refl _) (.inl ⟨rfl, rfl⟩)⟩
  | succ c =>
    refine ⟨fun hf => (nomatch hf.1 .send (by simp [witnessState])),
      no_step_of_blocked (s := witnessState (c + 1)) ?_ (Nat.le_refl _) (.inr ⟨rfl, Nat.one_ne_zero⟩)⟩
    simp [witnessState]

end Lts

namespace Append

theorem reserveAll_mem (lens : List Nat) (size : Nat) (r : Range) (h : r ∈ reserveAll size lens) :
    size ≤ r.off ∧ r.stop ≤ size + lens.sum := by
  induction lens generalizing size with
  | nil => cases h
  | cons len lens ih =>
    simp only [reserveAll, fetchAdd, List.mem_cons] at h
    rcases h with rfl | h
    · simp only [Range.stop, List.sum_cons]; omega
    · have := ih (size + len) h
      simp only [List.sum_cons]; omega

theorem reserveAll_sorted (lens : List Nat) (size : Nat) :
    (reserveAll size lens).Pairwise (fun a b => a.stop ≤ b.off) := by
  induction lens generalizing size with
  | nil => exact .nil
  | cons len lens ih =>
    exact .cons (fun b hb => (reserveAll_mem lens (size + len) b hb).1) (ih (size + len))

theorem reserveAll_length (lens : List Nat) : ∀ size, (reserveAll size lens).length = lens.length := by
  induction lens with
  | nil => intro size; rfl
  | cons len lens ih => intro size; simp [reserveAll, ih]

theorem reserveAll_lens (lens : List Nat) : ∀ size, (reserveAll size lens).map (·.len) = lens := by
  induction lens with
  | nil => intro size; rfl
  | cons len lens ih => intro size; simp [reserveAll, ih, fetchAdd]

/-- the range writer `i` owns, if it has reserved one -/
def rng (ws : List APc) (i : Nat) : Option Range := (ws[i]?).bind APc.range?

theorem rng_set (ws : List APc) (k : Nat) (pc' : APc) (hk : k < ws.length) (i : Nat) :
    rng (ws.set k pc') i = if k = i then pc'.range? else rng ws i := by
  unfold rng
  rw [List.getElem?_set]
  by_cases h : k = i
  · subst h; simp [hk]
  · simp [h]

theorem rng_set_same {ws : List APc} {k : Nat} {pc pc' : APc} (h : ws[k]? = some pc)
    (hr : pc'.range? = pc.range?) : rng (ws.set k pc') = rng ws := by
  funext i
  rw [rng_set ws k pc' (List.getElem?_eq_some_iff.1 h).1 i]
  split
  · subst_vars; simp [rng, h, hr]
  · rfl

/-- a writer whose bytes are in the file -/
def APc.landed : APc → Option Range
  | .written r => some r
  | .done r => some r
  | _ => none

/-- holds in every reachable state, with or without the upgradable lock -/
structure AInv (s : AState) : Prop where
  /-- every reserved range lies below the current size -/
  bound : ∀ i r, rng s.ws i = some r → r.stop ≤ s.size
  /-- ranges of different writers share no byte -/
  disj : ∀ i j ri rj, i ≠ j → rng s.ws i = some ri → rng s.ws j = some rj → ri.Disjoint rj
  /-- a byte in the file belongs to the range of the writer that wrote it last -/
  own : ∀ o i, s.file o = some i → ∃ r, rng s.ws i = some r ∧ r.off ≤ o ∧ o < r.stop
  /-- once a writer's bytes are in the file nobody overwrites them -/
  intact : ∀ i pc r, s.ws[i]? = some pc → pc.landed = some r → ∀ o, r.off ≤ o → o < r.stop → s.file o = some i

theorem ainit_ws {size : Nat} {lens : List Nat} {i : Nat} {pc : APc} (h : (ainit size lens).ws[i]? = some pc) :
    ∃ len, pc = .idle len := by
  simp only [ainit, List.getElem?_map, Option.map_eq_some_iff] at h
  obtain ⟨len, -, rfl⟩ := h
  exact ⟨len, rfl⟩

theorem ainv_init (size : Nat) (lens : List Nat) : AInv (ainit size lens) := by
  have hr : ∀ i, rng (ainit size lens).ws i = none := by
    intro i
    unfold rng
    cases h : (ainit size lens).ws[i]? with
    | none => rfl
    | some pc => obtain ⟨len, rfl⟩ := ainit_ws h; rfl
  refine ⟨fun i r h => ?_, fun i j ri rj _ h => ?_, fun o i h => (nomatch h), fun i pc r h hl => ?_⟩
  · rw [hr] at h; cases h
  · rw [hr] at h; cases h
  · obtain ⟨len, rfl⟩ := ainit_ws h; cases hl

theorem landed_range {pc : APc} {r : Range} (h : pc.landed = some r) : pc.range? = some r := by
  cases pc <;> cases h <;> rfl

theorem AInv.intact_set {s : AState} (hi : AInv s) {k : Nat} {pc' : APc} {f' : Nat → Option Nat}
    (hk : ∀ r, pc'.landed = some r → ∀ o, r.off ≤ o → o < r.stop → f' o = some k)
    (hf : ∀ i o, k ≠ i → s.file o = some i → f' o = some i) (i : Nat) (pc : APc) (r : Range)
    (hpc : (s.ws.set k pc')[i]? = some pc) (hl : pc.landed = some r) (o : Nat) (h1 : r.off ≤ o) (h2 : o < r.stop) :
    f' o = some i := by
  rcases getElem?_set_cases hpc with ⟨rfl, rfl⟩ | ⟨hne, hpc⟩
  · exact hk r hl o h1 h2
  · exact hf i o hne.symm (hi.intact i pc r hpc hl o h1 h2)

theorem AInv.of_rng_eq {s : AState} (hi : AInv s) {lk : Bool} {ws' : List APc} {f' : Nat → Option Nat}
    (hrng : rng ws' = rng s.ws) (hown : ∀ o i, f' o = some i → ∃ r, rng s.ws i = some r ∧ r.off ≤ o ∧ o < r.stop)
    (hint : ∀ i pc r, ws'[i]? = some pc → pc.landed = some r → ∀ o, r.off ≤ o → o < r.stop → f' o = some i) :
    AInv { size := s.size, locked := lk, ws := ws', file := f' } :=
  ⟨by simpa only [hrng] using hi.bound, by simpa only [hrng] using hi.disj, by simpa only [hrng] using hown, hint⟩

theorem ainv_step {ul : Bool} {s s' : AState} (hi : AInv s) (hs : AStep ul s s') : AInv s' := by
  obtain ⟨l, h⟩ := hs
  cases l with
  | lock k =>
    simp only [afire] at h
    split at h
    · rename_i len hk
      split at h <;> cases h
      exact hi.of_rng_eq (rng_set_same hk rfl) hi.own
        (hi.intact_set (fun _ h => nomatch h) fun _ _ _ h => h)
    · cases h
  | reserve k =>
    simp only [afire] at h
    split at h
    · rename_i len hk
      cases h
      have hklt : k < s.ws.length := (List.getElem?_eq_some_iff.1 hk).1
      have hnone : rng s.ws k = none := by simp [rng, hk, APc.range?]
      -- the new range starts at the old size, above every range reserved before
      have hnew : ∀ i r, rng (s.ws.set k (.reserved ⟨s.size, len⟩)) i = some r →
          k = i ∧ r = ⟨s.size, len⟩ ∨ k ≠ i ∧ rng s.ws i = some r := by
        intro i r hr
        rw [rng_set s.ws k _ hklt i] at hr
        split at hr
        · exact .inl ⟨‹_›, (Option.some.inj hr).symm⟩
        · exact .inr ⟨‹_›, hr⟩
      refine ⟨fun i r hr => ?_, fun i j ri rj hij hri hrj => ?_, fun o i hf => ?_,
        hi.intact_set (fun _ h => nomatch h) fun _ _ _ h => h⟩
      · rcases hnew i r hr with ⟨-, rfl⟩ | ⟨-, hr⟩
        · exact Nat.le_refl _
        · exact Nat.le_trans (hi.bound i r hr) (Nat.le_add_right _ _)
      · rcases hnew i ri hri with ⟨rfl, rfl⟩ | ⟨hi', hri⟩ <;> rcases hnew j rj hrj with ⟨rfl, rfl⟩ | ⟨hj', hrj⟩
        · exact absurd rfl hij
        · exact .inr (hi.bound j rj hrj)
        · exact .inl (hi.bound i ri hri)
        · exact hi.disj i j ri rj hij hri hrj
      · obtain ⟨r, hr, h12⟩ := hi.own o i hf
        refine ⟨r, ?_, h12⟩
        rw [rng_set s.ws k _ hklt i, if_neg]
        · exact hr
        · rintro rfl; rw [hnone] at hr; cases hr
    · cases h
  | write k =>
    simp only [afire] at h
    split at h
    · rename_i rk hk
      cases h
      have hrk : rng s.ws k = some rk := by simp [rng, hk, APc.range?]
      refine hi.of_rng_eq (rng_set_same hk rfl) (fun o i hf => ?_) (hi.intact_set (fun r h o h1 h2 => ?_) fun i o hne hf => ?_)
      · simp only [paint] at hf
        split at hf
        · cases hf; exact ⟨rk, hrk, ‹_›⟩
        · exact hi.own o i hf
      · cases h; simp [paint, h1, h2]
      · -- a byte of another writer lies in its range, which is disjoint from `rk`
        obtain ⟨r, hr, h1, h2⟩ := hi.own o i hf
        have hd := hi.disj k i rk r hne hrk hr
        have : ¬ (rk.off ≤ o ∧ o < rk.stop) := by rcases hd with hd | hd <;> omega
        simp only [paint, this, ↓reduceIte, hf]
    · cases h
  | unlock k =>
    simp only [afire] at h
    split at h
    · rename_i rk hk
      cases h
      exact hi.of_rng_eq (rng_set_same hk rfl) hi.own
        (hi.intact_set (fun r h => hi.intact k _ r hk h) fun _ _ _ h => h)
    · cases h

theorem ainv_reach {ul : Bool} {s0 s : AState} (h0 : AInv s0) (h : AReach ul s0 s) : AInv s := by
  induction h with
  | refl => exact h0
  | step _ hs ih => exact ainv_step ih hs

/-- mutual exclusion of the section guarded by the upgradable lock -/
structure AExcl (s : AState) : Prop where
  /-- at most one writer is inside -/
  one : ∀ (i j : Nat) (pi pj : APc), s.ws[i]? = some pi → s.ws[j]? = some pj → pi.inCs = true → pj.inCs = true → i = j
  /-- somebody inside ⇒ the lock is taken -/
  held : ∀ (i : Nat) (pi : APc), s.ws[i]? = some pi → pi.inCs = true → s.locked = true

theorem AExcl.of_empty {s : AState} (h : ∀ (i : Nat) (pi : APc), s.ws[i]? = some pi → pi.inCs = false) : AExcl s :=
  ⟨fun i _ pi _ hi _ hin _ => absurd ((h i pi hi).symm.trans hin) Bool.false_ne_true,
    fun i pi hi hin => absurd ((h i pi hi).symm.trans hin) Bool.false_ne_true⟩

theorem aexcl_init (size : Nat) (lens : List Nat) : AExcl (ainit size lens) :=
  .of_empty fun _ _ h => by obtain ⟨len, rfl⟩ := ainit_ws h; rfl

theorem aexcl_set_same {s : AState} {k : Nat} {pc pc' : APc} {sz : Nat} {f : Nat → Option Nat}
    (he : AExcl s) (hk : s.ws[k]? = some pc) (hcs : pc'.inCs = pc.inCs) :
    AExcl { size := sz, locked := s.locked, ws := s.ws.set k pc', file := f } := by
  have back : ∀ (i : Nat) (pi : APc), (s.ws.set k pc')[i]? = some pi → ∃ qi : APc, s.ws[i]? = some qi ∧ qi.inCs = pi.inCs := by
    intro i pi h
    rcases getElem?_set_cases h with ⟨rfl, rfl⟩ | ⟨-, h⟩
    · exact ⟨pc, hk, hcs.symm⟩
    · exact ⟨pi, h, rfl⟩
  constructor
  · intro i j pi pj hi hj hini hinj
    obtain ⟨qi, hqi, hci⟩ := back i pi hi
    obtain ⟨qj, hqj, hcj⟩ := back j pj hj
    exact he.one i j qi qj hqi hqj (hci.trans hini) (hcj.trans hinj)
  · intro i pi hi hini
    obtain ⟨qi, hqi, hci⟩ := back i pi hi
    exact he.held i qi hqi (hci.trans hini)

theorem aexcl_step {s s' : AState} (he : AExcl s) (hs : AStep true s s') : AExcl s' := by
  obtain ⟨l, h⟩ := hs
  cases l with
  | lock k =>
    simp only [afire] at h
    split at h
    · rename_i len hk
      split at h <;> cases h
      rename_i hfree
      -- the lock was free, so nobody was inside: `k` is the only one now
      have back : ∀ (i : Nat) (pi : APc), (s.ws.set k (.locked len))[i]? = some pi → pi.inCs = true → i = k := by
        intro i pi h hin
        rcases getElem?_set_cases h with ⟨rfl, -⟩ | ⟨-, h⟩
        · rfl
        · exact absurd (he.held i pi h hin) (by simpa using hfree)
      exact ⟨fun i j pi pj hi hj hini hinj => (back i pi hi hini).trans (back j pj hj hinj).symm, fun _ _ _ _ => rfl⟩
    · cases h
  | reserve k =>
    simp only [afire] at h
    split at h <;> cases h
    rename_i hk
    exact aexcl_set_same he hk rfl
  | write k =>
    simp only [afire] at h
    split at h <;> cases h
    rename_i hk
    exact aexcl_set_same he hk rfl
  | unlock k =>
    simp only [afire] at h
    split at h
    · rename_i rk hk
      cases h
      -- `k` was the one inside, so after it leaves nobody is
      refine .of_empty fun i pi h => ?_
      rcases getElem?_set_cases h with ⟨rfl, rfl⟩ | ⟨hne, h⟩
      · rfl
      · exact Bool.eq_false_iff.2 fun hin => hne (he.one k i (.written rk) pi hk h rfl hin).symm
    · cases h

theorem aexcl_reach {s0 s : AState} (h0 : AExcl s0) (h : AReach true s0 s) : AExcl s := by
  induction h with
  | refl => exact h0
  | step _ hs ih => exact aexcl_step ih hs

end Append
end Pearl
