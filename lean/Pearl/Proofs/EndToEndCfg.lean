import Pearl.Model.EndToEndCfg
import Pearl.Proofs.EndToEndSteps
/-
Sessions with different bloom configurations (`Pearl/Model/EndToEndCfg.lean`), one blob: the invariant of one
blob that does NOT mention the bloom configuration, and the blob operations under it.

`BlobInv cfg b` of `EndToEndBlob.lean` pins the filter of a blob to `filterOf cfg b.ghost`: the fold of `add` from
`newFilter cfg`, i.e. the geometry of THE configuration.  In a directory that several configurations have written to,
the filter of a blob has the geometry of the session that created or last regenerated it, or the one found in its
index file, or no bloom part at all.  `BlobInvC` keeps everything `BlobInv` says about file and index and replaces
the equation for the filter by what the filter theorems of C10 need (`Good`): well-formed, fits its wire fields,
resident, and covering every key of the blob.  The filter section of an on-disk index is the image of SOME such
filter (not necessarily the one the blob holds: `bloom_is_on = false` drops the bloom part on the way in).
File and index are handled by the lemmas about `BlobCore` (`EndToEndBlob.lean`, `EndToEndBlobOps.lean`).

The namespace `Pearl.E2E.MC` ("many configurations") holds what belongs to this model.  Its lemmas about the blob and
storage operations carry the names of their single-configuration counterparts in `Pearl.E2E` (`writeRec_inv`,
`dump_inv`, `blobIOLaws`, `contains_eq`, …): inside `MC` the short name is the `BlobInvC` version.  `MC.regenerated` is
defined in `EndToEndBlobOps.lean`, because every blob invariant uses it.

Then the storage.  The invariant `CInvC` is `CInvG` over `BlobInvC`, so the read path and every operation of a session
are the instance `blobIOLaws` of the proofs of `EndToEndLemmas.lean` / `EndToEndSteps.lean`.  Start-up under a NEW
configuration (`restartWith`: index files kept, the others regenerated) is an instance of the scheme `restartG ρ post`
of `EndToEndSteps.lean`, like `restart`.  The invariant does not mention the bloom configuration (`CInvC.withBloom`),
which gives refinement along histories of several sessions (`xrun_ref`).
-/
namespace Pearl.E2E.MC
open Pearl Pearl.BPTree Pearl.E2E

/-- a filter that may stand for the records `recs`, whatever its geometry -/
structure Good (cfg : Cfg) (recs : List Rec) (c : Combined) : Prop where
  wf : c.WF
  sized : FBlob.Sized cfg.klen c
  covers : ∀ r ∈ recs, c.containsFast cfg.h r.key ≠ .notContains
  resident : ∀ bl, c.bloom = some bl → bl.inner.isSome

theorem Good.mono {cfg : Cfg} {recs recs' : List Rec} {c : Combined} (h : Good cfg recs c)
    (hsub : ∀ r ∈ recs', ∃ r' ∈ recs, r'.key = r.key) : Good cfg recs' c :=
  ⟨h.wf, h.sized, fun r hr => by obtain ⟨r', hr', hk⟩ := hsub r hr; rw [← hk]; exact h.covers r' hr', h.resident⟩

theorem filterOf_good {cfg : Cfg} (hcfg : cfg.OK) (recs : List Rec) (hk : ∀ r ∈ recs, r.key < 256 ^ cfg.klen) :
    Good cfg recs (filterOf cfg recs) :=
  ⟨(filterOf_facts cfg recs).1, filterOf_sized cfg hcfg recs hk, (filterOf_facts cfg recs).2.1,
    (filterOf_facts cfg recs).2.2⟩

theorem newFilter_good {cfg : Cfg} (hcfg : cfg.OK) : Good cfg [] (newFilter cfg) := by
  exact filterOf_good hcfg [] (fun r hr => by cases hr)

/-- what `IndexStruct::from_file` / `load_in_memory` make of a filter section, under `bloom_is_on` -/
def fromFile (bloomIsOn : Bool) (c0 : Combined) : Combined :=
  { bloom := if bloomIsOn then some (c0.bloom.getD Bloom.empty) else none, range := c0.range }

theorem combinedOfFile_good {cfg : Cfg} {recs : List Rec} {c0 : Combined} {metaBuf : List Nat} {off : Nat}
    (h : Good cfg recs c0) (hs : serializeFilters cfg.klen c0 = some (metaBuf, off)) (on : Bool) :
    combinedOfFile on metaBuf = some (fromFile on c0, off) := by
  unfold combinedOfFile
  rw [deserialize_serialize cfg.klen c0 metaBuf off h.wf h.sized.1 h.sized.2.1 h.sized.2.2.1 h.sized.2.2.2 hs]
  rfl

theorem Bloom.containsFast_empty (h : Nat → Key → Nat) (k : Key) :
    Bloom.empty.containsFast h k = .needAdditionalCheck := rfl

/-- the bloom part after `from_file`: the written one, or the empty one -/
theorem fromFile_bloom {on : Bool} {c0 : Combined} {bl : Bloom} (h : (fromFile on c0).bloom = some bl) :
    c0.bloom = some bl ∨ bl = Bloom.empty := by
  cases on with
  | false => simp [fromFile] at h
  | true =>
    simp only [fromFile, if_true, Option.some.injEq] at h
    subst h
    cases c0.bloom <;> simp

/-- **the filter read from an index file written under ANY configuration covers the keys again**: the bloom part
    is the written one (its own hasher count and bit count), the empty one, or dropped -/
theorem fromFile_good {cfg : Cfg} {recs : List Rec} {c0 : Combined} (h : Good cfg recs c0) (on : Bool) :
    Good cfg recs (fromFile on c0) := by
  refine ⟨⟨h.wf.1, ?_⟩, ⟨?_, h.sized.2.1, h.sized.2.2.1, h.sized.2.2.2⟩, ?_, ?_⟩
  · intro bl hbl
    rcases fromFile_bloom hbl with hb | rfl
    · exact h.wf.2 bl hb
    · exact Bloom.empty_WF
  · intro bl hbl
    rcases fromFile_bloom hbl with hb | rfl
    · exact h.sized.1 bl hb
    · exact Bloom.empty_Bounded
  · intro r hr
    have h0 := h.covers r hr
    unfold Combined.containsFast at h0 ⊢
    simp only [fromFile]
    cases hrg : c0.range.containsFast r.key with
    | notContains => rw [hrg] at h0; exact absurd rfl h0
    | needAdditionalCheck =>
      rw [hrg] at h0
      simp only [] at h0 ⊢
      cases on with
      | false => simp [Combined.bloomFast]
      | true =>
        cases hb : c0.bloom with
        | none => simp [Combined.bloomFast, Bloom.containsFast_empty]
        | some bl => rw [hb] at h0; simpa [Combined.bloomFast] using h0
  · intro bl hbl
    rcases fromFile_bloom hbl with hb | rfl
    · exact h.resident bl hb
    · rfl

/-- the index component: the map of the pushed headers, in memory or as the file image built from it together with
    the image of SOME good filter -/
def IndexInvC (cfg : Cfg) (b : CBlob) : Prop :=
  match b.index with
  | .mem m => m = indexOf (hdrsOf cfg b.ghost)
  | .disk f metaBuf off =>
    b.ghost ≠ [] ∧ (∃ c0, Good cfg b.ghost c0 ∧ serializeFilters cfg.klen c0 = some (metaBuf, off)) ∧
      f = build (Params.real cfg.klen) metaBuf.length (indexOf (hdrsOf cfg b.ghost))

/-- `BlobInv0` with the equation for the filter replaced by `Good`: file and index are the images of the record list,
    the filter is some good filter for it (no size condition) -/
structure BlobInvC0 (cfg : Cfg) (b : CBlob) : Prop where
  key : ∀ r ∈ b.ghost, r.key < 256 ^ cfg.klen
  ts : ∀ r ∈ b.ghost, r.ts < 2 ^ 64
  file : b.file = blobBytes cfg.klen (full b.ghost)
  filter : Good cfg b.ghost b.filter
  index : IndexInvC cfg b

/-- … and the file has not outgrown its `u64` offsets -/
structure BlobInvC (cfg : Cfg) (b : CBlob) : Prop extends BlobInvC0 cfg b where
  size : b.file.length < 2 ^ 64

theorem BlobInvC0.core {cfg : Cfg} {b : CBlob} (hb : BlobInvC0 cfg b) : BlobCore cfg b := by
  have hidx := hb.index
  unfold IndexInvC at hidx
  refine ⟨hb.key, hb.ts, hb.file, hb.filter.wf, hb.filter.covers, fun _ => hb.filter.resident, ?_, ?_⟩
  · intro m hi; rw [hi] at hidx; exact hidx
  · intro f metaBuf off hi; rw [hi] at hidx; exact ⟨hidx.1, hidx.2.2⟩

theorem BlobInvC0.fileFilter {cfg : Cfg} {b : CBlob} (hb : BlobInvC0 cfg b) {f : IndexFile RecHeader}
    {metaBuf : List Nat} {off : Nat} (hi : b.index = .disk f metaBuf off) :
    ∃ c0, Good cfg b.ghost c0 ∧ serializeFilters cfg.klen c0 = some (metaBuf, off) := by
  have hidx := hb.index
  unfold IndexInvC at hidx
  rw [hi] at hidx
  exact hidx.2.1

theorem BlobInvC0.of_core {cfg : Cfg} {b : CBlob} (hc : BlobCore cfg b) (hsz : FBlob.Sized cfg.klen b.filter)
    (hres : ∀ bl, b.filter.bloom = some bl → bl.inner.isSome)
    (hs : ∀ f metaBuf off, b.index = .disk f metaBuf off →
      ∃ c0, Good cfg b.ghost c0 ∧ serializeFilters cfg.klen c0 = some (metaBuf, off)) : BlobInvC0 cfg b := by
  refine ⟨hc.key, hc.ts, hc.file, ⟨hc.wf, hsz, hc.covers, hres⟩, ?_⟩
  unfold IndexInvC
  cases hi : b.index with
  | mem m => exact hc.mem m hi
  | disk f metaBuf off => exact ⟨(hc.disk f metaBuf off hi).1, hs f metaBuf off hi, (hc.disk f metaBuf off hi).2⟩

theorem BlobInvC.ofBlobInv {cfg : Cfg} {b : CBlob} (hcfg : cfg.OK) (hb : BlobInv cfg b) : BlobInvC cfg b :=
  have hg : Good cfg b.ghost b.filter := by rw [hb.filter]; exact filterOf_good hcfg b.ghost hb.key
  ⟨BlobInvC0.of_core hb.core hg.sized hg.resident fun _ _ _ hi => ⟨b.filter, hg, hb.serialize hi⟩, hb.size⟩

/-- the invariant does not depend on the bloom configuration of the session -/
theorem Good.withBloom {cfg : Cfg} {recs : List Rec} {c : Combined} (h : Good cfg recs c)
    (bl : Option (BloomConfig × Nat)) : Good (cfg.withBloom bl) recs c :=
  ⟨h.wf, h.sized, h.covers, h.resident⟩

theorem BlobInvC.withBloom {cfg : Cfg} {b : CBlob} (hb : BlobInvC cfg b) (bl : Option (BloomConfig × Nat)) :
    BlobInvC (cfg.withBloom bl) b := by
  refine ⟨⟨hb.key, hb.ts, hb.file, hb.filter.withBloom bl, ?_⟩, hb.size⟩
  have hidx := hb.index
  unfold IndexInvC at hidx ⊢
  cases hi : b.index with
  | mem m => rw [hi] at hidx; exact hidx
  | disk f metaBuf off =>
    rw [hi] at hidx
    obtain ⟨h1, ⟨c0, hc0, hs⟩, h3⟩ := hidx
    exact ⟨h1, ⟨c0, hc0.withBloom bl, hs⟩, h3⟩

theorem BlobInvC.checkFilter_no_fn {cfg : Cfg} {b : CBlob} (hb : BlobInvC cfg b) (k : Key)
    (hk : ∃ r ∈ b.ghost, r.key = k) : b.checkFilter cfg k ≠ .notContains :=
  hb.core.checkFilter_no_fn hb.filter.resident k hk

theorem openNew_inv {cfg : Cfg} (hcfg : cfg.OK) (id : Nat) : BlobInvC cfg (CBlob.openNew cfg id) :=
  BlobInvC.ofBlobInv hcfg (Pearl.E2E.openNew_inv cfg id)

theorem writeRec_inv0 {cfg : Cfg} {b : CBlob} (hb : BlobInvC0 cfg b) (hmem : b.index.onDisk = false) (r : Rec)
    (hk : r.key < 256 ^ cfg.klen) (hts : r.ts < 2 ^ 64) :
    BlobInvC0 cfg (b.writeRec cfg r) ∧ (b.writeRec cfg r).id = b.id ∧ (b.writeRec cfg r).ghost = b.ghost ++ [r] ∧
      (b.writeRec cfg r).index.onDisk = false ∧
      (b.writeRec cfg r).file = appendRecord b.file (recOf cfg.klen r) := by
  obtain ⟨⟨hc, hf, hnd⟩, hrest⟩ := hb.core.writeRec_rest hmem r hk hts
  refine ⟨BlobInvC0.of_core hc ?_ (hc.resident hrest.2.2.1) (fun f mb off hi => absurd hi (hnd f mb off)), hrest⟩
  rw [hf]
  exact Combined.add_sized cfg.h cfg.klen b.filter r.key hb.filter.sized hk

theorem writeRec_inv {cfg : Cfg} {b : CBlob} (hb : BlobInvC cfg b) (hmem : b.index.onDisk = false) (r : Rec)
    (hk : r.key < 256 ^ cfg.klen) (hts : r.ts < 2 ^ 64)
    (hsz : (appendRecord b.file (recOf cfg.klen r)).length < 2 ^ 64) :
    BlobInvC cfg (b.writeRec cfg r) ∧ (b.writeRec cfg r).id = b.id ∧ (b.writeRec cfg r).ghost = b.ghost ++ [r] ∧
      (b.writeRec cfg r).index.onDisk = false ∧
      (b.writeRec cfg r).file = appendRecord b.file (recOf cfg.klen r) := by
  obtain ⟨h0, h1, h2, h3, h4⟩ := writeRec_inv0 hb.toBlobInvC0 hmem r hk hts
  exact ⟨⟨h0, by rw [h4]; exact hsz⟩, h1, h2, h3, h4⟩

/-- the filter a blob has after `load_index`: its own for an in-memory index, else the one read from the index file -/
def loadedFilter (cfg : Cfg) (b : CBlob) : Combined :=
  match b.index with
  | .mem _ => b.filter
  | .disk _ metaBuf _ =>
    match combinedOfFile cfg.bloomIsOn metaBuf with
    | some (flt, _) => flt
    | none => b.filter

theorem loadedFilter_mem (cfg : Cfg) {b : CBlob} {m : InMem RecHeader} (hi : b.index = .mem m) :
    loadedFilter cfg b = b.filter := by
  unfold loadedFilter; rw [hi]

theorem BlobInvC0.loadedFilter_disk {cfg : Cfg} {b : CBlob} (hb : BlobInvC0 cfg b) {f : IndexFile RecHeader}
    {metaBuf : List Nat} {off : Nat} (hi : b.index = .disk f metaBuf off) :
    combinedOfFile cfg.bloomIsOn metaBuf = some (loadedFilter cfg b, off) ∧ Good cfg b.ghost (loadedFilter cfg b) := by
  obtain ⟨c0, hc0, hs⟩ := hb.fileFilter hi
  have h := combinedOfFile_good hc0 hs cfg.bloomIsOn
  have : loadedFilter cfg b = fromFile cfg.bloomIsOn c0 := by
    unfold loadedFilter; rw [hi]; simp only [h]
  rw [this]
  exact ⟨h, fromFile_good hc0 _⟩

theorem BlobInvC0.loadedFilter_good {cfg : Cfg} {b : CBlob} (hb : BlobInvC0 cfg b) :
    Good cfg b.ghost (loadedFilter cfg b) := by
  cases hi : b.index with
  | mem m => rw [loadedFilter_mem cfg hi]; exact hb.filter
  | disk f metaBuf off => exact (hb.loadedFilter_disk hi).2

theorem loadIndex_inv {cfg : Cfg} {b : CBlob} (hb : BlobInvC cfg b) :
    BlobInvC cfg (b.loadIndex cfg) ∧ (b.loadIndex cfg).index.onDisk = false := by
  rw [hb.core.loadIndex_eq (loadedFilter cfg b) (fun _ hi => loadedFilter_mem cfg hi)
    (fun _ _ off hi => ⟨off, (hb.loadedFilter_disk hi).1⟩)]
  exact ⟨⟨⟨hb.key, hb.ts, hb.file, hb.loadedFilter_good, rfl⟩, hb.size⟩, rfl⟩

theorem dump_inv {cfg : Cfg} {b : CBlob} (hb : BlobInvC cfg b) : BlobInvC cfg (b.dump cfg) := by
  rcases hb.core.dump_cases with ⟨he, _⟩ | ⟨metaBuf, off, hs, hne, _, he⟩
  · rw [he]; exact hb
  · -- the filter section written is the image of the blob's own filter
    rw [he]
    exact ⟨⟨hb.key, hb.ts, hb.file, hb.filter, ⟨hne, ⟨b.filter, hb.filter, hs⟩, rfl⟩⟩, hb.size⟩

theorem regen_eq {cfg : Cfg} {b : CBlob} (hb : BlobInvC cfg b) : regen cfg b = some (regenerated cfg b) :=
  hb.core.regen_eq hb.size

theorem regenerated_inv {cfg : Cfg} {b : CBlob} (hcfg : cfg.OK) (hb : BlobInvC cfg b) :
    BlobInvC cfg (regenerated cfg b) :=
  ⟨⟨hb.key, hb.ts, hb.file, filterOf_good hcfg b.ghost hb.key, rfl⟩, hb.size⟩

/-- the blob after `Blob::from_file` under `cfg`: an on-disk index is kept with the filter its file holds, read
    under the `bloom_is_on` of `cfg`; an in-memory index is regenerated with the filter of `cfg` -/
def reopened (cfg : Cfg) (b : CBlob) : CBlob :=
  match b.index with
  | .mem _ => regenerated cfg b
  | .disk _ _ _ => { b with filter := loadedFilter cfg b }

theorem reopen_eq {cfg : Cfg} {b : CBlob} (hcfg : cfg.OK) (hb : BlobInvC cfg b) :
    reopen cfg b = some (reopened cfg b) ∧ BlobInvC cfg (reopened cfg b) := by
  have hidx := hb.index
  unfold IndexInvC at hidx
  unfold reopen reopened
  cases hi : b.index with
  | mem m => exact ⟨regen_eq hb, regenerated_inv hcfg hb⟩
  | disk f metaBuf off =>
    obtain ⟨hcf, hg⟩ := hb.loadedFilter_disk hi
    have hbh : blobHeaderFromFile b.file = .ok BlobHeader.new := by rw [hb.file]; exact blobHeader_blob _ _
    rw [hi] at hidx
    simp only [hbh, hcf]
    refine ⟨?_, ⟨hb.key, hb.ts, hb.file, hg, hidx⟩, hb.size⟩
    congr 1
    cases b
    simp only at hi
    subst hi
    trivial

theorem reopened_id (cfg : Cfg) (b : CBlob) : (reopened cfg b).id = b.id := by
  unfold reopened regenerated; cases b.index <;> rfl

theorem reopened_ghost (cfg : Cfg) (b : CBlob) : (reopened cfg b).ghost = b.ghost := by
  unfold reopened regenerated; cases b.index <;> rfl

theorem reopened_onDisk (cfg : Cfg) (b : CBlob) : (reopened cfg b).index.onDisk = b.index.onDisk := by
  unfold reopened regenerated; cases b.index <;> rfl

theorem blobLaws {cfg : Cfg} (hcfg : cfg.OK) : BlobLaws cfg (BlobInvC cfg) where
  openNew := openNew_inv hcfg
  core hb := hb.core
  dump := dump_inv

theorem blobIOLaws {cfg : Cfg} (hcfg : cfg.OK) : BlobIOLaws cfg (BlobInvC0 cfg) (BlobInvC cfg) where
  toBlobLaws := blobLaws hcfg
  ok := hcfg
  checkFilter hb r hr := hb.checkFilter_no_fn r.key ⟨r, hr, rfl⟩
  toI0 := BlobInvC.toBlobInvC0
  ofSize h0 hsz := ⟨h0, by rw [h0.file]; exact hsz⟩
  size hb := hb.size
  writeRec h0 hmem r hk hts := (writeRec_inv0 h0 hmem r hk hts).1
  loadIndex := loadIndex_inv
  regen hb := ⟨regen_eq hb, regenerated_inv hcfg hb⟩

theorem delete_spec {cfg : Cfg} {b : CBlob} (hcfg : cfg.OK) (hb : BlobInvC cfg b) (k : Key) (ts : Nat) (oip : Bool)
    (hk : k < 256 ^ cfg.klen) (hts : ts < 2 ^ 64)
    (hsz : (b.delete cfg k ts oip).1.file.length < 2 ^ 64) :
    BlobInvC cfg (b.delete cfg k ts oip).1 ∧
      (b.delete cfg k ts oip).1.abs = (Store.blobDelete b.abs k ts none oip).1 ∧
      (b.delete cfg k ts oip).2 = (Store.blobDelete b.abs k ts none oip).2 := by
  obtain ⟨h0, h1, h2⟩ := (blobIOLaws hcfg).deleteM hb k ts none oip hk hts
  exact ⟨⟨h0, hsz⟩, h1, h2⟩

set_option linter.unusedVariables false in
theorem delete_file {cfg : Cfg} {b : CBlob} (hcfg : cfg.OK) (hb : BlobInvC cfg b) (k : Key) (ts : Nat) (oip : Bool) :
    (b.delete cfg k ts oip).1.file = b.file ∨
      (b.delete cfg k ts oip).1.file = appendRecord b.file (recOf cfg.klen ⟨k, ts, true, none, ⟨0, 0⟩⟩) :=
  delete_file_cases cfg b k ts oip

end Pearl.E2E.MC

namespace Pearl.E2E

/-- the new configuration is admissible: its bloom parameters fit their wire fields -/
def BloomOK (bl : Option (BloomConfig × Nat)) : Prop := ∀ p, bl = some p → (Bloom.new p.1 p.2).Bounded

theorem Cfg.OK.withBloom {cfg : Cfg} (hcfg : cfg.OK) {bl : Option (BloomConfig × Nat)} (hbl : BloomOK bl) :
    (cfg.withBloom bl).OK :=
  ⟨hcfg.klen, hcfg.group, hbl⟩

/-- range side-conditions on the inputs: those of the session operations, and bloom parameters that fit their wire
    fields for every new configuration -/
def XOp.OK (cfg : Cfg) : XOp → Prop
  | .op o => o.OK cfg
  | .restartWith bl _ => BloomOK bl

instance instDecidableBloomBoundedX (b : Bloom) : Decidable b.Bounded := by unfold Bloom.Bounded; infer_instance

instance instDecidableBloomOKX (bl : Option (BloomConfig × Nat)) : Decidable (BloomOK bl) :=
  match bl with
  | none => isTrue (fun _ h => by cases h)
  | some p =>
    if h : (Bloom.new p.1 p.2).Bounded then isTrue (fun q hq => by cases hq; exact h)
    else isFalse (fun hh => h (hh p rfl))

instance instDecidableXOpOK (cfg : Cfg) (o : XOp) : Decidable (o.OK cfg) := by
  cases o <;> unfold XOp.OK <;> infer_instance

/-- the L2 state of a multi-session storage -/
def XState.abs (x : XState) : Store := x.st.abs x.cfg

end Pearl.E2E

namespace Pearl.E2E.MC
open Pearl Pearl.BPTree Pearl.Container Pearl.E2E

/-- the invariant of the storage, for blobs with filters of any geometry -/
abbrev CInvC (cfg : Cfg) (c : CState) : Prop := CInvG (BlobInvC cfg) cfg c

theorem contains_eq {cfg : Cfg} {c : CState} (hcfg : cfg.OK) (hinv : CInvC cfg c) (k : Key) :
    c.contains cfg k = .ok ((c.abs cfg).contains k) :=
  (blobIOLaws hcfg).contains_eq hinv k

theorem read_eq {cfg : Cfg} {c : CState} (hcfg : cfg.OK) (hinv : CInvC cfg c) (k : Key) :
    c.read cfg k = .ok (((c.abs cfg).read k none).map (fun r => dataOf r.data)) :=
  (blobIOLaws hcfg).read_eq hinv k

theorem delete_count {cfg : Cfg} {c : CState} (hcfg : cfg.OK) (hinv : CInvC cfg c) (k : Key) (ts : Nat) (oip : Bool)
    (hk : k < 256 ^ cfg.klen) (hts : ts < 2 ^ 64) :
    (c.delete cfg k ts oip).2 = ((c.abs cfg).delete k ts none oip).2 :=
  (deleteWithOpt_ref0_of (blobIOLaws hcfg) hinv k ts none oip hk hts).2

theorem CInvC.ofCInv {cfg : Cfg} {c : CState} (hcfg : cfg.OK) (h : CInv cfg c) : CInvC cfg c :=
  h.mono fun _ => BlobInvC.ofBlobInv hcfg

/-- the invariant does not depend on the bloom configuration of the session -/
theorem CInvC.withBloom {cfg : Cfg} {c : CState} (h : CInvC cfg c) (bl : Option (BloomConfig × Nat)) :
    CInvC (cfg.withBloom bl) c :=
  ⟨h.wf, fun a ha => ⟨(h.active a ha).1.withBloom bl, (h.active a ha).2⟩,
    fun b hb => (h.closed b hb).withBloom bl, h.cont⟩

theorem abs_withBloom (cfg : Cfg) (bl : Option (BloomConfig × Nat)) (c : CState) :
    c.abs (cfg.withBloom bl) = c.abs cfg := rfl

theorem restartWith_eq {cfg : Cfg} {c : CState} (hcfg : cfg.OK) (hinv : CInvC cfg c) (lazy : Bool) :
    c.restartWith cfg lazy = restartG (reopened cfg) (CBlob.loadIndex cfg) cfg c lazy := by
  have hL : ∀ (l : List CBlob), (∀ b ∈ l, BlobInvC cfg b) → reopenAll cfg l = some (l.map (reopened cfg)) := by
    intro l
    induction l with
    | nil => intro _; rfl
    | cons b l ih =>
      intro h
      simp only [reopenAll, (reopen_eq hcfg (h b (by simp))).1, ih (fun x hx => h x (by simp [hx])), List.map_cons]
  unfold CState.restartWith CState.restartWithOps restartG
  rw [hL _ fun b hb => hinv.blobInv (mem_sortById.mp hb)]
  rfl

/-- **start-up under the configuration `cfg`** of a storage that satisfies the (configuration-independent) invariant:
    the L2 restart, and the invariant again -/
theorem restartWith_ref {cfg : Cfg} {c : CState} (hcfg : cfg.OK) (hinv : CInvC cfg c) (lazy : Bool) :
    (c.restartWith cfg lazy).abs cfg = (c.abs cfg).restart lazy ∧ CInvC cfg (c.restartWith cfg lazy) := by
  rw [restartWith_eq hcfg hinv]
  refine restartG_ref_of (blobLaws hcfg) hcfg hinv _ _ ?_ ?_ lazy
  · intro b hb
    exact ⟨(reopen_eq hcfg hb).2, reopened_id cfg b, reopened_ghost cfg b⟩
  · intro b hb
    obtain ⟨h1, h4⟩ := loadIndex_inv (reopen_eq hcfg hb).2
    obtain ⟨h2, h3, _⟩ := loadIndex_phys cfg (reopened cfg b)
    exact ⟨h1, by rw [h2, reopened_id], by rw [h3, reopened_ghost], h4⟩

/-- the invariant of a storage with its running configuration, relative to the configuration it was created with -/
structure XInv (cfg0 : Cfg) (x : XState) : Prop where
  same : ∃ bl, x.cfg = cfg0.withBloom bl
  ok : x.cfg.OK
  inv : CInvC x.cfg x.st

theorem XState.step_eq (x : XState) (o : XOp) :
    x.step o = match o with
      | .op o => { x with st := x.st.step x.cfg o }
      | .restartWith bl lazy => { cfg := x.cfg.withBloom bl, st := x.st.restartWith (x.cfg.withBloom bl) lazy } := by
  cases o <;> rfl

theorem xstep_ref {cfg0 : Cfg} {x : XState} (hx : XInv cfg0 x) (o : XOp) (ho : o.OK cfg0)
    (hsz : StoreSized cfg0.klen (x.abs.apply o.abs)) :
    (x.step o).abs = x.abs.apply o.abs ∧ XInv cfg0 (x.step o) := by
  obtain ⟨bl0, hsame⟩ := hx.same
  have hklen : x.cfg.klen = cfg0.klen := by rw [hsame]; rfl
  cases o with
  | op o =>
    have ho' : o.OK x.cfg := by rw [hsame]; cases o <;> exact ho
    obtain ⟨h1, h2⟩ := step_ref_of (blobIOLaws hx.ok) hx.inv o ho' (by rw [hklen]; exact hsz)
    exact ⟨h1, ⟨⟨bl0, hsame⟩, hx.ok, h2⟩⟩
  | restartWith bl lazy =>
    have hok' : (x.cfg.withBloom bl).OK := hx.ok.withBloom ho
    obtain ⟨h1, h2⟩ := restartWith_ref hok' (hx.inv.withBloom bl) lazy
    refine ⟨h1, ⟨⟨bl, ?_⟩, hok', h2⟩⟩
    show x.cfg.withBloom bl = cfg0.withBloom bl
    rw [hsame]; rfl

theorem xinit_inv {cfg : Cfg} (hcfg : cfg.OK) : XInv cfg (XState.init cfg) :=
  ⟨⟨cfg.bloom, rfl⟩, hcfg, init_inv_of (blobLaws hcfg) hcfg⟩

theorem xrun_cons (x : XState) (o : XOp) (os : List XOp) : x.run (o :: os) = (x.step o).run os := rfl

/-- **refinement along every history of sessions from the empty storage**: the L2 history (every `restartWith` is
    the L2 `restart`), and the invariant, under the configuration that is running at the end -/
theorem xrun_ref {cfg : Cfg} (hcfg : cfg.OK) (ops : List XOp) (hops : ∀ op ∈ ops, op.OK cfg)
    (hsz : StoreSized cfg.klen ((Store.init cfg.allowDup).run (ops.map XOp.abs))) :
    ((XState.init cfg).run ops).abs = (Store.init cfg.allowDup).run (ops.map XOp.abs) ∧
      XInv cfg ((XState.init cfg).run ops) :=
  run_ref_of_step XState.step XState.abs XOp.abs (XInv cfg) (XOp.OK cfg) cfg.klen
    (fun _ o hx ho hsz => xstep_ref hx o ho hsz) ops (XState.init cfg) (xinit_inv hcfg) (Store.init_WF' _) hops hsz

/-- the configuration running after a history: the last `restartWith` decides -/
theorem xrun_cfg_eq : ∀ (ops : List XOp) (x : XState),
    (x.run ops).cfg = x.cfg.withBloom (((XOp.blooms ops).getLast?).getD x.cfg.bloom)
  | [], _ => rfl
  | .op o :: ops, x => xrun_cfg_eq ops (x.step (.op o))
  | .restartWith b lazy :: ops, x => by
    rw [xrun_cons, xrun_cfg_eq ops, XOp.blooms, List.getLast?_cons]
    rfl

theorem xrun_cfg (cfg : Cfg) (ops : List XOp) (x : XState) (h : ∃ bl, x.cfg = cfg.withBloom bl) :
    (x.run ops).cfg = cfg.withBloom (((XOp.blooms ops).getLast?).getD x.cfg.bloom) := by
  obtain ⟨bl, h⟩ := h
  rw [xrun_cfg_eq, h]
  rfl

end Pearl.E2E.MC
