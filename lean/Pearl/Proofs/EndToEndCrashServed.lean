import Pearl.Proofs.EndToEndCrashRef
import Pearl.Proofs.EndToEndSteps
import Pearl.Props.C04
/-
End-to-end crash recovery: what is left of the records and of the blobs.

* `entryLoad_of_end_le` : a record that ends at or before the cut loads from the cut file with its original bytes
                          (`Pearl.entryLoad_prefix` of `Pearl/Proofs/CrashLemmas.lean`), whatever start-up makes of the file;
* `ofBlobs_blobs_lazy`, `_fresh`, `_last`, `mem_ofBlobs` : the blobs of the storage `init` builds, for ANY list of
                          opened blobs with well-formed filters (no blob invariant needed — used for blobs with a
                          torn tail);
* `survivor_in_recovered`, `quarantined_not_in_recovered` : where a blob of the crashed storage ends up;
* the history after the crash, the meta range invariant, clean cuts (`CleanCuts`), the synced sizes of the file
  layer.
-/
namespace Pearl.E2E
open Pearl Pearl.BPTree Pearl.Container

/-! ### the bytes of a complete record -/

/-- a record that ends at or before `t` is read back from the first `t` bytes of the blob file with the bytes that
    were written, by the header that was pushed for it -/
theorem entryLoad_of_end_le {cfg : Cfg} {b : CBlob} (hb : BlobInv cfg b) (t j : Nat) (r : Rec) (h : RecHeader)
    (hr : b.ghost[j]? = some r) (hh : (hdrsOf cfg b.ghost)[j]? = some h)
    (hend : Fs.contentLen cfg.klen (b.ghost.take (j + 1)) ≤ t) :
    entryLoad (b.file.take t) h = .ok (serMeta r.mt, if r.del then [] else dataOf r.data) := by
  have hlen := hb.bytes_lt
  have hB : (blobBytes cfg.klen ((full b.ghost).take (j + 1))).length ≤ t := by rw [boundary_length]; exact hend
  have hsplit : b.file.take t = blobBytes cfg.klen ((full b.ghost).take (j + 1)) ++
      (b.file.take t).drop (blobBytes cfg.klen ((full b.ghost).take (j + 1))).length := by
    conv => lhs; rw [← List.take_append_drop (blobBytes cfg.klen ((full b.ghost).take (j + 1))).length (b.file.take t)]
    rw [List.take_take, Nat.min_eq_left hB, hb.file, blobBytes_take_boundary]
  rw [hsplit]
  exact entryLoad_prefix cfg.klen (full b.ghost) hlen (j + 1) j (by omega) _ h r (dataOf r.data) hh
    (full_getElem? b.ghost j r hr)

/-! ### `dump` touches the index only -/

theorem dump_fields (cfg : Cfg) (b : CBlob) :
    (b.dump cfg).id = b.id ∧ (b.dump cfg).file = b.file ∧ (b.dump cfg).ghost = b.ghost ∧
      (b.dump cfg).filter = b.filter := by
  unfold CBlob.dump
  split
  · exact ⟨rfl, rfl, rfl, rfl⟩
  · split
    · exact ⟨rfl, rfl, rfl, rfl⟩
    · split <;> exact ⟨rfl, rfl, rfl, rfl⟩

theorem closedBlobs_extend {cfg : Cfg} (hcfg : cfg.OK) (xs : List CBlob) (hwf : ∀ x ∈ xs, x.filter.WF) :
    closedBlobs (Container.extend (fops cfg) (childOps cfg) (CState.emptyCont cfg) xs) = xs := by
  have hnew : Container.Inv (fops cfg) Combined.WF (CState.emptyCont cfg) [] :=
    Container.new_inv _ _ cfg.group 1 hcfg.group
  have hok : ∀ x ∈ xs, okOpt Combined.WF ((childOps cfg).filterOf x) := by
    intro x hx f hf
    cases hf
    exact hwf x hx
  rw [closedBlobs_eq, extend_slots (combinedLaws cfg.h) (childOps cfg) xs _ _ hnew hok]
  show (slotsOf (CState.emptyCont cfg) ++ xs.map some).filterMap id = xs
  rw [show slotsOf (CState.emptyCont cfg) = [] from slotsOf_new _ _, List.nil_append, List.filterMap_map]
  exact List.filterMap_some

theorem map_dump_filter_WF {cfg : Cfg} {l : List CBlob} (hl : ∀ b ∈ l, b.filter.WF) :
    ∀ x ∈ l.map (CBlob.dump cfg), x.filter.WF := by
  intro x hx
  obtain ⟨b, hb, rfl⟩ := List.mem_map.mp hx
  rw [(dump_fields cfg b).2.2.2]
  exact hl b hb

theorem ofBlobs_blobs_lazy {cfg : Cfg} (hcfg : cfg.OK) (bs : List CBlob) (m : Nat) (hwf : ∀ b ∈ bs, b.filter.WF) :
    (CState.ofBlobs cfg bs m true).blobs = bs.map (CBlob.dump cfg) := by
  unfold CState.ofBlobs CState.blobs
  simp only [if_true, Option.toList_none, List.append_nil]
  exact closedBlobs_extend hcfg _ (map_dump_filter_WF hwf)

theorem ofBlobs_blobs_fresh (cfg : Cfg) (m : Nat) : (CState.ofBlobs cfg [] m false).blobs = [CBlob.openNew cfg m] := by
  unfold CState.blobs
  rw [closedBlobs_eq]
  rfl

theorem ofBlobs_blobs_last {cfg : Cfg} (hcfg : cfg.OK) (cl : List CBlob) (a : CBlob) (m : Nat)
    (hwf : ∀ b ∈ cl, b.filter.WF) :
    (CState.ofBlobs cfg (cl ++ [a]) m false).blobs = cl.map (CBlob.dump cfg) ++ [a] := by
  rw [ofBlobs_snoc]
  unfold CState.blobs
  simp only [Option.toList_some]
  rw [closedBlobs_extend hcfg _ (map_dump_filter_WF hwf)]

theorem mem_ofBlobs_of_mem {cfg : Cfg} (hcfg : cfg.OK) (bs : List CBlob) (m : Nat) (lazy : Bool)
    (hwf : ∀ b ∈ bs, b.filter.WF) (x : CBlob) (hx : x ∈ bs) :
    x ∈ (CState.ofBlobs cfg bs m lazy).blobs ∨ x.dump cfg ∈ (CState.ofBlobs cfg bs m lazy).blobs := by
  induction bs, lazy using init_cases with
  | lazy bs => rw [ofBlobs_blobs_lazy hcfg bs m hwf]; exact Or.inr (List.mem_map_of_mem hx)
  | fresh => cases hx
  | last cl a =>
    rw [ofBlobs_blobs_last hcfg cl a m fun b hb => hwf b (List.mem_append_left _ hb)]
    rcases List.mem_append.mp hx with h | h
    · exact Or.inr (List.mem_append_left _ (List.mem_map_of_mem h))
    · exact Or.inl (List.mem_append_right _ h)

theorem mem_ofBlobs {cfg : Cfg} (hcfg : cfg.OK) (bs : List CBlob) (m : Nat) (lazy : Bool)
    (hwf : ∀ b ∈ bs, b.filter.WF) (y : CBlob) (hy : y ∈ (CState.ofBlobs cfg bs m lazy).blobs) :
    (∃ x ∈ bs, y = x ∨ y = x.dump cfg) ∨ (bs = [] ∧ y = CBlob.openNew cfg m) := by
  induction bs, lazy using init_cases with
  | lazy bs =>
    rw [ofBlobs_blobs_lazy hcfg bs m hwf] at hy
    obtain ⟨x, hx, rfl⟩ := List.mem_map.mp hy
    exact Or.inl ⟨x, hx, Or.inr rfl⟩
  | fresh =>
    rw [ofBlobs_blobs_fresh] at hy
    exact Or.inr ⟨rfl, List.mem_singleton.mp hy⟩
  | last cl a =>
    rw [ofBlobs_blobs_last hcfg cl a m fun b hb => hwf b (List.mem_append_left _ hb)] at hy
    rcases List.mem_append.mp hy with h | h
    · obtain ⟨x, hx, rfl⟩ := List.mem_map.mp h
      exact Or.inl ⟨x, List.mem_append_left _ hx, Or.inr rfl⟩
    · exact Or.inl ⟨a, List.mem_append_right _ (List.mem_singleton_self a), Or.inl (List.mem_singleton.mp h)⟩

/-! ### where a blob of the crashed storage ends up -/

theorem survivors_filter_WF (cfg : Cfg) (cut : Nat → Nat) (l : List CBlob) :
    ∀ x ∈ l.filterMap (surv cfg cut), x.filter.WF := by
  intro x hx
  obtain ⟨b, _, hs⟩ := List.mem_filterMap.mp hx
  obtain ⟨_, _, _, rfl⟩ := surv_some hs
  exact (filterOf_facts cfg _).1

theorem eq_of_id_eq {l : List CBlob} (hs : (l.map (·.id)).Pairwise (· < ·)) {x y : CBlob} (hx : x ∈ l) (hy : y ∈ l)
    (h : x.id = y.id) : x = y := by
  have hn : (l.map (·.id)).Nodup := hs.imp Nat.ne_of_lt
  have e := find?_key_of_mem (fun b : CBlob => b.id) hn hx
  rw [h, find?_key_of_mem (fun b : CBlob => b.id) hn hy] at e
  exact (Option.some.inj e).symm

/-- an opened blob is in the recovered storage: same id, the cut file, the complete records as its history -/
theorem survivor_in_recovered {cfg : Cfg} (hcfg : cfg.OK) {c : CState} (hinv : CInv cfg c) (cut : Nat → Nat)
    (lazy : Bool) {c₁ : CState} (hc₁ : c.crashRecover cfg cut lazy = some c₁) {b : CBlob} (hb : b ∈ c.blobs)
    {n : Nat} {torn : Bool} (hf : fate cfg.klen cfg.validateData b.ghost (cut b.id) = .opened n torn) :
    ∃ b₁ ∈ c₁.blobs, b₁.id = b.id ∧ b₁.file = b.file.take (cut b.id) ∧ b₁.ghost = b.ghost.take n ∧
      b₁.filter = filterOf cfg (b.ghost.take (if torn then n + 1 else n)) := by
  rw [crashRecover_eq hinv cut lazy] at hc₁
  cases hc₁
  have hmem : recovered cfg b (cut b.id) n (if torn then n + 1 else n) ∈ c.blobs.filterMap (surv cfg cut) :=
    List.mem_filterMap.mpr ⟨b, hb, surv_of_opened hf⟩
  rcases mem_ofBlobs_of_mem hcfg _ (maxNextId c.blobs) lazy (survivors_filter_WF cfg cut _) _ hmem with h | h
  · exact ⟨_, h, rfl, rfl, rfl, rfl⟩
  · obtain ⟨h1, h2, h3, h4⟩ := dump_fields cfg (recovered cfg b (cut b.id) n (if torn then n + 1 else n))
    exact ⟨_, h, h1, h2, h3, h4⟩

/-- conversely a blob of the recovered storage is the survivor of a blob of the crashed one — same id, the cut file, the
    records `fate` keeps —, or the fresh blob `init` opens when no blob survives -/
theorem mem_crashRecover {cfg : Cfg} (hcfg : cfg.OK) {c : CState} (hinv : CInv cfg c) (cut : Nat → Nat)
    (lazy : Bool) {c₁ : CState} (hc₁ : c.crashRecover cfg cut lazy = some c₁) {b₁ : CBlob} (hb₁ : b₁ ∈ c₁.blobs) :
    (∃ b ∈ c.blobs, ∃ n torn, fate cfg.klen cfg.validateData b.ghost (cut b.id) = .opened n torn ∧
      b₁.id = b.id ∧ b₁.file = b.file.take (cut b.id) ∧ b₁.ghost = b.ghost.take n) ∨
    (c.blobs.filterMap (surv cfg cut) = [] ∧ b₁ = CBlob.openNew cfg (maxNextId c.blobs)) := by
  rw [crashRecover_eq hinv cut lazy] at hc₁
  cases hc₁
  rcases mem_ofBlobs hcfg _ (maxNextId c.blobs) lazy (survivors_filter_WF cfg cut _) b₁ hb₁ with
    ⟨x, hx, hxe⟩ | h
  · obtain ⟨b, hb, hs⟩ := List.mem_filterMap.mp hx
    obtain ⟨n, torn, hf, rfl⟩ := surv_some hs
    refine Or.inl ⟨b, hb, n, torn, hf, ?_⟩
    rcases hxe with rfl | rfl
    · exact ⟨rfl, rfl, rfl⟩
    · exact ⟨(dump_fields cfg _).1, (dump_fields cfg _).2.1, (dump_fields cfg _).2.2.1⟩
  · exact Or.inr h

/-- a quarantined blob is not in the recovered storage (its file is in the corrupted directory, as the crash left
    it) -/
theorem quarantined_not_in_recovered {cfg : Cfg} (hcfg : cfg.OK) {c : CState} (hinv : CInv cfg c)
    (cut : Nat → Nat) (lazy : Bool) {c₁ : CState} (hc₁ : c.crashRecover cfg cut lazy = some c₁) {b : CBlob}
    (hb : b ∈ c.blobs) (hf : fate cfg.klen cfg.validateData b.ghost (cut b.id) = .quarantined) :
    ∀ b₁ ∈ c₁.blobs, b₁.id ≠ b.id := by
  intro b₁ hb₁ hid
  rcases mem_crashRecover hcfg hinv cut lazy hc₁ hb₁ with ⟨b0, hb0, n, torn, hf0, hid0, _⟩ | ⟨_, rfl⟩
  · obtain rfl : b0 = b := eq_of_id_eq (ids_pairwise hinv.wf) hb0 hb (by rw [← hid0, hid])
    rw [hf] at hf0
    cases hf0
  · have := lt_maxNextId c.blobs b hb
    have hid' : maxNextId c.blobs = b.id := hid
    omega

end Pearl.E2E

namespace Pearl
open Pearl.E2E

theorem Store.history_eq_map (s : Store) : s.history = s.blobs.map (fun b => (b.id, b.recs)) := rfl

/-- the history after the crash: every blob keeps the records that are complete in the surviving prefix -/
theorem Store.crash_history (klen : Nat) (s : Store) (cut : Nat → Nat) :
    (s.crash klen cut).history = s.history.map (fun p => (p.1, p.2.take (complete klen p.2 (cut p.1)))) := by
  rw [Store.history_eq_map, Store.history_eq_map, Store.crash_blobs, List.map_map, List.map_map]
  rfl

/-- `Spec.latest` after crash + restart is `Spec.latest` of the crashed history -/
theorem Store.crash_restart_latest {klen : Nat} {s : Store} (hwf : s.WF) (cut : Nat → Nat) (lazy : Bool) (k : Key) :
    Spec.latest ((s.crash klen cut).restart lazy).history k = Spec.latest (s.crash klen cut).history k :=
  Spec.latest_congr (maint_records_eq (m := .restart lazy) (Store.crash_WF hwf cut) rfl) k

/-! ### every record of the recovered store is a record of the store before the crash -/

theorem Store.ofBlobs_recs (d : Bool) (bs : List Blob) (m : Nat) (lazy : Bool) :
    ∀ b ∈ (Store.ofBlobs d bs m lazy).blobs, b.recs = [] ∨ ∃ b0 ∈ bs, b.recs = b0.recs := by
  intro b hb
  rcases nonempty_or_lazy bs lazy with h | ⟨rfl, rfl⟩
  · have hv := Store.ofBlobs_blobs d bs m lazy h
    have : (b.id, b.recs) ∈ bs.map (fun b => (b.id, b.recs)) := by
      rw [← hv]; exact List.mem_map.mpr ⟨b, hb, rfl⟩
    obtain ⟨b0, hb0, he⟩ := List.mem_map.mp this
    exact Or.inr ⟨b0, hb0, (congrArg Prod.snd he).symm⟩
  · rw [Store.ofBlobs_blobs_nil] at hb
    simp only [List.mem_singleton] at hb
    subst hb
    exact Or.inl rfl

theorem Store.crashRecover_recs {klen : Nat} {v : Bool} {s : Store} (hwf : s.WF) (cut : Nat → Nat) (lazy : Bool) :
    ∀ b ∈ (s.crashRecover klen v cut lazy).blobs, ∀ r ∈ b.recs, ∃ b0 ∈ s.blobs, r ∈ b0.recs := by
  intro b hb r hr
  rcases Store.ofBlobs_recs _ _ _ _ b hb with h | ⟨b1, hb1, he⟩
  · rw [h] at hr; cases hr
  · unfold Store.survivors at hb1
    rw [Store.sortById_of_sorted _ hwf.1] at hb1
    obtain ⟨b0, hb0, hs⟩ := List.mem_filterMap.mp hb1
    refine ⟨b0, hb0, ?_⟩
    split at hs
    · cases hs
    · cases hs
      rw [he] at hr
      exact List.mem_of_mem_take hr

end Pearl

namespace Pearl.E2E
open Pearl Pearl.BPTree Pearl.Container

theorem crashRecover_metaOK {klen : Nat} {v : Bool} {s : Store} (hwf : s.WF) (hmeta : StoreMetaOK s)
    (cut : Nat → Nat) (lazy : Bool) : StoreMetaOK (s.crashRecover klen v cut lazy) := by
  intro b hb r hr
  obtain ⟨b0, hb0, hr0⟩ := Store.crashRecover_recs hwf cut lazy b hb r hr
  exact hmeta b0 hb0 r hr0

/-- every cut is at the end of a record (or of the blob header), or at / after the end of its file -/
def CleanCuts (cfg : Cfg) (c : CState) (cut : Nat → Nat) : Prop :=
  ∀ b ∈ c.blobs, ∃ n, cutKind cfg.klen b.ghost (cut b.id) = .clean n

theorem cleanCuts_of_boundary {cfg : Cfg} {c : CState} {cut : Nat → Nat}
    (h : ∀ b ∈ c.blobs, ∃ n, n ≤ b.ghost.length ∧ cut b.id = Fs.contentLen cfg.klen (b.ghost.take n)) :
    CleanCuts cfg c cut := by
  intro b hb
  obtain ⟨n, hn, he⟩ := h b hb
  exact ⟨n, by rw [he]; exact cutKind_boundary cfg.klen b.ghost n hn⟩

/-- process kill: every issued write survives -/
theorem cleanCuts_of_ge {cfg : Cfg} {c : CState} (hinv : CInv cfg c) {cut : Nat → Nat}
    (h : ∀ b ∈ c.blobs, b.file.length ≤ cut b.id) : CleanCuts cfg c cut := by
  intro b hb
  exact ⟨b.ghost.length, cutKind_of_ge cfg.klen b.ghost _ ((CInvG.blobInv hinv hb).file_length ▸ h b hb)⟩

theorem CleanCuts.noTorn {cfg : Cfg} {c : CState} {cut : Nat → Nat} (h : CleanCuts cfg c cut) :
    NoTorn cfg c cut := by
  intro b hb n hf
  obtain ⟨m, hm⟩ := h b hb
  have := (fate_opened_true hf).1
  rw [hm] at this
  cases this

theorem CleanCuts.noQuarantine {cfg : Cfg} {c : CState} {cut : Nat → Nat} (h : CleanCuts cfg c cut) :
    ∀ b ∈ c.blobs, fate cfg.klen cfg.validateData b.ghost (cut b.id) ≠ .quarantined := by
  intro b hb hf
  obtain ⟨m, hm⟩ := h b hb
  unfold fate at hf
  rw [hm] at hf
  cases hf

theorem CleanCuts.abs {cfg : Cfg} {c : CState} {cut : Nat → Nat} (h : CleanCuts cfg c cut) :
    ∀ b ∈ (c.abs cfg).blobs, ∃ n, cutKind cfg.klen b.recs (cut b.id) = .clean n :=
  forall_abs_blobs.mpr h

/-! ### the synced sizes of the file layer -/

/-- in a state of the file layer in which every blob has its file (`Fs.Full`, which holds on every run:
    `Fs.run_full`) and the counters are ordered (`Fs.CountersOK`, `Fs.run_diskInv`), the synced size of a blob of
    the storage lies between the blob header size — the header is synced when the blob is created — and the
    length of the blob file -/
theorem syncedOf_bounds {cfg : Cfg} {c : CState} (hinv : CInv cfg c) (s : Fs.FsState) (hs : s.store = c.abs cfg)
    (hk : s.klen = cfg.klen) (hfull : Fs.Full s) (hcnt : Fs.CountersOK s.disk) (b : CBlob) (hb : b ∈ c.blobs) :
    blobHeaderSize ≤ syncedOf s b.id ∧ syncedOf s b.id ≤ b.file.length := by
  have hmem : (b.id, b.ghost) ∈ s.store.history := by
    rw [hs, Store.history_eq_map, abs_blobs, List.map_map]
    exact List.mem_map.mpr ⟨b, hb, rfl⟩
  have hsz := hfull _ hmem
  unfold Fs.szOf at hsz
  simp only [] at hsz
  unfold syncedOf
  cases hf : s.disk.files b.id with
  | none => rw [hf] at hsz; cases hsz
  | some f =>
    rw [hf] at hsz
    simp only [Option.map_some, Option.some.injEq] at hsz
    obtain ⟨h1, h2⟩ := hcnt b.id f hf
    have hbi : BlobInv cfg b := CInvG.blobInv hinv hb
    simp only []
    rw [hbi.file, file_length, ← hk, ← hsz]
    exact ⟨h2, h1⟩

end Pearl.E2E
