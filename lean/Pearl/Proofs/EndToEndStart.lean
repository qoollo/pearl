import Pearl.Model.EndToEndStart
import Pearl.Model.EndToEndCrashIdx
import Pearl.Proofs.EndToEndMetaBytesStore
import Pearl.Proofs.EndToEndMetaBytesSize
/-
End-to-end composition, start-up WITH index files (`Pearl/Model/EndToEndStart.lean`, part (a)), one blob:
the blob written record by record in normal form (`writtenB_form`) and the image the storage dumps for a list of
records (`dumpedImage_eq`); what `IndexStruct::from_file` answers on it — accepted for the blob file it was written for
(`openIndex_current`), rejected for a blob file of any other length (`openIndex_stale`); what `openIndex` checks of
arbitrary bytes (`acceptIndex_iff`, `openIndex_accepted`, `openIndex_of_not_accept`) and the rejection of every cut,
unwritten or foreign-sized member of the family of images of a built file (`openIndex_family_rejected`, on which
`Pearl/Proofs/EndToEndCrashIdx.lean` rests); `Blob::from_file` of a blob of a reachable state for each index-file
choice (`fromFileB_choice`), which reads the id and the file of the closed blob only (`fromFileB_of_file`).  At the
top two lemmas about whole states that the files below share: `forall_abs_blobs`, `runB_ref`.
-/
namespace Pearl.E2E
open Pearl Pearl.BPTree Pearl.Container

section
variable {cfg : Cfg} {sha : List Nat → List Nat}

/-- the byte-level run is the translation of the structured run, which refines the L2 run -/
theorem runB_ref (hB : BytesOK cfg sha) (ops : List MOp) (hops : ∀ op ∈ ops, op.OK cfg)
    (hsz : StoreIdxSized cfg ((Store.init cfg.allowDup).run (ops.map MOp.abs))) :
    (BState.init cfg).runB cfg sha ops = ((CState.init cfg).runM cfg ops).toB sha ∧
      ((CState.init cfg).runM cfg ops).abs cfg = (Store.init cfg.allowDup).run (ops.map MOp.abs) ∧
      CInv cfg ((CState.init cfg).runM cfg ops) ∧ StoreMetaOK (((CState.init cfg).runM cfg ops).abs cfg) :=
  ⟨runB_eq hB ops hops hsz.toStoreSized (idxSized_of_final hB.ok ops hops hsz),
    runM_ref hB.ok ops hops hsz.toStoreSized⟩

theorem snoc_ind {α : Type} {P : List α → Prop} (h0 : P []) (hs : ∀ l a, P l → P (l ++ [a])) (l : List α) : P l := by
  have : ∀ (r : List α), P r.reverse := by
    intro r
    induction r with
    | nil => exact h0
    | cons a r ih => rw [List.reverse_cons]; exact hs _ _ ih
  simpa using this l.reverse

/-! ### a blob written record by record -/

/-- the structured blob after `Blob::write` of `recs`, one by one, into a new blob -/
def writtenC (cfg : Cfg) (recs : List Rec) : CBlob := recs.foldl (fun b r => b.writeRec cfg r) (CBlob.openNew cfg 0)

theorem writtenC_snoc (cfg : Cfg) (recs : List Rec) (r : Rec) :
    writtenC cfg (recs ++ [r]) = (writtenC cfg recs).writeRec cfg r := by
  simp [writtenC, List.foldl_append]

/-- the size hypothesis on a record list: keys and timestamps in range, image shorter than `2^64` -/
structure RecsOK (cfg : Cfg) (recs : List Rec) : Prop where
  key : ∀ r ∈ recs, r.key < 256 ^ cfg.klen
  ts : ∀ r ∈ recs, r.ts < 2 ^ 64
  size : (blobBytes cfg.klen (full recs)).length < 2 ^ 64

theorem RecsOK.prefix {recs p : List Rec} (h : RecsOK cfg recs) (hp : p <+: recs) : RecsOK cfg p :=
  ⟨fun r hr => h.key r (hp.subset hr), fun r hr => h.ts r (hp.subset hr),
    Nat.lt_of_le_of_lt (blobBytes_length_mono cfg.klen hp) h.size⟩

theorem writtenC_inv : ∀ (recs : List Rec), RecsOK cfg recs →
    BlobInv cfg (writtenC cfg recs) ∧ (writtenC cfg recs).ghost = recs ∧
      (writtenC cfg recs).index.onDisk = false ∧ (writtenC cfg recs).id = 0 := by
  intro recs
  induction recs using snoc_ind with
  | h0 => intro _; exact ⟨openNew_inv cfg 0, rfl, rfl, rfl⟩
  | hs recs r ih =>
    intro h
    obtain ⟨hb, hg, hd, hid⟩ := ih (h.prefix (List.prefix_append _ _))
    rw [writtenC_snoc]
    have hsz : (appendRecord (writtenC cfg recs).file (recOf cfg.klen r)).length < 2 ^ 64 := by
      rw [hb.file, hg, ← blobBytes_snoc]
      exact h.size
    obtain ⟨h1, h2, h3, h4, _⟩ := writeRec_inv hb hd r (h.key r (by simp)) (h.ts r (by simp)) hsz
    exact ⟨h1, by rw [h3, hg], h4, by rw [h2, hid]⟩

theorem BlobInv.recsOK {b : CBlob} (hb : BlobInv cfg b) : RecsOK cfg b.ghost :=
  ⟨hb.key, hb.ts, by rw [← hb.file]; exact hb.size⟩

theorem writtenB_eq (sha : List Nat → List Nat) : ∀ (recs : List Rec), RecsOK cfg recs →
    recs.foldl (fun b r => b.writeRec cfg r) (BBlob.openNew cfg 0) = (writtenC cfg recs).toB sha := by
  intro recs
  induction recs using snoc_ind with
  | h0 => intro _; rfl
  | hs recs r ih =>
    intro h
    have hp := h.prefix (List.prefix_append recs [r])
    rw [List.foldl_append, List.foldl_cons, List.foldl_nil, ih hp, writtenC_snoc,
      writeRec_toB cfg sha _ r (writtenC_inv recs hp).2.2.1]

/-- the blob that holds exactly the records `recs`, in normal form -/
theorem writtenB_form {recs : List Rec} (h : RecsOK cfg recs) :
    recs.foldl (fun b r => b.writeRec cfg r) (BBlob.openNew cfg 0) =
      { id := 0, file := blobBytes cfg.klen (full recs), index := .mem (indexOf (hdrsOf cfg recs)),
        filter := filterOf cfg recs } := by
  obtain ⟨hb, hg, hd, hid⟩ := writtenC_inv recs h
  have hidx := hb.index
  have hfile := hb.file
  have hfl := hb.filter
  unfold IndexInv at hidx
  rw [writtenB_eq (fun _ => []) recs h]
  cases hw : writtenC cfg recs with
  | mk i f ix fl g =>
    rw [hw] at hg hd hid hidx hfile hfl
    simp only at hg hd hid hidx hfile hfl
    subst hg hid hfile hfl
    cases ix with
    | disk _ _ _ => cases hd
    | mem m => simp only at hidx; subst hidx; rfl

theorem hdrs_isEmpty {recs : List Rec} (hne : recs ≠ []) : (indexOf (hdrsOf cfg recs)).isEmpty = false := by
  rw [isEmpty_indexOf]
  cases hh : hdrsOf cfg recs with
  | nil => exact absurd ((hdrsOf_eq_nil_iff cfg recs).mp hh) hne
  | cons _ _ => rfl

theorem blobFileLen_eq {recs : List Rec} (h : RecsOK cfg recs) :
    blobFileLen cfg recs = (blobBytes cfg.klen (full recs)).length := by
  unfold blobFileLen
  rw [writtenB_form h]

/-! ### the dumped form of a blob, and its index file -/

/-- the structured index file `Blob::dump` builds for the records `recs` with filter section `mb` -/
def fileRecs (cfg : Cfg) (recs : List Rec) (mb : List Nat) : IndexFile RecHeader :=
  build (Params.real cfg.klen) mb.length (indexOf (hdrsOf cfg recs))

/-- … and its bytes, for the blob file that holds `recs` -/
def imageRecs (cfg : Cfg) (sha : List Nat → List Nat) (recs : List Rec) (mb : List Nat) : List Nat :=
  imageOf sha (fileRecs cfg recs mb) mb (blobBytes cfg.klen (full recs)).length

/-- the size bound under which the index file of a blob is shorter than `2^64` bytes (`StoreIdxSized`, per blob).
    It is the right side of `fileSize_le` (`Pearl/Proofs/EndToEndMetaBytesSize.lean`, whose head does the count): per
    record `57 + K` bytes of header in the leaves and at most `2 · (K + 12)` bytes of nodes against at least `65 + K`
    bytes in the blob file, hence `3 *`; `4200` covers the header (83), the tree meta (16) and the nodes of the one
    extra leaf (at most `2 · (2032 + 12)`). -/
def Sized3 (cfg : Cfg) (recs : List Rec) : Prop :=
  3 * (blobBytes cfg.klen (full recs)).length + filterLen cfg + 4200 < 2 ^ 64

theorem Sized3.prefix {recs p : List Rec} (h : Sized3 cfg recs) (hp : p <+: recs) : Sized3 cfg p := by
  have := blobBytes_length_mono cfg.klen hp
  unfold Sized3 at h ⊢
  omega

theorem serializeFilters_filterOf (cfg : Cfg) (recs : List Rec) :
    ∃ mb off, serializeFilters cfg.klen (filterOf cfg recs) = some (mb, off) := by
  obtain ⟨⟨mb, off⟩, h⟩ := serializeFilters_isSome cfg.klen (filterOf cfg recs) (filterOf_facts cfg recs).2.2
  exact ⟨mb, off, h⟩

theorem fileRecs_size (hcfg : cfg.OK) {recs : List Rec} (h3 : Sized3 cfg recs) {mb : List Nat} {off : Nat}
    (hs : serializeFilters cfg.klen (filterOf cfg recs) = some (mb, off)) : (fileRecs cfg recs mb).fileSize < 2 ^ 64 := by
  have h1 := fileSize_le hcfg recs mb
  have h2 := serializeFilters_length cfg (filterOf cfg recs) (filterOf_words cfg recs) mb off hs
  unfold Sized3 at h3
  unfold fileRecs
  omega

/-- `Blob::dump` of a non-empty blob whose index is in memory -/
theorem dump_reidx_eq {b : CBlob} (hb : BlobInv cfg b) (hne : b.ghost ≠ []) {mb : List Nat} {off : Nat}
    (hs : serializeFilters cfg.klen (filterOf cfg b.ghost) = some (mb, off)) :
    (reidx cfg b).dump cfg = { b with index := .disk (fileRecs cfg b.ghost mb) mb off } := by
  unfold CBlob.dump reidx
  simp only []
  rw [hdrs_isEmpty hne, hb.filter, hs]
  rfl

theorem dumpedImage_eq (sha : List Nat → List Nat) {recs : List Rec} (h : RecsOK cfg recs) :
    dumpedImage cfg sha recs =
      if recs = [] then none
      else (serializeFilters cfg.klen (filterOf cfg recs)).map (fun p => imageRecs cfg sha recs p.1) := by
  unfold dumpedImage BBlob.dump
  rw [writtenB_form h]
  by_cases hne : recs = []
  · subst hne; rfl
  · simp only [hdrs_isEmpty hne, if_neg hne]
    cases serializeFilters cfg.klen (filterOf cfg recs) <;> rfl

theorem dumpedImage_some {recs : List Rec} (h : RecsOK cfg recs) {img : List Nat}
    (hi : dumpedImage cfg sha recs = some img) :
    recs ≠ [] ∧ ∃ mb off, serializeFilters cfg.klen (filterOf cfg recs) = some (mb, off) ∧
      imageRecs cfg sha recs mb = img := by
  rw [dumpedImage_eq sha h] at hi
  by_cases hne : recs = []
  · rw [if_pos hne] at hi; cases hi
  · rw [if_neg hne] at hi
    cases hs : serializeFilters cfg.klen (filterOf cfg recs) with
    | none => rw [hs] at hi; cases hi
    | some q =>
      obtain ⟨mb, off⟩ := q
      rw [hs] at hi
      simp only [Option.map_some, Option.some.injEq] at hi
      exact ⟨hne, mb, off, rfl, hi⟩

/-! ### `IndexStruct::from_file` on these images -/

theorem combinedOfFile_no_panic {on : Bool} {buf : List Nat} {r : Combined × Nat}
    (h : combinedOfFile on buf = some r) : deserializeFiltersPanics buf = false := by
  unfold combinedOfFile deserializeFilters at h
  unfold deserializeFiltersPanics
  by_cases h1 : buf.length < 8
  · rw [if_pos h1] at h; cases h
  · rw [if_neg h1] at h
    simp only [] at h
    by_cases h2 : (buf.drop 8).length < unle (buf.take 8)
    · rw [if_pos h2] at h; cases h
    · rw [List.length_drop] at h2
      simp only [List.length_drop, Bool.or_eq_false_iff, decide_eq_false_iff_not]
      exact ⟨h1, h2⟩

theorem BlobInv.disk_file {b : CBlob} (hb : BlobInv cfg b) {f : IndexFile RecHeader} {mb : List Nat} {off : Nat}
    (hi : b.index = .disk f mb off) :
    b.ghost ≠ [] ∧ serializeFilters cfg.klen (filterOf cfg b.ghost) = some (mb, off) ∧
      f = fileRecs cfg b.ghost mb ∧ f.load = some (indexOf (hdrsOf cfg b.ghost)) := by
  have hidx := hb.index
  unfold IndexInv at hidx
  rw [hi, hb.filter] at hidx
  obtain ⟨hne, hs, hf⟩ := hidx
  exact ⟨hne, hs, hf, by rw [hf]; exact build_load _ _ _ (indexOf_WF _)⟩

theorem BlobInv.disk_filter (hcfg : cfg.OK) {b : CBlob} (hb : BlobInv cfg b) {f : IndexFile RecHeader}
    {mb : List Nat} {off : Nat} (hi : b.index = .disk f mb off) :
    combinedOfFile cfg.bloomIsOn mb = some (filterOf cfg b.ghost, off) :=
  combinedOfFile_serialize cfg _ mb off (filterOf_facts cfg b.ghost).1 (filterOf_sized cfg hcfg b.ghost hb.key)
    (filterOf_bloom_isSome cfg b.ghost) (hb.disk_file hi).2.1

theorem dumped_inv (hB : BytesOK cfg sha) {b : CBlob} (hb : BlobInv cfg b) (hne : b.ghost ≠ [])
    (h3 : Sized3 cfg b.ghost) {mb : List Nat} {off : Nat}
    (hs : serializeFilters cfg.klen (filterOf cfg b.ghost) = some (mb, off)) :
    BlobInv cfg { b with index := .disk (fileRecs cfg b.ghost mb) mb off } ∧
      ({ b with index := .disk (fileRecs cfg b.ghost mb) mb off } : CBlob).IdxSized := by
  refine ⟨by rw [← dump_reidx_eq hb hne hs]; exact dump_inv (reidx_inv hb), fun f mb' off' hi => ?_⟩
  cases hi
  exact fileRecs_size hB.ok h3 hs

theorem dumped_sim (hB : BytesOK cfg sha) {b : CBlob} (hb : BlobInv cfg b) (hne : b.ghost ≠ [])
    (h3 : Sized3 cfg b.ghost) {mb : List Nat} {off : Nat}
    (hs : serializeFilters cfg.klen (filterOf cfg b.ghost) = some (mb, off)) :
    imageRecs cfg sha b.ghost mb = imageOf sha (fileRecs cfg b.ghost mb) mb b.file.length ∧
    (∃ x, BIdx.fromFile (imageOf sha (fileRecs cfg b.ghost mb) mb b.file.length) = some x ∧
      Sim cfg.klen b.file.length mb (fileRecs cfg b.ghost mb) x) ∧
    combinedOfFile cfg.bloomIsOn mb = some (b.filter, off) := by
  obtain ⟨hD, hsD⟩ := dumped_inv hB hb hne h3 hs
  refine ⟨by unfold imageRecs; rw [hb.file], hD.disk_sim hB hsD rfl, ?_⟩
  rw [hb.filter]
  exact hD.disk_filter hB.ok rfl

/-- (i) the image dumped for the current records of a blob is accepted for that blob, with the filter of the blob and
    the `bloom_offset` `serialize_filters` had returned -/
theorem openIndex_current (hB : BytesOK cfg sha) {b : CBlob} (hb : BlobInv cfg b) (hne : b.ghost ≠ [])
    (h3 : Sized3 cfg b.ghost) {mb : List Nat} {off : Nat}
    (hs : serializeFilters cfg.klen (filterOf cfg b.ghost) = some (mb, off)) :
    openIndex cfg b.file.length (imageRecs cfg sha b.ghost mb) = .accepted b.filter off := by
  obtain ⟨himg, ⟨x, hx, sim⟩, hc⟩ := dumped_sim hB hb hne h3 hs
  unfold openIndex
  rw [himg, hx]
  simp only [sim.valid, readMeta_sim sim, combinedOfFile_no_panic hc, hc, Bool.not_true, Bool.false_eq_true, if_false]

/-! ### `IndexStruct::from_file` on arbitrary bytes: what is checked (C03b `acceptIndex`) -/

/-- the start-up acceptance test of C03b is: `BPTreeFileIndex::from_file` succeeds, `validate(blob_size)` passes and
    the filter section can be read -/
theorem acceptIndex_iff (K blobSize : Nat) (img : List Nat) :
    acceptIndex K blobSize img = true ↔
      ∃ x, BIdx.fromFile img = some x ∧ validateHeader K blobSize x.header = true ∧ x.readMeta.isSome = true := by
  unfold acceptIndex BIdx.fromFile
  cases hh : readIndexHeader img with
  | none => simp
  | some h =>
    simp only []
    cases ht : readTreeMeta img h with
    | none => simp
    | some tm =>
      simp only []
      by_cases hc : checkFileSize h tm img.length = true
      · simp only [hc, Bool.not_true, Bool.false_eq_true, if_false, Bool.true_and]
        unfold readRootOk readRoot
        by_cases hlt : img.length < tm.treeOffset
        · have : ¬ tm.treeOffset ≤ img.length := by omega
          simp [hlt, this]
        · have hle : tm.treeOffset ≤ img.length := by omega
          simp only [hlt, if_false, hle, decide_true, Bool.true_and]
          cases hr : BPTree.readExactAt img tm.treeOffset (min (img.length - tm.treeOffset) 4096) with
          | none => simp
          | some r =>
            simp only [Option.isSome_some, Bool.true_and, Option.map_some, Bool.and_eq_true]
            constructor
            · rintro ⟨h1, h2⟩
              exact ⟨_, rfl, h1, h2⟩
            · rintro ⟨x, hx, h1, h2⟩
              cases hx
              exact ⟨h1, h2⟩
      · have hc' : checkFileSize h tm img.length = false := by simpa using hc
        simp [hc']

/-- an index file the start-up uses passed the C03b test, and its filter section deserialized to the filters and
    the `bloom_offset` the blob then works with; NOTHING ELSE of the file was looked at -/
theorem openIndex_accepted {blobSize : Nat} {img : List Nat} {flt : Combined} {off : Nat}
    (h : openIndex cfg blobSize img = .accepted flt off) :
    acceptIndex cfg.klen blobSize img = true ∧
    ∃ x mb, BIdx.fromFile img = some x ∧ validateHeader cfg.klen blobSize x.header = true ∧ x.readMeta = some mb ∧
      combinedOfFile cfg.bloomIsOn mb = some (flt, off) := by
  unfold openIndex at h
  cases hx : BIdx.fromFile img with
  | none => rw [hx] at h; cases h
  | some x =>
    rw [hx] at h
    simp only [] at h
    cases hv : validateHeader cfg.klen blobSize x.header with
    | false => rw [hv] at h; cases h
    | true =>
      rw [hv] at h
      simp only [Bool.not_true, Bool.false_eq_true, if_false] at h
      cases hm : x.readMeta with
      | none => rw [hm] at h; cases h
      | some mb =>
        rw [hm] at h
        simp only [] at h
        split at h
        · cases h
        · cases hc : combinedOfFile cfg.bloomIsOn mb with
          | none => rw [hc] at h; cases h
          | some p =>
            obtain ⟨f, o⟩ := p
            rw [hc] at h
            cases h
            exact ⟨(acceptIndex_iff _ _ _).2 ⟨x, hx, hv, by rw [hm]; rfl⟩, x, mb, rfl, hv, hm, hc⟩

/-- an index file the C03b test refuses is rejected (and the index regenerated) -/
theorem openIndex_of_not_accept {blobSize : Nat} {img : List Nat}
    (h : acceptIndex cfg.klen blobSize img = false) : openIndex cfg blobSize img = .rejected := by
  unfold openIndex
  cases hx : BIdx.fromFile img with
  | none => rfl
  | some x =>
    simp only []
    cases hv : validateHeader cfg.klen blobSize x.header with
    | false => rfl
    | true =>
      simp only [Bool.not_true, Bool.false_eq_true, if_false]
      cases hm : x.readMeta with
      | none => rfl
      | some mb =>
        have : acceptIndex cfg.klen blobSize img = true :=
          (acceptIndex_iff _ _ _).2 ⟨x, hx, hv, by rw [hm]; rfl⟩
        rw [this] at h
        cases h

/-- the structured file of the records `p` in the form of `Pearl/Proofs/EndToEndMetaBytesImage.lean` -/
theorem fileRecs_built (cfg : Cfg) (p : List Rec) (mb : List Nat) :
    fileRecs cfg p mb = builtFile cfg.klen mb (indexOf (hdrsOf cfg p)) := rfl

theorem imageOf_eq_V (sha : List Nat → List Nat) (f : IndexFile RecHeader) (mb : List Nat) (bs : Nat) :
    imageOf sha f mb bs = indexHeaderBytesV (rawFile f) (imageHash sha f mb bs) 13 bs ++ indexBodyBytes (rawFile f) mb :=
  indexFileBytes_eq_V _ _ _ _

/-- the images of a built file with ANY version byte and `blob_size` field, cut anywhere: rejected unless complete,
    written and dumped for a blob file of exactly this length.  The byte `vb` at offset 72 is `version << 1 | written`
    (`IndexHeaderV.version`, `isWritten` of `Pearl/Model/IndexValidate.lean`): 13 is the finished file, 12 the buffer
    of phase 1 of the dump, whose `written` bit is clear. -/
theorem openIndex_family_rejected (hB : BytesOK cfg sha) (mb : List Nat) (m : InMem RecHeader) (hash : List Nat)
    (hhash : hash.length = 32) (hsize : (builtFile cfg.klen mb m).fileSize < 2 ^ 64) (vb b actual t : Nat)
    (h : t < (indexHeaderBytesV (rawFile (builtFile cfg.klen mb m)) hash vb b
        ++ indexBodyBytes (rawFile (builtFile cfg.klen mb m)) mb).length ∨ vb ≠ 13 ∨ b % 256 ^ 8 ≠ actual) :
    openIndex cfg actual ((indexHeaderBytesV (rawFile (builtFile cfg.klen mb m)) hash vb b
        ++ indexBodyBytes (rawFile (builtFile cfg.klen mb m)) mb).take t) = .rejected := by
  have ok := rawFile_imageOK cfg.klen mb m hB.ok.klen hash hhash hsize
  apply openIndex_of_not_accept
  rw [Bool.eq_false_iff]
  intro hacc
  obtain ⟨h1, h2, _, h4⟩ := (accept_image_iff _ mb hash ok vb b cfg.klen actual t).1 hacc
  rw [List.length_append, indexHeaderBytesV_length _ _ _ _ hhash] at h
  rcases h with h | h | h
  · omega
  · exact h h2
  · exact h h4

/-- (ii) the image dumped for records `p` is rejected for a blob file of any other length (`IndexBlobSize`) -/
theorem openIndex_stale (hB : BytesOK cfg sha) {p : List Rec} (hp : RecsOK cfg p) (h3 : Sized3 cfg p)
    {mb : List Nat} {off : Nat} (hs : serializeFilters cfg.klen (filterOf cfg p) = some (mb, off))
    (actual : Nat) (hne : actual ≠ (blobBytes cfg.klen (full p)).length) :
    openIndex cfg actual (imageRecs cfg sha p mb) = .rejected := by
  have h := openIndex_family_rejected hB mb (indexOf (hdrsOf cfg p))
    (imageHash sha (fileRecs cfg p mb) mb (blobBytes cfg.klen (full p)).length) (hB.shaLen _)
    (fileRecs_size hB.ok h3 hs) 13 (blobBytes cfg.klen (full p)).length actual (imageRecs cfg sha p mb).length
    (Or.inr (Or.inr (by rw [Nat.mod_eq_of_lt (by have := hp.size; rw [pow_256_8]; omega)]; exact hne.symm)))
  rw [← fileRecs_built, ← imageOf_eq_V] at h
  exact List.take_length (l := imageRecs cfg sha p mb) ▸ h

/-- without an index file `Blob::from_file` is the regeneration of `BState.restart` -/
theorem fromFileB_none (cfg : Cfg) (x : BBlob) : fromFileB cfg x none = regenB cfg x := by
  unfold fromFileB regenB tryRegenerateB
  cases blobHeaderFromFile x.file with
  | error e => rfl
  | ok _ =>
    simp only [Bool.false_or]
    by_cases h : x.file.length > blobHeaderSize
    · simp only [h, decide_true, if_true]
      cases rawRecordsLoad cfg.klen cfg.validateData x.file <;> rfl
    · simp only [h, decide_false, Bool.false_eq_true, if_false]

/-- a rejected index file next to a blob file that holds records: the index is regenerated -/
theorem fromFileB_rejected (cfg : Cfg) (x : BBlob) (img : List Nat)
    (hr : openIndex cfg x.file.length img = .rejected) (hlen : x.file.length > blobHeaderSize) :
    fromFileB cfg x (some img) = regenB cfg x := by
  unfold fromFileB regenB tryRegenerateB
  cases blobHeaderFromFile x.file with
  | error e => rfl
  | ok _ =>
    simp only [hr, Bool.true_or, if_true, hlen]
    cases rawRecordsLoad cfg.klen cfg.validateData x.file <;> rfl

theorem rawRecordsLoad_header_only (klen : Nat) (v : Bool) :
    ∃ e, rawRecordsLoad klen v serBlobHeader = .error e := by
  refine ⟨.load .bincode, ?_⟩
  unfold rawRecordsLoad rawRecordsScan rawStart
  have : Pearl.readExactAt serBlobHeader (8 + 8) blobHeaderSize = none := by decide
  rw [this]

/-- a rejected index file next to a blob file that holds the header only: `try_regenerate_index` is called because
    `is_index_corrupted` is set, `RawRecords::start` reads past the end of the file, `from_file` fails -/
theorem fromFileB_rejected_empty (cfg : Cfg) (x : BBlob) (img : List Nat)
    (hr : openIndex cfg x.file.length img = .rejected) (hf : x.file = serBlobHeader) :
    fromFileB cfg x (some img) = none := by
  unfold fromFileB tryRegenerateB
  cases blobHeaderFromFile x.file with
  | error e => rfl
  | ok _ =>
    obtain ⟨e, he⟩ := rawRecordsLoad_header_only cfg.klen cfg.validateData
    rw [hf] at hr
    simp only [hf, hr, Bool.true_or, if_true, he]

theorem fromFileB_accepted (cfg : Cfg) (x : BBlob) (img : List Nat) (flt : Combined) (off : Nat)
    (ha : openIndex cfg x.file.length img = .accepted flt off) (hh : ∃ h, blobHeaderFromFile x.file = .ok h) :
    fromFileB cfg x (some img) = some { x with index := .disk img off, filter := flt } := by
  obtain ⟨h, hh⟩ := hh
  unfold fromFileB tryRegenerateB
  rw [hh]
  simp only [ha, Bool.false_or]
  split <;> rfl

/-- `Blob::from_file` reads the id and the blob file of the closed blob, nothing it held in memory -/
theorem fromFileB_of_file (cfg : Cfg) {x y : BBlob} (idx : Option (List Nat)) (hid : x.id = y.id)
    (hfile : x.file = y.file) : fromFileB cfg x idx = fromFileB cfg y idx := by
  cases x; cases y
  simp only at hid hfile
  subst hid; subst hfile
  rfl

theorem regenB_of_file (cfg : Cfg) {x y : BBlob} (hid : x.id = y.id) (hfile : x.file = y.file) :
    regenB cfg x = regenB cfg y := by
  cases x; cases y
  simp only at hid hfile
  subst hid; subst hfile
  rfl

theorem file_length_gt {b : CBlob} (hb : BlobInv cfg b) (hne : b.ghost ≠ []) : b.file.length > blobHeaderSize := by
  rw [hb.file]; exact blobBytes_length_gt cfg.klen b.ghost hne

theorem blobBytes_length_take_lt (klen : Nat) (recs : List Rec) (n : Nat) (hn : n < recs.length) :
    (blobBytes klen (full (recs.take n))).length < (blobBytes klen (full recs)).length := by
  have hsplit : recs = recs.take n ++ recs.drop n := (List.take_append_drop n recs).symm
  have hd : 0 < (recs.drop n).length := by rw [List.length_drop]; omega
  conv => rhs; rw [hsplit]
  rw [blobBytes_eq, blobBytes_eq, List.map_append, tailOf_append]
  simp only [List.length_append]
  have := tailOf_length_ge (blobHeaderSize + (tailOf blobHeaderSize (List.map (recOf klen) (List.take n recs))).length)
    ((recs.drop n).map (recOf klen))
  rw [List.length_map] at this
  omega

theorem regenB_toB {b : CBlob} (hb : BlobInv cfg b) :
    regenB cfg (b.toB sha) = some ((reidx cfg b).toB sha) := by
  rw [regen_toB, regen_eq hb]; rfl

/-- what the start-up needs of the blob `Blob::from_file` returns: dumping it gives the dumped blob of
    `BState.restart`, and `Blob::load_index` gives the blob with its index regenerated in memory -/
def StartsAs (cfg : Cfg) (sha : List Nat → List Nat) (x : BBlob) (b : CBlob) : Prop :=
  x.dump cfg sha = ((reidx cfg b).toB sha).dump cfg sha ∧ loadIndexOrRegenB cfg x = some ((reidx cfg b).toB sha) ∧
    x.id = b.id

theorem startsAs_dumped (hB : BytesOK cfg sha) {b : CBlob} (hb : BlobInv cfg b) (hne : b.ghost ≠ [])
    (h3 : Sized3 cfg b.ghost) {mb : List Nat} {off : Nat}
    (hs : serializeFilters cfg.klen (filterOf cfg b.ghost) = some (mb, off)) :
    StartsAs cfg sha { b.toB sha with index := .disk (imageRecs cfg sha b.ghost mb) off, filter := b.filter } b := by
  obtain ⟨himg, ⟨x, hx, sim⟩, hc⟩ := dumped_sim hB hb hne h3 hs
  have hload : (fileRecs cfg b.ghost mb).load = some (indexOf (hdrsOf cfg b.ghost)) :=
    build_load _ _ _ (indexOf_WF _)
  have hxd : ({ b.toB sha with index := .disk (imageRecs cfg sha b.ghost mb) off, filter := b.filter } : BBlob)
      = ({ b with index := .disk (fileRecs cfg b.ghost mb) mb off } : CBlob).toB sha := by
    rw [himg]; rfl
  refine ⟨?_, ?_, rfl⟩
  · rw [dump_toB, dump_reidx_eq hb hne hs, hxd]
    rfl
  · rw [himg]
    unfold loadIndexOrRegenB
    simp only [CBlob.toB, hx, Option.bind_some, load_sim sim _ hload, readMeta_sim sim, hc]
    rfl

/-- **`Blob::from_file` of a blob of a reachable state, for every index-file choice**: it fails exactly when the
    blob holds no record and an index file lies next to it; otherwise it returns a blob that starts as the one
    regenerated from the blob file -/
theorem fromFileB_choice (hB : BytesOK cfg sha) {b : CBlob} (hb : BlobInv cfg b) (h3 : Sized3 cfg b.ghost)
    {idx : Option (List Nat)} (hc : IdxChoice cfg sha b.ghost idx) :
    (b.ghost = [] ∧ idx.isSome = true → fromFileB cfg (b.toB sha) idx = none) ∧
    (¬ (b.ghost = [] ∧ idx.isSome = true) → ∃ x, fromFileB cfg (b.toB sha) idx = some x ∧ StartsAs cfg sha x b) := by
  have hok := hb.recsOK
  have hfile : (b.toB sha).file = b.file := rfl
  have hregen : ∃ x, regenB cfg (b.toB sha) = some x ∧ StartsAs cfg sha x b :=
    ⟨_, regenB_toB hb, rfl, rfl, rfl⟩
  cases hc with
  | absent =>
    refine ⟨fun h => by simp at h, fun _ => ?_⟩
    rw [fromFileB_none]
    exact hregen
  | current img h =>
    obtain ⟨hne, mb, off, hs, himg⟩ := dumpedImage_some hok h
    subst himg
    refine ⟨fun h => absurd h.1 hne, fun _ => ?_⟩
    refine ⟨_, fromFileB_accepted cfg (b.toB sha) _ b.filter off (openIndex_current hB hb hne h3 hs)
      ⟨_, by rw [hfile, hb.file]; exact blobHeader_blob cfg.klen b.ghost⟩, startsAs_dumped hB hb hne h3 hs⟩
  | stale n img hn h =>
    have hne : b.ghost ≠ [] := by intro h0; rw [h0] at hn; simp at hn
    have hpre : b.ghost.take n <+: b.ghost := List.take_prefix n b.ghost
    have hpok := hok.prefix hpre
    obtain ⟨_, mb, off, hs, himg⟩ := dumpedImage_some hpok h
    subst himg
    refine ⟨fun h => absurd h.1 hne, fun _ => ?_⟩
    rw [fromFileB_rejected cfg (b.toB sha) _ ?_ (file_length_gt hb hne)]
    · exact hregen
    · apply openIndex_stale hB hpok (h3.prefix hpre) hs
      rw [hfile, hb.file]
      exact Nat.ne_of_gt (blobBytes_length_take_lt cfg.klen b.ghost n hn)
  | rejected img h =>
    rw [blobFileLen_eq hok, ← hb.file] at h
    by_cases hne : b.ghost = []
    · refine ⟨fun _ => ?_, fun hn => absurd ⟨hne, rfl⟩ hn⟩
      apply fromFileB_rejected_empty cfg (b.toB sha) img h
      rw [hfile, hb.file, hne]
      rfl
    · refine ⟨fun h => absurd h.1 hne, fun _ => ?_⟩
      rw [fromFileB_rejected cfg (b.toB sha) img h (file_length_gt hb hne)]
      exact hregen

end
end Pearl.E2E
