import Pearl.Proofs.BlobDemo
import Pearl.Proofs.CrashLemmas
/-
Facts about the demonstration blobs `C05.recs4`, `C05.recs3` and `C05.tornData` that the instances of the
scan and crash-recovery theorems (Pearl/Props/C05.lean, C06.lean) share: lengths, timestamps, the positions of the
cuts as `CutIn` facts (from the record sizes, `blobBytes_length`), and the scan of `tornHeader`.
-/
namespace Pearl.CrashDemo
open Pearl

theorem recs4_len : (blobBytes 3 C05.recs4).length < 2 ^ 64 := by
  rw [BlobDemo.blobBytes_recs4_length]; decide

theorem recs4_ts : ∀ x ∈ C05.recs4, x.1.ts < 2 ^ 64 := by decide

/-- 16 bytes into the header of record 1 -/
theorem recs4_cut_header :
    CutIn 3 C05.recs4 1 120 ∧ 120 - (blobBytes 3 (C05.recs4.take 1)).length < headerSize 3 := by
  simp only [CutIn, blobBytes_length]; decide

/-- inside the data of record 0 -/
theorem recs4_cut_data :
    CutIn 3 C05.recs4 0 95 ∧ headerSize 3 ≤ 95 - (blobBytes 3 (C05.recs4.take 0)).length := by
  simp only [CutIn, blobBytes_length]; decide

/-- inside the meta of the deletion marker, record 2 -/
theorem recs4_cut_meta :
    CutIn 3 C05.recs4 2 255 ∧ headerSize 3 ≤ 255 - (blobBytes 3 (C05.recs4.take 2)).length := by
  simp only [CutIn, blobBytes_length]; decide

theorem recs3_len : (blobBytes 3 C05.recs3).length < 2 ^ 64 := by rw [blobBytes_length]; decide

theorem recs3_ts : ∀ x ∈ C05.recs3, x.1.ts < 2 ^ 64 := by decide

theorem tornData_length : C05.tornData.length = (blobBytes 3 C05.recs3).length - 5 := by
  unfold C05.tornData; rw [List.length_take]; omega

theorem tornData_take : C05.tornData = (blobBytes 3 C05.recs3).take C05.tornData.length := by
  rw [tornData_length]; rfl

/-- `tornData` ends inside the data of record 2 of `recs3` -/
theorem tornData_cut : CutIn 3 C05.recs3 2 C05.tornData.length ∧
    headerSize 3 ≤ C05.tornData.length - (blobBytes 3 (C05.recs3.take 2)).length := by
  simp only [tornData_length, CutIn, blobBytes_length]; decide

/-- `tornHeader` ends 10 bytes into the header of record 2 of `recs3`: the scan fails in both modes, by
    `rawRecordsLoad_cut` -/
theorem tornHeader_scan (v : Bool) : rawRecordsLoad 3 v C05.tornHeader = .error (.load .bincode) := by
  have hc : CutIn 3 C05.recs3 2 ((blobBytes 3 C05.recs3).length - 16 - 8 - 50) ∧
      (blobBytes 3 C05.recs3).length - 16 - 8 - 50 - (blobBytes 3 (C05.recs3.take 2)).length < 57 + 3 := by
    simp only [CutIn, blobBytes_length]; decide
  obtain ⟨⟨r, d⟩, hr⟩ : ∃ x, C05.recs3[2]? = some x := ⟨_, rfl⟩
  unfold C05.tornHeader
  generalize (blobBytes 3 C05.recs3).length - 16 - 8 - 50 = t at hc ⊢
  have h := rawRecordsLoad_cut 3 C05.recs3 v 2 t r d [] hr recs3_len recs3_ts hc.1 (Nat.le_of_lt hc.1.2.2)
    (fun _ => rfl) (fun _ _ => hc.1.2.2)
  rwa [List.append_nil, if_pos hc.2] at h

/-- whatever is appended to `tornData` stands behind the blob header -/
theorem tornData_append (X : List UInt8) : ∃ rest, rest ≠ [] ∧ C05.tornData ++ X = serBlobHeader ++ rest := by
  have hc := tornData_cut.1.2.1
  have h20 := blobBytes_length_ge 3 (C05.recs3.take 2)
  refine ⟨((tailOf 20 (recordsOf 3 C05.recs3)).take (C05.tornData.length - 20)) ++ X, fun h => ?_, ?_⟩
  · have hl := congrArg List.length (List.append_eq_nil_iff.mp h).1
    have hb := blobBytes_eq 3 C05.recs3
    have ht := congrArg List.length tornData_take
    rw [hb, List.length_take, List.length_append, serBlobHeader_length] at ht
    rw [List.length_take, List.length_nil] at hl
    omega
  · rw [← List.append_assoc, ← blobBytes_take_ge20 3 C05.recs3 _ (by omega), ← tornData_take]

end Pearl.CrashDemo
