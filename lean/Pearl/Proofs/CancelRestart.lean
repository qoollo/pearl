import Pearl.Proofs.CancelProduct
/-
Lemmas for C14: a blob across sessions.  What a start does to a blob is DEFINED here (`CBlob.regenIdx`, `CBlob.Accepts`,
`CBlob.restart`, `BStep`, `round`, `CStore.restartBlobs`); Pearl/Model/Cancel.lean has only `CBlob.restartRecs`.  `CBlob.restart` (`Blob::from_file`: the index file is taken
when its `blob_size` is the length of the blob file, `CBlob.Accepts`, otherwise the index is regenerated), the steps of a
blob's life (`BStep`), the orphan record that stays out of the index while every start accepts the index file
(`Hidden`, `Hidden.steps`; exactly, round after round: `rounds_orphan`), the invariant with the index file (`BlobInv2`),
and the restart of a blob whose `Blob::delete` was cut (`cut_restart_regenerates`) and of the whole storage
(`CStore.restartBlobs`, `NoIdxFiles`).
-/
namespace Pearl.Cancel
open Pearl

/-- the offsets a regeneration finds: the records of the file one after the other -/
def regenIdxFrom (c : Cfg) : Nat → List RecB → List (RecB × Nat)
  | _, [] => []
  | off, x :: xs => (x, off) :: regenIdxFrom c (off + entryLen c x) xs

theorem regenIdxFrom_map (c : Cfg) (off : Nat) (xs : List RecB) :
    (regenIdxFrom c off xs).map (·.1) = xs := by
  induction xs generalizing off with
  | nil => rfl
  | cons x xs ih => simp only [regenIdxFrom, List.map_cons, ih]

theorem regenIdxFrom_append (c : Cfg) (off : Nat) (xs ys : List RecB) :
    regenIdxFrom c off (xs ++ ys) =
      regenIdxFrom c off xs ++ regenIdxFrom c (off + (xs.map (entryLen c)).sum) ys := by
  induction xs generalizing off with
  | nil => simp [regenIdxFrom]
  | cons x xs ih =>
    simp only [List.cons_append, regenIdxFrom, ih, List.map_cons, List.sum_cons, Nat.add_assoc]

/-- the index `try_regenerate_index` builds from the blob file -/
def CBlob.regenIdx (c : Cfg) (b : CBlob) : List (RecB × Nat) := regenIdxFrom c blobHeaderSize b.frecs

/-- the index file is accepted by `Index::from_file`: present, and its `blob_size` is the length of the
    blob file -/
def CBlob.Accepts (b : CBlob) : Prop := ∃ es, b.idxFile = some (es, b.file.bytes.length)

instance (b : CBlob) : Decidable b.Accepts :=
  match h : b.idxFile with
  | none => isFalse (fun ⟨es, hes⟩ => by rw [h] at hes; cases hes)
  | some (es, bs) =>
    if hb : bs = b.file.bytes.length then isTrue ⟨es, by rw [h, hb]⟩
    else isFalse (fun ⟨es', hes⟩ => by
      rw [h] at hes
      simp only [Option.some.injEq, Prod.mk.injEq] at hes
      exact hb hes.2)

/-- `Blob::from_file` in the next session: the file is reopened (its size counter = its length); the
    index file is taken (index on disk) when it is accepted, otherwise the index is regenerated in
    memory from the file -/
def CBlob.restart (c : Cfg) (b : CBlob) : CBlob :=
  let f : Fault.FFile := ⟨b.file.bytes, b.file.bytes.length⟩
  match b.idxFile with
  | some (es, bs) =>
    if bs = b.file.bytes.length then { b with file := f, idx := es, onDisk := true }
    else { b with file := f, idx := b.regenIdx c, onDisk := false }
  | none => { b with file := f, idx := b.regenIdx c, onDisk := false }

theorem regenIdxFrom_map11 (c : Cfg) (off : Nat) (xs : List RecB) :
    (regenIdxFrom c off xs).map (fun e => e.1.1) = xs.map (fun y => y.1) := by
  rw [show (fun e : RecB × Nat => e.1.1) = (fun y : RecB => y.1) ∘ (fun e => e.1) from rfl,
    ← List.map_map, regenIdxFrom_map]

theorem restart_cases (c : Cfg) (b : CBlob) :
    (∃ es, b.idxFile = some (es, b.file.bytes.length) ∧
      b.restart c = { b with file := ⟨b.file.bytes, b.file.bytes.length⟩, idx := es, onDisk := true }) ∨
    (¬ b.Accepts ∧
      b.restart c = { b with file := ⟨b.file.bytes, b.file.bytes.length⟩, idx := b.regenIdx c, onDisk := false }) := by
  unfold CBlob.restart CBlob.Accepts
  cases b.idxFile with
  | none => exact Or.inr ⟨fun ⟨_, h⟩ => (nomatch h), rfl⟩
  | some p =>
    obtain ⟨es, bs⟩ := p
    simp only
    split
    · next heq => exact Or.inl ⟨es, by rw [heq], rfl⟩
    · next hne => exact Or.inr ⟨fun ⟨_, h⟩ => hne (Prod.mk.inj (Option.some.inj h)).2, rfl⟩

theorem restart_frecs (c : Cfg) (b : CBlob) : (b.restart c).frecs = b.frecs := by
  rcases restart_cases c b with ⟨_, _, h⟩ | ⟨_, h⟩ <;> rw [h]

theorem restart_file (c : Cfg) (b : CBlob) : (b.restart c).file = ⟨b.file.bytes, b.file.bytes.length⟩ := by
  rcases restart_cases c b with ⟨_, _, h⟩ | ⟨_, h⟩ <;> rw [h]

theorem restart_idxFile (c : Cfg) (b : CBlob) : (b.restart c).idxFile = b.idxFile := by
  rcases restart_cases c b with ⟨_, _, h⟩ | ⟨_, h⟩ <;> rw [h]

theorem restart_recs (c : Cfg) (b : CBlob) : (b.restart c).toBlob.recs = b.restartRecs := by
  unfold CBlob.restart CBlob.restartRecs CBlob.toBlob CBlob.regenIdx
  cases b.idxFile with
  | none => exact regenIdxFrom_map11 c _ _
  | some p =>
    obtain ⟨es, bs⟩ := p
    simp only
    split
    · rfl
    · exact regenIdxFrom_map11 c _ _

theorem restart_accepted (c : Cfg) (b : CBlob) (es : List (RecB × Nat))
    (h : b.idxFile = some (es, b.file.bytes.length)) :
    b.restart c = { b with file := ⟨b.file.bytes, b.file.bytes.length⟩, idx := es, onDisk := true } := by
  unfold CBlob.restart
  rw [h]
  simp only [↓reduceIte]

theorem restart_rejected (c : Cfg) (b : CBlob) (h : ¬ b.Accepts) :
    (b.restart c).idx.map (·.1) = b.frecs := by
  rcases restart_cases c b with ⟨es, hes, _⟩ | ⟨_, h2⟩
  · exact absurd ⟨es, hes⟩ h
  · rw [h2]; exact regenIdxFrom_map c _ _

theorem dump_inMemory (b : CBlob) (hd : b.onDisk = false) (hne : b.idx ≠ []) :
    b.dump = { b with onDisk := true, idxFile := some (b.idx, b.file.size) } := by
  unfold CBlob.dump
  rw [hd, List.isEmpty_eq_false_iff.mpr hne]
  rfl

theorem dump_accepts (b : CBlob) (hd : b.onDisk = false) (hne : b.idx ≠ [])
    (hs : b.file.size = b.file.bytes.length) : b.dump.Accepts :=
  ⟨b.idx, by rw [dump_inMemory b hd hne, hs]⟩

/-- a write makes the blob file longer than any `blob_size` an index file written before can carry: the next
    start does not accept that index file -/
theorem fileWrite_outgrows (c : Cfg) (y : RecB) (b : CBlob) (hs : b.file.size = b.file.bytes.length)
    (hif : ∀ es bs, b.idxFile = some (es, bs) → bs ≤ b.file.bytes.length) :
    ∀ es bs, (b.fileWrite c y).idxFile = some (es, bs) → bs < (b.fileWrite c y).file.bytes.length := by
  intro es bs hf
  obtain ⟨hlen, _, hpos⟩ := fileWrite_length c y b hs
  have := hif es bs hf
  omega

theorem toBlob_recs (b : CBlob) : b.toBlob.recs = (b.idx.map (·.1)).map (·.1) :=
  (List.map_map ..).symm

/-- what can happen to one blob, session after session -/
inductive BStep where
  /-- a record (or a deletion marker) is written to the blob and indexed: a completed `Blob::write` -/
  | write (y : RecB)
  /-- `load_index` -/
  | load
  /-- `Blob::dump` -/
  | dump
  /-- the process ends; `Blob::from_file` in the next session -/
  | restart
deriving Repr

def BStep.run (c : Cfg) : BStep → CBlob → CBlob
  | .write y, b => (b.fileWrite c y).pushWritten c y
  | .load, b => b.loadIndex
  | .dump, b => b.dump
  | .restart, b => b.restart c

def runSteps (c : Cfg) (steps : List BStep) (b : CBlob) : CBlob := steps.foldl (fun b st => st.run c b) b

/-- the records the steps write, in order -/
def writesOf : List BStep → List RecB
  | [] => []
  | .write y :: rest => y :: writesOf rest
  | _ :: rest => writesOf rest

/-- every start of the run accepts the index file it finds -/
def AllAccepted (c : Cfg) : List BStep → CBlob → Prop
  | [], _ => True
  | st :: rest, b =>
    (match st with | .restart => b.Accepts | _ => True) ∧ AllAccepted c rest (st.run c b)

/-- the record at position `pre.length` of the file is unknown to the index and to every index file
    that the next start would accept; `known ++ post` is what the index knows -/
structure Hidden (pre known : List RecB) (x : RecB) (post : List RecB) (b : CBlob) : Prop where
  size : b.file.size = b.file.bytes.length
  frecs : b.frecs = pre ++ x :: post
  idx : b.idx.map (·.1) = known ++ post
  idxFile : ∀ es bs, b.idxFile = some (es, bs) →
    bs ≤ b.file.bytes.length ∧ (bs = b.file.bytes.length → es.map (·.1) = known ++ post)

theorem Hidden.write {pre known post : List RecB} {x : RecB} {b : CBlob} (c : Cfg) (y : RecB)
    (h : Hidden pre known x post b) :
    Hidden pre known x (post ++ [y]) ((b.fileWrite c y).pushWritten c y) := by
  refine ⟨(fileWrite_length c y b h.size).2.1, ?_, ?_, ?_⟩
  · show b.frecs ++ [y] = _
    rw [h.frecs, List.append_assoc, List.cons_append]
  · show (b.idx ++ [(y, _)]).map (fun e : RecB × Nat => e.1) = _
    rw [List.map_append, h.idx, List.append_assoc]; rfl
  · intro es bs hf
    have := fileWrite_outgrows c y b h.size (fun es bs hf => (h.idxFile es bs hf).1) es bs hf
    exact ⟨Nat.le_of_lt this, fun heq => absurd heq (Nat.ne_of_lt this)⟩

theorem Hidden.write_rejects {pre known post : List RecB} {x : RecB} {b : CBlob} (c : Cfg) (y : RecB)
    (h : Hidden pre known x post b) : ¬ ((b.fileWrite c y).pushWritten c y).Accepts :=
  fun ⟨es, hes⟩ => Nat.lt_irrefl _
    (fileWrite_outgrows c y b h.size (fun es bs hf => (h.idxFile es bs hf).1) es _ hes)

theorem Hidden.load {pre known post : List RecB} {x : RecB} {b : CBlob}
    (h : Hidden pre known x post b) : Hidden pre known x post b.loadIndex :=
  ⟨h.size, h.frecs, h.idx, h.idxFile⟩

theorem Hidden.dump {pre known post : List RecB} {x : RecB} {b : CBlob}
    (h : Hidden pre known x post b) : Hidden pre known x post b.dump := by
  unfold CBlob.dump
  split
  · exact h
  · refine ⟨h.size, h.frecs, h.idx, ?_⟩
    intro es bs hf
    obtain ⟨rfl, rfl⟩ := Prod.mk.inj (Option.some.inj hf)
    exact ⟨Nat.le_of_eq h.size, fun _ => h.idx⟩

theorem Hidden.restart {pre known post : List RecB} {x : RecB} {b : CBlob} (c : Cfg)
    (h : Hidden pre known x post b) (hacc : b.Accepts) : Hidden pre known x post (b.restart c) := by
  obtain ⟨es, hes⟩ := hacc
  rw [restart_accepted c b es hes]
  exact ⟨rfl, h.frecs, (h.idxFile es _ hes).2 rfl, h.idxFile⟩

theorem Hidden.steps {pre known : List RecB} {x : RecB} (c : Cfg) (steps : List BStep) :
    ∀ {post : List RecB} {b : CBlob}, Hidden pre known x post b → AllAccepted c steps b →
      Hidden pre known x (post ++ writesOf steps) (runSteps c steps b) := by
  induction steps with
  | nil => intro post b h _; rw [show post ++ writesOf [] = post from List.append_nil _]; exact h
  | cons st rest ih =>
    intro post b h hacc
    obtain ⟨h1, h2⟩ := hacc
    cases st with
    | write y =>
      have := ih (h.write c y) h2
      rw [List.append_assoc] at this
      exact this
    | load => exact ih h.load h2
    | dump => exact ih h.dump h2
    | restart => exact ih (h.restart c h1) h2

theorem Hidden.orphan (c : Cfg) (x : RecB) (b : CBlob) (hs : b.file.size = b.file.bytes.length)
    (hif : ∀ es bs, b.idxFile = some (es, bs) → bs ≤ b.file.bytes.length) :
    Hidden b.frecs (b.idx.map (·.1)) x [] (b.fileWrite c x) := by
  refine ⟨(fileWrite_length c x b hs).2.1, rfl, (List.append_nil _).symm, ?_⟩
  intro es bs hf
  have := fileWrite_outgrows c x b hs hif es bs hf
  exact ⟨Nat.le_of_lt this, fun heq => absurd heq (Nat.ne_of_lt this)⟩

/-- one session change of a blob: its index is dumped, the process restarts; `act` = the blob is the
    active blob of the next session (its index is loaded) -/
def round (c : Cfg) (act : Bool) (b : CBlob) : CBlob :=
  if act then ((b.dump).restart c).loadIndex else (b.dump).restart c

def rounds (c : Cfg) (act : Bool) : Nat → CBlob → CBlob
  | 0, b => b
  | n + 1, b => rounds c act n (round c act b)

/-- the state of the blob after one or more rounds -/
def hiddenState (c : Cfg) (x : RecB) (b : CBlob) (act : Bool) : CBlob :=
  { b.fileWrite c x with
    onDisk := !act
    idxFile := some (b.idx, (b.fileWrite c x).file.bytes.length) }

/-- a round of a blob whose index is that of `b` and whose file is that of the orphan state, dumped or not -/
theorem round_hidden (c : Cfg) (x : RecB) (b : CBlob) (hs : b.file.size = b.file.bytes.length)
    (act : Bool) (b' : CBlob)
    (hdump : b'.dump = hiddenState c x b false) : round c act b' = hiddenState c x b act := by
  have hsz := (fileWrite_length c x b hs).2.1
  unfold round
  rw [hdump, restart_accepted c _ b.idx rfl]
  simp only [hiddenState, ← hsz]
  cases act <;> rfl

theorem hiddenState_dump (c : Cfg) (x : RecB) (b : CBlob) (hs : b.file.size = b.file.bytes.length)
    (hne : b.idx ≠ []) (act : Bool) : (hiddenState c x b act).dump = hiddenState c x b false := by
  cases act
  · rfl
  · rw [dump_inMemory (hiddenState c x b true) rfl hne]
    simp only [hiddenState, (fileWrite_length c x b hs).2.1]
    rfl

theorem rounds_hidden (c : Cfg) (x : RecB) (b : CBlob) (hs : b.file.size = b.file.bytes.length)
    (hne : b.idx ≠ []) (act act' : Bool) (n : Nat) :
    rounds c act n (hiddenState c x b act') = hiddenState c x b (if n = 0 then act' else act) := by
  induction n generalizing act' with
  | zero => rfl
  | succ n ih =>
    show rounds c act n (round c act (hiddenState c x b act')) = _
    rw [round_hidden c x b hs act _ (hiddenState_dump c x b hs hne act'), ih]
    simp

theorem rounds_orphan (c : Cfg) (x : RecB) (b : CBlob) (hs : b.file.size = b.file.bytes.length)
    (hd : b.onDisk = false) (hne : b.idx ≠ []) (act : Bool) (n : Nat) :
    rounds c act (n + 1) (b.fileWrite c x) = hiddenState c x b act := by
  have hdump : (b.fileWrite c x).dump = hiddenState c x b false := by
    rw [dump_inMemory (b.fileWrite c x) hd hne]
    simp only [hiddenState, (fileWrite_length c x b hs).2.1]
    rfl
  show rounds c act n (round c act (b.fileWrite c x)) = _
  rw [round_hidden c x b hs act _ hdump, rounds_hidden c x b hs hne]
  simp

/-- the blob built by writing the records one after the other -/
def buildFrom (c : Cfg) (b : CBlob) (xs : List RecB) : CBlob :=
  xs.foldl (fun b x => (b.fileWrite c x).push x b.file.size) b

theorem buildFrom_spec (c : Cfg) (xs : List RecB) (hm : ∀ x ∈ xs, (serMeta x.1.mt).length < 2 ^ 64) :
    ∀ (b : CBlob), BlobInv c b →
      BlobInv c (buildFrom c b xs) ∧ (buildFrom c b xs).idx = b.idx ++ regenIdxFrom c b.file.size xs ∧
      (buildFrom c b xs).frecs = b.frecs ++ xs := by
  induction xs with
  | nil => intro b hb; exact ⟨hb, (List.append_nil _).symm, (List.append_nil _).symm⟩
  | cons x xs ih =>
    intro b hb
    obtain ⟨i1, i2, i3⟩ := ih (fun y hy => hm y (List.mem_cons_of_mem _ hy)) _
      (hb.writePush x (hm x (List.mem_cons_self ..)))
    refine ⟨i1, i2.trans ?_, i3.trans ?_⟩
    · show (b.idx ++ [(x, b.file.size)]) ++ regenIdxFrom c (b.file.size + entryLen c x) xs = _
      rw [List.append_assoc]; rfl
    · show (b.frecs ++ [x]) ++ xs = _
      rw [List.append_assoc]; rfl

theorem regenIdx_loads (c : Cfg) (b : CBlob) (hb : BlobInv c b)
    (hm : ∀ x ∈ b.frecs, (serMeta x.1.mt).length < 2 ^ 64) :
    ∀ e ∈ b.regenIdx c, entryLoad b.file.bytes (hdrOf c e) =
      .ok (serMeta e.1.1.mt, (recordOf c.klen e.1.1 e.1.2).data) := by
  obtain ⟨i1, i2, i3⟩ := buildFrom_spec c b.frecs hm _ (BlobInv.new c b.id)
  intro e he
  have hbytes : (buildFrom c { id := b.id, file := ⟨serBlobHeader, blobHeaderSize⟩ } b.frecs).file.bytes =
      b.file.bytes := by
    rw [i1.bytes, i3, hb.bytes]; rfl
  rw [← hbytes]
  exact i1.loads e (i2 ▸ he)

/-- the invariant of a blob together with its index file: an index file that the next start would
    accept lists records of the file, in file order, and each of them loads -/
structure BlobInv2 (c : Cfg) (b : CBlob) : Prop where
  inv : BlobInv c b
  idxFile : ∀ es, b.idxFile = some (es, b.file.bytes.length) →
    (es.map (·.1)).Sublist b.frecs ∧
    ∀ e ∈ es, entryLoad b.file.bytes (hdrOf c e) = .ok (serMeta e.1.1.mt, (recordOf c.klen e.1.1 e.1.2).data)

theorem BlobInv2.of_none {c : Cfg} {b : CBlob} (h : BlobInv c b) (hf : b.idxFile = none) : BlobInv2 c b :=
  ⟨h, fun es hes => by rw [hf] at hes; cases hes⟩

theorem BlobInv2.dump {c : Cfg} {b : CBlob} (h : BlobInv2 c b) : BlobInv2 c b.dump := by
  unfold CBlob.dump
  split
  · exact h
  · refine ⟨⟨h.inv.bytes, h.inv.size, h.inv.sub, h.inv.loads⟩, ?_⟩
    intro es hes
    obtain ⟨rfl, _⟩ := Prod.mk.inj (Option.some.inj hes)
    exact ⟨h.inv.sub, h.inv.loads⟩

theorem BlobInv2.loadIndex {c : Cfg} {b : CBlob} (h : BlobInv2 c b) : BlobInv2 c b.loadIndex :=
  ⟨h.inv.loadIndex, h.idxFile⟩

theorem BlobInv2.restart {c : Cfg} {b : CBlob} (h : BlobInv2 c b)
    (hm : ∀ x ∈ b.frecs, (serMeta x.1.mt).length < 2 ^ 64) : BlobInv2 c (b.restart c) := by
  have hidx : ((b.restart c).idx.map (·.1)).Sublist b.frecs ∧ ∀ e ∈ (b.restart c).idx,
      entryLoad b.file.bytes (hdrOf c e) = .ok (serMeta e.1.1.mt, (recordOf c.klen e.1.1 e.1.2).data) := by
    rcases restart_cases c b with ⟨es, hes, hr⟩ | ⟨_, hr⟩ <;> rw [hr]
    · exact h.idxFile es hes
    · exact ⟨by rw [show (b.regenIdx c).map (·.1) = b.frecs from regenIdxFrom_map c _ _]; exact List.Sublist.refl _,
        regenIdx_loads c b h.inv hm⟩
  refine ⟨⟨?_, ?_, ?_, ?_⟩, ?_⟩
  · rw [restart_file, restart_frecs]; exact h.inv.bytes
  · rw [restart_file]
  · rw [restart_frecs]; exact hidx.1
  · rw [restart_file]; exact hidx.2
  · rw [restart_idxFile, restart_file, restart_frecs]
    exact h.idxFile

theorem BlobInv2.write {c : Cfg} {b : CBlob} (h : BlobInv2 c b) (y : RecB)
    (hm : (serMeta y.1.mt).length < 2 ^ 64)
    (hif : ∀ es bs, b.idxFile = some (es, bs) → bs ≤ b.file.bytes.length) :
    BlobInv2 c ((b.fileWrite c y).pushWritten c y) :=
  ⟨h.inv.writePushWritten y hm, fun es hes => absurd rfl (Nat.ne_of_lt (fileWrite_outgrows c y b h.inv.size hif es _ hes))⟩

theorem loadSel_fields (b0 b : CBlob) :
    (loadSel b0 b).file = b.file ∧ (loadSel b0 b).idxFile = b.idxFile ∧ (loadSel b0 b).frecs = b.frecs := by
  unfold loadSel
  cases b0.onDisk <;> exact ⟨rfl, rfl, rfl⟩

theorem cutB_idxFile (c : Cfg) (a : DArgs) (b0 b : CBlob) (kind : Cut) :
    (cutB c a b0 kind b).idxFile = b.idxFile := by
  cases kind
  · rfl
  · exact (loadSel_fields b0 b).2.1
  · exact (loadSel_fields b0 b).2.1

theorem cut_restart_regenerates (c : Cfg) (a : DArgs) (b : CBlob) (kind : Cut) (hk : kind ≠ .untouched)
    (hs : b.file.size = b.file.bytes.length)
    (hif : ∀ es bs, b.idxFile = some (es, bs) → bs ≤ b.file.bytes.length) :
    ¬ (cutB c a b kind b).Accepts ∧
    ((cutB c a b kind b).restart c).idx.map (·.1) = b.frecs ++ [a.entry] ∧
    ((cutB c a b kind b).restart c).toBlob.recs = b.frecs.map (·.1) ++ [a.entry.1] := by
  obtain ⟨hl1, hl2, hl3⟩ := loadSel_fields b b
  -- file, index file and record list are those of the file write, indexed or not
  have hw : (cutB c a b kind b).file = ((loadSel b b).fileWrite c a.entry).file ∧
      (cutB c a b kind b).idxFile = ((loadSel b b).fileWrite c a.entry).idxFile ∧
      (cutB c a b kind b).frecs = b.frecs ++ [a.entry] := by
    cases kind
    · exact absurd rfl hk
    · exact ⟨rfl, rfl, congrArg (· ++ [a.entry]) hl3⟩
    · exact ⟨rfl, rfl, congrArg (· ++ [a.entry]) hl3⟩
  have hrej : ¬ (cutB c a b kind b).Accepts := by
    rintro ⟨es, hes⟩
    rw [hw.1, hw.2.1] at hes
    exact Nat.lt_irrefl _ (fileWrite_outgrows c a.entry (loadSel b b) (hl1 ▸ hs) (hl1 ▸ hl2 ▸ hif) es _ hes)
  have h1 := (restart_rejected c _ hrej).trans hw.2.2
  refine ⟨hrej, h1, ?_⟩
  have := congrArg (List.map (fun y : RecB => y.1)) h1
  simpa [CBlob.toBlob, List.map_map, Function.comp_def] using this

/-- the whole storage reopened blob by blob (`Blob::from_file` on every blob file; which blob becomes the
    active one is decided at L2 by `Store.restart`) -/
def CStore.restartBlobs (c : Cfg) (s : CStore) : CStore :=
  { s with active := s.active.map (CBlob.restart c), slots := s.slots.map (·.map (CBlob.restart c)) }

/-- no blob has an index file: the next start is index-less -/
def NoIdxFiles (s : CStore) : Prop :=
  (∀ b, s.active = some b → b.idxFile = none) ∧ ∀ b, some b ∈ s.slots → b.idxFile = none

theorem toBlob_restart_none (c : Cfg) (b : CBlob) (h : b.idxFile = none) :
    (b.restart c).toBlob = b.regenBlob := by
  unfold CBlob.restart
  rw [h]
  simp only [CBlob.toBlob, CBlob.regenBlob, CBlob.regenIdx, regenIdxFrom_map11]

theorem toStore_restartBlobs (c : Cfg) (s : CStore) (h : NoIdxFiles s) :
    (s.restartBlobs c).toStore = s.regen := by
  unfold CStore.restartBlobs CStore.toStore CStore.regen
  simp only [Option.map_map, List.map_map]
  congr 1
  · cases ha : s.active with
    | none => rfl
    | some b => simp only [Option.map_some, Function.comp]; rw [toBlob_restart_none c b (h.1 b ha)]
  · apply List.map_congr_left
    intro o ho
    cases o with
    | none => rfl
    | some b => simp only [Function.comp, Option.map_some]; rw [toBlob_restart_none c b (h.2 b ho)]

theorem NoIdxFiles.prodState {c : Cfg} {a : DArgs} {kinds : Nat → Cut} {s : CStore} (h : NoIdxFiles s) :
    NoIdxFiles (prodState c a kinds s) := by
  refine ⟨h.1, fun b hb => ?_⟩
  obtain ⟨i, b0, hb0, rfl⟩ := mem_mapSlots hb
  rw [cutB_idxFile]
  exact h.2 b0 (List.mem_of_getElem? hb0)

theorem StoreInv.restartBlobs {c : Cfg} {s : CStore} (h : StoreInv c s) (hn : NoIdxFiles s)
    (hm : ∀ b, (s.active = some b ∨ some b ∈ s.slots) → ∀ x ∈ b.frecs, (serMeta x.1.mt).length < 2 ^ 64) :
    StoreInv c (s.restartBlobs c) := by
  refine ⟨fun b hb => ?_, fun b hb => ?_, h.stray⟩
  · obtain ⟨b0, hb0, rfl⟩ := Option.map_eq_some_iff.mp hb
    exact ((BlobInv2.of_none (h.active b0 hb0) (hn.1 b0 hb0)).restart (hm b0 (Or.inl hb0))).inv
  · obtain ⟨o, ho, hob⟩ := List.mem_map.mp hb
    cases o with
    | none => cases hob
    | some b0 =>
      rw [← Option.some.inj hob]
      exact ((BlobInv2.of_none (h.closed b0 ho) (hn.2 b0 ho)).restart (hm b0 (Or.inr ho))).inv

end Pearl.Cancel
