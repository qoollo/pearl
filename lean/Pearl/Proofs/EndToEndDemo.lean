import Pearl.Model.EndToEndStart
import Pearl.Model.EndToEndCfg
/-
The configurations, histories, storages and index-file directories of the demonstrations of
`Pearl/Props/EndToEnd.lean`; the facts about one storage are stated together.  The namespaces: `Demo` the base
configuration and a history without metadata, `DemoM` with metadata, `DemoRA` for `read_all`, `DemoB` at byte level
(`sha`, `s6`; the index file with an inner node is in `Pearl/Proofs/EndToEndDemoImage.lean`), `DemoS` start-up with
index files, `DemoO` off-loading, `DemoX` sessions with different bloom configurations, `DemoBad` the seeded variants of
the merge rule (`DemoRA`, `DemoBad`: `Pearl/Props/EndToEnd.lean`).

The module begins with two generic helpers, `Yields` and `Holds` (also used by `Pearl/Proofs/EndToEndCrashDemo.lean`
and the two Props files): a conjunction of statements wrapped in them is decided by ONE evaluation, while the
`Decidable` instance of each is found separately — that is what they are for.
-/
namespace Pearl.E2E
open Pearl Pearl.BPTree Pearl.Container

/-- the partial computation `o` succeeds with a value satisfying `p` — in a form that one evaluation decides -/
def Yields {α : Type} (o : Option α) (p : α → Prop) [DecidablePred p] : Prop :=
  o.map (fun a => decide (p a)) = some true

instance {α : Type} (o : Option α) (p : α → Prop) [DecidablePred p] : Decidable (Yields o p) :=
  inferInstanceAs (Decidable (_ = _))

theorem Yields.elim {α : Type} {o : Option α} {p : α → Prop} [DecidablePred p] (h : Yields o p) :
    ∃ a, o = some a ∧ p a := by
  obtain ⟨a, ha, hp⟩ := Option.map_eq_some_iff.mp h
  exact ⟨a, ha, of_decide_eq_true hp⟩

theorem Yields.map_eq {α β : Type} {o : Option α} {p : α → Prop} [DecidablePred p] (h : Yields o p) {f : α → β}
    {v : β} (hf : ∀ a, p a → f a = v) : o.map f = some v := by
  obtain ⟨a, ha, hp⟩ := h.elim
  rw [ha, Option.map_some, hf a hp]

/-- `p`, in a form whose decision procedure is found for `p` alone: a conjunction of such statements is decided by
    one evaluation however large the statements are -/
def Holds (p : Prop) [Decidable p] : Prop := decide p = true

instance (p : Prop) [Decidable p] : Decidable (Holds p) := inferInstanceAs (Decidable (_ = _))

theorem Holds.elim {p : Prop} [Decidable p] (h : Holds p) : p := of_decide_eq_true h

namespace Demo

/-- key length 1, groups of 2, a 100-bit bloom filter with two hashers, duplicates allowed (for the tie) -/
def cfg : Cfg :=
  { klen := 1, group := 2, bloom := some (⟨10, 2, 100, 1, 0⟩, 100), h := fun j k => 7 * k + 13 * j,
    allowDup := true }

end Demo

namespace DemoM

/-- two blobs; blob 0 (three records: key 1 with meta `{"m": [7]}`, key 1 without meta and newer, key 2 with meta
    `{"m": [9]}`) is closed and dumped; then key 1 is written once more with meta `{"m": [8]}`; finally
    `delete_with(2, meta {"m": [1]}, only_if_presented)` marks blob 0 (through its index file) and not blob 1 -/
def ops : List MOp :=
  [.write 1 5 (some (some [7])) ⟨2, 1⟩, .write 1 6 none ⟨1, 2⟩, .write 2 4 (some (some [9])) ⟨1, 5⟩,
   .closeActive, .settle, .write 1 7 (some (some [8])) ⟨3, 3⟩, .delete 2 9 (some (some [1])) true]

end DemoM

namespace DemoB

/-- a stand-in for SHA-256 -/
def sha : List Nat → List Nat := fun l => List.replicate 32 (l.length % 256)

/-- the byte-level storage after the first six operations of `DemoM.ops`: blob 0 has its index on disk, as bytes -/
def s6 : BState := (BState.init Demo.cfg).runB Demo.cfg sha (DemoM.ops.take 6)

end DemoB

namespace DemoS

/-- the byte-level storage after the seven operations of `DemoM.ops`: blob 0 was dumped after three records, then
    `delete_with(only_if_presented)` loaded its index and appended a marker — the index file on disk is STALE -/
def s : BState := (BState.init Demo.cfg).runB Demo.cfg DemoB.sha DemoM.ops

/-- the records of blob 0 at the end -/
def recs0 : List Rec :=
  [⟨1, 5, false, some [7], ⟨2, 1⟩⟩, ⟨1, 6, false, none, ⟨1, 2⟩⟩, ⟨2, 4, false, some [9], ⟨1, 5⟩⟩,
   ⟨2, 9, true, some [1], ⟨0, 0⟩⟩]
/-- the records of the active blob 1 at the end -/
def recs1 : List Rec := [⟨1, 7, false, some [8], ⟨3, 3⟩⟩]

/-- every blob of the L2 store of the history holds a record -/
theorem recs_ne : ∀ x ∈ ((Store.init Demo.cfg.allowDup).run (DemoM.ops.map MOp.abs)).blobs, x.recs ≠ [] := by
  decide +kernel

/-- the directory a real run leaves: next to blob 0 the image dumped when it held its first three records (stale),
    nothing next to the active blob 1 -/
def dirStale : Nat → Option (List Nat)
  | 0 => dumpedImage Demo.cfg DemoB.sha (recs0.take 3)
  | _ => none

/-- blob 0 with its CURRENT image (dumped by hand after the delete), a damaged file next to blob 1 -/
def dirCurrent : Nat → Option (List Nat)
  | 0 => dumpedImage Demo.cfg DemoB.sha recs0
  | 1 => some [1, 2, 3]
  | _ => none

/-- an index file that is accepted but is not an image of the records: the index file of blob 0 as dumped after its first three records, with ONE byte changed inside the third
    record header (byte 330: the key byte, 2 → 3).  Header, filter section, tree meta and length are untouched. -/
def badImg : List Nat := ((dumpedImage Demo.cfg DemoB.sha (recs0.take 3)).getD []).set 330 3

/-- what the demonstrations on the history `DemoM.ops` compute on the bytes, evaluated together:
    * what `openIndex` says of the stale and the current index file of blob 0;
    * the directory the history itself leaves (`runD`), before and after a restart;
    * the start-up of `DemoB.s6` (the first six operations) with the index file `badImg` -/
theorem startups :
    ((dirStale 0).map (·.length) = some 372 ∧ blobFileLen Demo.cfg recs0 = 342 ∧
      (dirStale 0).map (openIndex Demo.cfg 342) = some .rejected ∧
      (dirStale 0).map (openIndex Demo.cfg 258) ≠ some .rejected ∧
      ((dirCurrent 0).map (openIndex Demo.cfg 342)).isSome = true ∧
      (dirCurrent 0).map (openIndex Demo.cfg 342) ≠ some .rejected ∧
      openIndex Demo.cfg 107 [1, 2, 3] = .rejected) ∧
    (let ops : List OOp := DemoM.ops.map OOp.op
      let st := runD Demo.cfg DemoB.sha (BState.init Demo.cfg, fun _ => none) ops
      let st' := runD Demo.cfg DemoB.sha (BState.init Demo.cfg, fun _ => none) (ops ++ [.op (.restart false)])
      st.2 0 = dumpedImage Demo.cfg DemoB.sha (recs0.take 3) ∧ (st.2 0).isSome = true ∧ st.2 1 = none ∧
      st.1.blobs.map (fun b => (b.id, b.index.onDisk)) = [(0, false), (1, false)] ∧
      st'.2 0 = dumpedImage Demo.cfg DemoB.sha recs0 ∧ st'.2 0 ≠ st.2 0 ∧ st'.2 1 = none ∧
      st'.1.blobs.map (fun b => (b.id, b.index.onDisk)) = [(0, true), (1, false)] ∧
      st'.1.readWithOpt Demo.cfg 2 none = .ok (.deleted 9)) ∧
    (badImg.length = 372 ∧ (dumpedImage Demo.cfg DemoB.sha (recs0.take 3)).map (·[330]?) = some (some 2) ∧
      DemoB.s6.blobs.map (fun x => (x.id, x.file.length, x.index.onDisk)) = [(0, 258, true), (1, 107, false)] ∧
      acceptIndex 1 258 badImg = true ∧ openIndex Demo.cfg 258 badImg ≠ .rejected ∧
      openIndex Demo.cfg 258 badImg ≠ .panic ∧
      DemoB.s6.readWithOpt Demo.cfg 2 none = .ok (.found [5]) ∧
      Yields (DemoB.s6.restartWithIndexes Demo.cfg DemoB.sha (fun i => if i = 0 then some badImg else none) false)
        (fun b => b.readWithOpt Demo.cfg 2 none = .ok .notFound ∧
          b.readWithOpt Demo.cfg 2 (some (some [9])) = .ok .notFound ∧
          b.readWithOpt Demo.cfg 1 none = .ok (.found [3, 107, 223]) ∧
          b.blobs.map (fun x => (x.id, x.index.onDisk)) = [(0, true), (1, false)])) := by
  decide +kernel

end DemoS

namespace DemoO

/-- blob 0 (keys 1 and 5) is closed and dumped; `offload_buffer(1000, 1)` drops its bloom buffer and the one of the
    root node of the container; key 3 goes into the active blob; `offloadBlob 0` again (nothing left to free) -/
def ops : List OOp :=
  [.op (.write 1 5 none ⟨2, 1⟩), .op (.write 5 6 (some (some [4])) ⟨1, 2⟩), .op .closeActive, .op .settle,
   .offloadBuffer 1000 1, .op (.write 3 7 none ⟨1, 9⟩), .offloadBlob 0]

def s : BState := (BState.init Demo.cfg).runBO Demo.cfg DemoB.sha ops
/-- before the off-loading -/
def s4 : BState := (BState.init Demo.cfg).runBO Demo.cfg DemoB.sha (ops.take 4)

/-- `is_filter_offloaded` of the filters of the inner nodes of the container -/
def nodesOffloaded (b : BState) : List (Option Bool) :=
  b.cont.inner.map (fun o => match o with | some (FInner.node n) => n.filter.map Combined.isOffloaded | _ => none)

/-- the demonstrations of off-loading, stated together: what
    `offload_buffer` frees and leaves; the off-loaded filter of blob 0 still prunes; the
    start-up with the index file of blob 0 re-reads the filter -/
theorem offloading :
    Holds ((s4.offloadBuffer Demo.cfg 1000 1).2 = 32 ∧ (s4.offloadBuffer Demo.cfg 1000 0).2 = 16 ∧
      s4.blobs.map (fun b => (b.id, b.index.onDisk, b.filter.isOffloaded, b.filter.memoryAllocated))
        = [(0, true, false, 16)] ∧
      s.blobs.map (fun b => (b.id, b.index.onDisk, b.filter.isOffloaded, b.filter.memoryAllocated))
        = [(0, true, true, 0), (1, false, false, 16)] ∧
      nodesOffloaded s4 = [some false, none] ∧ nodesOffloaded s = [some true, none]) ∧
    Holds ((s.blobs.head?.map (fun b => (b.checkFilter Demo.cfg 1, b.checkFilter Demo.cfg 3, b.checkFilter Demo.cfg 5)))
        = some (.needAdditionalCheck, .notContains, .needAdditionalCheck)) ∧
    Holds (let dir : Nat → Option (List Nat) := fun i =>
        if i = 0 then dumpedImage Demo.cfg DemoB.sha [⟨1, 5, false, none, ⟨2, 1⟩⟩, ⟨5, 6, false, some [4], ⟨1, 2⟩⟩]
        else none
      (s.restartWithIndexes Demo.cfg DemoB.sha dir true).map
        (fun b => (b.blobs.map (fun x => (x.id, x.index.onDisk, x.filter.isOffloaded)),
          (b.offloadBuffer Demo.cfg 1000 1).1.readWithOpt Demo.cfg 5 (some (some [4]))))
        = some ([(0, true, false), (1, true, false)], .ok (.found [2]))) := by
  decide +kernel

end DemoO

namespace DemoX

/-- four sessions on one directory: 2 hashers / 100 bits, then 3 hashers / 64 bits, then NO bloom filter, then
    2 hashers / 100 bits again; every session writes one blob, closes and dumps it; the last start-up is not lazy -/
def ops : List XOp :=
  [.op (.write 1 5 ⟨2, 1⟩), .op (.write 2 6 ⟨1, 2⟩), .op .closeActive, .op .settle,
   .restartWith (some (⟨10, 3, 64, 1, 0⟩, 64)) true,
   .op (.write 3 7 ⟨1, 3⟩), .op .closeActive, .op .settle,
   .restartWith none true,
   .op (.write 4 8 ⟨1, 4⟩), .op .closeActive, .op .settle,
   .restartWith (some (⟨10, 2, 100, 1, 0⟩, 100)) false,
   .op (.write 5 9 ⟨1, 5⟩), .op (.delete 2 10 false)]

def x : XState := (XState.init Demo.cfg).run ops

/-- hasher count and bit count of the bloom part of a filter (`none` = no bloom part) -/
def geom (c : Combined) : Option (Nat × Nat) := c.bloom.map (fun b => (b.k, b.bits))

/-- the storage of the last session: the geometries of the blob filters, the node filters, and the path of key 3 to
    blob 1 -/
theorem last_session :
    Holds (x.st.blobs.map (fun b => (b.id, b.index.onDisk, geom b.filter))
        = [(0, false, some (2, 100)), (1, true, some (3, 64)), (2, false, some (0, 0))] ∧
      x.cfg.bloom = some (⟨10, 2, 100, 1, 0⟩, 100)) ∧
    Holds ((x.st.cont.inner.filterMap (fun o => match o with
        | some (.node n) => some (n.filter.map geom)
        | _ => none)) = [none, none]) ∧
    Holds ((x.st.cont.getChild 1).map (fun lf => (lf.data.id, lf.data.ghost.map (·.key))) = some (1, [3]) ∧
      Container.leavesBelow x.st.cont (x.st.cont.inner.length + 2) x.st.cont.root = [0, 1] ∧
      (x.st.consulted x.cfg 3).map (·.id) = [2, 1, 0]) := by
  decide +kernel

end DemoX

end Pearl.E2E
