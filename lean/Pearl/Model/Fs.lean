import Pearl.Model.Ops
import Pearl.Model.Worker
import Pearl.Model.Record
/-
L6: the file / trace layer.  Every driver-level operation is given an *event-emitting* semantics:
`emit : FsState → FsOp → FsState × List Event`, where the events are the file operations the
implementation issues through `src/io/unix/sync.rs` (`IoDriver::create` / `IoDriver::open`,
the positional writes of `write_append_writable_data` / `write_append_all` / `write_all_at`, and
`sync_all` inside `File::fsyncdata`), in the order the `pearl_verif` tap records them at quiescence
(worker queue drained, background tasks finished).

Sources, function by function:
* `File` (`sync.rs`): `size` is advanced by `fetch_add` *before* the pwrite, so the offset of a write is
  the size before it; `fsyncdata` captures `size` before `sync_all` and publishes it with `fetch_max`;
  `open` = append mode with `size = synced_size = file length`, `create` = positional, both counters 0.
* `Blob::open_new` = create, `write_header` (20 bytes at 0), `fsyncdata`.
* `Blob::write` / `write_mut`: one pwrite when header+meta+data ≤ `MAX_SINGLE_PASS_DATA_SIZE`, else two.
* `Blob::dump` = nothing when the index is on disk, else `fsyncdata` of the blob file and
  `index.dump(file_size)`; `dump_in_memory` does nothing without headers; `BPTreeFileIndex::from_records` =
  create, `write_append_all(buffer)`, `write_all_at(0, header with the written bit)`, `fsyncdata`.
* `Storage::write_with_optional_meta`, `delete_core`, `Inner::fsyncdata`, `close_active_blob`,
  `try_close_active_blob` (which *always* sends `TryDumpBlobIndexes`), `force_update_active_blob`,
  `free_excess_resources`, `Storage::close`, `init_from_existing`.
* `ObserverWorker::process_msg` at quiescence: no dump task and no fsync task is running when a
  message arrives, so `TryDumpBlobIndexes` always starts a pass over the closed blobs and `TryFsyncData`
  always runs `Inner::fsyncdata`.

Index files are traced without lengths: `write (index i) off 0` is the buffer written by
`write_append_all`, `sync (index i) 0` its `fsyncdata`, and `idxHeader i bs w` the header rewrite
at offset 0 carrying the `blob_size` field `bs` and the `written` bit `w`.
-/
namespace Pearl

inductive FileId where
  | blob (id : Nat)
  | index (id : Nat)
deriving DecidableEq, Repr, Inhabited

inductive Event where
  /-- `IoDriver::create` (positional writes, counters start at 0) -/
  | create (f : FileId)
  /-- `IoDriver::open` (append mode, counters start at the file length) -/
  | open (f : FileId)
  /-- one positional write -/
  | write (f : FileId) (off len : Nat)
  /-- `sync_all`; `size` is what gets published as synced (captured before the call) -/
  | sync (f : FileId) (size : Nat)
  /-- the index header rewritten at offset 0: `blob_size` field and `written` bit -/
  | idxHeader (id : Nat) (blobSize : Nat) (written : Bool)
deriving DecidableEq, Repr, Inhabited

/-- the file an event touches -/
def Event.file : Event → FileId
  | .create f => f
  | .open f => f
  | .write f _ _ => f
  | .sync f _ => f
  | .idxHeader id _ _ => .index id

/-- `FileInner` counters of a blob file -/
structure FileS where
  size : Nat
  synced : Nat
  appendMode : Bool
deriving DecidableEq, Repr, Inhabited

/-- `File::dirty_bytes` -/
def FileS.dirty (f : FileS) : Nat := f.size - f.synced

namespace Fs

/-- header + meta of a record: the first buffer of a two-pass write -/
def recHead (klen : Nat) (r : Rec) : Nat := headerSize klen + (serMeta r.mt).length

/-- payload length: a deletion marker carries no data -/
def recData (r : Rec) : Nat := if r.del then 0 else r.data.len

/-- bytes a record occupies in the blob file (`57 + klen + |meta| + data`) -/
def recLen (klen : Nat) (r : Rec) : Nat := recHead klen r + recData r

/-- lengths of the pwrites of one record (`to_partially_serialized_and_header` + `write_data`) -/
def recWrites (klen : Nat) (r : Rec) : List Nat :=
  if recLen klen r ≤ MAX_SINGLE_PASS_DATA_SIZE then [recLen klen r] else [recHead klen r, recData r]

/-- length of a blob file holding these records -/
def contentLen (klen : Nat) (recs : List Rec) : Nat := blobHeaderSize + (recs.map (recLen klen)).sum

/-- consecutive writes starting at `off` -/
def writesAt (f : FileId) : Nat → List Nat → List Event
  | _, [] => []
  | off, n :: ns => .write f off n :: writesAt f (off + n) ns

/-! ### the disk: file counters and index files -/

/-- blob-file counters by blob id; index files by blob id with the `blob_size` field of their header -/
structure Disk where
  files : Nat → Option FileS := fun _ => none
  idx : Nat → Option Nat := fun _ => none

def Disk.setFile (d : Disk) (id : Nat) (f : FileS) : Disk :=
  { d with files := fun j => if j = id then some f else d.files j }

def Disk.setIdx (d : Disk) (id : Nat) (bs : Nat) : Disk :=
  { d with idx := fun j => if j = id then some bs else d.idx j }

/-- primitive file-level actions -/
inductive Act where
  /-- `Blob::open_new`: create, header, fsync -/
  | createBlob (id : Nat)
  /-- one record appended with the given pwrite lengths -/
  | append (id : Nat) (lens : List Nat)
  /-- `File::fsyncdata` on the blob file -/
  | syncBlob (id : Nat)
  /-- `Blob::dump` of a blob whose index is in memory: fsync of the blob file, then (if the index
      holds headers) the index file -/
  | dump (id : Nat) (withIndex : Bool)
  /-- `IoDriver::open` of the blob file -/
  | openBlob (id : Nat)
  /-- `IoDriver::open` of the index file -/
  | openIdx (id : Nat)
deriving DecidableEq, Repr, Inhabited

/-- an action is *enabled* when the file it needs exists (resp. does not exist yet);
    `Disk.exec` ignores a disabled action, `Pearl.no_action_dropped` (Props/C07) shows that none is ever issued -/
def Act.enabled (d : Disk) : Act → Bool
  | .createBlob id => (d.files id).isNone
  | .append id _ => (d.files id).isSome
  | .syncBlob id => (d.files id).isSome
  | .dump id _ => (d.files id).isSome
  | .openBlob id => (d.files id).isSome
  | .openIdx id => (d.idx id).isSome

def Disk.exec (d : Disk) : Act → Disk × List Event
  | .createBlob id =>
    match d.files id with
    | some _ => (d, [])
    | none =>
      (d.setFile id { size := blobHeaderSize, synced := blobHeaderSize, appendMode := false },
        [.create (.blob id), .write (.blob id) 0 blobHeaderSize, .sync (.blob id) blobHeaderSize])
  | .append id lens =>
    match d.files id with
    | none => (d, [])
    | some f => (d.setFile id { f with size := f.size + lens.sum }, writesAt (.blob id) f.size lens)
  | .syncBlob id =>
    match d.files id with
    | none => (d, [])
    | some f => (d.setFile id { f with synced := max f.synced f.size }, [.sync (.blob id) f.size])
  | .dump id withIndex =>
    match d.files id with
    | none => (d, [])
    | some f =>
      let d1 := d.setFile id { f with synced := max f.synced f.size }
      if withIndex then
        (d1.setIdx id f.size,
          [.sync (.blob id) f.size, .create (.index id), .write (.index id) 0 0,
           .idxHeader id f.size true, .sync (.index id) 0])
      else (d1, [.sync (.blob id) f.size])
  | .openBlob id =>
    match d.files id with
    | none => (d, [])
    | some f => (d.setFile id { size := f.size, synced := f.size, appendMode := true }, [.open (.blob id)])
  | .openIdx id =>
    match d.idx id with
    | none => (d, [])
    | some _ => (d, [.open (.index id)])

def Disk.runActs (d : Disk) : List Act → Disk × List Event
  | [] => (d, [])
  | a :: as =>
    let (d1, e1) := d.exec a
    let (d2, e2) := d1.runActs as
    (d2, e1 ++ e2)

/-! ### the state -/

structure FsState where
  store : Store := {}
  disk : Disk := {}
  /-- `max_dirty_bytes_before_sync` -/
  limit : Nat := 33554432
  klen : Nat := 4
  /-- `deferred_index_dump_info.is_some()` in the worker -/
  deferred : Bool := false
  isOpen : Bool := true
  /-- `false` = /repo up to 62e8e7f: the explicit `Storage::fsyncdata` goes through `Inner::fsyncdata`,
      which returns without syncing while the dirty bytes are within the limit (defect E13);
      `true` = /repo since 2b9bef3 ("explicit Storage::fsyncdata always syncs the active blob") -/
  explicitFsyncUnconditional : Bool := false
  /-- `false` = /repo before 0ede233: `restore_active_blob` makes the last closed blob active as it is,
      with whatever un-synced bytes it collected while closed (deletion markers);
      `true` = /repo since 0ede233 ("a restored active blob respects the dirty bytes limit at once"):
      after `load_index`, `if too_many_dirty_bytes(blob.file_dirty_bytes()) { blob.fsyncdata() }` -/
  restoreSyncsOverLimit : Bool := true

/-- un-synced bytes of a blob file -/
def FsState.dirtyOf (s : FsState) (id : Nat) : Nat :=
  match s.disk.files id with
  | some f => f.dirty
  | none => 0

/-- what the `dirty` probe shows -/
def FsState.activeDirty (s : FsState) : Option Nat := s.store.active.map (fun a => s.dirtyOf a.id)

/-! ### programs: sequences of action batches and state updates -/

abbrev Prog := FsState → FsState × List Event

def skip : Prog := fun s => (s, [])

/-- run a batch of actions computed from the current state -/
def acts (f : FsState → List Act) : Prog := fun s =>
  let r := s.disk.runActs (f s)
  ({ s with disk := r.1 }, r.2)

/-- update everything but the disk -/
def modify (g : FsState → FsState) : Prog := fun s => ({ g s with disk := s.disk }, [])

def seq (p q : Prog) : Prog := fun s =>
  let r1 := p s
  let r2 := q r1.1
  (r2.1, r1.2 ++ r2.2)

def cond (c : FsState → Bool) (p q : Prog) : Prog := fun s => if c s then p s else q s

infixl:60 " ⨾ " => seq

def modStore (g : Store → Store) : Prog := modify fun s => { s with store := g s.store }

/-! ### building blocks -/

/-- every change of the L2 state is an `Op` of `Pearl.Store.apply` -/
def applyP (op : Op) : Prog := modStore fun st => st.apply op

/-- `Blob::open_new` with the next id, then the L2 operation that installs the new blob
    (`createActive` without an active blob, or `replaceActive`) -/
def newBlobP (op : Op) : Prog :=
  acts (fun s => [.createBlob s.store.nextId]) ⨾ applyP op

/-- `ensure_active_blob_exists` / `create_active_blob` -/
def ensureActiveP : Prog :=
  cond (fun s => s.store.active.isNone) (newBlobP .createActive) skip

/-- one pass of `Safe::try_dump_old_blob_indexes`: every closed blob whose index is in memory, in
    container order -/
def dumpActs (st : Store) : List Act :=
  (st.closed.filter (fun b => !b.onDisk)).map (fun b => Act.dump b.id (!b.recs.isEmpty))

def dumpPassP : Prog := acts (fun s => dumpActs s.store) ⨾ applyP .settle

/-- `should_try_fsync` → `TryFsyncData` → `Inner::fsyncdata` (re-checks `too_many_dirty_bytes`) -/
def fsyncCheckP : Prog :=
  acts fun s =>
    match s.store.active with
    | some a => if s.dirtyOf a.id > s.limit then [.syncBlob a.id] else []
    | none => []

/-- `TryUpdateActiveBlob` taking effect: new active blob, the old one becomes closed *without* fsync;
    the dump pass runs unless a deferred dump is registered -/
def rotateP : Prog :=
  newBlobP .replaceActive ⨾ cond (fun s => s.deferred) skip dumpPassP

def writeRec (k : Key) (ts : Nat) (m : Option Meta) (d : Data) : Rec :=
  { key := k, ts := ts, del := false, mt := m.getD none, data := d }

def markerRec (k : Key) (ts : Nat) (m : Option Meta) : Rec :=
  { key := k, ts := ts, del := true, mt := m.getD none, data := ⟨0, 0⟩ }

/-- `Storage::write_with_optional_meta`; `rot` = the `TryUpdateActiveBlob` it sent replaced the blob.
    A write rejected as a duplicate returns before the rotation and fsync checks. -/
def writeP (k : Key) (ts : Nat) (m : Option Meta) (d : Data) (rot : Bool) : Prog :=
  ensureActiveP ⨾
  cond (fun s => !s.store.allowDup && (s.store.getLatestEntry k m).isFound) skip
    (acts (fun s => match s.store.active with
        | some a => [.append a.id (recWrites s.klen (writeRec k ts m d))]
        | none => []) ⨾
     applyP (.write k ts m d) ⨾
     (if rot then rotateP else fsyncCheckP))

/-- pwrites of `delete_in_active` then `delete_in_closed` (container order) -/
def deleteActs (klen : Nat) (st : Store) (k : Key) (ts : Nat) (m : Option Meta) (oip : Bool) : List Act :=
  let w := recWrites klen (markerRec k ts m)
  (match st.active with
    | some a => if !oip || (a.getLatest k).isFound then [Act.append a.id w] else []
    | none => []) ++
  (st.closed.filter (fun b => (b.getLatest k).isFound)).map (fun b => Act.append b.id w)

/-- `deleted_in_closed > 0` → `DeferredDumpBlobIndexes` -/
def noteDeferredP (k : Key) : Prog :=
  modify fun s => { s with deferred := s.deferred || (s.store.closed.any fun b => (b.getLatest k).isFound) }

/-- `Storage::delete_with_optional_meta` -/
def deleteP (k : Key) (ts : Nat) (m : Option Meta) (oip : Bool) : Prog :=
  (if oip then skip else ensureActiveP) ⨾
  acts (fun s => deleteActs s.klen s.store k ts m oip) ⨾
  noteDeferredP k ⨾
  applyP (.delete k ts m oip) ⨾
  fsyncCheckP

/-- `try_close_active_blob` / `close_active_blob_in_background`: `Inner::close_active_blob`
    (fsync, push), then `TryDumpBlobIndexes` whatever the outcome -/
def closeActiveP : Prog :=
  acts (fun s => match s.store.active with | some a => [.syncBlob a.id] | none => []) ⨾
  applyP .closeActive ⨾
  dumpPassP

def createActiveP : Prog := ensureActiveP

/-- does `restore_active_blob` succeed (no active blob, some closed blob) -/
def restoreOk (st : Store) : Bool :=
  match st.restoreActive with
  | .ok _ => true
  | .error _ => false

/-- `restore_active_blob`: `load_index` only reads; since /repo 0ede233 the restored blob is fsynced when
    its un-synced bytes are strictly above the limit (one `sync` publishing the current file size).
    A failing call (`ActiveBlobExists`, `Uninitialized`) returns before any of this. -/
def restoreActiveP : Prog :=
  cond (fun s => restoreOk s.store)
    (applyP .restoreActive ⨾ cond (fun s => s.restoreSyncsOverLimit) fsyncCheckP skip)
    skip

/-- `force_update_active_blob(pred)` -/
def forceP (pred : BlobPred) : Prog :=
  cond (fun s => pred s.store.activeStat) (newBlobP .replaceActive) skip ⨾ dumpPassP

/-- closed non-empty blobs whose index is still in memory (what the `settle` command waits for) -/
def pending (st : Store) : Bool := st.closed.any fun b => !b.recs.isEmpty && !b.onDisk

def settleP : Prog := cond (fun s => pending s.store) dumpPassP skip

/-- `Storage::fsyncdata` -/
def fsyncP : Prog :=
  acts fun s =>
    match s.store.active with
    | some a =>
      if s.explicitFsyncUnconditional || decide (s.dirtyOf a.id > s.limit) then [.syncBlob a.id] else []
    | none => []

/-- `Storage::close`: dump of the active blob only -/
def closeP : Prog :=
  acts (fun s => match s.store.active with
    | some a => [.dump a.id (!a.recs.isEmpty)]
    | none => []) ⨾
  modify (fun s => { s with isOpen := false })

/-- is the index file of this blob usable on open (`validate`: `blob_size` field = file length) -/
def idxValid (d : Disk) (id : Nat) : Bool :=
  match d.idx id, d.files id with
  | some bs, some f => bs == f.size
  | _, _ => false

/-- `init_from_existing`: every blob and index file is opened (canonical order: by id), the last blob
    becomes active unless `lazy`, every other blob whose index could not be used is dumped -/
def openActs (d : Disk) (st : Store) (lazy : Bool) : List Act :=
  let bs := Store.sortById st.blobs
  let rest := if lazy then bs else bs.dropLast
  bs.flatMap (fun b => if (d.idx b.id).isSome then [Act.openBlob b.id, Act.openIdx b.id] else [Act.openBlob b.id]) ++
  (rest.filter (fun b => !idxValid d b.id)).map (fun b => Act.dump b.id (!b.recs.isEmpty))

def openP (lazy : Bool) : Prog :=
  acts (fun s => openActs s.disk s.store lazy) ⨾
  applyP (.restart lazy) ⨾
  modify (fun s => { s with deferred := false, isOpen := true })

/-! ### operations -/

inductive FsOp where
  | write (k : Key) (ts : Nat) (m : Option Meta) (d : Data) (rot : Bool)
  | delete (k : Key) (ts : Nat) (m : Option Meta) (oip : Bool)
  /-- also `close_active_blob_in_background` -/
  | closeActive
  | createActive
  | restoreActive
  | force (pred : BlobPred)
  /-- `free_excess_resources` -/
  | free
  | settle
  | fsync
  | restart (lazy : Bool)
  | close
  | open (lazy : Bool)
  /-- `read`, `read_with`, `contains`, `read_all`, `read_all_with_deletion_marker` and the counters -/
  | query

def prog : FsOp → Prog
  | .write k ts m d rot => writeP k ts m d rot
  | .delete k ts m oip => deleteP k ts m oip
  | .closeActive => closeActiveP
  | .createActive => createActiveP
  | .restoreActive => restoreActiveP
  | .force pred => forceP pred
  | .free => dumpPassP
  | .settle => settleP
  | .fsync => fsyncP
  | .restart lazy => closeP ⨾ openP lazy
  | .close => closeP
  | .open _ => skip
  | .query => skip

/-- one driver-level step, run to quiescence -/
def emit (s : FsState) (op : FsOp) : FsState × List Event :=
  if s.isOpen then prog op s
  else
    match op with
    | .open lazy => openP lazy s
    | _ => (s, [])

/-- `Builder::build` + `init` on an empty directory (`init_new`) -/
def init (allowDup : Bool) (limit klen : Nat) (unconditional restoreSyncs : Bool) : FsState × List Event :=
  newBlobP .createActive
    { store := { allowDup := allowDup }, limit := limit, klen := klen,
      explicitFsyncUnconditional := unconditional, restoreSyncsOverLimit := restoreSyncs }

/-- run a list of operations, collecting the trace -/
def runFrom (st : FsState × List Event) (ops : List FsOp) : FsState × List Event :=
  ops.foldl (fun acc op => let r := emit acc.1 op; (r.1, acc.2 ++ r.2)) st

def run (allowDup : Bool) (limit klen : Nat) (unconditional restoreSyncs : Bool) (ops : List FsOp) :
    FsState × List Event :=
  runFrom (init allowDup limit klen unconditional restoreSyncs) ops

/-! ### printing (the `trace` and `dirty` lines of the harness) -/

def showFile : FileId → String
  | .blob id => s!"b{id}"
  | .index id => s!"i{id}"

def showEvent : Event → String
  | .create f => "C" ++ showFile f
  | .open f => "O" ++ showFile f
  | .write (.blob id) off len => s!"Wb{id}:{off}:{len}"
  | .write (.index id) off _ => s!"Wi{id}:{off}:*"
  | .sync (.blob id) n => s!"Sb{id}:{n}"
  | .sync (.index id) _ => s!"Si{id}"
  | .idxHeader id bs w => s!"Wi{id}:hdr:bs={bs}:w={if w then 1 else 0}"

def showTrace (evs : List Event) : String := "#trace " ++ " ".intercalate (evs.map showEvent)

def showDirty (s : FsState) : String :=
  match s.activeDirty with
  | some n => s!"dirty {n}"
  | none => "dirty -"

end Fs
end Pearl
