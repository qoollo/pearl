import Pearl.Proofs.CrashDemo
/-
C05 "Byte integrity": property theorems of the byte layer (L5), each with a non-vacuity example.

Model: Pearl/Model/{Bytes,Crc,Record}.lean.  The demo blobs `recs4`, `recs3`, `tornData`, `tornHeader` are defined in
Pearl/Proofs/BlobDemo.lean with the tables of their index headers; the facts about them that the instances of the scan
theorems use (cut positions, `tornHeader_scan`) are in Pearl/Proofs/CrashDemo.lean.

A theorem whose name ends in `_partial` is the true version, with an extra hypothesis, of a statement that is false
without it; the refutation stands next to it.
-/
namespace Pearl.C05
open Pearl

/-! small concrete objects for the examples (the record of the unit tests in src/record/record.rs) -/

/-- key [0,0,1], timestamp 101, empty meta, 16 data bytes; checksums left 0 where they do not matter -/
def hdr001 : RecHeader := RecHeader.new [0, 0, 1] 101 8 16 0
def rec001 : Record := { header := hdr001, mt := none, data := sq16 }

/-! ## the write path does not depend on the Single / Double split -/

/-- For every record, offset and threshold: the bytes handed to the file (one buffer or two) are the
    plain serialisation of the header with `blob_offset := off` and the checksum of that header computed
    over a zero checksum field, then the meta, then the data; the checksum returned to `Blob::write` is the
    one in those bytes; and the reservation `len()` is the length of those bytes. -/
theorem write_path_independent (r : Record) (off maxSinglePass : Nat) :
    let h0 : RecHeader := { r.header with blobOffset := off, headerChecksum := 0 }
    let h' : RecHeader := { r.header with blobOffset := off, headerChecksum := crc32c (serHeader h0) }
    let bytes := serHeader h' ++ serMeta r.mt ++ r.data
    (writableOf (toPartial r maxSinglePass) off).1.bytes = bytes ∧
    (writableOf (toPartial r maxSinglePass) off).2 = h'.headerChecksum ∧
    (toPartial r maxSinglePass).len = bytes.length := by
  intro h0 h' bytes
  have h := writableWith_toPartial crc32c r off maxSinglePass
  refine ⟨h.1, h.2, ?_⟩
  rw [toPartial_len]
  simp only [bytes, List.length_append, serHeader_length]
  rfl

/-- the file content after the write is `file ++ bytes` (one `pwrite` or two), the same for every threshold -/
theorem write_path_file (file : List UInt8) (r : Record) (maxSinglePass : Nat) :
    appendRecord file r maxSinglePass =
      file ++ (serHeader (r.header.final file.length) ++ (serMeta r.mt ++ r.data)) :=
  appendRecord_eq file r maxSinglePass

/-- non-vacuity: both shapes occur for the same record, and they differ as values -/
example : (toPartial rec001 10).data = some sq16 ∧ (toPartial rec001 4096).data = none ∧
    (toPartial rec001 10).buf ≠ (toPartial rec001 4096).buf := by decide

/-! ## the in-place patch equals re-serialisation -/

/-- for an arbitrary checksum function -/
theorem patch_eq_serialize (crc : List UInt8 → UInt32) (h : RecHeader) (rest : List UInt8) (off : Nat) :
    let c := crc (serHeader { h with blobOffset := off, headerChecksum := 0 })
    finalizeWith crc (serHeader h ++ rest) (headerSize h.key.length) off =
      (serHeader { h with blobOffset := off, headerChecksum := c } ++ rest, c) := by
  intro c
  have := finalizeWith_serHeader crc h rest off
  rwa [serHeader_length] at this

/-- the instance the code runs (`finalize_with_checksum`, offsets `len - 24` and `len - 4`) -/
theorem patch_eq_serialize_crc32c (h : RecHeader) (rest : List UInt8) (off : Nat) :
    finalizeWithChecksum (serHeader h ++ rest) (headerSize h.key.length) off =
      (serHeader (h.final off) ++ rest, (h.final off).headerChecksum) :=
  patch_eq_serialize crc32c h rest off

/-- non-vacuity: the patch changes the buffer -/
example : (finalizeWith (fun _ => 7) (serHeader hdr001 ++ [1, 2]) (headerSize 3) 300).1
    ≠ serHeader hdr001 ++ [1, 2] := by decide

/-! ## parsing inverts serialisation -/

theorem parse_ser_header (klen : Nat) (h : RecHeader) (rest : List UInt8)
    (hk : h.key.length = klen) (hr : h.InRange) : parseHeader klen (serHeader h ++ rest) = some h :=
  parseHeader_serHeader klen h rest hk hr

theorem serHeader_size (h : RecHeader) : (serHeader h).length = headerSize h.key.length :=
  serHeader_length h

theorem parse_ser_blob_header (b : BlobHeader) (rest : List UInt8) (hr : b.InRange) :
    parseBlobHeader (serBlobHeader b ++ rest) = some b :=
  parseBlobHeader_ser b rest hr

/-- the blob header `Blob::open_new` writes is read back and accepted by `Header::from_file` -/
theorem blob_header_roundtrip (rest : List UInt8) :
    blobHeaderFromFile (serBlobHeader ++ rest) = .ok BlobHeader.new :=
  blobHeaderFromFile_ser rest

/-- non-vacuity: hypotheses hold for the unit-test header; and the range hypothesis is needed -/
example : hdr001.key.length = 3 ∧ hdr001.InRange ∧ BlobHeader.new.InRange := by decide
example : parseHeader 3 (serHeader { hdr001 with timestamp := 2 ^ 64 }) ≠
    some { hdr001 with timestamp := 2 ^ 64 } := by decide

/-! ## CRC-32C detects every change confined to 32 consecutive bits -/

/-- two bit strings that agree outside a window of at most 32 bits and differ inside it leave different
    CRC registers, for every start value, prefix and suffix -/
theorem crc_window (init : BitVec 32) (p w1 w2 sfx : List Bool)
    (hl : w1.length = w2.length) (h32 : w1.length ≤ 32) (hne : w1 ≠ w2) :
    Crc.runD init (p ++ w1 ++ sfx) ≠ Crc.runD init (p ++ w2 ++ sfx) :=
  Crc.crc_window_bits init p w1 w2 sfx hl h32 hne

/-- byte level: equal length, equal outside the positions `i, i+1, i+2, i+3`, not equal -/
theorem crc32c_detects_window (a b : List UInt8) (hlen : a.length = b.length) (i : Nat)
    (hout : ∀ j, (j < i ∨ i + 4 ≤ j) → a[j]? = b[j]?) (hne : a ≠ b) : crc32c a ≠ crc32c b :=
  crc32c_window_pos a b hlen i hout hne

theorem crc32c_detects_window_split (p w1 w2 s : List UInt8) (hl : w1.length = w2.length)
    (h4 : w1.length ≤ 4) (hne : w1 ≠ w2) : crc32c (p ++ w1 ++ s) ≠ crc32c (p ++ w2 ++ s) :=
  crc32c_window_split p w1 w2 s hl h4 hne

/-- bit level: any window of at most 32 consecutive bits of the processing order
    (bytes in order, least significant bit first), not necessarily byte aligned -/
theorem crc32c_detects_bit_window (a b : List UInt8) (p w1 w2 s : List Bool)
    (ha : Crc.bitsOf a = p ++ w1 ++ s) (hb : Crc.bitsOf b = p ++ w2 ++ s)
    (hl : w1.length = w2.length) (h32 : w1.length ≤ 32) (hne : w1 ≠ w2) : crc32c a ≠ crc32c b := by
  apply crc32c_ne_of_runD_ne
  rw [ha, hb]
  exact crc_window _ p w1 w2 s hl h32 hne

/-- non-vacuity -/
example : crc32c [1, 2, 3, 4, 5, 6] ≠ crc32c [1, 9, 9, 9, 9, 6] :=
  crc32c_detects_window_split [1] [2, 3, 4, 5] [9, 9, 9, 9] [6] rfl (by decide) (by decide)
-- the bound is tight: a 33-bit window (the generator polynomial) goes undetected
set_option maxRecDepth 100000 in
example : crc32c [0xF1, 0x76, 0xEC, 0x05, 0x01] = crc32c [0, 0, 0, 0, 0] := by decide +kernel
-- the check value of CRC-32/ISCSI, the parameters `crc::CRC_32_ISCSI` names
set_option maxRecDepth 100000 in
example : crc32c "123456789".toUTF8.data.toList = 0xE3069283 := by decide +kernel

/-! ## nothing is served without its checksum having been checked -/

theorem load_checks (file : List UInt8) (h : RecHeader) (m d : List UInt8)
    (hok : entryLoad file h = .ok (m, d)) :
    crc32c d = h.dataChecksum ∧ d = (file.drop h.dataOffset).take h.dataSize ∧ d.length = h.dataSize ∧
    m = (file.drop h.metaOffset).take h.metaSize ∧ headerValidate h = .ok () := by
  obtain ⟨h1, _, h3, h4, _, h6, h7⟩ := entryLoad_ok hok
  exact ⟨h7, h3, h4, h1, h6⟩

theorem load_checks_data (file : List UInt8) (h : RecHeader) (d : List UInt8)
    (hok : loadData file h = .ok d) :
    crc32c d = h.dataChecksum ∧ d = (file.drop h.dataOffset).take h.dataSize ∧ d.length = h.dataSize := by
  obtain ⟨h1, h2, h3⟩ := loadData_ok hok
  exact ⟨h3, h1, h2⟩

/-- with `validate_data_during_index_regen`, every header the scan returns was read at some offset `pos`,
    passed `Header::validate`, and the `data_size` bytes at `pos + header size + meta_size` were read
    completely and match its data checksum -/
theorem load_checks_scan (klen : Nat) (file : List UInt8) (hs : List (Nat × RecHeader))
    (hok : rawRecordsScan klen true file = .ok hs) :
    ∀ x ∈ hs, headerValidate x.2 = .ok () ∧
      (∃ buf, readExactAt file (headerSize klen) x.1 = some buf ∧ deserHeader buf = some x.2) ∧
      ∃ d, readExactAt file x.2.dataSize (x.1 + headerSize klen + x.2.metaSize) = some d ∧
        crc32c d = x.2.dataChecksum := by
  intro x hx
  obtain ⟨_, hb, hv, hd⟩ := rawLoop_mem (rawRecordsScan_ok hok).2 hx
  exact ⟨hv, hb, hd rfl⟩

theorem load_checks_scan_headers (klen : Nat) (file : List UInt8) (hs : List RecHeader)
    (hok : rawRecordsLoad klen true file = .ok hs) :
    ∀ h ∈ hs, headerValidate h = .ok () ∧ ∃ pos d,
      readExactAt file h.dataSize (pos + headerSize klen + h.metaSize) = some d ∧
        crc32c d = h.dataChecksum := by
  unfold rawRecordsLoad at hok
  split at hok
  · cases hok
  · next l hl =>
    cases hok
    intro h hh
    obtain ⟨x, hx, rfl⟩ := List.mem_map.mp hh
    obtain ⟨hv, _, d, hd⟩ := load_checks_scan klen file l hl x hx
    exact ⟨hv, x.1, d, hd⟩

/-- a record with the 1-byte key 7 and 3 data bytes -/
def relocRec : Record := Record.create 1 7 5 none [1, 2, 3]
/-- its valid image serialised for offset 1000, but sitting right after the blob header.  (The offline tools do not
    produce such a file: `BlobWriter` re-addresses every record it writes, `with_blob_offset(self.written)`.) -/
def relocFile : List UInt8 := serBlobHeader ++ relocRec.image 1000

/-- "Every header the validating scan returns passes `load_data`" is FALSE: the scan audits the bytes that
    follow the header where it was *found*; `load_data` reads where the header's `blob_offset` *points*.
    Nothing in `RawRecords` compares the two.  Witness: `relocFile`. -/
theorem scan_accepts_relocated :
    rawRecordsLoad 1 true relocFile = .ok [relocRec.header.final 1000] ∧
    loadData relocFile (relocRec.header.final 1000) = .error .bincode ∧
    ¬ (∀ (klen : Nat) (file : List UInt8) (hs : List RecHeader),
        rawRecordsLoad klen true file = .ok hs → ∀ h ∈ hs, ∃ d, loadData file h = .ok d) := by
  have h1 : rawRecordsLoad 1 true relocFile = .ok [relocRec.header.final 1000] := by decide +kernel
  have h2 : loadData relocFile (relocRec.header.final 1000) = .error .bincode := by decide +kernel
  refine ⟨h1, h2, fun hall => ?_⟩
  obtain ⟨d, hd⟩ := hall 1 relocFile _ h1 _ (List.mem_singleton.mpr rfl)
  rw [h2] at hd
  cases hd

/-- the version that holds: the exact extra hypotheses are that the header sits where it says
    (`blob_offset = pos`) and has the blob's key length (only the first record's is checked by `start`) -/
theorem load_checks_scan_partial (klen : Nat) (file : List UInt8) (hs : List (Nat × RecHeader))
    (hok : rawRecordsScan klen true file = .ok hs) :
    ∀ x ∈ hs, x.2.blobOffset = x.1 → x.2.key.length = klen →
      ∃ d, loadData file x.2 = .ok d ∧ d.length = x.2.dataSize := by
  intro x hx hpos hk
  obtain ⟨_, _, d, hrd, hc⟩ := load_checks_scan klen file hs hok x hx
  refine ⟨d, ?_, (readExactAt_eq_some hrd).2⟩
  unfold loadData
  have : x.2.dataOffset = x.1 + headerSize klen + x.2.metaSize := by
    simp [RecHeader.dataOffset, RecHeader.metaOffset, RecHeader.serializedSize, headerSize, hpos, hk]
  rw [this, hrd]
  simp only [dataChecksumAudit_ok.mpr hc]

/-- a change confined to a window of at most 4 consecutive bytes inside the data region of a
    record that loads from `file` makes `Entry::load` (and `load_data`) of the altered file an error -/
theorem altered_never_served (p w1 w2 s : List UInt8) (h : RecHeader) (m d : List UInt8)
    (hl : w1.length = w2.length) (h4 : w1.length ≤ 4) (hne : w1 ≠ w2)
    (hin1 : h.dataOffset ≤ p.length) (hin2 : p.length + w1.length ≤ h.dataOffset + h.dataSize)
    (hok : entryLoad (p ++ w1 ++ s) h = .ok (m, d)) :
    (∃ e, entryLoad (p ++ w2 ++ s) h = .error e) ∧ (∃ e, loadData (p ++ w2 ++ s) h = .error e) := by
  obtain ⟨_, _, hd, _, _, _, hc⟩ := entryLoad_ok hok
  exact load_altered p w1 w2 s h hl h4 hne hin1 hin2 (hd ▸ hc)

/-- the same for the scan with `validate_data_during_index_regen`: a change confined to a window of at
    most 4 consecutive bytes inside the data region of any record the scan accepted makes the scan of
    the altered file fail (so no index is regenerated from it) -/
theorem altered_scan_rejected (klen : Nat) (p w1 w2 s : List UInt8) (hs : List (Nat × RecHeader))
    (x : Nat × RecHeader) (hl : w1.length = w2.length) (h4 : w1.length ≤ 4) (hne : w1 ≠ w2)
    (hok : rawRecordsScan klen true (p ++ w1 ++ s) = .ok hs) (hx : x ∈ hs)
    (hin1 : x.1 + headerSize klen + x.2.metaSize ≤ p.length)
    (hin2 : p.length + w1.length ≤ x.1 + headerSize klen + x.2.metaSize + x.2.dataSize) :
    (∃ e, rawRecordsScan klen true (p ++ w2 ++ s) = .error e) ∧
    (∃ e, rawRecordsLoad klen true (p ++ w2 ++ s) = .error e) := by
  -- `RawRecords::start` reads before the window; the loop fails at the altered record (`rawLoop_altered`)
  have hscan : ∃ e, rawRecordsScan klen true (p ++ w2 ++ s) = .error e := by
    rw [List.append_assoc] at hok ⊢
    obtain ⟨hst, hok⟩ := rawRecordsScan_ok hok
    have hge := (rawLoop_mem hok hx).1
    unfold headerSize at hin1 hin2
    have hst' : rawStart klen (p ++ (w2 ++ s)) = .ok (57 + klen) := by
      rw [← hst]
      unfold rawStart
      rw [readExactAt_of_prefix p (w2 ++ s) (w1 ++ s) _ _ (by unfold blobHeaderSize at *; omega)]
    unfold rawRecordsScan
    rw [hst', show (p ++ (w2 ++ s)).length = (p ++ (w1 ++ s)).length by simp [hl]]
    exact rawLoop_altered _ p w1 w2 s hl h4 hne _ _ hs hok x hx hin1 hin2
  obtain ⟨e, he⟩ := hscan
  exact ⟨⟨e, he⟩, ⟨e, by unfold rawRecordsLoad; rw [he]⟩⟩

/-- without data validation a scan step depends on the header bytes only, so the same change is NOT
    noticed by the scan (only `Entry::load` / `load_data` notice it later: the two examples on
    `(blobBytes 3 recs4).set 91 0xAA` below) -/
theorem scan_without_validation_ignores_data (p a b : List UInt8) (hsz off : Nat)
    (h : RecHeader) (off' : Nat)
    (hrc : readCurrentRecord false (p ++ a) hsz off = .ok (h, none, off')) (hle : off + hsz ≤ p.length) :
    readCurrentRecord false (p ++ b) hsz off = .ok (h, none, off') := by
  obtain ⟨⟨buf, hb, hd⟩, hv, hoff', _, _⟩ := readCurrentRecord_ok hrc
  rw [readExactAt_of_prefix p a b _ _ hle] at hb
  unfold readCurrentRecord
  simp only [hb, hd, hv, hoff']
  rfl

/-- the loop bound of the model scan is never the reason for an error -/
theorem scan_total (klen : Nat) (v : Bool) (file : List UInt8) :
    rawRecordsScan klen v file ≠ .error .fuel :=
  rawRecordsScan_ne_fuel klen v file

/-! ## what was written is what is read -/

/-- the `i`-th header in the index is the `i`-th record's header with its offset (= length of the blob
    made of the records before it) and header checksum set -/
theorem blobHeaders_spec (klen : Nat) (recs : List (Rec × List UInt8)) (i : Nat) (h : RecHeader)
    (r : Rec) (d : List UInt8) (hh : (blobHeaders klen recs)[i]? = some h) (hr : recs[i]? = some (r, d)) :
    h = (recordOf klen r d).header.final (blobBytes klen (recs.take i)).length := by
  exact Option.some.inj (hh.symm.trans (producedAt klen recs i r d hr).hdr)

/-- `Entry::load` and `load_data` of every record of a blob built by `blobBytes` return exactly its meta
    bytes and its data (the empty data for a deletion marker), for every data size including 0 -/
theorem load_roundtrip (klen : Nat) (recs : List (Rec × List UInt8))
    (hlen : (blobBytes klen recs).length < 2 ^ 64) (i : Nat) (h : RecHeader) (r : Rec) (d : List UInt8)
    (hh : (blobHeaders klen recs)[i]? = some h) (hr : recs[i]? = some (r, d)) :
    entryLoad (blobBytes klen recs) h = .ok (serMeta r.mt, if r.del then [] else d) ∧
    loadData (blobBytes klen recs) h = .ok (if r.del then [] else d) := by
  have s := producedAt klen recs i r d hr
  rw [s.blob, Option.some.inj (hh.symm.trans s.hdr), ← recordOf_mt klen r d, ← recordOf_data klen r d]
  exact ⟨entryLoad_image _ _ _ s.wf _ rfl (s.mlen hlen), loadData_image _ _ _ s.wf _ rfl⟩

/-- the scan that regenerates an index returns exactly the headers that were pushed into the index
    when the records were written, with or without data validation — for a blob with at least one record -/
theorem load_roundtrip_scan_partial (klen : Nat) (v : Bool) (recs : List (Rec × List UInt8))
    (hne : recs ≠ []) (hlen : (blobBytes klen recs).length < 2 ^ 64)
    (hts : ∀ x ∈ recs, x.1.ts < 2 ^ 64) :
    rawRecordsLoad klen v (blobBytes klen recs) = .ok (blobHeaders klen recs) := by
  refine rawRecordsLoad_appendRecords v klen (recordsOf klen recs) (fun h => hne ?_) hlen
    (goodRecs_recordsOf klen recs hts)
  simpa [recordsOf] using h

/-- FALSE without `recs ≠ []`: on a blob that holds only its header `RawRecords::start` fails with a
    Bincode error (reading the first record's magic byte and key length hits the end of the file).
    `Blob::from_file` calls the scan in that state only when the index file is corrupted. -/
theorem load_roundtrip_scan_empty (klen : Nat) (v : Bool) :
    rawRecordsLoad klen v (blobBytes klen []) = .error (.load .bincode) ∧
    rawRecordsLoad klen v (blobBytes klen []) ≠ .ok (blobHeaders klen []) := by
  have h : rawRecordsLoad klen v (blobBytes klen []) = .error (.load .bincode) := rfl
  exact ⟨h, by rw [h]; intro h'; cases h'⟩

/-! non-vacuity: the blob of `recs4` satisfies the hypotheses -/

example : recs4 ≠ [] ∧ (∀ x ∈ recs4, x.1.ts < 2 ^ 64) := by decide
example : (blobBytes 3 recs4).length < 2 ^ 64 ∧ (blobHeaders 3 recs4).length = 4 := by
  rw [BlobDemo.blobBytes_recs4_length, BlobDemo.blobHeaders_recs4]
  decide
example : ∃ h, (blobHeaders 3 recs4)[3]? = some h ∧ h.dataSize = 0 ∧
    entryLoad (blobBytes 3 recs4) h = .ok (serMeta none, []) := by
  have hh : (blobHeaders 3 recs4)[3]? = some _ := congrArg (·[3]?) BlobDemo.blobHeaders_recs4
  have hl : (blobBytes 3 recs4).length < 2 ^ 64 := by rw [BlobDemo.blobBytes_recs4_length]; decide
  exact ⟨_, hh, rfl, (load_roundtrip 3 recs4 hl 3 _ _ _ hh rfl).1⟩

/-- non-vacuity of `altered_never_served`: flipping one data byte of the first record of `recs4` -/
example : ∃ h e, (blobHeaders 3 recs4)[0]? = some h ∧
    entryLoad ((blobBytes 3 recs4).set (h.dataOffset + 3) 0xAA) h = .error e := by
  have hh : (blobHeaders 3 recs4)[0]? = some _ := congrArg (·[0]?) BlobDemo.blobHeaders_recs4
  have hok := (load_roundtrip 3 recs4 (by rw [BlobDemo.blobBytes_recs4_length]; decide) 0 _ _ _ hh rfl).1
  have h91 : ((blobBytes 3 recs4).take 91).length = 91 := by
    rw [List.length_take, BlobDemo.blobBytes_recs4_length]; rfl
  rw [BlobDemo.blobBytes_recs4_flip.1] at hok
  obtain ⟨⟨e, he⟩, _⟩ := altered_never_served _ [9] [0xAA] _ _ _ _ rfl (by decide) (by decide)
    (by rw [h91]; decide) (by rw [h91]; decide) hok
  exact ⟨_, e, hh, BlobDemo.blobBytes_recs4_flip.2 ▸ he⟩

/-- ... while the non-validating scan of the same altered file still returns all four headers -/
example : rawRecordsLoad 3 false ((blobBytes 3 recs4).set 91 0xAA) = .ok (blobHeaders 3 recs4) ∧
    rawRecordsLoad 3 true ((blobBytes 3 recs4).set 91 0xAA) = .error (.load .recordDataChecksum) := by
  rw [blobBytes_eq_of_headers, BlobDemo.blobHeaders_recs4]
  decide +kernel

/-! ## finding: a torn tail record

`RawRecords::load` loops `while current_offset < file.size()` and, without data validation, never reads
past a header: a last record whose header is complete but whose meta/data are cut short is ACCEPTED
(`current_offset` jumps past the end of the file and the loop ends). With validation, or when the cut is
inside the header, the read hits EOF, which is turned into a Bincode error and fails the scan of the
WHOLE blob (no prefix of good records is returned). After an accepted torn tail, the next record is
appended at `file.size()`, i.e. inside the region the torn header claims, and the next index-less scan
fails on it. Concrete witnesses: `torn_tail_witness`, after the general form, on the files `tornData` and
`tornHeader` (the blob of `recs3` cut inside the last record's data and header). -/

/-! ### the general torn tail (finding E8 at the byte level)

`Rs` are the intact records, `R` the last record, of which the complete header and a PROPER prefix `cut`
of `serMeta R.mt ++ R.data` reached the file. Range hypotheses as in `load_roundtrip_scan_partial`: the
records are as the storage builds them with `u64` timestamps, and the blob that a complete write would
have produced is shorter than 2^64 bytes. -/

/-- the file with the torn last record -/
def tornFile (Rs : List Record) (R : Record) (cut : List UInt8) : List UInt8 :=
  appendRecords serBlobHeader Rs ++
    serHeader (R.header.final (appendRecords serBlobHeader Rs).length) ++ cut

/-- General form of `torn_tail_witness`. For every key length, intact records `Rs`, last record `R` and
    proper prefix `cut` of its meta + data:
    * the NON-validating scan accepts the torn record: it returns exactly the headers that were (or would
      have been) pushed for `Rs ++ [R]`;
    * the validating scan fails the WHOLE blob with a Bincode error (no prefix of good records is
      returned) — unless `R` has no data (then only meta bytes are missing, which no scan reads, and the
      torn record is accepted even with validation);
    * the torn record cannot be loaded: `Entry::load` hits the end of the file. -/
theorem torn_tail_general (klen : Nat) (Rs : List Record) (R : Record) (cut : List UInt8)
    (hg : ∀ X ∈ Rs ++ [R], X.WF klen ∧ X.header.timestamp < 2 ^ 64)
    (hlen : (appendRecords serBlobHeader (Rs ++ [R])).length < 2 ^ 64)
    (hp : cut <+: serMeta R.mt ++ R.data) (hne : cut ≠ serMeta R.mt ++ R.data) :
    rawRecordsLoad klen false (tornFile Rs R cut) = .ok (writtenHeaders serBlobHeader (Rs ++ [R])) ∧
    rawRecordsLoad klen true (tornFile Rs R cut) =
      (if R.data = [] then .ok (writtenHeaders serBlobHeader (Rs ++ [R]))
       else .error (.load .bincode)) ∧
    entryLoad (tornFile Rs R cut) (R.header.final (appendRecords serBlobHeader Rs).length) =
      .error .bincode := by
  have h0 := rawRecordsLoad_torn_prefix false Rs R cut hg hlen hp hne
  have h1 := rawRecordsLoad_torn_prefix true Rs R cut hg hlen hp hne
  rw [if_neg (by simp)] at h0
  refine ⟨h0, ?_, ?_⟩
  · unfold tornFile
    rw [h1]
    by_cases hd : R.data = []
    · rw [if_neg (by simp [hd]), if_pos hd]
    · rw [if_pos ⟨rfl, hd⟩, if_neg hd]
  · have hwf := (hg R (by simp)).1
    have hlt := prefix_length_lt hp hne
    have him := R.image_length (appendRecords serBlobHeader Rs).length
    rw [hwf.key] at him
    rw [List.length_append] at hlt
    have := entryLoad_torn (appendRecords serBlobHeader Rs) R hwf _ (57 + klen + cut.length) rfl
      (by rw [him]; omega)
    rw [take_image_of_prefix R hwf _ cut hp, ← List.append_assoc] at this
    exact this

/-- the same for model records: the blob of `recs` followed by a torn write of `(r, d)` -/
theorem torn_tail_general_recs (klen : Nat) (recs : List (Rec × List UInt8)) (r : Rec) (d cut : List UInt8)
    (hlen : (blobBytes klen (recs ++ [(r, d)])).length < 2 ^ 64)
    (hts : ∀ x ∈ recs ++ [(r, d)], x.1.ts < 2 ^ 64)
    (hp : cut <+: serMeta r.mt ++ (if r.del then [] else d))
    (hne : cut ≠ serMeta r.mt ++ (if r.del then [] else d)) :
    rawRecordsLoad klen false (blobBytes klen recs ++
        serHeader ((recordOf klen r d).header.final (blobBytes klen recs).length) ++ cut) =
      .ok (blobHeaders klen (recs ++ [(r, d)])) := by
  have hrs : recordsOf klen (recs ++ [(r, d)]) = recordsOf klen recs ++ [recordOf klen r d] := by
    simp [recordsOf]
  have hg : ∀ X ∈ recordsOf klen recs ++ [recordOf klen r d],
      X.WF klen ∧ X.header.timestamp < 2 ^ 64 := by
    rw [← hrs]; exact goodRecs_recordsOf klen _ hts
  rw [← recordOf_mt klen r d, ← recordOf_data klen r d] at hp hne
  unfold blobBytes blobHeaders at *
  rw [hrs] at hlen ⊢
  exact (torn_tail_general klen _ _ cut hg hlen hp hne).1

theorem torn_tail_witness :
    -- torn inside the data: accepted without validation, all three headers returned
    rawRecordsLoad 3 false tornData = .ok (blobHeaders 3 recs3) ∧
    -- ... but the record cannot be loaded
    (∀ h, (blobHeaders 3 recs3)[2]? = some h → entryLoad tornData h = .error .bincode) ∧
    -- with validation the whole scan fails, although the first two records are intact
    rawRecordsLoad 3 true tornData = .error (.load .bincode) ∧
    -- torn inside the header: the whole scan fails in both modes
    rawRecordsLoad 3 false tornHeader = .error (.load .bincode) ∧
    rawRecordsLoad 3 true tornHeader = .error (.load .bincode) ∧
    -- a record appended after the accepted torn tail lands inside the claimed region:
    -- the next non-validating scan of the file fails
    rawRecordsLoad 3 false (appendRecord tornData (Record.create 3 4 105 none [1, 2, 3, 4, 5, 6, 7, 8])) =
      .error (.load .bincode) := by
  have hb := blobBytes_eq_of_headers 3 recs3
  rw [BlobDemo.blobHeaders_recs3] at hb
  have g := torn_tail_general 3 (recordsOf 3 (recs3.take 2))
    (recordOf 3 { key := 1, ts := 101, del := false, mt := none, data := ⟨16, 0⟩ } sq16)
    (le64 0 ++ sq16.take 11) (goodRecs_recordsOf 3 recs3 (by decide))
    (show (blobBytes 3 recs3).length < 2 ^ 64 by rw [hb]; decide +kernel) ⟨sq16.drop 11, by decide⟩
    (by decide)
  -- `tornData` is that torn file: the first two records of `recs3` intact, the third cut after 19 of the 24
  -- bytes of its meta and data; that gives the first three clauses
  rw [show tornFile _ _ _ = tornData from ?hf] at g
  case hf =>
    rw [tornData, show blobBytes 3 recs3 = _ from blobBytes_snoc 3 (recs3.take 2) _ sq16, List.length_append,
      show (serMeta none ++ if false then [] else sq16).length = 19 + 5 from rfl, ← Nat.add_assoc,
      Nat.add_sub_cancel, List.take_length_add_append]
    rfl
  obtain ⟨g1, g2, g3⟩ := g
  refine ⟨g1, fun h hh => ?_, g2.trans (if_neg (by decide)), CrashDemo.tornHeader_scan false,
    CrashDemo.tornHeader_scan true, ?_⟩
  · rw [blobHeaders_spec 3 recs3 2 h _ _ hh rfl]
    exact g3
  -- no theorem speaks of a record appended inside the region a torn header claims: by evaluation
  · simp only [tornData, hb, appendRecord_eq]
    decide +kernel

/-- non-vacuity: `tornData` of `torn_tail_witness` is the instance `Rs` = the first two records of
    `recs3`, `R` = the third, `cut` = its (empty) meta and the first 11 of its 16 data bytes; the
    hypotheses hold (see the proof of `torn_tail_witness`) and the conclusion is its first clause -/
example : rawRecordsLoad 3 false tornData = .ok (blobHeaders 3 recs3) := torn_tail_witness.1

/-- non-vacuity of the data-less case: a torn deletion marker (meta cut after 3 of its 8 bytes) is
    accepted by the validating scan too -/
example : rawRecordsLoad 3 true (tornFile (recordsOf 3 (recs3.take 1)) (Record.deleted 3 1 103 none)
    [0, 0, 0]) = .ok (blobHeaders 3 (recs3.take 2)) := by
  have h := (torn_tail_general 3 (recordsOf 3 (recs3.take 1)) (Record.deleted 3 1 103 none) [0, 0, 0]
    (goodRecs_recordsOf 3 (recs3.take 2) (by decide))
    (by decide +kernel) ⟨[0, 0, 0, 0, 0], by decide⟩ (by decide)).2.1
  rw [if_pos (by decide)] at h
  rw [h]
  rfl

end Pearl.C05

/-
NOT PROVED: `altered_never_served` with the precise error, i.e. under its hypotheses
     entryLoad (p ++ w2 ++ s) h = .error .recordDataChecksum.

Statements that are FALSE of the model, with their refutation and the version that holds:
  * `load_roundtrip` for the scan on an empty record list  → `load_roundtrip_scan_empty`, `load_roundtrip_scan_partial`
  * "every header returned by the validating scan passes `load_data`" → `scan_accepts_relocated`, `load_checks_scan_partial`
-/
