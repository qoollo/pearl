import Pearl.Proofs.MaintLemmas
import Pearl.Props.C01
import Pearl.Props.C04
import Pearl.Proofs.AcctRuns
import Pearl.Proofs.AcctDriver
import Pearl.Proofs.AcctHarm
/-
C15: accounting.  The count getters always match the operation history, every operation changes the
total by exactly the number of records it appended, and blob ids are never reused.

Then the file level (`Pearl/Model/Acct.lean`): the four getters against a listing of the directory (`acct_inv_run`),
where the literal identities fail (`blobs_count_ne_files_when_ignoring`, `disk_used_before_fix_wrong`), the accounting
state of the correspondence driver (`driver_acct_is_run`), and `next_blob_id` along directory-level histories.
-/
namespace Pearl

theorem recordsCount_eq_history (s : Store) : s.recordsCount = Spec.count s.history :=
  Store.recordsCount_eq_count s

/-- per blob, closed blobs in container order, then the active blob -/
theorem recordsCountDetailed_eq (s : Store) :
    s.recordsCountDetailed = s.history.map (·.2.length) := by
  simp only [Store.recordsCountDetailed, Store.history, List.map_map]; rfl

theorem recordsCount_eq_sum_detailed (s : Store) : s.recordsCount = s.recordsCountDetailed.sum := rfl

/-- the active blob is the last entry of the history, and `records_count_in_active_blob` is its length -/
theorem recordsCountInActive_eq (s : Store) :
    s.recordsCountInActive = s.active.map (·.recs.length) ∧
      (∀ a, s.active = some a →
        s.history.getLast? = some (a.id, a.recs) ∧ s.recordsCountDetailed.getLast? = some a.recs.length) ∧
      (s.active = none → s.recordsCountInActive = none) := by
  refine ⟨rfl, ?_, ?_⟩
  · intro a ha
    simp [Store.history, Store.recordsCountDetailed, Store.blobs, ha, Blob.count]
  · intro h; simp [Store.recordsCountInActive, h]

theorem blobsCount_eq (s : Store) : s.blobsCount = s.history.length := by
  simp [Store.blobsCount, Store.history]

/-- `write`: `+1` unless refused as a duplicate
    (`s.dedups k m = !allowDup && (ensureActive s).getLatestEntry k m is Found`) -/
theorem write_count (s : Store) (k : Key) (ts : Nat) (m : Option Meta) (d : Data) :
    (s.write k ts m d).recordsCount = s.recordsCount + if s.dedups k m then 0 else 1 :=
  Store.write_recordsCount s k ts m d

/-- `delete`: `+` the number it returns -/
theorem delete_count_total (s : Store) (k : Key) (ts : Nat) (m : Option Meta) (oip : Bool) :
    (s.delete k ts m oip).1.recordsCount = s.recordsCount + (s.delete k ts m oip).2 :=
  Store.delete_recordsCount s k ts m oip

/-- every operation: the total grows by exactly `s.added op`
    (`write`: 0 or 1; `delete`: its return value; maintenance: 0) -/
theorem apply_count {s : Store} (hwf : s.WF) (op : Op) :
    (s.apply op).recordsCount = s.recordsCount + s.added op := by
  cases op with
  | write k ts m d => exact write_count s k ts m d
  | delete k ts m oip => exact delete_count_total s k ts m oip
  | closeActive => exact maint_counts hwf rfl
  | createActive => exact maint_counts hwf rfl
  | restoreActive => exact maint_counts hwf rfl
  | replaceActive => exact maint_counts hwf rfl
  | settle => exact maint_counts hwf rfl
  | restart lazy => exact maint_counts hwf rfl

theorem added_maint (s : Store) {m : Op} (hm : m.isMaint = true) : s.added m = 0 := by
  cases m <;> first | rfl | simp [Op.isMaint] at hm

/-- along any run: total = what was there + writes not refused + sum of the delete return values -/
theorem run_count_from {s : Store} (hwf : s.WF) : ∀ ops : List Op,
    (s.run ops).recordsCount = s.recordsCount + s.storedWrites ops + s.deleteMarks ops
  | [] => rfl
  | op :: ops => by
    rw [Store.run_cons, run_count_from (apply_WF hwf op) ops, apply_count hwf op]
    simp only [Store.storedWrites, Store.deleteMarks]
    generalize (s.apply op).storedWrites ops = sw, (s.apply op).deleteMarks ops = dm
    cases op <;> simp only [Store.added] <;> omega

/-- after every history from `init` -/
theorem run_count (d : Bool) (ops : List Op) :
    ((Store.init d).run ops).recordsCount =
      (Store.init d).storedWrites ops + (Store.init d).deleteMarks ops := by
  rw [run_count_from (init_WF d)]
  have : (Store.init d).recordsCount = 0 := by cases d <;> decide
  omega

theorem nextId_above_all {s : Store} (hwf : s.WF) : ∀ b ∈ s.blobs, b.id < s.nextId := hwf.2

/-- `nextId` does not decrease under any operation other than `restart` -/
theorem nextId_monotone_of_not_restart (s : Store) (op : Op) (hr : ∀ lazy, op ≠ .restart lazy) :
    s.nextId ≤ (s.apply op).nextId :=
  Store.apply_nextId_le_of_not_restart s op hr

/-- `restart` recomputes `nextId` as greatest id + 1 … -/
theorem restart_nextId_eq {s : Store} (hwf : s.WF) (hne : s.blobs ≠ []) (lazy : Bool) :
    (s.restart lazy).nextId = s.maxId + 1 :=
  (Store.restart_of_ne_nil hwf lazy hne).2

/-- … so under `WF` alone the monotonicity of `nextId` under every operation (`nextId_monotone_partial` without its
    tightness hypothesis) is FALSE: a state whose `nextId` is more than one above
    its greatest blob id (not reachable from `init`, see `run_nextId_tight`) loses the gap -/
theorem nextId_monotone_false :
    ∃ s : Store, s.WF ∧ ∃ op, (s.apply op).nextId < s.nextId :=
  ⟨{ active := some { id := 0, recs := [] }, nextId := 5 }, ⟨by decide, by decide⟩,
    .restart true, by decide⟩

/-- the exact extra hypothesis: `nextId` is one above some blob id (`Store.Tight`) -/
theorem nextId_monotone_partial {s : Store} (hwf : s.WF) (ht : ∃ b ∈ s.blobs, s.nextId = b.id + 1)
    (op : Op) : s.nextId ≤ (s.apply op).nextId :=
  Store.apply_nextId_le hwf ht op

/-- which every state reachable from `init` satisfies: `nextId` = greatest id + 1 -/
theorem run_nextId_tight (d : Bool) (ops : List Op) :
    let s := (Store.init d).run ops
    (∃ b ∈ s.blobs, s.nextId = b.id + 1) ∧ s.nextId = s.maxId + 1 := by
  intro s
  have ht : s.Tight := Store.run_tight (init_WF d) (Store.init_tight d) ops
  exact ⟨ht, by rw [← Store.idBound_eq_nextId (run_WF d ops) ht, Store.idBound_eq_maxId ht.ne_nil]⟩

/-- after every history, `nextId` never decreases -/
theorem run_nextId_monotone (d : Bool) (ops : List Op) (op : Op) :
    ((Store.init d).run ops).nextId ≤ ((Store.init d).run (ops ++ [op])).nextId := by
  have : (Store.init d).run (ops ++ [op]) = ((Store.init d).run ops).apply op := by
    simp [Store.run, List.foldl_append]
  rw [this]
  exact nextId_monotone_partial (run_WF d ops) (run_nextId_tight d ops).1 op

/-- one step: a blob of the new state continues a blob of the old state, or it is brand new and
    its id is `nextId`, greater than every id that was present -/
theorem apply_new_ids {s : Store} (hwf : s.WF) (hne : s.blobs ≠ []) (op : Op) :
    ∀ b' ∈ (s.apply op).blobs,
      (∃ b ∈ s.blobs, b'.id = b.id ∧ b.recs <+: b'.recs) ∨
        (b'.id = s.nextId ∧ ∀ b ∈ s.blobs, b.id < b'.id) := by
  intro b' hb'
  rcases apply_log_new hwf hne op b' hb' with ⟨b, hb, h1, h2, _⟩ | ⟨h1, _⟩
  · exact Or.inl ⟨b, hb, h1, h2⟩
  · exact Or.inr ⟨h1, fun b hb => by rw [h1]; exact hwf.2 b hb⟩

/-- any number of steps from a state with `nextId` = greatest id + 1 -/
theorem run_new_ids_from {s : Store} (hwf : s.WF) (ht : ∃ b ∈ s.blobs, s.nextId = b.id + 1) :
    ∀ ops : List Op, ∀ b' ∈ (s.run ops).blobs,
      (∃ b ∈ s.blobs, b'.id = b.id ∧ b.recs <+: b'.recs) ∨ s.nextId ≤ b'.id :=
  fun ops => (Store.run_ext_of_tight hwf ht ops).2

/-- nothing is ever lost: every blob is continued, under its id, in every later state -/
theorem run_log_from {s : Store} (hwf : s.WF) :
    ∀ ops : List Op, ∀ b ∈ s.blobs, ∃ b' ∈ (s.run ops).blobs, b'.id = b.id ∧ b.recs <+: b'.recs :=
  Store.run_log hwf

/-- after every history `ops`, whatever happens later (`ops'`): every blob of the later state either
    continues a blob present now, or its id is greater than every id present now;
    and a later blob carrying an id present now *is* the continuation of that blob -/
theorem ids_never_reused_in_run (d : Bool) (ops ops' : List Op) :
    let s := (Store.init d).run ops
    let s' := (Store.init d).run (ops ++ ops')
    (∀ b' ∈ s'.blobs,
        (∃ b ∈ s.blobs, b'.id = b.id ∧ b.recs <+: b'.recs) ∨ ∀ b ∈ s.blobs, b.id < b'.id) ∧
      (∀ b ∈ s.blobs, ∀ b' ∈ s'.blobs, b'.id = b.id → b.recs <+: b'.recs) := by
  intro s s'
  have hs' : s' = s.run ops' := by simp [s, s', Store.run, List.foldl_append]
  have hwf : s.WF := run_WF d ops
  constructor
  · intro b' hb'
    rw [hs'] at hb'
    rcases run_new_ids_from hwf (run_nextId_tight d ops).1 ops' b' hb' with h | h
    · exact Or.inl h
    · exact Or.inr (fun b hb => Nat.lt_of_lt_of_le (hwf.2 b hb) h)
  · rw [hs']
    exact (Store.run_ext_of_tight hwf (run_nextId_tight d ops).1 ops').recs hwf

/-! ### non-vacuity -/

example : Demo.s2.recordsCount = 6 ∧ Spec.count Demo.s2.history = 6 := by decide
example : Demo.s2.recordsCountDetailed = [3, 2, 1] ∧ Demo.s2.blobsCount = 3 ∧
    Demo.s2.recordsCountInActive = some 1 := by decide
-- `ops2`: 4 writes stored (duplicates allowed), one delete returning 2
example : (Store.init true).storedWrites Demo.ops2 = 4 ∧ (Store.init true).deleteMarks Demo.ops2 = 2 := by
  decide
-- with duplicates disallowed the second write of key 1 at the same metadata is refused
example : (Store.init false).storedWrites [.write 1 5 none ⟨1, 1⟩, .closeActive, .write 1 6 none ⟨2, 2⟩] = 1 ∧
    ((Store.init false).run [.write 1 5 none ⟨1, 1⟩, .closeActive, .write 1 6 none ⟨2, 2⟩]).recordsCount = 1 := by
  decide
example : Demo.s1.added (.delete 1 9 none true) = 2 ∧ Demo.s1.added .replaceActive = 0 := by decide
-- `nextId` really moves, and `restart` recomputes it to the same value on reachable states
example : Demo.s2.nextId = 3 ∧ Demo.s2.maxId = 2 ∧ (Demo.s2.apply .replaceActive).nextId = 4 ∧
    (Demo.s2.apply (.restart false)).nextId = 3 := by decide
-- a later blob with a fresh id, and an old id still naming the continuation of the old blob
example : ((Demo.s1.run [.replaceActive, .write 9 1 none ⟨1, 1⟩]).blobs.map (·.id)) = [0, 1, 2] ∧
    Demo.s1.blobs.map (·.id) = [0, 1] := by decide

/-! ### the file-level part: the getters against a listing of the directory (`Pearl/Model/Acct.lean`)

`Acct.State` = the L2 `Store` + the `File::size()` / `findex.file_size()` counters + `corrupted_blobs` + the work
directory (blob files, index files) and its `corrupted` sub-directory.  `Acct.step` covers write (with rotation),
delete (also into closed blobs), close / create / restore of the active blob, `force_update_active_blob`, dump
passes, and restart (normal / lazy) with blob files found unreadable, under both settings of
`ignore_corrupted`. -/

/-- the four identities (plus the structural invariant they follow from).
    `blobs_count`: under `ignore_corrupted` the unreadable blob files stay in the work directory without being
    held, so the identity carries the term `s.ignored.length` (see `blobs_count_ne_files_when_ignoring`);
    `disk_used`: over the blobs the storage holds, blob file + index file if one is on disk. -/
structure AcctInv (c : Acct.Cfg) (s : Acct.State) : Prop where
  struct : Acct.Inv c s
  blobs_count : Acct.blobsCount s + s.ignored.length = Acct.dirBlobFiles s
  next_blob_id : Acct.nextBlobId s = Acct.dirNextId s
  corrupted_blobs_count : Acct.corruptedBlobsCount s = Acct.dirCorrupted s
  disk_used : Acct.diskUsed s = Acct.dirDiskUsed s

theorem AcctInv.of_inv {c : Acct.Cfg} {s : Acct.State} (h : Acct.Inv c s) : AcctInv c s :=
  ⟨h, h.blobsCount_eq, h.nextBlobId_eq, h.corrupted_eq, h.diskUsed_eq⟩

theorem acct_inv_step {c : Acct.Cfg} {s : Acct.State} (h : AcctInv c s) (op : Acct.AOp) :
    AcctInv c (Acct.step c s op) :=
  .of_inv (Acct.inv_step h.struct op)

/-- every history from the empty directory, no bound: `blobs_count`, `next_blob_id`, `corrupted_blobs_count`
    and `disk_used` are what a listing of the directory shows — before and after restarts and quarantines -/
theorem acct_inv_run (c : Acct.Cfg) (allowDup : Bool) (ops : List Acct.AOp) :
    AcctInv c (Acct.run c allowDup ops) :=
  .of_inv (Acct.inv_run c allowDup ops)

/-- without `ignore_corrupted`: `blobs_count` = number of blob files in the work directory, and `disk_used` =
    total length of the blob files and index files of the work directory -/
theorem acct_run_not_ignoring (c : Acct.Cfg) (allowDup : Bool) (ops : List Acct.AOp)
    (hops : ∀ op ∈ ops, Acct.NotIgnoring op) :
    let s := Acct.run c allowDup ops
    Acct.blobsCount s = Acct.dirBlobFiles s ∧ Acct.diskUsed s = Acct.dirTotal s := by
  intro s
  have hi : s.ignored = [] := Acct.runFrom_ignored_nil c rfl ops hops
  have h := Acct.inv_run c allowDup ops
  refine ⟨?_, h.diskUsed_total hi⟩
  have := h.blobsCount_eq
  rw [hi] at this
  exact this

/-- `disk_used` in terms of the history: per held blob, the blob header plus the records appended to it
    (deletion markers included) plus its index file, if one is on disk -/
theorem acct_disk_used_history (c : Acct.Cfg) (allowDup : Bool) (ops : List Acct.AOp) :
    let s := Acct.run c allowDup ops
    Acct.diskUsed s =
      (s.store.blobs.map (fun b => Fs.contentLen c.klen b.recs + Acct.idxFileLen s.dir b.id)).sum :=
  (Acct.inv_run c allowDup ops).diskUsed_history

/-- a held blob whose index is on disk: its share of `disk_used` is a function of its records — blob header +
    records + `idxLen` of the records — and its index file validates against the blob file (so the next start
    keeps it); an empty blob takes the blob header only -/
theorem acct_blob_disk_used (c : Acct.Cfg) (allowDup : Bool) (ops : List Acct.AOp) :
    let s := Acct.run c allowDup ops
    ∀ b ∈ s.store.blobs,
      (b.onDisk = true → Acct.blobDiskUsed s b = Fs.contentLen c.klen b.recs + c.idxLen b.recs ∧
        Acct.idxValid s.dir b.id = true) ∧
      (b.recs = [] → Acct.blobDiskUsed s b = blobHeaderSize) :=
  fun _ hb => ⟨fun ho => (Acct.inv_run c allowDup ops).blob_onDisk hb ho,
    fun he => (Acct.inv_run c allowDup ops).blob_empty hb he⟩

/-- right after a lazy start (whatever was damaged, whatever `ignore_corrupted`), `disk_used` is a function of
    the history alone: per held blob the header and the records, plus `idxLen` of the records if there are any -/
theorem disk_used_after_lazy_restart (c : Acct.Cfg) (allowDup : Bool) (ops : List Acct.AOp) (ignore : Bool)
    (bad : List Nat) :
    let s := Acct.run c allowDup (ops ++ [.restart true ignore bad])
    Acct.diskUsed s = (s.store.blobs.map (fun b =>
      Fs.contentLen c.klen b.recs + if b.recs.isEmpty then 0 else c.idxLen b.recs)).sum := by
  intro s
  have hs : Acct.run c allowDup (ops ++ [.restart true ignore bad]) =
      Acct.restart c (Acct.run c allowDup ops) true ignore bad := by
    simp [Acct.run, Acct.runFrom, List.foldl_append, Acct.step]
  exact (Acct.inv_run c allowDup _).diskUsed_closed_form
    (by rw [hs]; exact Acct.restart_lazy_onDisk c _ ignore bad)

/-- the `store` component of every step but `restart` is the L2 store after the L2 operations `Acct.l2 s op` -/
theorem acct_step_store (c : Acct.Cfg) (s : Acct.State) (op : Acct.AOp)
    (hr : ∀ lazy ignore bad, op ≠ .restart lazy ignore bad) :
    (Acct.step c s op).store = s.store.run (Acct.l2 s op) :=
  Acct.step_store c s op hr

/-- `restart`: the blobs found unreadable leave the history (quarantined or skipped), nothing else changes
    except that a new empty blob may appear -/
theorem acct_restart_history {c : Acct.Cfg} {s : Acct.State} (h : AcctInv c s) (lazy ignore : Bool)
    (bad : List Nat) :
    ∃ e : History, (Acct.restart c s lazy ignore bad).store.history =
        s.store.history.filter (fun p => !(Acct.unreadable s bad).contains p.1) ++ e ∧
      (∀ p ∈ e, p.2 = []) ∧ e.length ≤ 1 :=
  Acct.restart_history h.struct lazy ignore bad

/-- a history without damage is an L2 history: `recordsCount_eq_history`, `recordsCountDetailed_eq`,
    `run_count`, `run_nextId_tight`, `ids_never_reused_in_run` … speak about its `store` -/
theorem acct_run_store (c : Acct.Cfg) (allowDup : Bool) (ops : List Acct.AOp)
    (hops : ∀ op ∈ ops, Acct.NoDamage op) :
    (Acct.run c allowDup ops).store =
      (Store.init allowDup).run (Acct.l2run c (Acct.init allowDup) ops) :=
  (Acct.run_clean c allowDup ops hops).1

theorem acct_run_count (c : Acct.Cfg) (allowDup : Bool) (ops : List Acct.AOp)
    (hops : ∀ op ∈ ops, Acct.NoDamage op) :
    (Acct.run c allowDup ops).store.recordsCount =
      (Store.init allowDup).storedWrites (Acct.l2run c (Acct.init allowDup) ops) +
        (Store.init allowDup).deleteMarks (Acct.l2run c (Acct.init allowDup) ops) := by
  rw [acct_run_store c allowDup ops hops]; exact run_count allowDup _

/-- with or without damage the per-blob counters are the per-blob lengths of the history of the state -/
theorem acct_counts_eq_history (c : Acct.Cfg) (allowDup : Bool) (ops : List Acct.AOp) :
    let s := Acct.run c allowDup ops
    s.store.recordsCount = Spec.count s.store.history ∧
      s.store.recordsCountDetailed = s.store.history.map (·.2.length) ∧
      s.store.blobsCount = s.store.history.length :=
  ⟨recordsCount_eq_history _, recordsCountDetailed_eq _, blobsCount_eq _⟩

/-! #### where the code does not give the literal identity -/

/-- `ignore_corrupted = false`: an unreadable blob file is moved to `corrupted` and counted, and its index
    file is REMOVED (`remove_index_by_blob_path`) — no index file is left behind -/
theorem acct_restart_quarantines {c : Acct.Cfg} {s : Acct.State} (h : AcctInv c s) (lazy : Bool)
    (bad : List Nat) :
    let r := Acct.restart c s lazy false bad
    (∀ i ∈ Acct.unreadable s bad,
        i ∈ r.dir.corrupted ∧ i ∉ Acct.keys r.dir.blobs ∧ Acct.get r.dir.idx i = none) ∧
      r.ignored = [] ∧
      Acct.corruptedBlobsCount r = Acct.corruptedBlobsCount s + (Acct.unreadable s bad).length :=
  Acct.restart_quarantines h.struct lazy bad

/-- `ignore_corrupted = true`: an unreadable blob file stays where it is, is not held and not counted, and
    its id stays reserved -/
theorem acct_restart_ignores {c : Acct.Cfg} {s : Acct.State} (h : AcctInv c s) (lazy : Bool)
    (bad : List Nat) :
    let r := Acct.restart c s lazy true bad
    (∀ i ∈ Acct.unreadable s bad,
        i ∈ Acct.keys r.dir.blobs ∧ (∀ b ∈ r.store.blobs, b.id ≠ i) ∧ i < Acct.nextBlobId r) ∧
      r.ignored = Acct.unreadable s bad ∧ r.dir.corrupted = s.dir.corrupted ∧
      Acct.corruptedBlobsCount r = Acct.corruptedBlobsCount s ∧
      Acct.blobsCount r + (Acct.unreadable s bad).length = Acct.dirBlobFiles r :=
  Acct.restart_ignores h.struct lazy bad

/-- an index file whose blob is not held (were one left behind; or the index file of a skipped blob, which
    does stay) changes none of the four getters and none of the four listings … -/
theorem acct_orphan_index_irrelevant (s : Acct.State) (i : Nat) (f : Acct.IdxFile)
    (hn : ∀ b ∈ s.store.blobs, b.id ≠ i) : Acct.report (Acct.addIdx s i f) = Acct.report s := by
  have hidx : ∀ b ∈ s.store.blobs, Acct.idxFileLen (Acct.addIdx s i f).dir b.id = Acct.idxFileLen s.dir b.id := by
    intro b hb
    unfold Acct.idxFileLen Acct.addIdx
    simp only [Acct.get_put, hn b hb, if_false]
  have h1 : Acct.diskUsed (Acct.addIdx s i f) = Acct.diskUsed s := by
    unfold Acct.diskUsed
    congr 1
    apply List.map_congr_left
    intro b hb
    unfold Acct.blobDiskUsed
    rw [hidx b hb]; rfl
  have h2 : Acct.dirDiskUsed (Acct.addIdx s i f) = Acct.dirDiskUsed s := by
    unfold Acct.dirDiskUsed
    congr 1
    apply List.map_congr_left
    intro b hb
    rw [hidx b hb]; rfl
  unfold Acct.report
  rw [h1, h2]
  rfl

/-- … and no later blob can pick it up: every index file has an id below `next_blob_id` -/
theorem acct_index_ids_reserved (c : Acct.Cfg) (allowDup : Bool) (ops : List Acct.AOp) :
    let s := Acct.run c allowDup ops
    ∀ i ∈ Acct.keys s.dir.idx, i < Acct.nextBlobId s :=
  (Acct.inv_run c allowDup ops).idx_below

namespace Acct.Demo

def cfg : Acct.Cfg := { klen := 4, idxLen := fun rs => 100 + 10 * rs.length }
def w (k ts : Nat) : Acct.AOp := .write k ts none ⟨3, 7⟩ false false

/-- two blobs, both closed; a delete into the closed blob 0 (key 1 is live there); blob 1 restored as active
    and written to -/
def ops : List Acct.AOp :=
  [w 1 1, .closeActive, w 2 2, .closeActive, .delete 1 5 none true, .restoreActive, w 4 4]

end Acct.Demo

/-- the literal `blobs_count` identity FAILS under `ignore_corrupted`: 1 blob held, 2 blob files -/
theorem blobs_count_ne_files_when_ignoring :
    let s := Acct.run Acct.Demo.cfg true (Acct.Demo.ops ++ [.restart false true [0]])
    Acct.blobsCount s = 1 ∧ Acct.dirBlobFiles s = 2 ∧ s.ignored = [0] ∧
      -- the skipped blob and its (stale) index file are in the directory but in no counter
      Acct.diskUsed s = 284 ∧ Acct.dirTotal s = 555 ∧ Acct.get s.dir.idx 0 = some ⟨110, 92⟩ := by decide +kernel

/-- defect E6 (fixed in /repo 2401d8b): with `IndexStruct::disk_used` = 0 for an index held in memory,
    `disk_used` misses the index file that stays on disk — after a restart (the active blob's index file was
    written by `close`), and after a delete into a closed blob (its index is loaded; the stale file stays until
    the next dump).  The fixed getter agrees with the directory on both. -/
theorem disk_used_before_fix_wrong :
    (let s := Acct.run Acct.Demo.cfg true [Acct.Demo.w 1 1, .restart false false []]
     Acct.diskUsedOld s = 92 ∧ Acct.dirDiskUsed s = 202 ∧ Acct.diskUsed s = 202) ∧
    (let s := Acct.run Acct.Demo.cfg true [Acct.Demo.w 1 1, .closeActive, .settle, .delete 1 5 none true]
     Acct.diskUsedOld s = 161 ∧ Acct.dirDiskUsed s = 271 ∧ Acct.diskUsed s = 271) := by decide +kernel

/-! #### non-vacuity of the file-level theorems -/

-- delete into a closed blob + restore + write: (getter, listing) for blobs_count, next_blob_id, corrupted, disk_used
example : Acct.report (Acct.run Acct.Demo.cfg true Acct.Demo.ops) = [(2, 2), (2, 2), (0, 0), (545, 545)] := by
  decide +kernel
-- … both index files are stale (written for 92 bytes; the blob files have 161 and 164) and still counted;
-- the pre-fix getter misses both
example :
    let s := Acct.run Acct.Demo.cfg true Acct.Demo.ops
    s.dir.idx = [(0, ⟨110, 92⟩), (1, ⟨110, 92⟩)] ∧ s.dir.blobs = [(0, 161), (1, 164)] ∧
      Acct.diskUsedOld s = 325 := by decide +kernel
-- restart: the closed blob gets a fresh index file, so does the active one (`close`), whose index is in memory
example :
    let s := Acct.run Acct.Demo.cfg true (Acct.Demo.ops ++ [.restart false false []])
    Acct.report s = [(2, 2), (2, 2), (0, 0), (565, 565)] ∧
      s.dir.idx = [(1, ⟨120, 164⟩), (0, ⟨120, 161⟩)] ∧ Acct.diskUsedOld s = 445 := by decide +kernel
-- quarantine (`ignore_corrupted = false`): blob 0 moved, its index file removed, counted; its id stays reserved
example :
    let s := Acct.run Acct.Demo.cfg true (Acct.Demo.ops ++ [.restart false false [0]])
    Acct.report s = [(1, 1), (2, 2), (1, 1), (284, 284)] ∧ s.dir.corrupted = [0] ∧
      Acct.keys s.dir.idx = [1] ∧ Acct.diskUsed s = Acct.dirTotal s := by decide +kernel
-- skipped (`ignore_corrupted = true`), then quarantined by the next start without the flag; a lazy start of a
-- directory where every blob is unreadable holds nothing, and the start after that runs `init_new` and
-- creates blob 2, not blob 0
example :
    let s := Acct.run Acct.Demo.cfg true
      (Acct.Demo.ops ++ [.restart false true [0], .restart true false [1], .restart true false []])
    Acct.report s = [(1, 1), (3, 3), (2, 2), (20, 20)] ∧ s.dir.corrupted = [0, 1] ∧
      s.dir.blobs = [(2, 20)] ∧ s.store.blobs.map (·.id) = [2] := by decide +kernel
-- after a lazy start `disk_used` is the closed form: 2 blobs of 2 records, index files of 120 bytes
example :
    let s := Acct.run Acct.Demo.cfg true (Acct.Demo.ops ++ [.restart true false []])
    Acct.diskUsed s = 565 ∧ s.store.blobs.map (fun b => (Fs.contentLen 4 b.recs, b.recs.length, b.onDisk)) =
      [(161, 2, true), (164, 2, true)] := by decide +kernel
-- rotation and `force_update_active_blob`
example : Acct.report (Acct.run Acct.Demo.cfg true
      (Acct.Demo.ops ++ [.write 9 9 none ⟨1, 1⟩ true true, .force true, Acct.Demo.w 5 5])) =
    [(4, 4), (4, 4), (0, 0), (757, 757)] := by decide +kernel
-- `acct_inv_run` / `acct_restart_quarantines` / `acct_restart_ignores` instantiated; their `∀ i ∈ unreadable …` is
-- not vacuous here
example : AcctInv Acct.Demo.cfg
    (Acct.run Acct.Demo.cfg true (Acct.Demo.ops ++ [.restart false true [0], .restart true false [1]])) :=
  acct_inv_run _ _ _
example : Acct.unreadable (Acct.run Acct.Demo.cfg true Acct.Demo.ops) [0, 7] = [0] ∧
    Acct.unreadable (Acct.run Acct.Demo.cfg true (Acct.Demo.ops ++ [.restart false true [0]])) [1] = [0, 1] := by
  decide +kernel
example :
    let r := Acct.restart Acct.Demo.cfg (Acct.run Acct.Demo.cfg true Acct.Demo.ops) false false [0, 7]
    Acct.corruptedBlobsCount r = 0 + 1 ∧ Acct.get r.dir.idx 0 = none :=
  let h := acct_restart_quarantines (acct_inv_run Acct.Demo.cfg true Acct.Demo.ops) false [0, 7]
  ⟨h.2.2, (h.1 0 (by decide)).2.2⟩
-- the hypotheses of `acct_run_not_ignoring` / `acct_run_store` are satisfiable with every kind of operation
example : ∀ op ∈ Acct.Demo.ops ++ [.force true, .settle, .createActive, .restart true false [1]],
    Acct.NotIgnoring op := by decide
example : ∀ op ∈ Acct.Demo.ops ++ [.force true, .settle, .createActive, .restart true true []],
    Acct.NoDamage op := by decide
example : Acct.l2run Acct.Demo.cfg (Acct.init true) [Acct.Demo.w 1 1, .closeActive, .restart false false []] =
    [.write 1 1 none ⟨3, 7⟩, .closeActive, .settle, .restart false] := rfl
-- an orphan index file: in the directory, in no counter
example :
    let s := Acct.run Acct.Demo.cfg true Acct.Demo.ops
    Acct.report (Acct.addIdx s 7 ⟨55, 0⟩) = Acct.report s ∧
      Acct.dirTotal (Acct.addIdx s 7 ⟨55, 0⟩) = Acct.dirTotal s + 55 := by decide +kernel

/-! #### the model in lock-step with the implementation (`fcounts` correspondence)

The correspondence driver (`Pearl/Model/Driver.lean`) carries an `Acct.State` (`d.acct`, `Pearl/Model/AcctScript.lean`),
steps it by the `Acct.AOp`s every script line stands for, and answers the `fcounts` command from it; the harness
answers `fcounts` from the real `Storage` getters and a listing of the real directory, and the two answers are
compared line by line.  The theorems below say that whatever the script, the state `fcounts` is printed from is a state
of the proved model, run with the real record sizes and the real index file length. -/

/-- for every script the accounting state of the driver is `Acct.run` of some operations, under the configuration of
    the scenario the driver is in -/
theorem driver_acct_is_run (lines : List String) :
    ∃ ops : List Acct.AOp,
      (Driver.runScript lines).acct.st =
        Acct.run (Driver.runScript lines).acct.cfg (Driver.runScript lines).acct.dup ops :=
  Driver.acct_is_run lines

/-- … so the four identities hold of every state the driver answers `fcounts` from -/
theorem driver_acct_inv (lines : List String) :
    AcctInv (Driver.runScript lines).acct.cfg (Driver.runScript lines).acct.st :=
  .of_inv (Driver.acct_inv lines)

/-- `fcounts` is answered from that state, and does not change the driver state -/
theorem driver_fcounts (d : Driver.DState) (line : String)
    (h : (Driver.acctToks line).filter (fun t => !t.startsWith "@") = ["fcounts"]) :
    Driver.step d line = (d, AcctScript.showFcounts d.acct) :=
  Driver.step_fcounts d line h

/-- `Acct.Cfg.idxLen` of the driver is the length of the index file image of the L4 byte model (C09), for every key
    length below the fan-out bound of C09 -/
theorem driver_idxLen_real (a : AcctScript.AD) (hK : a.klen ≤ 2032) (b : Blob) :
    a.cfg.idxLen b.recs = (Driver.indexImage a.klen b (a.metaLen.getD 0)).length :=
  (AcctScript.idxLenReal_eq_image a.klen hK b _).symm

-- a concrete script (instantiation; the statements have no hypothesis to be vacuous about)
example := driver_acct_inv ["cfg key=4 dup=1 bloom=off ignore=0 @meta=89", "w 00000001 5 - 10 1", "force always",
  "nomodel", "restart bdmg=0:magic", "fcounts"]
-- the real index file of two 4-byte-key records without a bloom filter has 310 bytes (`indexsum` of the
-- implementation: `0:310:89:…`); two keys with 3 + 1 records: 83 + 89 + 16 + 4 * 61
example : AcctScript.idxLenReal 4 89 [⟨1, 5, false, none, ⟨10, 1⟩⟩, ⟨2, 5, false, none, ⟨10, 2⟩⟩] = 310 := by
  decide
example : AcctScript.idxLenReal 4 89
    [⟨1, 5, false, none, ⟨10, 1⟩⟩, ⟨2, 5, false, none, ⟨0, 0⟩⟩, ⟨1, 7, true, none, ⟨0, 0⟩⟩, ⟨1, 3, false, some [1], ⟨3, 3⟩⟩] =
    83 + 89 + 16 + 4 * 61 := by decide
-- seven records with 1000-byte keys: three leaf blocks under a root node of two keys; the implementation's index file
-- has 11611 bytes with a filter section of 2081 (`indexsum`: `0:11611:2081:…`)
example : AcctScript.idxLenReal 1000 2081 ((List.range 7).map fun i => ⟨i + 1, 5, false, none, ⟨0, 0⟩⟩) = 11611 := by
  decide
example : AcctScript.metaLenOf 4 0 = 89 ∧ AcctScript.metaLenOf 1 64 = 91 ∧ AcctScript.metaLenOf 1000 0 = 2081 := by
  decide

/-! #### `next_blob_id` never decreases: full strength

`nextId_monotone_partial` (L2) needs `nextId` = some held id + 1 (`nextId_monotone_false`: under `WF` alone it fails), and
`run_nextId_monotone` discharges that for every L2 history — but an L2 history has no damage.  Once blob files can be
quarantined the hypothesis fails on reachable storages, and the L2 `restart` (greatest HELD id + 1) would hand a
quarantined id out again; the implementation counts the ids of `corrupted` (`reserve_old_corrupted_blob_ids`), and so
does `Acct.restart`.  On the directory-level model monotonicity holds for every history without any hypothesis. -/

/-- full strength: along every directory-level history (restarts, quarantines, skipped blobs), `next_blob_id` never
    decreases -/
theorem acct_next_blob_id_monotone (c : Acct.Cfg) (allowDup : Bool) (ops more : List Acct.AOp) :
    Acct.nextBlobId (Acct.run c allowDup ops) ≤ Acct.nextBlobId (Acct.run c allowDup (ops ++ more)) :=
  Acct.run_nextId_le c allowDup ops more

/-- … and exactly by the number of blob files the operation creates -/
theorem acct_next_blob_id_step (c : Acct.Cfg) (allowDup : Bool) (ops : List Acct.AOp) (op : Acct.AOp) :
    Acct.nextBlobId (Acct.run c allowDup (ops ++ [op])) =
      Acct.nextBlobId (Acct.run c allowDup ops) + (Acct.stepC c (Acct.run c allowDup ops) op).created.length := by
  have h := (Acct.step_fileStep (Acct.inv_run c allowDup ops) op).next
  have : Acct.run c allowDup (ops ++ [op]) = Acct.step c (Acct.run c allowDup ops) op :=
    Acct.runFrom_append c _ ops [op]
  rw [this]; exact h

/-- why the hypothesis of `nextId_monotone_partial` cannot be dropped for the L2 store of a storage that has seen a
    quarantine: blob 1 (the highest) is quarantined, the store holds blob 0 only with `nextId` = 2 — well-formed, not
    tight — and the L2 `restart` would lower `nextId` to 1, the id of the quarantined file; the directory-level
    restart keeps 2 -/
theorem nextId_tightness_lost_by_quarantine :
    let s := Acct.run Acct.Demo.cfg true [Acct.Demo.w 1 1, .closeActive, Acct.Demo.w 2 2, .restart false false [1]]
    s.store.WF ∧ s.dir.corrupted = [1] ∧ s.store.nextId = 2 ∧ s.store.blobs.map (·.id) = [0] ∧
      ¬ (∃ b ∈ s.store.blobs, s.store.nextId = b.id + 1) ∧
      (s.store.apply (.restart false)).nextId = 1 ∧
      Acct.nextBlobId (Acct.step Acct.Demo.cfg s (.restart false false [])) = 2 := by
  refine ⟨(Acct.inv_run _ _ _).wf, ?_⟩
  decide +kernel

example := acct_next_blob_id_monotone Acct.Demo.cfg true Acct.Demo.ops [.restart false true [0], .restart true false [1]]
example : Acct.nextBlobId (Acct.run Acct.Demo.cfg true Acct.Demo.ops) = 2 ∧
    Acct.nextBlobId (Acct.run Acct.Demo.cfg true
      (Acct.Demo.ops ++ [.restart false true [0], .restart true false [1], .restart true false []])) = 3 := by decide +kernel

/-
NOT YET PROVED (C15, file part):

Not proved:
* `disk_used` as a function of the history alone is proved where every non-empty held blob has its index on
  disk (`Acct.Inv.diskUsed_closed_form`, `disk_used_after_lazy_restart`); in between, the index-file term is the
  length of the file found in the directory (`acct_disk_used_history`), which `Acct.BlobOK.snap` ties to a
  prefix of the records (the records at the last dump) without naming that prefix in the statement;

Outside the model, or trusted:
* the link between `Acct.step` and the real file operations is by construction of the model from the sources
  listed in `Pearl/Model/Acct.lean`, and by the `fcounts` correspondence check: the driver steps `Acct.State`
  in lock-step with the script (`driver_acct_is_run`) and its answers are compared with the implementation's.  What
  the correspondence does NOT cover (the driver answers `fcounts ?`): damage whose effect the record scanner decides
  (`cut`, `dflip`: a blob that stays readable with a shorter file or without its index file is not an `Acct.AOp`),
  index damage / removal between sessions, fault injection, really cancelled operations, requests left in the
  worker's queue at `close`;  a rotation that meets a still running dump task (the dump is then deferred) is
  assumed not to happen: scripts probe (`fcounts` quiesces) between rotations;
* `idxLen` is the real one for the driver (`driver_idxLen_real`: `fileSize` of the C09 serializer model = length
  of its byte image); the length of the filter section is an input (`@meta=` / `@bits=` from the implementation;
  `AcctScript.metaLenOf` is read off `serialize_filters` and agreed with the implementation on every configuration
  tried); the theorems over `Acct.run` stay parametric in `idxLen`;
* errors of `Blob::from_file` for which `should_save_corrupted_blob` is false make `init` fail and are outside
  the model; so are crashes (torn files) between the operations — `restart` is `close` + `init`;
* `fsync`, memory accounting (`index_memory`) and the bloom-filter getters are not covered.
-/

end Pearl
