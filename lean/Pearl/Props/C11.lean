import Pearl.Proofs.FaultLemmas
import Pearl.Proofs.ScanRegions
/-
C11 "I/O fault containment": ONE blob, arbitrary sequences of write steps whose positional writes succeed,
fail before anything is written, are cut short after `n` bytes, or (two-buffer records) fail at the
second buffer; index dumps that fail; and what a restart makes of the resulting file.

Model: Pearl/Model/Fault.lean (`writeStep` follows the order of effects of `write_append_writable_data` +
`Blob::write`: reserve, write, push on success only).  Lemmas: Pearl/Proofs/FaultLemmas.lean (one step, a run, the
acknowledged records) and Pearl/Proofs/ScanRegions.lean (`fileBody`, `scanRegions`, `Visited`: the file a run leaves,
region by region, and the start-up scan over it; `restart_good_silent`, `restart_short_region` and everything from
`fileAfter_regions` on rest on it).
`maxSP` is `MAX_SINGLE_PASS_DATA_SIZE` (4096 in the code); the theorems hold for every value.

`run maxSP st steps` is the state after the steps, `acked maxSP st steps` the acknowledged records with
their offsets, `ackedHeaders` their index headers, `cut maxSP r o` the number of bytes of `r`'s image an
outcome lets through (`recLen r` for `ok`, 0 for `failBefore`, `n` for `short n`, header + meta for
`failSecond` on a two-buffer record and 0 on a one-buffer record).

The offset of the record after some steps is written in four ways in the statements: `20 + (tailOf 20 Rs).length`
(first-fault theorems), `20 + regionsLen steps` (regions), `(run maxSP fresh steps).file.size` (the reservation
counter) and, for produced blobs, `(blobBytes klen (recs.take i)).length`.  The bridges: `tailOf_length_regionsLen`,
`size_after`, `image_length_recLen` with `recLen_of_WF` (the size of a record: `recLen` = `Record.size`), and
`ProducedAt.off_eq`.
-/
namespace Pearl.C11
open Pearl Pearl.Fault

/-- the reservation is never undone; the file only grows; whatever a step writes lies at or beyond
    the `size` it started with (the bytes between the old end of the file and that `size`, a hole left
    by earlier failures, read as zeros); and `bytes.length ≤ size` is kept -/
theorem write_never_touches_reserved (maxSP : Nat) (st : BlobSt) (r : Record) (o : Outcome)
    (h : st.file.bytes.length ≤ st.file.size) :
    let st' := (writeStep maxSP st r o).1
    st'.file.size = st.file.size + recLen r ∧ st'.file.bytes.length ≤ st'.file.size ∧
    ∃ k w, st'.file.bytes = st.file.bytes ++ List.replicate k 0 ++ w ∧
      (w ≠ [] → st.file.bytes.length + k = st.file.size) ∧
      w = (r.image st.file.size).take (cut maxSP r o) := by
  refine ⟨writeStep_size maxSP st r o, writeStep_le maxSP st r o h, ?_⟩
  rw [writeStep_bytes maxSP st r o h]
  by_cases hc : cut maxSP r o = 0
  · rw [if_pos hc]
    exact ⟨0, [], by simp, fun h => absurd rfl h, by rw [hc, List.take_zero]⟩
  · rw [if_neg hc]
    exact ⟨_, _, rfl, fun _ => by omega, rfl⟩

/-- the same for a whole run -/
theorem run_only_extends (maxSP : Nat) (st : BlobSt) (steps : List (Record × Outcome))
    (h : st.file.bytes.length ≤ st.file.size) :
    (∃ ext, (run maxSP st steps).file.bytes = st.file.bytes ++ ext) ∧
    (run maxSP st steps).file.bytes.length ≤ (run maxSP st steps).file.size ∧
    st.file.size ≤ (run maxSP st steps).file.size :=
  ⟨run_extends maxSP st steps h, run_le maxSP st steps h, run_size_ge maxSP st steps⟩

/-- the acknowledged records occupy pairwise disjoint ranges, in increasing order, between the `size`
    at the start and the `size` at the end -/
theorem acked_ranges_disjoint (maxSP : Nat) (st : BlobSt) (steps : List (Record × Outcome)) :
    (∀ x ∈ acked maxSP st steps,
      st.file.size ≤ x.2 ∧ x.2 + recLen x.1 ≤ (run maxSP st steps).file.size) ∧
    (acked maxSP st steps).Pairwise (fun a b => a.2 + recLen a.1 ≤ b.2) :=
  acked_ranges maxSP st steps

/-- the index after a run holds what it held before plus exactly the entries of the acknowledged steps -/
theorem index_is_acked (maxSP : Nat) (st : BlobSt) (steps : List (Record × Outcome)) :
    (run maxSP st steps).index = st.index ++ (acked maxSP st steps).map (entryOf maxSP) :=
  run_index maxSP st steps

/-- a step is acknowledged iff its outcome is `ok` (index in memory) -/
theorem acked_iff_ok (maxSP : Nat) (st : BlobSt) (steps : List (Record × Outcome))
    (hd : st.onDisk = false) : acks maxSP st steps = steps.map (fun s => decide (s.2 = .ok)) := by
  induction steps generalizing st with
  | nil => rfl
  | cons x rest ih =>
    obtain ⟨r, o⟩ := x
    simp only [acks, List.map_cons]
    rw [ih _ (by rw [writeStep_onDisk]; exact hd), writeStep_ack, hd]
    simp

/-- every record acknowledged so far is in the index, with an offset at which `Entry::load` returns
    exactly its meta bytes and data — whatever happened in the other steps -/
theorem acked_stay_readable (klen maxSP : Nat) (st : BlobSt) (steps : List (Record × Outcome))
    (h : st.file.bytes.length ≤ st.file.size)
    (hwf : ∀ s ∈ steps, s.1.WF klen ∧ (serMeta s.1.mt).length < 2 ^ 64) :
    ∀ x ∈ acked maxSP st steps,
      entryOf maxSP x ∈ (run maxSP st steps).index ∧
      entryLoad (run maxSP st steps).file.bytes (writtenHeader x.1 x.2 maxSP) =
        .ok (serMeta x.1.mt, x.1.data) := by
  intro x hx
  refine ⟨?_, acked_loads maxSP st steps h hwf x hx⟩
  rw [run_index]
  exact List.mem_append_right _ (List.mem_map_of_mem hx)

/-- entries that loaded before the run load with the same result after it -/
theorem old_entries_stay_readable (maxSP : Nat) (st : BlobSt) (steps : List (Record × Outcome))
    (h : st.file.bytes.length ≤ st.file.size) (hd : RecHeader) (x : List UInt8 × List UInt8)
    (hok : entryLoad st.file.bytes hd = .ok x) :
    entryLoad (run maxSP st steps).file.bytes hd = .ok x := by
  obtain ⟨ext, hext⟩ := run_extends maxSP st steps h
  rw [hext]
  exact entryLoad_append_right hok ext

/-- a step that returns an error leaves the index, its residence and the index file as they were -/
theorem failed_not_served_in_session (maxSP : Nat) (st : BlobSt) (r : Record) (o : Outcome)
    (hfail : (writeStep maxSP st r o).2 = false) :
    (writeStep maxSP st r o).1.index = st.index ∧ (writeStep maxSP st r o).1.entries = st.entries := by
  have hi : (writeStep maxSP st r o).1.index = st.index := by
    rw [writeStep_index, hfail]; rfl
  refine ⟨hi, ?_⟩
  unfold BlobSt.entries
  rw [hi, writeStep_onDisk, writeStep_idxFile]

theorem not_ok_fails (maxSP : Nat) (st : BlobSt) (r : Record) (o : Outcome) (ho : o ≠ .ok) :
    (writeStep maxSP st r o).2 = false := by
  rw [writeStep_ack]; simp [ho]

/-- in a run, the offset reserved by a failed step never appears in an index entry the run added -/
theorem failed_step_never_indexed (maxSP : Nat) (st : BlobSt) (a b : List (Record × Outcome))
    (r : Record) (o : Outcome) (ho : o ≠ .ok) :
    ∀ e ∈ (run maxSP st (a ++ (r, o) :: b)).index,
      e.2 = (run maxSP st a).file.size → e ∈ st.index := by
  intro e he hoff
  rw [run_index, acked_append] at he
  have hack := not_ok_fails maxSP (run maxSP st a) r o ho
  simp only [acked, hack, Bool.false_eq_true, ↓reduceIte, List.nil_append, List.map_append,
    List.mem_append, List.mem_map] at he
  rcases he with he | ⟨x, hx, rfl⟩ | ⟨x, hx, rfl⟩
  · exact he
  · have := (acked_ranges maxSP st a).1 x hx
    have hp := recLen_pos x.1
    simp only [entryOf] at hoff
    omega
  · have := ((acked_ranges maxSP _ b).1 x hx).1
    rw [writeStep_size] at this
    have hp := recLen_pos r
    simp only [entryOf] at hoff
    omega

/-- after any sequence of steps, a step whose writes succeed is acknowledged, indexed and readable -/
theorem accepts_after_fault (klen maxSP : Nat) (st : BlobSt) (steps : List (Record × Outcome))
    (h : st.file.bytes.length ≤ st.file.size) (hd : st.onDisk = false) (r : Record)
    (hwf : r.WF klen) (hm : (serMeta r.mt).length < 2 ^ 64) :
    let st1 := run maxSP st steps
    let res := writeStep maxSP st1 r .ok
    res.2 = true ∧
    res.1.index = st1.index ++ [(writtenHeader r st1.file.size maxSP, st1.file.size)] ∧
    entryLoad res.1.file.bytes (writtenHeader r st1.file.size maxSP) = .ok (serMeta r.mt, r.data) := by
  intro st1 res
  have hd1 : st1.onDisk = false := by rw [run_onDisk]; exact hd
  have hack : res.2 = true := by rw [writeStep_ack, hd1]; rfl
  refine ⟨hack, ?_, writeStep_ok_loads maxSP st1 r (run_le maxSP st steps h) hwf hm⟩
  rw [writeStep_index, hack]; rfl

/-- the file a restart finds -/
abbrev fileAfter (maxSP : Nat) (steps : List (Record × Outcome)) : List UInt8 :=
  (run maxSP fresh steps).file.bytes

/-- (1) start-up never fails on the file any sequence of steps leaves: the blob is opened or quarantined;
    (2) when every write succeeded it is opened with exactly the acknowledged headers, which are the
    headers of the in-memory index -/
theorem restart_after_faults (klen maxSP : Nat) (v : Bool) (steps : List (Record × Outcome)) :
    openBlob klen v (fileAfter maxSP steps) ≠ .fail ∧
    (allOk steps → GoodRecs klen (steps.map (·.1)) → (fileAfter maxSP steps).length < 2 ^ 64 →
      openBlob klen v (fileAfter maxSP steps) = .ok (ackedHeaders maxSP fresh steps) ∧
      ackedHeaders maxSP fresh steps = (run maxSP fresh steps).index.map (·.1) ∧
      (acked maxSP fresh steps).map (·.1) = steps.map (·.1)) := by
  constructor
  · obtain ⟨ext, hext⟩ := run_extends maxSP fresh steps (Nat.le_of_eq fresh_le)
    exact openBlob_ne_fail klen v _ (Or.inr ⟨ext, hext⟩)
  · intro hok hg hlen
    have hf : fileAfter maxSP steps = appendRecords serBlobHeader (steps.map (·.1)) := by
      rw [appendRecords_eq, serBlobHeader_length]
      have := fresh_run_allOk_append maxSP steps [] hok
      rwa [List.append_nil, show fileBody maxSP _ [] = [] from rfl, List.append_nil] at this
    rw [hf] at hlen ⊢
    exact ⟨by rw [ackedHeaders_allOk maxSP steps hok]; exact openBlob_appendRecords v _ hg hlen,
      (index_headers maxSP steps).symm, (acked_allOk maxSP fresh steps rfl hok).2⟩

/-- whatever start-up decides (open or quarantine — it does not modify the file), the file left by ANY
    sequence of steps still holds every acknowledged record, loadable at its offset: a quarantined blob
    preserves all acknowledged data -/
theorem acked_in_file_after_any_faults (klen maxSP : Nat) (steps : List (Record × Outcome))
    (hwf : ∀ s ∈ steps, s.1.WF klen ∧ (serMeta s.1.mt).length < 2 ^ 64) :
    ∀ x ∈ acked maxSP fresh steps,
      entryLoad (fileAfter maxSP steps) (writtenHeader x.1 x.2 maxSP) = .ok (serMeta x.1.mt, x.1.data) :=
  fun x hx => (acked_stay_readable klen maxSP fresh steps (Nat.le_of_eq fresh_le) hwf x hx).2

/-! ### the two shapes of a run the restart theorems speak of (over `Visited`, Pearl/Proofs/ScanRegions.lean) -/

theorem allOk_cut_ge {klen maxSP : Nat} {oks : List (Record × Outcome)} (hok : allOk oks)
    (hg : GoodRecs klen (oks.map (·.1))) : ∀ s ∈ oks, 57 + klen ≤ cut maxSP s.1 s.2 := fun s hs => by
  rw [show s.2 = .ok from hok s hs]
  exact ok_cut_ge maxSP s.1 (hg s.1 (List.mem_map_of_mem hs)).1

theorem allOk_le_fileAfter (maxSP : Nat) {oks : List (Record × Outcome)} (hok : allOk oks)
    (rest : List (Record × Outcome)) : 20 + regionsLen oks ≤ (fileAfter maxSP (oks ++ rest)).length := by
  show _ ≤ (run maxSP fresh (oks ++ rest)).file.bytes.length
  rw [fresh_run_allOk_append maxSP oks rest hok]
  simp only [List.length_append, serBlobHeader_length, tailOf_length_regionsLen]
  omega

/-- steps that all left a complete header, then steps that left nothing: the blob opens with the headers of the
    former, acknowledged or not; with data validation provided each of them left its complete record or has no data.
    Nothing is assumed of the records of `silent`. -/
theorem restart_good_silent (klen maxSP : Nat) (v : Bool) (good silent : List (Record × Outcome))
    (hgood : ∀ s ∈ good, 57 + klen ≤ cut maxSP s.1 s.2)
    (hdata : v = true → ∀ s ∈ good, recLen s.1 ≤ cut maxSP s.1 s.2 ∨ s.1.data = [])
    (hsil : ∀ s ∈ silent, cut maxSP s.1 s.2 = 0)
    (hg : GoodRecs klen (good.map (·.1))) (hsz : 20 + regionsLen good < 2 ^ 64) :
    openBlob klen v (fileAfter maxSP (good ++ silent)) = .ok (writtenHeaders serBlobHeader (good.map (·.1))) := by
  have hV : Visited klen maxSP 20 (good ++ silent) := visited_good_append good silent hgood hg 20 hsz (by
    cases silent with
    | nil => trivial
    | cons x rest =>
      simp only [Visited]
      rw [if_pos (by rw [hsil x (List.mem_cons_self ..)]; omega)]
      exact fun hne => absurd ((fileBody_eq_nil_iff ..).mpr fun s hs => hsil s (List.mem_cons_of_mem _ hs)) hne)
  rw [show fileAfter maxSP (good ++ silent) = _ from fresh_run_fileBody maxSP _, openBlob_visited klen maxSP v _ hV,
    scanRegions_good_append klen maxSP v good silent hgood hdata 20, scanRegions_of_nil klen maxSP v _ silent ((fileBody_eq_nil_iff ..).mpr hsil)]
  simp only [List.append_nil]
  rw [← serBlobHeader_length BlobHeader.new, ← writtenHeaders_eq]

/-- after steps that all left a complete header, a step left less than a header and something is in the file at or
    after it: the blob is quarantined, unless a later write completed the header by a zero-padding accident.
    Nothing is assumed of the records of `later`, and of `R` only where a later step wrote. -/
theorem restart_short_region (klen maxSP : Nat) (v : Bool) (good later : List (Record × Outcome)) (R : Record)
    (o : Outcome) (hgood : ∀ s ∈ good, 57 + klen ≤ cut maxSP s.1 s.2) (hc : cut maxSP R o < 57 + klen)
    (hw : cut maxSP R o ≠ 0 ∨ ∃ s ∈ later, cut maxSP s.1 s.2 ≠ 0)
    (hpad : (∃ s ∈ later, cut maxSP s.1 s.2 ≠ 0) →
      57 + klen ≤ recLen R ∧ (0 < cut maxSP R o → PadBad klen R (20 + regionsLen good) (cut maxSP R o)))
    (hg : GoodRecs klen (good.map (·.1))) (hsz : 20 + regionsLen good < 2 ^ 64) :
    openBlob klen v (fileAfter maxSP (good ++ (R, o) :: later)) = .quarantine := by
  have hV : Visited klen maxSP 20 (good ++ (R, o) :: later) := visited_good_append good _ hgood hg 20 hsz (by
    simp only [Visited]
    rw [if_pos hc]
    exact fun hne => hpad ((fileBody_ne_nil_iff ..).mp hne))
  obtain ⟨e, he⟩ := scanRegions_stop klen maxSP v (20 + regionsLen good) R o later hc hw
  obtain ⟨e', he'⟩ := scanRegions_good_append_error klen maxSP v good _ hgood 20 _ he
  rw [show fileAfter maxSP (good ++ (R, o) :: later) = _ from fresh_run_fileBody maxSP _,
    openBlob_visited klen maxSP v _ hV, he']

/-! ### the first step that is not `ok`

Throughout: `steps = oks ++ (R, o) :: later`, all steps of `oks` are `ok`, `Rs` are their records,
`off = 20 + |tailOf 20 Rs|` is the offset `R` was given, `c = cut maxSP R o`. -/

/-- the acknowledged headers of the steps before the first fault are the headers of `Rs`; `R`'s header is
    not among them and not among those of later steps either (offsets differ) -/
theorem ackedHeaders_first_fault (maxSP : Nat) (oks later : List (Record × Outcome)) (R : Record)
    (o : Outcome) (hok : allOk oks) (ho : o ≠ .ok) :
    ackedHeaders maxSP fresh (oks ++ (R, o) :: later) =
      writtenHeaders serBlobHeader (oks.map (·.1)) ++
        ackedHeaders maxSP (run maxSP fresh (oks ++ [(R, o)])) later := by
  unfold ackedHeaders
  rw [acked_first_fault maxSP oks later R o ho, List.map_append]
  congr 1
  exact ackedHeaders_allOk maxSP oks hok

/-- (a) the failed step wrote nothing and no later step wrote anything (so none of them is
    acknowledged): the file is the intact blob of the acknowledged records; start-up opens it with
    exactly their headers -/
theorem first_fault_nothing_written (klen maxSP : Nat) (v : Bool) (oks later : List (Record × Outcome))
    (R : Record) (o : Outcome) (hok : allOk oks) (ho : o ≠ .ok) (hc : cut maxSP R o = 0)
    (hsil : ∀ s ∈ later, cut maxSP s.1 s.2 = 0)
    (hg : GoodRecs klen (oks.map (·.1)))
    (hlen : (fileAfter maxSP (oks ++ (R, o) :: later)).length < 2 ^ 64) :
    fileAfter maxSP (oks ++ (R, o) :: later) = appendRecords serBlobHeader (oks.map (·.1)) ∧
    openBlob klen v (fileAfter maxSP (oks ++ (R, o) :: later)) =
      .ok (ackedHeaders maxSP fresh (oks ++ (R, o) :: later)) := by
  have hf : fileAfter maxSP (oks ++ (R, o) :: later) = appendRecords serBlobHeader (oks.map (·.1)) := by
    rw [appendRecords_eq, serBlobHeader_length]
    refine (fresh_run_allOk_append maxSP oks _ hok).trans ?_
    rw [(fileBody_eq_nil_iff ..).mpr (List.forall_mem_cons.mpr ⟨hc, hsil⟩), List.append_nil]
  refine ⟨hf, ?_⟩
  rw [ackedHeaders_first_fault_silent maxSP oks later R o hok ho hsil]
  rw [hf] at hlen ⊢
  exact openBlob_appendRecords v _ hg hlen

/-- (b) the failed step wrote nothing (`failBefore`, `short 0`, `failSecond` on a one-buffer record) and
    some later step wrote something: at the failed step's offset the scan reads a header's worth of
    zeros of the hole, `Header::validate` fails with `RecordMagicByte`, and the blob is quarantined -/
theorem first_fault_hole_quarantine (klen maxSP : Nat) (v : Bool) (oks later : List (Record × Outcome))
    (R : Record) (o : Outcome) (hok : allOk oks) (hc : cut maxSP R o = 0)
    (hnoisy : ∃ s ∈ later, cut maxSP s.1 s.2 ≠ 0)
    (hg : GoodRecs klen (oks.map (·.1))) (hwf : R.WF klen)
    (hlen : (fileAfter maxSP (oks ++ (R, o) :: later)).length < 2 ^ 64) :
    readCurrentRecord v (fileAfter maxSP (oks ++ (R, o) :: later)) (57 + klen)
      (20 + (tailOf 20 (oks.map (·.1))).length) = .error (.load .recordMagicByte) ∧
    openBlob klen v (fileAfter maxSP (oks ++ (R, o) :: later)) = .quarantine := by
  have hne := (fileBody_ne_nil_iff maxSP (20 + (tailOf 20 (oks.map (·.1))).length + recLen R) later).mpr hnoisy
  have hf := fresh_run_allOk_append maxSP oks ((R, o) :: later) hok
  rw [fileBody_cons, if_neg hne, hc] at hf
  have hrl : 57 + klen ≤ recLen R := by rw [recLen_of_WF hwf]; omega
  refine ⟨?_, restart_short_region klen maxSP v oks later R o (allOk_cut_ge hok hg) (by omega) (Or.inr hnoisy)
    (fun _ => ⟨hrl, fun h0 => absurd h0 (by omega)⟩) hg
    (Nat.lt_of_le_of_lt (allOk_le_fileAfter maxSP hok _) hlen)⟩
  show readCurrentRecord v (run maxSP fresh _).file.bytes _ _ = _
  rw [hf, ← List.append_assoc, ← (stop_hole klen R (20 + (tailOf 20 (oks.map (·.1))).length)).2]
  exact stop_padded v klen _ _ R _ 0 (by rw [List.length_append, serBlobHeader_length]) (by omega) hrl
    (stop_hole klen R _).1

/-- (c) the failed step left a proper, non-empty prefix of the header and no later step wrote anything:
    the header read hits the end of the file (`Bincode`), the blob is quarantined -/
theorem first_fault_torn_header_quarantine (klen maxSP : Nat) (v : Bool)
    (oks later : List (Record × Outcome)) (R : Record) (o : Outcome) (hok : allOk oks)
    (hc0 : 0 < cut maxSP R o) (hc : cut maxSP R o < 57 + klen)
    (hsil : ∀ s ∈ later, cut maxSP s.1 s.2 = 0)
    (hg : GoodRecs klen (oks.map (·.1)))
    (hlen : (fileAfter maxSP (oks ++ (R, o) :: later)).length < 2 ^ 64) :
    readCurrentRecord v (fileAfter maxSP (oks ++ (R, o) :: later)) (57 + klen)
      (20 + (tailOf 20 (oks.map (·.1))).length) = .error (.load .bincode) ∧
    openBlob klen v (fileAfter maxSP (oks ++ (R, o) :: later)) = .quarantine := by
  have hf := fresh_run_allOk_append maxSP oks ((R, o) :: later) hok
  rw [fileBody_cons, if_pos ((fileBody_eq_nil_iff ..).mpr hsil)] at hf
  refine ⟨?_, restart_short_region klen maxSP v oks later R o (allOk_cut_ge hok hg) hc (Or.inl (by omega))
    (fun ⟨s, hs, h⟩ => absurd (hsil s hs) h) hg (Nat.lt_of_le_of_lt (allOk_le_fileAfter maxSP hok _) hlen)⟩
  show readCurrentRecord v (run maxSP fresh _).file.bytes _ _ = _
  rw [hf, ← List.append_assoc]
  exact stop_torn_header v _ R _ (cut maxSP R o) klen (by rw [List.length_append, serBlobHeader_length]) hc

/-- the bytes the scan reads at the failed step's offset when a proper prefix of the header was written
    and a later step extended the file: the prefix, zero-padded to the header size -/
def paddedHeader (klen : Nat) (R : Record) (off c : Nat) : List UInt8 :=
  (R.image off).take c ++ List.replicate (57 + klen - c) 0

/-- (d, `_partial`) the failed step left a proper prefix of the header and a later step wrote
    something: the blob is quarantined PROVIDED the zero-padded prefix does not parse to a header that
    passes `Header::validate` (the hypothesis cannot be dropped: `torn_header_zero_padded_accepted`) -/
theorem first_fault_torn_header_padded_partial (klen maxSP : Nat) (v : Bool)
    (oks later : List (Record × Outcome)) (R : Record) (o : Outcome) (hok : allOk oks)
    (hc : cut maxSP R o < 57 + klen) (hnoisy : ∃ s ∈ later, cut maxSP s.1 s.2 ≠ 0)
    (hg : GoodRecs klen (oks.map (·.1))) (hwf : R.WF klen)
    (hlen : (fileAfter maxSP (oks ++ (R, o) :: later)).length < 2 ^ 64)
    (hbad : ∀ h, deserHeader (paddedHeader klen R (20 + (tailOf 20 (oks.map (·.1))).length)
      (cut maxSP R o)) = some h → headerValidate h ≠ .ok ()) :
    openBlob klen v (fileAfter maxSP (oks ++ (R, o) :: later)) = .quarantine :=
  restart_short_region klen maxSP v oks later R o (allOk_cut_ge hok hg) hc (Or.inr hnoisy)
    (fun _ => ⟨by rw [recLen_of_WF hwf]; omega, fun _ => by rw [← tailOf_length_regionsLen 20]; exact hbad⟩) hg
    (Nat.lt_of_le_of_lt (allOk_le_fileAfter maxSP hok _) hlen)

theorem writtenHeaders_snoc (Rs : List Record) (R : Record) :
    writtenHeaders serBlobHeader (Rs ++ [R]) =
      writtenHeaders serBlobHeader Rs ++ [R.header.final (20 + (tailOf 20 Rs).length)] :=
  writtenHeaders_snoc_final Rs R

/-- (e) the failed step left the complete header but not the complete record
    (`57 + klen ≤ cut < recLen R`: `short n` with `n` at least the header size, or `failSecond` on a
    two-buffer record with data) and no later step wrote anything. Start-up WITHOUT data validation (the
    default) opens the blob with the acknowledged headers AND the header of the failed write; with data
    validation, and data present, the blob is quarantined. -/
theorem failed_write_indexed_after_restart (klen maxSP : Nat) (v : Bool)
    (oks later : List (Record × Outcome)) (R : Record) (o : Outcome) (hok : allOk oks) (ho : o ≠ .ok)
    (hc1 : 57 + klen ≤ cut maxSP R o) (hc2 : cut maxSP R o < recLen R)
    (hsil : ∀ s ∈ later, cut maxSP s.1 s.2 = 0)
    (hg : GoodRecs klen (oks.map (·.1) ++ [R]))
    (hlen : 20 + (tailOf 20 (oks.map (·.1))).length + recLen R < 2 ^ 64) :
    openBlob klen v (fileAfter maxSP (oks ++ (R, o) :: later)) =
      if v = true ∧ R.data ≠ [] then .quarantine
      else .ok (ackedHeaders maxSP fresh (oks ++ (R, o) :: later) ++
        [writtenHeader R (20 + (tailOf 20 (oks.map (·.1))).length) maxSP]) := by
  have hf := fresh_run_allOk_append maxSP oks ((R, o) :: later) hok
  rw [fileBody_cons, if_pos ((fileBody_eq_nil_iff ..).mpr hsil)] at hf
  have hload := rawRecordsLoad_torn_tail v (oks.map (·.1)) R (cut maxSP R o) hg hlen hc1 hc2
  have hne : tailOf 20 (oks.map (·.1)) ++
      (R.image (20 + (tailOf 20 (oks.map (·.1))).length)).take (cut maxSP R o) ≠ [] :=
    fun h => take_image_ne_nil R _ _ (by omega) (List.append_eq_nil_iff.mp h).2
  show openBlob klen v (run maxSP fresh (oks ++ (R, o) :: later)).file.bytes = _
  rw [hf, openBlob_of_load klen v _ hne, hload]
  by_cases hvd : v = true ∧ R.data ≠ []
  · rw [if_pos hvd, if_pos hvd]; rfl
  · rw [if_neg hvd, if_neg hvd]
    simp only
    rw [ackedHeaders_first_fault_silent maxSP oks later R o hok ho hsil, writtenHeaders_snoc, writtenHeader_eq]

/-- the general statement for `failSecond`: a two-buffer record whose second buffer fails is, after a
    restart without data validation, in the index of the blob, although the write returned an error -/
theorem failed_write_indexed_after_restart_failSecond (klen maxSP : Nat)
    (oks later : List (Record × Outcome)) (R : Record) (hok : allOk oks) (h2 : twoBuf maxSP R)
    (hsil : ∀ s ∈ later, cut maxSP s.1 s.2 = 0)
    (hg : GoodRecs klen (oks.map (·.1) ++ [R]))
    (hlen : 20 + (tailOf 20 (oks.map (·.1))).length + recLen R < 2 ^ 64) :
    (writeStep maxSP (run maxSP fresh oks) R .failSecond).2 = false ∧
    openBlob klen false (fileAfter maxSP (oks ++ (R, .failSecond) :: later)) =
      .ok (ackedHeaders maxSP fresh (oks ++ (R, .failSecond) :: later) ++
        [writtenHeader R (20 + (tailOf 20 (oks.map (·.1))).length) maxSP]) := by
  refine ⟨not_ok_fails maxSP _ R _ (by intro h; cases h), ?_⟩
  have hwf := (hg R (by simp)).1
  have hcut : cut maxSP R .failSecond = headLen R := if_neg h2
  have hgood : ∀ s ∈ oks ++ [(R, .failSecond)], 57 + klen ≤ cut maxSP s.1 s.2 := by
    intro s hs
    rcases List.mem_append.mp hs with hs | hs
    · exact allOk_cut_ge hok (fun X hX => hg X (List.mem_append_left _ hX)) s hs
    · rw [List.mem_singleton] at hs; subst hs; rw [hcut]; unfold headLen; rw [hwf.key]; omega
  -- without data validation a complete header is all the scan asks of a region
  have h := restart_good_silent klen maxSP false (oks ++ [(R, .failSecond)]) later hgood (fun h => nomatch h) hsil
    (by rw [List.map_append]; exact hg)
    (by rw [regionsLen_append, ← tailOf_length_regionsLen 20]; simp only [regionsLen]; omega)
  rw [List.append_assoc] at h
  rw [List.map_append, show [(R, Outcome.failSecond)].map (·.1) = [R] from rfl, writtenHeaders_snoc] at h
  rw [ackedHeaders_first_fault_silent maxSP oks later R _ hok (by intro h; cases h) hsil, writtenHeader_eq]
  exact h

/-! ### the witness of E8 (replayable on the code with a failpoint), `FailedNotServedLater` refuted, its true version,
and the witness of the zero-padding accident -/

def wA : Record := Record.create 3 1 101 none [1, 2, 3, 4]
def wB : Record := Record.create 3 2 102 none [5, 6, 7, 8, 9]

/-- key 2, timestamp 125, no meta, no data: at offset 20 the last byte of its header (the top byte of the
    header checksum) is 0, its meta bytes (`le64 0`) are zeros -/
def wZ : Record := Record.create 3 2 125 none []

theorem goodW (steps : List (Record × Outcome)) (h : ∀ s ∈ steps, s.1 = wA ∨ s.1 = wB ∨ s.1 = wZ) :
    GoodRecs 3 (steps.map (·.1)) := by
  intro R hR
  obtain ⟨s, hs, rfl⟩ := List.mem_map.mp hR
  rcases h s hs with h | h | h <;> rw [h] <;> exact ⟨Record.create_WF .., by decide⟩

/-- write key 1 (acknowledged), then write key 2 with the pwrite cut after 62 of its 73 bytes (60 header
    bytes + 2 bytes of meta): the second write returns an error -/
def witnessSteps : List (Record × Outcome) := [(wA, .ok), (wB, .short 62)]

set_option maxRecDepth 1000000 in
/-- FINDING E8 on the witness: the failed write is not in the index in this session; after a restart
    without data validation its header IS in the index (`contains` / `exist` answer yes) although the
    record cannot be loaded; with data validation the whole blob — the acknowledged record included — is
    quarantined -/
theorem failed_write_indexed_after_restart_witness :
    acks 4096 fresh witnessSteps = [true, false] ∧
    (run 4096 fresh witnessSteps).index = [(writtenHeader wA 20 4096, 20)] ∧
    openBlob 3 false (fileAfter 4096 witnessSteps) =
      .ok [writtenHeader wA 20 4096, writtenHeader wB 92 4096] ∧
    entryLoad (fileAfter 4096 witnessSteps) (writtenHeader wA 20 4096) = .ok (serMeta none, [1, 2, 3, 4]) ∧
    entryLoad (fileAfter 4096 witnessSteps) (writtenHeader wB 92 4096) = .error .bincode ∧
    openBlob 3 true (fileAfter 4096 witnessSteps) = .quarantine := by
  have hopen := fun v => failed_write_indexed_after_restart 3 4096 v [(wA, .ok)] [] wB (.short 62)
    (by unfold allOk; decide) (by decide) (by decide) (by decide) (by decide)
    (goodW [(wA, .ok), (wB, .ok)] (by decide +kernel)) (by decide)
  refine ⟨by decide, rfl, hopen false, ?_, ?_, (hopen true).trans (if_pos (by decide))⟩
  · exact acked_in_file_after_any_faults 3 4096 witnessSteps (fun s hs => ⟨(goodW witnessSteps (by decide +kernel) s.1 (List.mem_map_of_mem hs)).1, by
      revert s; decide⟩) (wA, 20) (by decide +kernel)
  · rw [show fileAfter 4096 witnessSteps = _ from
      fresh_run_allOk_append 4096 [(wA, .ok)] [(wB, .short 62)] (by unfold allOk; decide),
      fileBody_cons, if_pos (by rfl), ← List.append_assoc, writtenHeader_eq]
    exact entryLoad_torn _ wB (Record.create_WF ..) 92 62 (by decide) (by decide)

/-- "a step that returned an error is never in the index a restart builds" -/
def FailedNotServedLater : Prop :=
  ∀ (klen maxSP : Nat) (a b : List (Record × Outcome)) (r : Record) (o : Outcome) (hs : List RecHeader),
    o ≠ .ok → GoodRecs klen ((a ++ (r, o) :: b).map (·.1)) →
    openBlob klen false (fileAfter maxSP (a ++ (r, o) :: b)) = .ok hs →
    writtenHeader r (run maxSP fresh a).file.size maxSP ∉ hs

set_option maxRecDepth 1000000 in
/-- `FailedNotServedLater` is FALSE across a restart -/
theorem failed_not_served_later_false : ¬ FailedNotServedLater := by
  intro h
  have h1 := failed_write_indexed_after_restart_witness.2.2.1
  have := h 3 4096 [(wA, .ok)] [] wB (.short 62) _ (by intro h; cases h) (goodW _ (by decide +kernel)) h1
  apply this
  have : (run 4096 fresh [(wA, Outcome.ok)]).file.size = 92 := by decide
  rw [this]
  simp

/-- the header a record would get at the end of the blob is not among the headers of the blob -/
theorem final_not_mem_writtenHeaders (Rs : List Record) (R : Record) :
    R.header.final (20 + (tailOf 20 Rs).length) ∉ writtenHeaders serBlobHeader Rs := by
  intro hmem
  rw [writtenHeaders_eq, serBlobHeader_length] at hmem
  obtain ⟨x, hx, hxe⟩ := List.mem_map.mp hmem
  obtain ⟨h1, h2⟩ := scanOf_offsets 20 Rs x hx
  rw [hxe] at h1
  have : (R.header.final (20 + (tailOf 20 Rs).length)).blobOffset = 20 + (tailOf 20 Rs).length := rfl
  omega

/-- the version of `failed_not_served_later` that holds, for the first failing step: if it left fewer
    bytes than a header (`failBefore`, `short n` with `n` below the header size, `failSecond` on a
    one-buffer record) then — provided no later step wrote anything, or nothing at all was left, or the
    zero-padded header prefix does not validate — a restart (with or without data validation) either
    quarantines the blob or opens it with exactly the acknowledged headers, and the failed write is not
    among them. Together with `failed_write_indexed_after_restart`: a failed first-fault step is indexed
    after a restart only if it left a complete header (`short n` with `n ≥` header size, `failSecond`),
    or by the zero-padding accident of `torn_header_zero_padded_accepted`. -/
theorem failed_not_served_later_partial (klen maxSP : Nat) (v : Bool)
    (oks later : List (Record × Outcome)) (R : Record) (o : Outcome) (hok : allOk oks) (ho : o ≠ .ok)
    (hc : cut maxSP R o < 57 + klen)
    (hg : GoodRecs klen (oks.map (·.1))) (hwf : R.WF klen)
    (hlen : (fileAfter maxSP (oks ++ (R, o) :: later)).length < 2 ^ 64)
    (hsafe : (∀ s ∈ later, cut maxSP s.1 s.2 = 0) ∨ cut maxSP R o = 0 ∨
      ∀ h, deserHeader (paddedHeader klen R (20 + (tailOf 20 (oks.map (·.1))).length)
        (cut maxSP R o)) = some h → headerValidate h ≠ .ok ()) :
    (openBlob klen v (fileAfter maxSP (oks ++ (R, o) :: later)) = .quarantine ∨
     openBlob klen v (fileAfter maxSP (oks ++ (R, o) :: later)) =
       .ok (ackedHeaders maxSP fresh (oks ++ (R, o) :: later))) ∧
    ∀ hs, openBlob klen v (fileAfter maxSP (oks ++ (R, o) :: later)) = .ok hs →
      writtenHeader R (20 + (tailOf 20 (oks.map (·.1))).length) maxSP ∉ hs := by
  by_cases hsil : ∀ s ∈ later, cut maxSP s.1 s.2 = 0
  · by_cases hc0 : cut maxSP R o = 0
    · obtain ⟨_, hopen⟩ := first_fault_nothing_written klen maxSP v oks later R o hok ho hc0 hsil hg hlen
      refine ⟨Or.inr hopen, ?_⟩
      intro hs hhs
      rw [hopen] at hhs
      cases hhs
      rw [ackedHeaders_first_fault_silent maxSP oks later R o hok ho hsil, writtenHeader_eq]
      exact final_not_mem_writtenHeaders _ R
    · have hq := (first_fault_torn_header_quarantine klen maxSP v oks later R o hok (by omega) hc hsil hg
        hlen).2
      exact ⟨Or.inl hq, fun hs hhs => by rw [hq] at hhs; cases hhs⟩
  · have hnoisy : ∃ s ∈ later, cut maxSP s.1 s.2 ≠ 0 := by simpa using hsil
    have hq : openBlob klen v (fileAfter maxSP (oks ++ (R, o) :: later)) = .quarantine := by
      rcases hsafe with h | h | h
      · exact absurd h hsil
      · exact (first_fault_hole_quarantine klen maxSP v oks later R o hok h hnoisy hg hwf hlen).2
      · exact first_fault_torn_header_padded_partial klen maxSP v oks later R o hok hc hnoisy hg hwf hlen h
    exact ⟨Or.inl hq, fun hs hhs => by rw [hq] at hhs; cases hhs⟩

/-- the first write is cut after 59 of its 68 bytes (one byte short of the 60-byte header) and returns
    an error; the next write succeeds -/
def paddedSteps : List (Record × Outcome) := [(wZ, .short 59), (wA, .ok)]

set_option maxRecDepth 1000000 in
/-- FALSE: "a failed step that left less than a header makes every later start-up scan stop there".
    The later write lands at the reserved offset 88; the hole between 79 and 88 reads as zeros, which
    completes the failed record's header (checksum top byte 0) and its meta (`le64 0`). Start-up — even
    with data validation — opens the blob with the FAILED write's header first, and the failed write is
    fully readable. -/
theorem torn_header_zero_padded_accepted :
    acks 4096 fresh paddedSteps = [false, true] ∧
    cut 4096 wZ (.short 59) < 57 + 3 ∧
    (run 4096 fresh paddedSteps).index = [(writtenHeader wA 88 4096, 88)] ∧
    (∀ v, openBlob 3 v (fileAfter 4096 paddedSteps) =
      .ok [writtenHeader wZ 20 4096, writtenHeader wA 88 4096]) ∧
    entryLoad (fileAfter 4096 paddedSteps) (writtenHeader wZ 20 4096) = .ok (serMeta none, []) ∧
    ¬ (∀ (klen maxSP : Nat) (v : Bool) (oks later : List (Record × Outcome)) (R : Record) (o : Outcome),
        allOk oks → o ≠ .ok → cut maxSP R o < 57 + klen →
        (∃ s ∈ later, cut maxSP (Prod.fst s) (Prod.snd s) ≠ 0) →
        GoodRecs klen ((oks ++ (R, o) :: later).map Prod.fst) →
        openBlob klen v (fileAfter maxSP (oks ++ (R, o) :: later)) = .quarantine) := by
  have hev : (∀ v, openBlob 3 v (fileAfter 4096 paddedSteps) =
        .ok [writtenHeader wZ 20 4096, writtenHeader wA 88 4096]) ∧
      entryLoad (fileAfter 4096 paddedSteps) (writtenHeader wZ 20 4096) = .ok (serMeta none, []) := by
    -- the zeros of the hole are the last byte of `wZ`'s header and its meta: the file is the intact blob of `wZ`, `wA`
    -- (`hpad`, which holds because the last byte of `wZ`'s header checksum is 0), and the theorems about intact blobs apply
    have hpad : paddedImage wZ 20 59 = wZ.image 20 := by decide +kernel
    have hfile : fileAfter 4096 paddedSteps = appendRecords serBlobHeader [wZ, wA] := by
      rw [show fileAfter 4096 paddedSteps = _ from fresh_run_fileBody 4096 paddedSteps, appendRecords_eq, paddedSteps,
        fileBody_cons_whole _ _ _ _ _ (by decide), fileBody_cons_full _ _ _ _ _ (Nat.le_refl _),
        show cut 4096 wZ (.short 59) = 59 from rfl, hpad]
      simp only [tailOf, Record.image_length, serBlobHeader_length]
      rfl
    have hg : GoodRecs 3 [wZ, wA] := by
      intro R hR
      simp only [List.mem_cons, List.not_mem_nil, or_false] at hR
      rcases hR with rfl | rfl <;> exact ⟨Record.create_WF .., by decide⟩
    have hlen : (appendRecords serBlobHeader [wZ, wA]).length < 2 ^ 64 := by
      rw [appendRecords_length, tailOf_length]; decide
    rw [hfile]
    refine ⟨fun v => ?_, ?_⟩
    · rw [openBlob_appendRecords v _ hg hlen]
      simp only [writtenHeaders, appendRecord_eq, List.length_append, Record.image_length]
      rfl
    · rw [appendRecords_eq, writtenHeader_eq]
      exact entryLoad_image serBlobHeader _ wZ (Record.create_WF ..) 20 rfl (by decide)
  refine ⟨by decide, by decide, rfl, hev.1, hev.2, ?_⟩
  intro hall
  have := hall 3 4096 false [] [(wA, .ok)] wZ (.short 59) (by intro s hs; cases hs)
    (by intro h; cases h) (by decide) ⟨(wA, .ok), by simp, by decide⟩ (goodW _ (by decide +kernel))
  have h2 := hev.1 false
  simp only [List.nil_append] at this
  rw [show paddedSteps = [(wZ, Outcome.short 59), (wA, Outcome.ok)] from rfl] at h2
  rw [h2] at this
  cases this

/-! ## start-up after ANY sequence of steps: the file and the scan, region by region

`fileBody maxSP off steps` (Pearl/Proofs/ScanRegions.lean) is the file content from `off` on: every step owns
the `recLen r` bytes it reserved; its region holds the first `cut` bytes of the record image and is
zero-filled to its end iff a later step wrote something; the file ends after the last byte written.
`scanRegions klen maxSP v off steps` is what the scan loop returns on it, given `Visited klen maxSP off steps`:
hypotheses about the regions the scan visits only (`restart_good_silent` and `restart_short_region` above are its two
shapes).  `NoAccident klen maxSP off steps` says that the FIRST step that left less than a header — the only one that
matters, the scan never gets past it — is not a zero-padding accident (`torn_header_zero_padded_accepted`); with
well-formed records throughout and a `u64` reservation counter it gives `Visited` (`visited_of_run`). -/

/-- `paddedHeader` above is the `paddedHdr` of the lemma file -/
theorem paddedHeader_eq (klen : Nat) (R : Record) (off c : Nat) :
    paddedHeader klen R off c = paddedHdr klen R off c := rfl

theorem size_after (maxSP : Nat) (steps : List (Record × Outcome)) :
    (run maxSP fresh steps).file.size = 20 + regionsLen steps := run_size maxSP fresh steps

/-- the bound on the reservation counter in terms of the record sizes -/
theorem size_lt (maxSP : Nat) (steps : List (Record × Outcome)) (h : 20 + regionsLen steps < 2 ^ 64) :
    (run maxSP fresh steps).file.size < 2 ^ 64 := size_after maxSP steps ▸ h

/-- (R1) THE FILE after any sequence of steps: the blob header, then the regions -/
theorem fileAfter_regions (maxSP : Nat) (steps : List (Record × Outcome)) :
    fileAfter maxSP steps = serBlobHeader ++ fileBody maxSP 20 steps :=
  fresh_run_fileBody maxSP steps

/-- (R2) THE SCAN, for every sequence of steps, with and without data validation: start-up opens the
    blob with the headers `scanRegions` lists or quarantines it where `scanRegions` stops; and the scan loop
    itself returns exactly `scanRegions` (any sufficient loop bound) -/
theorem startup_scan_regions (klen maxSP : Nat) (v : Bool) (steps : List (Record × Outcome))
    (hV : Visited klen maxSP 20 steps) :
    openBlob klen v (fileAfter maxSP steps) =
      (match scanRegions klen maxSP v 20 steps with
       | .error _ => .quarantine
       | .ok l => .ok (l.map (·.2))) ∧
    ∀ fuel, (fileAfter maxSP steps).length ≤ 20 + 57 * fuel →
      rawLoop v (fileAfter maxSP steps) (57 + klen) fuel 20 = scanRegions klen maxSP v 20 steps := by
  rw [fileAfter_regions]
  exact ⟨openBlob_visited klen maxSP v steps hV,
    fun fuel hf => rawLoop_visited klen maxSP v steps 20 serBlobHeader fuel (serBlobHeader_length _) hV hf⟩

/-- the hypotheses in the form the statements below carry them: every record as the storage builds it, no accident
    at the first short region, the reservation counter a `u64` -/
theorem visited_of_run (klen maxSP : Nat) (steps : List (Record × Outcome))
    (hg : GoodRecs klen (steps.map (·.1))) (hna : NoAccident klen maxSP 20 steps)
    (hsz : (run maxSP fresh steps).file.size < 2 ^ 64) : Visited klen maxSP 20 steps :=
  visited_of_good steps 20 hg hna (size_after maxSP steps ▸ hsz)

theorem run_prefix_good {klen maxSP : Nat} {a b : List (Record × Outcome)}
    (hg : GoodRecs klen ((a ++ b).map (·.1))) (hsz : (run maxSP fresh (a ++ b)).file.size < 2 ^ 64) :
    GoodRecs klen (a.map (·.1)) ∧ 20 + regionsLen a < 2 ^ 64 :=
  ⟨fun R hR => hg R (by rw [List.map_append]; exact List.mem_append_left _ hR),
    by rw [size_after, regionsLen_append] at hsz; omega⟩

/-- (R3) for EVERY file: if start-up with data validation opens the blob, start-up without data
    validation opens it with the same headers (validation can only turn "opened" into "quarantined") -/
theorem startup_validating_implies_plain (klen : Nat) (file : List UInt8) (hs : List RecHeader)
    (h : openBlob klen true file = .ok hs) : openBlob klen false file = .ok hs :=
  openBlob_true_false klen file hs h

/-- every sequence of steps has one of two shapes: steps that all left a complete header followed by
    steps that left nothing; or such steps, then a step that left less than a header with something in the
    file at or after it -/
theorem restart_cases (klen maxSP : Nat) (steps : List (Record × Outcome)) :
    (∃ good silent, steps = good ++ silent ∧ (∀ s ∈ good, 57 + klen ≤ cut maxSP s.1 s.2) ∧
      ∀ s ∈ silent, cut maxSP s.1 s.2 = 0) ∨
    (∃ good R o later, steps = good ++ (R, o) :: later ∧ (∀ s ∈ good, 57 + klen ≤ cut maxSP s.1 s.2) ∧
      cut maxSP R o < 57 + klen ∧ (cut maxSP R o ≠ 0 ∨ ∃ s ∈ later, cut maxSP s.1 s.2 ≠ 0)) := by
  induction steps with
  | nil => exact Or.inl ⟨[], [], rfl, by simp, by simp⟩
  | cons x rest ih =>
    obtain ⟨r, o⟩ := x
    by_cases hc : 57 + klen ≤ cut maxSP r o
    · rcases ih with ⟨g, s, rfl, hg, hs⟩ | ⟨g, R, o', l, rfl, hg, h1, h2⟩
      · exact Or.inl ⟨(r, o) :: g, s, rfl, List.forall_mem_cons.mpr ⟨hc, hg⟩, hs⟩
      · exact Or.inr ⟨(r, o) :: g, R, o', l, rfl, List.forall_mem_cons.mpr ⟨hc, hg⟩, h1, h2⟩
    · by_cases hsil : cut maxSP r o = 0 ∧ ∀ s ∈ rest, cut maxSP s.1 s.2 = 0
      · exact Or.inl ⟨[], (r, o) :: rest, rfl, by simp, List.forall_mem_cons.mpr hsil⟩
      · refine Or.inr ⟨[], r, o, rest, rfl, by simp, by omega, ?_⟩
        by_cases h0 : cut maxSP r o = 0
        · exact Or.inr (by simpa [h0] using hsil)
        · exact Or.inl h0

/-- (R4) first shape — every step of `good` left a complete header (successful writes, `short n` with
    `n ≥` header size, `failSecond` on two-buffer records), the steps after them left nothing.
    Start-up WITHOUT data validation opens the blob exactly as if every step of `good` had been a
    successful write: acknowledged and FAILED ones alike (E8, with any number of failed steps and with
    later writes). With data validation it opens it the same way or quarantines it. The acknowledged headers
    are among the headers served. -/
theorem restart_opens_with_all_complete_headers (klen maxSP : Nat) (good silent : List (Record × Outcome))
    (hgood : ∀ s ∈ good, 57 + klen ≤ cut maxSP s.1 s.2) (hsil : ∀ s ∈ silent, cut maxSP s.1 s.2 = 0)
    (hg : GoodRecs klen ((good ++ silent).map (·.1)))
    (hsz : (run maxSP fresh (good ++ silent)).file.size < 2 ^ 64) :
    openBlob klen false (fileAfter maxSP (good ++ silent)) =
      .ok (writtenHeaders serBlobHeader (good.map (·.1))) ∧
    (∀ hs, openBlob klen true (fileAfter maxSP (good ++ silent)) = .ok hs →
      hs = writtenHeaders serBlobHeader (good.map (·.1))) ∧
    (ackedHeaders maxSP fresh (good ++ silent)).Sublist (writtenHeaders serBlobHeader (good.map (·.1))) := by
  obtain ⟨hg', hsz'⟩ := run_prefix_good hg hsz
  have hopen := restart_good_silent klen maxSP false good silent hgood (fun h => nomatch h) hsil hg' hsz'
  refine ⟨hopen, ?_, ?_⟩
  · intro hs h
    have := startup_validating_implies_plain klen _ hs h
    rw [hopen] at this
    cases this; rfl
  · have hsub := ackedHeaders_sublist maxSP fresh good
    have hack : ackedHeaders maxSP fresh (good ++ silent) = ackedHeaders maxSP fresh good := by
      unfold ackedHeaders
      rw [acked_append, acked_silent maxSP _ silent hsil, List.append_nil]
    rw [hack, writtenHeaders_eq, serBlobHeader_length]
    exact hsub

/-- (R4, with data validation) if moreover every step of `good` left its COMPLETE record or a record without
    data (only meta bytes missing, which no scan reads), start-up with data validation opens the blob with
    the same headers. (For a step that left part of a record WITH data, the validating scan reads the
    zero-filled / truncated data: `scanRegions` with `dataStop` says exactly what happens.) -/
theorem restart_opens_with_all_complete_headers_validating (klen maxSP : Nat) (v : Bool)
    (good silent : List (Record × Outcome))
    (hgood : ∀ s ∈ good, 57 + klen ≤ cut maxSP s.1 s.2)
    (hdata : ∀ s ∈ good, recLen s.1 ≤ cut maxSP s.1 s.2 ∨ s.1.data = [])
    (hsil : ∀ s ∈ silent, cut maxSP s.1 s.2 = 0)
    (hg : GoodRecs klen ((good ++ silent).map (·.1)))
    (hsz : (run maxSP fresh (good ++ silent)).file.size < 2 ^ 64) :
    openBlob klen v (fileAfter maxSP (good ++ silent)) =
      .ok (writtenHeaders serBlobHeader (good.map (·.1))) :=
  restart_good_silent klen maxSP v good silent hgood (fun _ => hdata) hsil (run_prefix_good hg hsz).1
    (run_prefix_good hg hsz).2

/-- (R5) second shape — after steps that all left a complete header, a step left LESS than a header
    (`failBefore`, `short n` with `n` below the header size, `failSecond` on a one-buffer record) and
    something is in the file at or after it. Start-up quarantines the blob, with or without data
    validation — provided that step is not a zero-padding accident. The failing step need not be the first. -/
theorem restart_quarantines_at_short_region (klen maxSP : Nat) (v : Bool)
    (good later : List (Record × Outcome)) (R : Record) (o : Outcome)
    (hgood : ∀ s ∈ good, 57 + klen ≤ cut maxSP s.1 s.2) (hc : cut maxSP R o < 57 + klen)
    (hw : cut maxSP R o ≠ 0 ∨ ∃ s ∈ later, cut maxSP s.1 s.2 ≠ 0)
    (hpad : 0 < cut maxSP R o → (∃ s ∈ later, cut maxSP s.1 s.2 ≠ 0) →
      PadBad klen R (20 + regionsLen good) (cut maxSP R o))
    (hg : GoodRecs klen ((good ++ (R, o) :: later).map (·.1)))
    (hsz : (run maxSP fresh (good ++ (R, o) :: later)).file.size < 2 ^ 64) :
    openBlob klen v (fileAfter maxSP (good ++ (R, o) :: later)) = .quarantine :=
  restart_short_region klen maxSP v good later R o hgood hc hw
    (fun hn => ⟨by rw [recLen_of_WF (hg R (by simp)).1]; omega, fun h0 => hpad h0 hn⟩)
    (run_prefix_good hg hsz).1 (run_prefix_good hg hsz).2

/-- (R6) A step — not necessarily the first failing one — that left less than a header is NEVER
    in the index a restart builds, with or without data validation, whatever the steps before and after
    it did; the only hypothesis about accidents concerns the first step that left less than a header. -/
theorem failed_not_served_later_general (klen maxSP : Nat) (a b : List (Record × Outcome)) (R : Record)
    (o : Outcome) (hc : cut maxSP R o < 57 + klen)
    (hg : GoodRecs klen ((a ++ (R, o) :: b).map (·.1)))
    (hna : NoAccident klen maxSP 20 (a ++ (R, o) :: b))
    (hsz : (run maxSP fresh (a ++ (R, o) :: b)).file.size < 2 ^ 64) :
    ∀ v hs, openBlob klen v (fileAfter maxSP (a ++ (R, o) :: b)) = .ok hs →
      writtenHeader R (run maxSP fresh a).file.size maxSP ∉ hs := by
  intro v hs hopen hmem
  rw [(startup_scan_regions klen maxSP v _ (visited_of_run klen maxSP _ hg hna hsz)).1] at hopen
  cases hsr : scanRegions klen maxSP v 20 (a ++ (R, o) :: b) with
  | error e => rw [hsr] at hopen; cases hopen
  | ok l =>
    rw [hsr] at hopen
    cases hopen
    obtain ⟨x, hx, hxe⟩ := List.mem_map.mp hmem
    have hlt := scanRegions_offsets_lt klen maxSP v a b R o hc 20 l hsr x hx
    rw [hxe, writtenHeader_eq, size_after] at hlt
    exact Nat.lt_irrefl _ hlt

/-- the same with the hypothesis in the form "no zero-padding accident at any failed step of
    `a ++ [(R, o)]`" (nothing is assumed about the steps after `(R, o)`) -/
theorem failed_not_served_later_general' (klen maxSP : Nat) (a b : List (Record × Outcome)) (R : Record)
    (o : Outcome) (hc : cut maxSP R o < 57 + klen)
    (hg : GoodRecs klen ((a ++ (R, o) :: b).map (·.1)))
    (hna : NoPadAccidentAll klen maxSP 20 (a ++ [(R, o)]))
    (hsz : (run maxSP fresh (a ++ (R, o) :: b)).file.size < 2 ^ 64) :
    ∀ v hs, openBlob klen v (fileAfter maxSP (a ++ (R, o) :: b)) = .ok hs →
      writtenHeader R (run maxSP fresh a).file.size maxSP ∉ hs :=
  failed_not_served_later_general klen maxSP a b R o hc hg
    (noAccident_of_all_prefix klen maxSP a b R o hc 20 hna) hsz

/-- (R7) `failed_write_indexed_after_restart` when later steps DO write: after acknowledged
    writes, a failed write that left its complete header is accepted by the scan without data validation,
    which continues at the next region; the blob is opened iff the scan of the later regions succeeds, and
    then the FAILED write's header is in the index, between the acknowledged headers before it and
    whatever the later regions contribute -/
theorem failed_write_indexed_after_restart_later (klen maxSP : Nat)
    (oks later : List (Record × Outcome)) (R : Record) (o : Outcome) (hok : allOk oks)
    (hc1 : 57 + klen ≤ cut maxSP R o)
    (hg : GoodRecs klen ((oks ++ (R, o) :: later).map (·.1)))
    (hna : NoAccident klen maxSP (20 + (tailOf 20 (oks.map (·.1))).length + recLen R) later)
    (hsz : (run maxSP fresh (oks ++ (R, o) :: later)).file.size < 2 ^ 64) :
    openBlob klen false (fileAfter maxSP (oks ++ (R, o) :: later)) =
      match scanRegions klen maxSP false (20 + (tailOf 20 (oks.map (·.1))).length + recLen R) later with
      | .error _ => .quarantine
      | .ok l => .ok (ackedHeaders maxSP fresh oks ++
          [writtenHeader R (20 + (tailOf 20 (oks.map (·.1))).length) maxSP] ++ l.map (·.2)) := by
  have hgood : ∀ s ∈ oks ++ [(R, o)], 57 + klen ≤ cut maxSP s.1 s.2 := by
    intro s hs
    rcases List.mem_append.mp hs with hs | hs
    · exact allOk_cut_ge hok (run_prefix_good hg hsz).1 s hs
    · rw [List.mem_singleton] at hs; subst hs; exact hc1
  have hsplit : oks ++ (R, o) :: later = (oks ++ [(R, o)]) ++ later := by simp
  have hrl : regionsLen (oks ++ [(R, o)]) = (tailOf 20 (oks.map (·.1))).length + recLen R := by
    rw [regionsLen_append, tailOf_length_regionsLen]; simp [regionsLen]
  have hna' : NoAccident klen maxSP 20 (oks ++ (R, o) :: later) := by
    rw [hsplit, noAccident_good_append klen maxSP _ later hgood 20, hrl, ← Nat.add_assoc]
    exact hna
  rw [(startup_scan_regions klen maxSP false _ (visited_of_run klen maxSP _ hg hna' hsz)).1]
  conv => lhs; rw [hsplit, scanRegions_good_append klen maxSP false _ later hgood (fun h => nomatch h) 20, hrl,
    ← Nat.add_assoc]
  cases scanRegions klen maxSP false (20 + (tailOf 20 (oks.map (·.1))).length + recLen R) later with
  | error e => rfl
  | ok l =>
    simp only [List.map_append, List.map_cons, List.map_nil]
    rw [← serBlobHeader_length BlobHeader.new, ← writtenHeaders_eq, serBlobHeader_length,
      writtenHeaders_snoc, ackedHeaders_allOk maxSP oks hok, writtenHeader_eq]

/-- the general E8 statement: in a run in which every step left at least a complete header (for instance:
    every other write succeeded), followed possibly by steps that left nothing, EVERY failed step is in the
    index a restart without data validation builds — although its write returned an error and it is not in
    the index of the running process -/
theorem failed_write_indexed_after_restart_general (klen maxSP : Nat)
    (a b silent : List (Record × Outcome)) (R : Record) (o : Outcome) (ho : o ≠ .ok)
    (hgood : ∀ s ∈ a ++ (R, o) :: b, 57 + klen ≤ cut maxSP s.1 s.2)
    (hsil : ∀ s ∈ silent, cut maxSP s.1 s.2 = 0)
    (hg : GoodRecs klen (((a ++ (R, o) :: b) ++ silent).map (·.1)))
    (hsz : (run maxSP fresh ((a ++ (R, o) :: b) ++ silent)).file.size < 2 ^ 64) :
    (writeStep maxSP (run maxSP fresh a) R o).2 = false ∧
    (∀ e ∈ (run maxSP fresh ((a ++ (R, o) :: b) ++ silent)).index, e.2 ≠ (run maxSP fresh a).file.size) ∧
    ∃ hs, openBlob klen false (fileAfter maxSP ((a ++ (R, o) :: b) ++ silent)) = .ok hs ∧
      writtenHeader R (run maxSP fresh a).file.size maxSP ∈ hs := by
  refine ⟨not_ok_fails maxSP _ R o ho, ?_, ?_⟩
  · intro e he heq
    rw [List.append_assoc, List.cons_append] at he
    have := failed_step_never_indexed maxSP fresh a (b ++ silent) R o ho e he heq
    simp [fresh] at this
  · obtain ⟨hopen, _, _⟩ := restart_opens_with_all_complete_headers klen maxSP _ silent hgood hsil hg hsz
    refine ⟨_, hopen, ?_⟩
    rw [writtenHeaders_eq, serBlobHeader_length, List.map_append, scanOf_append, List.map_append,
      writtenHeader_eq, size_after, tailOf_length_regionsLen]
    apply List.mem_append_right
    simp only [List.map_cons, scanOf, List.mem_cons, true_or]

/-! ## index dumps that fail -/

/-- a dump that returns an error leaves the blob state exactly as it was: the in-memory index still
    holds every entry -/
theorem dump_failure_keeps_index (st : BlobSt) (o : DumpOutcome) (hfail : (dumpStep st o).2 = false) :
    (dumpStep st o).1 = st := by
  rcases dumpStep_cases st o with h | h | ⟨_, h⟩ <;> rw [h] at hfail ⊢ <;> cases hfail

/-- whatever the outcome, a dump changes neither the file nor what lookups see -/
theorem dump_keeps_entries (st : BlobSt) (o : DumpOutcome) :
    (dumpStep st o).1.entries = st.entries ∧ (dumpStep st o).1.file = st.file := by
  rcases dumpStep_cases st o with h | h | ⟨hd, h⟩ <;> rw [h]
  · exact ⟨rfl, rfl⟩
  · exact ⟨rfl, rfl⟩
  · simp [BlobSt.entries, hd]

/-- a successful dump of a non-empty in-memory index: the index is on disk, the index file holds the
    same entries and carries `blob_size` = the reservation counter -/
theorem dump_success_on_disk (st : BlobSt) (hd : st.onDisk = false) (hne : st.index ≠ []) :
    (dumpStep st .ok).2 = true ∧ (dumpStep st .ok).1.onDisk = true ∧
    (dumpStep st .ok).1.idxFile = some (st.index, st.file.size) ∧
    (dumpStep st .ok).1.entries = st.index := by
  have he : ¬ st.index.isEmpty = true := fun h => hne (List.isEmpty_iff.mp h)
  unfold dumpStep
  rw [if_neg (by rw [hd]; simp)]
  simp only [if_neg he]
  simp [BlobSt.entries]

/-- end to end: after any run of write steps and a dump with any outcome, every acknowledged record
    is still found by a lookup and still loads with its bytes -/
theorem acked_readable_after_dump (klen maxSP : Nat) (steps : List (Record × Outcome)) (o : DumpOutcome)
    (hwf : ∀ s ∈ steps, s.1.WF klen ∧ (serMeta s.1.mt).length < 2 ^ 64) :
    let st := (dumpStep (run maxSP fresh steps) o).1
    ∀ x ∈ acked maxSP fresh steps,
      entryOf maxSP x ∈ st.entries ∧
      entryLoad st.file.bytes (writtenHeader x.1 x.2 maxSP) = .ok (serMeta x.1.mt, x.1.data) := by
  intro st x hx
  obtain ⟨he, hf⟩ := dump_keeps_entries (run maxSP fresh steps) o
  obtain ⟨h1, h2⟩ := acked_stay_readable klen maxSP fresh steps (Nat.le_of_eq fresh_le) hwf x hx
  have hd : (run maxSP fresh steps).onDisk = false := by rw [run_onDisk]; rfl
  refine ⟨?_, by show entryLoad (dumpStep _ o).1.file.bytes _ = _; rw [hf]; exact h2⟩
  show entryOf maxSP x ∈ (dumpStep _ o).1.entries
  rw [he]
  unfold BlobSt.entries
  rw [hd]
  exact h1

set_option maxRecDepth 1000000 in
/-- the code before the repair (`mem::take` without putting the headers back): a failed dump empties
    the index, the acknowledged record is no longer found in this session -/
theorem dump_unrepaired_loses_index :
    let st := run 4096 fresh [(wA, .ok)]
    st.entries = [(writtenHeader wA 20 4096, 20)] ∧
    (dumpStepUnrepaired st .buildFail).2 = false ∧
    (dumpStepUnrepaired st .buildFail).1.entries = [] ∧
    (dumpStep st .buildFail).1.entries = [(writtenHeader wA 20 4096, 20)] :=
  ⟨rfl, rfl, rfl, rfl⟩

/-- the index file of a blob with a reservation gap (a failed write) is rejected at start-up
    (`IndexBlobSize`): its `blob_size` is the reservation counter, not the length of the file — so the
    index is regenerated by the scan and the E8 case applies even to a blob whose index was dumped -/
theorem dumped_index_rejected_after_failed_write (klen : Nat) (v : Bool) (st : BlobSt)
    (hd : st.onDisk = false) (hne : st.index ≠ []) (hgap : st.file.bytes.length ≠ st.file.size) :
    indexFileAccepted (dumpStep st .ok).1 = false ∧
    restartIndex klen v (dumpStep st .ok).1 = openBlob klen v st.file.bytes := by
  obtain ⟨_, _, hi, _⟩ := dump_success_on_disk st hd hne
  have hf := (dump_keeps_entries st .ok).2
  have hne' : (st.file.size == st.file.bytes.length) = false := by
    simp only [beq_eq_false_iff_ne, ne_eq]; exact fun h => hgap h.symm
  constructor
  · unfold indexFileAccepted; rw [hi, hf]; exact hne'
  · unfold restartIndex; rw [hi, hf]; simp only [hne']; rfl

/-- without a gap the dumped index is accepted and start-up loads exactly the dumped entries -/
theorem dumped_index_accepted_without_gap (klen : Nat) (v : Bool) (st : BlobSt)
    (hd : st.onDisk = false) (hne : st.index ≠ []) (hgap : st.file.bytes.length = st.file.size) :
    restartIndex klen v (dumpStep st .ok).1 = .ok (st.index.map (·.1)) := by
  obtain ⟨_, _, hi, _⟩ := dump_success_on_disk st hd hne
  have hf := (dump_keeps_entries st .ok).2
  unfold restartIndex; rw [hi, hf]; simp [hgap]

/-! ## demonstrations on concrete runs: instances of the theorems above ((R1) .. (R7) are the labels in the
docstrings of the region theorems) -/

set_option maxRecDepth 1000000

/-- a run with every kind of outcome: ok, failBefore, ok, short inside the header, ok, failSecond
    (threshold 10, so every record is a two-buffer record), ok -/
def mixedSteps : List (Record × Outcome) :=
  [(wA, .ok), (wB, .failBefore), (wB, .ok), (wZ, .short 7), (wA, .ok), (wB, .failSecond), (wZ, .ok)]

example : acks 10 fresh mixedSteps = [true, false, true, false, true, false, true] := by decide
example : (acked 10 fresh mixedSteps).map (·.2) = [20, 165, 306, 451] := by decide +kernel
example : (run 10 fresh mixedSteps).file.size = 519 ∧ (run 10 fresh mixedSteps).file.bytes.length = 519 := by
  rw [show (run 10 fresh mixedSteps).file.bytes = _ from fileAfter_regions 10 mixedSteps]
  decide +kernel
-- the hypotheses of `acked_stay_readable` hold for it, and so does the conclusion (by the theorem)
example : ∀ x ∈ acked 10 fresh mixedSteps,
    entryLoad (run 10 fresh mixedSteps).file.bytes (writtenHeader x.1 x.2 10) = .ok (serMeta x.1.mt, x.1.data) :=
  fun x hx => (acked_stay_readable 3 10 fresh mixedSteps (Nat.le_of_eq fresh_le) (by
    intro s hs
    simp only [mixedSteps, List.mem_cons, List.not_mem_nil, or_false] at hs
    rcases hs with rfl | rfl | rfl | rfl | rfl | rfl | rfl <;>
      exact ⟨Record.create_WF .., by decide⟩) x hx).2
-- the hole left by the `failBefore` step quarantines the blob (the first step that left less than a header
-- is step 1, later steps write)
example : openBlob 3 false (fileAfter 10 mixedSteps) = .quarantine :=
  restart_quarantines_at_short_region 3 10 false [(wA, .ok)] _ wB .failBefore (by decide +kernel) (by decide +kernel)
    (by decide +kernel) (fun h => absurd h (by decide +kernel)) (goodW _ (by decide +kernel)) (size_lt _ _ (by decide))
-- `failSecond` as the last step: indexed after the restart (instance of the general theorem)
example : twoBuf 10 wB ∧ acks 10 fresh [(wA, .ok), (wB, .failSecond)] = [true, false] ∧
    openBlob 3 false (fileAfter 10 [(wA, .ok), (wB, .failSecond)]) =
      .ok [writtenHeader wA 20 10, writtenHeader wB 92 10] :=
  ⟨by decide, by decide, (failed_write_indexed_after_restart_failSecond 3 10 [(wA, .ok)] [] wB
    (by unfold allOk; decide) (by decide +kernel) (by decide +kernel) (goodW [(wA, .ok), (wB, .ok)] (by decide +kernel))
    (by decide +kernel)).2⟩
-- a reservation gap: `size` is ahead of the file after a failed write
example : (run 4096 fresh [(wA, .ok), (wB, .failBefore)]).file.size = 165 ∧
    (run 4096 fresh [(wA, .ok), (wB, .failBefore)]).file.bytes.length = 92 := by decide +kernel
-- nothing written, nothing later: the blob opens with the acknowledged header only (R4)
example : openBlob 3 false (fileAfter 4096 [(wA, .ok), (wB, .failBefore)]) = .ok [writtenHeader wA 20 4096] :=
  (restart_opens_with_all_complete_headers 3 4096 [(wA, .ok)] [(wB, .failBefore)] (by decide +kernel) (by decide +kernel)
    (goodW _ (by decide +kernel)) (size_lt _ _ (by decide))).1
-- cut inside the header, nothing later: quarantine (R5)
example : openBlob 3 false (fileAfter 4096 [(wA, .ok), (wB, .short 30)]) = .quarantine :=
  restart_quarantines_at_short_region 3 4096 false [(wA, .ok)] [] wB (.short 30) (by decide +kernel) (by decide +kernel)
    (by decide +kernel) (fun _ h => absurd h (by decide +kernel)) (goodW _ (by decide +kernel)) (size_lt _ _ (by decide))
-- cut inside the header, a later write: quarantine here, because the padded header does not validate (R5)
example : openBlob 3 false (fileAfter 4096 [(wA, .ok), (wB, .short 30), (wA, .ok)]) = .quarantine :=
  restart_quarantines_at_short_region 3 4096 false [(wA, .ok)] [(wA, .ok)] wB (.short 30) (by decide +kernel)
    (by decide +kernel) (by decide +kernel) (fun _ _ => by decide +kernel) (goodW _ (by decide +kernel)) (size_lt _ _ (by decide))

/-- an acknowledged write; a FAILED write that left its header and 2 more of its 73 bytes; a successful
    write AFTER it (which zero-fills the rest of the failed write's region); a write that failed before
    anything was written -/
def regionSteps : List (Record × Outcome) := [(wA, .ok), (wB, .short 62), (wA, .ok), (wZ, .failBefore)]

-- (R1) the file, region by region
example : fileBody 4096 20 regionSteps =
    wA.image 20 ++ ((wB.image 92).take 62 ++ List.replicate 11 0) ++ wA.image 165 := by
  rw [regionSteps, fileBody_cons_full _ _ _ _ _ (by decide), fileBody_cons_whole _ _ _ _ _ (by decide),
    fileBody_cons_full _ _ _ _ _ (by decide), (fileBody_eq_nil_iff ..).mpr (by decide), List.append_nil,
    List.append_assoc]
  rfl
-- the hypotheses of (R2) hold for it
example : NoAccident 3 4096 20 regionSteps ∧ (run 4096 fresh regionSteps).file.size < 2 ^ 64 := by decide
-- (R2) without validation: opened, the failed write in the middle of the index
example : openBlob 3 false (fileAfter 4096 regionSteps) =
    .ok [writtenHeader wA 20 4096, writtenHeader wB 92 4096, writtenHeader wA 165 4096] := by
  rw [(startup_scan_regions 3 4096 false regionSteps
    (visited_of_run 3 4096 _ (goodW _ (by decide +kernel)) (by decide +kernel) (size_lt _ _ (by decide)))).1]
  simp only [writtenHeader_eq]
  rfl
-- (R2) with validation: the zero-filled data of the failed write fails its checksum, quarantine
example : scanRegions 3 4096 true 20 regionSteps = .error (.load .recordDataChecksum) ∧
    openBlob 3 true (fileAfter 4096 regionSteps) = .quarantine := by
  refine ⟨by decide, ?_⟩
  rw [(startup_scan_regions 3 4096 true regionSteps
    (visited_of_run 3 4096 _ (goodW _ (by decide +kernel)) (by decide +kernel) (size_lt _ _ (by decide)))).1]
  decide
-- (R4) instance: good = the first three steps, silent = the last
example : openBlob 3 false (fileAfter 4096 regionSteps) =
    .ok (writtenHeaders serBlobHeader [wA, wB, wA]) :=
  (restart_opens_with_all_complete_headers 3 4096 [(wA, .ok), (wB, .short 62), (wA, .ok)]
    [(wZ, .failBefore)] (by decide +kernel) (by decide +kernel) (goodW _ (by decide +kernel)) (size_lt _ _ (by decide))).1
-- (R4, validating) instance: a failed DELETE-like write without data (`wZ`, 63 of its 68 bytes) between two
-- successful writes: opened with all three headers even with data validation
example : ∀ v, openBlob 3 v (fileAfter 4096 ([(wA, .ok), (wZ, .short 63), (wB, .ok)] ++ [(wA, .failBefore)])) =
    .ok (writtenHeaders serBlobHeader [wA, wZ, wB]) := fun v =>
  restart_opens_with_all_complete_headers_validating 3 4096 v [(wA, .ok), (wZ, .short 63), (wB, .ok)]
    [(wA, .failBefore)] (by decide +kernel) (by decide +kernel) (by decide +kernel) (goodW _ (by decide +kernel)) (size_lt _ _ (by decide))
-- (R5) instance: the SECOND failing step left 7 bytes, a later write follows: quarantine
example : ∀ v, openBlob 3 v (fileAfter 4096 [(wA, .ok), (wB, .short 62), (wZ, .short 7), (wA, .ok)]) =
    .quarantine := fun v =>
  restart_quarantines_at_short_region 3 4096 v [(wA, .ok), (wB, .short 62)] [(wA, .ok)] wZ (.short 7)
    (by decide +kernel) (by decide +kernel) (by decide +kernel) (fun _ _ => by decide +kernel) (goodW _ (by decide +kernel)) (size_lt _ _ (by decide))
-- (R6) instance, not vacuous: the failing step is the third one (the second failing one); the blob IS
-- opened, without the header of that step
example : (∀ v hs, openBlob 3 v (fileAfter 4096 ([(wA, .ok), (wB, .short 62)] ++ (wZ, .failBefore) :: [])) =
      .ok hs → writtenHeader wZ (run 4096 fresh [(wA, .ok), (wB, .short 62)]).file.size 4096 ∉ hs) ∧
    openBlob 3 false (fileAfter 4096 ([(wA, .ok), (wB, .short 62)] ++ (wZ, .failBefore) :: [])) =
      .ok [writtenHeader wA 20 4096, writtenHeader wB 92 4096] :=
  ⟨failed_not_served_later_general 3 4096 [(wA, .ok), (wB, .short 62)] [] wZ .failBefore (by decide +kernel)
    (goodW _ (by decide +kernel)) (by decide +kernel) (size_lt _ _ (by decide)),
   (restart_opens_with_all_complete_headers 3 4096 [(wA, .ok), (wB, .short 62)] [(wZ, .failBefore)]
    (by decide +kernel) (by decide +kernel) (goodW _ (by decide +kernel)) (size_lt _ _ (by decide))).1⟩
-- (R7) instance: acknowledged write, failed write with complete header, then later steps that write
example : openBlob 3 false (fileAfter 4096 ([(wA, .ok)] ++ (wB, .short 62) :: [(wA, .ok), (wZ, .failBefore)])) =
    .ok (ackedHeaders 4096 fresh [(wA, .ok)] ++ [writtenHeader wB 92 4096] ++ [writtenHeader wA 165 4096]) := by
  rw [failed_write_indexed_after_restart_later 3 4096 [(wA, .ok)] [(wA, .ok), (wZ, .failBefore)] wB
    (.short 62) (by unfold allOk; decide) (by decide +kernel) (goodW _ (by decide +kernel)) (by decide +kernel) (size_lt _ _ (by decide))]
  simp only [writtenHeader_eq]
  rfl
-- the general E8 statement on the same run
example : ∃ hs, openBlob 3 false (fileAfter 4096 (([(wA, .ok)] ++ (wB, .short 62) :: [(wA, .ok)]) ++
      [(wZ, .failBefore)])) = .ok hs ∧
    writtenHeader wB (run 4096 fresh [(wA, .ok)]).file.size 4096 ∈ hs :=
  (failed_write_indexed_after_restart_general 3 4096 [(wA, .ok)] [(wA, .ok)] [(wZ, .failBefore)] wB
    (.short 62) (by decide +kernel) (by decide +kernel) (by decide +kernel) (goodW _ (by decide +kernel)) (size_lt _ _ (by decide))).2.2
-- the accident of `torn_header_zero_padded_accepted` is exactly what `NoAccident` excludes
example : ¬ NoAccident 3 4096 20 paddedSteps := fun h => by
  -- without the accident the blob would be quarantined (`restart_quarantines_at_short_region`); it is opened
  have hq := restart_quarantines_at_short_region 3 4096 false [] [(wA, .ok)] wZ (.short 59) (fun _ hs => nomatch hs)
    (by decide) (Or.inl (by decide)) (fun h0 _ => h h0 (by decide)) (goodW _ (by decide +kernel)) (by decide)
  rw [show [] ++ (wZ, Outcome.short 59) :: [(wA, Outcome.ok)] = paddedSteps from rfl,
    torn_header_zero_padded_accepted.2.2.2.1 false] at hq
  cases hq

end Pearl.C11

/-
Statements that are FALSE of the model and are kept as refutation + `_partial` version:
  * `FailedNotServedLater` ("a write that returned an error is never in the index after a restart"):
    refuted by `failed_not_served_later_false` on `witnessSteps`
      [write key 1 ts 101 data 01..04 → Ok;  write key 2 ts 102 data 05..09 with the pwrite cut after 62 of
       73 bytes → Err;  restart without index file, validate_data_during_index_regen = false]
    → the index holds the header of key 2 (finding E8). General forms: `failed_write_indexed_after_restart`
    (every `short n` with header size ≤ n < record length), `failed_write_indexed_after_restart_failSecond`.
    True version: `failed_not_served_later_partial`.
  * "if the first failing step left less than a header (`failBefore`, `short n`, n < header size), every
    start-up scan stops with an error there": refuted by `torn_header_zero_padded_accepted` on `paddedSteps`
      [write key 2 ts 125 no data with the pwrite cut after 59 of 68 bytes → Err;  write key 1 ts 101 → Ok;
       restart] → the blob opens with BOTH headers and the failed write is fully readable: the hole between
    the cut and the next reservation reads as zeros and completes the header (1 in 256 headers end in a
    zero byte) and the empty meta. Also false, trivially, when NOTHING was written and nothing follows (the
    file is then simply the intact blob → `first_fault_nothing_written`). True versions:
    `first_fault_hole_quarantine`, `first_fault_torn_header_quarantine`,
    `first_fault_torn_header_padded_partial`.

NOT YET PROVED
  1. With data validation and a failed step that left a complete header but only part of a record WITH data,
     followed by a later write: `startup_scan_regions` says exactly what happens (`dataStop`: the zero-filled
     data must have the CRC of the real data), but there is no closed form — whether a zero-filled remainder
     passes the CRC is a property of the data (it does when the missing bytes were zeros).
  2. The first region when it holds less than a header: `RawRecords::start` may fail with a different error
     (`BlobKeySize`, `RecordMagicByte`) than the loop would (`scanRegions`); both quarantine, and the theorems at
     `openBlob` level do not distinguish them. The loop-level theorem (`startup_scan_regions`, second clause) is exact.
-/
