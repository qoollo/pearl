import Pearl.Proofs.FsLemmas
import Pearl.Proofs.SyncProto
import Pearl.Proofs.SyncProto3
/-
C12: durability ordering, on the file / trace layer (L6, `Pearl/Model/Fs.lean`).

The statements of the first part are about `Fs.run dup limit klen unc rs ops`: the state and the trace (list of file
events in the order the implementation issues them at quiescence) after `init` on an empty directory
and an arbitrary list `ops` of driver-level operations, for any dirty-bytes limit, key length and
either behaviour of the explicit `fsync` (`unc`).

Second part (`## The background-sync request protocol`): the request protocol of `Pearl/Model/SyncProto.lean` under
every schedule; its lemmas are in `Pearl/Proofs/SyncProto.lean` (the protocol) and `SyncProto3.lean` (the ghost wrappers).

WHICH OBJECT IS THE CODE (second part).  In /repo HEAD `Inner::fsyncdata` is a loop (since bc65670): compare-exchange, guarded
scope, sync if over the limit, end of the scope (flag released), re-check; a failed sync leaves by `?` WITHOUT the
re-check.  That is `Mode.amended` of the ghost wrapper `MSt` (`mstep .amended`, `Proofs/SyncProto3.lean`), theorems
`…_amended`, section (7.7).  `Model/SyncProto.step` cannot express it: `step` with `recheck := true` (variants `recheckOnly`,
`repaired`; theorems `…_recheckOnly`, sections (7.1)-(7.5)) re-checks after EVERY release of the flag, so it retries a failed
sync and the code does not (`failed_sync_retried_by_step`, `failed_sync_not_retried_amended`); on schedules without a
failing sync the two are the same (`amended_is_step_without_failure`), and that is what makes the `…_recheckOnly`
statements statements about the code.  `SyncProto.current` is the code BEFORE bc65670 (sections (1)-(6)).  The suffix `_code` names the
reading `gstep true` = `Mode.afterSyncOnly` that /repo had for a short while, before bc65670 was amended (section (7.6)),
NOT the present code.

The clauses the sections of the second part are numbered by (the sections stand in the order (1), (4), (2), (3), (6), (5),
(7): the invariants first):
* (1) the flag: `fsync_in_progress` is set only while a task body owns it, and is clear at rest;
* (2) requests: a write that takes the active blob over the limit is not lost (`no_lost_request`);
* (3) the bound: at every state at rest the un-synced bytes are within the limit (`bounded_at_quiescence`); with failures,
  the protocol comes to rest and the next over-limit write syncs;
* (4) the published size: `synced_size` never exceeds what a successful `sync_all` covered;
* (5) each of the four seeded changes is refuted by a counter-model;
* (6) `Fs` (a sync as an immediate effect) is the projection of the protocol onto the states at rest;
* (7) the same clauses since bc65670: (7.1)-(7.5) for `step` with the re-check, (7.6) for the short-lived reading, (7.7)
  for the code.
The windows in which bytes are acknowledged and nothing looks at them again:
* (a) while `sync_all` is in flight (the task is past its size capture, the flag is set: no request); counted by the
  model's ghost `blind`; closed by the re-check;
* (b) after the task's last re-check and before `JoinHandle::is_finished` (flag clear: the request is sent, and the worker
  drops it); ghost `late`; open in every reading and in the code;
* (c) between a look of the task that has no re-check behind it and the release of the flag by that exit (flag set: no
  request); ghost `unseen`; (c1) after the early return "not over the limit": open in the reading (7.6) only, closed in the
  code; (c2) after a failed sync: open in (7.6) and in the code.
-/
namespace Pearl
open Fs

/-- For every blob file, the first three events on it are: create, the 20-byte blob header at offset 0,
    and an fsync publishing those 20 bytes.  (`proj id t` = the events of `t` on blob file `id`.) -/
theorem header_synced_before_first_record (dup : Bool) (limit klen : Nat) (unc rs : Bool) (ops : List FsOp)
    (id : Nat) :
    proj id (run dup limit klen unc rs ops).2 = [] ∨ hdr3 id <+: proj id (run dup limit klen unc rs ops).2 := by
  have h := (run_diskInv dup limit klen unc rs ops).hdr id
  cases hf : (run dup limit klen unc rs ops).1.disk.files id with
  | none => exact Or.inl (h.1 hf)
  | some f => exact Or.inr (h.2 (by simp [hf]))

/-- … and they precede every record write to that file (any write that is not the header write at 0):
    the three events are already in the part of the trace before it.  The operation that wrote the record
    returns (acknowledges) after its write, so the header is durable before any acknowledgement. -/
theorem record_write_after_header_sync (dup : Bool) (limit klen : Nat) (unc rs : Bool) (ops : List FsOp)
    (id off len : Nat) (pre post : List Event)
    (h : (run dup limit klen unc rs ops).2 = pre ++ Event.write (.blob id) off len :: post) (hoff : off ≠ 0) :
    hdr3 id <+: proj id pre := by
  rcases header_synced_before_first_record dup limit klen unc rs ops id with h0 | h1
  · rw [h, proj_append] at h0
    simp [proj, Event.file] at h0
  · rw [h] at h1
    exact hdr3_before_write h1 hoff

/-- Every rewrite of an index header with the `written` bit (the moment the index file becomes valid,
    recording `blob_size = bs`) is preceded by an fsync of the blob file that published at least `bs`,
    with no write to the blob file in between, and the next event on the index file is its own fsync. -/
theorem index_written_after_blob_sync (dup : Bool) (limit klen : Nat) (unc rs : Bool) (ops : List FsOp)
    (i bs : Nat) (pre post : List Event)
    (h : (run dup limit klen unc rs ops).2 = pre ++ Event.idxHeader i bs true :: post) :
    (∃ p1 p2 n, pre = p1 ++ Event.sync (.blob i) n :: p2 ∧ bs ≤ n ∧
        ∀ e ∈ p2, isWriteOn (.blob i) e = false) ∧
      (∃ q1 q2 n, post = q1 ++ Event.sync (.index i) n :: q2 ∧ ∀ e ∈ q1, e.file ≠ .index i) :=
  (run_diskInv dup limit klen unc rs ops).idx pre post i bs h

/-- After a successful `close_active` (foreground or background) there is no active blob and the
    blob that was closed has `synced = size`. -/
theorem no_dirty_after_close_active (dup : Bool) (limit klen : Nat) (unc rs : Bool) (ops : List FsOp) (a : Blob)
    (ho : (run dup limit klen unc rs ops).1.isOpen = true)
    (ha : (run dup limit klen unc rs ops).1.store.active = some a) :
    let s' := (run dup limit klen unc rs (ops ++ [.closeActive])).1
    s'.store.active = none ∧ ∃ f, s'.disk.files a.id = some f ∧ f.synced = f.size := by
  intro s'
  have h := closeActive_dirty_zero ho ha
  exact ⟨by simp only [s', run_snoc]; exact h.2, run_snoc_synced dup limit klen unc rs ops .closeActive ha h.1⟩

/-- With the explicit `fsync` syncing unconditionally (/repo since 1b4c650) the active blob has
    `synced = size` after it. -/
theorem no_dirty_after_explicit_fsync (dup : Bool) (limit klen : Nat) (rs : Bool) (ops : List FsOp) (a : Blob)
    (ho : (run dup limit klen true rs ops).1.isOpen = true)
    (ha : (run dup limit klen true rs ops).1.store.active = some a) :
    let s' := (run dup limit klen true rs (ops ++ [.fsync])).1
    s'.store.active = some a ∧ ∃ f, s'.disk.files a.id = some f ∧ f.synced = f.size := by
  intro s'
  have h := fsync_dirty_zero ho ha (run_config dup limit klen true rs ops).2.2.1
  exact ⟨by simp only [s', run_snoc]; exact h.2, run_snoc_synced dup limit klen true rs ops .fsync ha h.1⟩

/-- For the code before that repair (`Storage::fsyncdata` → `Inner::fsyncdata`, which gives up while the
    dirty bytes are within the limit) the statement is false: one 10-byte write, then `fsync`, with the
    default limit of 32 MiB leaves 79 un-synced bytes.  Replay: `w 0000000a 5 - 10 1`, `fsync`, `dirty`. -/
theorem explicit_fsync_refuted_current :
    let s' := (run true 33554432 4 false true [.write 10 5 none ⟨10, 1⟩ false, .fsync]).1
    s'.activeDirty = some 79 ∧
      ¬ ∀ a, s'.store.active = some a → ∀ f, s'.disk.files a.id = some f → f.synced = f.size := by
  refine ⟨by decide, ?_⟩
  intro h
  have := h { id := 0, recs := [⟨10, 5, false, none, ⟨10, 1⟩⟩] } (by decide)
    { size := 99, synced := 20, appendMode := false } (by decide)
  simp at this

/-- At every quiescent state (after each driver-level step, background sync completed) the active blob's
    dirty bytes are at most the limit, for ALL operation sequences, with the code as it is since /repo 0ede233
    (`restoreSyncsOverLimit = true`: `restore_active_blob` syncs the restored blob when it is over the limit).
    Exactly the limit is allowed: `too_many_dirty_bytes` is `>`. -/
theorem quiescent_dirty_bounded (dup : Bool) (limit klen : Nat) (unc : Bool) (ops : List FsOp) (a : Blob)
    (ha : (run dup limit klen unc true ops).1.store.active = some a) :
    (run dup limit klen unc true ops).1.dirtyOf a.id ≤ limit := by
  have := run_bounded dup limit klen unc true ops (Or.inl rfl) a ha
  rwa [(run_config dup limit klen unc true ops).2.1] at this

/-- Before that repair (`restoreSyncsOverLimit = false`, /repo up to 225d28c) the statement was FALSE:
    a closed blob collects deletion markers that nothing syncs (the dump they trigger is deferred), and
    `restore_active` made it the active blob as it was.  Witness with limit 0
    (`cfg dirty=0`, `w 0000000a 5 - 10 1`, `close_active`, `d 0000000a 9 - 1`, `restore_active`, `dirty`;
    `trace_scripts/h06-dirty-after-restore.txt`, add `restorefix=0` to the `cfg` line for the model):
    69 dirty bytes in the active blob at a quiescent state.  Confirmed on the real library and repaired. -/
theorem quiescent_dirty_bounded_refuted_before_fix :
    let s := (run true 0 4 true false
      [.write 10 5 none ⟨10, 1⟩ false, .closeActive, .delete 10 9 none true, .restoreActive]).1
    s.activeDirty = some 69 ∧ s.limit = 0 := by
  decide

/-- the same run with the repair: `restore_active` emits one `sync` of blob 0 publishing its 168 bytes -/
theorem restore_syncs_over_limit_witness :
    let ops : List FsOp := [.write 10 5 none ⟨10, 1⟩ false, .closeActive, .delete 10 9 none true]
    let s := (run true 0 4 true true ops).1
    (emit s .restoreActive).2 = [.sync (.blob 0) 168] ∧ (emit s .restoreActive).1.activeDirty = some 0 := by
  decide +kernel

/-- the bound of the code before the repair: it held as long as `restore_active` was not used -/
theorem quiescent_dirty_bounded_partial (dup : Bool) (limit klen : Nat) (unc rs : Bool) (ops : List FsOp)
    (h : ∀ op ∈ ops, op.isRestore = false) (a : Blob)
    (ha : (run dup limit klen unc rs ops).1.store.active = some a) :
    (run dup limit klen unc rs ops).1.dirtyOf a.id ≤ limit := by
  have := run_bounded dup limit klen unc rs ops (Or.inr h) a ha
  rwa [(run_config dup limit klen unc rs ops).2.1] at this

/-- a delete re-establishes the bound from any reachable state (so does a write that is not rejected as a
    duplicate, see `keepsB_writeP`) -/
theorem dirty_bounded_after_delete (dup : Bool) (limit klen : Nat) (unc rs : Bool) (ops : List FsOp)
    (k : Key) (ts : Nat) (m : Option Meta) (oip : Bool) (a : Blob)
    (ho : (run dup limit klen unc rs ops).1.isOpen = true)
    (ha : (run dup limit klen unc rs (ops ++ [.delete k ts m oip])).1.store.active = some a) :
    (run dup limit klen unc rs (ops ++ [.delete k ts m oip])).1.dirtyOf a.id ≤ limit := by
  have hc := (run_inv dup limit klen unc rs ops).coh
  have hb : Bounded (run dup limit klen unc rs (ops ++ [.delete k ts m oip])).1 := by
    rw [run_snoc]
    simp only [emit, ho, if_true, prog]
    exact estB_deleteP k ts m oip _ hc
  have := hb a ha
  rwa [(run_config dup limit klen unc rs _).2.1] at this

/-- `Storage::close` dumps (and so fsyncs) the active blob only.  A deletion marker
    appended to a *closed* blob is fsynced by the deferred index dump alone (60–180 s by default); a clean
    `close()` before that leaves it un-synced, and the next `open` takes the file length as `synced_size`
    without any fsync.  Replay: `trace_scripts/h09-close-leaves-closed-blob-dirty.txt`. -/
theorem clean_close_leaves_unsynced_bytes :
    let ops : List FsOp := [.write 10 5 none ⟨10, 1⟩ false, .closeActive, .delete 10 9 none true, .close]
    let s := (run true 100000 4 true true ops).1
    s.isOpen = false ∧ (s.disk.files 0).map (·.dirty) = some 69 ∧
      (emit s (.open false)).2 = [.open (.blob 0), .open (.index 0)] ∧
      ((emit s (.open false)).1.disk.files 0).map (·.dirty) = some 0 := by
  decide +kernel

/-! ### non-vacuity -/

/-- the demo run: writes of 10 / 5000 bytes, a close, a delete into the closed blob, a restart -/
def C12Demo.ops : List FsOp :=
  [.write 10 5 none ⟨10, 1⟩ false, .write 11 5 none ⟨5000, 2⟩ false, .closeActive,
   .delete 10 6 none false, .restart false]

-- the trace the harness prints for the same script (`example_script.txt` without its queries):
-- Cb0 Wb0:0:20 Sb0:20 Wb0:20:79 Wb0:99:69 Wb0:168:5000 Sb0:5168 | Sb0:5168 Sb0:5168 Ci0 Wi0:0:* Wi0:hdr:bs=5168:w=1 Si0
-- | Cb1 Wb1:0:20 Sb1:20 Wb1:20:69 Wb0:5168:69 | Sb1:89 Ci1 Wi1:0:* Wi1:hdr:bs=89:w=1 Si1 Ob0 Oi0 Ob1 Oi1
--   Sb0:5237 Ci0 Wi0:0:* Wi0:hdr:bs=5237:w=1 Si0
example : (run true 100 4 true true C12Demo.ops).2 =
    [.create (.blob 0), .write (.blob 0) 0 20, .sync (.blob 0) 20,
     .write (.blob 0) 20 79, .write (.blob 0) 99 69, .write (.blob 0) 168 5000, .sync (.blob 0) 5168,
     .sync (.blob 0) 5168, .sync (.blob 0) 5168, .create (.index 0), .write (.index 0) 0 0,
     .idxHeader 0 5168 true, .sync (.index 0) 0,
     .create (.blob 1), .write (.blob 1) 0 20, .sync (.blob 1) 20, .write (.blob 1) 20 69,
     .write (.blob 0) 5168 69,
     .sync (.blob 1) 89, .create (.index 1), .write (.index 1) 0 0, .idxHeader 1 89 true, .sync (.index 1) 0,
     .open (.blob 0), .open (.index 0), .open (.blob 1), .open (.index 1),
     .sync (.blob 0) 5237, .create (.index 0), .write (.index 0) 0 0, .idxHeader 0 5237 true,
     .sync (.index 0) 0] := by decide +kernel

-- blob 1 exists in that run and its projection starts with the three header events
example : proj 1 (run true 100 4 true true C12Demo.ops).2 ≠ [] := by decide +kernel
-- there are header rewrites in the trace (the hypothesis of `index_written_after_blob_sync` is met)
example : Event.idxHeader 0 5237 true ∈ (run true 100 4 true true C12Demo.ops).2 := by decide +kernel
-- the hypotheses of `no_dirty_after_close_active` hold on a run, and the closed file exists with dirty bytes before
example : (run true 100000 4 true true [.write 10 5 none ⟨10, 1⟩ false]).1.activeDirty = some 79 := by decide
example : ((run true 100000 4 true true [.write 10 5 none ⟨10, 1⟩ false, .closeActive]).1.disk.files 0).map (·.dirty)
    = some 0 := by decide
-- the repaired explicit fsync does sync below the limit
example : (run true 33554432 4 true true [.write 10 5 none ⟨10, 1⟩ false, .fsync]).1.activeDirty = some 0 := by decide
-- dirty bytes exactly at the limit stay un-synced (79 = limit), one byte of limit less and they are synced;
-- the same boundary for `restore_active` (69 marker bytes): `trace_scripts/h10-restore-over-limit.txt`
example : (run true 79 4 true true [.write 10 5 none ⟨10, 1⟩ false]).1.activeDirty = some 79 := by decide
example : (run true 78 4 true true [.write 10 5 none ⟨10, 1⟩ false]).1.activeDirty = some 0 := by decide

end Pearl

/-!
## The background-sync request protocol (`Pearl/Model/SyncProto.lean`)

`Fs` performs a sync as an immediate effect of the operation that asks for it.  The implementation has three
cooperating pieces (`Inner::should_try_fsync` / `Inner::fsyncdata` with its `fsync_in_progress` flag and guard,
`ObserverWorker::try_run_fsync_task` with its task handle, `File::fsyncdata` publishing `synced_size`).  The theorems
below are about every schedule of the atomic steps of those pieces.

Summary of what is TRUE and what is FALSE of /repo BEFORE its commit bc65670 (variant `current`; the code since that commit
is section (7) at the end, see the head of the file for which object it is); client writes may be split into
their append and their `should_try_fsync` (`append` / `decide`), so concurrent client calls are covered:
* (1) `flag_implies_task`, (4) `synced_size_sound`, the failure half of (3) (`sync_after_failure`,
  `flag_clear_at_rest`, `comes_to_rest`) and (6) `quiescent_projection` hold.
* (2) `no_lost_request` and the first half of (3) `bounded_at_quiescence` are FALSE as stated:
  `bounded_at_quiescence_refuted` (schedule reproduced on the real library with a paused `sync_all`, see there).
  A write acknowledged while a task is past its size capture is neither covered by the running sync nor does it
  lead to a new one.  What holds is the bound `limit + blind` (`bounded_at_quiescence_partial`), i.e. `limit` for
  schedules in which no write lands in that window (`bounded_at_quiescence_no_blind_write`); the gap is unbounded
  (`bounded_at_quiescence_refuted_any`).
* (5) the four seeded changes: `guardLate_counter_model`, `resetSkipped_counter_model`, `notReaped_counter_model`,
  `publishAlways_counter_model`.
* a candidate repair for which the bound holds after every schedule: `bounded_at_quiescence_repaired`.
* (7.1)-(7.5) `step` with the re-check (`recheckOnly`; the code on schedules without a failing sync): (1), (4), rest and (6)
  carry over (`…_recheckOnly`); window (a) of (2)/(3) is closed
  (`e23_schedule_now_synced`); the bound at rest is `limit + late` (`bounded_at_quiescence_recheckOnly`) with `late ≠ 0` only
  through window (b) (`window_b_characterised`, `window_b_witness`).
* (7.6) for a short while the re-check of /repo was behind one exit of the task body only, which `step` does not have -
  the reading `…_code` (NOT the present code), windows (c1), (c2): `early_return_window_witness`,
  `failed_sync_not_retried_witness`, `bounded_at_quiescence_code`.
* (7.7) THE CODE (/repo HEAD, bc65670 as amended) is a third reading, `Mode.amended` of `Proofs/SyncProto3.lean`:
  re-check after every release of the flag except after a failed sync.  `…_amended`: (1), (4), rest carry over; window (c1)
  is closed (`window_c1_closed`, `early_return_window_closed`), the bound at rest is `limit + late` again
  (`bounded_at_quiescence_amended`); a failed sync is not retried (`failed_sync_not_retried_amended`) but the next
  over-limit write syncs (`sync_after_failure_amended`); window (b) is unchanged (`window_b_witness_amended`).
-/
namespace Pearl
namespace SyncProto

/-! ### (1) the flag -/

/-- (1) In every reachable state of the shipped protocol (and of every variant that arms the guard right after the
    compare-exchange), `fsync_in_progress` is set only while a task is between its compare-exchange and its exit:
    the task body is in one of the phases `held`, `checked`, `syncing _`, `returned true` (`Phase.owns`), and
    the worker's handle is unfinished. -/
theorem flag_implies_task {v : Variant} (hv : v.guarded = true) {limit : Nat} {s : St} (h : Reach v limit s)
    (hf : s.flag = true) : s.phase.owns = true ∧ s.hdl = .running :=
  (ctl_reach hv h).task_of_flag hf

/-- … and conversely a task in one of these phases holds it -/
theorem task_implies_flag {v : Variant} (hv : v.guarded = true) {limit : Nat} {s : St} (h : Reach v limit s)
    (ho : s.phase.owns = true) : s.flag = true := by
  rw [(ctl_reach hv h).flag]; exact ho

/-- neither the flag nor the handle stays stuck: at rest (queue drained, no task body) the flag is clear and the
    handle is absent or finished, whatever failed before -/
theorem flag_clear_at_rest {v : Variant} (hv : v.guarded = true) {limit : Nat} {s : St} (h : Reach v limit s)
    (hq : s.quiescent = true) : s.flag = false ∧ s.hdl ≠ .running :=
  (ctl_reach hv h).clear_at_rest hq

-- non-vacuity: a reachable state with the flag set (task after its compare-exchange) …
example : (⟨220, 20, true, .running, .held, 0, 0, 20, 0, 0⟩ : St).phase.owns = true ∧
    (⟨220, 20, true, .running, .held, 0, 0, 20, 0, 0⟩ : St).hdl = .running :=
  flag_implies_task (v := current) rfl (limit := 100) ⟨20, [.write 200, .recv, .cas], by decide⟩ rfl
-- … and a state at rest reached through a FAILED sync
example : (⟨220, 20, false, .finished, .idle, 0, 0, 20, 0, 0⟩ : St).flag = false ∧
    (⟨220, 20, false, .finished, .idle, 0, 0, 20, 0, 0⟩ : St).hdl ≠ .running :=
  flag_clear_at_rest (v := current) rfl (limit := 100)
    ⟨20, [.write 200, .recv, .cas, .check, .start, .complete false, .release, .finish], by decide⟩ rfl

/-! ### (4) the published size -/

/-- (4) `synced_size` never exceeds `durable`, the largest size captured by a `sync_all` that SUCCEEDED on the
    active blob file (or the size it had when it became the active blob), and that never exceeds the file size.
    Holds for every variant that publishes on the success path only. -/
theorem synced_size_sound {v : Variant} (hv : v.publishOnlyOnSuccess = true) {limit : Nat} {s : St}
    (h : Reach v limit s) : s.synced ≤ s.durable ∧ s.durable ≤ s.size :=
  ⟨(cnt_reach hv h).synced_le, (cnt_reach hv h).durable_le⟩

-- non-vacuity: after a failed sync of 220 bytes nothing above the 20 durable bytes is published
example : (⟨220, 20, true, .running, .returned true, 0, 0, 20, 0, 0⟩ : St).synced ≤ 20 :=
  (synced_size_sound (v := current) rfl (limit := 100)
    ⟨20, [.write 200, .recv, .cas, .check, .start, .complete false], by decide⟩).1

/-! ### (2) requests -/

/-- a write that takes the active blob over the limit sends a request unless a task owns the flag -/
theorem write_requests_unless_owned {v : Variant} (hv : v.guarded = true) {limit : Nat} {s : St}
    (h : Reach v limit s) (n : Nat) (hover : s.size + n - s.synced > limit) :
    (s.phase.owns = false ∧ (afterWrite limit s n).queue = s.queue + 1) ∨
      (s.phase.owns = true ∧ (afterWrite limit s n).queue = s.queue) := by
  have hf := (ctl_reach hv h).flag
  have hlt : limit < s.size + n - s.synced := hover
  cases ho : s.phase.owns <;> simp [afterWrite, shouldTryFsync, tooMany, hf, ho, hlt]

/-- (2), the part that is true.  In every state reached without a sync failure in which the un-synced bytes exceed
    `limit + blind` (`blind` = bytes appended since the latest size capture while a task was past its capture),
    something is still going to look at them: no task body exists and a request is queued or a client call is about
    to evaluate `should_try_fsync` with the flag clear, or a task has not yet captured the size, or the sync in flight
    covers all but the blind bytes. -/
theorem no_lost_request_partial {v : Variant} (hv : v.protoOk = true) {limit : Nat} {s : St}
    (h : ReachOk v limit s) (hover : s.dirty > limit + s.blind) :
    (s.phase = .idle ∧ (0 < s.queue ∨ 0 < s.pending)) ∨ s.phase = .spawned ∨ s.phase = .held ∨
      s.phase = .checked ∨ ∃ cap, s.phase = .syncing cap ∧ s.size ≤ cap + s.blind := by
  obtain ⟨hI, hB⟩ := cover_reachOk hv h
  simp only [St.dirty] at hover
  cases hp : s.phase <;> simp
  case idle => exact (hI hp).resolve_right (by omega)
  case syncing cap => simpa [hp, Phase.covered] using hB (by rw [hp]; rfl)
  all_goals have := hB (by rw [hp]; rfl); simp only [hp, Phase.covered] at this; omega

/-- (2) as stated is FALSE of /repo.  Two schedules without any failure that end at rest with the active blob over
    the limit and nothing scheduled.
    (a) The last write lands while `sync_all` is in flight: over the limit, but `should_try_fsync` sees the flag and
        sends nothing; the sync publishes the size captured before that write.
    (b) The last write lands after the guard has reset the flag but before the task's handle reports
        `is_finished()`: it does send `TryFsyncData`, and `try_run_fsync_task` drops it ("task is in progress"). -/
theorem no_lost_request_refuted :
    (∃ pre n post s1 s, run current 100 (init 20) pre = some s1 ∧
        run current 100 (afterWrite 100 s1 n) post = some s ∧
        (∀ e ∈ pre ++ post, e.isFailure = false) ∧ (∀ e ∈ post, e.isWrite = false) ∧
        s.quiescent = true ∧ s.dirty > 100 ∧
        (afterWrite 100 s1 n).queue = s1.queue ∧ s1.queue = 0) ∧
    (∃ pre n post s1 s, run current 100 (init 20) pre = some s1 ∧
        run current 100 (afterWrite 100 s1 n) post = some s ∧
        (∀ e ∈ pre ++ post, e.isFailure = false) ∧ (∀ e ∈ post, e.isWrite = false) ∧
        s.quiescent = true ∧ s.dirty > 100 ∧
        (afterWrite 100 s1 n).queue = s1.queue + 1 ∧ .start ∉ post) := by
  refine ⟨⟨[.write 79, .write 369, .recv, .cas, .check, .start], 369, [.complete true, .release, .finish],
      ⟨468, 20, true, .running, .syncing 468, 0, 0, 20, 0, 0⟩, ⟨837, 468, false, .finished, .idle, 0, 0, 468, 369, 0⟩,
      by decide, by decide, by decide, by decide, by decide, by decide, by decide, by decide⟩,
    ⟨[.write 200, .recv, .cas, .check, .start, .complete true, .release], 200, [.recv, .finish],
      ⟨220, 220, false, .running, .released, 0, 0, 220, 0, 0⟩, ⟨420, 220, false, .finished, .idle, 0, 0, 220, 200, 0⟩,
      by decide, by decide, by decide, by decide, by decide, by decide, by decide, by decide⟩⟩

/-! ### (3) the bound at rest -/

/-- (3), the part that is true: at rest, after any schedule without a sync failure, the un-synced bytes of the active
    blob are at most the limit plus the bytes acknowledged while a task was past its size capture. -/
theorem bounded_at_quiescence_partial {v : Variant} (hv : v.protoOk = true) {limit : Nat} {s : St}
    (h : ReachOk v limit s) (hq : s.quiescent = true) : s.dirty ≤ limit + s.blind := by
  rw [quiescent_iff] at hq
  have := (cover_reachOk hv h).1 hq.2.1
  simp only [Asked, hq.1, hq.2.2, Nat.lt_irrefl, false_or, St.dirty] at this ⊢
  omega

/-- … so the bound of the property holds for every schedule in which no write lands in that window -/
theorem bounded_at_quiescence_no_blind_write {v : Variant} (hv : v.protoOk = true) {limit base : Nat}
    {evs : List Ev} {s : St} (hok : ∀ e ∈ evs, e.isFailure = false)
    (hnb : noBlindWrite v limit (init base) evs = true) (h : run v limit (init base) evs = some s)
    (hq : s.quiescent = true) : s.dirty ≤ limit := by
  have h1 := bounded_at_quiescence_partial hv ⟨base, evs, hok, h⟩ hq
  have h2 := blind_run evs (init base) s rfl hnb h
  omega

/-- (3) as stated is FALSE of /repo: limit 100; a 79-byte record (within the limit); a 369-byte record takes the blob
    over the limit, the request is received, the task wins the compare-exchange, sees 448 > 100 dirty bytes and starts
    `sync_all` with the captured size 468; a third record of 369 bytes is acknowledged meanwhile (no request: the
    flag is set); the sync succeeds and publishes 468; guard, task end.  At rest: 369 un-synced bytes, limit 100,
    nothing queued, nothing running, no failure anywhere.
    REPRODUCED on the real library (/repo 41a1848, no fault injected, only `sync_all` paused by the I/O hook):
    `cfg key=4 dup=1 dirty=100 rt=mt`, `w 0000000a 5 - 10 1`, `fault sync 0 .blob pause:1`, `w 0000000b 5 - 300 2`,
    `wait 100`, `w 0000000c 5 - 300 3`, `release 1`, `trace`, `dirty` →
    `#trace Wb0:99:369 Sb0:468!pause Wb0:468:369`, `dirty 369` (and still `dirty 369` 500 ms later). -/
theorem bounded_at_quiescence_refuted :
    ¬ ∀ s, ReachOk current 100 s → s.quiescent = true → s.dirty ≤ 100 := by
  intro h
  have := h ⟨837, 468, false, .finished, .idle, 0, 0, 468, 369, 0⟩
    ⟨20, [.write 79, .write 369, .recv, .cas, .check, .start, .write 369, .complete true, .release, .finish],
      by decide, by decide +kernel⟩ rfl
  exact absurd this (by decide)

/-- the gap is not bounded by anything: for every `N` there is such a state with more than `N` un-synced bytes -/
theorem bounded_at_quiescence_refuted_any (limit N : Nat) :
    ∃ s, ReachOk current limit s ∧ s.quiescent = true ∧ s.dirty > N := by
  refine ⟨⟨20 + (limit + 1) + (N + 1), 20 + (limit + 1), false, .finished, .idle, 0, 0, 20 + (limit + 1), N + 1, 0⟩,
    ⟨20, [.write (limit + 1), .recv, .cas, .check, .start, .write (N + 1), .complete true, .release, .finish],
      by simp [Ev.isFailure], ?_⟩, rfl, ?_⟩
  · simp [run, step, init, shouldTryFsync, tooMany, St.dirty, Phase.blind, current]
  · simp only [St.dirty]; omega

/-- with failures: the protocol always comes to rest by itself (no client action, every later sync succeeding),
    from every state of the shipped protocol and of the four seeded variants, within `measure` internal steps -/
theorem comes_to_rest {v : Variant} (hr : v.recheck = false) (ha : v.awaitRunning = false) (limit : Nat) (s : St) :
    ∃ evs t, (∀ e ∈ evs, e.internal = true ∧ e.isFailure = false) ∧ run v limit s evs = some t ∧
      t.quiescent = true ∧ evs.length ≤ s.measure ∧ t.size = s.size ∧ t.blob = s.blob := by
  refine (isRun_run v limit).finish (D := fun s => s.quiescent = true) (μ := St.measure) (P := fun _ => True)
    (K := fun a b => b.size = a.size ∧ b.blob = a.blob) (fun _ => ⟨rfl, rfl⟩)
    (fun h1 h2 => ⟨h2.1.trans h1.1, h2.2.trans h1.2⟩) (fun s _ hd => ?_) s trivial
  obtain ⟨e, hn⟩ := Option.ne_none_iff_exists'.1 (mt (next_none_iff v s).1 hd)
  obtain ⟨t, ht⟩ := Option.isSome_iff_exists.1 (next_enabled ha limit hn)
  have hk := internal_step_keeps (next_internal hn).1 ht
  exact ⟨e, t, ht, measure_step hr (next_internal hn).1 ht, trivial, next_internal hn, hk.1, hk.2.1⟩

/-- whenever the un-synced bytes exceed the limit by more than the blind bytes, a sync is performed without further
    client action: left alone (no failure so far, none later) the protocol reaches a state at rest within the bound,
    and the file size is the one it had - the bound was restored by a sync, not by anything else -/
theorem sync_without_client_action_partial {v : Variant} (hv : v.protoOk = true) (ha : v.awaitRunning = false)
    {limit : Nat} {s : St} (h : ReachOk v limit s) :
    ∃ evs t, (∀ e ∈ evs, e.internal = true ∧ e.isFailure = false) ∧ run v limit s evs = some t ∧
      t.quiescent = true ∧ t.size = s.size ∧ t.blob = s.blob ∧ t.blind ≤ s.blind ∧
      t.dirty ≤ limit + s.blind := by
  obtain ⟨evs, t, h1, h2, h3, _, h5, h6⟩ := comes_to_rest (Variant.recheck_of_protoOk hv) ha limit s
  have hk := internal_run_keeps (fun e he => (h1 e he).1) h2
  obtain ⟨base, pre, hpre, hrun⟩ := h
  have hreach : ReachOk v limit t := by
    refine ⟨base, pre ++ evs, ?_, ?_⟩
    · intro e he
      rcases List.mem_append.1 he with he | he
      · exact hpre e he
      · exact (h1 e he).2
    · rw [run_append, hrun]; exact h2
  have := bounded_at_quiescence_partial hv hreach h3
  exact ⟨evs, t, h1, h2, h3, h5, h6, hk.2.2, by omega⟩

/-- (3), with failures: after ANY history (failed syncs included), once the protocol is at rest, the first write
    that takes the active blob over the limit leads to a sync again: the request is sent (the flag is clear), the
    worker starts a task (the handle is absent or finished), the task wins the compare-exchange, passes the check and
    starts `sync_all` with a captured size that includes the write; when that sync succeeds the blob has no
    un-synced byte and the protocol is at rest again with the flag clear. -/
theorem sync_after_failure {v : Variant} (hv : v.protoOk = true) {limit : Nat} {s : St} (h : Reach v limit s)
    (hq : s.quiescent = true) {n : Nat} (hover : s.size + n - s.synced > limit) :
    ∃ t u, run v limit s [.write n, .recv, .cas, .check, .start] = some t ∧
      t.phase = .syncing (s.size + n) ∧
      run v limit t [.complete true, .release, .finish] = some u ∧
      u.quiescent = true ∧ u.flag = false ∧ u.dirty = 0 := by
  obtain ⟨t, u, h1, h2, _, _, h5, h6, h7, _, h9, h10, _⟩ :=
    write_over_limit_syncs hv (ctl_reach (Variant.guarded_of_protoOk hv) h) hq hover
  exact ⟨t, u, h1, h2, h5, h6, h7, dirty_zero_of_synced_max h9 h10⟩

-- non-vacuity: the state at rest after a failed sync (220 bytes, 20 synced, limit 100), then a 1-byte write
example : ∃ t u, run current 100 ⟨220, 20, false, .finished, .idle, 0, 0, 20, 0, 0⟩
      [.write 1, .recv, .cas, .check, .start] = some t ∧ t.phase = .syncing 221 ∧
      run current 100 t [.complete true, .release, .finish] = some u ∧
      u.quiescent = true ∧ u.flag = false ∧ u.dirty = 0 :=
  sync_after_failure (v := current) rfl
    ⟨20, [.write 200, .recv, .cas, .check, .start, .complete false, .release, .finish], by decide⟩ rfl (by decide)
-- non-vacuity of the partial bound: the refuting run satisfies it with equality-free slack (369 ≤ 100 + 369)
example : (⟨837, 468, false, .finished, .idle, 0, 0, 468, 369, 0⟩ : St).dirty ≤ 100 + 369 :=
  bounded_at_quiescence_partial (v := current) rfl
    ⟨20, [.write 79, .write 369, .recv, .cas, .check, .start, .write 369, .complete true, .release, .finish],
      by decide, by decide +kernel⟩ rfl
-- … and a run with two concurrent client calls (appends first, then their `should_try_fsync`, the second one after
-- the task has taken the flag) and a redundant request, but no append in the window, ends within the limit
example : (⟨588, 588, false, .finished, .idle, 0, 0, 588, 0, 0⟩ : St).dirty ≤ 100 :=
  bounded_at_quiescence_no_blind_write (v := current) rfl (base := 20)
    (evs := [.append 200, .append 368, .decide, .recv, .cas, .decide, .check, .start, .complete true, .release,
      .finish])
    (by decide) (by decide +kernel) (by decide +kernel) rfl
-- … and a run with two writes racing the worker but none in the window ends within the limit
example : (⟨588, 588, false, .finished, .idle, 0, 0, 588, 0, 0⟩ : St).dirty ≤ 100 :=
  bounded_at_quiescence_no_blind_write (v := current) rfl (base := 20)
    (evs := [.write 200, .write 368, .recv, .cas, .check, .start, .complete true, .release, .finish, .recv,
      .cas, .check, .release, .finish])
    (by decide) (by decide +kernel) (by decide +kernel) rfl

/-! ### (6) `Fs` is the projection of the protocol onto the states at rest -/

/-- what `Fs.fsyncCheckP` does to the counters of the active blob file, and the event it emits -/
theorem fsyncCheckP_is_checkEffect (s : Fs.FsState) (a : Blob) (f : FileS) (ha : s.store.active = some a)
    (hf : s.disk.files a.id = some f) :
    ((Fs.fsyncCheckP s).1.disk.files a.id).map (fun g => (g.size, g.synced)) =
        some (checkEffect s.limit f.size f.synced) ∧
      (Fs.fsyncCheckP s).2 = if f.size - f.synced > s.limit then [.sync (.blob a.id) f.size] else [] := by
  by_cases h : f.size - f.synced > s.limit <;>
    simp [Fs.fsyncCheckP, Fs.acts, ha, Fs.FsState.dirtyOf, hf, Fs.Disk.runActs, Fs.Disk.exec, Fs.Disk.setFile,
      FileS.dirty, checkEffect, h]

/-- (6) From a reachable state at rest, a client write followed by ANY schedule of internal steps without a failure
    that ends at rest has, on (`size`, `synced_size`), exactly the effect of the write followed by `Fs.fsyncCheckP`;
    the flag is clear again and the active blob is the same. -/
theorem quiescent_projection {v : Variant} (hv : v.protoOk = true) {limit : Nat} {s : St} (h : Reach v limit s)
    (hq : s.quiescent = true) (n : Nat) {evs : List Ev} {t : St}
    (hint : ∀ e ∈ evs, e.internal = true ∧ e.isFailure = false)
    (hrun : run v limit s (.write n :: evs) = some t) (htq : t.quiescent = true) :
    (t.size, t.synced) = checkEffect limit (s.size + n) s.synced ∧ t.flag = false ∧ t.blob = s.blob :=
  have hc := ctl_reach (Variant.guarded_of_protoOk hv) h
  projection_of_schedule hc hq n hint hrun htq (sched := syncSchedule) (by decide) fun hover =>
    let ⟨_, u, h1, _, _, _, h5, h6, h7, _, h9, h10, h11⟩ := write_over_limit_syncs hv hc hq hover
    ⟨u, run_write_append h1 h5, h6, h7, h9, h10, h11⟩

/-- … and such a schedule exists (so the statement above is not vacuous for any state and any write) -/
theorem quiescent_projection_exists {v : Variant} (hr : v.recheck = false) (ha : v.awaitRunning = false)
    (limit : Nat) (s : St) (n : Nat) :
    ∃ evs t, (∀ e ∈ evs, e.internal = true ∧ e.isFailure = false) ∧
      run v limit s (.write n :: evs) = some t ∧ t.quiescent = true := by
  obtain ⟨evs, t, h1, h2, h3, _⟩ := comes_to_rest hr ha limit (afterWrite limit s n)
  exact ⟨evs, t, h1, by simpa using h2, h3⟩

-- non-vacuity: limit 100; 79 bytes stay un-synced, 101 bytes are synced (the same boundary under `Fs`: `run true 79 …` /
-- `run true 78 …` above)
example : checkEffect 100 (20 + 79) 20 = (99, 20) ∧ checkEffect 100 (20 + 101) 20 = (121, 121) := by decide
example : ∃ t, run current 100 (init 20) (.write 101 :: syncSchedule) = some t ∧ t.quiescent = true ∧
    (t.size, t.synced) = checkEffect 100 (20 + 101) 20 := by
  refine ⟨⟨121, 121, false, .finished, .idle, 0, 0, 121, 0, 0⟩, by decide, rfl, by decide⟩

/-! ### (5) the four seeded changes are caught: counter-models -/

/-- Seeded "guard armed after the early return".  One write passes the dirty limit and fills the blob; the worker
    rotates first, so the task finds the NEW active blob within the limit and returns early - without a guard, the
    flag stays set.  (1) is violated at rest; from then on no write ever sends a request, no sync is ever started, and
    the un-synced bytes at rest exceed any bound although no write landed in the blind window and nothing failed.
    The shipped code ends the same schedule with the flag clear. -/
theorem guardLate_counter_model :
    let evs : List Ev := [.write 200, .rotate 20, .recv, .cas, .check, .release, .finish]
    let s : St := ⟨20, 20, true, .finished, .idle, 0, 1, 20, 0, 0⟩
    run guardLate 100 (init 20) evs = some s ∧ s.quiescent = true ∧
      (s.flag = true ∧ s.phase.owns = false) ∧
      (∀ evs' t, run guardLate 100 s evs' = some t → Ev.start ∉ evs' ∧ t.queue = 0 ∧ t.flag = true) ∧
      (∀ N, ∃ t, ReachOk guardLate 100 t ∧ t.quiescent = true ∧ t.blind = 0 ∧ t.dirty > N) ∧
      (run current 100 (init 20) evs).map (·.flag) = some false := by
  refine ⟨by decide, rfl, ⟨rfl, rfl⟩, ?_, ?_, by decide⟩
  · intro evs' t h
    have hs : Stuck (⟨20, 20, true, .finished, .idle, 0, 1, 20, 0, 0⟩ : St) := ⟨rfl, rfl, rfl⟩
    have h1 := stuck_run hs h
    exact ⟨h1.2.1, h1.1.2.2, h1.1.1⟩
  · intro N
    refine ⟨⟨20 + (N + 1), 20, true, .finished, .idle, 0, 1, 20, 0, 0⟩,
      ⟨20, [.write 200, .rotate 20, .recv, .cas, .check, .release, .finish, .write (N + 1)],
        by simp [Ev.isFailure], ?_⟩, rfl, rfl, ?_⟩
    · simp [run, step, init, shouldTryFsync, tooMany, St.dirty, Phase.blind, Phase.locked, guardLate]
    · simp only [St.dirty]; omega

/-- Seeded "explicit reset skipped by `?` on error".  One failed background sync leaves the flag set: after the failure
    the first later write over the limit (and every later one) does NOT lead to a sync.  The shipped code ends the
    same schedule with the flag clear and the request of the next write queued. -/
theorem resetSkipped_counter_model :
    let evs : List Ev := [.write 200, .recv, .cas, .check, .start, .complete false, .release, .finish]
    let s : St := ⟨220, 20, true, .finished, .idle, 0, 0, 20, 0, 0⟩
    run resetSkipped 100 (init 20) evs = some s ∧ s.quiescent = true ∧
      (s.flag = true ∧ s.phase.owns = false) ∧
      (∀ evs' t, run resetSkipped 100 s evs' = some t → Ev.start ∉ evs' ∧ t.queue = 0 ∧ t.flag = true) ∧
      (run current 100 (init 20) (evs ++ [.write 500])).map (fun t => (t.flag, t.queue)) = some (false, 1) := by
  refine ⟨by decide, rfl, ⟨rfl, rfl⟩, ?_, by decide⟩
  intro evs' t h
  have hs : Stuck (⟨220, 20, true, .finished, .idle, 0, 0, 20, 0, 0⟩ : St) := ⟨rfl, rfl, rfl⟩
  have h1 := stuck_run hs h
  exact ⟨h1.2.1, h1.1.2.2, h1.1.1⟩

/-- Seeded "`fsync_task.is_some()` instead of `!is_finished()`".  The handle of the first task is finished but not yet
    reaped when the request of the next write over the limit arrives (the worker was waiting in `recv` all the time):
    the request is dropped.  At rest: 200 un-synced bytes with limit 100, no write in the blind window, no failure -
    `bounded_at_quiescence_no_blind_write` is violated.  The shipped code spawns the second task. -/
theorem notReaped_counter_model :
    let evs : List Ev := [.write 200, .recv, .cas, .check, .start, .complete true, .release, .finish, .write 200, .recv]
    let s : St := ⟨420, 220, false, .none, .idle, 0, 0, 220, 0, 0⟩
    run notReaped 100 (init 20) evs = some s ∧ s.quiescent = true ∧
      (∀ e ∈ evs, e.isFailure = false) ∧ noBlindWrite notReaped 100 (init 20) evs = true ∧
      s.dirty = 200 ∧ ¬ s.dirty ≤ 100 ∧
      (run current 100 (init 20) evs).map (·.phase) = some .spawned := by
  refine ⟨by decide, rfl, by decide, by decide +kernel, by decide, by decide, by decide⟩

/-- Seeded "`fetch_max` outside the success path".  A failed `sync_all` publishes the captured size: `synced_size`
    (220) exceeds everything a successful sync ever covered (20).  The shipped code leaves it at 20. -/
theorem publishAlways_counter_model :
    let evs : List Ev := [.write 200, .recv, .cas, .check, .start, .complete false]
    (run publishAlways 100 (init 20) evs).map (fun t => (t.synced, t.durable)) = some (220, 20) ∧
      ¬ (∀ s, Reach publishAlways 100 s → s.synced ≤ s.durable) ∧
      (run current 100 (init 20) evs).map (fun t => (t.synced, t.durable)) = some (20, 20) := by
  refine ⟨by decide, ?_, by decide⟩
  intro h
  have := h ⟨220, 220, true, .running, .returned true, 0, 0, 20, 0, 0⟩
    ⟨20, [.write 200, .recv, .cas, .check, .start, .complete false], by decide⟩
  exact absurd this (by decide)

/-! ### what would make (2) and (3) true: a candidate repair (NOT in /repo) -/

/-- With two changes - the spawned closure evaluates `should_try_fsync` once more after `Inner::fsyncdata` has
    returned (flag reset) and runs it again when it holds; `try_run_fsync_task` awaits an unfinished task instead of
    dropping the request - the bound of the property holds at rest after EVERY schedule (blind writes, split writes,
    failed syncs included; a failed sync is retried by the re-check, so rest is only reached once one succeeded or the
    bytes are within the limit). -/
theorem bounded_at_quiescence_repaired {v : Variant} (hv : v.repairedOk = true) {limit : Nat} {s : St}
    (h : Reach v limit s) (hq : s.quiescent = true) : s.dirty ≤ limit := by
  obtain ⟨base, evs, hr⟩ := h
  obtain ⟨k, hk, rfl⟩ := mrun_everyExit_of_run (k := minit base) hr
  obtain ⟨hv', ha⟩ := Variant.recheckOk_of_repairedOk hv
  have h1 := mbounded_everyExit hv' ⟨base, evs, hk⟩ hq
  have h2 := mlate_zero_of_awaitRunning ha (k := minit base) rfl hk
  have h3 := unseen_zero_everyExit (k := minit base) rfl hk
  omega

/-- (1) and (4) hold for it as well -/
theorem repaired_flag_and_size {limit : Nat} {s : St} (h : Reach repaired limit s) :
    (s.flag = true → s.phase.owns = true ∧ s.hdl = .running) ∧ s.synced ≤ s.durable ∧ s.durable ≤ s.size :=
  ⟨flag_implies_task (v := repaired) rfl h, synced_size_sound (v := repaired) rfl h⟩

-- the two refuting schedules of `no_lost_request_refuted`, continued by the repaired protocol: (a) the re-check finds
-- the 369 blind bytes and syncs them; (b) the request sent in the window cannot be received before the task has
-- finished (`recv` is not enabled: `none`), and is served afterwards
example : run repaired 100 (init 20) [.write 79, .write 369, .recv, .cas, .check, .start, .write 369, .complete true,
      .release, .recheck, .cas, .check, .start, .complete true, .release, .recheck, .finish] =
    some ⟨837, 837, false, .finished, .idle, 0, 0, 837, 0, 0⟩ := by decide +kernel
example : run repaired 100 (init 20) [.write 200, .recv, .cas, .check, .start, .complete true, .release, .recheck,
      .write 200, .recv] = none := by decide +kernel
example : run repaired 100 (init 20) [.write 200, .recv, .cas, .check, .start, .complete true, .release, .recheck,
      .write 200, .finish, .recv, .cas, .check, .start, .complete true, .release, .recheck, .finish] =
    some ⟨420, 420, false, .finished, .idle, 0, 0, 420, 0, 0⟩ := by decide +kernel
example : (⟨837, 837, false, .finished, .idle, 0, 0, 837, 0, 0⟩ : St).dirty ≤ 100 :=
  bounded_at_quiescence_repaired (v := repaired) rfl
    ⟨20, [.write 79, .write 369, .recv, .cas, .check, .start, .write 369, .complete true,
      .release, .recheck, .cas, .check, .start, .complete true, .release, .recheck, .finish], by decide +kernel⟩ rfl

/-! ### (7) since /repo bc65670: the re-check is in, the worker still drops requests

`Inner::fsyncdata` is now a loop: compare-exchange, guard in an inner scope, check, `safe.fsyncdata()`, END of the inner
scope (storage lock dropped, then the guard: flag := false), then `safe.read()` again and `too_many_dirty_bytes` once
more - over the limit: round the loop (compare-exchange again), otherwise `return Ok(())` and the task ends.
`try_run_fsync_task` is unchanged.  `step … .recheck` has the re-check exactly there: enabled in `released` only (after
`release` = lock and flag given back), while the handle is still unfinished, it leads back to `spawned` (the
compare-exchange) or to `done` (from where only `finish` is left) - `recheck_position`.

ONE DIFFERENCE between `step` with `recheck := true` and the function as /repo had it for a short while
(`Pearl/Proofs/SyncProto3.lean` has it side by side): there the re-check is behind ONE exit of the inner
scope, the one after a `safe.fsyncdata()` that succeeded.  The early return ("not over the limit") and the `?` of a failed
sync leave the function from inside the scope: guard dropped, NO re-check, task ends.  `step` re-checks after every
`release`.  So the theorems below come in two readings, both over the same ghost wrapper `GSt` / `gstep c`:
* `c = false` is `step v` itself (`gstep_false_st`): the theorems named `…_recheckOnly` are about `Reach recheckOnly` / `run`;
* `c = true` is that short-lived function (7.6): the theorems named `…_code` (about `GReach true`; NOT the present code), and
  the two schedules on which the readings part: `early_return_window_witness` (window (c1)) and
  `failed_sync_not_retried_witness` (window (c2)).

In /repo at bc65670 (the commit as amended) the
guarded scope has no early `return`: both non-failing paths (synced / not over the limit) reach the end of the scope and
the re-check behind it; only the `?` of a failed sync leaves without.  That is a THIRD reading - neither `c = false` nor
`c = true` - and it is the code: section (7.7), `Mode.amended` of `Pearl/Proofs/SyncProto3.lean`, theorems `…_amended`.
-/

/-! #### (7.1) `step` with the re-check: flag, published size, rest -/

/-- (1) for `step` with the re-check: the flag is set only while a task is between its compare-exchange and its exit -/
theorem flag_implies_task_recheckOnly {limit : Nat} {s : St} (h : Reach recheckOnly limit s) (hf : s.flag = true) :
    s.phase.owns = true ∧ s.hdl = .running :=
  flag_implies_task (v := recheckOnly) rfl h hf

/-- (4) for `step` with the re-check -/
theorem synced_size_sound_recheckOnly {limit : Nat} {s : St} (h : Reach recheckOnly limit s) :
    s.synced ≤ s.durable ∧ s.durable ≤ s.size :=
  synced_size_sound (v := recheckOnly) rfl h

/-- at rest the flag is clear and the handle absent or finished, whatever failed before -/
theorem flag_clear_at_rest_recheckOnly {limit : Nat} {s : St} (h : Reach recheckOnly limit s)
    (hq : s.quiescent = true) : s.flag = false ∧ s.hdl ≠ .running :=
  flag_clear_at_rest (v := recheckOnly) rfl h hq

/-- where the re-check sits: after the reset of the flag (`released`, flag clear - so looking at the flag, as `step`
    does, and not looking at it, as the code does, is the same), before the end of the task (handle unfinished), and it
    either goes back to the compare-exchange (over the limit) or leaves only `finish` (within the limit); nothing else
    changes -/
theorem recheck_position {v : Variant} (hv : v.guarded = true) {limit : Nat} {s t : St} (h : Reach v limit s)
    (hst : step v limit s .recheck = some t) :
    v.recheck = true ∧ s.phase = .released ∧ s.flag = false ∧ s.hdl = .running ∧
      ((s.dirty > limit ∧ t = { s with phase := .spawned }) ∨ (s.dirty ≤ limit ∧ t = { s with phase := .done })) := by
  have hc := ctl_reach hv h
  cases Step.of_step hst with
  | recheckOver hp hr hd hf => exact ⟨hr, hp, hf, hc.hdl.2 (by simp [hp]), Or.inl ⟨hd, rfl⟩⟩
  | recheckDone hp hr hd =>
    have hf : s.flag = false := by rw [hc.flag, hp]; rfl
    exact ⟨hr, hp, hf, hc.hdl.2 (by simp [hp]), Or.inr ⟨Nat.le_of_not_lt fun h => by simp [hd h] at hf, rfl⟩⟩

/-- from `released` the task of the re-checking variants cannot end: `finish` is enabled in `done` only -/
theorem finish_needs_recheck {v : Variant} (hr : v.recheck = true) {limit : Nat} {s t : St}
    (hst : step v limit s .finish = some t) : s.phase = .done := by
  simp only [step] at hst
  split at hst <;> simp_all

/-- with the re-check, left alone (every later sync succeeding) the protocol still comes to rest by itself, from every
    state that satisfies the flag / handle invariant (`Ctl`: every reachable state does): the loop goes round at most once
    more, because the size captured by a sync that starts now is the size the re-check will see.  The bound on the
    number of steps is `measureR` (`comes_to_rest` has `measure`, which the loop exceeds). -/
theorem comes_to_rest_recheck {v : Variant} (hv : v.guarded = true) (ha : v.awaitRunning = false) (limit : Nat)
    {s : St} (hc : Ctl s) :
    ∃ evs t, (∀ e ∈ evs, e.internal = true ∧ e.isFailure = false) ∧ run v limit s evs = some t ∧
      t.quiescent = true ∧ evs.length ≤ s.measureR limit ∧ t.size = s.size ∧ t.blob = s.blob := by
  obtain ⟨evs, h, h1, h2, h3, h4, h5, h6⟩ := g_comes_to_rest (c := false) hv ha limit { st := s } hc
  exact ⟨evs, h.st, h1, run_of_grun_false h2, h3, h4, h5, h6⟩

theorem comes_to_rest_recheckOnly (limit : Nat) {s : St} (h : Reach recheckOnly limit s) :
    ∃ evs t, (∀ e ∈ evs, e.internal = true ∧ e.isFailure = false) ∧ run recheckOnly limit s evs = some t ∧
      t.quiescent = true ∧ evs.length ≤ s.measureR limit ∧ t.size = s.size ∧ t.blob = s.blob :=
  comes_to_rest_recheck (v := recheckOnly) rfl rfl limit (ctl_reach (v := recheckOnly) rfl h)

-- non-vacuity: the state of `bounded_at_quiescence_refuted` right after the guard has reset the flag (369 bytes were
-- appended during `sync_all`): reachable, `St.measure` is 2 but 8 more steps are needed, `St.measureR` is 8
example : ∃ evs t, (∀ e ∈ evs, e.internal = true ∧ e.isFailure = false) ∧
    run recheckOnly 100 ⟨837, 468, false, .running, .released, 0, 0, 468, 369, 0⟩ evs = some t ∧
    t.quiescent = true ∧ evs.length ≤ (⟨837, 468, false, .running, .released, 0, 0, 468, 369, 0⟩ : St).measureR 100 ∧
    t.size = 837 ∧ t.blob = 0 :=
  comes_to_rest_recheckOnly 100
    ⟨20, [.write 79, .write 369, .recv, .cas, .check, .start, .write 369, .complete true, .release], by decide +kernel⟩
example : (⟨837, 468, false, .running, .released, 0, 0, 468, 369, 0⟩ : St).measureR 100 = 8 ∧
    (⟨837, 468, false, .running, .released, 0, 0, 468, 369, 0⟩ : St).measure = 2 := by decide
example : (⟨220, 20, true, .running, .held, 0, 0, 20, 0, 0⟩ : St).phase.owns = true ∧
    (⟨220, 20, true, .running, .held, 0, 0, 20, 0, 0⟩ : St).hdl = .running :=
  flag_implies_task_recheckOnly (limit := 100) ⟨20, [.write 200, .recv, .cas], by decide⟩ rfl
example : (⟨220, 20, true, .running, .returned true, 0, 0, 20, 0, 0⟩ : St).synced ≤ 20 :=
  (synced_size_sound_recheckOnly (limit := 100)
    ⟨20, [.write 200, .recv, .cas, .check, .start, .complete false], by decide⟩).1
-- a state at rest of `step recheckOnly` reached through a FAILED sync (retried at once by `step`, see (7.4))
example : (⟨220, 220, false, .finished, .idle, 0, 0, 220, 0, 0⟩ : St).flag = false ∧
    (⟨220, 220, false, .finished, .idle, 0, 0, 220, 0, 0⟩ : St).hdl ≠ .running :=
  flag_clear_at_rest_recheckOnly (limit := 100)
    ⟨20, [.write 200, .recv, .cas, .check, .start, .complete false, .release, .recheck, .cas, .check, .start,
      .complete true, .release, .recheck, .finish], by decide +kernel⟩ rfl
-- the re-check of the E23 schedule: flag clear, handle unfinished, 369 > 100, back to the compare-exchange
example : (⟨837, 468, false, .running, .released, 0, 0, 468, 369, 0⟩ : St).flag = false ∧
    (⟨837, 468, false, .running, .released, 0, 0, 468, 369, 0⟩ : St).hdl = .running :=
  have h := recheck_position (v := recheckOnly) rfl (limit := 100)
    (s := ⟨837, 468, false, .running, .released, 0, 0, 468, 369, 0⟩)
    (t := ⟨837, 468, false, .running, .spawned, 0, 0, 468, 369, 0⟩)
    ⟨20, [.write 79, .write 369, .recv, .cas, .check, .start, .write 369, .complete true, .release], by decide +kernel⟩
    (by decide)
  ⟨h.2.2.1, h.2.2.2.1⟩

/-! #### (7.2) E23 is closed: window (a) -/

/-- The schedule of `no_lost_request_refuted` (a) / `bounded_at_quiescence_refuted` (the third write lands while `sync_all`
    is in flight) with the re-check (no sync fails, so this is the code).  Up to the reset of the flag it is the same (369 un-synced bytes, nothing
    queued); there the task can NOT end (`finish` is not enabled) - the only internal step is the re-check, which finds
    369 > 100 and goes round the loop: second sync, second re-check (nothing to do), end.  At rest: no un-synced byte,
    `late = 0`.  The continuation is forced (`settle`).  Same in the reading `c = true`. -/
theorem e23_schedule_now_synced :
    let pre : List Ev := [.write 79, .write 369, .recv, .cas, .check, .start, .write 369, .complete true, .release]
    let post : List Ev := [.recheck, .cas, .check, .start, .complete true, .release, .recheck, .finish]
    let s1 : St := ⟨837, 468, false, .running, .released, 0, 0, 468, 369, 0⟩
    let s : St := ⟨837, 837, false, .finished, .idle, 0, 0, 837, 0, 0⟩
    run recheckOnly 100 (init 20) pre = some s1 ∧ s1.dirty = 369 ∧
      step recheckOnly 100 s1 .finish = none ∧ next recheckOnly s1 = some .recheck ∧
      run recheckOnly 100 s1 post = some s ∧ settle recheckOnly 100 8 s1 = s ∧
      s.quiescent = true ∧ s.dirty ≤ 100 ∧ lateOf recheckOnly 100 20 (pre ++ post) = 0 ∧
      grun true recheckOnly 100 (ginit 20) (pre ++ post) = some ⟨s, true, 0, 0, 0⟩ ∧
      (run current 100 (init 20) (pre ++ [.finish])).map (·.dirty) = some 369 := by
  refine ⟨by decide +kernel, by decide, by decide, by decide, by decide +kernel, by decide +kernel, by decide, by decide,
    by decide +kernel, by decide +kernel, by decide +kernel⟩

/-! #### (7.3) the bound at rest, and the residual: window (b) -/

/-- (3) for `step` with the re-check: in every state at rest (a failed sync is retried by the re-check of `step`, so
    failures are allowed; the code does not retry, see `bounded_at_quiescence_amended` for it), the un-synced bytes of the
    active blob are at most `limit + late`, where `late` (`lateOf`, computed along the schedule by the ghost wrapper,
    `c = false`) = the bytes appended, since the latest size capture, after the task's LAST re-check
    (phase `done`: flag clear, so the writes do send `TryFsyncData`) and given up when the worker dropped a request
    while the handle was still unfinished. -/
theorem bounded_at_quiescence_recheckOnly {v : Variant} (hv : v.recheckOk = true) {limit base : Nat} {evs : List Ev}
    {s : St} (h : run v limit (init base) evs = some s)
    (hq : s.quiescent = true) : s.dirty ≤ limit + lateOf v limit base evs := by
  obtain ⟨g, hg, rfl⟩ := grun_false_of_run (g := ginit base) h
  have h1 : g.st.dirty ≤ limit + g.late + g.unseen := mbounded_everyExit hv ⟨base, evs, grun_iff.1 hg⟩ hq
  have h2 := unseen_run_false (g := ginit base) rfl hg
  have h3 : lateOf v limit base evs = g.late := by simp [lateOf, hg]
  omega

/-- `late = 0` unless the schedule contains a `recv` of a request (queue non-empty) that meets an unfinished handle
    (`hdl = running`) while the task is past its last re-check (`phase = done`): window (b), and nothing else. -/
theorem window_b_characterised {v : Variant} {limit base : Nat} {evs : List Ev}
    (h : lateOf v limit base evs ≠ 0) :
    ∃ pre post s, evs = pre ++ .recv :: post ∧ run v limit (init base) pre = some s ∧
      0 < s.queue ∧ s.hdl = .running ∧ s.phase = .done := by
  cases hg : grun false v limit (ginit base) evs with
  | none => simp [lateOf, hg] at h
  | some g =>
    have hl : g.late ≠ 0 := by simpa [lateOf, hg] using h
    rcases late_pos_has_drop evs _ g hg hl with h0 | ⟨pre, post, k, h1, h2, h3, h4, h5, _⟩
    · exact absurd rfl h0
    · refine ⟨pre, post, k.st, h1, run_of_grun_false h2, h3, h4, ?_⟩
      simp only [GSt.pastLook, look_false] at h5
      cases hp : k.st.phase <;> simp_all

/-- … so the bound of the property holds for every schedule in which no request is received in window (b) -/
theorem bounded_at_quiescence_no_late_drop {v : Variant} (hv : v.recheckOk = true) {limit base : Nat} {evs : List Ev}
    {s : St} (h : run v limit (init base) evs = some s)
    (hq : s.quiescent = true)
    (hnd : ∀ pre post t, evs = pre ++ .recv :: post → run v limit (init base) pre = some t →
      t.hdl = .running → t.phase ≠ .done) : s.dirty ≤ limit := by
  have h1 := bounded_at_quiescence_recheckOnly hv h hq
  by_cases hl : lateOf v limit base evs = 0
  · omega
  · obtain ⟨pre, post, t, h2, h3, _, h5, h6⟩ := window_b_characterised hl
    exact absurd h6 (hnd pre post t h2 h3 h5)

/-- the same with the executable check `noLateDrop` -/
theorem bounded_at_quiescence_noLateDrop {v : Variant} (hv : v.recheckOk = true) {limit base : Nat} {evs : List Ev}
    {s : St} (hok : ∀ e ∈ evs, e.isFailure = false) (hnd : noLateDrop v limit (init base) evs = true)
    (h : run v limit (init base) evs = some s) (hq : s.quiescent = true) : s.dirty ≤ limit :=
  bounded_at_quiescence_no_late_drop hv h hq (fun pre post t he hr hh hp =>
    noLateDrop_split pre (init base) t post (he ▸ hnd) hr ⟨hh, hp⟩)

/-- (3) as stated is still FALSE with the re-check (no sync fails in the witness, so also of the code:
    `window_b_witness_amended`) - window (b) of `no_lost_request_refuted` is open.  Limit 100: a
    200-byte write, its sync, the guard, the re-check (nothing to do: phase `done`); a second 200-byte write lands now:
    the flag is clear, so it sends `TryFsyncData`; the worker receives it before the task's handle reports
    `is_finished()` and drops it ("task is in progress"); the task ends.  At rest: 200 un-synced bytes, limit 100, nothing
    queued, no failure; `late = 200`, the bound `limit + late` is met with 100 to spare.  This is the residual the
    candidate `repaired` (`awaitRunning`) closes: there the same `recv` is not enabled.  Not replayed on the library
    (no pause point between the re-check and the end of the task). -/
theorem window_b_witness :
    let evs : List Ev := [.write 200, .recv, .cas, .check, .start, .complete true, .release, .recheck, .write 200, .recv,
      .finish]
    let s : St := ⟨420, 220, false, .finished, .idle, 0, 0, 220, 200, 0⟩
    run recheckOnly 100 (init 20) evs = some s ∧ (∀ e ∈ evs, e.isFailure = false) ∧ s.quiescent = true ∧
      s.dirty = 200 ∧ ¬ s.dirty ≤ 100 ∧ lateOf recheckOnly 100 20 evs = 200 ∧
      (run recheckOnly 100 (init 20) (evs.take 9)).map (fun t => (t.phase, t.hdl, t.flag, t.queue)) =
        some (.done, .running, false, 1) ∧
      grun true recheckOnly 100 (ginit 20) evs = some ⟨s, true, 0, 200, 0⟩ ∧
      run repaired 100 (init 20) (evs.take 10) = none := by
  refine ⟨by decide +kernel, by decide, by decide, by decide, by decide, by decide +kernel, by decide +kernel,
    by decide +kernel, by decide +kernel⟩

theorem bounded_at_quiescence_refuted_recheckOnly :
    ¬ ∀ s, ReachOk recheckOnly 100 s → s.quiescent = true → s.dirty ≤ 100 := by
  intro h
  have := h ⟨420, 220, false, .finished, .idle, 0, 0, 220, 200, 0⟩
    ⟨20, [.write 200, .recv, .cas, .check, .start, .complete true, .release, .recheck, .write 200, .recv, .finish],
      by decide, by decide +kernel⟩ rfl
  exact absurd this (by decide)

-- non-vacuity: the bound with `late` on the witness (200 ≤ 100 + 200), and the bound `limit` on the E23 schedule,
-- in which no request is received at all after the first one
example : (⟨420, 220, false, .finished, .idle, 0, 0, 220, 200, 0⟩ : St).dirty ≤ 100 + lateOf recheckOnly 100 20
    [.write 200, .recv, .cas, .check, .start, .complete true, .release, .recheck, .write 200, .recv, .finish] :=
  bounded_at_quiescence_recheckOnly (v := recheckOnly) rfl (by decide +kernel) rfl
example : (⟨837, 837, false, .finished, .idle, 0, 0, 837, 0, 0⟩ : St).dirty ≤ 100 + lateOf recheckOnly 100 20
    [.write 79, .write 369, .recv, .cas, .check, .start, .write 369, .complete true, .release, .recheck, .cas, .check,
      .start, .complete true, .release, .recheck, .finish] :=
  bounded_at_quiescence_recheckOnly (v := recheckOnly) rfl (by decide +kernel) rfl
-- two concurrent client calls, a redundant request dropped BEFORE the re-check (harmless), a write during `sync_all`
-- that the re-check finds within the limit: at rest within the limit
example : (⟨470, 420, false, .finished, .idle, 0, 0, 420, 50, 0⟩ : St).dirty ≤ 100 :=
  bounded_at_quiescence_noLateDrop (v := recheckOnly) rfl (base := 20)
    (evs := [.append 200, .append 200, .decide, .decide, .recv, .recv, .cas, .check, .start, .write 50, .complete true,
      .release, .recheck, .finish])
    (by decide) (by decide +kernel) (by decide +kernel) rfl
example : ∃ pre post s,
    [.write 200, .recv, .cas, .check, .start, .complete true, .release, .recheck, .write 200, .recv, .finish]
      = pre ++ Ev.recv :: post ∧ run recheckOnly 100 (init 20) pre = some s ∧
    0 < s.queue ∧ s.hdl = .running ∧ s.phase = .done :=
  window_b_characterised (v := recheckOnly) (limit := 100) (base := 20) (by decide +kernel)

/-! #### (7.4) with failures -/

/-- (3), with failures, for the variants with the re-check: after ANY history, once the protocol is at rest, the first
    write that takes the active blob over the limit leads to a sync again - request sent (flag clear), task started
    (handle absent or finished), compare-exchange won, check passed, `sync_all` started with a captured size that
    includes the write; when it succeeds: guard, re-check (nothing to do), end of the task, at rest with no un-synced
    byte and the flag clear. -/
theorem sync_after_failure_recheckOnly {v : Variant} (hv : v.recheckOk = true) {limit : Nat} {s : St}
    (h : Reach v limit s) (hq : s.quiescent = true) {n : Nat} (hover : s.size + n - s.synced > limit) :
    ∃ t u, run v limit s [.write n, .recv, .cas, .check, .start] = some t ∧
      t.phase = .syncing (s.size + n) ∧
      run v limit t [.complete true, .release, .recheck, .finish] = some u ∧
      u.quiescent = true ∧ u.flag = false ∧ u.dirty = 0 := by
  obtain ⟨t, u, h1, h2, _, _, h5, h6, h7, _, h9, h10, _⟩ :=
    write_over_limit_syncs_recheck hv (ctl_reach (Variant.guarded_of_recheckOk hv) h) hq hover
  exact ⟨t, u, h1, h2, h5, h6, h7, dirty_zero_of_synced_max h9 h10⟩

/-- In the reading of `step`, a failed sync is retried at once: after the guard the only internal step is the re-check,
    which finds the blob still over the limit and goes back to the compare-exchange; rest is reached only after a sync
    has succeeded (or a rotation has made the question moot).  The CODE does not do that (`?` leaves the function):
    `failed_sync_not_retried_witness`. -/
theorem failed_sync_retried_by_step :
    let pre : List Ev := [.write 200, .recv, .cas, .check, .start, .complete false, .release]
    let s1 : St := ⟨220, 20, false, .running, .released, 0, 0, 20, 0, 0⟩
    run recheckOnly 100 (init 20) pre = some s1 ∧ step recheckOnly 100 s1 .finish = none ∧
      next recheckOnly s1 = some .recheck ∧
      (step recheckOnly 100 s1 .recheck).map (·.phase) = some .spawned ∧
      settle recheckOnly 100 8 s1 = ⟨220, 220, false, .finished, .idle, 0, 0, 220, 0, 0⟩ := by
  refine ⟨by decide, by decide, by decide, by decide, by decide +kernel⟩

-- non-vacuity: a state at rest of `step recheckOnly` with a failed sync in its history (failure, rotation, re-check finds
-- the new blob clean), then a write over the limit
example : ∃ t u, run recheckOnly 100 ⟨20, 20, false, .finished, .idle, 0, 1, 20, 0, 0⟩
      [.write 101, .recv, .cas, .check, .start] = some t ∧ t.phase = .syncing 121 ∧
      run recheckOnly 100 t [.complete true, .release, .recheck, .finish] = some u ∧
      u.quiescent = true ∧ u.flag = false ∧ u.dirty = 0 :=
  sync_after_failure_recheckOnly (v := recheckOnly) rfl
    ⟨20, [.write 200, .recv, .cas, .check, .start, .complete false, .release, .rotate 20, .recheck, .finish],
      by decide +kernel⟩ rfl (by decide)

/-! #### (7.5) `Fs` is still the projection onto the states at rest -/

/-- (6) for the variants with the re-check: from a reachable state at rest, a client write followed by ANY schedule of
    internal steps without a failure that ends at rest has, on (`size`, `synced_size`), exactly the effect of the write
    followed by `Fs.fsyncCheckP` -/
theorem quiescent_projection_recheckOnly {v : Variant} (hv : v.recheckOk = true) {limit : Nat} {s : St}
    (h : Reach v limit s) (hq : s.quiescent = true) (n : Nat) {evs : List Ev} {t : St}
    (hint : ∀ e ∈ evs, e.internal = true ∧ e.isFailure = false)
    (hrun : run v limit s (.write n :: evs) = some t) (htq : t.quiescent = true) :
    (t.size, t.synced) = checkEffect limit (s.size + n) s.synced ∧ t.flag = false ∧ t.blob = s.blob :=
  have hc := ctl_reach (Variant.guarded_of_recheckOk hv) h
  projection_of_schedule hc hq n hint hrun htq (sched := syncScheduleR) (by decide) fun hover =>
    let ⟨_, u, h1, _, _, _, h5, h6, h7, _, h9, h10, h11⟩ := write_over_limit_syncs_recheck hv hc hq hover
    ⟨u, run_write_append h1 h5, h6, h7, h9, h10, h11⟩

example : ∃ t, run recheckOnly 100 (init 20) (.write 101 :: syncScheduleR) = some t ∧ t.quiescent = true ∧
    (t.size, t.synced) = checkEffect 100 (20 + 101) 20 := by
  refine ⟨⟨121, 121, false, .finished, .idle, 0, 0, 121, 0, 0⟩, by decide, rfl, by decide⟩

/-! #### (7.6) the reading `c = true`: re-check after a successful sync only (/repo for a short while; NOT the code as of
bc65670, which is (7.7)) -/

/-- Window (c1), the early return.  Two 200-byte writes both send a request (the second one before the first task has
    taken the flag).  First task: sync of 420 bytes, guard, re-check, end.  The second request starts a second task:
    compare-exchange won, check: nothing to do - `return Ok(())` from inside the guarded scope.  Before the guard is
    dropped a third 200-byte write is acknowledged: over the limit, but the flag is still set, so no request.  Guard
    dropped; the function has returned, there is NO re-check on this exit; the task ends.  At rest: 200 un-synced bytes,
    limit 100, no failure, no request dropped (`late = 0`), `unseen = 200`.
    In the reading of `step` the same schedule is not enabled at its last event (`finish` needs the re-check first),
    and the re-check `step` inserts there finds the bytes and syncs them.
    (The window is a few instructions wide: the drop of the two read guards before the drop of `_flag`.  Not replayed.)
    CLOSED in /repo at bc65670, where this exit has the re-check too: `early_return_window_closed` (7.7). -/
theorem early_return_window_witness :
    let evs : List Ev := [.write 200, .write 200, .recv, .cas, .check, .start, .complete true, .release, .recheck, .finish,
      .recv, .cas, .check, .write 200, .release, .finish]
    let s : St := ⟨620, 420, false, .finished, .idle, 0, 0, 420, 200, 0⟩
    grun true recheckOnly 100 (ginit 20) evs = some ⟨s, false, 0, 0, 200⟩ ∧ (∀ e ∈ evs, e.isFailure = false) ∧
      s.quiescent = true ∧ s.dirty = 200 ∧ ¬ s.dirty ≤ 100 ∧
      (grun true recheckOnly 100 (ginit 20) (evs.take 13)).map (fun g => (g.st.phase, g.st.flag, g.st.dirty, g.look true)) =
        some (.returned true, true, 0, false) ∧
      run recheckOnly 100 (init 20) evs = none ∧
      (run recheckOnly 100 (init 20) (evs.take 15 ++ [.recheck, .cas, .check, .start, .complete true, .release, .recheck,
        .finish])).map (·.dirty) = some 0 := by
  refine ⟨by decide +kernel, by decide, by decide, by decide, by decide, by decide +kernel, by decide +kernel,
    by decide +kernel⟩

/-- The `?` exit.  One failed `sync_all`: the guard resets the flag, `Inner::fsyncdata` has returned the error, the task
    logs it and ends.  At rest with 200 un-synced bytes over a limit of 100 and nothing scheduled - as before bc65670
    (`flag_clear_at_rest` example), NOT retried.  `step recheckOnly` does not allow this schedule
    (`failed_sync_retried_by_step`). -/
theorem failed_sync_not_retried_witness :
    let evs : List Ev := [.write 200, .recv, .cas, .check, .start, .complete false, .release, .finish]
    let s : St := ⟨220, 20, false, .finished, .idle, 0, 0, 20, 0, 0⟩
    grun true recheckOnly 100 (ginit 20) evs = some ⟨s, false, 0, 0, 0⟩ ∧ s.quiescent = true ∧ s.dirty = 200 ∧
      run recheckOnly 100 (init 20) evs = none ∧ run current 100 (init 20) evs = some s := by
  refine ⟨by decide +kernel, by decide, by decide, by decide +kernel, by decide +kernel⟩

/-- (1) and (4) in the reading `c = true` -/
theorem flag_implies_task_code {v : Variant} (hv : v.guarded = true) {limit : Nat} {g : GSt}
    (h : GReach true v limit g) (hf : g.st.flag = true) : g.st.phase.owns = true ∧ g.st.hdl = .running :=
  (mctl_reach hv (greach_iff.1 h)).task_of_flag hf

theorem flag_clear_at_rest_code {v : Variant} (hv : v.guarded = true) {limit : Nat} {g : GSt}
    (h : GReach true v limit g) (hq : g.st.quiescent = true) : g.st.flag = false ∧ g.st.hdl ≠ .running :=
  (mctl_reach hv (greach_iff.1 h)).clear_at_rest hq

theorem synced_size_sound_code {v : Variant} (hv : v.publishOnlyOnSuccess = true) {limit : Nat} {g : GSt}
    (h : GReach true v limit g) : g.st.synced ≤ g.st.durable ∧ g.st.durable ≤ g.st.size :=
  have hc := mcnt_reach hv (greach_iff.1 h)
  ⟨hc.synced_le, hc.durable_le⟩

/-- the protocol comes to rest by itself in the reading `c = true` too (same measure, with "the re-check is ahead" read off the
    ghost) -/
theorem comes_to_rest_code {v : Variant} (hv : v.guarded = true) (ha : v.awaitRunning = false) (limit : Nat)
    {g : GSt} (h : GReach true v limit g) :
    ∃ evs k, (∀ e ∈ evs, e.internal = true ∧ e.isFailure = false) ∧ grun true v limit g evs = some k ∧
      k.st.quiescent = true ∧ evs.length ≤ g.measure true limit ∧ k.st.size = g.st.size ∧ k.st.blob = g.st.blob :=
  g_comes_to_rest hv ha limit g (mctl_reach hv (greach_iff.1 h))

/-- (3) in the reading `c = true`: at rest, after any schedule without a sync failure, the un-synced bytes are at most
    `limit + late + unseen` -/
theorem bounded_at_quiescence_code {v : Variant} (hv : v.recheckOk = true) {limit : Nat} {g : GSt}
    (h : GReachOk true v limit g) (hq : g.st.quiescent = true) : g.st.dirty ≤ limit + g.late + g.unseen :=
  mbounded_at_quiescence hv (greachOk_iff.1 h) hq

/-- `late ≠ 0` only through window (b): a request received while the handle is unfinished and the task is past its last
    look (after its last re-check, or after the guard on an exit that has no re-check) … -/
theorem window_b_characterised_code {v : Variant} {limit : Nat} {g : GSt} (base : Nat) (evs : List Ev)
    (h : grun true v limit (ginit base) evs = some g) (hl : g.late ≠ 0) :
    ∃ pre post k, evs = pre ++ .recv :: post ∧ grun true v limit (ginit base) pre = some k ∧
      0 < k.st.queue ∧ k.st.hdl = .running ∧
      (k.st.phase = .done ∨ (k.st.phase = .released ∧ k.afterSync = false)) := by
  rcases late_pos_has_drop evs _ g h hl with h0 | ⟨pre, post, k, h1, h2, h3, h4, h5, _⟩
  · exact absurd rfl h0
  · refine ⟨pre, post, k, h1, h2, h3, h4, ?_⟩
    simp only [GSt.pastLook, GSt.look] at h5
    cases hp : k.st.phase <;> simp_all

/-- … and `unseen ≠ 0` only through window (c): bytes appended while the task, on an exit that has no re-check (early
    return, failed sync), still holds the flag -/
theorem window_c_characterised_code {v : Variant} {limit : Nat} {g : GSt} (base : Nat) (evs : List Ev)
    (h : grun true v limit (ginit base) evs = some g) (hl : g.unseen ≠ 0) :
    ∃ pre e post k n, evs = pre ++ e :: post ∧ grun true v limit (ginit base) pre = some k ∧
      (∃ r, k.st.phase = .returned r) ∧ k.afterSync = false ∧ 0 < n ∧ (e = .write n ∨ e = .append n) := by
  rcases munseen_pos_has_early_write evs _ g.toM (grun_iff.1 h) (Or.inl hl) with h0 | ⟨pre, e, post, k, n, h1, h2, h3, h4, h5⟩
  · rcases h0 with h0 | h0
    · exact absurd rfl h0
    · cases h0.1
  · refine ⟨pre, e, post, k.toG, n, h1, grun_iff.2 h2, ?_, ?_, h4, h5⟩ <;>
      (simp only [MSt.early, MSt.look, Mode.ofBool] at h3; cases hp : k.st.phase <;> simp_all [MSt.toG])

/-- what the candidate `repaired` (awaiting worker) gives when the re-check is where the code has it: window (b) is
    closed (`late = 0`), window (c) is not - the bound is `limit + unseen`.  (`bounded_at_quiescence_repaired`, the bound
    `limit` after every schedule, is about `step`, which re-checks after every exit.) -/
theorem bounded_at_quiescence_repaired_code {v : Variant} (hv : v.repairedOk = true) {limit : Nat} {g : GSt}
    (h : GReachOk true v limit g) (hq : g.st.quiescent = true) : g.late = 0 ∧ g.st.dirty ≤ limit + g.unseen := by
  obtain ⟨hv', ha⟩ := Variant.recheckOk_of_repairedOk hv
  have h1 := bounded_at_quiescence_code hv' h hq
  obtain ⟨base, evs, _, hr⟩ := h
  have h2 : g.late = 0 := mlate_zero_of_awaitRunning ha (k := (ginit base).toM) (h := g.toM) rfl (grun_iff.1 hr)
  exact ⟨h2, by omega⟩

/-- (3), with failures, in the reading `c = true`: after ANY history (failed syncs are NOT retried, so rest over the limit is
    reachable), the first write that takes the active blob over the limit leads to a sync again; when it succeeds the
    re-check follows (this exit has it) and the protocol is at rest with no un-synced byte -/
theorem sync_after_failure_code {v : Variant} (hv : v.recheckOk = true) {limit : Nat} {g : GSt}
    (h : GReach true v limit g) (hq : g.st.quiescent = true) {n : Nat} (hover : g.st.size + n - g.st.synced > limit) :
    ∃ t u, grun true v limit g [.write n, .recv, .cas, .check, .start] = some t ∧
      t.st.phase = .syncing (g.st.size + n) ∧
      grun true v limit t [.complete true, .release, .recheck, .finish] = some u ∧
      u.st.quiescent = true ∧ u.st.flag = false ∧ u.st.dirty = 0 ∧ u.late = 0 ∧ u.unseen = 0 := by
  obtain ⟨t, u, h1, h2, _, _, h5, h6, h7, _, h9, h10, _, h12, h13⟩ :=
    mwrite_over_limit_syncs (k := g.toM) hv (mctl_reach (Variant.guarded_of_recheckOk hv) (greach_iff.1 h)) hq hover
  exact ⟨t.toG, u.toG, grun_iff.2 h1, h2, grun_iff.2 h5, h6, h7, dirty_zero_of_synced_max h9 h10, h12, h13⟩

-- non-vacuity: the state at rest after the failed sync of `failed_sync_not_retried_witness`, then a 1-byte write
example : ∃ t u, grun true recheckOnly 100 ⟨⟨220, 20, false, .finished, .idle, 0, 0, 20, 0, 0⟩, false, 0, 0, 0⟩
      [.write 1, .recv, .cas, .check, .start] = some t ∧ t.st.phase = .syncing 221 ∧
      grun true recheckOnly 100 t [.complete true, .release, .recheck, .finish] = some u ∧
      u.st.quiescent = true ∧ u.st.flag = false ∧ u.st.dirty = 0 ∧ u.late = 0 ∧ u.unseen = 0 :=
  sync_after_failure_code (v := recheckOnly) rfl
    ⟨20, [.write 200, .recv, .cas, .check, .start, .complete false, .release, .finish], by decide +kernel⟩ rfl
    (by decide)
-- the bound of the reading `c = true` on the two witnesses: 200 ≤ 100 + 0 + 200 (window (c1)), 200 ≤ 100 + 200 + 0 (window (b))
example : (⟨620, 420, false, .finished, .idle, 0, 0, 420, 200, 0⟩ : St).dirty ≤ 100 + 0 + 200 :=
  bounded_at_quiescence_code (v := recheckOnly) (g := ⟨⟨620, 420, false, .finished, .idle, 0, 0, 420, 200, 0⟩, false, 0, 0, 200⟩)
    rfl ⟨20, [.write 200, .write 200, .recv, .cas, .check, .start, .complete true, .release, .recheck, .finish,
      .recv, .cas, .check, .write 200, .release, .finish], by decide, by decide +kernel⟩ rfl
example : (⟨420, 220, false, .finished, .idle, 0, 0, 220, 200, 0⟩ : St).dirty ≤ 100 + 200 + 0 :=
  bounded_at_quiescence_code (v := recheckOnly) (g := ⟨⟨420, 220, false, .finished, .idle, 0, 0, 220, 200, 0⟩, true, 0, 200, 0⟩)
    rfl ⟨20, [.write 200, .recv, .cas, .check, .start, .complete true, .release, .recheck, .write 200, .recv, .finish],
      by decide, by decide +kernel⟩ rfl
-- the candidate `repaired` in the reading `c = true`: window (b) closed (`recv` not enabled), window (c1) still open
example : grun true repaired 100 (ginit 20) [.write 200, .recv, .cas, .check, .start, .complete true, .release, .recheck,
    .write 200, .recv] = none := by decide +kernel
example : (grun true repaired 100 (ginit 20) [.write 200, .write 200, .recv, .cas, .check, .start, .complete true, .release,
    .recheck, .finish, .recv, .cas, .check, .write 200, .release, .finish]).map (fun g => (g.st.quiescent, g.st.dirty, g.unseen))
    = some (true, 200, 200) := by decide +kernel

/-! #### (7.7) THE CODE (/repo HEAD, bc65670 as amended): re-check after every release except after a failed sync

`Inner::fsyncdata` as it is now (`Pearl/Proofs/SyncProto3.lean` has the function): inside the loop the guarded scope
computes `over_limit`, syncs only if so (`safe.fsyncdata().await?`), and ENDS on both non-failing paths (synced / not over
the limit) - guard dropped there - and the re-check after the scope runs on both of them.  Only the `?` of a FAILED sync
leaves the function without a re-check (and a lost compare-exchange, not reachable with one task).  That is neither
`c = false` (`step`: re-check also after a failed sync, i.e. a failing sync retried in a loop) nor `c = true` ((7.6):
no re-check after the early exit either).  Third reading: the wrapper `MSt` / `mstep m` with `m : Mode`;
`Mode.everyExit` / `Mode.afterSyncOnly` are `gstep false` / `gstep true` (`mstep_ofBool`, `mrun_ofBool`), `Mode.amended`
is the code.  The theorems named `…_amended` are about `MReach .amended`. -/

/-- the first two modes of the three-valued wrapper are the two readings of (7.1)-(7.6), schedule by schedule -/
theorem readings_embedded (c : Bool) (v : Variant) (limit : Nat) (evs : List Ev) (k : MSt) :
    (mrun (.ofBool c) v limit k evs).map MSt.toG = grun c v limit k.toG evs :=
  mrun_ofBool c v limit evs k

/-- (1) in the amended reading -/
theorem flag_implies_task_amended {v : Variant} (hv : v.guarded = true) {limit : Nat} {k : MSt}
    (h : MReach .amended v limit k) (hf : k.st.flag = true) : k.st.phase.owns = true ∧ k.st.hdl = .running :=
  (mctl_reach hv h).task_of_flag hf

/-- at rest the flag is clear and the handle absent or finished, whatever failed before -/
theorem flag_clear_at_rest_amended {v : Variant} (hv : v.guarded = true) {limit : Nat} {k : MSt}
    (h : MReach .amended v limit k) (hq : k.st.quiescent = true) : k.st.flag = false ∧ k.st.hdl ≠ .running :=
  (mctl_reach hv h).clear_at_rest hq

/-- (4) in the amended reading -/
theorem synced_size_sound_amended {v : Variant} (hv : v.publishOnlyOnSuccess = true) {limit : Nat} {k : MSt}
    (h : MReach .amended v limit k) : k.st.synced ≤ k.st.durable ∧ k.st.durable ≤ k.st.size :=
  ⟨(mcnt_reach hv h).synced_le, (mcnt_reach hv h).durable_le⟩

/-- left alone (every later sync succeeding) the protocol comes to rest by itself in the amended reading: the loop goes
    round at most once more -/
theorem comes_to_rest_amended {v : Variant} (hv : v.guarded = true) (ha : v.awaitRunning = false) (limit : Nat)
    {k : MSt} (h : MReach .amended v limit k) :
    ∃ evs j, (∀ e ∈ evs, e.internal = true ∧ e.isFailure = false) ∧ mrun .amended v limit k evs = some j ∧
      j.st.quiescent = true ∧ evs.length ≤ k.measure .amended limit ∧ j.st.size = k.st.size ∧ j.st.blob = k.st.blob :=
  m_comes_to_rest hv ha limit k (mctl_reach hv h)

/-- window (c1) is CLOSED by the code as of bc65670: without a failing sync every release of the flag is followed by the
    re-check (ghost `ahead` is true from the compare-exchange to the re-check), so no byte goes unseen -/
theorem window_c1_closed {v : Variant} (hv : v.guarded = true) {limit : Nat} {k : MSt}
    (h : MReachOk .amended v limit k) :
    k.unseen = 0 ∧ ((∃ r, k.st.phase = .returned r) ∨ k.st.phase = .released → k.look .amended = true) := by
  refine ⟨unseen_zero_amended hv h, ?_⟩
  obtain ⟨base, evs, hq, hr⟩ := h
  have ha := (amended_run hv (ctl_init base) (ahead_init base) hq hr).2
  rintro (⟨r, hp⟩ | hp) <;> simpa [Ahead, hp, MSt.look] using ha

/-- (3) for the code as of bc65670: in every state at rest reached without a sync failure the un-synced bytes of the
    active blob are at most `limit + late` - the bound of `bounded_at_quiescence_recheckOnly`; the `unseen` of
    `bounded_at_quiescence_code` is 0 -/
theorem bounded_at_quiescence_amended {v : Variant} (hv : v.recheckOk = true) {limit : Nat} {k : MSt}
    (h : MReachOk .amended v limit k) (hq : k.st.quiescent = true) : k.unseen = 0 ∧ k.st.dirty ≤ limit + k.late := by
  have h1 := mbounded_at_quiescence hv h hq
  have h2 := unseen_zero_amended (Variant.guarded_of_recheckOk hv) h
  exact ⟨h2, by omega⟩

/-- Schedule by schedule: as long as no sync fails, the code as of bc65670 IS `step` with `recheck := true` - enabled on the
    same schedules, ending in the same state, with the same `late` (`lateOf`), and `unseen = 0`.  (The two part at a
    `complete false` only: `failed_sync_not_retried_amended` / `failed_sync_retried_by_step`.)  So every `…_recheckOnly`
    theorem about failure-free schedules is a theorem about the code. -/
theorem amended_is_step_without_failure {v : Variant} (hv : v.guarded = true) {limit base : Nat} {evs : List Ev}
    (hok : ∀ e ∈ evs, e.isFailure = false) :
    (mrun .amended v limit (minit base) evs).map (·.st) = run v limit (init base) evs ∧
      ∀ k, mrun .amended v limit (minit base) evs = some k → k.late = lateOf v limit base evs ∧ k.unseen = 0 :=
  mrun_amended_eq_run hv hok

/-- … in particular the bound at rest in exactly the form of `bounded_at_quiescence_recheckOnly` -/
theorem bounded_at_quiescence_amended_lateOf {v : Variant} (hv : v.recheckOk = true) {limit base : Nat} {evs : List Ev}
    {k : MSt} (hok : ∀ e ∈ evs, e.isFailure = false) (h : mrun .amended v limit (minit base) evs = some k)
    (hq : k.st.quiescent = true) : k.st.dirty ≤ limit + lateOf v limit base evs := by
  have h1 := (bounded_at_quiescence_amended hv ⟨base, evs, hok, h⟩ hq).2
  have h2 := ((amended_is_step_without_failure (Variant.guarded_of_recheckOk hv) hok).2 k h).1
  omega

/-- `late ≠ 0` only through window (b), which without failures is exactly what it is for `step`
    (`window_b_characterised`): a request received while the handle is unfinished and the task is past its LAST re-check
    (phase `done`) -/
theorem window_b_characterised_amended {v : Variant} (hv : v.guarded = true) {limit : Nat} {k : MSt} (base : Nat)
    (evs : List Ev) (hok : ∀ e ∈ evs, e.isFailure = false)
    (h : mrun .amended v limit (minit base) evs = some k) (hl : k.late ≠ 0) :
    ∃ pre post j, evs = pre ++ .recv :: post ∧ mrun .amended v limit (minit base) pre = some j ∧
      0 < j.st.queue ∧ j.st.hdl = .running ∧ j.st.phase = .done := by
  rcases mlate_pos_has_drop evs _ k h hl with h0 | ⟨pre, post, j, h1, h2, h3, h4, h5, _⟩
  · exact absurd rfl h0
  · refine ⟨pre, post, j, h1, h2, h3, h4, ?_⟩
    have ha := (amended_run hv (ctl_init base) (ahead_init base)
      (fun e he => hok e (by rw [h1]; exact List.mem_append_left _ he)) h2).2
    simp only [MSt.pastLook, MSt.look] at h5
    cases hp : j.st.phase <;> simp_all [Ahead]

/-- … so the bound of the property holds for every failure-free schedule in which no request is received in window (b) -/
theorem bounded_at_quiescence_no_late_drop_amended {v : Variant} (hv : v.recheckOk = true) {limit base : Nat}
    {evs : List Ev} {k : MSt} (hok : ∀ e ∈ evs, e.isFailure = false)
    (h : mrun .amended v limit (minit base) evs = some k) (hq : k.st.quiescent = true)
    (hnd : ∀ pre post j, evs = pre ++ .recv :: post → mrun .amended v limit (minit base) pre = some j →
      j.st.hdl = .running → j.st.phase ≠ .done) : k.st.dirty ≤ limit := by
  have h1 := (bounded_at_quiescence_amended hv ⟨base, evs, hok, h⟩ hq).2
  by_cases hl : k.late = 0
  · omega
  · obtain ⟨pre, post, j, h2, h3, _, h5, h6⟩ :=
      window_b_characterised_amended (Variant.guarded_of_recheckOk hv) base evs hok h hl
    exact absurd h6 (hnd pre post j h2 h3 h5)

/-- the same with the executable check `mnoLateDrop` -/
theorem bounded_at_quiescence_noLateDrop_amended {v : Variant} (hv : v.recheckOk = true) {limit base : Nat}
    {evs : List Ev} {k : MSt} (hok : ∀ e ∈ evs, e.isFailure = false)
    (hnd : mnoLateDrop .amended v limit (minit base) evs = true)
    (h : mrun .amended v limit (minit base) evs = some k) (hq : k.st.quiescent = true) : k.st.dirty ≤ limit :=
  bounded_at_quiescence_no_late_drop_amended hv hok h hq (fun pre post j he hr hh hp =>
    mnoLateDrop_split pre (minit base) j post (he ▸ hnd) hr ⟨hh, hp⟩)

/-- with the code as of bc65670 the candidate `repaired` (awaiting worker) gives the bound of the property after every
    failure-free schedule: window (b) closed by the worker, window (c1) by the task body
    (compare `bounded_at_quiescence_repaired_code`, where `unseen` remained) -/
theorem bounded_at_quiescence_repaired_amended {v : Variant} (hv : v.repairedOk = true) {limit : Nat} {k : MSt}
    (h : MReachOk .amended v limit k) (hq : k.st.quiescent = true) : k.st.dirty ≤ limit := by
  obtain ⟨hv', ha⟩ := Variant.recheckOk_of_repairedOk hv
  have h1 := (bounded_at_quiescence_amended hv' h hq).2
  obtain ⟨base, evs, _, hr⟩ := h
  have h2 := mlate_zero_of_awaitRunning ha (k := minit base) rfl hr
  omega

/-- Window (c1) on its witness.  The schedule of `early_return_window_witness` under the code as of bc65670: up to the
    drop of the guard it is the same (second task, check "not over the limit", a 200-byte write acknowledged while the
    flag is still set: no request) - but the guarded scope ENDS there instead of returning, so the task can NOT end
    (`finish`, the last event of the witness, is not enabled): the only internal step is the re-check, which finds
    200 > 100 and goes round the loop.  At rest: no un-synced byte, `late = 0`, `unseen = 0`.  The continuation is forced
    (`msettle`). -/
theorem early_return_window_closed :
    let evs : List Ev := [.write 200, .write 200, .recv, .cas, .check, .start, .complete true, .release, .recheck, .finish,
      .recv, .cas, .check, .write 200, .release, .finish]
    let post : List Ev := [.recheck, .cas, .check, .start, .complete true, .release, .recheck, .finish]
    let k1 : MSt := ⟨⟨620, 420, false, .running, .released, 0, 0, 420, 200, 0⟩, true, 0, 0, 0⟩
    let k : MSt := ⟨⟨620, 620, false, .finished, .idle, 0, 0, 620, 0, 0⟩, true, 0, 0, 0⟩
    mrun .amended recheckOnly 100 (minit 20) (evs.take 15) = some k1 ∧ k1.st.dirty = 200 ∧
      (mrun .amended recheckOnly 100 (minit 20) (evs.take 14)).map (fun j => (j.st.phase, j.st.flag, j.look .amended)) =
        some (.returned true, true, true) ∧
      mstep .amended recheckOnly 100 k1 .finish = none ∧ mrun .amended recheckOnly 100 (minit 20) evs = none ∧
      mnext .amended recheckOnly k1 = some .recheck ∧
      mrun .amended recheckOnly 100 k1 post = some k ∧ msettle .amended recheckOnly 100 8 k1 = k ∧
      (∀ e ∈ evs.take 15 ++ post, e.isFailure = false) ∧
      k.st.quiescent = true ∧ k.st.dirty ≤ 100 ∧ k.late = 0 ∧ k.unseen = 0 ∧
      (mrun .afterSyncOnly recheckOnly 100 (minit 20) evs).map (fun j => (j.st.quiescent, j.st.dirty, j.unseen)) =
        some (true, 200, 200) := by
  refine ⟨by decide +kernel, by decide, by decide +kernel, by decide, by decide +kernel, by decide, by decide +kernel,
    by decide +kernel, by decide, by decide, by decide, by decide, by decide, by decide +kernel⟩

/-- Window (c2): the `?` exit is what it was.  One failed `sync_all`: the guard resets the flag, `Inner::fsyncdata` returns the
    error from inside the guarded scope, the task logs it and ends.  At rest with 200 un-synced bytes over a limit of 100
    and nothing scheduled: a failed sync is NOT retried (neither in a loop nor once).  Same end state as in (7.6) and as
    before the commit; `step` (`Mode.everyExit`) does not allow the schedule.  Bytes acknowledged between the failure
    and the drop of the guard are `unseen` (second schedule: 50 of them, and 7 more `late`). -/
theorem failed_sync_not_retried_amended :
    let evs : List Ev := [.write 200, .recv, .cas, .check, .start, .complete false, .release, .finish]
    let s : St := ⟨220, 20, false, .finished, .idle, 0, 0, 20, 0, 0⟩
    mrun .amended recheckOnly 100 (minit 20) evs = some ⟨s, false, 0, 0, 0⟩ ∧ s.quiescent = true ∧ s.dirty = 200 ∧
      ¬ s.dirty ≤ 100 ∧
      (mrun .amended recheckOnly 100 (minit 20) (evs.take 7)).map (mnext .amended recheckOnly) = some (some .finish) ∧
      mrun .everyExit recheckOnly 100 (minit 20) evs = none ∧ run current 100 (init 20) evs = some s ∧
      (mrun .amended recheckOnly 100 (minit 20) [.write 200, .recv, .cas, .check, .start, .complete false, .write 50,
        .release, .write 7, .recv, .finish]).map (fun j => (j.st.quiescent, j.st.dirty, j.late, j.unseen)) =
        some (true, 257, 7, 50) := by
  refine ⟨by decide +kernel, by decide, by decide, by decide, by decide +kernel, by decide +kernel, by decide +kernel,
    by decide +kernel⟩

/-- (3), with failures, for the code as of bc65670: after ANY history (failed syncs are not retried, so rest over the
    limit is reachable), the first write that takes the active blob over the limit leads to a sync again - request sent
    (flag clear), task started (handle absent or finished), compare-exchange won, check passed, `sync_all` started with a
    captured size that includes the write; when it succeeds: guard, re-check (nothing to do), end of the task, at rest with
    no un-synced byte -/
theorem sync_after_failure_amended {v : Variant} (hv : v.recheckOk = true) {limit : Nat} {k : MSt}
    (h : MReach .amended v limit k) (hq : k.st.quiescent = true) {n : Nat} (hover : k.st.size + n - k.st.synced > limit) :
    ∃ t u, mrun .amended v limit k [.write n, .recv, .cas, .check, .start] = some t ∧
      t.st.phase = .syncing (k.st.size + n) ∧
      mrun .amended v limit t [.complete true, .release, .recheck, .finish] = some u ∧
      u.st.quiescent = true ∧ u.st.flag = false ∧ u.st.dirty = 0 ∧ u.late = 0 ∧ u.unseen = 0 := by
  obtain ⟨t, u, h1, h2, _, _, h5, h6, h7, _, h9, h10, _, h12, h13⟩ :=
    mwrite_over_limit_syncs hv (mctl_reach (Variant.guarded_of_recheckOk hv) h) hq hover
  exact ⟨t, u, h1, h2, h5, h6, h7, dirty_zero_of_synced_max h9 h10, h12, h13⟩

/-- Window (b) is UNCHANGED by the amendment: the schedule of `window_b_witness` (request sent after the task's last
    re-check, received before `JoinHandle::is_finished`, dropped) runs under the code as of bc65670 to the same state at
    rest: 200 un-synced bytes, limit 100, no failure, `late = 200`, `unseen = 0`.  An awaiting worker (`repaired`) does not
    enable the `recv`. -/
theorem window_b_witness_amended :
    let evs : List Ev := [.write 200, .recv, .cas, .check, .start, .complete true, .release, .recheck, .write 200, .recv,
      .finish]
    let s : St := ⟨420, 220, false, .finished, .idle, 0, 0, 220, 200, 0⟩
    mrun .amended recheckOnly 100 (minit 20) evs = some ⟨s, true, 0, 200, 0⟩ ∧ (∀ e ∈ evs, e.isFailure = false) ∧
      s.quiescent = true ∧ s.dirty = 200 ∧ ¬ s.dirty ≤ 100 ∧
      (mrun .amended recheckOnly 100 (minit 20) (evs.take 9)).map
          (fun j => (j.st.phase, j.st.hdl, j.st.flag, j.st.queue)) = some (.done, .running, false, 1) ∧
      (mrun .amended recheckOnly 100 (minit 20) evs).map (·.st) = run recheckOnly 100 (init 20) evs ∧
      mrun .amended repaired 100 (minit 20) (evs.take 10) = none := by
  refine ⟨by decide +kernel, by decide, by decide, by decide, by decide, by decide +kernel, by decide +kernel,
    by decide +kernel⟩

/-- … so (3) as stated is STILL FALSE of /repo at bc65670 -/
theorem bounded_at_quiescence_refuted_amended :
    ¬ ∀ k, MReachOk .amended recheckOnly 100 k → k.st.quiescent = true → k.st.dirty ≤ 100 := by
  intro h
  have := h ⟨⟨420, 220, false, .finished, .idle, 0, 0, 220, 200, 0⟩, true, 0, 200, 0⟩
    ⟨20, [.write 200, .recv, .cas, .check, .start, .complete true, .release, .recheck, .write 200, .recv, .finish],
      by decide, by decide +kernel⟩ rfl
  exact absurd this (by decide)

-- non-vacuity.  (1): the task holds the flag
example : (⟨220, 20, true, .running, .held, 0, 0, 20, 0, 0⟩ : St).phase.owns = true ∧
    (⟨220, 20, true, .running, .held, 0, 0, 20, 0, 0⟩ : St).hdl = .running :=
  flag_implies_task_amended (v := recheckOnly) rfl (limit := 100)
    (k := ⟨⟨220, 20, true, .running, .held, 0, 0, 20, 0, 0⟩, true, 0, 0, 0⟩) ⟨20, [.write 200, .recv, .cas], by decide⟩ rfl
-- rest reached through a FAILED sync: flag clear, handle finished
example : (⟨220, 20, false, .finished, .idle, 0, 0, 20, 0, 0⟩ : St).flag = false ∧
    (⟨220, 20, false, .finished, .idle, 0, 0, 20, 0, 0⟩ : St).hdl ≠ .running :=
  flag_clear_at_rest_amended (v := recheckOnly) rfl (limit := 100)
    (k := ⟨⟨220, 20, false, .finished, .idle, 0, 0, 20, 0, 0⟩, false, 0, 0, 0⟩)
    ⟨20, [.write 200, .recv, .cas, .check, .start, .complete false, .release, .finish], by decide +kernel⟩ rfl
example : (⟨220, 20, true, .running, .returned true, 0, 0, 20, 0, 0⟩ : St).synced ≤ 20 :=
  (synced_size_sound_amended (v := recheckOnly) rfl (limit := 100)
    (k := ⟨⟨220, 20, true, .running, .returned true, 0, 0, 20, 0, 0⟩, false, 0, 0, 0⟩)
    ⟨20, [.write 200, .recv, .cas, .check, .start, .complete false], by decide⟩).1
-- the state of `early_return_window_closed` right after the drop of the guard: 8 more steps, `MSt.measure .amended` is 8
example : ∃ evs j, (∀ e ∈ evs, e.internal = true ∧ e.isFailure = false) ∧
    mrun .amended recheckOnly 100 ⟨⟨620, 420, false, .running, .released, 0, 0, 420, 200, 0⟩, true, 0, 0, 0⟩ evs = some j ∧
    j.st.quiescent = true ∧
    evs.length ≤ (⟨⟨620, 420, false, .running, .released, 0, 0, 420, 200, 0⟩, true, 0, 0, 0⟩ : MSt).measure .amended 100 ∧
    j.st.size = 620 ∧ j.st.blob = 0 :=
  comes_to_rest_amended (v := recheckOnly) rfl rfl 100
    ⟨20, [.write 200, .write 200, .recv, .cas, .check, .start, .complete true, .release, .recheck, .finish,
      .recv, .cas, .check, .write 200, .release], by decide +kernel⟩
example : (⟨⟨620, 420, false, .running, .released, 0, 0, 420, 200, 0⟩, true, 0, 0, 0⟩ : MSt).measure .amended 100 = 8 := by
  decide
-- the bound on the three schedules: window (c1) witness continued (0 ≤ 100 + 0), E23 (0 ≤ 100 + 0), window (b)
-- (200 ≤ 100 + 200)
example : (⟨620, 620, false, .finished, .idle, 0, 0, 620, 0, 0⟩ : St).dirty ≤ 100 + 0 :=
  (bounded_at_quiescence_amended (v := recheckOnly) (k := ⟨⟨620, 620, false, .finished, .idle, 0, 0, 620, 0, 0⟩, true, 0, 0, 0⟩)
    rfl ⟨20, [.write 200, .write 200, .recv, .cas, .check, .start, .complete true, .release, .recheck, .finish,
      .recv, .cas, .check, .write 200, .release, .recheck, .cas, .check, .start, .complete true, .release, .recheck, .finish],
      by decide, by decide +kernel⟩ rfl).2
example : (⟨837, 837, false, .finished, .idle, 0, 0, 837, 0, 0⟩ : St).dirty ≤ 100 + 0 :=
  (bounded_at_quiescence_amended (v := recheckOnly) (k := ⟨⟨837, 837, false, .finished, .idle, 0, 0, 837, 0, 0⟩, true, 0, 0, 0⟩)
    rfl ⟨20, [.write 79, .write 369, .recv, .cas, .check, .start, .write 369, .complete true, .release, .recheck, .cas, .check,
      .start, .complete true, .release, .recheck, .finish], by decide, by decide +kernel⟩ rfl).2
example : (⟨420, 220, false, .finished, .idle, 0, 0, 220, 200, 0⟩ : St).dirty ≤ 100 + 200 :=
  (bounded_at_quiescence_amended (v := recheckOnly) (k := ⟨⟨420, 220, false, .finished, .idle, 0, 0, 220, 200, 0⟩, true, 0, 200, 0⟩)
    rfl ⟨20, [.write 200, .recv, .cas, .check, .start, .complete true, .release, .recheck, .write 200, .recv, .finish],
      by decide, by decide +kernel⟩ rfl).2
-- the amended reading and `step` on the E23 schedule (same end state), and the bound with `lateOf` on the window (b) one
example : (mrun .amended recheckOnly 100 (minit 20) [.write 79, .write 369, .recv, .cas, .check, .start, .write 369,
      .complete true, .release, .recheck, .cas, .check, .start, .complete true, .release, .recheck, .finish]).map (·.st) =
    run recheckOnly 100 (init 20) [.write 79, .write 369, .recv, .cas, .check, .start, .write 369,
      .complete true, .release, .recheck, .cas, .check, .start, .complete true, .release, .recheck, .finish] :=
  (amended_is_step_without_failure (v := recheckOnly) rfl (by decide)).1
example : run recheckOnly 100 (init 20) [.write 79, .write 369, .recv, .cas, .check, .start, .write 369,
      .complete true, .release, .recheck, .cas, .check, .start, .complete true, .release, .recheck, .finish] =
    some ⟨837, 837, false, .finished, .idle, 0, 0, 837, 0, 0⟩ := by decide +kernel
example : (⟨420, 220, false, .finished, .idle, 0, 0, 220, 200, 0⟩ : St).dirty ≤ 100 + lateOf recheckOnly 100 20
    [.write 200, .recv, .cas, .check, .start, .complete true, .release, .recheck, .write 200, .recv, .finish] :=
  bounded_at_quiescence_amended_lateOf (v := recheckOnly) rfl
    (k := ⟨⟨420, 220, false, .finished, .idle, 0, 0, 220, 200, 0⟩, true, 0, 200, 0⟩) (by decide) (by decide +kernel) rfl
example : ∃ pre post j,
    [.write 200, .recv, .cas, .check, .start, .complete true, .release, .recheck, .write 200, .recv, .finish]
      = pre ++ Ev.recv :: post ∧ mrun .amended recheckOnly 100 (minit 20) pre = some j ∧
    0 < j.st.queue ∧ j.st.hdl = .running ∧ j.st.phase = .done :=
  window_b_characterised_amended (v := recheckOnly) rfl (limit := 100) 20 _ (by decide)
    (k := ⟨⟨420, 220, false, .finished, .idle, 0, 0, 220, 200, 0⟩, true, 0, 200, 0⟩) (by decide +kernel) (by decide)
-- a redundant request, an early exit with a write in window (c1), no request received in window (b): within the limit
example : (⟨620, 620, false, .finished, .idle, 0, 0, 620, 0, 0⟩ : St).dirty ≤ 100 :=
  bounded_at_quiescence_noLateDrop_amended (v := recheckOnly) rfl (base := 20)
    (evs := [.write 200, .write 200, .recv, .cas, .check, .start, .complete true, .release, .recheck, .finish,
      .recv, .cas, .check, .write 200, .release, .recheck, .cas, .check, .start, .complete true, .release, .recheck, .finish])
    (k := ⟨⟨620, 620, false, .finished, .idle, 0, 0, 620, 0, 0⟩, true, 0, 0, 0⟩)
    (by decide) (by decide +kernel) (by decide +kernel) rfl
-- the candidate `repaired` with the task body of bc65670: the window (c1) schedule ends within the limit
example : (⟨620, 620, false, .finished, .idle, 0, 0, 620, 0, 0⟩ : St).dirty ≤ 100 :=
  bounded_at_quiescence_repaired_amended (v := repaired) rfl
    (k := ⟨⟨620, 620, false, .finished, .idle, 0, 0, 620, 0, 0⟩, true, 0, 0, 0⟩)
    ⟨20, [.write 200, .write 200, .recv, .cas, .check, .start, .complete true, .release, .recheck, .finish,
      .recv, .cas, .check, .write 200, .release, .recheck, .cas, .check, .start, .complete true, .release, .recheck, .finish],
      by decide, by decide +kernel⟩ rfl
-- the state at rest after the failed sync of `failed_sync_not_retried_amended`, then a 1-byte write
example : ∃ t u, mrun .amended recheckOnly 100 ⟨⟨220, 20, false, .finished, .idle, 0, 0, 20, 0, 0⟩, false, 0, 0, 0⟩
      [.write 1, .recv, .cas, .check, .start] = some t ∧ t.st.phase = .syncing 221 ∧
      mrun .amended recheckOnly 100 t [.complete true, .release, .recheck, .finish] = some u ∧
      u.st.quiescent = true ∧ u.st.flag = false ∧ u.st.dirty = 0 ∧ u.late = 0 ∧ u.unseen = 0 :=
  sync_after_failure_amended (v := recheckOnly) rfl
    ⟨20, [.write 200, .recv, .cas, .check, .start, .complete false, .release, .finish], by decide +kernel⟩ rfl
    (by decide)

end SyncProto
end Pearl

/-
What is proved, what is refuted and what is left open or outside the model (sync request protocol):
* FALSE of /repo BEFORE bc65670 (`current`), with proof of the negation: `no_lost_request` and `bounded_at_quiescence` as
  stated (`no_lost_request_refuted`, `bounded_at_quiescence_refuted`, `bounded_at_quiescence_refuted_any`); schedule (a)
  reproduced on the real library with the pause failpoint.  Proved instead: the bound `limit + blind`
  (`bounded_at_quiescence_partial`), the bound `limit` when no append lands after a task's size capture
  (`bounded_at_quiescence_no_blind_write`), and the bound `limit` for the candidate repair
  (`bounded_at_quiescence_repaired`).
* `step` with the re-check (`recheckOnly`, sections (7.1)-(7.5); the code on schedules without a failing sync).  Window (a) is closed (`e23_schedule_now_synced`).
  `bounded_at_quiescence` as stated is STILL FALSE (`window_b_witness`, `bounded_at_quiescence_refuted_recheckOnly`): window
  (b) - request sent after the task's last re-check, received before `JoinHandle::is_finished` - is open.  Proved instead:
  `limit + late` (`bounded_at_quiescence_recheckOnly`), `late ≠ 0` only through a `recv` in that window
  (`window_b_characterised`), `limit` when there is none (`bounded_at_quiescence_no_late_drop`); an awaiting worker closes
  it (`mlate_zero_of_awaitRunning`, `bounded_at_quiescence_repaired`).
* WHICH READING IS THE CODE.  /repo at bc65670 (the commit as amended) is the
  THIRD reading, `Mode.amended` of `Proofs/SyncProto3.lean` (`mstep .amended`, theorems `…_amended`): the re-check follows
  every release of the flag - after a sync that succeeded AND after "not over the limit" - EXCEPT the release by the `?`
  of a failed sync (and a lost compare-exchange, which releases nothing and is not reachable with one task).
  It is NOT `step` with `recheck := true` (= `gstep false` = `Mode.everyExit`, theorems `…_recheckOnly`), which also
  re-checks after a failed sync, i.e. retries a failing sync in a loop (`failed_sync_retried_by_step`); and it is NOT
  `gstep true` (= `Mode.afterSyncOnly`, theorems `…_code`, section (7.6)), which /repo was for a short while: no re-check
  after the early exit either.  `Model/SyncProto.lean` has `step` only; the
  three readings are modes of one wrapper and the first two are the wrapper `GSt` (`readings_embedded`).
  Proved for the code as of bc65670: (1) `flag_implies_task_amended`, `flag_clear_at_rest_amended`, (4)
  `synced_size_sound_amended`, rest `comes_to_rest_amended`; window (c1) is CLOSED (`window_c1_closed`: `unseen = 0` and the
  re-check ahead of every release, for failure-free schedules; `early_return_window_closed`: the witness schedule cannot end
  without the re-check and ends at rest with no un-synced byte); the bound at rest after a failure-free schedule is
  `limit + late` (`bounded_at_quiescence_amended`, `bounded_at_quiescence_amended_lateOf`); on failure-free schedules the
  code IS `step` (`amended_is_step_without_failure`); `late ≠ 0` only through a `recv` in window (b)
  (`window_b_characterised_amended`), `limit` when there is none (`bounded_at_quiescence_no_late_drop_amended`) and
  `limit` with an awaiting worker (`bounded_at_quiescence_repaired_amended`).  STILL FALSE: `bounded_at_quiescence` as
  stated - window (b) is unchanged (`window_b_witness_amended`, `bounded_at_quiescence_refuted_amended`).  With failures:
  (c2) a failed sync is not retried, the state at rest after it is over the limit as before the commit
  (`failed_sync_not_retried_amended`), and the next write over the limit does lead to a sync
  (`sync_after_failure_amended`).  No bound at rest is claimed for schedules with a failed sync (there is none: the
  failed sync's bytes stay un-synced until the next over-limit write).
* The reading of (7.6) (`…_code`, `gstep true`; NOT the code of bc65670): (c1) a write acknowledged between an early-return
  check and the drop of the guard is neither requested nor re-checked (`early_return_window_witness`); (c2) as above
  (`failed_sync_not_retried_witness`, `sync_after_failure_code`); the bound is `limit + late + unseen`
  (`bounded_at_quiescence_code`, `window_b_characterised_code`, `window_c_characterised_code`); the candidate `repaired`
  closes (b) only (`bounded_at_quiescence_repaired_code`).  `Tie/C12.lean` (`background_sync_shape`) checks the presence of
  the loop / inner scope / re-check after the release, not which exits reach it.  `bounded_at_quiescence_repaired` and the
  `…_recheckOnly` theorems are about `step`, i.e. about a task body that re-checks after every exit; for failure-free
  schedules that is the code as of bc65670 (`amended_is_step_without_failure`: the two differ only after a
  `complete false`).
* `late` is accounted at the drop: all bytes appended since the last re-check are given up when ONE request is dropped
  in the window, also when a second request of the same window survives and is served (then `late` is reset by the
  capture of that sync, so the bound at rest is not affected, only the intermediate value is an over-approximation).
* Neither window (b) nor (c1) could be replayed on the library: the I/O hook has no pause point between the guard's
  `Drop` / the re-check and the end of the task.
* Liveness is stated as "the internal steps are enabled and every internal schedule has at most `measure` steps"
  (`comes_to_rest`, `sync_without_client_action_partial`; with the re-check the measure has a term for one more round of
  the loop: `St.measureR` in `comes_to_rest_recheck`, `GSt.measure` in `comes_to_rest_code`, `MSt.measure` in
  `comes_to_rest_amended`, one body in three spellings); fairness of the tokio scheduler is assumed, not modelled.  For `step` with the re-check only safety and "comes to rest when every later sync succeeds" are
  proved (a sync that fails for ever is retried for ever by `step`; not by the code).
* Not modelled here: the explicit `Storage::fsyncdata`, `close_active_blob` and `restore_active_blob` (they sync the
  blob themselves, under `Fs`; none of them touches the flag, so the task never loses its compare-exchange), a full
  worker channel (the send of `TryFsyncData` waiting for a slot is a message that
  stays `pending`), a storage without active blob while the task runs (`safe.fsyncdata()` then does nothing and the
  re-check answers "not over the limit").
* The link to `Fs` is on the counters of the active blob file (`fsyncCheckP_is_checkEffect`,
  `quiescent_projection`, `quiescent_projection_recheckOnly`): one client write between two states at rest.  Several writes
  between two states at rest differ from `Fs` (the capture covers whatever was appended before it), by design of `Fs` as
  the sequential model.
-/
