import Pearl.Proofs.StoreLemmas
/-
C01: `read` / `contains` answer with the first-ranked record of the key
(greatest timestamp, then most recently created blob, then most recently appended),
for every history and after every prefix of it (`read_eq_spec`, `contains_eq_spec`, `read_notFound_iff`,
the `run_*` forms); filters that never reject a stored key change no answer (`prune_transparent`);
nothing is ever lost or reordered (`apply_log`, `apply_log_new` with its two boundary witnesses,
`run_log`).  `init_WF`, `apply_WF`, `run_WF` are the well-formedness facts the later Props files cite.
-/
namespace Pearl

theorem Spec.all_sorted (h : History) (k : Key) (hn : (h.map (·.1)).Nodup) :
    (Spec.all h k).Pairwise (fun a b => rankBefore a b = true) :=
  sortedBy_sorted _ hn

theorem Spec.all_perm (h : History) (k : Key) :
    (Spec.all h k).Perm (h.positioned.filter (fun p => p.r.key == k)) :=
  sortedBy_perm _ h

theorem Spec.all_unique (h : History) (k : Key) (hn : (h.map (·.1)).Nodup) (l : List PRec)
    (hp : l.Perm (h.positioned.filter (fun p => p.r.key == k)))
    (hs : l.Pairwise (fun a b => rankBefore a b = true)) : l = Spec.all h k :=
  sortedBy_unique hn hp hs

example :
    Spec.all [(0, [⟨1, 5, false, none, ⟨1, 1⟩⟩, ⟨1, 5, true, none, ⟨0, 0⟩⟩]), (1, [⟨1, 3, false, none, ⟨2, 2⟩⟩])] 1
      = [⟨⟨1, 5, true, none, ⟨0, 0⟩⟩, 0, 1⟩, ⟨⟨1, 5, false, none, ⟨1, 1⟩⟩, 0, 0⟩, ⟨⟨1, 3, false, none, ⟨2, 2⟩⟩, 1, 0⟩] := by
  symm
  refine Spec.all_unique _ _ (by decide) _ ?_ (by decide)
  decide

theorem read_eq_spec {s : Store} (hwf : s.WF) (k : Key) :
    s.read k none = (Spec.latest s.history k).map (·.r) := by
  rw [Spec.latest_eq, Spec.all_eq_sortedBy]
  exact Store.getLatestEntry_eq_sortedBy hwf k none _ (fun b => b.getLatest_eq k)

theorem contains_eq_spec {s : Store} (hwf : s.WF) (k : Key) :
    s.contains k = (Spec.latest s.history k).map (·.r.ts) := by
  have := read_eq_spec hwf k
  unfold Store.read at this
  unfold Store.contains
  rw [this, ReadResult.map_map]

theorem read_notFound_iff {s : Store} (hwf : s.WF) (k : Key) :
    s.read k none = .notFound ↔ ∀ b ∈ s.blobs, ∀ r ∈ b.recs, r.key ≠ k := by
  rw [read_eq_spec hwf, Spec.latest_eq, classify_map_eq_notFound, List.head?_eq_none_iff,
    Spec.all_eq_sortedBy, sortedBy_eq_nil_iff, Store.no_key_iff]

/-- filters that never reject a stored key do not change answers -/
theorem prune_transparent (s : Store) (prune : Blob → Key → Bool) (k : Key) (m : Option Meta)
    (hp : ∀ b ∈ s.blobs, prune b k = true → ∀ r ∈ b.recs, r.key ≠ k) :
    s.getLatestEntryP prune k m = s.getLatestEntry k m := by
  unfold Store.getLatestEntry Store.getLatestEntryP
  rw [foldl_filter_neutral, foldl_filter_neutral]
  · intro b _ h; simp at h
  · intro b hb h acc
    have hpr : prune b k = true := by simpa using h
    rw [Blob.getLatestEntry_of_no_key (hp b (Store.mem_visit.1 hb) hpr), ReadResult.latest_notFound]

theorem init_WF (d : Bool) : (Store.init d).WF := Store.init_WF' d

theorem apply_WF {s : Store} (hwf : s.WF) (op : Op) : (s.apply op).WF := Store.apply_WF' hwf op

theorem run_WF (d : Bool) (ops : List Op) : ((Store.init d).run ops).WF :=
  Store.run_init_WF d ops

/-- nothing is ever lost or reordered: every blob is continued by a blob with the same id whose
    records extend the old ones (by at most one record) -/
theorem apply_log {s : Store} (hwf : s.WF) (op : Op) :
    ∀ b ∈ s.blobs, ∃ b' ∈ (s.apply op).blobs,
      b'.id = b.id ∧ b.recs <+: b'.recs ∧ b'.recs.length ≤ b.recs.length + 1 :=
  Store.apply_log' hwf op

/-- every blob of the new state continues a blob of the old one (same id, the old records a prefix,
    at most one more) or is a brand-new blob with the next id holding at most the one record this
    operation appended.
    (`s.blobs ≠ []` holds on every run from `init`, see `run_blobs_ne_nil`; without it the statement
    fails for `restart false` on a storage without blobs, see `apply_log_new_needs_blobs`.
    The new blob need not be empty, see `apply_log_new_blob_nonempty`.) -/
theorem apply_log_new {s : Store} (hwf : s.WF) (hne : s.blobs ≠ []) (op : Op) :
    ∀ b' ∈ (s.apply op).blobs,
      (∃ b ∈ s.blobs, b'.id = b.id ∧ b.recs <+: b'.recs ∧ b'.recs.length ≤ b.recs.length + 1) ∨
        (b'.id = s.nextId ∧ b'.recs.length ≤ 1) := by
  rcases Store.apply_shape hwf op with h | h
  · cases h with
    | same hc _ => intro b' hb'; exact Or.inl (hc.bwd b' hb')
    | new nb hid hrecs hc _ =>
      intro b' hb'
      obtain ⟨x, hx, h1, h2, h3⟩ := hc.bwd b' hb'
      rcases List.mem_append.1 hx with hx | hx
      · exact Or.inl ⟨x, hx, h1, h2, h3⟩
      · simp only [List.mem_singleton] at hx
        subst hx
        rw [hrecs] at h3
        exact Or.inr ⟨h1.trans hid, by simpa using h3⟩
  · exact absurd h.1 hne

theorem run_blobs_ne_nil (d : Bool) (ops : List Op) : ((Store.init d).run ops).blobs ≠ [] :=
  (Store.run_inv (init_WF d) (Store.init_blobs_ne_nil d) ops).2

/-- under `WF` alone (a storage without any blob, not reachable from `init`) `restart false`
    creates blob `0`, which is neither a continuation nor numbered `nextId` -/
theorem apply_log_new_needs_blobs :
    ∃ s : Store, s.WF ∧ ∃ b' ∈ (s.apply (.restart false)).blobs,
      (∀ b ∈ s.blobs, b'.id ≠ b.id) ∧ b'.id ≠ s.nextId :=
  ⟨{ nextId := 5 }, ⟨by decide, by decide⟩, { id := 0, recs := [] }, by decide, by decide, by decide⟩

/-- the brand-new blob is not always empty: a write without an active blob creates the blob and
    appends to it in one operation -/
theorem apply_log_new_blob_nonempty :
    ∃ s : Store, s.WF ∧ s.blobs ≠ [] ∧ ∃ b' ∈ (s.apply (.write 1 5 none ⟨1, 1⟩)).blobs,
      b'.id = s.nextId ∧ b'.recs ≠ [] :=
  ⟨(Store.init false).run [.closeActive], run_WF _ _, run_blobs_ne_nil _ _,
    { id := 1, recs := [⟨1, 5, false, none, ⟨1, 1⟩⟩] }, by decide, by decide, by decide⟩

theorem run_read_eq_spec (d : Bool) (ops : List Op) (k : Key) :
    let s := (Store.init d).run ops
    s.read k none = (Spec.latest s.history k).map (·.r) :=
  read_eq_spec (run_WF d ops) k

theorem run_contains_eq_spec (d : Bool) (ops : List Op) (k : Key) :
    let s := (Store.init d).run ops
    s.contains k = (Spec.latest s.history k).map (·.r.ts) :=
  contains_eq_spec (run_WF d ops) k

theorem run_read_notFound_iff (d : Bool) (ops : List Op) (k : Key) :
    let s := (Store.init d).run ops
    s.read k none = .notFound ↔ ∀ b ∈ s.blobs, ∀ r ∈ b.recs, r.key ≠ k :=
  read_notFound_iff (run_WF d ops) k

/-- the log of a run only grows, operation by operation -/
theorem run_log (d : Bool) (ops : List Op) (op : Op) :
    let s := (Store.init d).run ops
    ∀ b ∈ s.blobs, ∃ b' ∈ ((Store.init d).run (ops ++ [op])).blobs,
      b'.id = b.id ∧ b.recs <+: b'.recs ∧ b'.recs.length ≤ b.recs.length + 1 := by
  intro s
  have : (Store.init d).run (ops ++ [op]) = s.apply op := by
    simp [Store.run, List.foldl_append, s]
  rw [this]
  exact apply_log (run_WF d ops) op

-- the hypotheses hold on runs of the model and the answers are not trivial
example : Demo.s2.WF := run_WF true Demo.ops2

-- cross-blob tie at ts 5: the record of the newer blob is served
example : Demo.s1.read 1 none = .found ⟨1, 5, false, some [7], ⟨3, 3⟩⟩ := by decide
example : (Spec.latest Demo.s1.history 1).map (·.r) = .found ⟨1, 5, false, some [7], ⟨3, 3⟩⟩ := by
  rw [← read_eq_spec Demo.s1_WF]; decide
example : (Spec.latest ((Store.init true).run (Demo.ops1 ++ [.delete 1 9 none true])).history 1).map (·.r.ts)
    = .deleted 9 := by
  rw [← contains_eq_spec (run_WF _ _)]; decide
example : Demo.s2.contains 1 = .found 12 := by decide
example : Demo.s2.read 3 none = .notFound ∧ Demo.s2.read 2 none ≠ .notFound := by decide
example : ∀ b ∈ Demo.s2.blobs, ∀ r ∈ b.recs, r.key ≠ 3 :=
  (read_notFound_iff Demo.s2_WF 3).1 (by decide)
-- a pruning predicate that is allowed to reject (blob 1 holds no key 2) and does reject
example : Demo.s1.getLatestEntryP (fun b k => b.id == 1 && k == 2) 2 none
    = .found ⟨2, 6, false, none, ⟨2, 2⟩⟩ := by
  rw [prune_transparent _ _ _ _ (by decide)]; decide
-- the log grows: new blob (replaceActive) and appended records
example : ∃ b' ∈ (Demo.s1.apply (.write 2 8 none ⟨5, 5⟩)).blobs, b'.id = 1 ∧ b'.recs.length = 2 := by decide
example : (Demo.s1.apply .replaceActive).blobs.length = Demo.s1.blobs.length + 1 := by decide

end Pearl
