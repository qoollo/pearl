import Pearl.Proofs.CancelLemmas
import Pearl.Proofs.CancelRefine
import Pearl.Proofs.CancelProduct
import Pearl.Proofs.CancelRestart
import Pearl.Props.C05
import Pearl.Props.C11
/-
C14 "Cancellation safety": what a dropped future leaves behind.

Model: Pearl/Model/Cancel.lean (operations as items: await points with the closure handed to
`spawn_blocking`, and the synchronous code between them; `cancelAfter k` = the future is dropped while
suspended at await number `k`).  Lemmas: Pearl/Proofs/CancelLemmas.lean, CancelRefine.lean, CancelProduct.lean, CancelRestart.lean.

Views of a state `s : CStore`: `s.toStore` — the L2 store of THIS session (what the in-memory indexes
know; every query of Pearl/Model/Store.lean is a function of it); `s.regen` — the L2 store after a restart
that regenerates every index from its blob file; `CBlob.restartRecs` — the index a restart gives a blob
when an index file is present. `QEq A B` — `A` and `B` answer `read`, `contains`, `readAll`,
`readAllMarked` alike for every key and hold the same number of records.

The file has three parts: one cancelled write or delete (its states, both views, the invariant, later operations, the
uncancelled operations as refinements of L2); the orphan record through further sessions (`CBlob.restart`, dump and
restart rounds; definitions in Pearl/Proofs/CancelRestart.lean); and `delete_in_closed` driven through `FuturesUnordered`,
where several per-blob futures are cut at once (`cancelDeleteProduct`; definitions in Pearl/Proofs/CancelProduct.lean),
with the sequential `deleteSegments` as the special case of staircase cut vectors.
-/
namespace Pearl.C14
open Pearl Pearl.Cancel

/-! ## the exact set of states a cancelled write can leave -/

/-- Dropping the future of `write_with_optional_meta` at any await leaves one of:
    `s0` (nothing happened); while the active blob is being created: `sFile` (blob id used up, a 0-byte
    blob file in the directory) or `sHdr` (the file has its header, the blob is not installed);
    `afterCreate` (the new active blob is installed, nothing written); `sOrphan` — ONLY when the record is
    written by a detached closure (current-thread runtime or more than 81 920 bytes): the record's bytes
    are in the blob file, the index does not know it; `sFull` (the write took effect). -/
theorem cancel_write_states (c : Cfg) (a : WArgs) (s0 : CStore) (k : Nat) :
    let t := cancelAfter k (writeSegments c a s0) s0
    t = s0 ∨ (s0.active = none ∧ (t = sFile s0 ∨ t = sHdr s0)) ∨ t = afterCreate c s0 ∨
    (isDup c a s0 = false ∧ c.detached (entryLen c a.entry) = true ∧ t = sOrphan c a s0) ∨
    (isDup c a s0 = false ∧ t = sFull c a s0) :=
  write_cancelStates c a s0 _ ⟨k, rfl⟩

/-- the orphan state is reached (at the await of `write_to_file`) whenever the closure is detached -/
theorem orphan_reachable (c : Cfg) (a : WArgs) (s0 : CStore) (hdup : isDup c a s0 = false)
    (hd : c.detached (entryLen c a.entry) = true) :
    ∃ k, cancelAfter k (writeSegments c a s0) s0 = sOrphan c a s0 :=
  ⟨_, write_orphan_at c a s0 hdup hd⟩

/-! ## `cancel_atomic_write` -/

/-- For every cancellation point: (1) in this session the storage answers like the state BEFORE the
    write or is the state AFTER it; (2) so it does after a restart that regenerates the indexes from the
    blob files; (3) the two views agree — both "before" or both "after" — with ONE exception, the orphan
    state: "before" in this session, "after" from the next regenerating start. -/
theorem cancel_atomic_write (c : Cfg) (a : WArgs) (s0 : CStore) (k : Nat) :
    let t := cancelAfter k (writeSegments c a s0) s0
    let full := runItems (writeSegments c a s0) s0
    (QEq s0.toStore t.toStore ∨ t.toStore = full.toStore) ∧
    (QEq s0.regen t.regen ∨ t.regen = full.regen) ∧
    ((QEq s0.toStore t.toStore ∧ QEq s0.regen t.regen) ∨
     (t.toStore = full.toStore ∧ t.regen = full.regen) ∨
     (isDup c a s0 = false ∧ c.detached (entryLen c a.entry) = true ∧ t = sOrphan c a s0 ∧
       QEq s0.toStore t.toStore ∧ t.regen = full.regen)) := by
  intro t full
  have hfull : full = if isDup c a s0 then afterCreate c s0 else sFull c a s0 := write_run c a s0
  -- the first two clauses follow from the third
  refine (fun h3 => ⟨h3.elim (fun h => Or.inl h.1) (Or.elim · (fun h => Or.inr h.1) (fun h => Or.inl h.2.2.2.1)),
    h3.elim (fun h => Or.inl h.2) (Or.elim · (fun h => Or.inr h.2) (fun h => Or.inr h.2.2.2.2)), h3⟩) ?_
  have before := fun h => let ⟨h1, h2, _⟩ := write_before_views c s0 t h; And.intro h1 h2
  rcases cancel_write_states c a s0 k with h | ⟨_, h | h⟩ | h | ⟨hdup, hd, h⟩ | ⟨hdup, h⟩
  · exact Or.inl (before (Or.inl h))
  · exact Or.inl (before (Or.inr (Or.inl h)))
  · exact Or.inl (before (Or.inr (Or.inr (Or.inl h))))
  · exact Or.inl (before (Or.inr (Or.inr (Or.inr h))))
  · -- the orphan: this session sees the state before, a regenerating start the completed write
    have ht : t = sOrphan c a s0 := h
    have h1 : QEq s0.toStore t.toStore := by
      rw [ht, toStore_sOrphan]; exact (write_before_views c s0 _ (Or.inr (Or.inr (Or.inr rfl)))).1
    have h2 : t.regen = full.regen := by rw [ht, hfull, hdup]; exact regen_sOrphan c a s0
    exact Or.inr (Or.inr ⟨hdup, hd, ht, h1, h2⟩)
  · have : t = full := by rw [hfull, hdup]; exact h
    exact Or.inr (Or.inl ⟨by rw [this], by rw [this]⟩)

/-- without a detached closure (multi-thread runtime and a record of at most 81 920 bytes) the
    exception does not exist: every cancellation leaves "before" or "after" in both views -/
theorem cancel_atomic_write_inline (c : Cfg) (a : WArgs) (s0 : CStore) (k : Nat)
    (hd : c.detached (entryLen c a.entry) = false) :
    let t := cancelAfter k (writeSegments c a s0) s0
    let full := runItems (writeSegments c a s0) s0
    (QEq s0.toStore t.toStore ∧ QEq s0.regen t.regen) ∨ (t.toStore = full.toStore ∧ t.regen = full.regen) := by
  intro t full
  rcases (cancel_atomic_write c a s0 k).2.2 with h | h | ⟨_, hd', _⟩
  · exact Or.inl h
  · exact Or.inr h
  · rw [hd] at hd'; cases hd'

/-! ## the exception, exactly -/

/-- The orphan state at the file level: the active blob's file is the file BEFORE the write plus the
    complete image of the record (it still parses completely), the reservation counter has no gap, the
    in-memory index is unchanged. -/
theorem orphan_state (c : Cfg) (a : WArgs) (s0 : CStore) (hinv : StoreInv c s0) :
    ∃ b, (afterCreate c s0).active = some b ∧
      (sOrphan c a s0).active = some (b.fileWrite c a.entry) ∧
      (b.fileWrite c a.entry).idx = b.idx ∧
      (b.fileWrite c a.entry).frecs = b.frecs ++ [a.entry] ∧
      (b.fileWrite c a.entry).file.bytes = blobBytes c.klen (b.frecs ++ [a.entry]) ∧
      (b.fileWrite c a.entry).file.size = (b.fileWrite c a.entry).file.bytes.length := by
  obtain ⟨b, hb⟩ := afterCreate_active c s0
  have hbi := (hinv.afterCreate (c := c)).active b hb
  refine ⟨b, hb, ?_, rfl, rfl, (hbi.fileWrite a.entry).bytes, (hbi.fileWrite a.entry).size⟩
  unfold sOrphan CStore.onActive; rw [hb]; rfl

/-- the index a restart gives a blob that has no index file: regenerated — the orphan record is in it -/
theorem orphan_visible_after_regen (c : Cfg) (x : RecB) (b : CBlob) (hf : b.idxFile = none) :
    (b.fileWrite c x).restartRecs = b.frecs.map (·.1) ++ [x.1] := by
  unfold CBlob.restartRecs CBlob.fileWrite
  simp [hf]

/-- ... but if the in-memory index (which does not know the orphan) is dumped first, the index file
    carries `blob_size` = the size of the file INCLUDING the orphan record, so the next start accepts it,
    and the record stays invisible until some later start regenerates the index -/
theorem orphan_hidden_by_dump (c : Cfg) (x : RecB) (b : CBlob) (hinv : BlobInv c b)
    (hd : b.onDisk = false) (hne : b.idx ≠ []) :
    ((b.fileWrite c x).dump).idxFile = some (b.idx, (b.fileWrite c x).file.bytes.length) ∧
    ((b.fileWrite c x).dump).restartRecs = b.idx.map (·.1.1) := by
  rw [dump_inMemory (b.fileWrite c x) hd hne, (hinv.fileWrite x).size]
  refine ⟨rfl, ?_⟩
  unfold CBlob.restartRecs
  simp only [↓reduceIte]
  rfl

/-- with an EMPTY in-memory index no index file is written (`dump_in_memory` returns `Ok(0)`), so an
    orphan that is the only record of its blob is indexed at the next start -/
theorem orphan_alone_visible (c : Cfg) (x : RecB) (b : CBlob) (hf : b.idxFile = none) (he : b.idx = []) :
    ((b.fileWrite c x).dump).restartRecs = b.frecs.map (·.1) ++ [x.1] := by
  have : (b.fileWrite c x).dump = b.fileWrite c x := by
    unfold CBlob.dump
    have : (b.fileWrite c x).idx = [] := he
    rw [this]; simp
  rw [this]
  exact orphan_visible_after_regen c x b hf

/-! ## `no_reserved_gap`, `parses_after_restart` -/

/-- every state a cancelled or completed write leaves keeps the invariant -/
theorem write_cancel_keeps_inv (c : Cfg) (a : WArgs) (s0 : CStore) (k : Nat) (hinv : StoreInv c s0)
    (hm : (serMeta a.entry.1.mt).length < 2 ^ 64) :
    StoreInv c (cancelAfter k (writeSegments c a s0) s0) :=
  write_cancel_inv c a s0 _ hinv hm ⟨k, rfl⟩

/-- cancellation never leaves a reservation gap: in every blob file of every cancel state the
    reservation counter equals the length of the file. (A gap appears only when a pwrite FAILS:
    `Pearl.C11.write_never_touches_reserved`, example below.) -/
theorem no_reserved_gap (c : Cfg) (a : WArgs) (s0 : CStore) (k : Nat) (hinv : StoreInv c s0)
    (hm : (serMeta a.entry.1.mt).length < 2 ^ 64) :
    let t := cancelAfter k (writeSegments c a s0) s0
    (∀ b, t.active = some b → b.file.size = b.file.bytes.length) ∧
    (∀ b, some b ∈ t.slots → b.file.size = b.file.bytes.length) ∧
    (∀ p ∈ t.stray, p.2.size = p.2.bytes.length) := by
  intro t
  have h := write_cancel_keeps_inv c a s0 k hinv hm
  exact ⟨fun b hb => (h.active b hb).size, fun b hb => (h.closed b hb).size, fun p hp => (h.stray p hp).2⟩

/-- start-up on the file of a blob that satisfies the invariant: it is the blob of its record list, it
    is opened (never quarantined, never a failure) with exactly the headers of that list, and every one
    of those records loads with its bytes -/
theorem blob_parses (c : Cfg) (v : Bool) (b : CBlob) (hinv : BlobInv c b)
    (hlen : (blobBytes c.klen b.frecs).length < 2 ^ 64) (hts : ∀ x ∈ b.frecs, x.1.ts < 2 ^ 64) :
    b.file.bytes = blobBytes c.klen b.frecs ∧
    openBlob c.klen v b.file.bytes = .ok (blobHeaders c.klen b.frecs) ∧
    ∀ (i : Nat) (h : RecHeader) (r : Rec) (d : List UInt8),
      (blobHeaders c.klen b.frecs)[i]? = some h → b.frecs[i]? = some (r, d) →
      entryLoad b.file.bytes h = .ok (serMeta r.mt, if r.del then [] else d) := by
  refine ⟨hinv.bytes, ?_, ?_⟩
  · rw [hinv.bytes]
    exact Fault.openBlob_appendRecords v _ (goodRecs_recordsOf c.klen b.frecs hts) hlen
  · intro i h r d hh hr
    rw [hinv.bytes]
    exact (C05.load_roundtrip c.klen b.frecs hlen i h r d hh hr).1

/-- `parses_after_restart`: after any cancellation of a write, every blob file that belongs to the
    storage is `blobBytes` of a record list and start-up opens it with the headers of that list; a file
    left by a cancelled creation is empty (quarantined at start-up) or a bare header (opened empty) -/
theorem parses_after_restart (c : Cfg) (v : Bool) (a : WArgs) (s0 : CStore) (k : Nat)
    (hinv : StoreInv c s0) (hm : (serMeta a.entry.1.mt).length < 2 ^ 64) :
    let t := cancelAfter k (writeSegments c a s0) s0
    (∀ b, (t.active = some b ∨ some b ∈ t.slots) →
      (blobBytes c.klen b.frecs).length < 2 ^ 64 → (∀ x ∈ b.frecs, x.1.ts < 2 ^ 64) →
      b.file.bytes = blobBytes c.klen b.frecs ∧
      openBlob c.klen v b.file.bytes = .ok (blobHeaders c.klen b.frecs)) ∧
    (∀ p ∈ t.stray, (p.2.bytes = [] ∧ openBlob c.klen v p.2.bytes = .quarantine) ∨
      (p.2.bytes = blobBytes c.klen [] ∧ openBlob c.klen v p.2.bytes = .ok [])) := by
  intro t
  have h := write_cancel_keeps_inv c a s0 k hinv hm
  refine ⟨?_, ?_⟩
  · intro b hb hlen hts
    have hbi : BlobInv c b := by
      rcases hb with hb | hb
      · exact h.active b hb
      · exact h.closed b hb
    have := blob_parses c v b hbi hlen hts
    exact ⟨this.1, this.2.1⟩
  · intro p hp
    rcases (h.stray p hp).1 with h0 | h1
    · left; rw [h0]; exact ⟨rfl, openBlob_short c.klen v [] (by decide)⟩
    · right; rw [h1]; exact ⟨rfl, openBlob_header_only c.klen v⟩

/-- FALSE: "after any cancellation every blob file in the directory is `blobBytes` of a record list".
    A write that has to create the active blob and is dropped at the await of the file creation
    (`OpenOptions::open` runs in `spawn_blocking` and completes) leaves a 0-byte `N.blob`; the blob id is
    used up; the next start-up moves the file to the corrupted directory. -/
theorem cancelled_creation_leaves_empty_file (c : Cfg) (v : Bool) (a : WArgs) (s0 : CStore)
    (hact : s0.active = none) :
    cancelAfter 2 (writeSegments c a s0) s0 = sFile s0 ∧
    (sFile s0).stray = (s0.nextId, ⟨[], 0⟩) :: s0.stray ∧
    (sFile s0).nextId = s0.nextId + 1 ∧
    openBlob c.klen v [] = .quarantine ∧
    ¬ ∃ recs, ([] : List UInt8) = blobBytes c.klen recs := by
  refine ⟨?_, rfl, rfl, openBlob_short c.klen v [] (by decide), ?_⟩
  · rw [writeSegments_eq, cancelAfter_append]
    have hw : writeHead c s0 = createItems c s0.nextId := by unfold writeHead; rw [hact]; rfl
    rw [hw]
    cases hct : c.currentThread <;>
      simp [createItems, openNewItems, hct, awaits, cancelAfter, sFile]
  · rintro ⟨recs, h⟩
    have := congrArg List.length h
    have hge := blobBytes_length_ge c.klen recs
    simp only [List.length_nil] at this
    omega

/-! ## `later_ops_succeed` -/

/-- on ANY state that satisfies the invariant — in particular on every state a cancellation left — a
    write that is not cancelled is `Store.write`, keeps the invariant, and (unless refused as a
    duplicate) its record is the last entry of the active blob's index and loads with its bytes -/
theorem later_write_succeeds (c : Cfg) (a : WArgs) (t : CStore) (hinv : StoreInv c t)
    (hm : (serMeta a.entry.1.mt).length < 2 ^ 64) :
    let t2 := runItems (writeSegments c a t) t
    t2.toStore = t.toStore.write a.k a.ts a.m a.d ∧ StoreInv c t2 ∧
    (isDup c a t = false → ∃ b b', (afterCreate c t).active = some b ∧ t2.active = some b' ∧
      b'.idx = b.idx ++ [(a.entry, b.file.size)] ∧
      entryLoad b'.file.bytes (hdrOf c (a.entry, b.file.size)) =
        .ok (serMeta a.entry.1.mt, (recordOf c.klen a.entry.1 a.entry.2).data)) := by
  intro t2
  have hinv2 : StoreInv c t2 :=
    hinv.write_run a hm
  refine ⟨write_refines c a t, hinv2, ?_⟩
  intro hdup
  obtain ⟨b, hb⟩ := afterCreate_active c t
  have ht2 : t2 = sFull c a t := by
    show runItems (writeSegments c a t) t = _
    rw [write_run, hdup]; rfl
  have hact : (sFull c a t).active = some ((b.fileWrite c a.entry).push a.entry b.file.size) := by
    rw [sFull_eq]
    unfold CStore.onActive
    rw [hb, Option.map_some, pushWritten_fileWrite]
  refine ⟨b, _, hb, by rw [ht2]; exact hact, rfl, ?_⟩
  have hbi := hinv2.active _ (by rw [ht2]; exact hact)
  exact hbi.loads (a.entry, b.file.size) (by
    show (a.entry, b.file.size) ∈ b.idx ++ [(a.entry, b.file.size)]
    simp)

/-- `later_ops_succeed`: after a write was cancelled at any point, the next write succeeds -/
theorem later_ops_succeed (c : Cfg) (a a2 : WArgs) (s0 : CStore) (k : Nat) (hinv : StoreInv c s0)
    (hm : (serMeta a.entry.1.mt).length < 2 ^ 64) (hm2 : (serMeta a2.entry.1.mt).length < 2 ^ 64) :
    let t := cancelAfter k (writeSegments c a s0) s0
    let t2 := runItems (writeSegments c a2 t) t
    t2.toStore = t.toStore.write a2.k a2.ts a2.m a2.d ∧ StoreInv c t2 ∧
    (isDup c a2 t = false → ∃ b b', (afterCreate c t).active = some b ∧ t2.active = some b' ∧
      b'.idx = b.idx ++ [(a2.entry, b.file.size)] ∧
      entryLoad b'.file.bytes (hdrOf c (a2.entry, b.file.size)) =
        .ok (serMeta a2.entry.1.mt, (recordOf c.klen a2.entry.1 a2.entry.2).data)) :=
  later_write_succeeds c a2 _ (write_cancel_keeps_inv c a s0 k hinv hm) hm2


/-! ## delete -/

/-- One `Blob::delete` (on the active blob, `on = CStore.onActive`, or on the closed blob in slot `i`,
    `on = CStore.onSlot i`) dropped at any await leaves, on its blob: nothing; or — only with a detached
    write closure — the marker's bytes in the file but not in the index (the index, if it was on disk, is
    loaded); or the marker written and indexed.  `deleteSegments` takes the closed blobs one after the other; the code
    drives them through `FuturesUnordered`, several in flight at once: that is the section on `delete_in_closed` below
    (`cancel_delete_product_states`). -/
theorem cancel_blob_delete (c : Cfg) (on : (CBlob → CBlob) → CStore → CStore) (a : DArgs) (oip : Bool)
    (b0 : CBlob) (s : CStore) (k : Nat) :
    let t := cancelAfter k (blobDeleteItems c on a oip b0) s
    t = s ∨
    (needMarker a oip b0 = true ∧ c.detached (entryLen c a.entry) = true ∧ t = markerOrphan c on a b0 s) ∨
    (needMarker a oip b0 = true ∧ t = markerDone c on a b0 s) :=
  blobDelete_cancelStates c on a oip b0 s _ ⟨k, rfl⟩

/-- the L2 meaning of those states on the blob itself (`b0` = the blob as `delete` finds it):
    completed = `Store.blobDelete`; orphan marker = unchanged records in this session, the completed
    state after a regenerating restart -/
theorem blob_delete_views (c : Cfg) (a : DArgs) (oip : Bool) (b0 : CBlob) :
    (if needMarker a oip b0 then ((loadedB b0).fileWrite c a.entry).pushWritten c a.entry else b0).toBlob =
      (Store.blobDelete b0.toBlob a.k a.ts a.m oip).1 ∧
    ((loadedB b0).fileWrite c a.entry).toBlob = { b0.toBlob with onDisk := false } ∧
    ((loadedB b0).fileWrite c a.entry).regenBlob =
      (((loadedB b0).fileWrite c a.entry).pushWritten c a.entry).regenBlob :=
  ⟨toBlob_markerDone c a oip b0, by
    rw [← loadSel_self]
    exact ⟨toBlob_cutB c a b0 .orphan, (regenBlob_cutB c a b0 .orphan).trans (regenBlob_cutB c a b0 .done).symm⟩⟩

/-! ### witnesses (replayable: current-thread runtime, 3-byte keys): a delete that is not atomic across blobs; a duplicate
after an orphan write -/

def c3 : Cfg := { klen := 3, currentThread := true }
def w1 : WArgs := { k := 1, ts := 5, m := none, d := ⟨2, 0⟩, bytes := [1, 2] }
def w2 : WArgs := { k := 1, ts := 7, m := none, d := ⟨3, 0⟩, bytes := [3, 4, 5] }
/-- `try_close_active_blob` -/
def closeA (s : CStore) : CStore := { s with active := none, slots := s.slots ++ [s.active] }
/-- duplicates allowed: write key 1 (blob 0), close the active blob, write key 1 again (blob 1) -/
def sTwoBlobs : CStore :=
  let s0 : CStore := { allowDup := true }
  let sA := runItems (writeSegments c3 w1 s0) s0
  runItems (writeSegments c3 w2 (closeA sA)) (closeA sA)
def del1 : DArgs := { k := 1, ts := 10, m := none, oip := true }

/-- `delete` is NOT atomic across blobs under cancellation: dropped at the await of `blobs.write()`
    (await number 4), the marker is in the active blob and not in the closed blob — a state that is
    neither "before" (2 records) nor "after" (4 records); dropped one await earlier, the active blob's
    marker is an orphan (in the file, not in the index) -/
theorem cancel_delete_not_atomic :
    sTwoBlobs.toStore.recordsCountDetailed = [1, 1] ∧
    (runItems (deleteSegments c3 del1 sTwoBlobs) sTwoBlobs).toStore.recordsCountDetailed = [2, 2] ∧
    (cancelAfter 4 (deleteSegments c3 del1 sTwoBlobs) sTwoBlobs).toStore.recordsCountDetailed = [1, 2] ∧
    (cancelAfter 3 (deleteSegments c3 del1 sTwoBlobs) sTwoBlobs).toStore.recordsCountDetailed = [1, 1] ∧
    (cancelAfter 3 (deleteSegments c3 del1 sTwoBlobs) sTwoBlobs).regen.recordsCountDetailed = [1, 2] ∧
    ¬ (∀ (c : Cfg) (a : DArgs) (s0 : CStore) (k : Nat),
        QEq s0.toStore (cancelAfter k (deleteSegments c a s0) s0).toStore ∨
        (cancelAfter k (deleteSegments c a s0) s0).toStore = (runItems (deleteSegments c a s0) s0).toStore) := by
  have h1 : sTwoBlobs.toStore.recordsCount = 2 := by decide
  have h2 : (runItems (deleteSegments c3 del1 sTwoBlobs) sTwoBlobs).toStore.recordsCount = 4 := by decide
  have h3 : (cancelAfter 4 (deleteSegments c3 del1 sTwoBlobs) sTwoBlobs).toStore.recordsCount = 3 := by decide
  refine ⟨by decide, by decide, by decide, by decide, by decide, ?_⟩
  intro hall
  rcases hall c3 del1 sTwoBlobs 4 with h | h
  · have := h.2.2.2.2.1
    rw [h1, h3] at this
    cases this
  · rw [h] at h3
    rw [h2] at h3
    cases h3

/-- a consequence of the orphan state: with duplicates NOT allowed, write key 1 and drop the future at the
    await of `write_to_file` (await number 9 when the active blob has to be created first); write key 1
    again: the duplicate check does not see the orphan, the write is accepted. In this session the blob
    holds one record of key 1; after a restart that regenerates the index it holds two. -/
theorem duplicate_after_orphan :
    let s0 : CStore := {}
    let t := cancelAfter 9 (writeSegments c3 w1 s0) s0
    let t2 := runItems (writeSegments c3 w1 t) t
    s0.allowDup = false ∧ t = sOrphan c3 w1 s0 ∧
    t.toStore.recordsCountDetailed = [0] ∧ t.regen.recordsCountDetailed = [1] ∧
    (t2.toStore.readAll 1).length = 1 ∧ (t2.regen.readAll 1).length = 2 := by
  exact ⟨rfl, write_orphan_at c3 w1 {} (by decide) rfl, by decide +kernel, by decide +kernel, by decide +kernel,
    by decide +kernel⟩


/-! ## non-vacuity -/

/-- a storage without blobs satisfies the invariant, hence (by `write_cancel_keeps_inv`) so does every
    state reached from it by writes that complete or are cancelled anywhere -/
theorem storeInv_noBlobs (c : Cfg) (s : CStore) (ha : s.active = none) (hs : s.slots = [])
    (hst : s.stray = []) : StoreInv c s :=
  ⟨fun _ hb => (by rw [ha] at hb; cases hb), fun _ hb => (by rw [hs] at hb; cases hb),
    fun _ hp => (by rw [hst] at hp; cases hp)⟩

example (c : Cfg) : StoreInv c ({} : CStore) := storeInv_noBlobs c _ rfl rfl rfl

theorem closeA_keeps_inv (c : Cfg) (s : CStore) (hA : StoreInv c s) : StoreInv c (closeA s) := by
  refine ⟨fun b' hb' => (nomatch hb'), fun b' hb' => ?_, hA.stray⟩
  rcases List.mem_append.mp hb' with hb' | hb'
  · exact hA.closed b' hb'
  · exact hA.active b' (List.mem_singleton.mp hb').symm

example : StoreInv c3 sTwoBlobs := by
  have h0 : StoreInv c3 ({ allowDup := true } : CStore) := storeInv_noBlobs c3 _ rfl rfl rfl
  exact (closeA_keeps_inv c3 _ (h0.write_run w1 (by decide))).write_run w2 (by decide)

-- when the closure is detached: always on a current-thread runtime; on a multi-thread runtime for
-- reservations above 81 920 bytes only
example (len : Nat) : ({ klen := 3, currentThread := true } : Cfg).detached len = true := rfl
example : ({ klen := 3, currentThread := false } : Cfg).detached 81920 = false ∧
    ({ klen := 3, currentThread := false } : Cfg).detached 81921 = true := by decide

-- the orphan state is reached on the current-thread runtime ...
example : ∃ k, cancelAfter k (writeSegments c3 w1 {}) {} = sOrphan c3 w1 {} :=
  orphan_reachable c3 w1 {} (by decide) rfl
-- ... and on a multi-thread runtime no cancellation of this (small) write separates the two views
example (k : Nat) :
    let c : Cfg := { klen := 3, currentThread := false }
    let t := cancelAfter k (writeSegments c w1 {}) {}
    let full := runItems (writeSegments c w1 {}) {}
    (QEq ({} : CStore).toStore t.toStore ∧ QEq ({} : CStore).regen t.regen) ∨
      (t.toStore = full.toStore ∧ t.regen = full.regen) :=
  cancel_atomic_write_inline _ w1 {} k (by decide)

-- a reservation gap needs a FAILED write (C11): `size` 165, file length 92
set_option maxRecDepth 1000000 in
example : (Fault.run 4096 Fault.fresh [(C11.wA, .ok), (C11.wB, .failBefore)]).file.size = 165 ∧
    (Fault.run 4096 Fault.fresh [(C11.wA, .ok), (C11.wB, .failBefore)]).file.bytes.length = 92 := by
  decide +kernel

/-! ## operations that are NOT cancelled refine the L2 operations -/

/-- the operation that is not cancelled is `Store.write` -/
theorem write_completes (c : Cfg) (a : WArgs) (s0 : CStore) :
    (runItems (writeSegments c a s0) s0).toStore = s0.toStore.write a.k a.ts a.m a.d ∧
    ∀ k, awaits (writeSegments c a s0) ≤ k →
      cancelAfter k (writeSegments c a s0) s0 = runItems (writeSegments c a s0) s0 :=
  ⟨write_refines c a s0, fun k hk => cancelAfter_ge _ k s0 hk⟩

/-- `delete` that is not cancelled is `Store.delete` on the L2 view (no hypothesis on `s0` is needed, as
    for `write_completes`), and dropping the future after its last await is the same as not dropping it.
    The state it leaves is explicit: `Pearl.Cancel.delete_run`. -/
theorem delete_completes (c : Cfg) (a : DArgs) (s0 : CStore) :
    (runItems (deleteSegments c a s0) s0).toStore = (s0.toStore.delete a.k a.ts a.m a.oip).1 ∧
    ∀ k, awaits (deleteSegments c a s0) ≤ k →
      cancelAfter k (deleteSegments c a s0) s0 = runItems (deleteSegments c a s0) s0 :=
  ⟨delete_refines c a s0, fun k hk => cancelAfter_ge _ k s0 hk⟩

/-- the state a completed delete leaves: the active blob is created if `!only_if_presented` and there is
    none (`delS1`); `Blob::delete` (`delB`) on the active blob with the caller's `only_if_presented`, on
    every closed blob with `only_if_presented = true`; nothing else changes -/
theorem delete_completes_state (c : Cfg) (a : DArgs) (s0 : CStore) :
    runItems (deleteSegments c a s0) s0 =
      { delS1 a s0 with
        active := (delS1 a s0).active.map (delB c a a.oip)
        slots := (delS1 a s0).slots.map (·.map (delB c a true)) } ∧
    ∀ oip b, (delB c a oip b).toBlob = (Store.blobDelete b.toBlob a.k a.ts a.m oip).1 :=
  ⟨delete_run c a s0, fun oip b => toBlob_delB c a oip b⟩

/-- the number `Storage::delete` returns (`Store.delete .. .2`, the number of blobs marked) is the number of
    record images the completed operation added to the blob files (`CStore.fileRecCount`: all blobs of
    the storage, ghost lists `frecs`) -/
theorem delete_returns_count (c : Cfg) (a : DArgs) (s0 : CStore) :
    (runItems (deleteSegments c a s0) s0).fileRecCount =
      s0.fileRecCount + (s0.toStore.delete a.k a.ts a.m a.oip).2 := by
  rw [delete_run, Store.delete_snd, ← toStore_delS1, ← fileRecCount_delS1 a s0]
  unfold CStore.fileRecCount CStore.toStore
  simp only [optRecs_delB, List.map_map, Function.comp_def, sum_map_add]
  omega

/-- `Inner::create_active_blob` (no active blob): not cancelled it is `Store.tryCreateActive`; dropped at
    any await it leaves nothing, the 0-byte file, the file with its header, or the new active blob — in
    each case every query answers as before (a blob id may be used up) -/
theorem create_completes (c : Cfg) (s0 : CStore) (hact : s0.active = none) :
    s0.toStore.tryCreateActive = .ok (runItems (createItems c s0.nextId) s0).toStore ∧
    (∀ k, awaits (createItems c s0.nextId) ≤ k →
      cancelAfter k (createItems c s0.nextId) s0 = runItems (createItems c s0.nextId) s0) ∧
    ∀ k, let t := cancelAfter k (createItems c s0.nextId) s0
      (t = s0 ∨ t = sFile s0 ∨ t = sHdr s0 ∨ t = runItems (createItems c s0.nextId) s0) ∧
      QEq s0.toStore t.toStore ∧ QEq s0.regen t.regen ∧ (StoreInv c s0 → StoreInv c t) := by
  refine ⟨?_, fun k hk => cancelAfter_ge _ k s0 hk, ?_⟩
  · rw [create_run, toStore_sNew]
    unfold Store.tryCreateActive CStore.toStore
    rw [hact]
    rfl
  intro k t
  have hst := create_cancelStates c s0 t ⟨k, rfl⟩
  rw [create_run]
  exact ⟨hst, write_before_views c s0 t (afterCreate_none c s0 hact ▸ hst)⟩

/-- `closeA` (used in the witnesses above; it has no await in this model) is `Store.closeActive`, and it
    keeps the invariant -/
theorem closeA_refines (c : Cfg) (s : CStore) (b : CBlob) (hact : s.active = some b) :
    s.toStore.closeActive = .ok (closeA s).toStore ∧ (StoreInv c s → StoreInv c (closeA s)) := by
  constructor
  · unfold Store.closeActive CStore.toStore closeA
    rw [hact]
    simp
  · exact closeA_keeps_inv c s

-- `delete_completes` on the two-blob witness: a marker in each blob
set_option maxRecDepth 1000000 in
example : (runItems (deleteSegments c3 del1 sTwoBlobs) sTwoBlobs).toStore =
      (sTwoBlobs.toStore.delete 1 10 none true).1 ∧
    (sTwoBlobs.toStore.delete 1 10 none true).1.recordsCountDetailed = [2, 2] ∧
    (sTwoBlobs.toStore.delete 1 10 none true).2 = 2 :=
  ⟨(delete_completes c3 del1 sTwoBlobs).1, by decide, by decide⟩

-- `!only_if_presented` on a storage without an active blob: the blob is created, it gets the marker
set_option maxRecDepth 1000000 in
example : (runItems (deleteSegments c3 { del1 with oip := false } {}) {}).toStore =
      (({} : CStore).toStore.delete 1 10 none false).1 ∧
    (({} : CStore).toStore.delete 1 10 none false).1.recordsCountDetailed = [1] :=
  ⟨(delete_completes c3 { del1 with oip := false } {}).1, by decide⟩

example : ({} : CStore).toStore.tryCreateActive = .ok (runItems (createItems c3 0) {}).toStore :=
  (create_completes c3 {} rfl).1

/-! ## the orphan record through further sessions -/

/-- `Blob::from_file` (`CBlob.restart`, Pearl/Proofs/CancelRestart.lean) gives the blob the records
    `CBlob.restartRecs` says, and keeps the invariant (`BlobInv2` = `BlobInv` + "an index file the next
    start would accept lists records of the file, in file order, that load"), whether the index file is
    accepted or the index is regenerated -/
theorem restart_keeps_inv (c : Cfg) (b : CBlob) (hinv : BlobInv2 c b)
    (hm : ∀ x ∈ b.frecs, (serMeta x.1.mt).length < 2 ^ 64) :
    (b.restart c).toBlob.recs = b.restartRecs ∧ BlobInv2 c (b.restart c) ∧ BlobInv2 c b.dump ∧
    (b.restart c).frecs = b.frecs ∧ (b.restart c).file.bytes = b.file.bytes :=
  ⟨restart_recs c b, hinv.restart hm, hinv.dump, restart_frecs c b, congrArg (·.bytes) (restart_file c b)⟩

/-- `orphan_hidden_by_dump` through ANY number of (dump; restart) rounds (`act`: the blob is the active
    blob of the next session — its index is loaded — or a closed one): after `n + 1` rounds the file
    still holds the orphan record, the index is still the one that does not know it, the index file is
    the one the next start accepts, and that start again gives the blob the old records only. -/
theorem orphan_hidden_rounds (c : Cfg) (x : RecB) (b : CBlob) (hinv : BlobInv c b)
    (hd : b.onDisk = false) (hne : b.idx ≠ []) (act : Bool) (n : Nat) :
    let t := rounds c act (n + 1) (b.fileWrite c x)
    t.frecs = b.frecs ++ [x] ∧ t.file = (b.fileWrite c x).file ∧ t.idx = b.idx ∧
    t.idxFile = some (b.idx, t.file.bytes.length) ∧ t.Accepts ∧
    t.toBlob.recs = b.idx.map (·.1.1) ∧ t.restartRecs = b.idx.map (·.1.1) ∧
    t.idx.length < t.frecs.length := by
  intro t
  have ht : t = hiddenState c x b act := rounds_orphan c x b hinv.size hd hne act n
  have hlen : b.idx.length ≤ b.frecs.length := by
    have := hinv.sub.length_le
    simpa using this
  rw [ht]
  refine ⟨rfl, rfl, rfl, rfl, ⟨b.idx, rfl⟩, rfl, ?_, ?_⟩
  · unfold CBlob.restartRecs hiddenState
    simp only [↓reduceIte]
  · show b.idx.length < (b.frecs ++ [x]).length
    rw [List.length_append, List.length_singleton]
    omega

/-- The general form: after the orphan write, ANY sequence of completed writes / deletion markers on
    the blob (`.write`), `load_index`, `dump` and restarts — as long as every start accepts the index
    file it finds — leaves the orphan record in the file (at its position, right after the records the
    file had) and out of the index: the index knows what it knew plus the records written since.
    Hypothesis `hif`: an index file the blob already has carries a `blob_size` that is at most the
    length of the blob file (true without an index file; every step keeps it: `Hidden.idxFile`). -/
theorem orphan_hidden_while_accepted (c : Cfg) (x : RecB) (b : CBlob) (hinv : BlobInv c b)
    (hif : ∀ es bs, b.idxFile = some (es, bs) → bs ≤ b.file.bytes.length)
    (steps : List BStep) (hacc : AllAccepted c steps (b.fileWrite c x)) :
    let t := runSteps c steps (b.fileWrite c x)
    t.frecs = b.frecs ++ x :: writesOf steps ∧
    t.idx.map (·.1) = b.idx.map (·.1) ++ writesOf steps ∧
    t.toBlob.recs = b.idx.map (·.1.1) ++ (writesOf steps).map (·.1) ∧
    t.idx.length < t.frecs.length ∧ t.file.size = t.file.bytes.length := by
  intro t
  have h := (Hidden.orphan c x b hinv.size hif).steps c steps hacc
  simp only [List.nil_append] at h
  have hlen : b.idx.length ≤ b.frecs.length := by
    have := hinv.sub.length_le
    simpa using this
  refine ⟨h.frecs, h.idx, ?_, ?_, h.size⟩
  · rw [toBlob_recs, h.idx, List.map_append, List.map_map]; rfl
  · show (runSteps c steps (b.fileWrite c x)).idx.length < (runSteps c steps (b.fileWrite c x)).frecs.length
    have h1 := congrArg List.length h.idx
    have h2 := congrArg List.length h.frecs
    simp only [List.length_map, List.length_append, List.length_cons] at h1 h2
    omega

/-- ... and the first start that does NOT accept the index file regenerates the index: every record of
    the file, the orphan included, is indexed from then on -/
theorem orphan_visible_after_rejected_start (c : Cfg) (x : RecB) (b : CBlob) (hinv : BlobInv c b)
    (hif : ∀ es bs, b.idxFile = some (es, bs) → bs ≤ b.file.bytes.length)
    (steps : List BStep) (hacc : AllAccepted c steps (b.fileWrite c x))
    (hrej : ¬ (runSteps c steps (b.fileWrite c x)).Accepts) :
    let t := (runSteps c steps (b.fileWrite c x)).restart c
    t.idx.map (·.1) = b.frecs ++ x :: writesOf steps ∧
    t.toBlob.recs = b.frecs.map (·.1) ++ x.1 :: (writesOf steps).map (·.1) := by
  intro t
  have h := (orphan_hidden_while_accepted c x b hinv hif steps hacc).1
  have h1 : t.idx.map (·.1) = b.frecs ++ x :: writesOf steps := by
    rw [← h]; exact restart_rejected c _ hrej
  exact ⟨h1, by rw [toBlob_recs, h1, List.map_append]; rfl⟩

/-! witnesses: blob 0 after `w1` was written; `w2` is written by a detached closure whose future is dropped -/

def bA : CBlob := ((runItems (writeSegments c3 w1 { allowDup := true }) { allowDup := true }).active).getD default

theorem bA_inv : BlobInv c3 bA ∧ bA.onDisk = false ∧ bA.idx ≠ [] ∧ bA.idxFile = none := by
  have h0 : StoreInv c3 ({ allowDup := true } : CStore) := storeInv_noBlobs c3 _ rfl rfl rfl
  have hA := h0.write_run w1 (by decide)
  -- `bA` is the active blob of that state; which blob it is need not be computed
  have hsome : ∀ o : Option CBlob, o.isSome = true → o = some (o.getD default) := fun o h => by
    cases o
    · cases h
    · rfl
  exact ⟨hA.active bA (hsome _ (by decide)), by decide, by decide, by decide⟩

-- three (dump; restart) rounds: 2 records in the file, 1 in the index, and the 4th start accepts again
example : let t := rounds c3 false 3 (bA.fileWrite c3 w2.entry)
    t.frecs.length = 2 ∧ t.toBlob.recs.length = 1 ∧ t.Accepts ∧ t.restartRecs.length = 1 := by
  intro t
  have h := orphan_hidden_rounds c3 w2.entry bA bA_inv.1 bA_inv.2.1 bA_inv.2.2.1 false 2
  have hl : bA.idx.length = 1 := by decide
  have hf : bA.frecs.length = 1 := by decide
  refine ⟨?_, ?_, h.2.2.2.2.1, ?_⟩
  · show (rounds c3 false 3 (bA.fileWrite c3 w2.entry)).frecs.length = 2
    rw [h.1, List.length_append, hf]; rfl
  · show (rounds c3 false 3 (bA.fileWrite c3 w2.entry)).toBlob.recs.length = 1
    rw [h.2.2.2.2.2.1, List.length_map, hl]
  · show (rounds c3 false 3 (bA.fileWrite c3 w2.entry)).restartRecs.length = 1
    rw [h.2.2.2.2.2.2.1, List.length_map, hl]

-- dump, restart (accepted), index loaded, one more write, dump, restart: every start accepts — the
-- blob was dumped after its last write — and the orphan is still not indexed ...
set_option maxRecDepth 1000000 in
example : AllAccepted c3 [.dump, .restart, .load, .write w1.entry, .dump, .restart] (bA.fileWrite c3 w2.entry) ∧
    (runSteps c3 [.dump, .restart, .load, .write w1.entry, .dump, .restart] (bA.fileWrite c3 w2.entry)).toBlob.recs.length = 2 ∧
    (runSteps c3 [.dump, .restart, .load, .write w1.entry, .dump, .restart] (bA.fileWrite c3 w2.entry)).frecs.length = 3 := by
  have hif : ∀ es bs, bA.idxFile = some (es, bs) → bs ≤ bA.file.bytes.length :=
    fun es bs hf => by rw [bA_inv.2.2.2] at hf; cases hf
  -- each dump is of an in-memory, non-empty index on a file without a gap (`Hidden.size`): the start after it accepts
  have hO := Hidden.orphan c3 w2.entry bA bA_inv.1.size hif
  have acc1 : (bA.fileWrite c3 w2.entry).dump.Accepts := dump_accepts _ bA_inv.2.1 bA_inv.2.2.1 hO.size
  have h4 := hO.steps c3 [.dump, .restart, .load, .write w1.entry] (by exact ⟨trivial, acc1, trivial, trivial, trivial⟩)
  have acc2 : (runSteps c3 [.dump, .restart, .load, .write w1.entry] (bA.fileWrite c3 w2.entry)).dump.Accepts :=
    dump_accepts _ rfl (List.append_ne_nil_of_right_ne_nil _ (List.cons_ne_nil _ _)) h4.size
  have hacc : AllAccepted c3 [.dump, .restart, .load, .write w1.entry, .dump, .restart] (bA.fileWrite c3 w2.entry) :=
    ⟨trivial, acc1, trivial, trivial, trivial, acc2, trivial⟩
  have h := orphan_hidden_while_accepted c3 w2.entry bA bA_inv.1 hif _ hacc
  have hl : bA.idx.length = 1 := by decide
  have hf : bA.frecs.length = 1 := by decide
  refine ⟨hacc, ?_, ?_⟩
  · rw [h.2.2.1]; simp [writesOf, hl]
  · rw [h.1]; simp [writesOf, hf]

-- ... whereas a write AFTER the last dump makes the next start reject the index file (its `blob_size` is
-- the old length): the index is regenerated and holds all three records
set_option maxRecDepth 1000000 in
example : ¬ (runSteps c3 [.dump, .write w1.entry] (bA.fileWrite c3 w2.entry)).Accepts ∧
    ((runSteps c3 [.dump, .write w1.entry] (bA.fileWrite c3 w2.entry)).restart c3).toBlob.recs.length = 3 := by
  have hif : ∀ es bs, bA.idxFile = some (es, bs) → bs ≤ bA.file.bytes.length :=
    fun es bs hf => by rw [bA_inv.2.2.2] at hf; cases hf
  have hrej : ¬ (runSteps c3 [.dump, .write w1.entry] (bA.fileWrite c3 w2.entry)).Accepts :=
    (Hidden.orphan c3 w2.entry bA bA_inv.1.size hif).dump.write_rejects c3 w1.entry
  have h := orphan_visible_after_rejected_start c3 w2.entry bA bA_inv.1 hif _ (by exact ⟨trivial, trivial, trivial⟩) hrej
  have hf : bA.frecs.length = 1 := by decide
  refine ⟨hrej, ?_⟩
  rw [h.2]; simp [writesOf, hf]


/-! ## `delete_in_closed` through `FuturesUnordered`: the product of the per-blob cancel states

`Storage::delete_in_closed` (src/storage/core.rs) collects `b.delete(..)` of EVERY closed blob into a
`FuturesUnordered` and awaits the fold: all of them are polled, so when the storage-level future is dropped several
of them can be suspended, each at its own await, each with its own closure running in `spawn_blocking`; all those
closures finish.  `deleteSegments` takes the closed blobs one after the other.  Here: a CUT VECTOR `cuts : Nat → Nat`
gives, for the closed blob in slot `i`, the number of segments its own future has completed;
`cancelDeleteProduct c a cuts s0` cuts every blob's future (`blobDeleteItems` of that blob) at its own point, on the
state `delS2` that the sequential part before `delete_in_closed` leaves.  Lemmas: Pearl/Proofs/CancelProduct.lean. -/

/-- For EVERY cut vector: nothing but the closed blobs is touched, and for
    every closed blob `b` (slot `i`) the product state holds in slot `i` exactly what the blob's OWN future, dropped
    at `cuts i` and running ALONE on `delS2`, leaves there; that future touches no other slot; so the blob is in one
    of the three states of `cancel_blob_delete`, whatever the cuts of the other blobs are: files and indexes of
    different blobs do not interact. -/
theorem cancel_delete_product_states (c : Cfg) (a : DArgs) (s0 : CStore) (cuts : Nat → Nat) :
    let s2 := delS2 c a s0
    let t := cancelDeleteProduct c a cuts s0
    (t.active = s2.active ∧ t.nextId = s2.nextId ∧ t.allowDup = s2.allowDup ∧ t.stray = s2.stray ∧
      t.slots.length = s2.slots.length ∧ ∀ i : Nat, s2.slots[i]? = some none → t.slots[i]? = some none) ∧
    ∀ (i : Nat) (b : CBlob), s2.slots[i]? = some (some b) →
      t.slots[i]? = (cancelAfter (cuts i) (blobDeleteItems c (CStore.onSlot i) a true b) s2).slots[i]? ∧
      (∀ j : Nat, j ≠ i →
        (cancelAfter (cuts i) (blobDeleteItems c (CStore.onSlot i) a true b) s2).slots[j]? = s2.slots[j]?) ∧
      ∃ tb, t.slots[i]? = some (some tb) ∧
        (tb = b ∨
         (needMarker a true b = true ∧ c.detached (entryLen c a.entry) = true ∧
           tb = (loadedB b).fileWrite c a.entry) ∨
         (needMarker a true b = true ∧ tb = ((loadedB b).fileWrite c a.entry).pushWritten c a.entry)) := by
  intro s2 t
  have ht : t = prodState c a (kindAt c a s2 cuts) s2 := product_eq c a cuts s0
  refine ⟨?_, ?_⟩
  · rw [ht]
    refine ⟨rfl, rfl, rfl, rfl, (List.length_map _).trans List.length_zipIdx, fun i hi => ?_⟩
    rw [prodState, mapSlots_slot, hi]
    rfl
  intro i b hb
  have p3 := product_slot c a cuts s0 i b hb
  refine ⟨?_, fun j hj => ?_, _, p3, ?_⟩
  · show _ = (cancelBlob c a (cuts i) (i, b) s2).slots[i]?
    rw [p3, cancelBlob_eq, onSlot_slot, if_pos rfl, hb]
    rfl
  · show (cancelBlob c a (cuts i) (i, b) s2).slots[j]? = _
    rw [cancelBlob_eq, onSlot_slot, if_neg (fun h => hj h.symm)]
  have hv := cutOf_valid c a true b (cuts i)
  rw [← loadSel_self]
  generalize cutOf c a true b (cuts i) = kind at hv ⊢
  cases kind with
  | untouched => exact Or.inl rfl
  | orphan => exact Or.inr (Or.inl ⟨hv.1, hv.2, rfl⟩)
  | done => exact Or.inr (Or.inr ⟨hv, rfl⟩)

/-- ... and the product is the FULL product: choose for every closed blob any of the states possible on it
    (`Cut.untouched`; `Cut.orphan` if the key is live in the blob and the write closure is detached; `Cut.done` if
    the key is live in the blob) — some cut vector produces exactly this combination. -/
theorem cancel_delete_product_independent (c : Cfg) (a : DArgs) (s0 : CStore) (kinds : Nat → Cut)
    (hv : ∀ (i : Nat) (b : CBlob), (delS2 c a s0).slots[i]? = some (some b) → (kinds i).Valid c a true b) :
    ∃ cuts, ∀ (i : Nat) (b : CBlob), (delS2 c a s0).slots[i]? = some (some b) →
      (cancelDeleteProduct c a cuts s0).slots[i]? = some (some (cutB c a b (kinds i) b)) := by
  refine ⟨cutsFor (delS2 c a s0) kinds, ?_⟩
  intro i b hb
  rw [product_reaches c a kinds s0 hv]
  unfold prodState
  rw [mapSlots_slot, hb]
  rfl

/-- the product state is not an artefact of the order in which the definition takes the blobs: let every closed
    blob's future perform its actions up to its own cut (synchronous code of the completed segments and the closures
    handed to `spawn_blocking`, the last of them finishing detached), in ANY interleaved order of the actions of the
    different futures (`Interleaving`): the resulting state is `cancelDeleteProduct` -/
theorem cancel_delete_product_interleaving (c : Cfg) (a : DArgs) (s0 : CStore) (cuts : Nat → Nat)
    (l : List (CStore → CStore))
    (h : Interleaving ((closedWithSlots (delS1 a s0)).map
      (fun p => effects (cuts p.1) (blobDeleteItems c (CStore.onSlot p.1) a true p.2))) l) :
    runActs l (delS2 c a s0) = cancelDeleteProduct c a cuts s0 :=
  interleaving_product c a cuts _ (closedWithSlots_nodup _) l h _

/-- the blobs whose marker the dropped delete wrote AND indexed (slot numbers) -/
def markedSet (c : Cfg) (a : DArgs) (s0 : CStore) (cuts : Nat → Nat) : Nat → Bool :=
  doneSet (kindAt c a (delS2 c a s0) cuts)

/-- the blobs whose marker reached the blob file (slot numbers) -/
def reachedSet (c : Cfg) (a : DArgs) (s0 : CStore) (cuts : Nat → Nat) : Nat → Bool :=
  fileSet (kindAt c a (delS2 c a s0) cuts)

/-- `markedSet ⊆ reachedSet ⊆` the targets of the delete (closed blobs in whose index the key is live); without a
    detached write closure (multi-thread runtime, marker of at most 81 920 bytes) the two sets are equal -/
theorem marked_sub_reached_sub_targets (c : Cfg) (a : DArgs) (s0 : CStore) (cuts : Nat → Nat) :
    (∀ i, markedSet c a s0 cuts i = true → reachedSet c a s0 cuts i = true) ∧
    (∀ (i : Nat) (b : CBlob), (delS2 c a s0).slots[i]? = some (some b) → reachedSet c a s0 cuts i = true →
      needMarker a true b = true) ∧
    (∀ i : Nat, (∀ b, (delS2 c a s0).slots[i]? ≠ some (some b)) → reachedSet c a s0 cuts i = false) ∧
    (c.detached (entryLen c a.entry) = false → ∀ (i : Nat) (b : CBlob),
      (delS2 c a s0).slots[i]? = some (some b) → reachedSet c a s0 cuts i = markedSet c a s0 cuts i) := by
  refine ⟨fun i h => doneSet_sub_fileSet _ i h, ?_, ?_, ?_⟩
  · exact fileSet_sub_target c a _ _ (kindAt_valid c a (delS2 c a s0) cuts)
  · intro i hi
    unfold reachedSet fileSet kindAt
    match hs : (delS2 c a s0).slots[i]? with
    | none | some none => simp
    | some (some b) => exact absurd hs (hi b)
  · intro hd i b hb
    exact fileSet_eq_doneSet c a _ _ (kindAt_valid c a (delS2 c a s0) cuts) hd i b hb

/-- The C14 guarantee for the concurrent `delete_in_closed`.  In THIS session the product state is — up to
    where indexes reside (`forgetS`; an orphan marker leaves the index of its blob loaded), hence for every query
    (`QEq`) — the SEQUENTIAL delete restricted to the subset `markedSet` of its target blobs
    (`deleteClosedOn a M`: `Store.blobDelete` on the closed blobs in the slots of `M`, nothing on the others; it is
    the L2 view of `delClosedOn c a M`, the completed `Blob::delete` on exactly those blobs).  PER BLOB the delete
    took effect entirely or not at all: a blob outside `markedSet` has the records it had, a blob inside is
    `Store.blobDelete` of itself.  A mix (marker in blob A, none in blob B) is possible — EVERY subset is reached
    (`cancel_delete_any_subset`) — and this is what the oracle accepts ("a dropped delete may have marked any
    subset of its targets"). -/
theorem cancel_delete_product_subset (c : Cfg) (a : DArgs) (s0 : CStore) (cuts : Nat → Nat) :
    let s2 := delS2 c a s0
    let t := cancelDeleteProduct c a cuts s0
    let M := markedSet c a s0 cuts
    forgetS t.toStore = forgetS (deleteClosedOn a M s2.toStore) ∧
    QEq t.toStore (deleteClosedOn a M s2.toStore) ∧
    deleteClosedOn a M s2.toStore = (delClosedOn c a M s2).toStore ∧
    (∀ (i : Nat) (b : CBlob), s2.slots[i]? = some (some b) → M i = true → needMarker a true b = true) ∧
    ∀ (i : Nat) (b : CBlob), s2.slots[i]? = some (some b) → ∃ tb, t.slots[i]? = some (some tb) ∧
      ((M i = false ∧ forgetB tb.toBlob = forgetB b.toBlob) ∨
       (M i = true ∧ tb.toBlob = (Store.blobDelete b.toBlob a.k a.ts a.m true).1)) := by
  intro s2 t M
  have hv := kindAt_valid c a s2 cuts
  have h1 : forgetS t.toStore = forgetS (deleteClosedOn a M s2.toStore) := by
    show forgetS (cancelDeleteProduct c a cuts s0).toStore = _
    rw [product_eq, toStore_prodState_subset c a _ _ hv, toStore_delClosedOn]
    rfl
  refine ⟨h1, qeq_of_forget h1, (toStore_delClosedOn c a M s2).symm, ?_, ?_⟩
  · intro i b hb hM
    exact (marked_sub_reached_sub_targets c a s0 cuts).2.1 i b hb
      ((marked_sub_reached_sub_targets c a s0 cuts).1 i hM)
  · intro i b hb
    have hk : kindAt c a s2 cuts i = cutOf c a true b (cuts i) := by
      unfold kindAt; rw [hb]
    refine ⟨_, product_slot c a cuts s0 i b hb, ?_⟩
    rw [← hk]
    exact toBlob_cutB_doneSet c a _ i b (hv i b hb)

/-- the two ends of the subset order: the empty subset is the state before `delete_in_closed`, the full subset is
    the completed delete — `Store.delete` -/
theorem subset_delete_ends (c : Cfg) (a : DArgs) (s0 : CStore) :
    delClosedOn c a (fun _ => false) (delS2 c a s0) = delS2 c a s0 ∧
    delClosedOn c a (fun _ => true) (delS2 c a s0) = runItems (deleteSegments c a s0) s0 ∧
    deleteClosedOn a (fun _ => true) (delS2 c a s0).toStore = (s0.toStore.delete a.k a.ts a.m a.oip).1 := by
  refine ⟨delClosedOn_none c a _, delClosedOn_all c a s0, ?_⟩
  rw [← toStore_delClosedOn c a, delClosedOn_all, delete_refines]

/-- EVERY subset `M` is reached: the sequential delete restricted to `M` is itself a product state (cut the
    futures of the blobs of `M` after their last await, do not poll the others).  The cut value 3 is "after the last
    await" because `Blob::delete` with `only_if_presented` has at most 3 awaits (`preAwaits_le`, `cancelBlob_full`). -/
theorem cancel_delete_any_subset (c : Cfg) (a : DArgs) (s0 : CStore) (M : Nat → Bool) :
    cancelDeleteProduct c a (fun i => if M i then 3 else 0) s0 = delClosedOn c a M (delS2 c a s0) := by
  rw [product_eq]
  apply mapSlots_congr
  intro i b hb
  unfold kindAt
  rw [hb]
  show cutB c a b (cutOf c a true b (if M i then 3 else 0)) b = (if M i then delB c a true b else b)
  cases M i
  · exact congrFun (congrArg (cutB c a b) (cutOf_zero c a b)) b
  · simp only [↓reduceIte]
    rw [cutOf_gt c a true b 3 (Nat.lt_succ_of_le (preAwaits_le true b))]
    exact (congrFun (delF_eq_cutB c a true b) b).symm

/-- The later start, and the invariant.  `StoreInv` holds in every product state.  A start that regenerates
    the indexes from the blob files (`regen`) finds the storage in which EXACTLY the blobs whose closure reached the
    file (`reachedSet`) carry the marker (`markOn`): the same storage as after the sequential delete restricted to
    that subset.  When no blob has an index file (`NoIdxFiles`) this is what reopening every blob by
    `Blob::from_file` (`restartBlobs`) gives, and `StoreInv` holds after it. -/
theorem cancel_delete_product_later_start (c : Cfg) (a : DArgs) (s0 : CStore) (cuts : Nat → Nat)
    (hinv : StoreInv c s0) (hm : (serMeta a.entry.1.mt).length < 2 ^ 64) :
    let s2 := delS2 c a s0
    let t := cancelDeleteProduct c a cuts s0
    let F := reachedSet c a s0 cuts
    StoreInv c s2 ∧ StoreInv c t ∧
    t.regen = markOn a F s2.regen ∧
    t.regen = (delClosedOn c a F s2).regen ∧
    (∀ lazy, t.regen.restart lazy = (delClosedOn c a F s2).regen.restart lazy) ∧
    (NoIdxFiles s2 →
      (∀ b, (t.active = some b ∨ some b ∈ t.slots) → ∀ x ∈ b.frecs, (serMeta x.1.mt).length < 2 ^ 64) →
      (t.restartBlobs c).toStore = markOn a F s2.regen ∧ StoreInv c (t.restartBlobs c)) := by
  intro s2 t F
  have hv := kindAt_valid c a s2 cuts
  have hinv2 : StoreInv c s2 := delS2_inv a s0 hinv hm
  have hinvt : StoreInv c t := cancelDeleteProduct_inv a cuts s0 hinv hm
  have ht : t = prodState c a (kindAt c a s2 cuts) s2 := product_eq c a cuts s0
  have h1 : t.regen = markOn a F s2.regen := by rw [ht]; exact regen_prodState_markOn c a _ s2
  have h2 : t.regen = (delClosedOn c a F s2).regen := by rw [ht]; exact regen_prodState_subset c a _ s2 hv
  refine ⟨hinv2, hinvt, h1, h2, fun lazy => by rw [h2], ?_⟩
  intro hn hmt
  have hnt : NoIdxFiles t := by rw [ht]; exact hn.prodState
  exact ⟨by rw [toStore_restartBlobs c t hnt, h1], hinvt.restartBlobs hnt hmt⟩

/-- The later start per blob, WITH index files: the blob file of a blob whose closure reached the file has grown, so an
    index file dumped before the delete is not accepted by the next start; the index is regenerated and holds the
    marker — whether or not the dropped future had indexed it (only a dump AFTER the orphan marker hides it:
    `orphan_hidden_by_dump`) -/
theorem cancel_delete_product_blob_restart (c : Cfg) (a : DArgs) (s0 : CStore) (cuts : Nat → Nat)
    (hinv : StoreInv c s0) (hm : (serMeta a.entry.1.mt).length < 2 ^ 64)
    (i : Nat) (b : CBlob) (hb : (delS2 c a s0).slots[i]? = some (some b))
    (hF : reachedSet c a s0 cuts i = true)
    (hif : ∀ es bs, b.idxFile = some (es, bs) → bs ≤ b.file.bytes.length) :
    ∃ tb, (cancelDeleteProduct c a cuts s0).slots[i]? = some (some tb) ∧ ¬ tb.Accepts ∧
      (tb.restart c).toBlob.recs = b.frecs.map (·.1) ++ [a.entry.1] := by
  have hk : kindAt c a (delS2 c a s0) cuts i = cutOf c a true b (cuts i) := by
    unfold kindAt; rw [hb]
  have hne : cutOf c a true b (cuts i) ≠ .untouched := by
    unfold reachedSet fileSet at hF
    rw [hk] at hF
    simpa using hF
  have hbi : BlobInv c b := (delS2_inv a s0 hinv hm).closed b (List.mem_of_getElem? hb)
  obtain ⟨h1, _, h3⟩ := cut_restart_regenerates c a b _ hne hbi.size hif
  exact ⟨_, product_slot c a cuts s0 i b hb, h1, h3⟩

/-! ### the sequential model is the special case of staircase cut vectors; the invariant and later operations for both -/

/-- the states of the cancelled `Storage::delete` with the concurrent `delete_in_closed`: a cancellation in the
    (sequential) part before it, or a product state -/
def ConcDeleteState (c : Cfg) (a : DArgs) (s0 t : CStore) : Prop :=
  (t = s0 ∨ (needCreate a s0 = true ∧ (t = sFile s0 ∨ t = sHdr s0)) ∨ t = delS1 a s0 ∨
   (∃ b, (delS1 a s0).active = some b ∧ BlobDeleteState c CStore.onActive a a.oip b (delS1 a s0) t)) ∨
  ∃ cuts : Nat → Nat, t = cancelDeleteProduct c a cuts s0

/-- every cancellation point of the SEQUENTIAL model is a state of the concurrent one, with a staircase cut vector
    (`staircase j k`: the blobs in the slots before `j` completed, the blob in slot `j` cut at `k`, the later ones
    not polled) -/
theorem sequential_states_are_staircases (c : Cfg) (a : DArgs) (s0 : CStore) (k : Nat) :
    let t := cancelAfter k (deleteSegments c a s0) s0
    DelHead c a s0 t ∨ t = cancelDeleteProduct c a (fun _ => 0) s0 ∨
    ∃ j, ∃ hj : j < (closedWithSlots (delS1 a s0)).length, ∃ k',
      t = cancelDeleteProduct c a (staircase ((closedWithSlots (delS1 a s0))[j]).1 k') s0 :=
  (delete_cancel_head c a s0 _ ⟨k, rfl⟩).imp_right fun h => h.elim
    (fun h => Or.inl (h.trans (product_zero c a _ _ _ (fun _ _ => rfl)).symm))
    (closed_cancel_is_staircase c a s0 _)

theorem sequential_sub_concurrent (c : Cfg) (a : DArgs) (s0 : CStore) (k : Nat) :
    ConcDeleteState c a s0 (cancelAfter k (deleteSegments c a s0) s0) :=
  (sequential_states_are_staircases c a s0 k).imp_right fun h => h.elim (⟨_, ·⟩) (fun ⟨_, _, _, h⟩ => ⟨_, h⟩)

/-- `cancel_delete_states` is a corollary of the product theorems: a sequential cancel state is a product state at a
    staircase (`sequential_states_are_staircases`), the product state at a staircase is the blob's own cancelled
    future on the state where the earlier blobs completed (`staircase_product`), and that is one of the three states
    of `cancel_blob_delete` -/
theorem cancel_delete_states_from_product (c : Cfg) (a : DArgs) (s0 : CStore) (k : Nat) :
    let t := cancelAfter k (deleteSegments c a s0) s0
    t = s0 ∨ (needCreate a s0 = true ∧ (t = sFile s0 ∨ t = sHdr s0)) ∨ t = delS1 a s0 ∨
    (∃ b, (delS1 a s0).active = some b ∧ BlobDeleteState c CStore.onActive a a.oip b (delS1 a s0) t) ∨
    t = delS2 c a s0 ∨
    (∃ j, ∃ hj : j < (closedWithSlots (delS1 a s0)).length,
      BlobDeleteState c (CStore.onSlot ((closedWithSlots (delS1 a s0))[j]).1) a true
        ((closedWithSlots (delS1 a s0))[j]).2
        (runItems ((delClosedItems c a (delS1 a s0)).take j).flatten (delS2 c a s0)) t) := by
  intro t
  have flat {A B C D E F : Prop} (h : (A ∨ B ∨ C ∨ D) ∨ E ∨ F) : A ∨ B ∨ C ∨ D ∨ E ∨ F := by
    simpa only [or_assoc] using h
  refine flat ((sequential_states_are_staircases c a s0 k).imp_right (Or.imp
    (fun h => h.trans (product_zero c a _ _ _ (fun _ _ => rfl)))
    (fun ⟨j, hj, k', h⟩ => ⟨j, hj, ?_⟩)))
  rw [show t = _ from h, staircase_product c a s0 j hj k']
  exact blobDelete_cancelStates _ _ _ _ _ _ _ ⟨k', rfl⟩

/-- the states a cancelled `Storage::delete` can leave (closed blobs taken one after the other): nothing;
    the leftovers of a cancelled creation of the active blob; the active blob in one of the states of
    `cancel_blob_delete`; or the active blob done, the closed blobs before number `j` done, and closed
    blob `j` in one of the states of `cancel_blob_delete` -/
theorem cancel_delete_states (c : Cfg) (a : DArgs) (s0 : CStore) (k : Nat) :
    let t := cancelAfter k (deleteSegments c a s0) s0
    t = s0 ∨ (needCreate a s0 = true ∧ (t = sFile s0 ∨ t = sHdr s0)) ∨ t = delS1 a s0 ∨
    (∃ b, (delS1 a s0).active = some b ∧ BlobDeleteState c CStore.onActive a a.oip b (delS1 a s0) t) ∨
    t = delS2 c a s0 ∨
    (∃ j, ∃ hj : j < (closedWithSlots (delS1 a s0)).length,
      BlobDeleteState c (CStore.onSlot ((closedWithSlots (delS1 a s0))[j]).1) a true
        ((closedWithSlots (delS1 a s0))[j]).2
        (runItems ((delClosedItems c a (delS1 a s0)).take j).flatten (delS2 c a s0)) t) :=
  cancel_delete_states_from_product c a s0 k

/-- every state of the concurrent model keeps the invariant (`no_reserved_gap`, `parses_after_restart` for it) -/
theorem conc_delete_keeps_inv (c : Cfg) (a : DArgs) (s0 t : CStore) (hinv : StoreInv c s0)
    (hm : (serMeta a.entry.1.mt).length < 2 ^ 64) (ht : ConcDeleteState c a s0 t) : StoreInv c t := by
  rcases ht with (rfl | ⟨_, rfl | rfl⟩ | rfl | ⟨b, _, hb⟩) | ⟨cuts, rfl⟩
  · exact hinv
  · exact hinv.sFile
  · exact hinv.sHdr
  · exact delS1_inv a s0 hinv
  · exact blobDeleteState_inv onActive_sel a a.oip b _ _ (delS1_inv a s0 hinv) hm hb
  · exact cancelDeleteProduct_inv a cuts s0 hinv hm

/-- `no_reserved_gap` and `parses_after_restart` for delete: every cancel state keeps the invariant
    (each file is `blobBytes` of its record list, counters without gap, indexed records load) -/
theorem delete_cancel_keeps_inv (c : Cfg) (a : DArgs) (s0 : CStore) (k : Nat) (hinv : StoreInv c s0)
    (hm : (serMeta a.entry.1.mt).length < 2 ^ 64) :
    StoreInv c (cancelAfter k (deleteSegments c a s0) s0) :=
  conc_delete_keeps_inv c a s0 _ hinv hm (sequential_sub_concurrent c a s0 k)

/-- a write after a cancelled delete succeeds -/
theorem later_write_after_cancelled_delete (c : Cfg) (a : DArgs) (a2 : WArgs) (s0 : CStore) (k : Nat)
    (hinv : StoreInv c s0) (hm : (serMeta a.entry.1.mt).length < 2 ^ 64)
    (hm2 : (serMeta a2.entry.1.mt).length < 2 ^ 64) :
    let t := cancelAfter k (deleteSegments c a s0) s0
    let t2 := runItems (writeSegments c a2 t) t
    t2.toStore = t.toStore.write a2.k a2.ts a2.m a2.d ∧ StoreInv c t2 :=
  let h := later_write_succeeds c a2 _ (delete_cancel_keeps_inv c a s0 k hinv hm) hm2
  ⟨h.1, h.2.1⟩

/-- on ANY state that satisfies the invariant — in particular on every state a cancelled write or delete
    left (`write_cancel_keeps_inv`, `delete_cancel_keeps_inv`) — a delete that is not cancelled is
    `Store.delete` and keeps the invariant -/
theorem later_delete_succeeds (c : Cfg) (a : DArgs) (t : CStore) (hinv : StoreInv c t)
    (hm : (serMeta a.entry.1.mt).length < 2 ^ 64) :
    let t2 := runItems (deleteSegments c a t) t
    t2.toStore = (t.toStore.delete a.k a.ts a.m a.oip).1 ∧ StoreInv c t2 :=
  ⟨delete_refines c a t, cancelAfter_ge _ _ t (Nat.le_refl _) ▸ delete_cancel_keeps_inv c a t _ hinv hm⟩

/-- a delete after a cancelled delete succeeds -/
theorem later_delete_after_cancelled_delete (c : Cfg) (a a2 : DArgs) (s0 : CStore) (k : Nat)
    (hinv : StoreInv c s0) (hm : (serMeta a.entry.1.mt).length < 2 ^ 64)
    (hm2 : (serMeta a2.entry.1.mt).length < 2 ^ 64) :
    let t := cancelAfter k (deleteSegments c a s0) s0
    let t2 := runItems (deleteSegments c a2 t) t
    t2.toStore = (t.toStore.delete a2.k a2.ts a2.m a2.oip).1 ∧ StoreInv c t2 :=
  later_delete_succeeds c a2 _ (delete_cancel_keeps_inv c a s0 k hinv hm) hm2

/-- a later write / delete on a state of the concurrent model succeeds -/
theorem later_ops_after_conc_delete (c : Cfg) (a a2 : DArgs) (w : WArgs) (s0 t : CStore)
    (hinv : StoreInv c s0) (hm : (serMeta a.entry.1.mt).length < 2 ^ 64)
    (hm2 : (serMeta a2.entry.1.mt).length < 2 ^ 64) (hmw : (serMeta w.entry.1.mt).length < 2 ^ 64)
    (ht : ConcDeleteState c a s0 t) :
    ((runItems (deleteSegments c a2 t) t).toStore = (t.toStore.delete a2.k a2.ts a2.m a2.oip).1 ∧
      StoreInv c (runItems (deleteSegments c a2 t) t)) ∧
    ((runItems (writeSegments c w t) t).toStore = t.toStore.write w.k w.ts w.m w.d ∧
      StoreInv c (runItems (writeSegments c w t) t)) :=
  let hi := conc_delete_keeps_inv c a s0 t hinv hm ht
  ⟨later_delete_succeeds c a2 t hi hm2,
    (later_write_succeeds c w t hi hmw).1, (later_write_succeeds c w t hi hmw).2.1⟩


/-! ### witnesses: three closed blobs, key 1 live in all of them (current-thread runtime: closures are detached) -/

def w3 : WArgs := { k := 1, ts := 8, m := none, d := ⟨1, 0⟩, bytes := [9] }

/-- duplicates allowed: key 1 written into blob 0, blob 1 and blob 2, each closed; no active blob -/
def sThree : CStore :=
  let s0 : CStore := { allowDup := true }
  let sA := closeA (runItems (writeSegments c3 w1 s0) s0)
  let sB := closeA (runItems (writeSegments c3 w2 sA) sA)
  closeA (runItems (writeSegments c3 w3 sB) sB)

/-- blob 0 dropped at the await of its write closure (the closure finishes: orphan marker), blob 1 not polled
    beyond its first await, blob 2 completed -/
def cutsW (i : Nat) : Nat := if i = 0 then 1 else if i = 1 then 0 else 2

theorem sThree_inv : StoreInv c3 sThree := by
  have h0 : StoreInv c3 ({ allowDup := true } : CStore) := storeInv_noBlobs c3 _ rfl rfl rfl
  have hA := closeA_keeps_inv c3 _ (h0.write_run w1 (by decide))
  have hB := closeA_keeps_inv c3 _ (hA.write_run w2 (by decide))
  exact closeA_keeps_inv c3 _ (hB.write_run w3 (by decide))

/-- NON-VACUITY, and the concurrent model is strictly larger than the sequential one: on `sThree` every closed
    blob is a target; the cut vector `cutsW` leaves blob 0 with an orphan marker, blob 1 untouched, blob 2 marked:
    in this session the blobs hold 1, 1, 2 records (`markedSet` = {2}), after a regenerating start 2, 1, 2
    (`reachedSet` = {0, 2}); NO cancellation point of the sequential `deleteSegments` gives 1, 1, 2 (its states are
    1,1,1 / 2,1,1 / 2,2,1 / 2,2,2); the completed delete gives 2, 2, 2. -/
theorem cancel_delete_product_witness :
    (closedWithSlots sThree).map (·.1) = [0, 1, 2] ∧
    (∀ p ∈ closedWithSlots sThree, needMarker del1 true p.2 = true) ∧
    (List.range 3).map (kindAt c3 del1 (delS2 c3 del1 sThree) cutsW) = [.orphan, .untouched, .done] ∧
    (List.range 3).map (markedSet c3 del1 sThree cutsW) = [false, false, true] ∧
    (List.range 3).map (reachedSet c3 del1 sThree cutsW) = [true, false, true] ∧
    sThree.toStore.recordsCountDetailed = [1, 1, 1] ∧
    (cancelDeleteProduct c3 del1 cutsW sThree).toStore.recordsCountDetailed = [1, 1, 2] ∧
    (cancelDeleteProduct c3 del1 cutsW sThree).regen.recordsCountDetailed = [2, 1, 2] ∧
    (runItems (deleteSegments c3 del1 sThree) sThree).toStore.recordsCountDetailed = [2, 2, 2] ∧
    (∀ k, (cancelAfter k (deleteSegments c3 del1 sThree) sThree).toStore.recordsCountDetailed ≠ [1, 1, 2]) := by
  -- the last clause need only be checked up to the last await; then everything is evaluation
  rw [show (∀ k, (cancelAfter k (deleteSegments c3 del1 sThree) sThree).toStore.recordsCountDetailed ≠ [1, 1, 2]) ↔
      ∀ k ≤ awaits (deleteSegments c3 del1 sThree),
        (cancelAfter k (deleteSegments c3 del1 sThree) sThree).toStore.recordsCountDetailed ≠ [1, 1, 2] from
    ⟨fun h k _ => h k, forall_cancelAfter (P := fun t : CStore => t.toStore.recordsCountDetailed ≠ [1, 1, 2]) _ _⟩]
  decide +kernel

-- the theorems on the witness
example := cancel_delete_product_states c3 del1 sThree cutsW
example : QEq (cancelDeleteProduct c3 del1 cutsW sThree).toStore
    (deleteClosedOn del1 (markedSet c3 del1 sThree cutsW) (delS2 c3 del1 sThree).toStore) :=
  (cancel_delete_product_subset c3 del1 sThree cutsW).2.1
example : StoreInv c3 (cancelDeleteProduct c3 del1 cutsW sThree) ∧
    (cancelDeleteProduct c3 del1 cutsW sThree).regen =
      markOn del1 (reachedSet c3 del1 sThree cutsW) (delS2 c3 del1 sThree).regen :=
  let h := cancel_delete_product_later_start c3 del1 sThree cutsW sThree_inv (by decide)
  ⟨h.2.1, h.2.2.1⟩
set_option maxRecDepth 1000000 in
-- no blob of `sThree` has an index file: reopening every blob gives the regenerated view
example : NoIdxFiles (delS2 c3 del1 sThree) ∧
    ((cancelDeleteProduct c3 del1 cutsW sThree).restartBlobs c3).toStore.recordsCountDetailed = [2, 1, 2] := by
  have ha : (delS2 c3 del1 sThree).active = none := by decide
  have hs : ∀ o ∈ (delS2 c3 del1 sThree).slots, (o.map (·.idxFile)).getD none = none := by decide
  exact ⟨⟨fun b hb => (by rw [ha] at hb; cases hb), fun b hb => hs (some b) hb⟩, by decide⟩
-- every combination is possible here (all three blobs are targets, closures are detached): e.g. all orphans
example : ∃ cuts, ∀ (i : Nat) (b : CBlob), (delS2 c3 del1 sThree).slots[i]? = some (some b) →
    (cancelDeleteProduct c3 del1 cuts sThree).slots[i]? = some (some (cutB c3 del1 b .orphan b)) :=
  cancel_delete_product_independent c3 del1 sThree (fun _ => .orphan) (by
    intro i b hb
    have hmem : (i, b) ∈ closedWithSlots sThree := by
      unfold closedWithSlots
      rw [List.mem_filterMap]
      exact ⟨(some b, i), List.mk_mem_zipIdx_iff_getElem?.mpr hb, rfl⟩
    exact ⟨cancel_delete_product_witness.2.1 (i, b) hmem, rfl⟩)
-- an interleaving of the six actions of the three futures (2, 1 and 3 of them): blob 2, 0, 2, 1, 0, 2
set_option maxRecDepth 100000 in
example : ∃ l, l.length = 6 ∧ runActs l (delS2 c3 del1 sThree) = cancelDeleteProduct c3 del1 cutsW sThree := by
  have hI : ∃ l, Interleaving ((closedWithSlots (delS1 del1 sThree)).map
      (fun p => effects (cutsW p.1) (blobDeleteItems c3 (CStore.onSlot p.1) del1 true p.2))) l ∧ l.length = 6 := by
    refine ⟨_, Interleaving.step 2 _ _ rfl (Interleaving.step 0 _ _ rfl (Interleaving.step 2 _ _ rfl
      (Interleaving.step 1 _ _ rfl (Interleaving.step 0 _ _ rfl (Interleaving.step 2 _ _ rfl
        (Interleaving.done ?_)))))), rfl⟩
    intro L hL
    rcases List.mem_cons.mp hL with rfl | hL
    · rfl
    rcases List.mem_cons.mp hL with rfl | hL
    · rfl
    rcases List.mem_cons.mp hL with rfl | hL
    · rfl
    cases hL
  obtain ⟨l, hl, hlen⟩ := hI
  exact ⟨l, hlen, cancel_delete_product_interleaving c3 del1 sThree cutsW l hl⟩
-- the staircases: the sequential cancellation point 5 (blob 0 done, blob 1 at the await of its write closure)
set_option maxRecDepth 1000000 in
example : (cancelAfter 5 (deleteSegments c3 del1 sThree) sThree).toStore.recordsCountDetailed = [2, 1, 1] ∧
    (cancelAfter 5 (deleteSegments c3 del1 sThree) sThree).regen.recordsCountDetailed = [2, 2, 1] ∧
    (cancelDeleteProduct c3 del1 (staircase 1 1) sThree).toStore.recordsCountDetailed = [2, 1, 1] ∧
    (cancelDeleteProduct c3 del1 (staircase 1 1) sThree).regen.recordsCountDetailed = [2, 2, 1] := by
  decide +kernel


end Pearl.C14

/-
Statements that are FALSE of the model, each with its refutation and the part of it that is true:
  * "a cancelled write takes effect entirely or not at all, the same in this session and after a restart":
    false exactly in the orphan state (`cancel_atomic_write`, third clause; `orphan_reachable`;
    `orphan_state`): dropped at the await of `write_to_file` while the reservation + pwrite run in a detached
    `spawn_blocking` closure (current-thread runtime, or a record above 81 920 bytes). In this session the
    record does not exist; a start that regenerates the index finds it (`orphan_visible_after_regen`,
    `orphan_alone_visible`); if the in-memory index is dumped first the index file validates (its
    `blob_size` includes the orphan) and the record stays invisible until some later regeneration
    (`orphan_hidden_by_dump`). True without a detached closure: `cancel_atomic_write_inline`.
    Consequence `duplicate_after_orphan`: two records of one key although duplicates are not allowed.
  * `parses_after_restart` as "EVERY blob file in the directory is `blobBytes` of a record list": false —
    `cancelled_creation_leaves_empty_file` (a write / delete that has to create the active blob, dropped at
    the await of the file creation, leaves a 0-byte blob file that the next start-up quarantines; the blob
    id is used up). True for every blob that belongs to the storage: `parses_after_restart`.
  * "a cancelled delete takes effect entirely or not at all": false across blobs —
    `cancel_delete_not_atomic`. True blob by blob, with the same orphan exception: `cancel_blob_delete`,
    `blob_delete_views`; for the concurrent `delete_in_closed`: `cancel_delete_product_subset` (any subset of the
    targets may be marked).

WHAT THE PRODUCT MODEL ABSTRACTS: cut vectors are indexed by SLOT number (`cutsOfIds` turns a vector indexed by
blob id into one; `product_congr`: only the values at slots holding a closed blob matter); the closures of different
blobs are atomic actions (a closure is one `pwrite` sequence on its own file — C11 covers I/O errors inside it, none
occur here); `FuturesUnordered`'s polling order is not modelled — it cannot matter (`cancel_delete_product_interleaving`).

NOT PROVED
  1. `close_active` / `restore_active` as segment lists with their await points (`dump` of the closed blob runs
     in `spawn_blocking`): not modelled, hence no cancellation statement for them.
  2. The multi-session statements (`orphan_hidden_rounds`, `orphan_hidden_while_accepted`) are per blob
     (`CBlob.restart`).  For the whole storage ONE start is stated, after a cancelled concurrent delete
     (`cancel_delete_product_later_start`): every blob reopened by `Blob::from_file` (`CStore.restartBlobs`; without
     index files its L2 view is `regen`) and `Store.restart` applied to that view.  A start on `CStore` itself that also
     sorts the blobs by id, makes the last one active and dumps the others is not defined at this level, so "the L2 store
     after n sessions" is not stated.
-/
