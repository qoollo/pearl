import Pearl.Proofs.WorkerLemmas
import Pearl.Proofs.WorkerTimed
/-
C13 — background maintenance stays alive: rotation continues and close terminates.

The statements about the untimed loop are schemas in the error policy `p : ErrorPolicy` of the worker loop
(`processMsgWith p`, `runWorkerWith p`):

* `ErrorPolicy.panic`          = `processMsg` / `runWorker`           = the loop before /repo 33c2a77
                                                                        (`process_msg(msg).await?`, `panic!`);
* `ErrorPolicy.logAndContinue` = `processMsgFixed` / `runWorkerFixed` = the loop since /repo 33c2a77
                                                                        (the code as it is now).

The theorems that hold for every policy are proved once for `p` (`*_with`); `worker_total` holds only for
`logAndContinue` and is refuted for `panic` (`worker_total_refuted_before_fix`, kept as the recorded witness of the
defect).  `CURRENT` (section "the policy of the code now") is the policy of /repo HEAD, `logAndContinue`: `worker_total`,
`overflow_switches`, `rotation_continues` and the theorems named `*_current` are stated with `CURRENT`; the theorems named
`*_fixed` and the unsuffixed `no_switch_below_limit`, `dumps_complete`, `dumps_complete_after_switch`, `close_terminates`
are stated with `processMsgFixed` / `runWorkerFixed` / `.logAndContinue`, which is the same policy written out.

The second half (C13/7) is about the timed loop `Pearl/Model/WorkerTimed.lean`, whose policy is `logAndContinue`; its schema
is the variant `v` of the deferred-dump code.  WHICH VARIANT IS THE CODE: /repo HEAD is `Variant.repaired` (`stepRepaired`,
`runRepaired`): `src/storage/observer_worker.rs:224-228` re-arms the deadline in the re-create branch, since 41a1848.
`Variant.shipped` (`step`, `run`) is the code BEFORE 41a1848; "the shipped variant" below always means that older code.

The labels `C13/n` of the docstrings:
* 1 the worker survives every message sequence; 2 an overflow switches the active blob; 3 rotation continues after any
  message sequence; 4 no switch below the limits; 5 a dump request is carried out (5b after a switch, 5c no request is
  lost, 5d a request that arrives during a dump pass; in the file 5c, 5d stand before 5b); 6 close terminates;
* 7 the timing of deferred dumps: 7.1 a registered deferred dump has an armed deadline; 7.2 where the deadline lies;
  7.3 the deferred dump runs, and is retried when a dump task was in its way; 7.4 the timed loop, clock erased, is the
  untimed one, and conversely the untimed `deadlineDue` becomes enabled by itself.
-/
namespace Pearl
namespace C13

open Worker

/-- the worker survives every message sequence -/
def WorkerTotal (p : ErrorPolicy) : Prop :=
  ∀ (lim : Limits) (st : WState) (msgs : List Msg), st.alive = true → (runWorkerWith p lim st msgs).alive = true

/-- a `TryUpdateActiveBlob` message that arrives at a live worker -/
abbrev tryUpdate : Msg := .op .tryUpdateActiveBlob none
abbrev tryDump : Msg := .op .tryDumpBlobIndexes none

/-! ## the `?`-propagating loop (before the repair): `worker_total` is false -/

/-- a storage without an active blob (e.g. right after `init_lazy`, or after `try_close_active_blob`) -/
def noActive : WState := { store := {} }

/-- a storage right after `init`: one empty active blob -/
def fresh : WState := { store := ({} : Store).createActive }

def lim2 : Limits := { maxCount := 2, maxSize := 1000 }

/-- `worker_total` for the `?`-propagating loop, i.e. `∀ st msgs, st.alive → (runWorker st msgs).alive`, is refuted:
    `close_active_blob_in_background()` on a storage without an active blob kills the worker
    (`Inner::close_active_blob` returns `ActiveBlobDoesntExist`, `?` in `process_msg`, `?` in `tick`,
    `panic!` in `run`). -/
theorem worker_total_refuted_before_fix :
    ¬ (∀ (lim : Limits) (st : WState) (msgs : List Msg), st.alive = true → (runWorker lim st msgs).alive = true) := by
  intro h
  have := h lim2 noActive [.op .closeActiveBlob none] rfl
  exact absurd this (by decide)

theorem worker_total_refuted_before_fix' : ¬ WorkerTotal .panic := worker_total_refuted_before_fix

/-- the same with `create_active_blob_in_background()` on a freshly initialised storage (which has an
    active blob): `ActiveBlobExists` -/
theorem worker_dies_on_create_before_fix :
    (runWorker lim2 fresh [.op .createActiveBlob none]).alive = false := by decide

/-- the same with `restore_active_blob_in_background()` while an active blob exists: `ActiveBlobExists` -/
theorem worker_dies_on_restore_before_fix :
    (runWorker lim2 fresh [.op .restoreActiveBlob none]).alive = false := by decide

/-- … and with nothing to restore: `Uninitialized` -/
theorem worker_dies_on_restore_empty_before_fix :
    (runWorker lim2 noActive [.op .restoreActiveBlob none]).alive = false := by decide

/-- the three failing arms are exactly the ones that kill the worker -/
theorem worker_dies_iff_error_before_fix (lim : Limits) (st : WState) (m : Msg) (ha : st.alive = true) :
    (processMsg lim st m).alive = false ↔ ∃ e, processE lim st m = .error e := by
  constructor
  · intro h
    cases he : processE lim st m with
    | error e => exact ⟨e, rfl⟩
    | ok w' =>
      have h1 : processMsg lim st m = w' := processMsgWith_ok .panic lim st w' m ha he
      have h2 := processE_alive he
      rw [h1, h2, ha] at h
      cases h
  · rintro ⟨e, he⟩
    exact processMsgWith_panic_error lim st m e ha he

/-- a full active blob -/
def fullBlob : Blob :=
  { id := 0, recs := [{ key := 1, ts := 1, del := false, mt := none, data := ⟨3, 0⟩ },
                      { key := 2, ts := 2, del := false, mt := none, data := ⟨3, 0⟩ }] }

def fullSt : WState := { store := { active := some fullBlob, nextId := 1 } }

/-- consequence: rotation stops.  One stray `create_active_blob_in_background()` and the full active blob
    is never replaced, whatever is sent afterwards. -/
theorem rotation_stops_before_fix :
    (runWorker lim2 fullSt [.op .createActiveBlob none, tryUpdate]).store.active = some fullBlob := by decide

/-- … and stays stopped for every later message sequence -/
theorem rotation_stops_forever_before_fix (msgs : List Msg) :
    (runWorker lim2 fullSt (.op .createActiveBlob none :: msgs)).store.active = some fullBlob := by
  show (runWorkerWith .panic lim2 (processMsgWith .panic lim2 fullSt (.op .createActiveBlob none)) msgs).store.active = _
  rw [runWorkerWith_dead _ _ _ _ (by decide)]
  decide

/-! ## the repaired loop (the code as it is now) -/

/-- C13/1: the worker survives every message sequence -/
theorem worker_total_fixed : WorkerTotal .logAndContinue := by
  intro lim st msgs
  induction msgs generalizing st with
  | nil => intro h; exact h
  | cons m ms ih =>
    intro h
    rw [runWorkerWith_cons]
    exact ih _ (processMsgWith_continue_alive lim st m h)

/-- unfolded form of `worker_total_fixed` -/
theorem worker_total_fixed' (lim : Limits) (st : WState) (msgs : List Msg) (h : st.alive = true) :
    (runWorkerFixed lim st msgs).alive = true := worker_total_fixed lim st msgs h

-- non-vacuity: the sequence that refutes the old loop is survived, and the state is untouched
example : (runWorkerFixed lim2 noActive [.op .closeActiveBlob none]).alive = true := by decide
example : (runWorkerFixed lim2 noActive [.op .closeActiveBlob none]).store.active = none := by decide
example : (runWorkerFixed lim2 fresh [.op .createActiveBlob none, .op .restoreActiveBlob none]).store.nextId = 1 := by decide

/-- a failed message changes nothing (state unchanged on error) -/
theorem failed_msg_is_noop_fixed (lim : Limits) (st : WState) (m : Msg) (e : ErrKind)
    (he : processE lim st m = .error e) : processMsgFixed lim st m = st :=
  processMsgWith_continue_error lim st m e he

example : processE lim2 noActive (.op .closeActiveBlob none) = .error .activeBlobDoesntExist := rfl

/-- the messages that can fail at all: `CreateActiveBlob` / `CloseActiveBlob` / `RestoreActiveBlob` whose
    precondition does not hold.  Everything else — in particular `process_defered`, whose `?` still leads to
    the `panic!` in `run` — always succeeds in the model. -/
theorem failing_messages {lim : Limits} {st : WState} {m : Msg} {e : ErrKind} (h : processE lim st m = .error e) :
    ∃ pred,
      (m = .op .createActiveBlob pred ∧ st.store.tryCreateActive = .error e) ∨
      (m = .op .closeActiveBlob pred ∧ st.store.closeActive = .error e) ∨
      (m = .op .restoreActiveBlob pred ∧ st.store.restoreActive = .error e) := by
  cases m with
  | op t pred =>
    have := processOp_armEnd lim st t pred
    rw [show processOp lim st t pred = _ from h] at this
    have hm : ∀ {t'}, t = t' → Msg.op t pred = .op t' pred := fun e => e ▸ rfl
    exact ⟨pred, this.imp (.imp hm id) (.imp (.imp hm id) (.imp hm id))⟩
  | deadlineDue => cases h
  | dumpDone => cases h
  | fsyncDone => cases h

example : processE lim2 fresh (.op .createActiveBlob none) = .error .activeBlobExists := rfl
example : processE lim2 noActive (.op .restoreActiveBlob none) = .error .uninitialized := rfl

/-! ## statements that hold for every policy (hence for both `processMsg` and `processMsgFixed`) -/

/-- what `tryUpdate` does to a live worker whose active blob is full -/
theorem overflow_switches_with (p : ErrorPolicy) (lim : Limits) (st : WState) (a : Blob)
    (halive : st.alive = true) (hact : st.store.active = some a) (hfull : lim.full a = true) :
    let st' := processMsgWith p lim st tryUpdate
    st'.alive = true ∧
    st'.store.active = some { id := st.store.nextId, recs := [] } ∧
    st'.store.nextId = st.store.nextId + 1 ∧
    st'.store.slots = st.store.slots ++ [some a] ∧
    a ∈ st'.store.closed ∧
    (st'.dumpRunning = true ∨ st'.deferred = true) := by
  simp only [processMsgWith_tryUpdate_full p halive hact hfull]
  have hst : st.store.replaceActive =
      { st.store with active := some { id := st.store.nextId, recs := [] }, nextId := st.store.nextId + 1,
                      slots := st.store.slots ++ [some a] } := by
    simp [Store.replaceActive, Store.createActive, hact]
  refine ⟨halive, ?_, ?_, ?_, mem_closed_replaceActive hact, ?_⟩
  · rw [hst]
  · rw [hst]
  · rw [hst]
  · cases st.deferred <;> simp

/-- C13/2: a live worker that receives `TryUpdateActiveBlob` while the active blob is at or over the record
    limit installs a fresh empty active blob whose id is the old `nextId`, and the old one is among the
    closed blobs -/
theorem overflow_switches_fixed (lim : Limits) (st : WState) (a : Blob)
    (halive : st.alive = true) (hact : st.store.active = some a) (hfull : lim.maxCount ≤ a.count) :
    let st' := processMsgFixed lim st tryUpdate
    st'.alive = true ∧
    st'.store.active = some { id := st.store.nextId, recs := [] } ∧
    st'.store.nextId = st.store.nextId + 1 ∧
    st'.store.slots = st.store.slots ++ [some a] ∧
    a ∈ st'.store.closed ∧
    (st'.dumpRunning = true ∨ st'.deferred = true) :=
  overflow_switches_with .logAndContinue lim st a halive hact (by simp [Limits.full, hfull])

/-- the same for the size limit -/
theorem overflow_switches_size_fixed (lim : Limits) (st : WState) (a : Blob)
    (halive : st.alive = true) (hact : st.store.active = some a) (hfull : lim.maxSize ≤ a.fileSize) :
    let st' := processMsgFixed lim st tryUpdate
    st'.store.active = some { id := st.store.nextId, recs := [] } ∧ a ∈ st'.store.closed :=
  let h := overflow_switches_with .logAndContinue lim st a halive hact (by simp [Limits.full, hfull])
  ⟨h.2.1, h.2.2.2.2.1⟩

-- non-vacuity: the hypotheses are satisfiable and the switch is visible
example : fullSt.alive = true ∧ fullSt.store.active = some fullBlob ∧ lim2.maxCount ≤ fullBlob.count := by decide
example : (processMsgFixed lim2 fullSt tryUpdate).store.active = some { id := 1, recs := [] } := by decide
example : (processMsgFixed lim2 fullSt tryUpdate).store.closed = [fullBlob] := by decide
example : (processMsgFixed lim2 fullSt tryUpdate).dumpRunning = true := by decide

/-- C13/3 (rotation continues): after ANY message sequence the repaired worker still rotates a full blob -/
theorem rotation_continues_fixed (lim : Limits) (st : WState) (msgs : List Msg) (a : Blob)
    (halive : st.alive = true)
    (hact : (runWorkerFixed lim st msgs).store.active = some a) (hfull : lim.maxCount ≤ a.count) :
    let st1 := runWorkerFixed lim st msgs
    let st2 := runWorkerFixed lim st (msgs ++ [tryUpdate])
    st2.store.active = some { id := st1.store.nextId, recs := [] } ∧ a ∈ st2.store.closed := by
  have h1 := worker_total_fixed lim st msgs halive
  have h := overflow_switches_fixed lim (runWorkerFixed lim st msgs) a h1 hact hfull
  simp only [runWorkerFixed, runWorkerWith_append]
  exact ⟨h.2.1, h.2.2.2.2.1⟩

-- non-vacuity: the sequence that stopped rotation in the old loop does not stop it any more
example : (runWorkerFixed lim2 fullSt ([.op .createActiveBlob none] ++ [tryUpdate])).store.active
    = some { id := 1, recs := [] } := by decide

/-- C13/4: below both limits `TryUpdateActiveBlob` changes nothing (any policy) -/
theorem no_switch_below_limit_with (p : ErrorPolicy) (lim : Limits) (st : WState) (a : Blob)
    (hact : st.store.active = some a) (hc : a.count < lim.maxCount) (hs : a.fileSize < lim.maxSize) :
    processMsgWith p lim st tryUpdate = st := by
  have hnf : ∀ b, st.store.active = some b → lim.full b = false := by
    intro b hb
    cases hact.symm.trans hb
    simp only [Limits.full, Bool.or_eq_false_iff, decide_eq_false_iff_not]
    omega
  unfold processMsgWith
  split
  · rfl
  · rw [processE_tryUpdate_notFull hnf]

theorem no_switch_below_limit (lim : Limits) (st : WState) (a : Blob)
    (hact : st.store.active = some a) (hc : a.count < lim.maxCount) (hs : a.fileSize < lim.maxSize) :
    processMsgFixed lim st tryUpdate = st :=
  no_switch_below_limit_with .logAndContinue lim st a hact hc hs

/-- without an active blob nothing is switched either -/
theorem no_switch_without_active_with (p : ErrorPolicy) (lim : Limits) (st : WState)
    (hact : st.store.active = none) : processMsgWith p lim st tryUpdate = st := by
  unfold processMsgWith
  split
  · rfl
  · rw [processE_tryUpdate_notFull (fun a ha => nomatch hact.symm.trans ha)]

def halfBlob : Blob := { id := 0, recs := [{ key := 1, ts := 1, del := false, mt := none, data := ⟨3, 0⟩ }] }
def halfSt : WState := { store := { active := some halfBlob, nextId := 1 } }
example : halfSt.store.active = some halfBlob ∧ halfBlob.count < lim2.maxCount ∧ halfBlob.fileSize < lim2.maxSize := by
  decide
example : (processMsgFixed lim2 halfSt tryUpdate).store.active = some halfBlob := by decide

/-- C13/5: after `TryDumpBlobIndexes` and the completion of the dump task every closed non-empty blob has its
    index on disk (any policy; the worker only has to be alive) -/
theorem dumps_complete_with (p : ErrorPolicy) (lim : Limits) (st : WState) (halive : st.alive = true) :
    let st1 := processMsgWith p lim st tryDump
    let st2 := processMsgWith p lim st1 .dumpDone
    st1.dumpRunning = true ∧ st2.dumpRunning = false ∧
    st2.store.active = st.store.active ∧
    ∀ b ∈ st2.store.closed, b.recs ≠ [] → b.onDisk = true := by
  simp [processMsgWith_tryDump, processMsgWith_dumpDone, halive]
  exact ⟨rfl, fun b hb hne => settle_onDisk hb hne⟩

theorem dumps_complete (lim : Limits) (st : WState) (halive : st.alive = true) :
    let st2 := processMsgFixed lim (processMsgFixed lim st tryDump) .dumpDone
    ∀ b ∈ st2.store.closed, b.recs ≠ [] → b.onDisk = true :=
  (dumps_complete_with .logAndContinue lim st halive).2.2.2

-- non-vacuity: a closed non-empty blob that is not yet on disk gets dumped
def closedSt : WState := { store := { active := none, slots := [some fullBlob], nextId := 1 } }
example : closedSt.store.closed = [fullBlob] ∧ fullBlob.onDisk = false ∧ fullBlob.recs ≠ [] := by decide
example : (processMsgFixed lim2 (processMsgFixed lim2 closedSt tryDump) .dumpDone).store.closed
    = [{ fullBlob with onDisk := true }] := by decide

/-! ### E27: a dump request that arrives while a dump task is running

`try_run_old_blob_indexes_dump_task` refuses to start a second task.  The task that is running may already be past the
blobs the request is about (it walks the closed blobs once, releasing the locks between time quanta, and its
`JoinHandle` reports "finished" only some time after its last blob), so the request must not be forgotten.  Up to
/repo 57a2e71 the `TryDumpBlobIndexes` arm of `process_msg` ignored the refusal: the request was lost
(`dump_request_lost_before_fix`; replayed on the real code with the `taskend` pause point, `corpus/C13/e27-…`).
Since the `fix:` commit the arm defers it like the rotation arm does (`dump_request_never_lost`). -/

/-- the `TryDumpBlobIndexes` arm of `process_msg` before the repair of E27 -/
def tryDumpArmBefore (w : WState) : WState := (tryRunDump w).1

/-- E27, before the repair: a request that finds a dump task running changes nothing at all - no task is started for
    it and nothing is registered that would start one later -/
theorem dump_request_lost_before_fix (w : WState) (h : w.dumpRunning = true) : tryDumpArmBefore w = w := by
  simp [tryDumpArmBefore, tryRunDump, h]

-- the witness: a dump task is running, nothing deferred; after the request still nothing is deferred
example : (tryDumpArmBefore { closedSt with dumpRunning := true }).deferred = false := by decide

/-- C13/5c (any policy): no dump request is lost.  A request received by a live worker either starts a dump task
    (none was running) or registers a deferred dump (one was running); in both cases a task is running afterwards
    and nothing else changes. -/
theorem dump_request_never_lost (p : ErrorPolicy) (lim : Limits) (st : WState) (halive : st.alive = true) :
    let st1 := processMsgWith p lim st tryDump
    st1.alive = true ∧ st1.dumpRunning = true ∧ st1.store = st.store ∧
    (st.dumpRunning = false → st1.deferred = st.deferred) ∧
    (st.dumpRunning = true → st1.deferred = true) := by
  rw [processMsgWith_tryDump p lim halive]
  exact ⟨halive, rfl, rfl, fun h => by simp [h], fun h => by simp [h]⟩

/-- C13/5d (any policy): the request that arrived while a dump task was running is carried out.  After the end of
    the running task, the deadline of the deferred dump and the end of the task it starts, every closed non-empty
    blob has its index on disk and nothing is left pending. -/
theorem dump_request_during_pass_completes (p : ErrorPolicy) (lim : Limits) (st : WState)
    (halive : st.alive = true) (hrun : st.dumpRunning = true) :
    let st1 := runWorkerWith p lim st [tryDump, .dumpDone]
    let st' := runWorkerWith p lim st [tryDump, .dumpDone, .deadlineDue, .dumpDone]
    (st1.deferred = true ∧ st1.dumpRunning = false) ∧
    (runWorkerWith p lim st [tryDump, .dumpDone, .deadlineDue]).dumpRunning = true ∧
    st'.alive = true ∧ st'.deferred = false ∧ st'.dumpRunning = false ∧
    ∀ b ∈ st'.store.closed, b.recs ≠ [] → b.onDisk = true := by
  simp [runWorkerWith, processMsgWith_tryDump, processMsgWith_dumpDone, processMsgWith_deadlineDue, halive, hrun]
  exact fun b hb hne => settle_onDisk hb hne

-- non-vacuity: a task is running and nothing is deferred when the request arrives
example : (runWorkerFixed lim2 { closedSt with dumpRunning := true } [tryDump]).deferred = true := by decide
example : ((runWorkerFixed lim2 { closedSt with dumpRunning := true } [tryDump, .dumpDone, .deadlineDue, .dumpDone]).store.closed.map
    (·.onDisk)) = [true] := by decide

/-- the dump that follows a switch: in the repaired loop `[tryUpdate, deadlineDue*, dumpDone]` ends with the
    rotated blob dumped — shown on the running example (switch starts the dump at once) -/
example : ((runWorkerFixed lim2 fullSt [tryUpdate, .dumpDone]).store.closed.map (·.onDisk)) = [true] := by decide

/-- C13/5b: the dump that follows a switch.  Whatever the state of the dump machinery when the switch happens
    (a dump in flight, a deferred dump registered, both, neither), after the switch, the end of the dump in
    flight, the deadline of the deferred dump and the end of the dump it starts, the rotated blob is among
    the closed ones and every closed non-empty blob has its index on disk; nothing is left pending. -/
theorem dumps_complete_after_switch_with (p : ErrorPolicy) (lim : Limits) (st : WState) (a : Blob)
    (halive : st.alive = true) (hact : st.store.active = some a) (hfull : lim.full a = true) :
    let st' := runWorkerWith p lim st [tryUpdate, .dumpDone, .deadlineDue, .dumpDone]
    st'.alive = true ∧ st'.deferred = false ∧ st'.dumpRunning = false ∧
    (∃ a' ∈ st'.store.closed, a'.id = a.id ∧ a'.recs = a.recs) ∧
    ∀ b ∈ st'.store.closed, b.recs ≠ [] → b.onDisk = true := by
  have h1 := processMsgWith_tryUpdate_full p halive hact hfull
  have hal : (processMsgWith p lim st tryUpdate).alive = true := by rw [h1]; exact halive
  have hmem : a ∈ (processMsgWith p lim st tryUpdate).store.closed := by
    rw [h1]; exact mem_closed_replaceActive hact
  obtain ⟨s, hrun, hs⟩ := runWorkerWith_flush p lim hal (by rw [h1]; cases st.deferred <;> simp)
  dsimp only
  rw [runWorkerWith_cons, hrun]
  refine ⟨hal, rfl, rfl, ?_, fun b hb hne => settle_onDisk hb hne⟩
  rcases hs with rfl | rfl
  · exact settle_preserves hmem
  · obtain ⟨a1, ha1, hid1, hrec1⟩ := settle_preserves hmem
    obtain ⟨a2, ha2, hid2, hrec2⟩ := settle_preserves ha1
    exact ⟨a2, ha2, hid2.trans hid1, hrec2.trans hrec1⟩

theorem dumps_complete_after_switch (lim : Limits) (st : WState) (a : Blob)
    (halive : st.alive = true) (hact : st.store.active = some a) (hfull : lim.maxCount ≤ a.count) :
    let st' := runWorkerFixed lim st [tryUpdate, .dumpDone, .deadlineDue, .dumpDone]
    (∃ a' ∈ st'.store.closed, a'.id = a.id ∧ a'.recs = a.recs) ∧
    ∀ b ∈ st'.store.closed, b.recs ≠ [] → b.onDisk = true :=
  (dumps_complete_after_switch_with .logAndContinue lim st a halive hact (by simp [Limits.full, hfull])).2.2.2

-- non-vacuity: a dump is in flight AND a deferred dump is registered when the switch happens
example : (runWorkerFixed lim2 { fullSt with deferred := true, dumpRunning := true }
    [tryUpdate, .dumpDone, .deadlineDue, .dumpDone]).store.closed = [{ fullBlob with onDisk := true }] := by decide
-- … and the intermediate state: after the switch the blob is closed but not yet dumped
example : ((runWorkerFixed lim2 { fullSt with deferred := true, dumpRunning := true } [tryUpdate]).store.closed.map
    (·.onDisk)) = [false] := by decide

/-- C13/6 (close terminates), any policy: started alive with `queued` messages in the channel and the sender
    dropped, the `run` loop leaves the `running` phase after at most `queued.length + 1` iterations, having
    computed `shutdownWith` -/
theorem close_terminates_with (p : ErrorPolicy) (lim : Limits) (st : WState) (queued : List Msg)
    (halive : st.alive = true) :
    let c := loopN p lim (queued.length + 1) { w := st, queue := queued, phase := .running }
    c.phase ≠ .running ∧ c.w = shutdownWith p lim st queued := by
  have h := loopN_spec p lim queued st halive
  simp only at h ⊢
  refine ⟨?_, h.1⟩
  rw [h.2]
  split <;> simp

/-- C13/6 for the repaired loop: it reaches `stopped` (never `panicked`), every queued message has been
    consumed by `runWorkerFixed`, and both task handles have been awaited -/
theorem close_terminates (lim : Limits) (st : WState) (queued : List Msg) (halive : st.alive = true) :
    let c := loopN .logAndContinue lim (queued.length + 1) { w := st, queue := queued, phase := .running }
    c.phase = .stopped ∧
    c.w = drain (runWorkerFixed lim st queued) ∧
    c.w.alive = true ∧ c.w.dumpRunning = false ∧ c.w.fsyncRunning = false ∧
    (∀ b ∈ c.w.store.closed, (runWorkerFixed lim st queued).dumpRunning = true → b.recs ≠ [] → b.onDisk = true) := by
  have h := loopN_spec .logAndContinue lim queued st halive
  have hal := worker_total_fixed lim st queued halive
  simp only at h ⊢
  obtain ⟨hw, hp⟩ := h
  rw [hal] at hp
  have hw' : (loopN .logAndContinue lim (queued.length + 1) { w := st, queue := queued, phase := .running }).w =
      drain (runWorkerFixed lim st queued) := by
    rw [hw]; simp [shutdownWith, hal, runWorkerFixed]
  refine ⟨by simpa using hp, hw', ?_, ?_, ?_, ?_⟩
  · rw [hw']; simpa [drain, runWorkerFixed] using hal
  · rw [hw']; rfl
  · rw [hw']; rfl
  · intro b hb hrun hne
    rw [hw'] at hb
    simp only [drain, hrun, ↓reduceIte] at hb
    exact settle_onDisk hb hne

/-- totality of the message loop, said without the machine: the run over a concatenation is the run over the
    parts — every finite message list is consumed -/
theorem runWorker_consumes (p : ErrorPolicy) (lim : Limits) (st : WState) (a b : List Msg) :
    runWorkerWith p lim st (a ++ b) = runWorkerWith p lim (runWorkerWith p lim st a) b :=
  runWorkerWith_append p lim st a b

-- non-vacuity: with a failing message in the queue the repaired loop stops normally and has dumped;
-- the old loop ends in `panicked` and has not
example :
    (loopN .logAndContinue lim2 3 { w := fullSt, queue := [.op .createActiveBlob none, tryUpdate] }).phase = .stopped := by
  decide
example :
    ((loopN .logAndContinue lim2 3 { w := fullSt, queue := [.op .createActiveBlob none, tryUpdate] }).w.store.closed.map
      (·.onDisk)) = [true] := by decide
example :
    (loopN .panic lim2 3 { w := fullSt, queue := [.op .createActiveBlob none, tryUpdate] }).phase = .panicked := by
  decide

/-! ## the policy of the code now

Since /repo 33c2a77 the loop is `logAndContinue`.  These are the C13 theorems about the code as it is, stated with the name
`CURRENT` instead of the policy. -/

abbrev CURRENT : ErrorPolicy := .logAndContinue

/-- C13/1 -/
theorem worker_total : ∀ (lim : Limits) (st : WState) (msgs : List Msg),
    st.alive = true → (runWorkerWith CURRENT lim st msgs).alive = true :=
  worker_total_fixed

/-- C13/2 -/
theorem overflow_switches (lim : Limits) (st : WState) (a : Blob)
    (halive : st.alive = true) (hact : st.store.active = some a) (hfull : lim.maxCount ≤ a.count) :
    let st' := processMsgWith CURRENT lim st tryUpdate
    st'.alive = true ∧
    st'.store.active = some { id := st.store.nextId, recs := [] } ∧
    st'.store.nextId = st.store.nextId + 1 ∧
    st'.store.slots = st.store.slots ++ [some a] ∧
    a ∈ st'.store.closed ∧
    (st'.dumpRunning = true ∨ st'.deferred = true) :=
  overflow_switches_with CURRENT lim st a halive hact (by simp [Limits.full, hfull])

/-- C13/3 -/
theorem rotation_continues (lim : Limits) (st : WState) (msgs : List Msg) (a : Blob)
    (halive : st.alive = true)
    (hact : (runWorkerWith CURRENT lim st msgs).store.active = some a) (hfull : lim.maxCount ≤ a.count) :
    (runWorkerWith CURRENT lim st (msgs ++ [tryUpdate])).store.active
      = some { id := (runWorkerWith CURRENT lim st msgs).store.nextId, recs := [] } ∧
    a ∈ (runWorkerWith CURRENT lim st (msgs ++ [tryUpdate])).store.closed :=
  rotation_continues_fixed lim st msgs a halive hact hfull

/-- C13/4 -/
theorem no_switch_below_limit_current (lim : Limits) (st : WState) (a : Blob)
    (hact : st.store.active = some a) (hc : a.count < lim.maxCount) (hs : a.fileSize < lim.maxSize) :
    processMsgWith CURRENT lim st tryUpdate = st :=
  no_switch_below_limit_with CURRENT lim st a hact hc hs

/-- C13/5 -/
theorem dumps_complete_current (lim : Limits) (st : WState) (halive : st.alive = true) :
    ∀ b ∈ (processMsgWith CURRENT lim (processMsgWith CURRENT lim st tryDump) .dumpDone).store.closed,
      b.recs ≠ [] → b.onDisk = true :=
  (dumps_complete_with CURRENT lim st halive).2.2.2

/-- C13/6 -/
theorem close_terminates_current (lim : Limits) (st : WState) (queued : List Msg) (halive : st.alive = true) :
    let c := loopN CURRENT lim (queued.length + 1) { w := st, queue := queued, phase := .running }
    c.phase = .stopped ∧ c.w = drain (runWorkerWith CURRENT lim st queued) ∧
    c.w.alive = true ∧ c.w.dumpRunning = false ∧ c.w.fsyncRunning = false :=
  let h := close_terminates lim st queued halive
  ⟨h.1, h.2.1, h.2.2.1, h.2.2.2.1, h.2.2.2.2.1⟩

/-! ## C13/7: the timing of deferred index dumps

The theorems above treat `Msg.deadlineDue` as an event the environment delivers.  Here the clock is explicit
(`Pearl/Model/WorkerTimed.lean`: `now`, `deferred_index_dump_info = (first_time, last_time)`, `next_deadline`, the
dump task ended by `dumpDone`; events `recv t ..`, `timeout t`, `dumpDone t`, `fsyncDone t`, `wait t`), and the
assumption "a registered deferred dump eventually comes due" becomes a statement about the code.

Three variants: `step` (`Variant.shipped`: the code BEFORE /repo 41a1848), `stepBuggy` (`Variant.seeded`, seeded change
C13-5), `stepRepaired` (`Variant.repaired`: `update_deadline` also in the branch of `process_deferred_blob_index_dump` that
re-creates the record while the dump task is running; this is /repo HEAD, `Tie/C13.lean:
deferred_rerecord_arms_deadline`).

FINDING E22 (`deferred_has_deadline_refuted`, `deferred_dump_retry_lost`): in the shipped variant that branch does not
re-arm the deadline although `tick_with_deadline` has just reset it to `None`.  A deferred dump that comes due while a
dump task is running is re-registered WITHOUT a deadline: the loop goes back to the plain `tick()` and the
deferred dump runs only if some later request happens to call `defer_blob_indexes_dump` (a delete in a closed
blob, or a rotation that attaches to the record).  Replayed on the harness binary (three closed blobs; the dump
task stalled on blob 0, a delete let in between two time quanta, the task stalled again past the deadline):
2.5 s later the index of blob 0 is still in memory with `defer=100,300`; a further delete heals it.
The seeded change C13-5 removes even that.  The invariant and
the retry statement are therefore proved for the repaired variant, refuted for the shipped one, and the shipped
one gets the strongest true versions (`*_partial`, `deferred_rearmed_by_next_delete`, `orphan_is_fresh`). -/
section Timed
open WorkerTimed

/-- `deferred_min_time = 100 ms`, `deferred_max_time = 300 ms` -/
def cfgT : TCfg := { lim := lim2, minT := 100, maxT := 300 }
/-- a delete that hit a closed blob (`delete_with_optional_meta` → `Observer::defer_dump_old_blob_indexes`) -/
abbrev deleteAt (t : Nat) : TEvent := .recv t .deferredDumpBlobIndexes none
/-- an explicit dump request (`try_dump_old_blob_indexes`) -/
abbrev dumpReqAt (t : Nat) : TEvent := .recv t .tryDumpBlobIndexes none
/-- one closed blob whose index is not on disk, worker just created -/
def tInit : TState := TState.init closedSt.store

/-- C13/7.1, repaired variant: in every reachable state a registered deferred dump has an armed deadline -/
theorem deferred_has_deadline (cfg : TCfg) (s : TState) (h : Reachable .repaired cfg s) :
    s.deferredInfo.isSome = true → s.nextDeadline.isSome = true := by
  obtain ⟨store, es, rfl⟩ := h
  exact armed_runV (by decide) es (armed_init store) (.inl rfl)

/-- E27 with the clock (repaired variant): a dump request received while a dump task is running leaves a deferred
    dump registered AND a deadline armed, so `tick_with_deadline` will come back to it (`deferred_dump_runs_within_two`,
    `deferred_dump_retried`) without any further request -/
theorem dump_request_arms_deadline (cfg : TCfg) (s : TState) (h : Reachable .repaired cfg s) (t : Nat)
    (halive : s.alive = true) (hnow : s.now ≤ t) (hrun : s.dumpRunning = true) :
    let s' := stepV .repaired cfg s (dumpReqAt t)
    s'.dumpRunning = true ∧ s'.deferredInfo.isSome = true ∧ s'.nextDeadline.isSome = true := by
  have hs : stepV .repaired cfg s (dumpReqAt t) = deferDumpT .repaired cfg { s with now := t } := by
    simp [stepV, enabled, halive, TEvent.time, hnow, processOpT, predOk, tryRunDumpT, hrun]
  have hd : (stepV .repaired cfg s (dumpReqAt t)).deferredInfo.isSome = true := hs ▸ deferDumpT_deferred ..
  refine ⟨?_, hd, deferred_has_deadline cfg _ (reachable_stepV h _) hd⟩
  obtain ⟨d, nd, hf⟩ := deferDumpT_frame .repaired cfg { s with now := t }
  rw [hs, hf]
  exact hrun

-- non-vacuity: a request at t=10 starts a task; the request at t=20 finds it running and is deferred to t=120
example : (runRepaired cfgT tInit [dumpReqAt 10, dumpReqAt 20]).deferredInfo = some ⟨20, 20⟩ ∧
    (runRepaired cfgT tInit [dumpReqAt 10, dumpReqAt 20]).nextDeadline = some 120 := by decide
-- … and the deferred dump starts its own task once the first one has ended and the deadline has elapsed
example : (runRepaired cfgT tInit [dumpReqAt 10, dumpReqAt 20, .dumpDone 50, .timeout 121]).dumpStarts = 2 := by decide

/-- the converse holds in all three variants: a deadline is armed only while a record is registered -/
theorem deadline_has_deferred (v : Variant) (cfg : TCfg) (s : TState) (h : Reachable v cfg s) :
    s.nextDeadline.isSome = true → s.deferredInfo.isSome = true := by
  intro hn
  cases hd : s.deferredInfo with
  | some d => rfl
  | none => rw [inv_unarmed (inv_reachable h) hd] at hn; cases hn

/-- the run on which the shipped variant loses the deadline: a delete at t=0 registers the deferred dump (deadline 100),
    an explicit dump request at t=50 starts a dump task, the deadline elapses at t=101 with the task still
    running -/
def lostEvents : List TEvent := [deleteAt 0, dumpReqAt 50, .timeout 101]

/-- C13/7.1 is FALSE of the shipped variant: after `lostEvents` a record is registered and no deadline is armed -/
theorem deferred_has_deadline_refuted :
    ¬ (∀ (cfg : TCfg) (s : TState), Reachable .shipped cfg s →
        s.deferredInfo.isSome = true → s.nextDeadline.isSome = true) := by
  intro h
  have := h cfgT (run cfgT tInit lostEvents) ⟨closedSt.store, lostEvents, rfl⟩ (by decide)
  exact absurd this (by decide)

example : (run cfgT tInit lostEvents).deferredInfo = some ⟨101, 101⟩ ∧
    (run cfgT tInit lostEvents).nextDeadline = none ∧ (run cfgT tInit lostEvents).dumpRunning = true := by decide
-- the same events in the repaired variant: re-armed to 101 + min(100, 300)
example : (runRepaired cfgT tInit lostEvents).deferredInfo = some ⟨101, 101⟩ ∧
    (runRepaired cfgT tInit lostEvents).nextDeadline = some 201 := by decide

/-- C13/7.1 for the shipped variant, strongest true version: the invariant holds after every run in which no deadline
    elapses on a due record while the dump task is running (`NoBlocked`) -/
theorem deferred_has_deadline_partial (cfg : TCfg) (store : Store) (es : List TEvent)
    (hnb : NoBlocked .shipped cfg (TState.init store) es) :
    (run cfg (TState.init store) es).deferredInfo.isSome = true →
    (run cfg (TState.init store) es).nextDeadline.isSome = true :=
  armed_runV (by decide) es (armed_init store) (.inr hnb)

-- non-vacuity: a delete, a second delete, an early deadline, the dump request only after the deadline
example : NoBlocked .shipped cfgT tInit [deleteAt 0, deleteAt 60, .timeout 101, dumpReqAt 120] :=
  ⟨by decide, by decide, by decide, by decide, trivial⟩
example : (run cfgT tInit [deleteAt 0, deleteAt 60, .timeout 101, dumpReqAt 120]).deferredInfo = some ⟨0, 60⟩ ∧
    (run cfgT tInit [deleteAt 0, deleteAt 60, .timeout 101, dumpReqAt 120]).nextDeadline = some 160 := by decide
-- … and `lostEvents` is excluded by the hypothesis
example : ¬ NoBlocked .shipped cfgT tInit lostEvents := by
  intro h
  exact absurd h.2.2.1 (by decide)

/-- … and unconditionally (shipped and repaired): every delete that reaches the worker leaves a deadline armed —
    this is how the shipped variant recovers from the lost deadline, and exactly what the seeded change removes -/
theorem deferred_rearmed_by_next_delete {v : Variant} (hv : v ≠ .seeded) (cfg : TCfg) (s : TState) (t : Nat)
    (halive : s.alive = true) (ht : s.now ≤ t) :
    (stepV v cfg s (deleteAt t)).deferredInfo.isSome = true ∧ (stepV v cfg s (deleteAt t)).nextDeadline.isSome = true := by
  rw [stepV_delete v cfg halive ht]
  exact ⟨deferDumpT_deferred .., deferDumpT_armed hv ..⟩

-- (record (101, 600): deadline min(101 + 300, 600 + 100))
example : (run cfgT tInit (lostEvents ++ [deleteAt 600])).nextDeadline = some 401 := by decide

/-- … and a record without a deadline is always a freshly re-created one (`first_time = last_time`) -/
theorem orphan_is_fresh {v : Variant} (hv : v ≠ .seeded) (cfg : TCfg) (s : TState) (h : Reachable v cfg s)
    (d : Deferred) (hd : s.deferredInfo = some d) (hn : s.nextDeadline = none) : d.first = d.last := by
  obtain ⟨store, es, rfl⟩ := h
  exact orphanFresh_runV hv es (orphanFresh_init store) d hd hn

/-- the seeded change C13-5 on the same run: the invariant fails … -/
theorem deferred_has_deadline_buggy_refuted :
    (runBuggy cfgT tInit lostEvents).deferredInfo = some ⟨101, 101⟩ ∧
    (runBuggy cfgT tInit lostEvents).nextDeadline = none := by decide

/-- … and stays failed for EVERY continuation (further deletes, rotations, anything): no deadline is ever armed
    again, no `timeout` is ever enabled again, the untimed `deadlineDue` never occurs again -/
theorem buggy_never_rearmed (es : List TEvent) :
    (runBuggy cfgT tInit (lostEvents ++ es)).deferredInfo.isSome = true ∧
    (runBuggy cfgT tInit (lostEvents ++ es)).nextDeadline = none ∧
    ∀ m ∈ traceV .seeded cfgT (runBuggy cfgT tInit lostEvents) es, isDue m = false := by
  have h0 : Orphan (runBuggy cfgT tInit lostEvents) := by
    constructor <;> decide
  have h := orphan_runV_seeded cfgT _ es h0
  have happ : runBuggy cfgT tInit (lostEvents ++ es) = runV .seeded cfgT (runBuggy cfgT tInit lostEvents) es :=
    runV_append .seeded cfgT tInit lostEvents es
  rw [happ]
  exact ⟨h.1.1, h.1.2, h.2⟩

/-- … so with deletes (and task completions, and time) only, the dump never starts: the one dump task ever
    spawned is the explicit request of t=50 -/
theorem buggy_dump_never_starts (es : List TEvent) (hes : ∀ e ∈ es, e.noRecv = true ∨ e.isDelete = true) :
    (runBuggy cfgT tInit (lostEvents ++ es)).dumpStarts = 1 := by
  have h0 : Orphan (runBuggy cfgT tInit lostEvents) := by
    constructor <;> decide
  have happ : runBuggy cfgT tInit (lostEvents ++ es) = runV .seeded cfgT (runBuggy cfgT tInit lostEvents) es :=
    runV_append .seeded cfgT tInit lostEvents es
  rw [happ, orphan_runV_seeded_noStart cfgT _ es h0 hes]
  decide

-- the same continuation, seeded and shipped: task done at 500, a delete at 600 (deadline 401, already elapsed)
example : (runBuggy cfgT tInit (lostEvents ++ [.dumpDone 500, deleteAt 600, .timeout 601, .wait 100000])).dumpStarts = 1 := by
  decide
example : (run cfgT tInit (lostEvents ++ [.dumpDone 500, deleteAt 600, .timeout 601])).dumpStarts = 2 := by decide

/-- C13/7.2 (all variants): the record is ordered and in the past, and the armed deadline lies between
    `first_time + min(min, max)` and `next_deadline(min, max) = min(first_time + max, last_time + min)`.
    In particular it is never later than `first_time + max` and never later than `last_time + min`; the worker
    wakes at `deadline + EPS`. -/
theorem deadline_bounds (v : Variant) (cfg : TCfg) (s : TState) (h : Reachable v cfg s)
    (d : Deferred) (dl : Nat) (hd : s.deferredInfo = some d) (hdl : s.nextDeadline = some dl) :
    d.first ≤ d.last ∧ d.last ≤ s.now ∧
    d.first + min cfg.minT cfg.maxT ≤ dl ∧
    dl ≤ d.nextDeadline cfg.minT cfg.maxT ∧ dl ≤ d.first + cfg.maxT ∧ dl ≤ d.last + cfg.minT := by
  have hinv := inv_reachable h
  unfold WorkerTimed.Inv at hinv
  rw [hd, hdl] at hinv
  exact ⟨hinv.1, hinv.2.1, hinv.2.2.1, hinv.2.2.2, Nat.le_trans hinv.2.2.2 (Nat.min_le_left ..),
    Nat.le_trans hinv.2.2.2 (Nat.min_le_right ..)⟩

example : (run cfgT tInit [deleteAt 0, deleteAt 60]).deferredInfo = some ⟨0, 60⟩ ∧
    (run cfgT tInit [deleteAt 0, deleteAt 60]).nextDeadline = some 100 := by decide

/-- the lower bound "never earlier than `last_time + min` unless capped by `first_time + max`" is FALSE of the
    armed deadline: `update_deadline` keeps the earlier of the old and the new deadline, so after a second delete
    the deadline of the first one stays armed (100 < 60 + 100 and 100 < 0 + 300) … -/
theorem deadline_lower_bound_refuted :
    ¬ (∀ (cfg : TCfg) (s : TState) (d : Deferred) (dl : Nat), Reachable .shipped cfg s →
        s.deferredInfo = some d → s.nextDeadline = some dl → d.last + cfg.minT ≤ dl ∨ d.first + cfg.maxT ≤ dl) := by
  intro h
  have := h cfgT (run cfgT tInit [deleteAt 0, deleteAt 60]) ⟨0, 60⟩ 100 ⟨closedSt.store, _, rfl⟩
    (by decide) (by decide)
  exact absurd this (by decide)

/-- … but a deadline that elapses before the record is due (a stale, earlier one) only re-arms, to exactly
    `next_deadline(min, max)` … -/
theorem early_deadline_rearms (v : Variant) (cfg : TCfg) (s : TState) (t : Nat) (d : Deferred)
    (hen : enabled s (.timeout t) = true) (hd : s.deferredInfo = some d) (hdue : d.due cfg.minT cfg.maxT t = false) :
    stepV v cfg s (.timeout t) = { s with now := t, nextDeadline := some (d.nextDeadline cfg.minT cfg.maxT) } := by
  rw [stepV_timeout v cfg s t hen]
  obtain ⟨st, al, dr, fr, now, di, nd, ds⟩ := s
  subst hd
  simp [processDeferredT, hdue, updateDeadline_eq, merged]

/-- … so the bound is TRUE of the dump itself (all variants, any state): a `timeout` spawns a dump task only when
    `last_time.elapsed() ≥ min` or `first_time.elapsed() ≥ max` -/
theorem deferred_start_respects_min (v : Variant) (cfg : TCfg) (s : TState) (t : Nat)
    (hstart : (stepV v cfg s (.timeout t)).dumpStarts ≠ s.dumpStarts) :
    ∃ d, s.deferredInfo = some d ∧ (cfg.minT ≤ t - d.last ∨ cfg.maxT ≤ t - d.first) := by
  by_cases hen : enabled s (.timeout t) = true
  · cases hd : s.deferredInfo with
    | none =>
      exfalso; apply hstart
      rw [stepV_timeout v cfg s t hen]
      simp [processDeferredT, hd]
    | some d =>
      refine ⟨d, rfl, ?_⟩
      by_cases hdue : d.due cfg.minT cfg.maxT t = true
      · exact (due_iff d cfg.minT cfg.maxT t).1 hdue
      · exfalso; apply hstart
        rw [early_deadline_rearms v cfg s t d hen hd (by simpa using hdue)]
  · exfalso; apply hstart
    rw [stepV_disabled v cfg s _ (by simpa using hen)]

example : (run cfgT tInit [deleteAt 0, deleteAt 60, .timeout 101]).nextDeadline = some 160 ∧
    (run cfgT tInit [deleteAt 0, deleteAt 60, .timeout 101]).dumpStarts = 0 ∧
    (run cfgT tInit [deleteAt 0, deleteAt 60, .timeout 101, .timeout 161]).dumpStarts = 1 := by decide
-- capped by `max`: deletes every 90 ms keep `last + min` moving, the dump starts at first + max + EPS
example : (run cfgT tInit [deleteAt 0, deleteAt 90, .timeout 101, deleteAt 180, .timeout 191, deleteAt 270,
      .timeout 281]).nextDeadline = some 300 ∧
    (run cfgT tInit [deleteAt 0, deleteAt 90, .timeout 101, deleteAt 180, .timeout 191, deleteAt 270,
      .timeout 281, .timeout 301]).dumpStarts = 1 := by decide

/-- C13/7.3 (all variants): a deferred dump is registered at time `t0` (no record before) and no further request
    arrives (`q`: only task completions and time).  Then the record is `(t0, t0)` with deadline
    `t0 + min(min, max)`, and once the clock has passed `deadline + EPS` with no dump task running, the next loop
    iteration is the `timeout`, it is the untimed `deadlineDue`, and it starts the dump. -/
theorem deferred_dump_runs (v : Variant) (cfg : TCfg) (s0 : TState) (hreach : Reachable v cfg s0)
    (halive : s0.alive = true) (hnone : s0.deferredInfo = none) (t0 : Nat) (ht0 : s0.now ≤ t0)
    (q : List TEvent) (hq : ∀ e ∈ q, e.quiet = true) (t : Nat) :
    let s1 := stepV v cfg s0 (deleteAt t0)
    let s2 := runV v cfg s1 q
    s1.deferredInfo = some ⟨t0, t0⟩ ∧ s1.nextDeadline = some (t0 + min cfg.minT cfg.maxT) ∧
    (s2.now ≤ t → t0 + min cfg.minT cfg.maxT + EPS ≤ t → s2.dumpRunning = false →
      enabled s2 (.timeout t) = true ∧ msgOf cfg s2 (.timeout t) = some .deadlineDue ∧
      Started s2 (stepV v cfg s2 (.timeout t))) := by
  have hnd := inv_unarmed (inv_reachable hreach) hnone
  dsimp only
  rw [stepV_delete v cfg halive ht0, deferDumpT_fresh v cfg (s := { s0 with now := t0 }) hnone hnd]
  exact ⟨rfl, rfl, armed_quiet_starts v cfg (by exact halive) rfl rfl (Nat.le_of_eq (nextDeadline_new ..)) hq⟩

-- non-vacuity: delete at 0, the fsync task ends and time passes, the deadline (100 + 1) elapses, the dump starts
example : (run cfgT tInit [deleteAt 0, .fsyncDone 30, .wait 101, .timeout 101]).dumpRunning = true ∧
    (run cfgT tInit [deleteAt 0, .fsyncDone 30, .wait 101, .timeout 101]).deferredInfo = none ∧
    ((run cfgT tInit [deleteAt 0, .fsyncDone 30, .wait 101, .timeout 101, .dumpDone 150]).store.closed.map (·.onDisk))
      = [true] := by decide

/-- C13/7.3, any reachable state (all variants): a record with an armed deadline — possibly a stale, earlier one
    — and no further request.  The first `timeout` either starts the dump or (stale deadline, record not yet due)
    re-arms to `next_deadline(min, max)`; the second one then starts it. -/
theorem deferred_dump_runs_within_two (v : Variant) (cfg : TCfg) (s : TState)
    (d : Deferred) (hd : s.deferredInfo = some d)
    (t1 : Nat) (hen1 : enabled s (.timeout t1) = true) (hr1 : s.dumpRunning = false) :
    let s1 := stepV v cfg s (.timeout t1)
    Started s s1 ∨
    (s1.deferredInfo = some d ∧ s1.nextDeadline = some (d.nextDeadline cfg.minT cfg.maxT) ∧
     s1.dumpRunning = false ∧
     ∀ (q : List TEvent), (∀ e ∈ q, e.quiet = true) → ∀ t2,
       let s2 := runV v cfg s1 q
       s2.now ≤ t2 → d.nextDeadline cfg.minT cfg.maxT + EPS ≤ t2 →
       enabled s2 (.timeout t2) = true ∧ Started s2 (stepV v cfg s2 (.timeout t2))) := by
  have hal : s.alive = true := enabled_alive hen1
  cases hdue : d.due cfg.minT cfg.maxT t1 with
  | true =>
    left
    rw [timeout_starts v cfg s t1 d hen1 hd hdue hr1]
    exact ⟨rfl, rfl, rfl, rfl⟩
  | false =>
    right
    dsimp only
    rw [early_deadline_rearms v cfg s t1 d hen1 hd hdue]
    refine ⟨hd, rfl, hr1, fun q hq t2 hnow hpast => ?_⟩
    have h := armed_quiet_starts v cfg (s := { s with now := t1, nextDeadline := some (d.nextDeadline cfg.minT cfg.maxT) })
      hal hd rfl (Nat.le_refl _) hq hnow hpast ((quiet_runV v cfg _ q hq).idle hr1)
    exact ⟨h.1, h.2.2⟩

/-- C13/7.3, the retry, repaired variant: the deadline elapses on a due record while the dump task is still
    running.  The record is re-created at that moment WITH a deadline; after the task has finished (`dumpDone`
    among the quiet events) and that deadline has elapsed, the next iteration starts the dump. -/
theorem deferred_dump_retried (cfg : TCfg) (s : TState) (d : Deferred) (hd : s.deferredInfo = some d)
    (t1 : Nat) (hen1 : enabled s (.timeout t1) = true) (hdue : d.due cfg.minT cfg.maxT t1 = true)
    (hr1 : s.dumpRunning = true)
    (q : List TEvent) (hq : ∀ e ∈ q, e.quiet = true) (t2 : Nat) :
    let s1 := stepRepaired cfg s (.timeout t1)
    let s2 := runRepaired cfg s1 q
    s1.deferredInfo = some ⟨t1, t1⟩ ∧ s1.nextDeadline = some (t1 + min cfg.minT cfg.maxT) ∧
    s1.dumpStarts = s.dumpStarts ∧
    (s2.now ≤ t2 → t1 + min cfg.minT cfg.maxT + EPS ≤ t2 → s2.dumpRunning = false →
      enabled s2 (.timeout t2) = true ∧ msgOf cfg s2 (.timeout t2) = some .deadlineDue ∧
      Started s2 (stepRepaired cfg s2 (.timeout t2))) := by
  have hal : s.alive = true := enabled_alive hen1
  dsimp only [stepRepaired, runRepaired]
  rw [timeout_blocked .repaired cfg s t1 d hen1 hd hdue hr1, if_pos rfl]
  exact ⟨rfl, rfl, rfl, armed_quiet_starts .repaired cfg (by exact hal) rfl rfl (Nat.le_of_eq (nextDeadline_new ..)) hq⟩

/-- the hypothesis `s2.dumpRunning = false` of `deferred_dump_retried` is what `dumpDone` provides: quiet events,
    then the end of the dump task, then quiet events leave no dump task running (all variants) -/
theorem dumpDone_then_quiet (v : Variant) (cfg : TCfg) (s : TState) (q1 q2 : List TEvent) (T : Nat)
    (halive : s.alive = true) (hq1 : ∀ e ∈ q1, e.quiet = true) (hq2 : ∀ e ∈ q2, e.quiet = true)
    (hT : (runV v cfg s q1).now ≤ T) :
    (runV v cfg s (q1 ++ .dumpDone T :: q2)).dumpRunning = false := by
  rw [runV_append, runV_cons]
  have h1 := quiet_runV v cfg s q1 hq1
  have h2 := dumpDone_stops v cfg (runV v cfg s q1) T (h1.alive.trans halive) hT
  exact (quiet_runV v cfg _ q2 hq2).idle h2

/-- C13/7.3, the retry, is FALSE of the shipped variant (and of the seeded one): same situation, any state.  The
    record is re-created WITHOUT a deadline, and as long as no request arrives — whatever else happens: the dump
    task ends, time passes — the record stays, no deadline is armed, no `timeout` is enabled, `deadlineDue` never
    occurs, no dump task is spawned. -/
theorem deferred_dump_retry_lost {v : Variant} (hv : v ≠ .repaired) (cfg : TCfg) (s : TState) (d : Deferred)
    (hd : s.deferredInfo = some d)
    (t1 : Nat) (hen1 : enabled s (.timeout t1) = true) (hdue : d.due cfg.minT cfg.maxT t1 = true)
    (hr1 : s.dumpRunning = true)
    (es : List TEvent) (hes : ∀ e ∈ es, e.noRecv = true) :
    let s1 := stepV v cfg s (.timeout t1)
    let s2 := runV v cfg s1 es
    s1.deferredInfo = some ⟨t1, t1⟩ ∧ s1.nextDeadline = none ∧
    s2.deferredInfo = some ⟨t1, t1⟩ ∧ s2.nextDeadline = none ∧ s2.dumpStarts = s.dumpStarts ∧
    (∀ t, enabled s2 (.timeout t) = false) ∧
    ∀ m ∈ traceV v cfg s1 es, isDue m = false := by
  have hs1 := timeout_blocked v cfg s t1 d hen1 hd hdue hr1
  simp only [hv, ↓reduceIte] at hs1
  simp only
  have hn1 : (stepV v cfg s (.timeout t1)).nextDeadline = none := by rw [hs1]
  have hd1 : (stepV v cfg s (.timeout t1)).deferredInfo = some ⟨t1, t1⟩ := by rw [hs1]; rfl
  have hst1 : (stepV v cfg s (.timeout t1)).dumpStarts = s.dumpStarts := by rw [hs1]
  obtain ⟨h, htr⟩ := asleep_runV v cfg _ es hn1 hes
  exact ⟨hd1, hn1, h.info.trans hd1, h.deadline.trans hn1, h.starts.trans hst1,
    timeout_disabled (h.deadline.trans hn1), htr⟩

-- the retry on a concrete run: a delete into a closed blob at t=0, min=100, max=300, a dump task running from t=50
-- to t=500.
/-- repaired variant: the deadlines 100, 201, 302, 403, 504 are armed one after the other (each elapses while the
    task is still running and re-creates the record), the task ends at 500, the deadline 504 elapses at 505 -/
def retryEvents : List TEvent :=
  [deleteAt 0, dumpReqAt 50, .timeout 101, .timeout 202, .timeout 303, .timeout 404, .dumpDone 500, .timeout 505]

example : (runRepaired cfgT tInit (retryEvents.take 1)).nextDeadline = some 100 ∧
    (runRepaired cfgT tInit (retryEvents.take 2)).dumpRunning = true ∧
    (runRepaired cfgT tInit (retryEvents.take 3)).nextDeadline = some 201 ∧
    (runRepaired cfgT tInit (retryEvents.take 4)).nextDeadline = some 302 ∧
    (runRepaired cfgT tInit (retryEvents.take 5)).nextDeadline = some 403 ∧
    (runRepaired cfgT tInit (retryEvents.take 6)).nextDeadline = some 504 ∧
    (runRepaired cfgT tInit (retryEvents.take 6)).deferredInfo = some ⟨404, 404⟩ ∧
    (runRepaired cfgT tInit (retryEvents.take 6)).dumpStarts = 1 ∧
    (runRepaired cfgT tInit (retryEvents.take 7)).dumpRunning = false ∧
    ((runRepaired cfgT tInit (retryEvents.take 7)).store.closed.map (·.onDisk)) = [true] := by decide
-- the dump is started (a second time) after 500, the record and the deadline are cleared
example : (runRepaired cfgT tInit retryEvents).dumpStarts = 2 ∧
    (runRepaired cfgT tInit retryEvents).dumpRunning = true ∧ (runRepaired cfgT tInit retryEvents).now = 505 ∧
    (runRepaired cfgT tInit retryEvents).deferredInfo = none ∧
    (runRepaired cfgT tInit retryEvents).nextDeadline = none := by decide
-- its untimed trace: the deadline was due five times, four of them blocked
example : (traceV .repaired cfgT tInit retryEvents).map isDue = [false, false, true, true, true, true, false, true] := by
  decide
-- before the deadline nothing is enabled: a `timeout` at 504 is a no-op
example : (runRepaired cfgT tInit (retryEvents.take 7 ++ [.timeout 504])).dumpStarts = 1 := by decide
/-- shipped variant, same scenario: the deadline 100 elapses at 101, the record is re-created with no deadline, and
    the very same later events do nothing — the dump is NOT started after 500 -/
example : (run cfgT tInit retryEvents).dumpStarts = 1 ∧ (run cfgT tInit retryEvents).dumpRunning = false ∧
    (run cfgT tInit retryEvents).deferredInfo = some ⟨101, 101⟩ ∧
    (run cfgT tInit retryEvents).nextDeadline = none := by decide
-- … until another delete arrives (t=600): record (101, 600), deadline min(401, 700) = 401 has elapsed, the
-- next iteration starts the dump
example : (run cfgT tInit (retryEvents ++ [deleteAt 600])).nextDeadline = some 401 ∧
    (run cfgT tInit (retryEvents ++ [deleteAt 600, .timeout 600])).dumpStarts = 2 ∧
    (run cfgT tInit (retryEvents ++ [deleteAt 600, .timeout 600])).deferredInfo = none := by decide

/-- C13/7.4 (all variants): one timed iteration, clock erased, is `processMsgFixed` on the message it stands for, or
    a stutter … -/
theorem timed_step_refines_untimed (v : Variant) (cfg : TCfg) (s : TState) (e : TEvent) :
    erase (stepV v cfg s e) =
      match msgOf cfg s e with
      | some m => processMsgFixed cfg.lim (erase s) m
      | none => erase s := by
  by_cases hen : enabled s e = true
  · have hal : (erase s).alive = true := enabled_alive hen
    unfold stepV msgOf
    simp only [hen, Bool.not_true, Bool.false_eq_true, ↓reduceIte]
    cases e with
    | recv t op pred =>
      simp only [processMsgFixed, processMsgWith, hal, Bool.not_true, Bool.false_eq_true, ↓reduceIte, processE]
      have h : (processOpT v cfg { s with now := t } op pred).map erase = processOp cfg.lim (erase s) op pred :=
        erase_processOpT v cfg { s with now := t } op pred
      rw [← h]
      simp only [TEvent.time]
      cases processOpT v cfg { s with now := t } op pred <;> rfl
    | timeout t =>
      simp only [firesDue, hen, Bool.true_and, TEvent.time]
      rw [erase_timeout]
      split
      · exact (processMsgWith_ok .logAndContinue cfg.lim (erase s) _ .deadlineDue hal rfl).symm
      · rfl
    | dumpDone t =>
      have hr : (erase s).dumpRunning = true := by
        simp only [enabled, Bool.and_eq_true] at hen
        exact hen.2
      refine (processMsgWith_ok .logAndContinue cfg.lim (erase s) _ .dumpDone hal ?_).symm
      simp only [processE, hr, ↓reduceIte]
      rfl
    | fsyncDone t => exact (processMsgWith_ok .logAndContinue cfg.lim (erase s) _ .fsyncDone hal rfl).symm
    | wait t => rfl
  · have hen' : enabled s e = false := by simpa using hen
    rw [stepV_disabled v cfg s e hen']
    simp [msgOf, hen']

/-- … hence every timed run, clock erased, is the run of the untimed model (`runWorkerFixed` = `processMsgFixed`
    folded) over its trace … -/
theorem timed_refines_untimed (v : Variant) (cfg : TCfg) (s : TState) (es : List TEvent) :
    erase (runV v cfg s es) = runWorkerFixed cfg.lim (erase s) (traceV v cfg s es) := by
  induction es generalizing s with
  | nil => rfl
  | cons e es ih =>
    rw [runV_cons, ih, traceV_cons, timed_step_refines_untimed]
    cases msgOf cfg s e <;> rfl

/-- … in which `deadlineDue` occurs only when the timed model fired it: the event is a `timeout`, the worker is
    alive, time does not go backwards, an armed deadline has elapsed (`dl + EPS ≤ t`), a record is registered and
    the `min`/`max` condition holds -/
theorem deadlineDue_only_when_fired (cfg : TCfg) (s : TState) (e : TEvent) :
    msgOf cfg s e = some .deadlineDue ↔
      ∃ t dl d, e = .timeout t ∧ s.alive = true ∧ s.now ≤ t ∧ s.nextDeadline = some dl ∧ dl + EPS ≤ t ∧
        s.deferredInfo = some d ∧ (cfg.minT ≤ t - d.last ∨ cfg.maxT ≤ t - d.first) := by
  simp only [msgOf_deadlineDue_iff, firesDue, Bool.and_eq_true, enabled_timeout_iff, dueAt_iff]
  constructor
  · rintro ⟨t, rfl, ⟨hal, hnow, dl, hdl, hel⟩, d, hd, hdue⟩
    exact ⟨t, dl, d, rfl, hal, hnow, hdl, hel, hd, hdue⟩
  · rintro ⟨t, dl, d, rfl, hal, hnow, hdl, hel, hd, hdue⟩
    exact ⟨t, rfl, ⟨hal, hnow, dl, hdl, hel⟩, d, hd, hdue⟩

/-- … at run level: every `deadlineDue` of the trace is a fired `timeout` of the run -/
theorem deadlineDue_in_trace (v : Variant) (cfg : TCfg) (s : TState) (es : List TEvent)
    (h : ∃ m ∈ traceV v cfg s es, isDue m = true) :
    ∃ pre t post, es = pre ++ .timeout t :: post ∧ firesDue cfg (runV v cfg s pre) t = true := by
  induction es generalizing s with
  | nil => obtain ⟨m, hm, _⟩ := h; simp [traceV] at hm
  | cons e es ih =>
    obtain ⟨m, hm, hdue⟩ := h
    rw [traceV_cons] at hm
    rcases List.mem_append.1 hm with hm | hm
    · have hm' : msgOf cfg s e = some m := by simpa using hm
      have : m = .deadlineDue := by cases m <;> first | rfl | cases hdue
      subst this
      obtain ⟨t, rfl, hf⟩ := (msgOf_deadlineDue_iff cfg s e).1 hm'
      exact ⟨[], t, es, rfl, hf⟩
    · obtain ⟨pre, t, post, rfl, hf⟩ := ih (stepV v cfg s e) ⟨m, hm, hdue⟩
      exact ⟨e :: pre, t, post, rfl, hf⟩

/-- C13/7.4, the converse (all variants, any state): with a record registered AND a deadline armed, the untimed
    `deadlineDue` is enabled after at most two elapsing deadlines, without any message … -/
theorem deadlineDue_eventually_enabled_of_armed (v : Variant) (cfg : TCfg) (s : TState) (halive : s.alive = true)
    (hdef : (erase s).deferred = true) (harmed : s.nextDeadline.isSome = true) :
    ∃ es : List TEvent, es.length ≤ 2 ∧ (∀ e ∈ es, ∃ t, e = .timeout t) ∧ traceV v cfg s es = [.deadlineDue] := by
  obtain ⟨d, hd⟩ := Option.isSome_iff_exists.1 (show s.deferredInfo.isSome = true from hdef)
  obtain ⟨dl, hdl⟩ := Option.isSome_iff_exists.1 harmed
  -- the first deadline may be a stale one that only re-arms to `next_deadline(min, max)`; that one is due
  let t1 := max s.now (dl + EPS)
  let t2 := max t1 (d.nextDeadline cfg.minT cfg.maxT + EPS)
  have hen1 : enabled s (.timeout t1) = true :=
    (enabled_timeout_iff s t1).2 ⟨halive, Nat.le_max_left _ _, dl, hdl, Nat.le_max_right _ _⟩
  cases hdue : d.due cfg.minT cfg.maxT t1 with
  | true =>
    refine ⟨[.timeout t1], by simp, by simp, ?_⟩
    simp [traceV, msgOf_timeout, hen1, dueAt, hd, hdue]
  | false =>
    have hs1 := early_deadline_rearms v cfg s _ d hen1 hd hdue
    have h2' : d.nextDeadline cfg.minT cfg.maxT + EPS ≤ t2 := Nat.le_max_right _ _
    have hen2 : enabled (stepV v cfg s (.timeout t1)) (.timeout t2) = true := by
      rw [enabled_timeout_iff, hs1]
      exact ⟨halive, Nat.le_max_left _ _, _, rfl, h2'⟩
    have hd1 : (stepV v cfg s (.timeout t1)).deferredInfo = some d := by rw [hs1]; exact hd
    refine ⟨[.timeout t1, .timeout t2], by simp, by simp, ?_⟩
    simp only [traceV, msgOf_timeout, hen1, hen2, dueAt, hd, hd1, hdue, due_of_elapsed (Nat.le_refl _) h2']
    rfl

/-- … hence, by `deferred_has_deadline`, always in the repaired variant: whenever the untimed model could take `deadlineDue`
    (`deferred = true`), the timed one gets there by itself -/
theorem deadlineDue_eventually_enabled (cfg : TCfg) (s : TState) (h : Reachable .repaired cfg s)
    (halive : s.alive = true) (hdef : (erase s).deferred = true) :
    ∃ es : List TEvent, es.length ≤ 2 ∧ (∀ e ∈ es, ∃ t, e = .timeout t) ∧
      traceV .repaired cfg s es = [.deadlineDue] :=
  deadlineDue_eventually_enabled_of_armed .repaired cfg s halive hdef (deferred_has_deadline cfg s h hdef)

example : (erase (runRepaired cfgT tInit lostEvents)).deferred = true := by decide

/-- … and NOT in the shipped variant: in the reachable state after `lostEvents` the untimed model has
    `deferred = true`, yet no continuation without a message ever contains `deadlineDue` -/
theorem deadlineDue_eventually_enabled_refuted :
    (erase (run cfgT tInit lostEvents)).deferred = true ∧
    ∀ es : List TEvent, (∀ e ∈ es, e.noRecv = true) →
      ∀ m ∈ traceV .shipped cfgT (run cfgT tInit lostEvents) es, isDue m = false := by
  refine ⟨by decide, ?_⟩
  intro es hes
  exact (asleep_runV .shipped cfgT _ es (by decide) hes).2

/-- by `timed_refines_untimed` the untimed C13 theorems transfer to timed runs.  C13/1: the timed worker survives every event sequence -/
theorem timed_worker_total (v : Variant) (cfg : TCfg) (s : TState) (es : List TEvent) (halive : s.alive = true) :
    (runV v cfg s es).alive = true := by
  have h := timed_refines_untimed v cfg s es
  have h2 := worker_total_fixed cfg.lim (erase s) (traceV v cfg s es) halive
  have : (erase (runV v cfg s es)).alive = true := by rw [h]; exact h2
  exact this

/-- C13/2 transferred: a `TryUpdateActiveBlob` received at any time by a live timed worker whose active blob is
    at the record limit rotates it, and the closed blob's index dump is either running or registered -/
theorem timed_overflow_switches (v : Variant) (cfg : TCfg) (s : TState) (a : Blob) (t : Nat)
    (halive : s.alive = true) (ht : s.now ≤ t) (hact : s.store.active = some a) (hfull : cfg.lim.maxCount ≤ a.count) :
    let s' := stepV v cfg s (.recv t .tryUpdateActiveBlob none)
    s'.alive = true ∧
    s'.store.active = some { id := s.store.nextId, recs := [] } ∧
    a ∈ s'.store.closed ∧
    (s'.dumpRunning = true ∨ s'.deferredInfo.isSome = true) := by
  have hen : enabled s (.recv t .tryUpdateActiveBlob none) = true := by simp [enabled, halive, TEvent.time, ht]
  have hm : msgOf cfg s (.recv t .tryUpdateActiveBlob none) = some tryUpdate := by simp [msgOf, hen]
  have h := timed_step_refines_untimed v cfg s (.recv t .tryUpdateActiveBlob none)
  rw [hm] at h
  have h2 := overflow_switches_fixed cfg.lim (erase s) a halive hact hfull
  simp only at h h2
  rw [← h] at h2
  exact ⟨h2.1, h2.2.1, h2.2.2.2.2.1, h2.2.2.2.2.2⟩

end Timed

/-
C13, NOT YET PROVED / out of the model:
* the timed model makes one loop iteration atomic (every `Instant::now()` inside it reads the event's time stamp)
  and lets any `recv` pre-empt an elapsed deadline (`Timeout` polls `recv()` first), so starvation of
  `process_defered` by a permanently non-empty queue is allowed by the model and not excluded by any theorem;
* `deferred_has_deadline`, `deferred_dump_retried`, `deadlineDue_eventually_enabled` are about
  `Variant.repaired`; for `Variant.shipped` they are refuted
  (`deferred_has_deadline_refuted`, `deferred_dump_retry_lost`, `deadlineDue_eventually_enabled_refuted`); what holds of it is
  `deferred_has_deadline_partial` / `deferred_rearmed_by_next_delete` / `orphan_is_fresh`;
* the fsync task has no timing of its own; I/O failures inside the spawned tasks are not injected here.
-/

end C13
end Pearl
