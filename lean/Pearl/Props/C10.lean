import Pearl.Proofs.FilterLemmas
import Pearl.Proofs.ContainerLemmas
import Pearl.Proofs.ContainerStack
/-
C10 — "Filters never give a false negative, in memory, on file, merged or off-loaded".

Everything is stated for an ARBITRARY hash family `h : Nat → Key → Nat` (hasher index → key → hash); the
real family is `AHash.family keyLen` (`Pearl/Model/AHash.lean`, checked against the vectors pinned in the
Rust suite in `Pearl/Model/FilterTests.lean`).

Well-formedness side conditions (`Bloom.WF`, `Range.WF`, `Combined.WF`) hold for every value built by the
constructors and are kept by `add`, `merge`, `offload` (and `clear` for the bloom filter): `wf_bloom`, `wf_combined`,
third conjunct of `range_no_fn`; they exclude only values decoded from a corrupt file.

After the single filters (bloom, its file image, range, combined) the file has four more parts: the container
(`Container.Inv` established by `new` and kept by every operation, and what the recursive iterator yields under it);
the blob level (`FBlob.Inv`) with `check_filter_no_fn`, "a closed blob that holds the key is never pruned"; the same
results for the iterator as written, the stack machine of `PossibleRevIter::next` (`iterPossibleStack_eq` and the `_stack`
theorems); and two theorems on an index file that cannot be read (the probe never answers "absent" without a byte
that says so).  The closing comment lists what is not proved.
-/
namespace Pearl.C10
open Pearl

/-- after `add key`, the in-memory check never answers `NotContains` for `key` -/
theorem bloom_add_contains (h : Nat → Key → Nat) (b : Bloom) (key : Key) (hb : b.WF) :
    (b.add h key).containsMem h key ≠ some .notContains :=
  Bloom.add_contains h b key hb

/-- adding a key never clears an earlier one -/
theorem bloom_mono (h : Nat → Key → Nat) (b : Bloom) (x y : Key)
    (hx : b.containsMem h x ≠ some .notContains) : (b.add h y).containsMem h x ≠ some .notContains :=
  Bloom.add_mono h b x y hx

/-- a successful `checked_add_assign` contains every key of both operands -/
theorem bloom_merge_sup (h : Nat → Key → Nat) (b o c : Bloom) (x : Key) (hb : b.WF) (ho : o.WF)
    (hm : b.merge o = (c, true))
    (hx : b.containsMem h x ≠ some .notContains ∨ o.containsMem h x ≠ some .notContains) :
    c.containsMem h x ≠ some .notContains :=
  Bloom.merge_sup h b o c x hb ho hm hx

/-- a merge is attempted only between resident vectors with equal hasher counts and equal bit lengths
    (the configs themselves are not compared), and is the word-wise or -/
theorem bloom_merge_only_if_compatible (b o c : Bloom) (hm : b.merge o = (c, true)) :
    ∃ v w r, b.inner = some v ∧ o.inner = some w ∧ b.k = o.k ∧ v.bits = w.bits ∧ v.orWith w = some r ∧
      c = { b with inner := some r } :=
  Bloom.merge_ok b o c hm

/-- zero sizes: with no bits (`Bloom::empty()`, `hashers_count = 0` in the config) or no hashers the filter
    answers `NeedAdditionalCheck` to every question, fast or full -/
theorem bloom_zero_sizes (h : Nat → Key → Nat) (b : Bloom) (key : Key) (readByte : Nat → Option Nat)
    (hb : b.WF) (hz : b.bits = 0 ∨ b.k = 0) :
    b.containsFast h key = .needAdditionalCheck ∧ b.contains h readByte key = .needAdditionalCheck := by
  have hpos : b.k = 0 → ∀ len, Bloom.positions h b.k len key = [] := fun hk len => by simp [Bloom.positions, hk]
  have hfile : b.containsFile h readByte key = .needAdditionalCheck := by
    rcases hz with hz | hz
    · simp [Bloom.containsFile, hz]
    · simp [Bloom.containsFile, hpos hz, Bloom.probeFile]
  have hmem : b.containsMem h key = none ∨ b.containsMem h key = some .needAdditionalCheck := by
    unfold Bloom.containsMem
    cases hi : b.inner with
    | none => exact Or.inl rfl
    | some v =>
      rcases hz with hz | hz
      · exact Or.inl (by simp [(hb.1 v hi).2.trans hz])
      · simp only [hpos hz, List.all_nil, if_true]
        split <;> simp
  rcases hmem with hm | hm <;> simp [Bloom.containsFast, Bloom.contains, hm, hfile, default]

/-- the constructors give well-formed filters and every operation keeps them so -/
theorem wf_bloom (h : Nat → Key → Nat) (cfg : BloomConfig) (bits : Nat) (b o : Bloom) (key : Key) (hb : b.WF)
    (ho : o.WF) :
    (Bloom.new cfg bits).WF ∧ Bloom.empty.WF ∧ (b.add h key).WF ∧ (b.merge o).1.WF ∧ b.clear.WF ∧
      b.offload.1.WF :=
  ⟨Bloom.new_WF cfg bits, Bloom.empty_WF, Bloom.add_WF h b key hb,
    Bloom.merge_WF b o _ _ hb ho rfl, Bloom.clear_WF b hb, Bloom.offload_WF b hb⟩

/-- the bit the file probe tests — byte `i >> 3` of the little-endian image of the words (bincode: each `u64`
    little-endian), mask `1u8 << (i % 8)` — is the bit the in-memory test reads — word `i / 64`, mask
    `1u64 << (i % 64)`; for all word lists and all `i`, in particular for bit counts that are not a multiple
    of 64 -/
theorem file_probe_eq_mem (words : List Nat) (i : Nat) :
    getBitU8 ((wordsBytes words).getD (offsetAndMaskU8 i).1 0) (offsetAndMaskU8 i).2
      = (ABV.mk words (64 * words.length)).get i := by
  simp only [offsetAndMaskU8, ABV.get, ABV.offsetAndMask]
  exact file_probe_bit words i

/-- hence: probing the saved image gives the answer of the resident vector -/
theorem containsFile_eq_containsMem (h : Nat → Key → Nat) (b : Bloom) (v : ABV) (key : Key) (hb : b.WF)
    (hi : b.inner = some v) (readByte : Nat → Option Nat)
    (hread : ∀ p, p < 8 * v.toRawVec.length →
      readByte (b.bufferStartPosition + p) = (wordsBytes v.toRawVec)[p]?) :
    b.containsFile h readByte key = (b.containsMem h key).getD default :=
  Bloom.containsFile_eq_containsFast h b v key hb hi readByte hread

/-- `Bloom::from(save())` gives the filter back -/
theorem save_roundtrip (b : Bloom) (sv : Save) (hb : b.WF) (hs : b.save = some sv) :
    Bloom.fromSave sv = some b :=
  Bloom.fromSave_save b sv hb hs

/-- `from_raw(to_raw())` gives the filter back, byte level (trailing bytes are ignored) -/
theorem raw_roundtrip (b : Bloom) (bs trailing : List Nat) (hb : b.WF) (hbd : b.Bounded)
    (hs : b.toRaw = some bs) : Bloom.fromRaw (bs ++ trailing) = some b :=
  Bloom.fromRaw_toRaw b bs trailing hb hs hbd

/-- `deserialize_filters(serialize_filters())` gives bloom, range and `bloom_offset` back -/
theorem filters_roundtrip (keyLen : Nat) (c : Combined) (metaBuf : List Nat) (off : Nat) (hc : c.WF)
    (hsz : FBlob.Sized keyLen c) (hs : serializeFilters keyLen c = some (metaBuf, off)) :
    deserializeFilters metaBuf = some (c.bloom.getD Bloom.empty, c.range, off) :=
  deserialize_serialize keyLen c metaBuf off hc hsz.1 hsz.2.1 hsz.2.2.1 hsz.2.2.2 hs

/-- layout: `Save { config, buf, bits_count }` serialises `config` as five 8-byte fields, then the `u64`
    length of `buf`, so the words start at `buffer_start_position = 40 + 8 = 48`; in the index meta buffer
    (`u64 range_len | range_buf | bloom_buf`) the bloom image starts at `bloom_offset = 8 + |range_buf|`.
    `read_byte(48 + p) = meta[8 + |range_buf| + 48 + p]` is byte `p` of the words. -/
theorem bloom_offset_correct (keyLen : Nat) (c : Combined) (b : Bloom) (v : ABV) (metaBuf : List Nat) (off : Nat)
    (hc : c.bloom = some b) (hi : b.inner = some v) (hs : serializeFilters keyLen c = some (metaBuf, off)) :
    b.bufferStartPosition = 48 ∧ off = 8 + (c.range.toRaw keyLen).length ∧
    metaBuf.drop (off + b.bufferStartPosition) = wordsBytes v.toRawVec ++ fle64 v.bits ∧
    ∀ p, p < 8 * v.toRawVec.length →
      metaReadByte metaBuf off (b.bufferStartPosition + p) = (wordsBytes v.toRawVec)[p]? :=
  ⟨rfl, (serializeFilters_drop keyLen c b v metaBuf off hc hi hs).1,
    (serializeFilters_drop keyLen c b v metaBuf off hc hi hs).2,
    fun p hp => metaReadByte_serializeFilters keyLen c b v metaBuf off hc hi hs p hp⟩

/-- an added key is in the range, and adding keeps earlier keys in -/
theorem range_no_fn (r : Range) (k x : Key) (hr : r.WF) :
    (r.add k).contains k = true ∧ (r.contains x = true → (r.add k).contains x = true) ∧ (r.add k).WF :=
  ⟨Range.add_contains r k hr, Range.add_mono r k x, Range.add_WF r k hr⟩

/-- merge: the result contains both operands; for two initialised ranges it is exactly the hull -/
theorem range_merge_hull (r o : Range) (x : Key) :
    (r.merge o).2 = true ∧
    (r.contains x = true ∨ o.contains x = true → (r.merge o).1.contains x = true) ∧
    (r.init = true → o.init = true →
      (r.merge o).1.init = true ∧ (r.merge o).1.min = Nat.min r.min o.min ∧
        (r.merge o).1.max = Nat.max r.max o.max) :=
  ⟨rfl, Range.mergeWith_sup r o x, Range.mergeWith_hull r o⟩

/-- `from_raw(to_raw())` of the range filter gives the range back (trailing bytes are ignored) -/
theorem range_roundtrip (keyLen : Nat) (r : Range) (trailing : List Nat) (hk : keyLen < 2 ^ 64)
    (hmin : r.min < 256 ^ keyLen) (hmax : r.max < 256 ^ keyLen) :
    Range.fromRaw (r.toRaw keyLen ++ trailing) = some r :=
  Range.fromRaw_toRaw keyLen r trailing hk hmin hmax

/-- the combined filter: an added key is never excluded, earlier keys stay, a successful merge covers both
    operands, off-loading only widens, and the full check of the off-loaded filter against the dumped file
    equals the fast check of the resident one -/
theorem combined_no_fn (h : Nat → Key → Nat) (c o r : Combined) (k x : Key) (hc : c.WF) (ho : o.WF) :
    (c.add h k).containsFast h k ≠ .notContains ∧
    (c.containsFast h x ≠ .notContains → (c.add h k).containsFast h x ≠ .notContains) ∧
    (c.merge o = (r, true) → c.containsFast h x ≠ .notContains ∨ o.containsFast h x ≠ .notContains →
      r.containsFast h x ≠ .notContains) ∧
    (c.containsFast h x ≠ .notContains → c.offload.1.containsFast h x ≠ .notContains) ∧
    (∀ keyLen metaBuf off, serializeFilters keyLen c = some (metaBuf, off) →
      c.offload.1.contains h (metaReadByte metaBuf off) x = c.containsFast h x) :=
  ⟨Combined.add_contains h c k hc, Combined.add_mono h c k x,
    fun hm hx => Combined.merge_sup h c o r x hc ho hm hx, Combined.offload_containsFast h c x,
    fun keyLen metaBuf off hs => Combined.contains_offload_eq h keyLen c metaBuf off hc hs x⟩

theorem wf_combined (h : Nat → Key → Nat) (c o : Combined) (k : Key) (hc : c.WF) (ho : o.WF) :
    (c.add h k).WF ∧ (c.merge o).1.WF ∧ c.offload.1.WF :=
  ⟨Combined.add_WF h c k hc, Combined.merge_WF c o _ _ hc ho rfl, Combined.offload_WF c hc⟩

/-! ## the container

`Container.Inv ops ok c g` (`Pearl/Proofs/ContainerLemmas.lean`) is the invariant over the arena exactly as
stored; `g[j]` is the filter child `j` had when it was pushed (`none` = the child had no filter).  It says:
the arena is either flat (root → leaves, fewer than `group_size` slots) or two-level (root → groups → leaves,
group ids distinct, leaves in slot order), every `some` filter is valid, and every node filter covers `g[j]`
for every leaf `j` below the node — slots emptied by `pop` included.  `node_filter_sup` is its arena-level
reading; the theorems `node_filter_sup_new` / `_push` / `_pop` / `_repush` / `_offload` / `_extend` state that the
operation named keeps `Container.Inv` (`_new`: establishes it), from which `node_filter_sup` gives the covering
fact for the new container. -/

section container
variable {F C : Type} {ops : FilterOps F} {ok : F → Prop}

/-- `HierarchicalFilters::new(group_size, level)` with `group_size ≥ 1` satisfies `Container.Inv`, for the empty
    ghost list (here `g` is the group size) -/
theorem node_filter_sup_new (g l : Nat) (hg : 0 < g) :
    Container.Inv ops ok (Container.new g l : Container F C) [] :=
  Container.new_inv ops ok g l hg

/-- `push` keeps `Container.Inv`, all three cases (root fill, root promotion when `children.len()` reaches
    `group_size`, last group / new group); the ghost list gains the filter the child has -/
theorem node_filter_sup_push (laws : FilterLaws ops ok) (cops : ChildOps F C) (c : Container F C)
    (g : List (Option F)) (child : C) (hinv : Container.Inv ops ok c g) (hitem : okOpt ok (cops.filterOf child)) :
    Container.Inv ops ok (Container.push ops cops c child).1 (g ++ [cops.filterOf child]) :=
  Container.push_inv laws cops c g child hinv hitem

/-- `pop` / `remove` keep `Container.Inv`: they only empty a slot, so the ghost list, hence every node's
    obligation, is unchanged -/
theorem node_filter_sup_pop (c : Container F C) (g : List (Option F)) (id : Nat) (hinv : Container.Inv ops ok c g) :
    Container.Inv ops ok c.pop.1 g ∧ Container.Inv ops ok (c.remove id).1 g :=
  ⟨hinv.refine (Container.pop_refines ops ok c), hinv.refine (Container.remove_refines ops ok c id)⟩

/-- `Container.Inv` is kept by the re-`push` of a restored blob (`pop`, then `push` of the popped child, possibly
    with more keys) -/
theorem node_filter_sup_repush (laws : FilterLaws ops ok) (cops : ChildOps F C) (c : Container F C)
    (g : List (Option F)) (child : C) (hinv : Container.Inv ops ok c g) (hitem : okOpt ok (cops.filterOf child)) :
    Container.Inv ops ok (Container.push ops cops c.pop.1 child).1 (g ++ [cops.filterOf child]) :=
  Container.push_inv laws cops c.pop.1 g child (hinv.refine (Container.pop_refines ops ok c)) hitem

/-- `extend` / `from_vec` keeps `Container.Inv`; the ghost list gains the filters of the children, in order -/
theorem node_filter_sup_extend (laws : FilterLaws ops ok) (cops : ChildOps F C) (xs : List C) :
    ∀ (c : Container F C) (g : List (Option F)), Container.Inv ops ok c g →
      (∀ x ∈ xs, okOpt ok (cops.filterOf x)) →
      Container.Inv ops ok (Container.extend ops cops c xs) (g ++ xs.map cops.filterOf) := by
  induction xs with
  | nil => intro c g h _; simpa [Container.extend] using h
  | cons x xs ih =>
    intro c g h hx
    have := ih _ _ (node_filter_sup_push laws cops c g x h (hx x (List.mem_cons_self ..)))
      (fun y hy => hx y (List.mem_cons_of_mem _ hy))
    simpa [Container.extend] using this

/-- `offload_buffer(needed, level)` keeps `Container.Inv` for the same ghost list -/
theorem node_filter_sup_offload (laws : FilterLaws ops ok) (cops : ChildOps F C) (c : Container F C)
    (g : List (Option F)) (needed level : Nat) (hinv : Container.Inv ops ok c g) :
    Container.Inv ops ok (Container.offload ops cops c needed level).1 g :=
  hinv.refine (Container.offload_refines laws cops c needed level)

/-- under the invariant `push` does not panic; with `group_size = 0` the very first `push` does
    (`last_inner_node().unwrap()` on the empty root) -/
theorem push_total (c : Container F C) (g : List (Option F)) (hinv : Container.Inv ops ok c g) (l : Nat) :
    c.pushPanics = false ∧ (Container.new 0 l : Container F C).pushPanics = true :=
  ⟨Container.pushPanics_false c g hinv, rfl⟩

/-- arena-level reading: every node of the arena that carries a filter covers the push-time filter of every
    leaf below it (walk of the `children` lists), present or removed -/
theorem node_filter_sup (c : Container F C) (g : List (Option F)) (hinv : Container.Inv ops ok c g)
    (id : Nat) (nd : FNode F) (f : F) (hn : c.getInner id = some (.node nd)) (hf : nd.filter = some f)
    (j : Nat) (hj : j ∈ Container.leavesBelow c (c.inner.length + 2) id) (k : Key)
    (hk : ops.coversOpt (g.getD j none) k) : ops.covers f k := by
  have := Container.node_filter_sup_arena c g hinv id nd hn j hj k hk
  rw [hf] at this; exact this

/-- `iter_possible_childs(k)` yields slots in ascending order, each at most once (a sublist of `0 … children.len()-1`;
    which slots depends on the filters and on `k`) -/
theorem root_leaves (c : Container F C) (g : List (Option F)) (hinv : Container.Inv ops ok c g) (k : Key) :
    (Container.iterPossible ops c false k).Sublist (List.range c.children.length) :=
  (Container.iterPossible_spec c g k hinv).1

/-- `iter_possible_childs_rev(k)` yields, in reverse slot order, present children only, and among them every
    child whose push-time filter covers `k` (the root's own filter is not consulted) -/
theorem possible_rev_complete (c : Container F C) (g : List (Option F)) (k : Key)
    (hinv : Container.Inv ops ok c g) :
    (Container.iterPossible ops c true k).Sublist (List.range c.children.length).reverse ∧
    (Container.iterPossible ops c true k) = (Container.iterPossible ops c false k).reverse ∧
    (∀ j ∈ Container.iterPossible ops c true k, (c.getChild j).isSome) ∧
    (∀ j lf, c.getChild j = some lf → ops.coversOpt (g.getD j none) k →
      j ∈ Container.iterPossible ops c true k) := by
  have hrev := Container.iterPossible_rev ops c k
  obtain ⟨hsub, hcomp⟩ := Container.iterPossible_spec c g k hinv
  refine ⟨by rw [hrev]; exact List.reverse_sublist.mpr hsub, hrev, Container.iterPossible_present ops c true k,
    fun j lf hj hc => ?_⟩
  rw [hrev, List.mem_reverse]
  exact hcomp j (by simp [Container.present, hj]) hc

end container

/-- `CombinedFilter` satisfies the laws the container needs -/
theorem combined_laws (h : Nat → Key → Nat) : FilterLaws (combinedOps h) Combined.WF := combinedLaws h

/-- blob level: `IndexStruct::push` adds the key to the filter, `dump` writes it, `offload` drops the buffer,
    `load` reads it back — the invariant `FBlob.Inv` (filter, or file image, covers every key of the index)
    is kept -/
theorem blob_filter_inv (h : Nat → Key → Nat) (keyLen : Nat) (b b' : FBlob) (k : Key) (on : Bool)
    (hb : b.Inv h keyLen) :
    (b.push h k = some b' → b'.Inv h keyLen) ∧ (b.dump keyLen = some b' → b'.Inv h keyLen) ∧
    b.offload.1.Inv h keyLen ∧ (FBlob.Sized keyLen b.filter → b.load on = some b' → b'.Inv h keyLen) :=
  ⟨FBlob.push_Inv k hb, FBlob.dump_Inv hb, FBlob.offload_Inv hb, FBlob.load_Inv on hb⟩

/-- a blob never answers `NotContains` for a key of its index (in-memory index: key presence; on-disk index:
    filters, the off-loaded bloom being probed in the file), and the filter it hands to the container covers
    the key -/
theorem blob_check_filter_no_fn (h : Nat → Key → Nat) (keyLen : Nat) (b : FBlob) (k : Key) (hb : b.Inv h keyLen)
    (hk : k ∈ b.keys) :
    b.checkFilter h k ≠ .notContains ∧ b.checkFilterFast h k ≠ .notContains ∧
    (combinedOps h).coversOpt ((blobOps h).filterOf b) k ∧ okOpt Combined.WF ((blobOps h).filterOf b) :=
  ⟨FBlob.checkFilter_no_fn hb k hk, FBlob.checkFilterFast_no_fn hb k hk, FBlob.filter_covers hb k hk,
    fun f hf => by cases hf; exact FBlob.filter_WF hb⟩

/-- A closed blob that holds `k` is never pruned: this is the shape of the hypothesis `prune b k = true → k ∉ keys b`
    of `prune_transparent` (C01).  `storagePrunes` itself is not substituted for `prune` anywhere: at L2 `prune` stays
    a parameter, and `BlobIOLaws.getLatestEntryM_rr` (`Pearl/Proofs/EndToEndLemmas.lean`) builds the predicate on L2
    blobs ("not among the consulted blobs that pass `check_filter`") from `possible_rev_complete_stack` and the
    blob-level `check_filter` law of the blob invariant (`BlobCore.checkFilter_no_fn` for a resident filter).
    `keysAtPush j` are the keys blob `j` had when it was pushed into the container (so its push-time filter
    `g[j]` covers them, `hpush`, by `blob_check_filter_no_fn`); keys that appear in a closed blob afterwards
    are delete markers, which `delete_in_closed` pushes only into blobs where the key is live — the explicit
    hypothesis `delete_adds_no_new_key`.  For the storage as modelled end to end the two hypotheses hold together as
    the second conjunct of `E2E.invariant_container` (`Pearl/Props/EndToEnd.lean`: `g[j]` covers every key blob `j`
    holds now), and `E2E.closed_blob_never_pruned` is this theorem there. -/
theorem check_filter_no_fn (h : Nat → Key → Nat) (keyLen : Nat) (c : Container Combined FBlob)
    (g : List (Option Combined)) (keysAtPush : Nat → List Key)
    (hinv : Container.Inv (combinedOps h) Combined.WF c g)
    (hpush : ∀ j k, k ∈ keysAtPush j → (combinedOps h).coversOpt (g.getD j none) k)
    (delete_adds_no_new_key : ∀ j lf, c.getChild j = some lf → ∀ k ∈ lf.data.keys, k ∈ keysAtPush j)
    (hblob : ∀ j lf, c.getChild j = some lf → lf.data.Inv h keyLen)
    (j : Nat) (lf : FLeaf FBlob) (hj : c.getChild j = some lf) (k : Key) :
    storagePrunes h c j k = true → k ∉ lf.data.keys := by
  intro hp hk
  have hcov := hpush j k (delete_adds_no_new_key j lf hj k hk)
  have hmem := (possible_rev_complete c g k hinv).2.2.2 j lf hj hcov
  have hchk := FBlob.checkFilter_no_fn (hblob j lf hj) k hk
  simp only [storagePrunes, hj, Bool.or_eq_true, Bool.not_eq_true', beq_iff_eq] at hp
  rcases hp with hp | hp
  · have : (Container.iterPossible (combinedOps h) c true k).contains j = true := by simpa using hmem
    rw [this] at hp; cases hp
  · exact hchk hp

/-- the container's `BloomProvider::check_filter` (used by `Storage::check_filter`) does not answer
    `NotContains` either -/
theorem container_check_filter_no_fn (h : Nat → Key → Nat) (keyLen : Nat) (c : Container Combined FBlob)
    (g : List (Option Combined)) (keysAtPush : Nat → List Key)
    (hinv : Container.Inv (combinedOps h) Combined.WF c g)
    (hpush : ∀ j k, k ∈ keysAtPush j → (combinedOps h).coversOpt (g.getD j none) k)
    (delete_adds_no_new_key : ∀ j lf, c.getChild j = some lf → ∀ k ∈ lf.data.keys, k ∈ keysAtPush j)
    (hblob : ∀ j lf, c.getChild j = some lf → lf.data.Inv h keyLen)
    (j : Nat) (lf : FLeaf FBlob) (hj : c.getChild j = some lf) (k : Key) (hk : k ∈ lf.data.keys) :
    Container.checkFilter (combinedOps h) (blobOps h) c k ≠ .notContains ∧
    Container.checkFilterFast (combinedOps h) c k ≠ .notContains := by
  have hcov := hpush j k (delete_adds_no_new_key j lf hj k hk)
  refine ⟨Container.checkFilter_no_fn (blobOps h) c g k hinv j lf hj hcov
    (FBlob.checkFilter_no_fn (hblob j lf hj) k hk), ?_⟩
  have hmem := (possible_rev_complete c g k hinv).2.2.2 j lf hj hcov
  rw [(possible_rev_complete c g k hinv).2.1, List.mem_reverse] at hmem
  unfold Container.checkFilterFast
  cases hl : Container.iterPossible (combinedOps h) c false k with
  | nil => rw [hl] at hmem; cases hmem
  | cons a l => simp

-- the hypotheses are satisfiable and the filters do exclude keys
example : (Bloom.new toyCfg 100).WF := Bloom.new_WF _ _
example : ((Bloom.new toyCfg 100).add toy 3).containsMem toy 3 = some .needAdditionalCheck := by decide
example : ((Bloom.new toyCfg 100).add toy 3).containsMem toy 4 = some .notContains := by decide
/-- the side condition of `range_no_fn` is needed: a range decoded with `min > max` can lose an added key -/
example : ((Range.mk 5 3 true).add 4).contains 4 = false := by decide
example : ((Range.new.add 5).add 9).contains 7 = true ∧ ((Range.new.add 5).add 9).contains 10 = false := by decide
example : (({ bloom := some (Bloom.new toyCfg 100), range := Range.new } : Combined).add toy 3).containsFast toy 4
    = .notContains := by decide

/-- the container invariant is inhabited by every container built by `new` + `push` of blobs -/
example (g : Nat) (hg : 0 < g) (bs : List (List Key)) :
    ∃ gl, Container.Inv (combinedOps toy) Combined.WF
      (Container.extend (combinedOps toy) (blobOps toy) (Container.new g 1) (bs.map toyBlob)) gl := by
  exact ⟨_, node_filter_sup_extend (combined_laws toy) (blobOps toy) (bs.map toyBlob) (Container.new g 1) []
    (node_filter_sup_new g 1 hg) (fun x hx f hf => by
      cases hf
      obtain ⟨ks, _, rfl⟩ := List.mem_map.mp hx
      exact FBlob.filter_WF (toyBlob_inv ks))⟩

-- pruning does happen (so `check_filter_no_fn` is not about a predicate that is constantly `false`):
-- two groups of two blobs; key 40 lives in slot 3 only; the first group is skipped, slot 2 is visited
-- (leaf filters are not consulted by the iterator) and then rejected by its own `check_filter`
example :
    let c := Container.extend (combinedOps toy) (blobOps toy) (Container.new 2 1 : Container Combined FBlob)
      [toyBlob [1], toyBlob [2], toyBlob [30], toyBlob [40]]
    Container.iterPossible (combinedOps toy) c true 40 = [3, 2] ∧
    storagePrunes toy c 0 40 = true ∧ storagePrunes toy c 2 40 = true ∧ storagePrunes toy c 3 40 = false := by
  decide

/-! ## the iterator as written: the stack machine of `PossibleRevIter::next`

`Container.iterNext` is the literal transcription of `PossibleRevIter::next` (explicit stack of `(index, entry)`
pairs); `Container.iterPossibleStack` runs it to exhaustion.  The theorems above are stated on the recursive
reading `Container.iterPossible`; under the container invariant the two coincide, fuels included, so all of them
hold of the code as written. -/

section stack
variable {F C : Type} {ops : FilterOps F} {ok : F → Prop}

/-- for every container satisfying the invariant (hence every container built by `new` / `push` / `pop` /
    `remove` / `offload_buffer`, see `node_filter_sup_*`), for both directions and every key: the stack machine
    yields exactly what the recursive reading yields.  The fuels are part of the statement: `4 * (inner.len() + 2)`
    loop iterations per `next` (a whole traversal needs at most `2·groups + 2·leaves + 2 ≤ 4·inner.len() + 2`),
    `children.len() + 1` calls of `next`, depth `inner.len() + 2` for the recursion. -/
theorem iterPossibleStack_eq (c : Container F C) (g : List (Option F)) (hinv : Container.Inv ops ok c g)
    (rev : Bool) (k : Key) :
    Container.iterPossibleStack ops c rev k = Container.iterPossible ops c rev k :=
  Container.iterPossibleStack_eq_of_inv c g hinv rev k

/-- the shape-independent core: on ANY arena (any depth) on which the recursive reading unfolds with fuel `D` at
    every node and `cost` bounds the loop iterations below an entry (`Container.WalkOK`), a single `next()` with
    fuel above the cost of the stack returns `None` only when nothing is left, and otherwise the head of what
    is left, with a stack denoting the tail (never costlier) -/
theorem next_spec (c : Container F C) (rev : Bool) (k : Key) (D : Nat) (cost : Nat → Nat)
    (hw : Container.WalkOK ops c rev k D cost) (fuel : Nat) (st : List (Nat × Nat)) (hst : Container.StackOK c st)
    (hfuel : Container.stackCost c rev cost st < fuel) :
    (Container.iterNext ops c rev k fuel st = none → Container.stackOut ops c rev k D st = []) ∧
    (∀ j st', Container.iterNext ops c rev k fuel st = some (j, st') →
      Container.stackOut ops c rev k D st = j :: Container.stackOut ops c rev k D st' ∧ Container.StackOK c st' ∧
        Container.stackCost c rev cost st' ≤ Container.stackCost c rev cost st) :=
  Container.iterNext_spec hw fuel st hst hfuel

/-- `root_leaves` for the stack machine: `iter_possible_childs(k)` as written yields an ascending sublist of the slots -/
theorem root_leaves_stack (c : Container F C) (g : List (Option F)) (hinv : Container.Inv ops ok c g) (k : Key) :
    (Container.iterPossibleStack ops c false k).Sublist (List.range c.children.length) := by
  rw [iterPossibleStack_eq c g hinv]; exact root_leaves c g hinv k

/-- `possible_rev_complete` for the stack machine: `iter_possible_childs_rev(k)` as written yields, in reverse slot
    order, present children only, and among them every child whose push-time filter covers `k` -/
theorem possible_rev_complete_stack (c : Container F C) (g : List (Option F)) (k : Key)
    (hinv : Container.Inv ops ok c g) :
    (Container.iterPossibleStack ops c true k).Sublist (List.range c.children.length).reverse ∧
    (Container.iterPossibleStack ops c true k) = (Container.iterPossibleStack ops c false k).reverse ∧
    (∀ j ∈ Container.iterPossibleStack ops c true k, (c.getChild j).isSome) ∧
    (∀ j lf, c.getChild j = some lf → ops.coversOpt (g.getD j none) k →
      j ∈ Container.iterPossibleStack ops c true k) := by
  rw [iterPossibleStack_eq c g hinv true k, iterPossibleStack_eq c g hinv false k]
  exact possible_rev_complete c g k hinv

end stack

/-- `check_filter_no_fn` for the code as written: `storagePrunesStack` is `storagePrunes` with
    `iter_possible_childs_rev` read through the stack machine -/
theorem check_filter_no_fn_stack (h : Nat → Key → Nat) (keyLen : Nat) (c : Container Combined FBlob)
    (g : List (Option Combined)) (keysAtPush : Nat → List Key)
    (hinv : Container.Inv (combinedOps h) Combined.WF c g)
    (hpush : ∀ j k, k ∈ keysAtPush j → (combinedOps h).coversOpt (g.getD j none) k)
    (delete_adds_no_new_key : ∀ j lf, c.getChild j = some lf → ∀ k ∈ lf.data.keys, k ∈ keysAtPush j)
    (hblob : ∀ j lf, c.getChild j = some lf → lf.data.Inv h keyLen)
    (j : Nat) (lf : FLeaf FBlob) (hj : c.getChild j = some lf) (k : Key) :
    storagePrunesStack h c j k = true → k ∉ lf.data.keys := by
  rw [storagePrunesStack_eq h c g hinv]
  exact check_filter_no_fn h keyLen c g keysAtPush hinv hpush delete_adds_no_new_key hblob j lf hj k

/-- `container_check_filter_no_fn` for the code as written: `check_filter` collects the stack machine,
    `check_filter_fast` is `iter_possible_childs(item).next().is_some()` (one `next` on the initial stack) -/
theorem container_check_filter_no_fn_stack (h : Nat → Key → Nat) (keyLen : Nat) (c : Container Combined FBlob)
    (g : List (Option Combined)) (keysAtPush : Nat → List Key)
    (hinv : Container.Inv (combinedOps h) Combined.WF c g)
    (hpush : ∀ j k, k ∈ keysAtPush j → (combinedOps h).coversOpt (g.getD j none) k)
    (delete_adds_no_new_key : ∀ j lf, c.getChild j = some lf → ∀ k ∈ lf.data.keys, k ∈ keysAtPush j)
    (hblob : ∀ j lf, c.getChild j = some lf → lf.data.Inv h keyLen)
    (j : Nat) (lf : FLeaf FBlob) (hj : c.getChild j = some lf) (k : Key) (hk : k ∈ lf.data.keys) :
    Container.checkFilterStack (combinedOps h) (blobOps h) c k ≠ .notContains ∧
    Container.checkFilterFastStack (combinedOps h) c k ≠ .notContains := by
  rw [Container.checkFilterStack_eq (blobOps h) c g hinv, Container.checkFilterFastStack_eq c g hinv]
  exact container_check_filter_no_fn h keyLen c g keysAtPush hinv hpush delete_adds_no_new_key hblob j lf hj k hk

/-- the example container: `group_size = 2`, five blobs (so: root → three groups → leaves), slot 3 removed -/
def toyStackContainer : Container Combined FBlob :=
  ((Container.extend (combinedOps toy) (blobOps toy) (Container.new 2 1 : Container Combined FBlob)
    [toyBlob [1], toyBlob [2], toyBlob [30], toyBlob [40], toyBlob [40, 5]]).remove 3).1

/-- it satisfies the invariant (it is reachable) -/
theorem toyStackContainer_inv : ∃ gl, Container.Inv (combinedOps toy) Combined.WF toyStackContainer gl := by
  refine ⟨_, (node_filter_sup_pop _ _ 3 (node_filter_sup_extend (combined_laws toy) (blobOps toy)
    [toyBlob [1], toyBlob [2], toyBlob [30], toyBlob [40], toyBlob [40, 5]] (Container.new 2 1) []
    (node_filter_sup_new 2 1 (by decide)) ?_)).2⟩
  intro x hx f hf
  cases hf
  simp only [List.mem_cons, List.not_mem_nil, or_false] at hx
  rcases hx with rfl | rfl | rfl | rfl | rfl <;> exact FBlob.filter_WF (toyBlob_inv _)

-- two levels (the root has three group nodes, five leaves below), slot 3 is empty, and the machine, run on
-- key 40, skips group 0 (filter), skips the removed leaf 3, and yields 4 and 2 (reverse) / 2 and 4 (forward)
example :
    ((toyStackContainer.getNode toyStackContainer.root).map (·.children)) = some [0, 4, 7] ∧
    toyStackContainer.inner.length = 9 ∧
    Container.leavesBelow toyStackContainer 11 toyStackContainer.root = [0, 1, 2, 3, 4] ∧
    (toyStackContainer.getChild 3).isNone = true ∧
    Container.iterPossibleStack (combinedOps toy) toyStackContainer true 40 = [4, 2] ∧
    Container.iterPossibleStack (combinedOps toy) toyStackContainer false 40 = [2, 4] ∧
    Container.iterPossibleStack (combinedOps toy) toyStackContainer true 2 = [1, 0] ∧
    storagePrunesStack toy toyStackContainer 0 40 = true ∧ storagePrunesStack toy toyStackContainer 4 40 = false ∧
    Container.checkFilterFastStack (combinedOps toy) toyStackContainer 40 = .needAdditionalCheck ∧
    Container.checkFilterFastStack (combinedOps toy) toyStackContainer 77 = .notContains := by
  decide +kernel

-- `iterPossibleStack_eq`, `possible_rev_complete_stack` instantiated on it
example (rev : Bool) (k : Key) :
    Container.iterPossibleStack (combinedOps toy) toyStackContainer rev k =
      Container.iterPossible (combinedOps toy) toyStackContainer rev k := by
  obtain ⟨gl, h⟩ := toyStackContainer_inv
  exact iterPossibleStack_eq _ gl h rev k

example (k : Key) : ∀ j ∈ Container.iterPossibleStack (combinedOps toy) toyStackContainer true k, j ≠ 3 := by
  obtain ⟨gl, h⟩ := toyStackContainer_inv
  intro j hj hj3
  subst hj3
  have := (possible_rev_complete_stack _ gl k h).2.2.1 3 hj
  revert this
  decide

-- the hypothesis `WalkOK` of `next_spec` is satisfiable: it follows from the invariant
example (rev : Bool) (k : Key) :
    Container.WalkOK (combinedOps toy) toyStackContainer rev k (toyStackContainer.inner.length + 2)
      (Container.costOf toyStackContainer) := by
  obtain ⟨gl, h⟩ := toyStackContainer_inv
  exact h.walkOK rev k

-- the `next` fuel is not tight but of the right order: a whole traversal of the example costs 17 loop
-- iterations (bound `4 * (9 + 2) = 44`); the first `next` takes 3 of them (push group 0, push its first leaf,
-- pop the leaf), so with fuel 2 it runs out
example :
    Container.costOf toyStackContainer toyStackContainer.root = 17 ∧
    Container.iterNext (combinedOps toy) toyStackContainer false 2 2 [(0, toyStackContainer.root)] = none ∧
    Container.iterNext (combinedOps toy) toyStackContainer false 2 3 [(0, toyStackContainer.root)] =
      some (0, [(1, 0), (1, 3)]) := by
  decide

-- the invariant is needed: on an arena that is not a tree (the same leaf listed three times below the root, which
-- no sequence of operations produces) the recursive reading yields the child three times while the stack
-- machine, limited to `children.len() + 1` items, stops after two
example :
    let c : Container Combined FBlob :=
      { inner := [some (.node { children := [1, 1, 1] }), some (.leaf 0 0)],
        children := [some { parent := 0, data := toyBlob [1] }], root := 0, groupSize := 4, level := 1 }
    Container.iterPossible (combinedOps toy) c false 1 = [0, 0, 0] ∧
    Container.iterPossibleStack (combinedOps toy) c false 1 = [0, 0] := by
  decide

/-- the probing loop answers `NotContains` only on the evidence of a byte that was really read and whose bit is
    clear: a read that fails (`readByte … = none`: I/O error, file cut under the running session) can never be the
    reason for "definitely absent" -/
theorem probe_file_absent_has_witness (readByte : Nat → Option Nat) (start : Nat) (ps : List Nat)
    (hn : Bloom.probeFile readByte start ps = .notContains) :
    ∃ i ∈ ps, ∃ byte, readByte (start + (offsetAndMaskU8 i).1) = some byte ∧
      getBitU8 byte (offsetAndMaskU8 i).2 = false := by
  induction ps with
  | nil => simp [Bloom.probeFile] at hn
  | cons i rest ih =>
    unfold Bloom.probeFile at hn
    simp only at hn
    cases hr : readByte (start + (offsetAndMaskU8 i).1) with
    | none => rw [hr] at hn; simp at hn
    | some byte =>
      rw [hr] at hn
      simp only at hn
      by_cases hb : getBitU8 byte (offsetAndMaskU8 i).2 = true
      · rw [if_pos hb] at hn
        obtain ⟨j, hj, w, hw⟩ := ih hn
        exact ⟨j, List.mem_cons_of_mem _ hj, w, hw⟩
      · exact ⟨i, List.mem_cons_self, byte, hr, by simpa using hb⟩

/-- an index file none of whose filter bytes can be read: the off-loaded filter asks for the additional check,
    for every key -/
theorem bloom_unreadable_file_needs_check (h : Nat → Key → Nat) (b : Bloom) (key : Key)
    (readByte : Nat → Option Nat) (hu : ∀ p, readByte p = none) :
    b.containsFile h readByte key = .needAdditionalCheck := by
  unfold Bloom.containsFile
  split
  · rfl
  · cases hp : Bloom.probeFile readByte b.bufferStartPosition (Bloom.positions h b.k b.bits key) with
    | needAdditionalCheck => rfl
    | notContains =>
      obtain ⟨i, _, byte, hr, _⟩ := probe_file_absent_has_witness readByte _ _ hp
      rw [hu] at hr; cases hr

/-- non-vacuity: a filter with bits and hashers, and a provider that fails on every read -/
example : ({ inner := none, bits := 64, k := 2, cfg := BloomConfig.empty } : Bloom).containsFile
    (fun i x => i + x) (fun _ => none) (7 : Key) = .needAdditionalCheck :=
  bloom_unreadable_file_needs_check _ _ _ _ (fun _ => rfl)

end Pearl.C10

open Pearl.C10 in
#print axioms bloom_add_contains
#print axioms Pearl.C10.bloom_mono
#print axioms Pearl.C10.bloom_merge_sup
#print axioms Pearl.C10.bloom_merge_only_if_compatible
#print axioms Pearl.C10.bloom_zero_sizes
#print axioms Pearl.C10.wf_bloom
#print axioms Pearl.C10.file_probe_eq_mem
#print axioms Pearl.C10.containsFile_eq_containsMem
#print axioms Pearl.C10.save_roundtrip
#print axioms Pearl.C10.raw_roundtrip
#print axioms Pearl.C10.filters_roundtrip
#print axioms Pearl.C10.bloom_offset_correct
#print axioms Pearl.C10.range_no_fn
#print axioms Pearl.C10.range_merge_hull
#print axioms Pearl.C10.range_roundtrip
#print axioms Pearl.C10.combined_no_fn
#print axioms Pearl.C10.wf_combined
#print axioms Pearl.C10.node_filter_sup_new
#print axioms Pearl.C10.node_filter_sup_push
#print axioms Pearl.C10.node_filter_sup_pop
#print axioms Pearl.C10.node_filter_sup_repush
#print axioms Pearl.C10.node_filter_sup_offload
#print axioms Pearl.C10.node_filter_sup
#print axioms Pearl.C10.push_total
#print axioms Pearl.C10.root_leaves
#print axioms Pearl.C10.possible_rev_complete
#print axioms Pearl.C10.combined_laws
#print axioms Pearl.C10.blob_filter_inv
#print axioms Pearl.C10.blob_check_filter_no_fn
#print axioms Pearl.C10.check_filter_no_fn
#print axioms Pearl.C10.container_check_filter_no_fn
#print axioms Pearl.C10.iterPossibleStack_eq
#print axioms Pearl.C10.next_spec
#print axioms Pearl.C10.root_leaves_stack
#print axioms Pearl.C10.possible_rev_complete_stack
#print axioms Pearl.C10.node_filter_sup_extend
#print axioms Pearl.C10.check_filter_no_fn_stack
#print axioms Pearl.C10.container_check_filter_no_fn_stack
#print axioms Pearl.C10.toyStackContainer_inv
#print axioms Pearl.C10.probe_file_absent_has_witness
#print axioms Pearl.C10.bloom_unreadable_file_needs_check

/-
NOT YET PROVED
* `iterPossibleStack_eq` is proved for containers satisfying `Container.Inv` (arena of depth ≤ 3, as built by
  `new`/`push`/`pop`/`remove`/`offload_buffer`).  The shape-independent core (`next_spec`,
  `Container.iterStackCollect_eq`, `Container.iterPossibleStack_eq_walk`) covers any arena satisfying
  `Container.WalkOK`; `WalkOK` itself is derived only from `Container.Inv`, not from a general "the arena is a
  tree of depth < D" predicate.
* `PossibleRevIter` is not a fused iterator: if the popped top entry were a leaf whose slot is empty, `next`
  returns `None` with the rest of the stack still in place.  `iterNext` returns `none` there and the model says
  nothing about later calls; the case is unreachable (`Container.StackOK`: leaves are pushed only when their slot
  is occupied and the container is borrowed for the lifetime of the iterator).
-/
