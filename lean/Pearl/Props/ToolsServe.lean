import Pearl.Proofs.ToolsServe
import Pearl.Props.C16
import Pearl.Proofs.ToolsManyDemo
import Pearl.Tie.C06
/-
C16 composed with the storage: "the offline tools produce a blob that validates, contains every intact record before the
damage (and after an isolated damaged record when skipping is requested), AND FROM WHICH THE STORAGE SERVES EACH CONTAINED
RECORD WITH ITS ORIGINAL BYTES".

`Pearl/Props/C16.lean` proves the tool side at byte level; `Pearl/Props/EndToEnd{,Crash}.lean` the storage side (a state
whose blobs are byte files answers every query per `Spec`).  Here the file a tool wrote is put, as the single blob file
`0`, into an otherwise empty work directory — no index file, nothing in memory — and the storage is started on it.

Model: `Pearl/Model/ToolsServe.lean` (`CBlob.ofFile`, `CState.dirOne`, `startOn`, `startOutcome`, `Store.oneBlob`;
start-up itself is `CState.recover` / `CState.restart` of the storage model).
Lemmas: `Pearl/Proofs/ToolsServe.lean`.  The vocabulary of the statements (`full` is defined in
`Pearl/Proofs/EndToEndIndex.lean`, `startOn` / `startOutcome` in the model file, the rest in `Pearl/Proofs/ToolsServe.lean`):
  * `full g`         : the bridge between the record types.  C16 talks about `Rec × List UInt8` (a record with its explicit
                       data bytes), the storage about `Rec` whose value is `(len, seed)` with the bytes `dataOf`.  They
                       do not line up for arbitrary data bytes (no `(len, seed)` generates, e.g., `C05.sq16`), so the
                       composition is stated for the blobs of the form `full g = g.map (fun r => (r, dataOf r.data))`;
  * `Fits cfg g`     : keys `< 256^K::LEN`, timestamps `< 2^64`, the file `< 2^64` bytes (the last two are the hypotheses
                       `hts` / `hlen` of the C16 theorems; the first is the range condition of `COp.OK`, needed:
                       `E2E.key_range_needed`);
  * `startOn cfg out gh lazy` : `Storage::init` (= `CState.recover`: `read_blobs` with its quarantine decision, then the
                       rest of `init_from_existing`; `lazy` = the two ways the active blob is chosen) on the directory
                       whose single blob file `0` holds the bytes `out`.  `gh` is the history variable of the directory
                       entry; start-up does not read it (`OpensServing.ghost`, `startOn_ghost_irrelevant`);
  * `startOutcome cfg out`    : what `read_blobs` does with the file: `.ok headers` / `.quarantine` / `.fail`;
  * `openedState cfg S lazy`  : the storage `init` builds from the one blob opened with the records `S`;
  * `Serves1 cfg c S`         : `CInv cfg c`, the L2 history of `c` is `[(0, S)]`, and `read`, `contains`, `read_with`,
                       `contains_with`, `read_all_with_deletion_marker`, `read_all` answer without error per `Spec` on that
                       history, values as their `dataOf` bytes;
  * `OpensServing cfg out S lazy` : `out` is the file the storage's record writer produces for `S` (`blobBytes`), `validate_blob` accepts it, `read_blobs`
                       opens it with exactly the headers of `S`, `init` and `CState.restart` return
                       `openedState cfg S lazy`, which abstracts to `Store.oneBlob` and `Serves1`.
`cfg` is arbitrary: every statement holds for both settings of `validate_data_during_index_regen` (`cfg.validateData`),
for every filter configuration, and for both `lazy` settings.
-/
namespace Pearl.ToolsServe
open Pearl Pearl.E2E

/-! ## `OpensServing` spelled out -/

/-- what `OpensServing cfg out S lazy` says, with every read path written out -/
theorem opensServing_spelled {cfg : Cfg} {out : List UInt8} {S : List Rec} {lazy : Bool}
    (h : OpensServing cfg out S lazy) :
    validateBlob out = .ok () ∧
    out = blobBytes cfg.klen (full S) ∧
    startOutcome cfg out = .ok (blobHeaders cfg.klen (full S)) ∧
    (∃ c, startOn cfg out S lazy = some c ∧ (CState.dirOne cfg out S).restart cfg lazy = c ∧
      CInv cfg c ∧ c.abs cfg = Store.oneBlob cfg.allowDup S lazy ∧ (c.abs cfg).history = [(0, S)] ∧
      (∀ k, c.read cfg k = .ok ((Spec.latest [(0, S)] k).map (fun p => dataOf p.r.data))) ∧
      (∀ k, c.contains cfg k = .ok ((Spec.latest [(0, S)] k).map (·.r.ts))) ∧
      ((∀ r ∈ S, MetaOK r.mt) → ∀ k m, MetaOK m →
        c.readWith cfg k m = .ok ((Spec.readWith [(0, S)] k m).map (fun p => dataOf p.r.data)) ∧
        c.containsWith cfg k (some m) = .ok ((Spec.readWith [(0, S)] k m).map (·.r.ts))) ∧
      (∀ k, ∃ es, c.readAllMarked cfg k = .ok es ∧
        es.map entryView = (Spec.allCut [(0, S)] k).map (fun p => recView p.r)) ∧
      (∀ k, ∃ es, c.readAll cfg k = .ok es ∧
        es.map entryView = (Spec.allLive [(0, S)] k).map (fun p => recView p.r)) ∧
      (∀ k bytes, c.read cfg k = .ok (.found bytes) → ∃ r ∈ S, r.key = k ∧ r.del = false ∧ bytes = dataOf r.data) ∧
      ∀ gh, (startOn cfg out gh lazy).map CState.eraseGhost = some c.eraseGhost) :=
  ⟨h.valid, h.bytes, h.outcome, _, h.start, h.restart, h.serves.inv, h.abs, h.serves.history, h.serves.read,
    h.serves.contains, h.serves.readWith, fun k => (h.serves.readAll k).1, fun k => (h.serves.readAll k).2,
    h.serves.read_original, h.ghost⟩

/-- for ANY history variable `gh` on the directory entry, start-up succeeds and every answer of the started storage is the
    answer of `openedState` -/
theorem opensServing_any_ghost {cfg : Cfg} {out : List UInt8} {S : List Rec} {lazy : Bool}
    (h : OpensServing cfg out S lazy) (gh : List Rec) :
    ∃ c, startOn cfg out gh lazy = some c ∧
      (∀ k, c.read cfg k = (openedState cfg S lazy).read cfg k) ∧
      (∀ k, c.contains cfg k = (openedState cfg S lazy).contains cfg k) ∧
      (∀ k m, c.readWithOpt cfg k m = (openedState cfg S lazy).readWithOpt cfg k m) ∧
      (∀ k, c.readAll cfg k = (openedState cfg S lazy).readAll cfg k) := by
  have hg := h.ghost gh
  cases hs : startOn cfg out gh lazy with
  | none => rw [hs] at hg; cases hg
  | some c =>
    rw [hs] at hg
    have he : c.eraseGhost = (openedState cfg S lazy).eraseGhost := Option.some.inj hg
    refine ⟨c, rfl, fun k => ?_, fun k => ?_, fun k m => ?_, fun k => ?_⟩
    · rw [← (read_ghost_irrelevant cfg c k).1, he, (read_ghost_irrelevant cfg _ k).1]
    · rw [← (read_ghost_irrelevant cfg c k).2, he, (read_ghost_irrelevant cfg _ k).2]
    · rw [← (readWithOpt_ghost_irrelevant cfg c k m).1, he, (readWithOpt_ghost_irrelevant cfg _ k m).1]
    · rw [← (readAll_ghost_irrelevant cfg c k).2, he, (readAll_ghost_irrelevant cfg _ k).2]

/-! ## the recovered blob is opened and served -/

/-- the base case: the storage opens what its record writer produces (every `validate_every`: recovery of an intact blob is
    the identity) -/
theorem produced_blob_opens {cfg : Cfg} (hcfg : cfg.OK) {g : List Rec} (hg : Fits cfg g) (ve : Nat) (skip lazy : Bool) :
    recoveryBlobV ve (blobBytes cfg.klen (full g)) skip = .ok (blobBytes cfg.klen (full g)) ∧
    OpensServing cfg (blobBytes cfg.klen (full g)) g lazy :=
  ⟨(C16.recover_every cfg.klen (full g) ve hg.size (full_ts hg.ts)).1 skip, opensServing_produced hcfg hg lazy⟩

/-- record `i` altered (≤ 4 adjacent bytes, in its data or in its header outside the length fields): `validate_blob`
    rejects the input; recovery without skipping writes the blob of the records before `i`, with skipping the blob of all
    records but `i`; the storage opens either output and serves exactly those records with their original bytes -/
theorem recovered_flip_opens {cfg : Cfg} (hcfg : cfg.OK) {g : List Rec} (hg : Fits cfg g) (i : Nat) (input : List UInt8)
    (hflip : FlipIn cfg.klen (full g) i input) (ve : Nat) (lazy : Bool) :
    (∃ e, validateBlob input = .error e) ∧
    recoveryBlobV ve input false = .ok (blobBytes cfg.klen (full (g.take i))) ∧
    recoveryBlobV ve input true = .ok (blobBytes cfg.klen (full (g.eraseIdx i))) ∧
    OpensServing cfg (blobBytes cfg.klen (full (g.take i))) (g.take i) lazy ∧
    OpensServing cfg (blobBytes cfg.klen (full (g.eraseIdx i))) (g.eraseIdx i) lazy := by
  obtain ⟨h1, h2⟩ := (C16.recover_every cfg.klen (full g) ve hg.size (full_ts hg.ts)).2.1 i input hflip
  rw [← full_take] at h1
  rw [← full_eraseIdx] at h2
  exact ⟨C16.validate_rejects_flip cfg.klen (full g) i input hg.size (full_ts hg.ts) hflip, h1, h2,
    opensServing_produced hcfg (hg.take i) lazy, opensServing_produced hcfg (hg.eraseIdx i) lazy⟩

/-- the file cut strictly inside record `i`: `validate_blob` rejects it, recovery (both modes) writes the blob of the
    records before `i`, which the storage opens and serves -/
theorem recovered_cut_opens {cfg : Cfg} (hcfg : cfg.OK) {g : List Rec} (hg : Fits cfg g) (i t : Nat)
    (hc : CutIn cfg.klen (full g) i t) (ve : Nat) (skip lazy : Bool) :
    (∃ e, validateBlob ((blobBytes cfg.klen (full g)).take t) = .error e) ∧
    recoveryBlobV ve ((blobBytes cfg.klen (full g)).take t) skip = .ok (blobBytes cfg.klen (full (g.take i))) ∧
    OpensServing cfg (blobBytes cfg.klen (full (g.take i))) (g.take i) lazy := by
  have h1 := (C16.recover_every cfg.klen (full g) ve hg.size (full_ts hg.ts)).2.2 i t skip hc
  rw [← full_take] at h1
  exact ⟨(cutIn_tools cfg.klen (full g) i t hg.size (full_ts hg.ts) hc).1, h1,
    opensServing_produced hcfg (hg.take i) lazy⟩

/-- A produced blob (`full g`, under the hypotheses of `C16.recover_prefix` and the key range of
    the storage) damaged in record `i` by any flip / cut the C16 theorems cover.  For every `validate_every`, with and
    without `skip_wrong_record`, `recovery_blob` returns a file `out`; `out` is the blob of a list `S` of ORIGINAL records
    that starts with all the records before the damaged one — exactly those, or (skipping an altered record) all records
    but the damaged one —; and `out`, placed as the single blob file `0` of an otherwise empty work directory, is opened by
    start-up (not quarantined; `init` with quarantine = `CState.restart`) into a state satisfying `CInv` whose L2
    abstraction is the store with the one blob `(0, S)`: `read`, `contains`, `read_with`, `read_all` answer per `Spec` on
    that history with the original bytes (`OpensServing`, spelled out in `opensServing_spelled`). -/
theorem recovered_blob_opens {cfg : Cfg} (hcfg : cfg.OK) {g : List Rec} (hg : Fits cfg g) (i : Nat) (input : List UInt8)
    (hdam : FlipIn cfg.klen (full g) i input ∨
      ∃ t, CutIn cfg.klen (full g) i t ∧ input = (blobBytes cfg.klen (full g)).take t)
    (ve : Nat) (skip lazy : Bool) :
    ∃ out S, recoveryBlobV ve input skip = .ok out ∧
      g.take i <+: S ∧ S.Sublist g ∧
      (S = g.take i ∨ (skip = true ∧ FlipIn cfg.klen (full g) i input ∧ S = g.eraseIdx i)) ∧
      OpensServing cfg out S lazy := by
  rcases hdam with hflip | ⟨t, hc, rfl⟩
  · obtain ⟨_, h1, h2, o1, o2⟩ := recovered_flip_opens hcfg hg i input hflip ve lazy
    cases skip with
    | false => exact ⟨_, g.take i, h1, List.prefix_refl _, List.take_sublist _ _, Or.inl rfl, o1⟩
    | true =>
      refine ⟨_, g.eraseIdx i, h2, ?_, List.eraseIdx_sublist _ _, Or.inr ⟨rfl, hflip, rfl⟩, o2⟩
      rw [List.eraseIdx_eq_take_drop_succ]
      exact List.prefix_append _ _
  · obtain ⟨_, h1, o1⟩ := recovered_cut_opens hcfg hg i t hc ve skip lazy
    exact ⟨_, g.take i, h1, List.prefix_refl _, List.take_sublist _ _, Or.inl rfl, o1⟩

/-- the read path after recovery, in one line: whatever `read` returns from the storage started on the recovered file is
    the `dataOf` bytes of a record of the ORIGINAL blob with that key (and every record before the damage is in the
    history the answers are computed from) -/
theorem recovered_blob_serves_original {cfg : Cfg} (hcfg : cfg.OK) {g : List Rec} (hg : Fits cfg g) (i : Nat)
    (input : List UInt8)
    (hdam : FlipIn cfg.klen (full g) i input ∨
      ∃ t, CutIn cfg.klen (full g) i t ∧ input = (blobBytes cfg.klen (full g)).take t)
    (ve : Nat) (skip lazy : Bool) :
    ∃ out S c, recoveryBlobV ve input skip = .ok out ∧ startOn cfg out S lazy = some c ∧ CInv cfg c ∧
      g.take i <+: S ∧ S.Sublist g ∧
      (∀ k, c.read cfg k = .ok ((Spec.latest [(0, S)] k).map (fun p => dataOf p.r.data))) ∧
      ∀ k bytes, c.read cfg k = .ok (.found bytes) → ∃ r ∈ g, r.key = k ∧ r.del = false ∧ bytes = dataOf r.data := by
  obtain ⟨out, S, h1, h2, h3, _, h5⟩ := recovered_blob_opens hcfg hg i input hdam ve skip lazy
  refine ⟨out, S, _, h1, h5.start, h5.serves.inv, h2, h3, h5.serves.read, fun k bytes hr => ?_⟩
  obtain ⟨r, hr1, hr2⟩ := h5.serves.read_original k bytes hr
  exact ⟨r, h3.subset hr1, hr2⟩

/-! ## migration -/

/-- `migrate_blob` (every `validate_every`) turns the version-0 image of a produced blob into the
    blob, which the storage opens and serves in full -/
theorem migrated_blob_opens {cfg : Cfg} (hcfg : cfg.OK) {g : List Rec} (hg : Fits cfg g) (ve : Nat) (lazy : Bool) :
    migrateBlobV ve (blobBytesV0 cfg.klen (full g)) = .ok (blobBytes cfg.klen (full g)) ∧
    OpensServing cfg (blobBytes cfg.klen (full g)) g lazy :=
  ⟨(C16.migrate_preserves_every cfg.klen (full g) ve hg.size (full_ts hg.ts)).1, opensServing_produced hcfg hg lazy⟩

/-- the version-0 image ITSELF is refused by the storage: `Header::from_file` fails with `BlobVersion`, the one validation
    error `should_save_corrupted_blob` does not save (the table of `Pearl/Model/Crash.lean`, tied to the constants extracted
    from the source in `Tie/C06.lean`), so `read_blobs` does NOT quarantine the file: `init` FAILS — for every history
    variable, both `lazy` settings, both `validate_data_during_index_regen` settings (no hypothesis on `recs` at all) —, and
    `CState.restart` leaves the directory as it is.  (Had the file been quarantined, start-up would have succeeded
    without it: `startOn_quarantine`.) -/
theorem v0_image_rejected_not_quarantined (cfg : Cfg) (recs : List (Rec × List UInt8)) (gh : List Rec) (lazy : Bool) :
    blobHeaderFromFile (blobBytesV0 cfg.klen recs) = .error .blobVersion ∧
    BlobHeaderErr.blobVersion.cls = .validation Gen.SAVE_CORRUPTED_VALIDATION_EXCEPT ∧
    shouldSaveCorruptedBlob BlobHeaderErr.blobVersion.cls = false ∧
    startOutcome cfg (blobBytesV0 cfg.klen recs) = .fail ∧
    startOutcome cfg (blobBytesV0 cfg.klen recs) ≠ .quarantine ∧
    startOn cfg (blobBytesV0 cfg.klen recs) gh lazy = none ∧
    (CState.dirOne cfg (blobBytesV0 cfg.klen recs) gh).restart cfg lazy = CState.dirOne cfg (blobBytesV0 cfg.klen recs) gh := by
  have hb : blobHeaderFromFile (blobBytesV0 cfg.klen recs) = .error .blobVersion := by
    rw [blobBytesV0_eq]
    exact blobHeaderFromFile_version 0 (by decide) (by decide) _
  have hf : startOutcome cfg (blobBytesV0 cfg.klen recs) = .fail := by
    unfold startOutcome openBlob
    rw [hb]
    rfl
  obtain ⟨h1, h2⟩ := startOn_fail cfg _ gh lazy hf
  have hq : startOutcome cfg (blobBytesV0 cfg.klen recs) ≠ .quarantine := by rw [hf]; intro h; cases h
  exact ⟨hb, rfl, rfl, hf, hq, h1, h2⟩

/-- the two halves together, for the C16 inputs: before migration `init` fails on the file, after migration the storage
    serves every record -/
theorem migrate_makes_servable {cfg : Cfg} (hcfg : cfg.OK) {g : List Rec} (hg : Fits cfg g) (ve : Nat) (lazy : Bool) :
    startOn cfg (blobBytesV0 cfg.klen (full g)) g lazy = none ∧
    ∃ out, migrateBlobV ve (blobBytesV0 cfg.klen (full g)) = .ok out ∧ OpensServing cfg out g lazy :=
  ⟨(v0_image_rejected_not_quarantined cfg (full g) g lazy).2.2.2.2.2.1, _, (migrated_blob_opens hcfg hg ve lazy).1,
    (migrated_blob_opens hcfg hg ve lazy).2⟩

/-! ## `validate_blob` accepts ⟷ the storage opens the file with all its records -/

/-- the inputs the C16 theorems cover: a produced blob `full g`, any prefix of it (`t ≥` its length: the blob itself), or
    the blob with one record altered (`FlipIn`) -/
def Covered (cfg : Cfg) (g : List Rec) (x : List UInt8) : Prop :=
  (∃ t, x = (blobBytes cfg.klen (full g)).take t) ∨ ∃ i, FlipIn cfg.klen (full g) i x

/-- On the covered inputs, `validate_blob x` succeeds IF AND ONLY IF `x` is the file of
    a prefix `S` of the original records that start-up opens in full and serves (`OpensServing`, for both `lazy` settings).
    So on these inputs a file that `validate_blob` accepts needs no recovery, and a file it rejects (a cut inside a record
    or inside the blob header, an altered record) is not something the storage opens with all its records. -/
theorem validate_blob_iff_opens_partial {cfg : Cfg} (hcfg : cfg.OK) {g : List Rec} (hg : Fits cfg g) (x : List UInt8)
    (hx : Covered cfg g x) :
    validateBlob x = .ok () ↔ ∃ S, S <+: g ∧ ∀ lazy, OpensServing cfg x S lazy := by
  have hlen := hg.size
  have hts := full_ts hg.ts
  constructor
  · intro hv
    rcases hx with ⟨t, rfl⟩ | ⟨i, hflip⟩
    · by_cases ht : t < (blobBytes cfg.klen (full g)).length
      · by_cases hb : IsBoundary cfg.klen (full g) t
        · obtain ⟨n, _, rfl⟩ := hb
          rw [C16.prefix_at_boundary_is_blob, ← full_take]
          exact ⟨g.take n, List.take_prefix _ _, fun lazy => opensServing_produced hcfg (hg.take n) lazy⟩
        · obtain ⟨e, he⟩ := C16.validate_rejects_truncated cfg.klen (full g) hlen hts t ht hb
          rw [he] at hv; cases hv
      · rw [List.take_of_length_le (by omega)]
        exact ⟨g, List.prefix_refl _, fun lazy => opensServing_produced hcfg hg lazy⟩
    · obtain ⟨e, he⟩ := C16.validate_rejects_flip cfg.klen (full g) i x hlen hts hflip
      rw [he] at hv; cases hv
  · rintro ⟨S, _, h⟩
    exact (h false).valid

/-- "start-up opens `x` with all its records": for some history variable on the directory entry, `init` succeeds on the
    directory that holds `x` as its single blob file, and the started storage satisfies the invariant `CInv`, has the
    one-blob history `[(0, S)]` for some record list `S`, and serves it (`Serves1`).  Nothing is said about the bytes
    of `x`. -/
def OpensAll (cfg : Cfg) (x : List UInt8) (lazy : Bool) : Prop :=
  ∃ gh S c, startOn cfg x gh lazy = some c ∧ Serves1 cfg c S

/-- one direction holds for ARBITRARY bytes `x`: a file the storage opens with all its records is a file the storage's
    record writer produces (for the records served), hence `validate_blob` accepts it.  (Start-up does not alter the file, and `CInv` ties
    the bytes of every blob file to its records.) -/
theorem validate_of_opens_all {cfg : Cfg} (hcfg : cfg.OK) (x : List UInt8) (lazy : Bool) (h : OpensAll cfg x lazy) :
    validateBlob x = .ok () ∧ ∃ S, x = blobBytes cfg.klen (full S) ∧ Fits cfg S := by
  obtain ⟨gh, S, c, hs, hsv⟩ := h
  obtain ⟨hx, hf⟩ := produced_of_serves hcfg hs hsv.inv hsv.history
  exact ⟨by rw [hx]; exact C16.validate_accepts_produced cfg.klen (full S) hf.size (full_ts hf.ts), S, hx, hf⟩

/-- `validate_blob_iff_opens_partial`, storage side only: on the covered inputs, `validate_blob x` succeeds iff start-up
    opens `x` with all its records.  In particular, for a produced blob cut inside a record or inside its blob header, or
    with a record altered, whatever start-up does with the file (quarantine it; open it with a torn record, finding E8;
    open it with a record whose data no longer matches its checksum) the result is NOT a storage that satisfies the
    invariant and serves the records of the file. -/
theorem validate_blob_iff_opens_all_partial {cfg : Cfg} (hcfg : cfg.OK) {g : List Rec} (hg : Fits cfg g) (x : List UInt8)
    (hx : Covered cfg g x) (lazy : Bool) :
    validateBlob x = .ok () ↔ OpensAll cfg x lazy := by
  constructor
  · intro hv
    obtain ⟨S, _, h⟩ := (validate_blob_iff_opens_partial hcfg hg x hx).mp hv
    exact ⟨S, S, _, (h lazy).start, (h lazy).serves⟩
  · exact fun h => (validate_of_opens_all hcfg x lazy h).1

/-- the unrestricted "⟸ … ⟹" is FALSE (C16 `validate_ignores_version`): `validate_blob` does not look at the blob version.
    A produced blob with the version field changed (byte 8: 1 → 7) is accepted by `validate_blob`, and the storage does not
    open it: `Header::from_file` fails with `BlobVersion`, `init` fails (not even a quarantine).  The witness is stated
    after the example blobs below (`validate_blob_iff_opens_false`). -/
theorem validate_accepts_but_init_fails (cfg : Cfg) (x : List UInt8) (hv : validateBlob x = .ok ())
    (hh : blobHeaderFromFile x = .error .blobVersion) (gh : List Rec) (lazy : Bool) :
    validateBlob x = .ok () ∧ startOutcome cfg x = .fail ∧ startOn cfg x gh lazy = none ∧
      (¬ ∃ S, OpensServing cfg x S lazy) ∧ ¬ OpensAll cfg x lazy := by
  have hf : startOutcome cfg x = .fail := by
    unfold startOutcome openBlob
    rw [hh]; rfl
  refine ⟨hv, hf, (startOn_fail cfg x gh lazy hf).1, ?_, ?_⟩
  · rintro ⟨S, h⟩
    rw [h.outcome] at hf
    cases hf
  · rintro ⟨gh', S, c, hs, _⟩
    rw [(startOn_fail cfg x gh' lazy hf).1] at hs
    cases hs

/-! ## non-vacuity: the 4-record example of C16

`C05.recs4` — a plain record, an empty record with meta, a deletion marker, an empty record — carries for its first record
the data bytes `C05.sq16`, which no `(len, seed)` generates; `g4` are the same four `Rec`s, `full g4` gives record 0 its
`dataOf ⟨16, 0⟩` bytes (`g4`, `f4 = blobBytes 3 (full g4)` and its header table are defined in
`Pearl/Proofs/ToolsManyDemo.lean`, namespace `Demo4`).  Same layout as `C16.b4`: 327 bytes, record boundaries 20, 104, 191, 259, 327. -/

namespace Demo4

/-- key length 3, groups of 2, a 100-bit bloom filter with two hashers; data validation during index regeneration on -/
def cfg : Cfg :=
  { klen := 3, group := 2, bloom := some (⟨10, 2, 100, 1, 0⟩, 100), h := fun j k => 7 * k + 13 * j,
    allowDup := true, validateData := true }

/-- the same with `validate_data_during_index_regen = false` -/
def cfgN : Cfg := { cfg with validateData := false }

theorem cfg_ok : cfg.OK :=
  ⟨by decide, by decide, fun p hp => by cases hp; exact ⟨⟨by decide, by decide, by decide, by decide, by decide⟩, by decide⟩⟩

theorem cfgN_ok : cfgN.OK := ⟨cfg_ok.klen, cfg_ok.group, cfg_ok.bloom⟩

theorem g4_fits : Fits cfg g4 := ⟨by decide, by decide, by rw [blobBytes_length]; decide⟩
theorem g4_fitsN : Fits cfgN g4 := ⟨g4_fits.key, g4_fits.ts, g4_fits.size⟩

theorem f4_layout : f4.length = 327 ∧ dataOf ⟨16, 0⟩ ≠ C05.sq16 ∧ full g4 ≠ C05.recs4 ∧
    (List.range 5).map (fun n => (blobBytes 3 (full (g4.take n))).length) = [20, 104, 191, 259, 327] := by
  simp only [blobBytes_length]; decide

/-- one data byte of record 0 altered (byte 91: 185 → 0xAA) -/
theorem flip_data : FlipIn 3 (full g4) 0 (f4.set 91 0xAA) :=
  FlipStep.set 91 185 0xAA (by decide) (by simp only [blobHeaders_f4, f4_eq]; decide +kernel)

/-- one timestamp byte in the header of record 1 altered (byte 148: 102 → 0xAA) -/
theorem flip_header : FlipIn 3 (full g4) 1 (f4.set 148 0xAA) :=
  FlipStep.set 148 102 0xAA (by decide) (by simp only [blobHeaders_f4, f4_eq]; decide +kernel)

/-- one timestamp byte in the header of record 2, the deletion marker of key 1, altered (byte 235: 103 → 0xAA) -/
theorem flip_marker : FlipIn 3 (full g4) 2 (f4.set 235 0xAA) :=
  FlipStep.set 235 103 0xAA (by decide) (by simp only [blobHeaders_f4, f4_eq]; decide +kernel)

theorem cut_150 : CutIn 3 (full g4) 1 150 := by simp only [CutIn, blobBytes_length]; decide

end Demo4

open Demo4

-- the recovery theorems on the examples: every `validate_every`, both `lazy` settings, both validation settings
example (ve : Nat) (lazy : Bool) :
    recoveryBlobV ve (f4.set 91 0xAA) true = .ok (blobBytes 3 (full (g4.eraseIdx 0))) ∧
    OpensServing cfg (blobBytes 3 (full (g4.eraseIdx 0))) (g4.eraseIdx 0) lazy ∧
    OpensServing cfgN (blobBytes 3 (full (g4.eraseIdx 0))) (g4.eraseIdx 0) lazy :=
  ⟨(recovered_flip_opens cfg_ok g4_fits 0 _ flip_data ve lazy).2.2.1,
   (recovered_flip_opens cfg_ok g4_fits 0 _ flip_data ve lazy).2.2.2.2,
   (recovered_flip_opens cfgN_ok g4_fitsN 0 _ flip_data ve lazy).2.2.2.2⟩

example (ve : Nat) (skip lazy : Bool) := recovered_blob_opens cfg_ok g4_fits 1 _ (Or.inl flip_header) ve skip lazy
example (ve : Nat) (skip lazy : Bool) :=
  recovered_blob_opens cfgN_ok g4_fitsN 1 (f4.take 150) (Or.inr ⟨150, cut_150, rfl⟩) ve skip lazy

/-- the answers after recovery with skipping of the altered record 1 (key 2), from the theorem: key 2 is gone, key 1 is
    deleted (its marker, record 2, survived), key 3 is served -/
example (ve : Nat) (lazy : Bool) : ∃ out c, recoveryBlobV ve (f4.set 148 0xAA) true = .ok out ∧
    startOn cfg out (g4.eraseIdx 1) lazy = some c ∧
    c.read cfg 2 = .ok .notFound ∧ c.read cfg 1 = .ok (.deleted 103) ∧ c.read cfg 3 = .ok (.found []) := by
  obtain ⟨_, _, h2, _, o2⟩ := recovered_flip_opens cfg_ok g4_fits 1 _ flip_header ve lazy
  refine ⟨_, _, h2, o2.start, ?_, ?_, ?_⟩ <;> rw [o2.serves.read_l2] <;> decide

/-- per `Spec` on the surviving history — which also means: when the record that is lost is a DELETION MARKER, recovery with
    skipping brings the deleted value back (key 1: deleted in the original blob, `Found` with the original 16 bytes after
    recovery of the blob whose marker was damaged); without skipping the records after the marker are lost instead -/
example (ve : Nat) (lazy : Bool) : ∃ out c, recoveryBlobV ve (f4.set 235 0xAA) true = .ok out ∧
    startOn cfg out (g4.eraseIdx 2) lazy = some c ∧
    (Spec.latest [(0, g4)] 1).map (·.r) = .deleted 103 ∧
    c.read cfg 1 = .ok (.found (dataOf ⟨16, 0⟩)) ∧ c.read cfg 3 = .ok (.found []) := by
  obtain ⟨_, _, h2, _, o2⟩ := recovered_flip_opens cfg_ok g4_fits 2 _ flip_marker ve lazy
  refine ⟨_, _, h2, o2.start, by rw [latest_oneBlob]; decide, ?_, ?_⟩ <;> rw [o2.serves.read_l2] <;> decide

-- the tool, then start-up on its output with an EMPTY history variable (`opensServing_any_ghost`), then the read paths:
-- `read` computed on the L2 store (`Serves1.read_l2`), the other answers by evaluation of `openedState`
/-- `recovery_blob` with skipping on the blob whose record 1 is altered -/
abbrev out1 : List UInt8 := blobBytes 3 (full (g4.eraseIdx 1))
/-- `recovery_blob` on the blob cut inside record 1 -/
abbrev out2 : List UInt8 := blobBytes 3 (full (g4.take 1))

example :
    recoveryBlob (f4.set 148 0xAA) true = .ok out1 ∧
    startOutcome cfg out1 = .ok (blobHeaders 3 (full (g4.eraseIdx 1))) ∧
    (startOn cfg out1 [] false).map (fun c => c.read cfg 1) = some (.ok (.deleted 103)) ∧
    (startOn cfg out1 [] false).map (fun c => c.read cfg 2) = some (.ok .notFound) ∧
    (startOn cfg out1 [] false).map (fun c => c.read cfg 3) = some (.ok (.found [])) ∧
    (startOn cfg out1 [] false).map (fun c => c.contains cfg 3) = some (.ok (.found 104)) ∧
    (startOn cfg out1 [] false).map (fun c => c.readWith cfg 2 (some [9, 8])) = some (.ok .notFound) ∧
    (startOn cfgN out1 [] true).map (fun c => c.read cfgN 1) = some (.ok (.deleted 103)) ∧
    (startOn cfgN out1 [] true).map (fun c => c.read cfgN 3) = some (.ok (.found [])) := by
  have o : OpensServing cfg out1 _ false := opensServing_produced cfg_ok (g4_fits.eraseIdx 1) false
  have oN : OpensServing cfgN out1 _ true := opensServing_produced cfgN_ok (g4_fitsN.eraseIdx 1) true
  obtain ⟨c, hc, hr, hct, hrw, _⟩ := opensServing_any_ghost o []
  obtain ⟨cN, hcN, hrN, _⟩ := opensServing_any_ghost oN []
  rw [hc, hcN]
  simp only [Option.map_some, hr, hrN, hct, CState.readWith, hrw, o.serves.read_l2, oN.serves.read_l2]
  refine ⟨?_, o.outcome, by decide, by decide, by decide, by decide +kernel, by decide +kernel, by decide, by decide⟩
  rw [out1, full_eraseIdx]
  exact C16.recover_skip 3 (full g4) 1 _ g4_fits.size (full_ts g4_fits.ts) flip_header

example :
    recoveryBlob (f4.take 150) false = .ok out2 ∧
    (startOn cfg out2 [] false).map (fun c => c.read cfg 1) = some (.ok (.found (dataOf ⟨16, 0⟩))) ∧
    (startOn cfg out2 [] false).map (fun c => c.read cfg 2) = some (.ok .notFound) ∧
    (startOn cfg out2 [] false).map (fun c => DemoRA.shape (c.readAll cfg 1)) = some (some [(101, false)]) ∧
    (startOn cfg out2 [] false).map (fun c => DemoRA.loads (c.readAll cfg 1)) =
      some (some [.ok (serMeta none, dataOf ⟨16, 0⟩)]) := by
  have o : OpensServing cfg out2 _ false := opensServing_produced cfg_ok (g4_fits.take 1) false
  obtain ⟨c, hc, hr, _, _, hra⟩ := opensServing_any_ghost o []
  rw [hc]
  simp only [Option.map_some, hr, hra, o.serves.read_l2]
  refine ⟨?_, by decide, by decide, by decide +kernel, by decide +kernel⟩
  rw [out2, full_take]
  exact C16.recover_truncated 3 (full g4) 1 150 false g4_fits.size (full_ts g4_fits.ts) cut_150

-- migration
example (ve : Nat) (lazy : Bool) : migrateBlobV ve (blobBytesV0 3 (full g4)) = .ok f4 ∧ OpensServing cfg f4 g4 lazy :=
  migrated_blob_opens cfg_ok g4_fits ve lazy

example (gh : List Rec) (lazy : Bool) : startOn cfg (blobBytesV0 3 (full g4)) gh lazy = none :=
  (v0_image_rejected_not_quarantined cfg (full g4) gh lazy).2.2.2.2.2.1

-- the version-0 image differs from the blob, `validate_blob` accepts it (`validateBlob_v0`: it does not look at the version),
-- `read_blobs` fails on it; a file with a damaged MAGIC byte, in contrast, is quarantined (by evaluation) and start-up
-- succeeds without it
example : blobBytesV0 3 (full g4) ≠ f4 ∧ validateBlob (blobBytesV0 3 (full g4)) = .ok () ∧
    startOutcome cfg (blobBytesV0 3 (full g4)) = .fail ∧ startOn cfg (blobBytesV0 3 (full g4)) [] false = none ∧
    startOutcome cfg (f4.set 0 7) = .quarantine ∧
    ((startOn cfg (f4.set 0 7) [] false).map fun c => (c.abs cfg).history) = some [(1, [])] := by
  have hv0 := v0_image_rejected_not_quarantined cfg (full g4) [] false
  have hq : startOutcome cfg (f4.set 0 7) = .quarantine := by simp only [f4_eq]; decide +kernel
  refine ⟨fun h => ?_, validateBlob_v0 3 _ g4_fits.size (full_ts g4_fits.ts), hv0.2.2.2.1, hv0.2.2.2.2.2.1, hq, ?_⟩
  · -- the storage opens `f4` and not the version-0 image
    have hf : startOutcome cfg f4 = .fail := h ▸ hv0.2.2.2.1
    have ho : startOutcome cfg f4 = _ := (opensServing_produced cfg_ok g4_fits false).outcome
    cases hf.symm.trans ho
  · rw [startOn_quarantine cfg _ [] false hq]; decide

/-- the quarantine table of the model is the one extracted from `should_save_corrupted_blob` -/
example : Gen.SAVE_CORRUPTED_VALIDATION_EXCEPT = "BlobVersion" ∧
    Pearl.SAVE_CORRUPTED_VALIDATION_EXCEPT = Gen.SAVE_CORRUPTED_VALIDATION_EXCEPT ∧
    classifyHeaderErr .blobVersion = .fail ∧ classifyHeaderErr .blobMagicByte = .quarantine :=
  ⟨Tie.C06.quarantine_table.2.1, C06.classify_table_tied.2.1, C06.classify_spec.2.2.1, C06.classify_spec.2.1⟩

-- the iff on covered inputs
example : Covered cfg g4 (f4.take 191) ∧ Covered cfg g4 (f4.take 150) ∧ Covered cfg g4 (f4.set 91 0xAA) ∧
    Covered cfg g4 f4 :=
  ⟨Or.inl ⟨191, rfl⟩, Or.inl ⟨150, rfl⟩, Or.inr ⟨0, flip_data⟩,
   Or.inl ⟨327, (List.take_of_length_le (Nat.le_of_eq f4_layout.1)).symm⟩⟩

example : validateBlob (f4.take 191) = .ok () ∧ ∃ S, S <+: g4 ∧ ∀ lazy, OpensServing cfg (f4.take 191) S lazy := by
  have hv : validateBlob (f4.take 191) = .ok () :=
    C16.validate_accepts_boundary 3 (full g4) g4_fits.size (full_ts g4_fits.ts) 191
      ⟨2, by decide, by rw [blobBytes_length]; decide⟩
  exact ⟨hv, (validate_blob_iff_opens_partial cfg_ok g4_fits _ (Or.inl ⟨191, rfl⟩)).mp hv⟩

example : ¬ ∃ S, S <+: g4 ∧ ∀ lazy, OpensServing cfg (f4.set 91 0xAA) S lazy := by
  obtain ⟨e, he⟩ := C16.validate_rejects_flip 3 (full g4) 0 _ g4_fits.size (full_ts g4_fits.ts) flip_data
  rw [← validate_blob_iff_opens_partial cfg_ok g4_fits _ (Or.inr ⟨0, flip_data⟩), he]
  exact nofun

/-- **the unrestricted iff is FALSE**: the produced blob with its version field changed (byte 8: 1 → 7) is accepted by
    `validate_blob` and refused by the storage (`init` fails; not quarantined) — for the storage that validates data and
    for the one that does not -/
theorem validate_blob_iff_opens_false :
    (¬ ∀ (cfg : Cfg) (x : List UInt8) (lazy : Bool),
      validateBlob x = .ok () ↔ ∃ S, OpensServing cfg x S lazy) ∧
    (¬ ∀ (cfg : Cfg) (x : List UInt8) (lazy : Bool), cfg.OK → (validateBlob x = .ok () ↔ OpensAll cfg x lazy)) := by
  have hv : validateBlob (f4.set 8 7) = .ok () := version7_accepted_not_opened.1
  have hw := validate_accepts_but_init_fails cfg _ hv version7_accepted_not_opened.2 [] false
  exact ⟨fun h => hw.2.2.2.1 ((h cfg _ false).mp hv), fun h => hw.2.2.2.2 ((h cfg _ false cfg_ok).mp hv)⟩

example (gh : List Rec) (lazy : Bool) :
    validateBlob (f4.set 8 7) = .ok () ∧ startOn cfg (f4.set 8 7) gh lazy = none ∧
    startOn cfgN (f4.set 8 7) gh lazy = none :=
  ⟨version7_accepted_not_opened.1,
    (validate_accepts_but_init_fails cfg _ version7_accepted_not_opened.1 version7_accepted_not_opened.2 gh lazy).2.2.1,
    (validate_accepts_but_init_fails cfgN _ version7_accepted_not_opened.1 version7_accepted_not_opened.2 gh lazy).2.2.1⟩

-- what start-up does with the DAMAGED files themselves (the cut: `C06.scan_prefix_cut`; the altered byte: by evaluation), and that none of it is "opened with all its
-- records" (by the theorem): the blob cut inside the data of record 0 is opened WITH the torn record when data validation
-- is off (finding E8) and quarantined when it is on; the blob with a data byte of record 0 altered is opened with all four
-- headers when data validation is off (the record then fails its checksum when read) and quarantined when it is on
example : startOutcome cfgN (f4.take 95) = .ok ((blobHeaders 3 (full g4)).take 1) ∧
    startOutcome cfg (f4.take 95) = .quarantine ∧
    startOutcome cfgN (f4.set 91 0xAA) = .ok (blobHeaders 3 (full g4)) ∧
    startOutcome cfg (f4.set 91 0xAA) = .quarantine := by
  have hc : CutIn 3 (full g4) 0 95 := by simp only [CutIn, blobBytes_length]; decide
  -- the cut lies in the data of record 0 (`C06.scan_prefix_cut`): only the validating scan notices
  have hcut := fun v => (C06.scan_prefix_cut 3 v (full g4) 0 95 _ _ rfl g4_fits.size (full_ts g4_fits.ts) hc).2
  have h75 : ¬ 95 - (blobBytes 3 ((full g4).take 0)).length < headerSize 3 := by rw [blobBytes_length]; decide
  refine ⟨(hcut false).trans ?_, (hcut true).trans ?_, ?_, ?_⟩
  · rw [if_neg h75, if_neg (by decide)]
  · rw [if_neg h75, if_pos (by decide)]
  all_goals
    simp only [f4_eq, blobHeaders_f4]
    decide +kernel

example (lazy : Bool) : ¬ OpensAll cfgN (f4.take 95) lazy ∧ ¬ OpensAll cfgN (f4.set 91 0xAA) lazy := by
  have hc : CutIn 3 (full g4) 0 95 := by simp only [CutIn, blobBytes_length]; decide
  obtain ⟨e1, h1⟩ : ∃ e, validateBlob (f4.take 95) = .error e :=
    (recovered_cut_opens cfgN_ok g4_fitsN 0 95 hc 0 false lazy).1
  obtain ⟨e2, h2⟩ := C16.validate_rejects_flip 3 (full g4) 0 _ g4_fits.size (full_ts g4_fits.ts) flip_data
  rw [← validate_blob_iff_opens_all_partial cfgN_ok g4_fitsN (f4.take 95) (Or.inl ⟨95, rfl⟩) lazy,
    ← validate_blob_iff_opens_all_partial cfgN_ok g4_fitsN _ (Or.inr ⟨0, flip_data⟩) lazy, h1, h2]
  exact ⟨nofun, nofun⟩

example (lazy : Bool) : OpensAll cfg (f4.take 191) lazy :=
  (validate_blob_iff_opens_all_partial cfg_ok g4_fits _ (Or.inl ⟨191, rfl⟩) lazy).mp
    (C16.validate_accepts_boundary 3 (full g4) g4_fits.size (full_ts g4_fits.ts) 191
      ⟨2, by decide, by rw [blobBytes_length]; decide⟩)

end Pearl.ToolsServe

#print axioms Pearl.ToolsServe.opensServing_spelled
#print axioms Pearl.ToolsServe.opensServing_any_ghost
#print axioms Pearl.ToolsServe.produced_blob_opens
#print axioms Pearl.ToolsServe.recovered_flip_opens
#print axioms Pearl.ToolsServe.recovered_cut_opens
#print axioms Pearl.ToolsServe.recovered_blob_opens
#print axioms Pearl.ToolsServe.recovered_blob_serves_original
#print axioms Pearl.ToolsServe.migrated_blob_opens
#print axioms Pearl.ToolsServe.v0_image_rejected_not_quarantined
#print axioms Pearl.ToolsServe.migrate_makes_servable
#print axioms Pearl.ToolsServe.validate_blob_iff_opens_partial
#print axioms Pearl.ToolsServe.validate_of_opens_all
#print axioms Pearl.ToolsServe.validate_blob_iff_opens_all_partial
#print axioms Pearl.ToolsServe.validate_accepts_but_init_fails
#print axioms Pearl.ToolsServe.validate_blob_iff_opens_false

/-
NOT PROVED: boundaries of the statements above, and possible strengthenings

1. Record types.  The composition is stated for blobs `full g` (data bytes = `dataOf (len, seed)`); for C16's general
   `Rec × List UInt8` with arbitrary data bytes the storage side has no L2 record to abstract to.  `C05.recs4` itself is NOT
   of that form (`f4_layout`), so the examples use `g4` = the same four records with the storage's data bytes.
2. One blob file in the directory.  With further (intact) blob files next to the recovered one the same argument goes through
   `ofBlobs_ref` for the list of opened blobs; not stated.
3. Index files.  The directory holds no index file (a tool output has none).  Start-up next to a STALE index file of the
   damaged original is the business of `restart_with_indexes_of_inv` / `crash_with_indexes` (C03: rejected unless current);
   the composition with a leftover index file of the ORIGINAL blob beside the RECOVERED blob is not stated.
4. `validate_blob x = ok ⟹ the storage opens x` for arbitrary bytes `x` is false (version: `validate_blob_iff_opens_false`);
   the other direction is proved for arbitrary bytes (`validate_of_opens_all`).  Other known gaps between the two, not
   refuted here on witnesses: `validate_blob` does not look at the header flags either; and `C16.oddFile` (a record whose
   meta region carries a trailing byte) is accepted by `validate_blob` AND by the storage scan, but is not a file the storage's
   record writer (`blobBytes`) produces, so it is not `OpensAll` in the sense used here (which includes the invariant `CInv`).
5. Alterations that touch a length field of a record header (C16, item 1 of its closing note) are outside `Covered`.
-/
