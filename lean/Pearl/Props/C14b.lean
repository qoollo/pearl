import Pearl.Proofs.CancelLoad
import Pearl.Tie.C14
/-
C14b — cancellation of `load_index` with the filter state of the blob (defect E24, repaired in /repo aeda328).

C14 "... the cancelled operation takes effect entirely or not at all ..., LATER OPERATIONS SUCCEED".
`Model/Cancel.lean` has `load_index` as `[.await none, .sync (on CBlob.loadIndex)]` and no filter state; the defect was in
exactly that place.  Model: Pearl/Model/CancelLoad.lean (`IdxSt`: index `onDisk | inMemory`, `dirty`, filter
`resident | offloaded`, `bloomOffset`, `count`, `active`; `loadOld` = `IndexStruct::load_in_memory` before aeda328,
`loadNew` = the code now; `step` / `exec` / `Reach` over the operations `offload`, `load` (completed or dropped at await
`k`), `push`, `dump`, `restore` (completed or dropped), `close`).  Lemmas: Pearl/Proofs/CancelLoad.lean.
`cancelAfter k items s` = the state when the future is dropped while it is suspended at its await number `k`
(`k` awaits have been passed); `runItems items s` = the future polled to completion.
-/
namespace Pearl.C14b
open Pearl Pearl.Cancel Pearl.CancelLoad

/-- a closed blob whose bloom buffer has been off-loaded (`[offload]` from a blob found at start-up) -/
def offloadedOnDisk : IdxSt :=
  { index := .onDisk, dirty := false, filter := .offloaded, bloomOffset := some BLOOM_OFFSET, count := 1, active := false }

example : (exec .new [.offload] (IdxSt.fromFile 0)).2 = offloadedOnDisk := by decide

/-! ## (1) `load` as it is now is cancel-atomic -/

/-- Dropping the future of `IndexStruct::load` (the code now) at ANY suspension point leaves the state before the call
    or the state after the completed call. -/
theorem load_new_cancel_atomic (s0 : IdxSt) (k : Nat) :
    cancelAfter k (loadNew s0) s0 = s0 ∨ cancelAfter k (loadNew s0) s0 = runItems (loadNew s0) s0 :=
  cancel_atomic_of_awaitsFirst _ (awaitsFirst_loadNew s0) k s0

/-- which: nothing happened at the two reads (`k = 0, 1`), everything afterwards; the completed call makes the index
    in-memory with a resident filter and no `bloom_offset` (and is the identity on an in-memory index) -/
theorem load_new_cancel_points (s0 : IdxSt) (k : Nat) :
    (k < awaits (loadNew s0) → cancelAfter k (loadNew s0) s0 = s0) ∧
    (awaits (loadNew s0) ≤ k → cancelAfter k (loadNew s0) s0 = runItems (loadNew s0) s0) ∧
    awaits (loadNew s0) = (if s0.index = .inMemory then 0 else 2) ∧
    runItems (loadNew s0) s0 =
      (if s0.index = .inMemory then s0 else { s0 with index := .inMemory, filter := .resident, bloomOffset := none }) := by
  refine ⟨fun hk => (cancel_awaitsFirst_eq _ (awaitsFirst_loadNew s0) k s0).trans (if_pos hk), cancelAfter_ge _ k s0, ?_, ?_⟩
  · unfold loadNew; split <;> rfl
  · rw [run_loadNew]; rfl

/-- not vacuous: on the off-loaded closed blob both outcomes occur, and they differ -/
example :
    cancelAfter 0 (loadNew offloadedOnDisk) offloadedOnDisk = offloadedOnDisk ∧
    cancelAfter 1 (loadNew offloadedOnDisk) offloadedOnDisk = offloadedOnDisk ∧
    cancelAfter 2 (loadNew offloadedOnDisk) offloadedOnDisk =
      { offloadedOnDisk with index := .inMemory, filter := .resident, bloomOffset := none } ∧
    runItems (loadNew offloadedOnDisk) offloadedOnDisk ≠ offloadedOnDisk := by decide

/-- `restore_active_blob` (locks, `load_index`, install) with the code now is cancel-atomic as well -/
theorem restore_new_cancel_atomic (s0 : IdxSt) (k : Nat) :
    cancelAfter k (restore .new s0) s0 = s0 ∨
    cancelAfter k (restore .new s0) s0 = runItems (restore .new s0) s0 :=
  cancel_atomic_of_awaitsFirst _ (awaitsFirst_restoreNew s0) k s0

example :
    cancelAfter 4 (restore .new offloadedOnDisk) offloadedOnDisk = offloadedOnDisk ∧
    cancelAfter 5 (restore .new offloadedOnDisk) offloadedOnDisk =
      { offloadedOnDisk with index := .inMemory, filter := .resident, bloomOffset := none, active := true } := by decide

/-! ## (2) later operations succeed -/

/-- `Good` (in memory ⇒ the filter buffer is resident; on disk ⇒ `bloom_offset` is set, the index file is not empty
    and nothing is unsaved) is an inductive invariant of the code now: it holds initially (`IndexStruct::new`, or
    `from_file` at start-up) and EVERY operation - `offload`, `load` and `restore` completed or dropped at any await,
    `push`, `dump`, `close`, successful or not - keeps it. -/
theorem good_inductive_new :
    Good IdxSt.new ∧ (∀ n, Good (IdxSt.fromFile n)) ∧ ∀ s (op : CancelLoad.Op), Good s → Good (step .new op s).2 :=
  ⟨good_new, good_fromFile, fun _ op h => good_step_new h op⟩

/-- From every reachable state of the code now, `dump` and `close` succeed; the dump leaves nothing unsaved; a filter
    query can be answered (buffer, or index file at `bloom_offset` - `read_byte` neither fails nor panics); a `load`
    (completed) followed by a `push` succeeds. -/
theorem later_ops_succeed_new (s : IdxSt) (h : Reach .new s) :
    Good s ∧ (dump s).1 = .ok ∧ (close s).1 = .ok ∧ (dump s).2.dirty = false ∧ Good (dump s).2 ∧
    filterReadable s = true ∧
    (exec .new [.load none, .push, .close] s).1 = [.ok, .ok, .ok] := by
  have g := reach_new_good h
  refine ⟨g, dump_ok_of_good g, close_ok_of_good g, dump_clean_of_good g, good_dump g, filterReadable_of_good g, ?_⟩
  have g1 : Good (step .new (.load none) s).2 := good_step_new g _
  have hm : (step .new (.load none) s).2.index = .inMemory := by
    show (runItems (loadNew s) s).index = _
    rw [run_loadNew]; split
    · assumption
    · rfl
  have hp : (CancelLoad.push (step .new (.load none) s).2).1 = .ok := by unfold CancelLoad.push; rw [if_pos hm]
  have g2 : Good (CancelLoad.push (step .new (.load none) s).2).2 := good_push g1
  show [Res.ok, (CancelLoad.push (step .new (.load none) s).2).1, (close (CancelLoad.push (step .new (.load none) s).2).2).1] = _
  rw [hp, close_ok_of_good g2]

/-- in history form: whatever was done before (any operations, any cut points), the final `close` reports `Ok` -/
theorem close_after_any_history_new (ops : List CancelLoad.Op) (s0 : IdxSt) (h0 : s0 = IdxSt.new ∨ ∃ n, s0 = IdxSt.fromFile n) :
    (exec .new (ops ++ [.close]) s0).1.getLast? = some .ok := by
  have g : Good s0 := by
    rcases h0 with rfl | ⟨n, rfl⟩
    · exact good_new
    · exact good_fromFile n
  rw [exec_append]
  show ((exec .new ops s0).1 ++ [(close (exec .new ops s0).2).1]).getLast? = _
  rw [List.getLast?_concat, close_ok_of_good (exec_new_good g ops)]

/-- the history that breaks the old code (see (3)) - closed blob found at start-up, loaded, dumped, its filter
    off-loaded, a `load` dropped after its first read, a `load`, a `push`, `close` -/
def e24History : List CancelLoad.Op := [.load none, .dump, .offload, .load (some 1), .load none, .push, .close]

/-- not vacuous: with the code now every step of that history reports `Ok`, the dropped `load` left the blob on disk,
    and at the end everything is saved -/
example :
    (exec .new e24History (IdxSt.fromFile 0)).1 = [.ok, .ok, .ok, .ok, .ok, .ok, .ok] ∧
    (exec .new (e24History.take 4) (IdxSt.fromFile 0)).2 = offloadedOnDisk ∧
    (exec .new e24History (IdxSt.fromFile 0)).2 =
      { index := .onDisk, dirty := false, filter := .resident, bloomOffset := some BLOOM_OFFSET, count := 2,
        active := false } := by decide

/-! ## (3) the code before aeda328 -/

/-- the state the old code is left in: an in-memory index next to a filter without its buffer -/
def e24Stuck : IdxSt :=
  { index := .inMemory, dirty := false, filter := .offloaded, bloomOffset := some BLOOM_OFFSET, count := 1, active := false }

/-- For `loadOld` the invariant fails.  The history `e24History` (every state of it is reachable, every operation before
    the last reports `Ok` to its caller): the dropped `load` is NOT atomic (the state is neither the one before nor the
    one after the call), the next `load` returns at once and repairs nothing, the `push` is acknowledged, and `close`
    fails, leaving the pushed record's index entry unsaved; a filter query on that blob cannot be answered either.
    `load` - either variant, completed or dropped - is the identity on that state, and so is the failing `dump` /
    `close`: retrying does not help. -/
theorem load_old_refuted :
    let r := exec .old e24History (IdxSt.fromFile 0)
    r.1 = [.ok, .ok, .ok, .ok, .ok, .ok, .error] ∧
    Reach .old r.2 ∧ ¬ Good r.2 ∧ r.2.dirty = true ∧ filterReadable r.2 = false ∧
    -- the cancelled call: neither before nor after
    cancelAfter 1 (loadOld offloadedOnDisk) offloadedOnDisk = e24Stuck ∧
    e24Stuck ≠ offloadedOnDisk ∧ e24Stuck ≠ runItems (loadOld offloadedOnDisk) offloadedOnDisk ∧
    -- nothing repairs it
    (∀ v cut, step v (.load cut) r.2 = (.ok, r.2)) ∧
    step .old .dump r.2 = (.error, r.2) ∧ step .old .close r.2 = (.error, r.2) := by
  intro r
  have hr : r = ([.ok, .ok, .ok, .ok, .ok, .ok, .error], { e24Stuck with dirty := true, count := 2 }) := by decide
  refine ⟨by rw [hr], reach_exec .old (.opened 0) _, ?_, by rw [hr], by rw [hr]; decide, by decide, by decide, by decide,
    ?_, by rw [hr]; decide, by rw [hr]; decide⟩
  · rw [hr]; decide
  · intro v cut; exact step_load_inMemory v cut (by rw [hr]; rfl)

/-- the same from a newly created blob (`IndexStruct::new`): a `push` and a `dump` bring it on disk -/
example :
    (exec .old [.push, .dump, .offload, .load (some 1), .load none, .push, .close] IdxSt.new).1
      = [.ok, .ok, .ok, .ok, .ok, .ok, .error] := by decide

/-- and through `restore_active_blob` (`try_restore_active_blob` dropped while `load_index` is at its second read, then
    called again: it succeeds, the blob becomes active, a write is acknowledged, `close` fails) -/
example :
    (exec .old [.offload, .restore (some 4), .restore none, .push, .close] (IdxSt.fromFile 0)).1
      = [.ok, .ok, .ok, .ok, .error] := by decide

/-- The broken state is ABSORBING, for the old code and for the code now: once the index is in memory (non-empty) with
    an off-loaded filter, no sequence of operations of this model (any cut points) leaves that condition, and every
    `dump` and every `close` - now or after any further history - fails.  (The repair works by making the state
    unreachable, `later_ops_succeed_new`, not by recovering from it; in the code only a restart recovers.) -/
theorem stuck_forever (v : Variant) (s : IdxSt) (h : s.index = .inMemory ∧ s.filter = .offloaded ∧ 0 < s.count)
    (ops : List CancelLoad.Op) :
    let t := (exec v ops s).2
    (t.index = .inMemory ∧ t.filter = .offloaded ∧ 0 < t.count) ∧ ¬ Good t ∧
    step v .dump t = (.error, t) ∧ step v .close t = (.error, t) := by
  intro t
  have ht : Stuck t := exec_induct v (P := Stuck) (fun _ op => stuck_step v op) ops h
  exact ⟨ht, stuck_not_good ht, stuck_dump ht, stuck_close ht⟩

/-- not vacuous: the state the old code reaches satisfies the hypothesis; e.g. 3 more `load`s, a `restore` and a `dump` later
    `close` still fails -/
example : e24Stuck.index = .inMemory ∧ e24Stuck.filter = .offloaded ∧ 0 < e24Stuck.count := by decide
example :
    (exec .old [.load none, .load none, .load (some 0), .restore none, .dump, .close] e24Stuck).1
      = [.ok, .ok, .ok, .ok, .error, .error] := by decide

/-- the invariant is not inductive for the old code: ONE step from a `Good` (reachable) state breaks it -/
theorem good_not_inductive_old :
    Reach .old offloadedOnDisk ∧ Good offloadedOnDisk ∧ ¬ Good (step .old (.load (some 1)) offloadedOnDisk).2 := by
  refine ⟨?_, by decide, by decide⟩
  exact Reach.step (v := .old) .offload (.opened 0)

/-! ## (4) from the shape of the code to (1) -/

/-- For ANY list of events in which every `"await"` precedes every `"set"` (`AwaitsFirst` - the statement
    `Pearl.Tie.C14.load_index_switches_after_reads` proves of the translator constant) and ANY assignments `fs`, the
    induced segment list (`segsOf`: each `"await"` a suspension point without closure, each `"set"` the next assignment,
    where it stands) is cancel-atomic in the sense of (1). -/
theorem segments_of_shape (evs : List String) (fs : List (IdxSt → IdxSt)) (h : AwaitsFirst evs) (k : Nat) (s : IdxSt) :
    cancelAfter k (segsOf evs fs) s = s ∨ cancelAfter k (segsOf evs fs) s = runItems (segsOf evs fs) s :=
  cancel_atomic_of_awaitsFirst _ (awaitsFirstItems_segsOf evs fs h) k s

/-- ... and it is the list with ALL the assignments in one final synchronous segment: the same state at every cut point
    and on completion -/
theorem segments_of_shape_one_segment (evs : List String) (fs : List (IdxSt → IdxSt)) (h : AwaitsFirst evs)
    (k : Nat) (s : IdxSt) :
    cancelAfter k (segsOf evs fs) s = cancelAfter k (segsOneFinal evs fs) s ∧
    runItems (segsOf evs fs) s = runItems (segsOneFinal evs fs) s := by
  refine ⟨?_, run_segsOf_eq_oneFinal evs fs s⟩
  rw [cancel_awaitsFirst_eq _ (awaitsFirstItems_segsOf evs fs h), run_segsOf_eq_oneFinal, awaits_segsOf]
  unfold segsOneFinal
  rw [cancel_awaitsFirst_eq _ (awaitsFirst_replicate_sync _ _), awaits_replicate_sync]

/-- the translator's event list of `load_in_memory` with the three assignments of the code induces `loadNew` -/
theorem loadNew_is_induced (s0 : IdxSt) (h0 : s0.index = .onDisk) (k : Nat) (s : IdxSt) :
    cancelAfter k (loadNew s0) s = cancelAfter k (segsOf Gen.LOAD_INDEX_SEGMENTS loadSets) s ∧
    runItems (loadNew s0) s = runItems (segsOf Gen.LOAD_INDEX_SEGMENTS loadSets) s := by
  have hl : loadNew s0 = [.await none, .await none, .sync (fun s => setFilter (setInner s))] := by
    unfold loadNew; rw [if_neg (by rw [h0]; decide)]
  have hs : segsOf Gen.LOAD_INDEX_SEGMENTS loadSets =
      [.await none, .await none, .sync setInner, .sync (fun s => { s with filter := .resident }),
       .sync (fun s => { s with bloomOffset := none })] := by
    simp [segsOf, Gen.LOAD_INDEX_SEGMENTS, loadSets]
  rw [hl, hs]
  refine ⟨?_, rfl⟩
  match k with
  | 0 => rfl
  | 1 => rfl
  | _ + 2 => rfl

/-- (1) again, this time FROM the Tie theorem `load_index_switches_after_reads`, through the segment list the
    translator's events induce (`loadNew_is_induced`, which matches the two awaits of `loadNew`; the forms that do not
    depend on the number of awaits are `load_shape_cancel_states` and `load_tie_cancel_atomic` below) -/
theorem load_new_cancel_atomic_from_tie (s0 : IdxSt) (k : Nat) :
    cancelAfter k (loadNew s0) s0 = s0 ∨ cancelAfter k (loadNew s0) s0 = runItems (loadNew s0) s0 := by
  cases h0 : s0.index with
  | inMemory =>
    have : loadNew s0 = [] := by unfold loadNew; rw [if_pos h0]
    rw [this]; left; cases k <;> rfl
  | onDisk =>
    rw [(loadNew_is_induced s0 h0 k s0).1, (loadNew_is_induced s0 h0 k s0).2]
    exact segments_of_shape _ _ Pearl.Tie.C14.load_index_switches_after_reads.1 k s0

/-- The form that does not depend on HOW MANY awaits the code has: for any event list with the shape (awaits first)
    and three assignments, the future of the induced `load_in_memory`, dropped anywhere, leaves an on-disk index as it
    was or as `loadNew` polled to completion leaves it. -/
theorem load_shape_cancel_states (evs : List String) (h : AwaitsFirst evs)
    (h3 : evs.countP (fun e => !(e == "await")) = 3) (s0 : IdxSt) (h0 : s0.index = .onDisk) (k : Nat) :
    cancelAfter k (segsOf evs loadSets) s0 = s0 ∨
    cancelAfter k (segsOf evs loadSets) s0 = runItems (loadNew s0) s0 := by
  have hrun : runItems (segsOf evs loadSets) s0 = runItems (loadNew s0) s0 := by
    rw [run_segsOf, h3, run_loadNew, if_neg (by rw [h0]; decide)]; rfl
  rcases segments_of_shape evs loadSets h k s0 with e | e
  · exact Or.inl e
  · exact Or.inr (e.trans hrun)

/-- `load` as the translator sees it: the segment list induced by `Gen.LOAD_INDEX_SEGMENTS` -/
def loadTie (s0 : IdxSt) : List (Item IdxSt) :=
  if s0.index = .inMemory then [] else segsOf Gen.LOAD_INDEX_SEGMENTS loadSets

/-- (1) for `loadTie`, from `Pearl.Tie.C14.load_index_switches_after_reads` and the number of assignments alone (the
    proof does not look at the number of awaits): the state before, or the state after the completed `loadNew` -/
theorem load_tie_cancel_atomic (s0 : IdxSt) (k : Nat) :
    cancelAfter k (loadTie s0) s0 = s0 ∨ cancelAfter k (loadTie s0) s0 = runItems (loadNew s0) s0 := by
  cases h0 : s0.index with
  | inMemory =>
    have : loadTie s0 = [] := by unfold loadTie; rw [if_pos h0]
    rw [this]; left; cases k <;> rfl
  | onDisk =>
    have : loadTie s0 = segsOf Gen.LOAD_INDEX_SEGMENTS loadSets := by
      unfold loadTie; rw [if_neg (by rw [h0]; decide)]
    rw [this]
    exact load_shape_cancel_states _ Pearl.Tie.C14.load_index_switches_after_reads.1 (by decide) s0 h0 k

/-- not vacuous: an event list with three reads has the shape; dropped at its third read nothing has happened -/
example :
    AwaitsFirst ["await", "await", "await", "set", "set", "set"] ∧
    cancelAfter 2 (segsOf ["await", "await", "await", "set", "set", "set"] loadSets) offloadedOnDisk = offloadedOnDisk ∧
    cancelAfter 3 (segsOf ["await", "await", "await", "set", "set", "set"] loadSets) offloadedOnDisk
      = runItems (loadNew offloadedOnDisk) offloadedOnDisk := by decide

/-- not vacuous, and sharp: the event list of the code BEFORE aeda328 does not have the shape, induces `loadOld`, and is
    not cancel-atomic -/
example :
    ¬ AwaitsFirst ["await", "set", "await", "set", "set"] ∧
    cancelAfter 1 (segsOf ["await", "set", "await", "set", "set"] loadSets) offloadedOnDisk = e24Stuck ∧
    cancelAfter 1 (loadOld offloadedOnDisk) offloadedOnDisk = e24Stuck ∧
    runItems (segsOf ["await", "set", "await", "set", "set"] loadSets) offloadedOnDisk
      = runItems (loadOld offloadedOnDisk) offloadedOnDisk := by decide

end Pearl.C14b

#print axioms Pearl.C14b.load_new_cancel_atomic
#print axioms Pearl.C14b.load_new_cancel_points
#print axioms Pearl.C14b.restore_new_cancel_atomic
#print axioms Pearl.C14b.good_inductive_new
#print axioms Pearl.C14b.later_ops_succeed_new
#print axioms Pearl.C14b.close_after_any_history_new
#print axioms Pearl.C14b.load_old_refuted
#print axioms Pearl.C14b.stuck_forever
#print axioms Pearl.C14b.good_not_inductive_old
#print axioms Pearl.C14b.segments_of_shape
#print axioms Pearl.C14b.segments_of_shape_one_segment
#print axioms Pearl.C14b.loadNew_is_induced
#print axioms Pearl.C14b.load_new_cancel_atomic_from_tie
#print axioms Pearl.C14b.load_shape_cancel_states
#print axioms Pearl.C14b.load_tie_cancel_atomic

/-
NOT YET PROVED / not modelled
  1. `Blob::dump` as a segment list (`fsyncdata().await`, `serialize_filters`, `FileIndex::from_records(..).await`): only
     the dump that is polled to completion is an operation here.  `dump_in_memory` takes the headers out of the index
     (`std::mem::take`) before the awaited write of the index file; a future dropped there is outside this model (the
     callers are `Storage::close(self)`, `init` and the observer worker's task, none of which the user of a live storage
     can drop).
  2. `Blob::load_index`'s error path (`index.clear()` + regenerate) - no I/O error occurs in this layer (C11 covers those);
     `clear` makes the filter resident and would leave `Good` intact.
  3. The bloom filter switched off (`bloom_is_on = false`: `Bloom::empty().to_raw()` cannot fail) - the model takes the
     worse case, a configured bloom filter.
  4. One blob only: the product with the other blobs of the storage (`Model/Cancel.lean`'s `CStore`) is not built; the
     operations here touch the index of one blob and nothing else.
-/
