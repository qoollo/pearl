import Pearl.Proofs.BPTreeLemmas
import Pearl.Proofs.BPTreeBytesLemmas
import Pearl.Model.Index
/-
C09 — the on-disk B+tree index answers exactly like the in-memory index it was built from.

Model: `Pearl/Model/BPTree.lean` (`build` = `Serializer … header_stage … tree_stage … build`,
`IndexFile.getLatest / findByKey / load / count` = `BPTreeFileIndex::get_latest / find_by_key /
get_records_headers / records_count`).  In-memory answers: `memLatest m k = (m.lookup k).bind getLast?`
(`headers.get(key).and_then(|h| h.last())`) and `memAll m k = (m.lookup k).map reverse`.
Results are `Option (Option _)`: the outer `some` says "no error, no panic, every loop terminated".

Hypotheses:
* `WF m`, `m ≠ []` : what `BTreeMap` iteration of a non-empty index gives;
* `p.Valid` : `0 < rhs ≤ B` and `3 ≤ max_nonleaf_node_capacity`; for the real parameters
  (`rhs = 57 + K`, `B = 4096`) this is `K ≤ 2032` (`valid_real`).  Both parts are needed: the witnesses at the end
  are a fan-out of 2 and `rhs > B`.
The answers (`ondisk_*`, `count_eq`, `load_build`), the leaf of a key, the portion sizes and the descent have an example
on the running map `m0` beside them; the statements about the single loops, the leaf table and the node layout, which
those rest on, have none of their own.
-/
namespace Pearl.C09
open Pearl Pearl.BPTree

/-! ### the running example: 10-byte headers, 46-byte blocks (4 whole headers per block), fan-out 4 -/

def p0 : Params := { rhs := 10, K := 1, B := 46 }
def r (k ts : Nat) : Rec := ⟨k, ts, false, none, ⟨0, 0⟩⟩
/-- 22 headers, 5 leaves, a root over two inner nodes; key 7 has a run longer than a block;
    the run of key 5 ends exactly where the block of the first leaf's window ends -/
def m0 : InMem Rec :=
  [(1, [r 1 10, r 1 20]), (3, [r 3 5]), (5, [r 5 1]),
   (7, [r 7 1, r 7 2, r 7 3, r 7 4, r 7 5, r 7 6]), (9, [r 9 1, r 9 2]), (11, [r 11 1, r 11 2]),
   (13, [r 13 1, r 13 2]), (15, [r 15 1, r 15 2]), (17, [r 17 1, r 17 2]), (19, [r 19 1, r 19 2])]

theorem p0_valid : p0.Valid := ⟨by decide, by decide, by decide⟩
theorem m0_wf : WF m0 := ⟨by decide, by decide, by decide⟩
theorem m0_ne : m0 ≠ [] := by decide

example : leafTable p0 m0 = [(1, 0), (7, 40), (9, 100), (13, 140), (17, 180)] := by decide
example : (build p0 0 m0).nodes.length = 3 := by decide

/-! ### the property -/

/-- `get_latest` on the file = newest header of the in-memory vector (its last element), for present and
    absent keys -/
theorem ondisk_latest_eq {H : Type} [Keyed H] (p : Params) (hv : p.Valid) (metaLen : Nat) (m : InMem H)
    (hwf : WF m) (hm : m ≠ []) (k : Nat) :
    (build p metaLen m).getLatest k = some ((m.lookup k).bind List.getLast?) :=
  (build_read p hv metaLen m hwf hm k).1

example : (build p0 0 m0).getLatest 7 = some (some (r 7 6)) := by decide
example : (build p0 0 m0).getLatest 8 = some none := by decide
example : (build p0 7 m0).getLatest 19 = some ((m0.lookup 19).bind List.getLast?) :=
  ondisk_latest_eq p0 p0_valid 7 m0 m0_wf m0_ne 19

/-- `find_by_key` on the file = the in-memory vector reversed: same headers, same order -/
theorem ondisk_all_eq {H : Type} [Keyed H] (p : Params) (hv : p.Valid) (metaLen : Nat) (m : InMem H)
    (hwf : WF m) (hm : m ≠ []) (k : Nat) :
    (build p metaLen m).findByKey k = some ((m.lookup k).map List.reverse) :=
  (build_read p hv metaLen m hwf hm k).2

example : (build p0 0 m0).findByKey 7 = some (some [r 7 6, r 7 5, r 7 4, r 7 3, r 7 2, r 7 1]) := by decide
example : (build p0 0 m0).findByKey 0 = some none := by decide

/-- `records_count()` of the file = number of headers in the map -/
theorem count_eq {H : Type} [Keyed H] (p : Params) (metaLen : Nat) (m : InMem H) :
    (build p metaLen m).count = (m.map (fun kv => kv.2.length)).sum := by
  show totalCount m = _
  rw [totalCount_eq]
  induction m with
  | nil => rfl
  | cons x m ih =>
    obtain ⟨k, v⟩ := x
    simp [leafArray_cons, ih]

example : (build p0 0 m0).count = 22 := by decide

/-- `get_records_headers` rebuilds the identical map (same keys, same vectors, same order) -/
theorem load_build {H : Type} [Keyed H] (p : Params) (metaLen : Nat) (m : InMem H) (hwf : WF m) :
    (build p metaLen m).load = some m :=
  build_load p metaLen m hwf

example : (build p0 3 m0).load = some m0 := load_build p0 3 m0 m0_wf

/-! ### supporting obligations -/

/-- every leaf starts at the first (newest) header of a key, and is labelled with that key -/
theorem leaf_starts_at_key_boundary {H : Type} [Keyed H] (p : Params) (hB : p.rhs ≤ p.B) (m : InMem H) :
    ∀ e ∈ leafTable p m, ∃ m1 k v m2, m = m1 ++ (k, v) :: m2 ∧ e = (k, (leafArray m1).length * p.rhs) :=
  leafTable_boundary p hB m

/-- min keys strictly increase; a leaf is closed only when fewer than `rhs` bytes of its first block
    remain (so every non-last leaf fills its window) -/
theorem leaf_table_increasing {H : Type} [Keyed H] (p : Params) (hB : p.rhs ≤ p.B) (m : InMem H)
    (hwf : WF m) :
    (leafTable p m).Pairwise (fun a b => a.1 < b.1 ∧ a.2 + p.B < b.2 + p.rhs) :=
  leafTable_pairwise p hB m hwf

/-- the newest header of a present key lies wholly inside the first `B` bytes of the leaf selected for
    the key (runs longer than a block, runs ending on a block boundary included) -/
theorem first_of_key_in_first_block {H : Type} [Keyed H] (p : Params) (hr : 0 < p.rhs) (hB : p.rhs ≤ p.B)
    (m1 : InMem H) (k : Nat) (v : List H) (m2 : InMem H) (hwf : WF (m1 ++ (k, v) :: m2)) :
    (sel (leafTable p (m1 ++ (k, v) :: m2)) k).2 ≤ (leafArray m1).length * p.rhs ∧
    (leafArray m1).length * p.rhs + p.rhs ≤ (sel (leafTable p (m1 ++ (k, v) :: m2)) k).2 + p.B :=
  leafTable_sel p hr hB _ hwf m1 k v m2 rfl

example : sel (leafTable p0 m0) 5 = (1, 0) ∧ (leafArray (m0.take 2)).length * p0.rhs + p0.rhs = 40 := by
  decide

/-- `read_header_buf` on the window (`len` bytes from header index `s`) of a key-sorted leaf region:
    it returns a header of `k` (and its buffer offset) if one lies in the window, and `None` only if none
    does -/
theorem binsearch_buf {H : Type} [Keyed H] (f : IndexFile H) (ok : LeafOK f) (s len : Nat)
    (w : Window f s len) (k : Nat) :
    (∃ m0 h, m0 < len / f.p.rhs ∧ f.leaves[s + m0]? = some h ∧ hkey h = k ∧
        f.readHeaderBuf (f.leavesStart + f.p.rhs * s) len k = some (some (h, f.p.rhs * m0))) ∨
    ((∀ i, i < len / f.p.rhs → keyIdx f.leaves (s + i) ≠ k) ∧
        f.readHeaderBuf (f.leavesStart + f.p.rhs * s) len k = some none) :=
  readHeaderBuf_spec f ok s len w k

/-- `get_leftmost` returns the first header of the run when the run starts inside the window -/
theorem leftmost {H : Type} [Keyed H] (f : IndexFile H) (ok : LeafOK f) (s len : Nat) (w : Window f s len)
    (k i0 i1 : Nat) (run : Run f.leaves k i0 i1) (hs : s ≤ i0) (j : Nat) (prev : H)
    (h1 : i0 ≤ s + j) (h2 : s + j < i1) (h3 : j < len / f.p.rhs) (hp : f.leaves[s + j]? = some prev) :
    f.getLeftmost (f.leavesStart + f.p.rhs * s) len k (f.p.rhs * j) prev = f.leaves[i0]? := by
  obtain ⟨a, rfl⟩ := Nat.exists_eq_add_of_le hs
  obtain ⟨d, rfl⟩ := Nat.exists_eq_add_of_le (Nat.le_of_add_le_add_left h1)
  rw [IndexFile.getLeftmost, if_neg (Nat.ne_of_gt ok.rhs_pos), Nat.mul_div_cancel_left _ ok.rhs_pos]
  rw [← Nat.add_assoc] at h2 hp
  exact getLeftmostAux_spec ok w run rfl d _ prev h3 h2
    (Nat.lt_of_le_of_lt (Nat.le_add_left d a) (Nat.lt_add_of_pos_right (by decide))) hp

/-- `go_left` from window index `j` collects the headers of `k` between the start of the run and `j`,
    nearest first -/
theorem go_left {H : Type} [Keyed H] (f : IndexFile H) (ok : LeafOK f) (s len : Nat) (w : Window f s len)
    (k i0 i1 : Nat) (run : Run f.leaves k i0 i1) (hs : s ≤ i0) (j : Nat)
    (h1 : i0 ≤ s + j) (h2 : s + j < i1) (h3 : j < len / f.p.rhs) :
    f.goLeft (f.leavesStart + f.p.rhs * s) len k [] (f.p.rhs * j)
      = some (((f.leaves.drop i0).take (s + j - i0)).reverse) := by
  obtain ⟨a, rfl⟩ := Nat.exists_eq_add_of_le hs
  obtain ⟨d, rfl⟩ := Nat.exists_eq_add_of_le (Nat.le_of_add_le_add_left h1)
  rw [IndexFile.goLeft, if_neg (Nat.ne_of_gt ok.rhs_pos), Nat.mul_div_cancel_left _ ok.rhs_pos,
    ← Nat.add_assoc, Nat.add_sub_cancel_left]
  rw [← Nat.add_assoc] at h2
  exact goLeftAux_spec ok w run rfl d _ [] h3 h2 (Nat.lt_succ_of_le (Nat.le_add_left d a))

/-- `go_right_file` from header index `t` appends the rest of the run, nothing else -/
theorem go_right_file {H : Type} [Keyed H] (f : IndexFile H) (ok : LeafOK f) (k i0 i1 : Nat)
    (run : Run f.leaves k i0 i1) (t : Nat) (hs0 : List H) (h0 : H) (hh0 : hs0.head? = some h0)
    (hk0 : hkey h0 = k) (h1 : i0 ≤ t) (h2 : t ≤ i1) :
    f.goRightFile hs0 (f.leavesStart + f.p.rhs * t) = some (hs0 ++ (f.leaves.drop t).take (i1 - t)) :=
  goRightFile_spec ok run hk0 _ t hs0 hh0 h1 (Nat.add_sub_cancel' h2)

/-- `go_right` (buffer loop with the strict bound, then `go_right_file`) appends exactly the rest of the
    run: the record the strict `<` leaves out is read from the file — no loss, no duplicate -/
theorem go_right {H : Type} [Keyed H] (f : IndexFile H) (ok : LeafOK f) (s len : Nat) (w : Window f s len)
    (k i0 i1 : Nat) (run : Run f.leaves k i0 i1) (j : Nat) (hs0 : List H) (h0 : H)
    (hh0 : hs0.head? = some h0) (hk0 : hkey h0 = k) (h1 : i0 ≤ s + j) (h2 : s + j ≤ i1)
    (h3 : j ≤ len / f.p.rhs) (h4 : 1 ≤ j) :
    f.goRightAux (f.leavesStart + f.p.rhs * s) len len (len / f.p.rhs + 1) hs0 (f.p.rhs * j)
      = some (hs0 ++ (f.leaves.drop (s + j)).take (i1 - (s + j))) :=
  goRightAux_spec ok w run hk0 _ _ j hs0 hh0 h1 (Nat.add_sub_cancel' h2) h3
    (Nat.add_le_add_left h4 _)

/-- the portions of a layer are consecutive slices covering it exactly once -/
theorem portions_partition {α : Type} (mn mx : Nat) (xs : List α) : (portions mn mx xs).flatten = xs :=
  portions_flatten mn mx xs

/-- every node `build_tree` writes has between 2 and `max_amount` children (and between `min_amount` and
    `max_amount` when the layer does not fit one node) -/
theorem portion_sizes (p : Params) (h : 3 ≤ maxAmount p) (es : List Entry) (hes : 2 ≤ es.length) :
    ∀ P ∈ portions (minAmount p) (maxAmount p) es, 2 ≤ P.length ∧ P.length ≤ maxAmount p :=
  portions_sizes p h es hes

theorem portion_sizes_min (p : Params) (h : 3 ≤ maxAmount p) (es : List Entry)
    (hes : maxAmount p < es.length) :
    ∀ P ∈ portions (minAmount p) (maxAmount p) es, minAmount p ≤ P.length ∧ P.length ≤ maxAmount p := by
  obtain ⟨m1, m2, m3⟩ := minAmount_facts p h
  exact portionsAux_sizes (minAmount p) (maxAmount p) (by omega) m2 m3 es.length es (Nat.le_refl _)
    (by omega)

example : portions (minAmount p0) (maxAmount p0) (leafTable p0 m0)
    = [[(1, 0), (7, 40), (9, 100)], [(13, 140), (17, 180)]] := by decide

/-- a node with at most `max_amount` children fits one block -/
theorem node_fits_block (p : Params) (h : 3 ≤ maxAmount p) (n : Nat) (h1 : 1 ≤ n) (hn : n ≤ maxAmount p) :
    nodeSize p (n - 1) ≤ p.B :=
  nodeSize_le_B p h n h1 hn

/-- `key_offset_serialized` on the node written for a portion: the shifted offset of the last child
    whose min key is `≤ k` (the first child if there is none) -/
theorem key_offset_selects (base k : Nat) (P : List Entry) (hlen : 2 ≤ P.length)
    (hp : P.Pairwise (fun a b => a.1 < b.1)) :
    (mkNode base P).keyOffset k = some ((sel P k).2 + base) :=
  mkNode_keyOffset base k P hlen hp

/-- whole-block reads of inner nodes below the root never pass the end of the file -/
theorem inner_reads_in_file {H : Type} [Keyed H] (p : Params) (hv : p.Valid) (metaLen : Nat) (m : InMem H)
    (hwf : WF m) (h : 2 ≤ (build p metaLen m).nodes.length) :
    (build p metaLen m).leavesOffset + p.B ≤ (build p metaLen m).fileSize :=
  build_fit p metaLen m hv hwf h

/-- `find_leaf_node` ends at the leaf selected for `k`: the last leaf whose min key is `≤ k`
    (the first leaf for smaller keys); includes "layer offsets are absolute" (DESIGN §4) -/
theorem descent_finds_leaf {H : Type} [Keyed H] (p : Params) (hv : p.Valid) (metaLen : Nat) (m : InMem H)
    (hwf : WF m) (hm : m ≠ []) (k : Nat) :
    (build p metaLen m).findLeafNode k
      = some ((build p metaLen m).leavesOffset + (sel (leafTable p m) k).2) :=
  build_findLeafNode p metaLen m hv hwf hm k

example : (build p0 0 m0).findLeafNode 16 = some ((build p0 0 m0).leavesOffset + 140) := by decide

/-- one leaf: no inner node is written, `tree_offset = leaves_offset`, the descent loop does not run -/
theorem single_leaf_no_tree {H : Type} [Keyed H] (p : Params) (metaLen : Nat) (m : InMem H)
    (h : (leafTable p m).length ≤ 1) (k : Nat) :
    (build p metaLen m).nodes = [] ∧ (build p metaLen m).leavesOffset = (build p metaLen m).treeOffset ∧
    (build p metaLen m).findLeafNode k = some (build p metaLen m).treeOffset := by
  have hn : (build p metaLen m).nodes = [] := buildTree_small _ _ _ _ h
  have hl : (build p metaLen m).leavesOffset = (build p metaLen m).treeOffset := by
    rw [build_leavesOffset', hn]; rfl
  refine ⟨hn, hl, ?_⟩
  unfold IndexFile.findLeafNode
  simp only [IndexFile.findLeafNodeAux, hn, List.length_nil]
  rw [if_neg (by rw [hl]; omega)]

example : (leafTable p0 (m0.take 3)).length = 1 ∧ (build p0 0 (m0.take 3)).getLatest 5 = some (some (r 5 1)) := by
  decide

/-- the real parameters are valid for key lengths up to 2032 -/
theorem valid_real (K : Nat) (h : K ≤ 2032) : (Params.real K).Valid := BPTree.valid_real K h

/-! ### consequence for the index API (`IndexStruct::get_latest`, `get_all_with_deletion_marker`) -/

/-- the common tail of `IndexStruct::get_latest`: classification of the header found -/
def classify : Option Rec → ReadResult Rec
  | some h => if h.del then .deleted h.ts else .found h
  | none => .notFound

/-- `ondisk_eq_inmem`: whichever arm of `match &self.inner` is taken (`InMemory` / `OnDisk`), the index
    answers the same `ReadResult` and the same cut list, for every key -/
theorem ondisk_eq_inmem (p : Params) (hv : p.Valid) (metaLen : Nat) (m : InMem Rec) (hwf : WF m)
    (hm : m ≠ []) (k : Nat) :
    ((build p metaLen m).getLatest k).map classify = some (latestOfVec ((m.lookup k).getD [])) ∧
    ((build p metaLen m).findByKey k).map (fun o => cutHdrs (o.getD []))
      = some (allCutOfVec ((m.lookup k).getD [])) := by
  rw [ondisk_latest_eq p hv metaLen m hwf hm k, ondisk_all_eq p hv metaLen m hwf hm k]
  cases m.lookup k with
  | none => exact ⟨rfl, rfl⟩
  | some v =>
    refine ⟨?_, rfl⟩
    simp only [Option.map_some, Option.bind_some, Option.getD_some, latestOfVec, classify]
    cases v.getLast? <;> rfl

example : ((build p0 0 m0).getLatest 7).map classify = some (.found (r 7 6)) := by decide

/-! ### byte level -/

/-- the byte string produced for a real-parameter index has exactly the length the offset arithmetic
    assumes (so the tree starts at `tree_offset` and the headers at `leaves_offset`); the byte serializer
    itself is compared with real `.index` files by `Pearl/Model/BPTreeFileCheck.lean` -/
theorem bytes_length (K : Nat) (hK : K ≤ 2032) (m : InMem RawHeader) (metaBuf hash : List Nat)
    (blobSize : Nat) (hhash : hash.length = 32) :
    (indexFileBytes (build (Params.real K) metaBuf.length m) metaBuf hash blobSize).length
      = (build (Params.real K) metaBuf.length m).fileSize :=
  build_bytes_length K hK m metaBuf hash blobSize hhash

example : (build (Params.real 1) 0 [(7, [(⟨7, 0, 3, 0, 40, 5, 1, 2⟩ : RawHeader)])]).fileSize = 99 + 58 := by
  decide
example : (indexFileBytes (build (Params.real 1) 0 [(7, [(⟨7, 0, 3, 0, 40, 5, 1, 2⟩ : RawHeader)])]) []
    (List.replicate 32 0) 100).length = 99 + 58 :=
  bytes_length 1 (by decide) _ [] _ 100 (by decide)

/-! ### the hypotheses are needed -/

/-- **fan-out 2** (`K::LEN ≥ 2033`): `min_amount = 1`, a node with one child and no key is written;
    `binary_search_serialized` computes `0usize - 1` on it.  Witness with the real parameters for
    `K = 2033`: three keys with one header each (one header per block, three leaves); looking up the
    third key reaches the key-less node: a panic in a debug build (`none` here). -/
theorem fanout2_keyless_node :
    maxAmount (Params.real 2033) = 2 ∧
    (build (Params.real 2033) 0 [(1, [r 1 1]), (2, [r 2 1]), (3, [r 3 1])]).nodes.map (·.keys.length) = [1, 1, 0] ∧
    (build (Params.real 2033) 0 [(1, [r 1 1]), (2, [r 2 1]), (3, [r 3 1])]).getLatest 3 = none := by
  decide

/-- **`rhs > B`** (`K::LEN > 4039`): `read_header_buf` searches `⌊B / rhs⌋ = 0` headers; a stored key is
    reported absent (and the first leaf is entered twice in the leaf table). -/
theorem rhs_gt_block_misses :
    leafTable (Params.real 4040) [(1, [r 1 1])] = [(1, 0), (1, 0)] ∧
    (build (Params.real 4040) 0 [(1, [r 1 1])]).getLatest 1 = some none := by
  decide

end Pearl.C09
