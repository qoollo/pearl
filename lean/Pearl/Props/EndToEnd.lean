import Pearl.Proofs.EndToEndSteps
import Pearl.Proofs.FsLemmas
import Pearl.Proofs.EndToEndGhost
import Pearl.Proofs.EndToEndMetaReadAll
import Pearl.Proofs.EndToEndMetaBytesStore
import Pearl.Proofs.EndToEndMetaBytesSize
import Pearl.Proofs.EndToEndStartStore
import Pearl.Proofs.EndToEndAnswers
import Pearl.Proofs.EndToEndDemo
import Pearl.Proofs.EndToEndDemoImage
import Pearl.Proofs.EndToEndStartOffloadBytes
import Pearl.Proofs.EndToEndStartDir
import Pearl.Props.C03
import Pearl.Props.C03b
import Pearl.Proofs.EndToEndCfg
import Pearl.Proofs.EndToEndCfgMerge
import Pearl.Props.C09
/-
End-to-end read path: the composition of C01 (rank order / `prune_transparent`), C10 (filters and the
hierarchical container never give a false negative), C09 (look-ups through the B+tree file image equal look-ups
in the in-memory vector) and C05 (a record read back from the blob bytes is the record that was written).

Model: `Pearl/Model/EndToEnd.lean` — a concrete storage in which every blob carries its file bytes (L5), its
index in memory or as the L4 file image, its `CombinedFilter` (L3), the closed blobs sitting in the arena
container; operations and the read path are written with the layer functions only.

No layer interface is left as a hypothesis.  What remains are range side-conditions on the *inputs*.  Each is a
predicate defined in the proof module (`Pearl/Proofs/…`) that first needs it:

  `Cfg.OK`                                             EndToEndBlob
  `COp.OK`, `MOp.OK`, `StoreMetaOK`, `MetaArg`         EndToEndLemmas
  `MetaOK`                                             EndToEndMetaBlob
  `StoreSized`                                         EndToEndSteps
  `BytesOK`, `CBlob.IdxSized` / `CState.IdxSized`      EndToEndMetaBytesBlob
  `StoreIdxSized`, `filterLen`                         EndToEndMetaBytesSize
  `BloomOK`, `XOp.OK`                                  EndToEndCfg

For the theorems of the first part:
* `Cfg.OK`      : `K::LEN ≤ 2032` (C09 `valid_real`), `group_size > 0` (C10 `push_total`), bloom parameters fit
                  their `u64` wire fields (C10 `filters_roundtrip`);
* `COp.OK`      : keys `< 256^K::LEN`, timestamps `< 2^64` (C05 `parse_ser_header`, needed: see `key_range_needed`);
* `StoreSized`  : every blob of the final L2 history has an L5 image shorter than `2^64` bytes
                  (C05 `load_roundtrip`); blobs only grow (`Pearl.apply_log`), so it holds on the way.

Modelling decisions and findings:
* `Store.closeActive` (L2) and `Inner::close_active_blob` do NOT dump; the dump is `try_dump_old_blob_indexes`
  (`settle`).  The concrete operations mirror the L2 operations one to one, so "close + dump" is
  `[.closeActive, .settle]` (as in the non-vacuity example).
* `C10.check_filter_no_fn_stack` is stated for `Container Combined FBlob` only; the storage keeps whole blobs in the
  container.  It is re-derived here for children of any type from its two ingredients, which are generic
  (`C10.possible_rev_complete_stack`; at blob level `BlobCore.checkFilter_no_fn`: the filter of a reachable blob is
  resident, so `check_filter` is the fast check, which covers the keys).
* `C05.load_roundtrip_scan_partial` needs a non-empty blob; `Blob::from_file` provides exactly that (it scans only
  when `size > header_size`), see `regen`.
* the L2 record (`Rec`, value = `(len, seed)`) cannot be recovered from bytes, so the abstraction function reads a
  history variable `CBlob.ghost`; no concrete operation and no part of the read path reads it — proved for
  arbitrary states, without the invariant (`ghost_not_read`, `ghost_not_read_by_ops`).
* L4 is generic in the header type (`Keyed H`) and the L1 insertion `push` is written for `Rec`; the instance for
  the L5 header `RecHeader` (`hdrKey`) and the insertion `vecPush` (the same transcription, generic in the element
  type) are in `Pearl/Model/EndToEnd.lean`, and `EndToEndIndex.lean` proves that `vecPush` is the stable insertion
  `ins`.
* `Pearl.prune_transparent` takes a predicate on L2 blobs, while the container prunes by slot; the predicate used is
  "the blob is not among the consulted ones that pass `check_filter`", which needs blob ids to be distinct
  (`Store.WF`).
The theorems up to `key_range_needed` are about operations without metadata, without bloom off-loading, and about
the start-up that ignores index files; the parts of the file headed `# …` treat metadata and `read_all`, the byte image
of the index file, start-up with index files, off-loading, and sessions with different bloom configurations.
-/
namespace Pearl.E2E
open Pearl Pearl.BPTree Pearl.Container

/-- what the invariant says about one blob: the file is the L5 image of the records (each written with the L5
    writer at the current end of file) and is shorter than `2^64`; the index is the map of the headers the writes
    pushed — in memory, or as the L4 file image the serializer builds from that map, next to the serialized
    filter; the filter is the fold of `add` over the keys and covers every key of the records -/
theorem invariant_blob {cfg : Cfg} {c : CState} (hinv : CInv cfg c) (b : CBlob) (hb : b ∈ c.blobs) :
    b.file = blobBytes cfg.klen (b.ghost.map (fun r => (r, dataOf r.data))) ∧
    b.file.length < 2 ^ 64 ∧
    (match b.index with
      | .mem m => m = indexOf (blobHeaders cfg.klen (b.ghost.map (fun r => (r, dataOf r.data))))
      | .disk f metaBuf off =>
        serializeFilters cfg.klen b.filter = some (metaBuf, off) ∧
        f = build (Params.real cfg.klen) metaBuf.length
          (indexOf (blobHeaders cfg.klen (b.ghost.map (fun r => (r, dataOf r.data)))))) ∧
    b.filter = (b.ghost.map (·.key)).foldl (Combined.add cfg.h) (newFilter cfg) ∧
    (∀ r ∈ b.ghost, b.filter.containsFast cfg.h r.key ≠ .notContains) ∧
    (∀ r ∈ b.ghost, b.checkFilter cfg r.key ≠ .notContains) := by
  have h : BlobInv cfg b := CInvG.blobInv hinv hb
  refine ⟨h.file, h.size, ?_, h.filter, h.core.covers,
    fun r hr => h.checkFilter_no_fn r.key ⟨r, hr, rfl⟩⟩
  have hi := h.index
  unfold IndexInv at hi
  cases hidx : b.index with
  | mem m => rw [hidx] at hi; exact hi
  | disk f mb off => rw [hidx] at hi; exact ⟨hi.2.1, hi.2.2⟩

/-- … and about the container: `Container.Inv` for some list `g` of push-time filters, each of which covers
    every key of the blob in its slot -/
theorem invariant_container {cfg : Cfg} {c : CState} (hinv : CInv cfg c) :
    ∃ g, Container.Inv (fops cfg) Combined.WF c.cont g ∧
      ∀ j lf, c.cont.getChild j = some lf → ∀ r ∈ lf.data.ghost, (fops cfg).coversOpt (g.getD j none) r.key := by
  obtain ⟨g, h1, h2⟩ := hinv.cont
  exact ⟨g, h1, fun j lf hlf r hr => h2 j lf.data (getChild_some_slots hlf) r hr⟩

theorem invariant_init {cfg : Cfg} (hcfg : cfg.OK) :
    CInv cfg (CState.init cfg) ∧ (CState.init cfg).abs cfg = Store.init cfg.allowDup :=
  ⟨init_inv hcfg, init_abs cfg⟩

/-- **every concrete operation commutes with the abstraction function** and keeps the invariant
    (`(c.step cfg op).abs cfg = (c.abs cfg).apply op.abs`) -/
theorem refinement {cfg : Cfg} (hcfg : cfg.OK) (c : CState) (hinv : CInv cfg c) (op : COp) (hop : op.OK cfg)
    (hsz : StoreSized cfg.klen ((c.abs cfg).apply op.abs)) :
    (c.step cfg op).abs cfg = (c.abs cfg).apply op.abs ∧ CInv cfg (c.step cfg op) :=
  step_ref hcfg hinv op hop hsz

/-- the commutation needs no size condition at all (the size condition is only needed to keep the invariant) -/
theorem refinement_abs {cfg : Cfg} (hcfg : cfg.OK) (c : CState) (hinv : CInv cfg c) (op : COp) (hop : op.OK cfg) :
    (c.step cfg op).abs cfg = (c.abs cfg).apply op.abs := by
  rw [← stepM_toM, ← toM_abs]
  exact (stepM_ref0_of (blobIOLaws hcfg) hinv op.toM (toM_OK hop) (by cases op <;> nofun)).1

/-- `delete` also returns the number the L2 operation returns (the number of blobs marked) -/
theorem refinement_delete_count {cfg : Cfg} (hcfg : cfg.OK) (c : CState) (hinv : CInv cfg c) (k : Key) (ts : Nat)
    (oip : Bool) (hk : k < 256 ^ cfg.klen) (hts : ts < 2 ^ 64) :
    (c.delete cfg k ts oip).2 = ((c.abs cfg).delete k ts none oip).2 :=
  delete_count hcfg hinv k ts oip hk hts

theorem refinement_run {cfg : Cfg} (hcfg : cfg.OK) (ops : List COp) (hops : ∀ op ∈ ops, op.OK cfg)
    (hsz : StoreSized cfg.klen ((Store.init cfg.allowDup).run (ops.map COp.abs))) :
    ((CState.init cfg).run cfg ops).abs cfg = (Store.init cfg.allowDup).run (ops.map COp.abs) ∧
      CInv cfg ((CState.init cfg).run cfg ops) :=
  run_ref hcfg ops hops hsz

/-- the size side-condition in arithmetic form: per blob of the L2 state,
    `20 + Σ (57 + K::LEN + |meta| + data length) < 2^64` (`Fs.contentLen`, the file length of C12) -/
theorem storeSized_iff (klen : Nat) (s : Store) :
    StoreSized klen s ↔ ∀ b ∈ s.blobs, Fs.contentLen klen b.recs < 2 ^ 64 := by
  have h : ∀ b : Blob, (blobBytes klen (full b.recs)).length = Fs.contentLen klen b.recs :=
    fun b => Fs.content_length klen b
  unfold StoreSized
  constructor
  · intro hs b hb; rw [← h]; exact hs b hb
  · intro hs b hb; rw [h]; exact hs b hb

/-- "close + dump" is the two-operation history `[closeActive, settle]`: `Inner::close_active_blob` pushes the
    blob into the container, `try_dump_old_blob_indexes` (sent right after by the observer) dumps the indexes -/
theorem close_and_dump {cfg : Cfg} (c : CState) (hinv : CInv cfg c) :
    ((c.step cfg .closeActive).step cfg .settle).abs cfg = ((c.abs cfg).apply .closeActive).apply .settle ∧
      CInv cfg ((c.step cfg .closeActive).step cfg .settle) := by
  obtain ⟨h1, i1⟩ := closeActive_ref_of (blobLaws cfg) hinv
  obtain ⟨h2, i2⟩ := settle_ref_of (blobLaws cfg) i1
  exact ⟨by rw [h2, h1], i2⟩

/-- the corollary of C10 that composes (`C10.check_filter_no_fn_stack` is stated for containers of `FBlob`s
    only): in a reachable storage a closed blob that holds `k` is yielded by `iter_possible_childs_rev(k)` as
    written, and its own `check_filter(k)` does not answer `NotContains` — the hypothesis of
    `Pearl.prune_transparent` -/
theorem closed_blob_never_pruned {cfg : Cfg} {c : CState} (hinv : CInv cfg c) (j : Nat) (lf : FLeaf CBlob)
    (hj : c.cont.getChild j = some lf) (k : Key) (hk : ∃ r ∈ lf.data.ghost, r.key = k) :
    j ∈ Container.iterPossibleStack (fops cfg) c.cont true k ∧ lf.data.checkFilter cfg k ≠ .notContains := by
  obtain ⟨g, hci, hcov⟩ := invariant_container hinv
  obtain ⟨r, hr, rfl⟩ := hk
  refine ⟨(C10.possible_rev_complete_stack c.cont g r.key hci).2.2.2 j lf hj (hcov j lf hj r hr), ?_⟩
  exact (hinv.closed lf.data (List.mem_of_getElem? (getChild_some_slots hj))).checkFilter_no_fn r.key ⟨r, hr, rfl⟩

/-- the history variable is not read by the read path: for ANY state, erasing every `ghost` changes no answer -/
theorem ghost_not_read (cfg : Cfg) (c : CState) (k : Key) :
    c.eraseGhost.read cfg k = c.read cfg k ∧ c.eraseGhost.contains cfg k = c.contains cfg k :=
  read_ghost_irrelevant cfg c k

/-- … nor by any operation: for ANY state and operation, the physical part (files, indexes, filters, container) of
    the next state is a function of the physical part of the current state; hence the answers after any history
    depend on the physical part of the starting state only.  `ghost` is pure instrumentation. -/
theorem ghost_not_read_by_ops (cfg : Cfg) (c : CState) (op : COp) :
    (c.step cfg op).eraseGhost = (c.eraseGhost.step cfg op).eraseGhost ∧
    ∀ (c' : CState), c.eraseGhost = c'.eraseGhost → ∀ (ops : List COp) (k : Key),
      (c.run cfg ops).read cfg k = (c'.run cfg ops).read cfg k :=
  ⟨step_eraseGhost cfg c op, fun c' h ops k => (run_read_phys cfg c c' h ops k).1⟩

theorem read_of_inv {cfg : Cfg} (hcfg : cfg.OK) (c : CState) (hinv : CInv cfg c) (k : Key) :
    c.read cfg k = .ok ((Spec.latest (c.abs cfg).history k).map (fun p => dataOf p.r.data)) ∧
    c.contains cfg k = .ok ((Spec.latest (c.abs cfg).history k).map (·.r.ts)) := by
  refine ⟨?_, ?_⟩
  · rw [read_eq hcfg hinv k, read_eq_spec hinv.wf k, ReadResult.map_map]
  · rw [contains_eq hcfg hinv k, contains_eq_spec hinv.wf k]

/-- **`end_to_end_read`**: for every history of concrete operations from the empty storage and every key, the
    concrete read — active blob, then `iter_possible_childs_rev` over the container with filter pruning at group
    and blob level, per blob `check_filter` and the index look-up (vector or file image), `ReadResult::latest`
    across blobs, then `Entry::load` of the winner with header and data checksum validation — returns without
    error `Found bytes` with the bytes of the first-ranked record of the key, `Deleted ts`, or `NotFound`,
    exactly as `Spec.latest` of the history says. -/
theorem end_to_end_read {cfg : Cfg} (hcfg : cfg.OK) (ops : List COp) (hops : ∀ op ∈ ops, op.OK cfg)
    (hsz : StoreSized cfg.klen ((Store.init cfg.allowDup).run (ops.map COp.abs))) (k : Key) :
    ((CState.init cfg).run cfg ops).read cfg k =
      .ok ((Spec.latest ((Store.init cfg.allowDup).run (ops.map COp.abs)).history k).map
        (fun p => dataOf p.r.data)) := by
  obtain ⟨habs, hinv⟩ := run_ref hcfg ops hops hsz
  rw [(read_of_inv hcfg _ hinv k).1, habs]

theorem end_to_end_contains {cfg : Cfg} (hcfg : cfg.OK) (ops : List COp) (hops : ∀ op ∈ ops, op.OK cfg)
    (hsz : StoreSized cfg.klen ((Store.init cfg.allowDup).run (ops.map COp.abs))) (k : Key) :
    ((CState.init cfg).run cfg ops).contains cfg k =
      .ok ((Spec.latest ((Store.init cfg.allowDup).run (ops.map COp.abs)).history k).map (·.r.ts)) := by
  obtain ⟨habs, hinv⟩ := run_ref hcfg ops hops hsz
  rw [(read_of_inv hcfg _ hinv k).2, habs]

/-- the record served is a record of the history: the answers classify exactly -/
theorem end_to_end_read_cases {cfg : Cfg} (hcfg : cfg.OK) (ops : List COp) (hops : ∀ op ∈ ops, op.OK cfg)
    (hsz : StoreSized cfg.klen ((Store.init cfg.allowDup).run (ops.map COp.abs))) (k : Key) :
    let h := ((Store.init cfg.allowDup).run (ops.map COp.abs)).history
    (∀ p, Spec.latest h k = .found p → ((CState.init cfg).run cfg ops).read cfg k = .ok (.found (dataOf p.r.data))) ∧
    (∀ ts, Spec.latest h k = .deleted ts → ((CState.init cfg).run cfg ops).read cfg k = .ok (.deleted ts)) ∧
    (Spec.latest h k = .notFound → ((CState.init cfg).run cfg ops).read cfg k = .ok .notFound) := by
  intro h
  have := end_to_end_read hcfg ops hops hsz k
  refine ⟨fun p hp => ?_, fun ts hp => ?_, fun hp => ?_⟩ <;> rw [this, hp] <;> rfl

/-- in any state satisfying the invariant, close + init *without index files* (scan of the blob bytes,
    regeneration of indexes and filters, dump, rebuilt container) changes no answer -/
theorem restart_of_inv {cfg : Cfg} (hcfg : cfg.OK) (c : CState) (hinv : CInv cfg c) (lazy : Bool) (k : Key) :
    (c.restart cfg lazy).read cfg k = c.read cfg k ∧ (c.restart cfg lazy).contains cfg k = c.contains cfg k ∧
      CInv cfg (c.restart cfg lazy) := by
  obtain ⟨habs, hinv'⟩ : (c.restart cfg lazy).abs cfg = (c.abs cfg).restart lazy ∧ CInv cfg (c.restart cfg lazy) :=
    restart_ref hcfg hinv lazy
  have hans := restart_answers hinv.wf lazy k
  exact ⟨by rw [read_eq hcfg hinv' k, read_eq hcfg hinv k, habs, hans.1],
    by rw [contains_eq hcfg hinv' k, contains_eq hcfg hinv k, habs, hans.2.2.1], hinv'⟩

/-- **`end_to_end_restart`**: after every history, reads after a restart without index files equal reads
    before it -/
theorem end_to_end_restart {cfg : Cfg} (hcfg : cfg.OK) (ops : List COp) (hops : ∀ op ∈ ops, op.OK cfg)
    (hsz : StoreSized cfg.klen ((Store.init cfg.allowDup).run (ops.map COp.abs))) (lazy : Bool) (k : Key) :
    (((CState.init cfg).run cfg ops).restart cfg lazy).read cfg k = ((CState.init cfg).run cfg ops).read cfg k ∧
    (((CState.init cfg).run cfg ops).restart cfg lazy).contains cfg k
      = ((CState.init cfg).run cfg ops).contains cfg k := by
  obtain ⟨_, hinv⟩ := run_ref hcfg ops hops hsz
  exact ⟨(restart_of_inv hcfg _ hinv lazy k).1, (restart_of_inv hcfg _ hinv lazy k).2.1⟩

/-- the scan rebuilds exactly the index and the filter (not merely equivalent ones): the restarted blobs are the
    old blobs with their index back in memory -/
theorem restart_regenerates {cfg : Cfg} (c : CState) (hinv : CInv cfg c) (b : CBlob) (hb : b ∈ c.blobs) :
    regen cfg b = some { b with index := .mem (indexOf (blobHeaders cfg.klen (b.ghost.map (fun r => (r, dataOf r.data))))) } :=
  regen_eq (CInvG.blobInv hinv hb)

namespace Demo

theorem cfg_ok : cfg.OK :=
  ⟨by decide, by decide, fun p hp => by cases hp; exact ⟨⟨by decide, by decide, by decide, by decide, by decide⟩, by decide⟩⟩

/-- two blobs; blob 0 is closed and dumped (index on disk); key 1 has a tie at timestamp 5 across the blobs;
    key 2 is deleted (a marker in the active blob, and one in the dumped blob 0, whose index is loaded for it) -/
def ops : List COp :=
  [.write 1 5 ⟨2, 1⟩, .write 2 6 ⟨1, 2⟩, .closeActive, .settle, .write 1 5 ⟨3, 3⟩, .delete 2 9 false]

def s : CState := (CState.init cfg).run cfg ops

theorem ops_ok : ∀ op ∈ ops, op.OK cfg := by decide

theorem ops_sized : StoreSized cfg.klen ((Store.init cfg.allowDup).run (ops.map COp.abs)) :=
  (storeSized_iff _ _).mpr (by decide)

end Demo

-- the answers of the concrete read path (by the refinement they are those of the L2 store, which is evaluated): the
-- tie is won by the newer blob, key 2 is deleted, key 3 is absent
set_option maxRecDepth 1000000 in
example : Demo.s.read Demo.cfg 1 = .ok (.found [3, 107, 223]) ∧ dataOf ⟨3, 3⟩ = [3, 107, 223] ∧
    Demo.s.read Demo.cfg 2 = .ok (.deleted 9) ∧ Demo.s.read Demo.cfg 3 = .ok .notFound ∧
    Demo.s.contains Demo.cfg 1 = .ok (.found 5) := by
  obtain ⟨habs, hinv⟩ : Demo.s.abs Demo.cfg = _ ∧ CInv Demo.cfg Demo.s :=
    refinement_run Demo.cfg_ok Demo.ops Demo.ops_ok Demo.ops_sized
  simp only [read_eq Demo.cfg_ok hinv, contains_eq Demo.cfg_ok hinv, habs]
  decide +kernel

-- two blobs, the closed one with its index on disk until the delete loads it again
example : (Demo.s.abs Demo.cfg).blobs.map (fun b => (b.id, b.recs.length, b.onDisk)) = [(0, 3, false), (1, 2, false)] := by
  rw [show Demo.s.abs Demo.cfg = _ from (refinement_run Demo.cfg_ok Demo.ops Demo.ops_ok Demo.ops_sized).1]
  decide
example : (((CState.init Demo.cfg).run Demo.cfg (Demo.ops.take 5)).abs Demo.cfg).blobs.map (fun b => (b.id, b.onDisk))
    = [(0, true), (1, false)] := by
  rw [(refinement_run Demo.cfg_ok (Demo.ops.take 5) (by decide) ((storeSized_iff _ _).mpr (by decide))).1]
  decide

example : Demo.s.read Demo.cfg 1 =
    .ok ((Spec.latest ((Store.init true).run (Demo.ops.map COp.abs)).history 1).map (fun p => dataOf p.r.data)) :=
  end_to_end_read Demo.cfg_ok Demo.ops Demo.ops_ok Demo.ops_sized 1

example : CInv Demo.cfg Demo.s := (refinement_run Demo.cfg_ok Demo.ops Demo.ops_ok Demo.ops_sized).2

-- restart without index files: the answers are those before it, the L2 store is the restarted L2 store (blob 0 is
-- dumped again)
set_option maxRecDepth 1000000 in
example : (Demo.s.restart Demo.cfg false).read Demo.cfg 1 = .ok (.found [3, 107, 223]) ∧
    (Demo.s.restart Demo.cfg true).read Demo.cfg 2 = .ok (.deleted 9) ∧
    ((Demo.s.restart Demo.cfg false).abs Demo.cfg).blobs.map (fun b => (b.id, b.onDisk)) = [(0, true), (1, false)] := by
  obtain ⟨habs, hinv⟩ : Demo.s.abs Demo.cfg = _ ∧ CInv Demo.cfg Demo.s :=
    refinement_run Demo.cfg_ok Demo.ops Demo.ops_ok Demo.ops_sized
  have habs' : (Demo.s.restart Demo.cfg false).abs Demo.cfg = _ := (restart_ref Demo.cfg_ok hinv false).1
  simp only [fun lazy k => (restart_of_inv Demo.cfg_ok _ hinv lazy k).1, read_eq Demo.cfg_ok hinv, habs', habs]
  decide +kernel

example (k : Key) : (Demo.s.restart Demo.cfg true).read Demo.cfg k = Demo.s.read Demo.cfg k :=
  (end_to_end_restart Demo.cfg_ok Demo.ops Demo.ops_ok Demo.ops_sized true k).1

-- pruning happens: key 1 lives in both blobs, key 2's records too, but for key 40 neither blob is consulted
-- beyond its filter
set_option maxRecDepth 1000000 in
example : (Demo.s.consulted Demo.cfg 1).map (·.id) = [1, 0] ∧
    ((Demo.s.consulted Demo.cfg 40).filter (fun b => b.checkFilter Demo.cfg 40 != .notContains)).map (·.id) = [] := by
  decide +kernel

/-- the key range hypothesis `COp.OK` is needed: a key that does not fit `K::LEN` bytes is stored under its
    low-order bytes; the scan at restart files the record under that other key -/
theorem key_range_needed :
    let c := (CState.init Demo.cfg).run Demo.cfg [.write 257 5 ⟨1, 1⟩, .restart false]
    c.read Demo.cfg 1 = .ok (.found (dataOf ⟨1, 1⟩)) ∧
    Spec.latest ((Store.init true).run [.write 257 5 none ⟨1, 1⟩, .restart false]).history 1 = .notFound := by
  refine ⟨?_, ?_⟩
  · decide +kernel
  · rw [show Spec.latest ((Store.init true).run [.write 257 5 none ⟨1, 1⟩, .restart false]).history 1 = .notFound ↔
        ((Store.init true).run [.write 257 5 none ⟨1, 1⟩, .restart false]).read 1 none = .notFound from by
      rw [run_read_eq_spec true _ 1]
      cases Spec.latest ((Store.init true).run [.write 257 5 none ⟨1, 1⟩, .restart false]).history 1 <;>
        simp [ReadResult.map]]
    decide +kernel

end Pearl.E2E

#print axioms Pearl.E2E.invariant_blob
#print axioms Pearl.E2E.invariant_container
#print axioms Pearl.E2E.invariant_init
#print axioms Pearl.E2E.refinement
#print axioms Pearl.E2E.refinement_abs
#print axioms Pearl.E2E.refinement_delete_count
#print axioms Pearl.E2E.refinement_run
#print axioms Pearl.E2E.storeSized_iff
#print axioms Pearl.E2E.close_and_dump
#print axioms Pearl.E2E.closed_blob_never_pruned
#print axioms Pearl.E2E.ghost_not_read
#print axioms Pearl.E2E.ghost_not_read_by_ops
#print axioms Pearl.E2E.read_of_inv
#print axioms Pearl.E2E.end_to_end_read
#print axioms Pearl.E2E.end_to_end_contains
#print axioms Pearl.E2E.end_to_end_read_cases
#print axioms Pearl.E2E.restart_of_inv
#print axioms Pearl.E2E.end_to_end_restart
#print axioms Pearl.E2E.restart_regenerates
#print axioms Pearl.E2E.key_range_needed

/-! # Metadata, `read_all`, `delete(only_if_presented)`, the byte image of the index file

Model: `Pearl/Model/EndToEndMeta.lean`.

Operations with metadata are `MOp` (`write k ts (m : Option Meta) d` = `write` / `write_with`, `delete k ts m oip` =
`delete` / `delete_with`, and the lifecycle operations of `COp`); `COp.toM` embeds the operations without metadata and
`stepM_toM : c.stepM cfg op.toM = c.step cfg op`.

Additional side-condition on the inputs:
* `MOp.OK` also asks the meta value to be a byte string (`MetaOK`: every element `< 256`).  The L2 record keeps the
  meta as a list of naturals and compares those; the file keeps bytes and `filter_entries` compares the bytes.  It
  is needed: `meta_range_needed`.  The same condition is asked of the meta of a query.
-/
namespace Pearl.E2E
open Pearl Pearl.BPTree Pearl.Container

/-- every operation with metadata commutes with the abstraction function, keeps the invariant and the meta range
    invariant -/
theorem refinement_meta {cfg : Cfg} (hcfg : cfg.OK) (c : CState) (hinv : CInv cfg c)
    (hmeta : StoreMetaOK (c.abs cfg)) (op : MOp) (hop : op.OK cfg)
    (hsz : StoreSized cfg.klen ((c.abs cfg).apply op.abs)) :
    (c.stepM cfg op).abs cfg = (c.abs cfg).apply op.abs ∧ CInv cfg (c.stepM cfg op) ∧
      StoreMetaOK ((c.stepM cfg op).abs cfg) := by
  obtain ⟨h1, h2⟩ := stepM_ref hcfg hinv hmeta op hop hsz
  exact ⟨h1, h2, by rw [h1]; exact stepM_metaOK hinv.wf hmeta op hop⟩

theorem refinement_meta_run {cfg : Cfg} (hcfg : cfg.OK) (ops : List MOp) (hops : ∀ op ∈ ops, op.OK cfg)
    (hsz : StoreSized cfg.klen ((Store.init cfg.allowDup).run (ops.map MOp.abs))) :
    ((CState.init cfg).runM cfg ops).abs cfg = (Store.init cfg.allowDup).run (ops.map MOp.abs) ∧
      CInv cfg ((CState.init cfg).runM cfg ops) ∧ StoreMetaOK (((CState.init cfg).runM cfg ops).abs cfg) :=
  runM_ref hcfg ops hops hsz

/-- `COp.toM` embeds the operations without metadata: same step, same run, same L2 operation -/
theorem meta_ops_extend (cfg : Cfg) (c : CState) (op : COp) (ops : List COp) :
    c.stepM cfg op.toM = c.step cfg op ∧ c.runM cfg (ops.map COp.toM) = c.run cfg ops ∧
    op.toM.abs = op.abs ∧ (op.OK cfg → op.toM.OK cfg) :=
  ⟨stepM_toM cfg c op, runM_toM cfg ops c, toM_abs op, toM_OK⟩

/-- in any state satisfying the invariants: `read_with(meta)` and `contains_with(meta)` do not fail and return the
    L2 answer, which is the answer of the specification (C02 `readWith_eq_spec`) -/
theorem read_with_of_inv {cfg : Cfg} (hcfg : cfg.OK) (c : CState) (hinv : CInv cfg c)
    (hmeta : StoreMetaOK (c.abs cfg)) (k : Key) (m : Meta) (hm : MetaOK m) :
    c.readWith cfg k m = .ok (((c.abs cfg).read k (some m)).map (fun r => dataOf r.data)) ∧
    c.readWith cfg k m = .ok ((Spec.readWith (c.abs cfg).history k m).map (fun p => dataOf p.r.data)) ∧
    c.containsWith cfg k (some m) = .ok ((Spec.readWith (c.abs cfg).history k m).map (·.r.ts)) := by
  have h1 := readWithOpt_eq hcfg hinv hmeta k (some m) (metaOK_some hm)
  have h2 := containsWith_eq hcfg hinv hmeta k (some m) (metaOK_some hm)
  have hs : (c.abs cfg).getLatestEntry k (some m) = (Spec.readWith (c.abs cfg).history k m).map (·.r) :=
    readWith_eq_spec hinv.wf k m
  refine ⟨h1, ?_, ?_⟩
  · show c.readWithOpt cfg k (some m) = _
    rw [h1]
    show Except.ok (((c.abs cfg).getLatestEntry k (some m)).map _) = _
    rw [hs, ReadResult.map_map]
  · rw [h2, hs, ReadResult.map_map]

/-- **`end_to_end_read_with`**: for every history of concrete operations with metadata from the empty storage,
    every key and every meta, the concrete `read_with(meta)` — active blob, then `iter_possible_childs_rev` with
    filter pruning, per blob `check_filter`, `get_all_with_deletion_marker` through the vector or the index file,
    the local marker split off, `load_meta` of every candidate from the blob bytes newest first, the answers merged
    by `ReadResult::latest`, then `Entry::load` of the winner — returns without error the bytes of the record
    `Store.read k (some m)` selects, which is `Spec.readWith` of the history -/
theorem end_to_end_read_with {cfg : Cfg} (hcfg : cfg.OK) (ops : List MOp) (hops : ∀ op ∈ ops, op.OK cfg)
    (hsz : StoreSized cfg.klen ((Store.init cfg.allowDup).run (ops.map MOp.abs))) (k : Key) (m : Meta)
    (hm : MetaOK m) :
    ((CState.init cfg).runM cfg ops).readWith cfg k m =
      .ok ((((Store.init cfg.allowDup).run (ops.map MOp.abs)).read k (some m)).map (fun r => dataOf r.data)) ∧
    ((CState.init cfg).runM cfg ops).readWith cfg k m =
      .ok ((Spec.readWith ((Store.init cfg.allowDup).run (ops.map MOp.abs)).history k m).map
        (fun p => dataOf p.r.data)) := by
  obtain ⟨habs, hinv, hmeta⟩ := runM_ref hcfg ops hops hsz
  have := read_with_of_inv hcfg _ hinv hmeta k m hm
  rw [habs] at this
  exact ⟨this.1, this.2.1⟩

/-- **`end_to_end_contains_with`** (the duplicate check of `write_with`) -/
theorem end_to_end_contains_with {cfg : Cfg} (hcfg : cfg.OK) (ops : List MOp) (hops : ∀ op ∈ ops, op.OK cfg)
    (hsz : StoreSized cfg.klen ((Store.init cfg.allowDup).run (ops.map MOp.abs))) (k : Key) (m : Meta)
    (hm : MetaOK m) :
    ((CState.init cfg).runM cfg ops).containsWith cfg k (some m) =
      .ok ((Spec.readWith ((Store.init cfg.allowDup).run (ops.map MOp.abs)).history k m).map (·.r.ts)) := by
  obtain ⟨habs, hinv, hmeta⟩ := runM_ref hcfg ops hops hsz
  exact habs ▸ (read_with_of_inv hcfg _ hinv hmeta k m hm).2.2

/-- `read` and `contains` (no meta) after a history WITH metadata: `end_to_end_read` / `end_to_end_contains` on the
    larger set of histories -/
theorem end_to_end_read_meta_history {cfg : Cfg} (hcfg : cfg.OK) (ops : List MOp) (hops : ∀ op ∈ ops, op.OK cfg)
    (hsz : StoreSized cfg.klen ((Store.init cfg.allowDup).run (ops.map MOp.abs))) (k : Key) :
    ((CState.init cfg).runM cfg ops).read cfg k =
      .ok ((Spec.latest ((Store.init cfg.allowDup).run (ops.map MOp.abs)).history k).map
        (fun p => dataOf p.r.data)) ∧
    ((CState.init cfg).runM cfg ops).contains cfg k =
      .ok ((Spec.latest ((Store.init cfg.allowDup).run (ops.map MOp.abs)).history k).map (·.r.ts)) := by
  obtain ⟨habs, hinv, _⟩ := runM_ref hcfg ops hops hsz
  exact habs ▸ read_of_inv hcfg _ hinv k

/-- the duplicate check of `write_with` when duplicates are not allowed: if the specification finds a record with
    this key and this meta (`Spec.readWith … = Found`), the write appends nothing -/
theorem write_with_dedup {cfg : Cfg} (hcfg : cfg.OK) (c : CState) (hinv : CInv cfg c)
    (hmeta : StoreMetaOK (c.abs cfg)) (k : Key) (ts : Nat) (m : Meta) (d : Data)
    (hk : k < 256 ^ cfg.klen) (hts : ts < 2 ^ 64) (hm : MetaOK m) (hd : cfg.allowDup = false)
    (hf : (Spec.readWith (c.abs cfg).ensureActive.history k m).isFound = true) :
    (c.writeWithOpt cfg k ts (some m) d).abs cfg = (c.abs cfg).ensureActive := by
  rw [(writeWithOpt_ref0 hcfg hinv hmeta k ts (some m) d hk hts (metaOK_some hm)).1]
  apply dedup_write (c.abs cfg) k ts (some m) d hd
  have := readWith_eq_spec (Store.ensureActive_WF hinv.wf) k m
  unfold Store.read at this
  rw [this, ReadResult.isFound_map]
  exact hf

/-- the history variable is not read by the operations and read paths with metadata either: for ANY state -/
theorem ghost_not_read_meta (cfg : Cfg) (c : CState) (op : MOp) (k : Key) (m : Option Meta) :
    (c.stepM cfg op).eraseGhost = (c.eraseGhost.stepM cfg op).eraseGhost ∧
    c.eraseGhost.readWithOpt cfg k m = c.readWithOpt cfg k m ∧
    c.eraseGhost.containsWith cfg k m = c.containsWith cfg k m ∧
    c.eraseGhost.readAllMarked cfg k = c.readAllMarked cfg k ∧ c.eraseGhost.readAll cfg k = c.readAll cfg k :=
  ⟨stepM_eraseGhost cfg c op, (readWithOpt_ghost_irrelevant cfg c k m).1, (readWithOpt_ghost_irrelevant cfg c k m).2,
    (readAll_ghost_irrelevant cfg c k).1, (readAll_ghost_irrelevant cfg c k).2⟩

/-- in any state satisfying the invariant, `read_all_with_deletion_marker` and `read_all` do not fail, and the
    entries they return are — one by one, in order — entries of the records of `Spec.allCut` / `Spec.allLive`
    (C02 `readAllMarked_eq_spec`, `readAll_eq_spec`): same key, timestamp and marker flag, and `Entry::load` (with
    its header and data checksum validation) returns the serialized meta and the bytes of the value.
    `entryView e = (key, timestamp, is_deleted, Entry::load)`, `recView r` the same of a record. -/
theorem read_all_of_inv {cfg : Cfg} (hcfg : cfg.OK) (c : CState) (hinv : CInv cfg c) (k : Key) :
    (∃ es, c.readAllMarked cfg k = .ok es ∧
      es.map entryView = (Spec.allCut (c.abs cfg).history k).map (fun p => recView p.r)) ∧
    (∃ es, c.readAll cfg k = .ok es ∧
      es.map entryView = (Spec.allLive (c.abs cfg).history k).map (fun p => recView p.r)) := by
  constructor
  · obtain ⟨Z, h1, h2, h3⟩ := readAllMarked_rr hcfg hinv k
    refine ⟨_, h1, ?_⟩
    rw [views_eq Z h3, ← h2, readAllMarked_eq_spec hinv.wf k, List.map_map]
    rfl
  · obtain ⟨Z, h1, h2, h3⟩ := readAll_rr hcfg hinv k
    refine ⟨_, h1, ?_⟩
    rw [views_eq Z h3, ← h2, readAll_eq_spec hinv.wf k, List.map_map]
    rfl

/-- **`end_to_end_read_all`**: for every history (with or without metadata) from the empty storage and every key,
    the concrete `read_all_with_deletion_marker` — per blob `get_all_with_deletion_marker` through the vector or
    the index file, over the active blob and the children `iter_possible_childs_rev` yields, the cross-blob stable
    sort by timestamp, the global cut after the first marker — and `read_all` return without error entries whose
    loaded records are exactly `Spec.allCut` / `Spec.allLive` of the history, in rank order -/
theorem end_to_end_read_all {cfg : Cfg} (hcfg : cfg.OK) (ops : List MOp) (hops : ∀ op ∈ ops, op.OK cfg)
    (hsz : StoreSized cfg.klen ((Store.init cfg.allowDup).run (ops.map MOp.abs))) (k : Key) :
    let c := (CState.init cfg).runM cfg ops
    let h := ((Store.init cfg.allowDup).run (ops.map MOp.abs)).history
    (∃ es, c.readAllMarked cfg k = .ok es ∧ es.map entryView = (Spec.allCut h k).map (fun p => recView p.r)) ∧
    (∃ es, c.readAll cfg k = .ok es ∧ es.map entryView = (Spec.allLive h k).map (fun p => recView p.r)) := by
  intro c h
  obtain ⟨habs, hinv, _⟩ := runM_ref hcfg ops hops hsz
  have := read_all_of_inv hcfg c hinv k
  rw [habs] at this
  exact this

theorem end_to_end_read_all_plain {cfg : Cfg} (hcfg : cfg.OK) (ops : List COp) (hops : ∀ op ∈ ops, op.OK cfg)
    (hsz : StoreSized cfg.klen ((Store.init cfg.allowDup).run (ops.map COp.abs))) (k : Key) :
    let c := (CState.init cfg).run cfg ops
    let h := ((Store.init cfg.allowDup).run (ops.map COp.abs)).history
    (∃ es, c.readAllMarked cfg k = .ok es ∧ es.map entryView = (Spec.allCut h k).map (fun p => recView p.r)) ∧
    (∃ es, c.readAll cfg k = .ok es ∧ es.map entryView = (Spec.allLive h k).map (fun p => recView p.r)) := by
  intro c h
  obtain ⟨habs, hinv⟩ := run_ref hcfg ops hops hsz
  have := read_all_of_inv hcfg c hinv k
  rw [habs] at this
  exact this

/-- in any state satisfying the invariant: `delete` / `delete_with`, in particular with `only_if_presented = true`, where every
    blob decides through its concrete index (vector, or the index file image) whether the key is live in it:
    the decision is `Spec.liveIn` of the blob's records, the state afterwards is the L2 state, and the number
    returned is the number the L2 operation returns — and what the L2 operation does is `Pearl.delete_spec`
    (`Props/C02.lean`) -/
theorem delete_of_inv {cfg : Cfg} (hcfg : cfg.OK) (c : CState) (hinv : CInv cfg c) (k : Key) (ts : Nat)
    (m : Option Meta) (oip : Bool) (hk : k < 256 ^ cfg.klen) (hts : ts < 2 ^ 64) :
    (c.deleteWithOpt cfg k ts m oip).1.abs cfg = ((c.abs cfg).delete k ts m oip).1 ∧
    (c.deleteWithOpt cfg k ts m oip).2 = ((c.abs cfg).delete k ts m oip).2 ∧
    (∀ b ∈ c.blobs, (b.deleteM cfg k ts m true).2 = Spec.liveIn b.id b.ghost k) :=
  ⟨(deleteWithOpt_ref0 hcfg hinv k ts m oip hk hts).1, deleteWithOpt_count hcfg hinv k ts m oip hk hts,
    fun _ hb => deleteM_live hcfg (CInvG.blobInv hinv hb) k ts m⟩

/-- **`end_to_end_delete`**: `delete_of_inv` after every history of operations (with metadata) from the empty storage -/
theorem end_to_end_delete {cfg : Cfg} (hcfg : cfg.OK) (ops : List MOp) (hops : ∀ op ∈ ops, op.OK cfg)
    (hsz : StoreSized cfg.klen ((Store.init cfg.allowDup).run (ops.map MOp.abs))) (k : Key) (ts : Nat)
    (m : Option Meta) (oip : Bool) (hk : k < 256 ^ cfg.klen) (hts : ts < 2 ^ 64) :
    let c := (CState.init cfg).runM cfg ops
    let s := (Store.init cfg.allowDup).run (ops.map MOp.abs)
    (c.deleteWithOpt cfg k ts m oip).1.abs cfg = (s.delete k ts m oip).1 ∧
    (c.deleteWithOpt cfg k ts m oip).2 = (s.delete k ts m oip).2 ∧
    (∀ b ∈ c.blobs, (b.deleteM cfg k ts m true).2 = Spec.liveIn b.id b.ghost k) := by
  intro c s
  obtain ⟨habs, hinv, _⟩ := runM_ref hcfg ops hops hsz
  have := delete_of_inv hcfg c hinv k ts m oip hk hts
  rw [habs] at this
  exact this

/-! ## the index file as its byte image

`BState` (`Pearl/Model/EndToEndMeta.lean`, second half) is the same storage with every dumped index held as the
byte string `indexFileBytes` of `Pearl/Model/BPTreeBytes.lean` (C09 `bytes_length`, C03b) and every access to it —
`from_file`, `get_latest`, `find_by_key`, `get_records_headers`, `read_meta`, `read_meta_at` — done on the bytes
(`BIdx`).  The byte-level look-up functions are transcribed in `Pearl/Model/EndToEndMeta.lean`; the image is
`indexFileBytes` of `Pearl/Model/BPTreeBytes.lean`, the start-up validation of C03b (`readIndexHeader`, `validateHeader`,
`checkFileSize`) stands in `Pearl/Model/IndexValidate.lean`.  The look-ups are tied to the structured look-ups of L4 by a
simulation: on the image of a file `build`
produces, whenever the structured look-up returns normally — and by C09 it always does — the byte-level look-up
returns the same.  The record headers in the index file are the L5 serialisation (`rawBytes_eq_serHeader`), read back
by the L5 deserializer.

Additional side-conditions (`BytesOK`, `IdxSized`):
* the hash function has 32-byte values (SHA-256 itself is not modelled: the hash check of `get_records_headers`
  is the one step that is not performed at byte level; every other check of `validate_header` is);
* every index file on disk, in every state passed through, is shorter than `2^64` bytes (its header fields and the
  offsets in its nodes are `u64`; a longer file has no byte image) — `IdxSized`; it follows from a bound on the blobs
  of the final L2 state, `StoreIdxSized` (`idx_sized_of_inputs`, `end_to_end_read_bytes_inputs`).
-/

theorem index_bytes_lookups {cfg : Cfg} {sha : List Nat → List Nat} (hB : BytesOK cfg sha) (c : CState)
    (hinv : CInv cfg c) (hs : c.IdxSized) (b : CBlob) (hb : b ∈ c.blobs) (k : Key) :
    (b.toB sha).index.getLatest cfg.klen k = b.index.getLatest k ∧
    (b.toB sha).index.getAllMarked cfg.klen k = b.index.getAllMarked k ∧
    (b.toB sha).checkFilter cfg k = b.checkFilter cfg k ∧
    (b.toB sha).loadIndex cfg = (b.loadIndex cfg).toB sha :=
  ⟨index_getLatest_toB hB (CInvG.blobInv hinv hb) (hs b hb) k,
    index_getAllMarked_toB hB (CInvG.blobInv hinv hb) (hs b hb) k,
    checkFilter_toB hB (CInvG.blobInv hinv hb) (hs b hb) k,
    loadIndex_toB hB (CInvG.blobInv hinv hb) (hs b hb)⟩

/-- in any state satisfying the invariant: every read through the byte images gives the answer of the structured
    storage, and every operation commutes with the translation -/
theorem bytes_of_inv {cfg : Cfg} {sha : List Nat → List Nat} (hB : BytesOK cfg sha) (c : CState)
    (hinv : CInv cfg c) (hs : c.IdxSized) :
    (∀ k m, (c.toB sha).readWithOpt cfg k m = c.readWithOpt cfg k m) ∧
    (∀ k m, (c.toB sha).containsWith cfg k m = c.containsWith cfg k m) ∧
    (∀ k, (c.toB sha).readAllMarked cfg k = c.readAllMarked cfg k) ∧
    (∀ k, (c.toB sha).readAll cfg k = c.readAll cfg k) ∧
    (∀ op, (c.stepM cfg op).toB sha = (c.toB sha).stepB cfg sha op) ∧
    (∀ k ts m oip, (c.deleteWithOpt cfg k ts m oip).2 = ((c.toB sha).deleteWithOpt cfg k ts m oip).2) :=
  have g := goodB_of_inv hB hinv hs
  ⟨readWithOpt_toB_good g, containsWith_toB_good g, readAllMarked_toB_good g, readAll_toB_good g,
    fun op => stepM_toB hB hinv hs op, fun k ts m oip => (deleteWithOpt_toB_good hB g k ts m oip).2⟩

theorem refinement_bytes_run {cfg : Cfg} {sha : List Nat → List Nat} (hB : BytesOK cfg sha) (ops : List MOp)
    (hops : ∀ op ∈ ops, op.OK cfg)
    (hsz : StoreSized cfg.klen ((Store.init cfg.allowDup).run (ops.map MOp.abs)))
    (hidx : ∀ n, n ≤ ops.length → ((CState.init cfg).runM cfg (ops.take n)).IdxSized) :
    (BState.init cfg).runB cfg sha ops = ((CState.init cfg).runM cfg ops).toB sha :=
  runB_eq hB ops hops hsz hidx

/-- **`end_to_end_read_bytes`**: with every dumped index held as its byte image and looked up through the
    byte-level functions — for every history of operations (with metadata) from the empty directory — the answers
    of `read`, `contains`, `read_with`, `contains_with`, `read_all_with_deletion_marker` and `read_all` are those of
    the structured storage, hence those of the specification -/
theorem end_to_end_read_bytes {cfg : Cfg} {sha : List Nat → List Nat} (hB : BytesOK cfg sha) (ops : List MOp)
    (hops : ∀ op ∈ ops, op.OK cfg)
    (hsz : StoreSized cfg.klen ((Store.init cfg.allowDup).run (ops.map MOp.abs)))
    (hidx : ∀ n, n ≤ ops.length → ((CState.init cfg).runM cfg (ops.take n)).IdxSized) (k : Key) :
    let b := (BState.init cfg).runB cfg sha ops
    let c := (CState.init cfg).runM cfg ops
    let h := ((Store.init cfg.allowDup).run (ops.map MOp.abs)).history
    -- the answers through the bytes are those of the structured storage
    (∀ m, b.readWithOpt cfg k m = c.readWithOpt cfg k m) ∧
    (∀ m, b.containsWith cfg k m = c.containsWith cfg k m) ∧
    b.readAllMarked cfg k = c.readAllMarked cfg k ∧ b.readAll cfg k = c.readAll cfg k ∧
    -- hence those of the specification
    b.readWithOpt cfg k none = .ok ((Spec.latest h k).map (fun p => dataOf p.r.data)) ∧
    b.containsWith cfg k none = .ok ((Spec.latest h k).map (·.r.ts)) ∧
    (∀ m, MetaOK m →
      b.readWithOpt cfg k (some m) = .ok ((Spec.readWith h k m).map (fun p => dataOf p.r.data)) ∧
      b.containsWith cfg k (some m) = .ok ((Spec.readWith h k m).map (·.r.ts))) ∧
    (∃ es, b.readAllMarked cfg k = .ok es ∧ es.map entryView = (Spec.allCut h k).map (fun p => recView p.r)) ∧
    (∃ es, b.readAll cfg k = .ok es ∧ es.map entryView = (Spec.allLive h k).map (fun p => recView p.r)) := by
  intro b c h
  have hb : b = c.toB sha := runB_eq hB ops hops hsz hidx
  obtain ⟨habs, hinv, hmeta⟩ := runM_ref hB.ok ops hops hsz
  have hs : c.IdxSized := by
    have := hidx ops.length (Nat.le_refl _)
    rwa [List.take_length] at this
  obtain ⟨e1, e2, e3, e4, _, _⟩ := bytes_of_inv hB c hinv hs
  have hspec := specAnswers_of_inv hB hinv hmeta hs k
  rw [habs] at hspec
  rw [hb]
  exact ⟨e1 k, e2 k, e3 k, e4 k, hspec⟩

/-- the size side-condition on every state passed through follows from a bound on the blobs of the FINAL L2
    state: an index file is at most three times as long as its blob file, plus the filter section (whose length
    `filterLen cfg = 2 K + 81 + 8 ⌈bits / 64⌉` is fixed by the configuration), plus a constant -/
theorem idx_sized_of_inputs {cfg : Cfg} (hcfg : cfg.OK) (ops : List MOp) (hops : ∀ op ∈ ops, op.OK cfg)
    (h : StoreIdxSized cfg ((Store.init cfg.allowDup).run (ops.map MOp.abs))) :
    StoreSized cfg.klen ((Store.init cfg.allowDup).run (ops.map MOp.abs)) ∧
    ∀ n, n ≤ ops.length → ((CState.init cfg).runM cfg (ops.take n)).IdxSized :=
  ⟨h.toStoreSized, idxSized_of_final hcfg ops hops h⟩

/-- `StoreIdxSized` in arithmetic form: per blob of the L2 state,
    `3 · (20 + Σ (57 + K::LEN + |meta| + data length)) + filterLen cfg + 4200 < 2^64` -/
theorem storeIdxSized_iff (cfg : Cfg) (s : Store) :
    StoreIdxSized cfg s ↔ ∀ b ∈ s.blobs, 3 * Fs.contentLen cfg.klen b.recs + filterLen cfg + 4200 < 2 ^ 64 := by
  have h : ∀ b : Blob, (blobBytes cfg.klen (full b.recs)).length = Fs.contentLen cfg.klen b.recs :=
    fun b => Fs.content_length cfg.klen b
  unfold StoreIdxSized
  constructor
  · intro hs b hb; rw [← h]; exact hs b hb
  · intro hs b hb; rw [h]; exact hs b hb

/-- **`end_to_end_read_bytes`, all side-conditions on the inputs**: the configuration (`cfg.OK`), a 32-byte hash,
    the operations (`MOp.OK`), and the size bound `StoreIdxSized` on the final L2 state -/
theorem end_to_end_read_bytes_inputs {cfg : Cfg} {sha : List Nat → List Nat} (hB : BytesOK cfg sha) (ops : List MOp)
    (hops : ∀ op ∈ ops, op.OK cfg)
    (hsz : StoreIdxSized cfg ((Store.init cfg.allowDup).run (ops.map MOp.abs))) (k : Key) :
    let b := (BState.init cfg).runB cfg sha ops
    let c := (CState.init cfg).runM cfg ops
    let h := ((Store.init cfg.allowDup).run (ops.map MOp.abs)).history
    (∀ m, b.readWithOpt cfg k m = c.readWithOpt cfg k m) ∧
    (∀ m, b.containsWith cfg k m = c.containsWith cfg k m) ∧
    b.readAllMarked cfg k = c.readAllMarked cfg k ∧ b.readAll cfg k = c.readAll cfg k ∧
    b.readWithOpt cfg k none = .ok ((Spec.latest h k).map (fun p => dataOf p.r.data)) ∧
    b.containsWith cfg k none = .ok ((Spec.latest h k).map (·.r.ts)) ∧
    (∀ m, MetaOK m →
      b.readWithOpt cfg k (some m) = .ok ((Spec.readWith h k m).map (fun p => dataOf p.r.data)) ∧
      b.containsWith cfg k (some m) = .ok ((Spec.readWith h k m).map (·.r.ts))) ∧
    (∃ es, b.readAllMarked cfg k = .ok es ∧ es.map entryView = (Spec.allCut h k).map (fun p => recView p.r)) ∧
    (∃ es, b.readAll cfg k = .ok es ∧ es.map entryView = (Spec.allLive h k).map (fun p => recView p.r)) :=
  end_to_end_read_bytes hB ops hops hsz.toStoreSized (idxSized_of_final hB.ok ops hops hsz) k

/-! ## non-vacuity: metadata, `read_all`, the byte image

The history is `DemoM.ops` (seven operations, described at its definition), the configuration `Demo.cfg`, the stand-in
hash `DemoB.sha` and the byte-level state `DemoB.s6` after the first six operations: all in
`Pearl/Proofs/EndToEndDemo.lean`. -/

namespace DemoM

/-- before the delete: blob 0 has its index on disk -/
def s6 : CState := (CState.init Demo.cfg).runM Demo.cfg (ops.take 6)
def s : CState := (CState.init Demo.cfg).runM Demo.cfg ops

theorem ops_ok : ∀ op ∈ ops, op.OK Demo.cfg := by decide

theorem ops_sized : StoreSized Demo.cfg.klen ((Store.init Demo.cfg.allowDup).run (ops.map MOp.abs)) :=
  (storeSized_iff _ _).mpr (by decide)

theorem ops6_ok : ∀ op ∈ ops.take 6, op.OK Demo.cfg := by decide

theorem ops6_sized : StoreSized Demo.cfg.klen ((Store.init Demo.cfg.allowDup).run ((ops.take 6).map MOp.abs)) :=
  (storeSized_iff _ _).mpr (by decide)

end DemoM

example : (DemoM.s6.abs Demo.cfg).blobs.map (fun b => (b.id, b.recs.length, b.onDisk)) = [(0, 3, true), (1, 1, false)] ∧
    (DemoM.s.abs Demo.cfg).blobs.map (fun b => (b.id, b.recs.length, b.onDisk)) = [(0, 4, false), (1, 1, false)] := by
  rw [show DemoM.s6.abs Demo.cfg = _ from (refinement_meta_run Demo.cfg_ok _ DemoM.ops6_ok DemoM.ops6_sized).1,
    show DemoM.s.abs Demo.cfg = _ from (refinement_meta_run Demo.cfg_ok _ DemoM.ops_ok DemoM.ops_sized).1]
  decide

-- the answers of `read_with` (those of the L2 store, which is evaluated): the older record of key 1 is found below a
-- newer one with another meta, through the index file of the dumped blob and `load_meta` on the blob bytes; the empty
-- meta selects the record written by `write`; key 2 is found before the delete and `Deleted` after it; key 3 is absent
set_option maxRecDepth 1000000 in
example : DemoM.s6.readWith Demo.cfg 1 (some [7]) = .ok (.found [1, 47]) ∧ dataOf ⟨2, 1⟩ = [1, 47] ∧
    DemoM.s6.readWith Demo.cfg 1 none = .ok (.found [2]) ∧
    DemoM.s6.readWith Demo.cfg 1 (some [8]) = .ok (.found [3, 107, 223]) ∧
    DemoM.s6.readWith Demo.cfg 2 (some [9]) = .ok (.found [5]) ∧
    DemoM.s.readWith Demo.cfg 2 (some [9]) = .ok (.deleted 9) ∧
    DemoM.s.readWith Demo.cfg 3 none = .ok .notFound ∧
    DemoM.s6.containsWith Demo.cfg 1 (some (some [7])) = .ok (.found 5) := by
  obtain ⟨habs6, hinv6, hmeta6⟩ : DemoM.s6.abs Demo.cfg = _ ∧ CInv Demo.cfg DemoM.s6 ∧ _ :=
    refinement_meta_run Demo.cfg_ok _ DemoM.ops6_ok DemoM.ops6_sized
  obtain ⟨habs, hinv, hmeta⟩ : DemoM.s.abs Demo.cfg = _ ∧ CInv Demo.cfg DemoM.s ∧ _ :=
    refinement_meta_run Demo.cfg_ok _ DemoM.ops_ok DemoM.ops_sized
  simp (disch := decide) only [fun k m hm => (read_with_of_inv Demo.cfg_ok _ hinv6 hmeta6 k m hm).1,
    fun k m hm => (read_with_of_inv Demo.cfg_ok _ hinv hmeta k m hm).1,
    containsWith_eq Demo.cfg_ok hinv6 hmeta6, habs6, habs]
  decide +kernel

example : DemoM.s6.readWith Demo.cfg 1 (some [7]) =
    .ok ((Spec.readWith ((Store.init true).run ((DemoM.ops.take 6).map MOp.abs)).history 1 (some [7])).map
      (fun p => dataOf p.r.data)) :=
  (end_to_end_read_with Demo.cfg_ok (DemoM.ops.take 6) DemoM.ops6_ok DemoM.ops6_sized 1 (some [7]) (by decide)).2

example (k : Key) (m : Meta) (hm : MetaOK m) : DemoM.s.readWith Demo.cfg k m =
    .ok ((Spec.readWith ((Store.init true).run (DemoM.ops.map MOp.abs)).history k m).map (fun p => dataOf p.r.data)) :=
  (end_to_end_read_with Demo.cfg_ok DemoM.ops DemoM.ops_ok DemoM.ops_sized k m hm).2

example : CInv Demo.cfg DemoM.s ∧ StoreMetaOK (DemoM.s.abs Demo.cfg) :=
  (refinement_meta_run Demo.cfg_ok DemoM.ops DemoM.ops_ok DemoM.ops_sized).2

-- `delete(only_if_presented)`, evaluated on the state before the delete: one blob is marked (blob 0, whose index is
-- on disk); and by the theorem
set_option maxRecDepth 1000000 in
example : (DemoM.s6.deleteWithOpt Demo.cfg 2 9 (some (some [1])) true).2 = 1 ∧
    (DemoM.s6.deleteWithOpt Demo.cfg 1 9 none true).2 = 2 ∧ (DemoM.s6.deleteWithOpt Demo.cfg 3 9 none true).2 = 0 := by
  decide +kernel

example : (DemoM.s6.deleteWithOpt Demo.cfg 2 9 (some (some [1])) true).2 =
    (((Store.init true).run ((DemoM.ops.take 6).map MOp.abs)).delete 2 9 (some (some [1])) true).2 :=
  (end_to_end_delete Demo.cfg_ok (DemoM.ops.take 6) DemoM.ops6_ok DemoM.ops6_sized 2 9 (some (some [1])) true
    (by decide) (by decide)).2.1

namespace DemoRA

/-- blob 0 (dumped): key 1 at ts 5 with a meta and at ts 7; blob 1 (active): key 1 at ts 5 again (a cross-blob
    tie), then a marker at ts 6 -/
def ops : List MOp :=
  [.write 1 5 (some (some [7])) ⟨2, 1⟩, .write 1 7 none ⟨1, 2⟩, .closeActive, .settle,
   .write 1 5 none ⟨3, 3⟩, .delete 1 6 none false]

def s5 : CState := (CState.init Demo.cfg).runM Demo.cfg (ops.take 5)
def s : CState := (CState.init Demo.cfg).runM Demo.cfg ops

theorem ops_ok : ∀ op ∈ ops, op.OK Demo.cfg := by decide

theorem ops_sized : StoreSized Demo.cfg.klen ((Store.init Demo.cfg.allowDup).run (ops.map MOp.abs)) :=
  (storeSized_iff _ _).mpr (by decide)

/-- timestamps and marker flags of an answer -/
def shape (r : Except CErr (List CEntry)) : Option (List (Nat × Bool)) :=
  match r with
  | .ok es => some (es.map (fun e => (e.hdr.timestamp, e.hdr.isDeleted)))
  | .error _ => none

/-- what `Entry::load` returns for the entries of an answer -/
def loads (r : Except CErr (List CEntry)) : Option (List (Except LoadErr (List UInt8 × List UInt8))) :=
  match r with
  | .ok es => some (es.map (fun e => entryLoad e.file e.hdr))
  | .error _ => none

end DemoRA

-- the L2 answers, evaluated: before the delete the three records in rank order (the tie at ts 5: the newer blob first;
-- blob 0 is read through its index file); after it the list is cut after the marker, and `read_all` drops the marker
set_option maxRecDepth 1000000 in
example : DemoRA.shape (DemoRA.s5.readAllMarked Demo.cfg 1) = some [(7, false), (5, false), (5, false)] ∧
    DemoRA.loads (DemoRA.s5.readAllMarked Demo.cfg 1) = some [.ok (serMeta none, [2]),
      .ok (serMeta none, [3, 107, 223]), .ok (serMeta (some [7]), [1, 47])] ∧
    DemoRA.shape (DemoRA.s.readAllMarked Demo.cfg 1) = some [(7, false), (6, true)] ∧
    DemoRA.shape (DemoRA.s.readAll Demo.cfg 1) = some [(7, false)] ∧
    DemoRA.shape (DemoRA.s.readAll Demo.cfg 2) = some [] := by
  -- an answer is, entry by entry, the L2 answer (`readAllMarked_rr`, `readAll_rr`): its shape and what its entries load
  -- are those of the L2 records
  have key : ∀ {r : Except CErr (List CEntry)} {l : List Rec} (Z : List (Rec × CEntry)), r = .ok (Z.map (·.2)) →
      l = Z.map (·.1) → (∀ x ∈ Z, EntryOf x) →
      DemoRA.shape r = some (l.map fun x => (x.ts, x.del)) ∧
      DemoRA.loads r = some (l.map fun x => .ok (serMeta x.mt, if x.del then [] else dataOf x.data)) := by
    intro r l Z hr hl hz
    have hv := views_eq Z hz
    rw [hr, hl]
    refine ⟨congrArg some ?_, congrArg some ?_⟩
    · have := congrArg (List.map fun v => (v.2.1, v.2.2.1)) hv
      rw [List.map_map, List.map_map, List.map_map, List.map_map] at this
      rw [List.map_map, List.map_map]
      exact this
    · have := congrArg (List.map fun v => v.2.2.2) hv
      rw [List.map_map, List.map_map, List.map_map, List.map_map] at this
      rw [List.map_map, List.map_map]
      exact this
  obtain ⟨habs5, hinv5, _⟩ : DemoRA.s5.abs Demo.cfg = _ ∧ CInv Demo.cfg DemoRA.s5 ∧ _ :=
    refinement_meta_run Demo.cfg_ok (DemoRA.ops.take 5) (by decide) ((storeSized_iff _ _).mpr (by decide))
  obtain ⟨habs, hinv, _⟩ : DemoRA.s.abs Demo.cfg = _ ∧ CInv Demo.cfg DemoRA.s ∧ _ :=
    refinement_meta_run Demo.cfg_ok DemoRA.ops DemoRA.ops_ok DemoRA.ops_sized
  obtain ⟨Z1, a1, b1, c1⟩ := readAllMarked_rr Demo.cfg_ok hinv5 1
  obtain ⟨Z2, a2, b2, c2⟩ := readAllMarked_rr Demo.cfg_ok hinv 1
  obtain ⟨Z3, a3, b3, c3⟩ := readAll_rr Demo.cfg_ok hinv 1
  obtain ⟨Z4, a4, b4, c4⟩ := readAll_rr Demo.cfg_ok hinv 2
  rw [(key Z1 a1 b1 c1).1, (key Z1 a1 b1 c1).2, (key Z2 a2 b2 c2).1, (key Z3 a3 b3 c3).1, (key Z4 a4 b4 c4).1, habs5, habs]
  decide +kernel

example : ∃ es, DemoRA.s.readAllMarked Demo.cfg 1 = .ok es ∧
    es.map entryView =
      (Spec.allCut ((Store.init true).run (DemoRA.ops.map MOp.abs)).history 1).map (fun p => recView p.r) :=
  (end_to_end_read_all Demo.cfg_ok DemoRA.ops DemoRA.ops_ok DemoRA.ops_sized 1).1

namespace DemoB

theorem ok : BytesOK Demo.cfg sha := ⟨Demo.cfg_ok, fun _ => by simp [sha]⟩

theorem store_idx_sized : StoreIdxSized Demo.cfg ((Store.init Demo.cfg.allowDup).run (DemoM.ops.map MOp.abs)) :=
  (storeIdxSized_iff _ _).mpr (by decide)

/-- … from which the bound on every state passed through follows -/
theorem idx_sized : ∀ n, n ≤ DemoM.ops.length → ((CState.init Demo.cfg).runM Demo.cfg (DemoM.ops.take n)).IdxSized :=
  idxSized_of_final Demo.cfg_ok DemoM.ops DemoM.ops_ok store_idx_sized

end DemoB

-- the index file of blob 0 in `DemoB.s6` (three records, dumped by the `settle` of `DemoM.ops`): 83 (header) +
-- 99 (filters) + 16 (tree meta) + 3 · 58 (record headers) = 372 bytes; it is opened by `from_file`, and the look-ups on
-- the bytes find key 1 (two versions) and do not find key 3
set_option maxRecDepth 1000000 in
example : DemoB.s6.blobs.map (fun b => (b.id, b.index.onDisk)) = [(0, true), (1, false)] ∧
    (match DemoB.s6.blobs.head? with
      | some b =>
        (match b.index with
          | .disk img _ => (BIdx.fromFile img).isSome && decide (img.length = 83 + 99 + 16 + 3 * 58)
          | .mem _ => false) &&
        ((b.index.getAllMarked 1 1).map (·.map (·.timestamp)) == some [6, 5]) &&
        ((b.index.getLatest 1 3) == some none)
      | none => false) = true := by decide +kernel

-- reads through the bytes: the byte-level storage is the translation of `DemoM.s6`, whose answers are those of the L2 store
set_option maxRecDepth 1000000 in
example : DemoB.s6.readWithOpt Demo.cfg 1 (some (some [7])) = .ok (.found [1, 47]) ∧
    DemoB.s6.readWithOpt Demo.cfg 2 (some (some [9])) = .ok (.found [5]) ∧
    DemoB.s6.readWithOpt Demo.cfg 3 none = .ok .notFound ∧
    (DemoB.s6.deleteWithOpt Demo.cfg 2 9 (some (some [1])) true).2 = 1 := by
  obtain ⟨hsz, hidx⟩ := idx_sized_of_inputs Demo.cfg_ok (DemoM.ops.take 6) DemoM.ops6_ok
    ((storeIdxSized_iff _ _).mpr (by decide))
  obtain ⟨habs, hinv, hmeta⟩ : DemoM.s6.abs Demo.cfg = _ ∧ CInv Demo.cfg DemoM.s6 ∧ _ :=
    refinement_meta_run Demo.cfg_ok _ DemoM.ops6_ok hsz
  have hb : DemoB.s6 = DemoM.s6.toB DemoB.sha := refinement_bytes_run DemoB.ok _ DemoM.ops6_ok hsz hidx
  obtain ⟨e1, _, _, _, _, e6⟩ := bytes_of_inv DemoB.ok DemoM.s6 hinv (hidx 6 (by decide))
  simp (disch := decide) only [hb, e1, ← e6, readWithOpt_eq Demo.cfg_ok hinv hmeta,
    deleteWithOpt_count Demo.cfg_ok hinv, habs]
  decide +kernel

example (k : Key) (m : Meta) (hm : MetaOK m) :
    ((BState.init Demo.cfg).runB Demo.cfg DemoB.sha DemoM.ops).readWithOpt Demo.cfg k (some m) =
      .ok ((Spec.readWith ((Store.init true).run (DemoM.ops.map MOp.abs)).history k m).map (fun p => dataOf p.r.data)) :=
  ((end_to_end_read_bytes DemoB.ok DemoM.ops DemoM.ops_ok DemoM.ops_sized DemoB.idx_sized k).2.2.2.2.2.2.1 m hm).1

example (k : Key) :
    ((BState.init Demo.cfg).runB Demo.cfg DemoB.sha DemoM.ops).readWithOpt Demo.cfg k none =
      .ok ((Spec.latest ((Store.init true).run (DemoM.ops.map MOp.abs)).history k).map (fun p => dataOf p.r.data)) :=
  (end_to_end_read_bytes_inputs DemoB.ok DemoM.ops DemoM.ops_ok DemoB.store_idx_sized k).2.2.2.2.1

example : filterLen Demo.cfg = 99 := by decide

-- the index file with an inner node (`DemoB.F80`: 80 keys, two leaves under a root node, 4764 bytes): the descent
-- through the root node on the bytes, the leaf windows, present and absent keys — what the look-ups find in the bytes
-- is what they find in the structured file (`DemoB.sim80`), which is evaluated
set_option maxRecDepth 1000000 in
example : DemoB.F80.nodes.length = 1 ∧ DemoB.img80.length = 4764 ∧
    (match BIdx.fromFile DemoB.img80 with
      | some x => (BIdx.getLatest 1 x 0 == DemoB.F80.getLatest 0) && (BIdx.getLatest 1 x 79 == DemoB.F80.getLatest 79) &&
          (BIdx.getLatest 1 x 75 == some (some (DemoB.hd 75))) && (BIdx.findByKey 1 x 100 == some none) &&
          (BIdx.findByKey 1 x 3 == some (some [DemoB.hd 3]))
      | none => false) = true := by
  rw [DemoB.fromFile_img80, DemoB.img80_length]
  simp only [DemoB.getLatest80, DemoB.findByKey80]
  decide +kernel

example (k : Nat) :
    BIdx.getLatest 1 (openedImage 1 [] DemoB.m80 (List.replicate 32 0) 5400) k = DemoB.F80.getLatest k :=
  DemoB.getLatest80 k

def DemoM.cfgND : Cfg := { Demo.cfg with allowDup := false }

-- duplicates not allowed: the second `write_with` of the same key and meta appends nothing, another meta does
set_option maxRecDepth 1000000 in
example :
    let c := (CState.init DemoM.cfgND).runM DemoM.cfgND
      [.write 1 5 (some (some [7])) ⟨2, 1⟩, .closeActive, .settle, .write 1 6 (some (some [7])) ⟨1, 1⟩,
       .write 1 7 (some (some [8])) ⟨1, 2⟩]
    (c.abs DemoM.cfgND).blobs.map (fun b => b.recs.length) = [1, 1] := by decide +kernel

/-- the meta range hypothesis is needed: the meta value `[256]` is stored as the byte `0`; a `read_with` for the meta
    value `[0]` finds that record, while the L2 store and the specification (which compare the lists) do not -/
theorem meta_range_needed :
    let ops : List MOp := [.write 1 5 (some (some [256])) ⟨1, 1⟩]
    ((CState.init Demo.cfg).runM Demo.cfg ops).readWith Demo.cfg 1 (some [0]) = .ok (.found (dataOf ⟨1, 1⟩)) ∧
    ((Store.init true).run (ops.map MOp.abs)).read 1 (some (some [0])) = .notFound ∧
    ¬ (∀ op ∈ ops, op.OK Demo.cfg) := by
  decide +kernel

end Pearl.E2E

#print axioms Pearl.E2E.refinement_meta
#print axioms Pearl.E2E.refinement_meta_run
#print axioms Pearl.E2E.meta_ops_extend
#print axioms Pearl.E2E.read_with_of_inv
#print axioms Pearl.E2E.end_to_end_read_with
#print axioms Pearl.E2E.end_to_end_contains_with
#print axioms Pearl.E2E.end_to_end_read_meta_history
#print axioms Pearl.E2E.write_with_dedup
#print axioms Pearl.E2E.ghost_not_read_meta
#print axioms Pearl.E2E.read_all_of_inv
#print axioms Pearl.E2E.end_to_end_read_all
#print axioms Pearl.E2E.end_to_end_read_all_plain
#print axioms Pearl.E2E.delete_of_inv
#print axioms Pearl.E2E.end_to_end_delete
#print axioms Pearl.E2E.meta_range_needed
#print axioms Pearl.E2E.index_bytes_lookups
#print axioms Pearl.E2E.bytes_of_inv
#print axioms Pearl.E2E.refinement_bytes_run
#print axioms Pearl.E2E.end_to_end_read_bytes
#print axioms Pearl.E2E.idx_sized_of_inputs
#print axioms Pearl.E2E.storeIdxSized_iff
#print axioms Pearl.E2E.end_to_end_read_bytes_inputs

/-! # Start-up WITH index files

Model: `Pearl/Model/EndToEndStart.lean`, on the byte-level storage `BState`:
`openIndex` = `IndexStruct::from_file(name, cfg, io, blob_size)` on the bytes of an index file (`BPTreeFileIndex::from_file`:
`read_index_header`, `read_tree_meta`, `check_file_size`, `read_root`; `validate(blob_size)`: `written` bit, version,
key size, `blob_size` vs the length of the blob file, magic; `read_meta`; `deserialize_filters`), `fromFileB` =
`Blob::from_file` (accepted → `State::OnDisk` with the deserialized filters and `bloom_offset`; rejected →
`is_index_corrupted`, `Index::new`, `try_regenerate_index`), `loadIndexOrRegenB` = `Blob::load_index` (with the
regeneration fallback), `BState.restartWithIndexes cfg sha c dir lazy` = close + `init` on a directory in which
`dir id` is the content of the index file of blob `id` (ANY byte string) or `none`.

The index-file choices of the theorem are `IdxChoice cfg sha recs idx` for a blob holding the records `recs`:
`absent`; `current`: `idx = dumpedImage cfg sha recs`, the image `Blob::dump` leaves for a blob into which exactly `recs`
were written; `stale n`: the image dumped when the blob held the strict prefix `recs.take n` (this is what is on disk
after dump → `delete` (the index is loaded, the file stays) → the marker is appended); `rejected`: any bytes for which
`openIndex` answers `rejected`.

FINDING (start-up fails).  `Blob::from_file` sets `is_index_corrupted` for a rejected index file and then calls
`try_regenerate_index` even when the blob file holds the header only; `RawRecords::start` then reads 16 bytes past the
end of the file and `from_file` returns `Err`.  So a rejected index file next to a blob WITHOUT records (the fresh active
blob) makes `Blob::from_file` fail, whereas the same blob without any index file is opened.  The storage itself never
writes an index file for a blob without records (`dump_in_memory` returns at once for an empty map), so this needs a
foreign / left-over file.  `end_to_end_restart_with_indexes` therefore states exactly when the start-up fails
(`restart_with_indexes_fails_on_empty_blob` is the concrete witness) and `…_partial` is the statement under the
hypothesis that excludes it.
-/
namespace Pearl.E2E
open Pearl Pearl.BPTree Pearl.Container

/-- in any state satisfying the invariant (with at least one blob, as on every run), for every directory of index
    files that are absent, current, stale or rejected: the start-up with index files fails exactly when an index file
    lies next to a blob without records; otherwise it returns the very storage the start-up WITHOUT index files
    returns (`BState.restart`: every index regenerated by the L5 scan of the blob bytes), and every answer is the
    answer before the restart -/
theorem restart_with_indexes_of_inv {cfg : Cfg} {sha : List Nat → List Nat} (hB : BytesOK cfg sha) (c : CState)
    (hinv : CInv cfg c) (hmeta : StoreMetaOK (c.abs cfg)) (hne : (c.abs cfg).blobs ≠ [])
    (hsz : StoreIdxSized cfg (c.abs cfg)) (dir : Nat → Option (List Nat))
    (hdir : ∀ b ∈ c.blobs, IdxChoice cfg sha b.ghost (dir b.id)) (lazy : Bool) :
    ((c.toB sha).restartWithIndexes cfg sha dir lazy = none ↔
      ∃ b ∈ c.blobs, b.ghost = [] ∧ (dir b.id).isSome = true) ∧
    ∀ b', (c.toB sha).restartWithIndexes cfg sha dir lazy = some b' →
      b' = (c.toB sha).restart cfg sha lazy ∧ SameAnswers cfg (c.toB sha) b' := by
  obtain ⟨h1, h2⟩ := restartWithIndexes_of_invO hB hinv.toCInvO hmeta hne hsz dir hdir lazy
  exact ⟨h1, fun b' hb' => ⟨(h2 b' hb').1, (h2 b' hb').2.2.2⟩⟩

/-- **`end_to_end_restart_with_indexes`**: for every history of operations (with metadata) from the empty directory,
    every choice of per-blob index-file bytes that is (i) the image the storage itself dumped for the current records
    of the blob, (ii) the image dumped for a strict prefix of them (stale), or (iii) any byte string that the
    validation of `Index::from_file` rejects (or no file), and both start-up modes:

    * the start-up fails if and only if an index file lies next to a blob that holds no record (see the FINDING
      above; with the choices (i)–(iii) such a file is necessarily a rejected one);
    * otherwise the storage after the start-up IS the storage after the start-up without index files — accepted files
      are used as they are, and what they hold is byte for byte what the regeneration from the blob file followed by a
      dump produces; stale and rejected files are replaced by it — and the answers of `read` / `read_with`
      (`readWithOpt`), `contains` / `contains_with`, `read_all_with_deletion_marker` and `read_all` equal those before
      the restart (`SameAnswers`: equal results; for the two entry lists, equal views = key, timestamp, marker flag
      and what `Entry::load` returns). -/
theorem end_to_end_restart_with_indexes {cfg : Cfg} {sha : List Nat → List Nat} (hB : BytesOK cfg sha)
    (ops : List MOp) (hops : ∀ op ∈ ops, op.OK cfg)
    (hsz : StoreIdxSized cfg ((Store.init cfg.allowDup).run (ops.map MOp.abs)))
    (dir : Nat → Option (List Nat))
    (hdir : ∀ x ∈ ((Store.init cfg.allowDup).run (ops.map MOp.abs)).blobs, IdxChoice cfg sha x.recs (dir x.id))
    (lazy : Bool) :
    let b := (BState.init cfg).runB cfg sha ops
    let s := (Store.init cfg.allowDup).run (ops.map MOp.abs)
    (b.restartWithIndexes cfg sha dir lazy = none ↔ ∃ x ∈ s.blobs, x.recs = [] ∧ (dir x.id).isSome = true) ∧
    ∀ b', b.restartWithIndexes cfg sha dir lazy = some b' →
      b' = b.restart cfg sha lazy ∧ SameAnswers cfg b b' := by
  intro b s
  obtain ⟨hb, habs, hinv, hmeta⟩ : b = _ ∧ _ := runB_ref hB ops hops hsz
  obtain ⟨h1, h2⟩ := restart_with_indexes_of_inv hB _ hinv hmeta (habs ▸ run_blobs_ne_nil _ _) (habs ▸ hsz) dir
    (dirChoice_of_abs (habs ▸ hdir)) lazy
  rw [hb]
  refine ⟨?_, h2⟩
  rw [h1]
  exact (indexBesideEmpty_iff cfg _ dir).trans (by rw [habs])

/-- the statement under the hypothesis that excludes the failing case: no index file lies next to a blob without
    records.  Then the start-up succeeds and no answer changes. -/
theorem end_to_end_restart_with_indexes_partial {cfg : Cfg} {sha : List Nat → List Nat} (hB : BytesOK cfg sha)
    (ops : List MOp) (hops : ∀ op ∈ ops, op.OK cfg)
    (hsz : StoreIdxSized cfg ((Store.init cfg.allowDup).run (ops.map MOp.abs)))
    (dir : Nat → Option (List Nat))
    (hdir : ∀ x ∈ ((Store.init cfg.allowDup).run (ops.map MOp.abs)).blobs, IdxChoice cfg sha x.recs (dir x.id))
    (hempty : ∀ x ∈ ((Store.init cfg.allowDup).run (ops.map MOp.abs)).blobs, x.recs = [] → dir x.id = none)
    (lazy : Bool) :
    ∃ b', ((BState.init cfg).runB cfg sha ops).restartWithIndexes cfg sha dir lazy = some b' ∧
      b' = ((BState.init cfg).runB cfg sha ops).restart cfg sha lazy ∧
      SameAnswers cfg ((BState.init cfg).runB cfg sha ops) b' := by
  obtain ⟨h1, h2⟩ := end_to_end_restart_with_indexes hB ops hops hsz dir hdir lazy
  cases hr : ((BState.init cfg).runB cfg sha ops).restartWithIndexes cfg sha dir lazy with
  | none =>
    obtain ⟨x, hx, he, hs⟩ := h1.mp hr
    rw [hempty x hx he] at hs
    cases hs
  | some b' => exact ⟨b', rfl, h2 b' hr⟩

theorem end_to_end_restart_with_indexes_spec {cfg : Cfg} {sha : List Nat → List Nat} (hB : BytesOK cfg sha)
    (ops : List MOp) (hops : ∀ op ∈ ops, op.OK cfg)
    (hsz : StoreIdxSized cfg ((Store.init cfg.allowDup).run (ops.map MOp.abs)))
    (dir : Nat → Option (List Nat))
    (hdir : ∀ x ∈ ((Store.init cfg.allowDup).run (ops.map MOp.abs)).blobs, IdxChoice cfg sha x.recs (dir x.id))
    (lazy : Bool) (b' : BState)
    (hb' : ((BState.init cfg).runB cfg sha ops).restartWithIndexes cfg sha dir lazy = some b') (k : Key) :
    let h := ((Store.init cfg.allowDup).run (ops.map MOp.abs)).history
    b'.readWithOpt cfg k none = .ok ((Spec.latest h k).map (fun p => dataOf p.r.data)) ∧
    b'.containsWith cfg k none = .ok ((Spec.latest h k).map (·.r.ts)) ∧
    (∀ m, MetaOK m →
      b'.readWithOpt cfg k (some m) = .ok ((Spec.readWith h k m).map (fun p => dataOf p.r.data))) := by
  intro h
  obtain ⟨_, hsame⟩ := (end_to_end_restart_with_indexes hB ops hops hsz dir hdir lazy).2 b' hb'
  obtain ⟨r1, r2, r3, _⟩ := hsame.specAnswers (end_to_end_read_bytes_inputs hB ops hops hsz k).2.2.2.2
  exact ⟨r1, r2, fun m hm => (r3 m hm).1⟩

/-- **what is checked** of an index file that the start-up uses (arbitrary bytes `img`, blob file of `blobSize`
    bytes): it passes the C03b test `acceptIndex` — hence (C03b `accepted_has_declared_length`) its header has the
    `written` bit, the current version, the compile-time key size, `blob_size =` the length of the blob file, the magic
    number, `tree_offset ≤ leaves_offset`, and the file has exactly the length `records_count * record_header_size +
    leaves_offset` its own header and tree meta declare, with header, filter section and tree meta inside it — and its
    filter section deserializes (to the filters and `bloom_offset` the blob then uses).  NOTHING ELSE is looked at:
    not the tree nodes, not the record headers, and not the `hash` (`validate`: "FIXME: check hash here?"; the hash is
    compared by `get_records_headers` only, i.e. when the index is loaded into memory). -/
theorem accepted_index_checked_fields {cfg : Cfg} {blobSize : Nat} {img : List Nat} {flt : Combined} {off : Nat}
    (h : openIndex cfg blobSize img = .accepted flt off) :
    acceptIndex cfg.klen blobSize img = true ∧
    (∃ hd tm, readIndexHeader img = some hd ∧ readTreeMeta img hd = some tm ∧
      hd.isWritten = true ∧ hd.version = indexHeaderVersion ∧ hd.keySize = cfg.klen ∧ hd.blobSize = blobSize ∧
      hd.magic = magicByte ∧ tm.treeOffset ≤ tm.leavesOffset ∧
      img.length = hd.recordsCount * hd.recordHeaderSize + tm.leavesOffset ∧
      hd.serializedSize + hd.metaSize + treeMetaSize ≤ img.length) ∧
    (∃ x mb, BIdx.fromFile img = some x ∧ x.readMeta = some mb ∧
      combinedOfFile cfg.bloomIsOn mb = some (flt, off)) := by
  obtain ⟨ha, x, mb, hx, _, hm, hc⟩ := openIndex_accepted h
  exact ⟨ha, C03b.accepted_has_declared_length cfg.klen blobSize img ha, x, mb, hx, hm, hc⟩

/-- conversely an index file that fails the C03b test is rejected, so every rejection theorem of C03b (truncated,
    half-written, stale `blob_size`, other key size, other version: `damage_never_accepted`) is a case (iii) of
    `end_to_end_restart_with_indexes` -/
theorem rejected_of_c03b {cfg : Cfg} {blobSize : Nat} {img : List Nat}
    (h : acceptIndex cfg.klen blobSize img = false) : openIndex cfg blobSize img = .rejected :=
  openIndex_of_not_accept h

namespace DemoS

theorem blobs_eq : ((Store.init Demo.cfg.allowDup).run (DemoM.ops.map MOp.abs)).blobs
    = [{ id := 0, recs := recs0 }, { id := 1, recs := recs1 }] := by decide +kernel

theorem isSome_choice {recs : List Rec} {o : Option (List Nat)} (h : o.isSome = true)
    (hc : ∀ img, o = some img → IdxChoice Demo.cfg DemoB.sha recs (some img)) :
    IdxChoice Demo.cfg DemoB.sha recs o := by
  cases o with
  | none => cases h
  | some img => exact hc img rfl

theorem dirStale_ok : ∀ x ∈ ((Store.init Demo.cfg.allowDup).run (DemoM.ops.map MOp.abs)).blobs,
    IdxChoice Demo.cfg DemoB.sha x.recs (dirStale x.id) := by
  rw [blobs_eq]
  refine List.forall_mem_cons.mpr ⟨?_, List.forall_mem_singleton.mpr ?_⟩
  · exact isSome_choice (by decide +kernel) (fun img h => .stale 3 img (by decide) h)
  · exact .absent

theorem dirCurrent_ok : ∀ x ∈ ((Store.init Demo.cfg.allowDup).run (DemoM.ops.map MOp.abs)).blobs,
    IdxChoice Demo.cfg DemoB.sha x.recs (dirCurrent x.id) := by
  rw [blobs_eq]
  refine List.forall_mem_cons.mpr ⟨?_, List.forall_mem_singleton.mpr ?_⟩
  · exact isSome_choice (by decide +kernel) (fun img h => .current img h)
  · exact .rejected [1, 2, 3] (by decide +kernel)

end DemoS

-- evaluated: the stale file is 372 bytes long and is rejected for the blob file of 342 bytes; the current image is
-- accepted; three junk bytes are rejected
set_option maxRecDepth 1000000 in
example : (DemoS.dirStale 0).map (·.length) = some 372 ∧ blobFileLen Demo.cfg DemoS.recs0 = 342 ∧
    (DemoS.dirStale 0).map (openIndex Demo.cfg 342) = some .rejected ∧
    (DemoS.dirStale 0).map (openIndex Demo.cfg 258) ≠ some .rejected ∧
    ((DemoS.dirCurrent 0).map (openIndex Demo.cfg 342)).isSome = true ∧
    (DemoS.dirCurrent 0).map (openIndex Demo.cfg 342) ≠ some .rejected ∧
    openIndex Demo.cfg 107 [1, 2, 3] = .rejected :=
  DemoS.startups.1

-- the start-up with the stale file regenerates and dumps blob 0; with the current file it uses it; the answers are
-- those before the restart (`end_to_end_restart_with_indexes_partial`; the L2 store is evaluated)
set_option maxRecDepth 1000000 in
example : (DemoS.s.restartWithIndexes Demo.cfg DemoB.sha DemoS.dirStale false).map
      (fun b => (b.readWithOpt Demo.cfg 2 none, b.readWithOpt Demo.cfg 1 (some (some [7])),
        b.blobs.map (fun x => (x.id, x.index.onDisk))))
      = some (.ok (.deleted 9), .ok (.found [1, 47]), [(0, true), (1, false)]) ∧
    (DemoS.s.readWithOpt Demo.cfg 2 none, DemoS.s.readWithOpt Demo.cfg 1 (some (some [7])))
      = (.ok (.deleted 9), .ok (.found [1, 47])) ∧
    (DemoS.s.restartWithIndexes Demo.cfg DemoB.sha DemoS.dirCurrent true).map
      (fun b => (b.readWithOpt Demo.cfg 2 none, b.blobs.map (fun x => (x.id, x.index.onDisk))))
      = some (.ok (.deleted 9), [(0, true), (1, true)]) := by
  obtain ⟨habs, hinv, hmeta⟩ : DemoM.s.abs Demo.cfg = _ ∧ CInv Demo.cfg DemoM.s ∧ _ :=
    refinement_meta_run Demo.cfg_ok _ DemoM.ops_ok DemoB.store_idx_sized.toStoreSized
  have hb : DemoS.s = DemoM.s.toB DemoB.sha := refinement_bytes_run DemoB.ok _ DemoM.ops_ok
    DemoB.store_idx_sized.toStoreSized (idxSized_of_final Demo.cfg_ok _ DemoM.ops_ok DemoB.store_idx_sized)
  -- the answers before the restart are those of the L2 store, and so are the answers after it (`SameAnswers`)
  have hread := fun k => hb ▸ (l2Answers_of_good DemoB.ok hinv.toCInvO hmeta
    (goodB_of_store DemoB.ok hinv.toCInvO (habs ▸ DemoB.store_idx_sized)) k).1
  -- the restarted storage is the translation of `CState.restart`, whose L2 store is `Store.restart`
  have hblobs : ∀ lazy, (DemoS.s.restart Demo.cfg DemoB.sha lazy).blobs.map (fun x => (x.id, x.index.onDisk)) =
      ((DemoM.s.abs Demo.cfg).restart lazy).blobs.map (fun x => (x.id, x.onDisk)) := fun lazy => by
    have hr : (DemoM.s.restart Demo.cfg lazy).abs Demo.cfg = (DemoM.s.abs Demo.cfg).restart lazy :=
      (restart_ref Demo.cfg_ok hinv lazy).1
    rw [hb, ← restart_toB, blobs_toB, ← hr, abs_blobs, List.map_map, List.map_map]
    refine List.map_congr_left fun x _ => ?_
    show (x.id, (x.index.toB DemoB.sha x.file.length).onDisk) = (x.id, x.index.onDisk)
    cases x.index <;> rfl
  obtain ⟨b₁, e₁, r₁, a₁⟩ : ∃ b', DemoS.s.restartWithIndexes Demo.cfg DemoB.sha DemoS.dirStale false = some b' ∧
      b' = DemoS.s.restart Demo.cfg DemoB.sha false ∧ SameAnswers Demo.cfg DemoS.s b' :=
    end_to_end_restart_with_indexes_partial DemoB.ok DemoM.ops DemoM.ops_ok
      DemoB.store_idx_sized DemoS.dirStale DemoS.dirStale_ok (fun x hx he => absurd he (DemoS.recs_ne x hx)) false
  obtain ⟨b₂, e₂, r₂, a₂⟩ : ∃ b', DemoS.s.restartWithIndexes Demo.cfg DemoB.sha DemoS.dirCurrent true = some b' ∧
      b' = DemoS.s.restart Demo.cfg DemoB.sha true ∧ SameAnswers Demo.cfg DemoS.s b' :=
    end_to_end_restart_with_indexes_partial DemoB.ok DemoM.ops DemoM.ops_ok
      DemoB.store_idx_sized DemoS.dirCurrent DemoS.dirCurrent_ok (fun x hx he => absurd he (DemoS.recs_ne x hx)) true
  rw [e₁, e₂, Option.map_some, Option.map_some, (a₁ 2).1 none nofun, (a₁ 1).1 (some (some [7])) (by decide),
    (a₂ 2).1 none nofun, r₁, r₂, hblobs, hblobs, hread 2 none nofun, hread 1 (some (some [7])) (by decide), habs]
  simp only [Option.some.injEq, Prod.mk.injEq]
  decide +kernel

example (lazy : Bool) : ∃ b', DemoS.s.restartWithIndexes Demo.cfg DemoB.sha DemoS.dirStale lazy = some b' ∧
    b' = DemoS.s.restart Demo.cfg DemoB.sha lazy ∧ SameAnswers Demo.cfg DemoS.s b' :=
  end_to_end_restart_with_indexes_partial DemoB.ok DemoM.ops DemoM.ops_ok DemoB.store_idx_sized DemoS.dirStale
    DemoS.dirStale_ok (fun x hx he => absurd he (DemoS.recs_ne x hx)) lazy

example (lazy : Bool) (k : Key) (m : Meta) (hm : MetaOK m) (b' : BState)
    (h : DemoS.s.restartWithIndexes Demo.cfg DemoB.sha DemoS.dirCurrent lazy = some b') :
    b'.readWithOpt Demo.cfg k (some m) = DemoS.s.readWithOpt Demo.cfg k (some m) :=
  (((end_to_end_restart_with_indexes DemoB.ok DemoM.ops DemoM.ops_ok DemoB.store_idx_sized DemoS.dirCurrent
    DemoS.dirCurrent_ok lazy).2 b' h).2 k).1 (some m) (metaOK_some hm)

/-- the FINDING, evaluated: blob 0 closed, blob 1 the fresh active blob (header only).  Without index files the
    start-up succeeds; with three junk bytes next to blob 1 — which the validation rejects — `Blob::from_file` of blob 1
    fails (`RawRecords::start` reads past the end of the header-only file); the same junk next to blob 0 is harmless -/
theorem restart_with_indexes_fails_on_empty_blob :
    let ops : List MOp := [.write 1 5 none ⟨1, 1⟩, .closeActive, .createActive]
    let b := (BState.init Demo.cfg).runB Demo.cfg DemoB.sha ops
    ((Store.init true).run (ops.map MOp.abs)).blobs.map (fun x => (x.id, x.recs.length)) = [(0, 1), (1, 0)] ∧
    openIndex Demo.cfg 20 [1, 2, 3] = .rejected ∧
    b.restartWithIndexes Demo.cfg DemoB.sha (fun i => if i = 1 then some [1, 2, 3] else none) false = none ∧
    (b.restartWithIndexes Demo.cfg DemoB.sha (fun _ => none) false).isSome = true ∧
    (b.restartWithIndexes Demo.cfg DemoB.sha (fun i => if i = 0 then some [1, 2, 3] else none) false).isSome = true := by
  decide +kernel

/-- **the boundary of C03** (`accepted_is_faithful_general_false` of C03b, composed): the changed file passes the
    validation for the blob it was dumped for (`DemoB.s6`: blob 0 holds three records, 258 bytes) — the header
    checks do not cover the record headers and the `hash` is not compared at start-up —, is used as it is, and the read
    path then answers `NotFound` for key 2, which the blob holds (`Found` before the restart): the filters still pass
    the key, the look-up in the index file does not find it.  The `hash` is compared only when the index is loaded
    (`get_records_headers`: the next `delete` of a key of this blob, or `pop_active` for the last blob). -/
theorem accepted_but_wrong_index :
    DemoS.badImg.length = 372 ∧ (dumpedImage Demo.cfg DemoB.sha (DemoS.recs0.take 3)).map (·[330]?) = some (some 2) ∧
    DemoB.s6.blobs.map (fun x => (x.id, x.file.length, x.index.onDisk)) = [(0, 258, true), (1, 107, false)] ∧
    acceptIndex 1 258 DemoS.badImg = true ∧ openIndex Demo.cfg 258 DemoS.badImg ≠ .rejected ∧
    openIndex Demo.cfg 258 DemoS.badImg ≠ .panic ∧
    DemoB.s6.readWithOpt Demo.cfg 2 none = .ok (.found [5]) ∧
    (DemoB.s6.restartWithIndexes Demo.cfg DemoB.sha (fun i => if i = 0 then some DemoS.badImg else none) false).map
      (fun b => (b.readWithOpt Demo.cfg 2 none, b.readWithOpt Demo.cfg 2 (some (some [9]))))
      = some (.ok .notFound, .ok .notFound) ∧
    (DemoB.s6.restartWithIndexes Demo.cfg DemoB.sha (fun i => if i = 0 then some DemoS.badImg else none) false).map
      (fun b => (b.readWithOpt Demo.cfg 1 none, b.blobs.map (fun x => (x.id, x.index.onDisk))))
      = some (.ok (.found [3, 107, 223]), [(0, true), (1, false)]) := by
  obtain ⟨a1, a2, a3, a4, a5, a6, a7, hy⟩ := DemoS.startups.2.2
  exact ⟨a1, a2, a3, a4, a5, a6, a7, hy.map_eq fun _ h => by simp only [h.1, h.2.1],
    hy.map_eq fun _ h => by simp only [h.2.2.1, h.2.2.2]⟩

/-- a second finding on arbitrary bytes: a file with a valid header whose filter section is shorter than the 8-byte
    length prefix of the range filter passes `from_file` + `validate` + `read_meta`, and `deserialize_filters` then
    panics in `split_at` — the start-up does not fall back to regeneration.  (99 bytes: header with `meta_size = 0`,
    `records_count = 0`, `blob_size = 20`; tree meta `leaves_offset = tree_offset = 99`.) -/
theorem index_with_short_filter_section_panics :
    let hdr : List Nat := BPTree.leBytes 8 magicByte ++ BPTree.leBytes 8 0 ++ BPTree.leBytes 8 58 ++ BPTree.leBytes 8 0
      ++ (BPTree.leBytes 8 32 ++ List.replicate 32 0) ++ [13] ++ BPTree.leBytes 2 1 ++ BPTree.leBytes 8 20
    let img := hdr ++ BPTree.leBytes 8 99 ++ BPTree.leBytes 8 99
    img.length = 99 ∧ acceptIndex 1 20 img = true ∧ openIndex Demo.cfg 20 img = .panic := by
  decide +kernel

end Pearl.E2E

#print axioms Pearl.E2E.restart_with_indexes_of_inv
#print axioms Pearl.E2E.end_to_end_restart_with_indexes
#print axioms Pearl.E2E.end_to_end_restart_with_indexes_partial
#print axioms Pearl.E2E.end_to_end_restart_with_indexes_spec
#print axioms Pearl.E2E.accepted_index_checked_fields
#print axioms Pearl.E2E.rejected_of_c03b
#print axioms Pearl.E2E.restart_with_indexes_fails_on_empty_blob
#print axioms Pearl.E2E.accepted_but_wrong_index
#print axioms Pearl.E2E.index_with_short_filter_section_panics

/-! # Bloom off-loading as an operation

Model: `Pearl/Model/EndToEndStart.lean`, part (b): `OOp` = the operations of `MOp`, `offloadBlob j`
(`Blob::offload_buffer` of the closed blob in slot `j`: `index.offload_filter()`, the bit vector of the bloom filter of an
on-disk index is dropped) and `offloadBuffer needed level` (`Storage::offload_buffer` = `HierarchicalFilters::
offload_buffer` on the container of the closed blobs: `Container.offload`, children first, then the filters of the
inner nodes); `CState.stepO / runO` on the structured storage, `BState.stepBO / runBO` on the byte-level storage.  An
off-loaded bloom filter is probed by `Bloom::contains_in_file` through `read_meta_at(index + bloom_offset)`: on the
structured index file `metaReadByte metaBuf off`, on the bytes `BIdx.readMetaAt` (`BBlob.checkFilter`).

Proof idea.  `CState.reload` replaces the filter of every blob by the filter of its records (what `load_index` or a
restart reads back) and leaves the arena of the container alone.  `CInvO c` = `CInv (reload c)` and every blob filter is
the filter of its records or — index on disk — that filter off-loaded.  Every read answers on `c` as on `reload c`
(C10 `contains_offload_eq`: the file probe of the off-loaded filter = the fast check of the resident one).  `CInvO` is
the storage invariant `CInvG` over the blob invariant "`BlobInv` after `reload`, and the filter is the filter of the
records or that filter off-loaded" (`cinvO_iff`, `blobIOLawsO`), so every operation refines its L2 operation by
`stepM_ref_of`; the off-loading calls change nothing after `reload` (node filters of the container may be off-loaded or
dropped, which C10 `node_filter_sup_offload` allows), so the L2 state is that of the history without them.
-/
namespace Pearl.E2E
open Pearl Pearl.BPTree Pearl.Container

/-- off-loading is invisible to the abstraction: every operation with off-loading keeps `CInvO`, and the L2 state
    moves by the L2 operation (not at all for the off-loading calls) -/
theorem refinement_offload {cfg : Cfg} (hcfg : cfg.OK) (c : CState) (hinv : CInvO cfg c)
    (hmeta : StoreMetaOK (c.abs cfg)) (op : OOp) (hop : op.OK cfg)
    (hsz : StoreSized cfg.klen (op.applyAbs (c.abs cfg))) :
    (c.stepO cfg op).abs cfg = op.applyAbs (c.abs cfg) ∧ CInvO cfg (c.stepO cfg op) ∧
      StoreMetaOK ((c.stepO cfg op).abs cfg) :=
  stepO_ref hcfg hinv hmeta op hop hsz

theorem refinement_offload_run {cfg : Cfg} (hcfg : cfg.OK) (ops : List OOp) (hops : ∀ op ∈ ops, op.OK cfg)
    (hsz : StoreSized cfg.klen ((Store.init cfg.allowDup).run ((OOp.erase ops).map MOp.abs))) :
    ((CState.init cfg).runO cfg ops).abs cfg = (Store.init cfg.allowDup).run ((OOp.erase ops).map MOp.abs) ∧
      CInvO cfg ((CState.init cfg).runO cfg ops) :=
  ⟨(runO_ref hcfg ops hops hsz).1, (runO_ref hcfg ops hops hsz).2.1⟩

/-- in any state satisfying `CInvO`, every read of the structured storage answers as on the reloaded state, and the
    byte-level storage answers as the structured one (the off-loaded filters being probed in the bytes of the index
    files) -/
theorem offload_reads_of_inv {cfg : Cfg} {sha : List Nat → List Nat} (hB : BytesOK cfg sha) (c : CState)
    (hinv : CInvO cfg c) (hsz : StoreIdxSized cfg (c.abs cfg)) (k : Key) :
    (∀ m, c.readWithOpt cfg k m = (c.reload cfg).readWithOpt cfg k m) ∧
    (∀ m, c.containsWith cfg k m = (c.reload cfg).containsWith cfg k m) ∧
    c.readAllMarked cfg k = (c.reload cfg).readAllMarked cfg k ∧ c.readAll cfg k = (c.reload cfg).readAll cfg k ∧
    (∀ m, (c.toB sha).readWithOpt cfg k m = c.readWithOpt cfg k m) ∧
    (∀ m, (c.toB sha).containsWith cfg k m = c.containsWith cfg k m) ∧
    (c.toB sha).readAllMarked cfg k = c.readAllMarked cfg k ∧ (c.toB sha).readAll cfg k = c.readAll cfg k := by
  have hg := goodB_of_store hB hinv hsz
  exact ⟨fun m => (readWithOpt_reload hinv k m).symm, fun m => (containsWith_reload hinv k m).symm,
    (readAllMarked_reload cfg c k).symm, (readAll_reload cfg c k).symm,
    fun m => readWithOpt_toB_good hg k m, fun m => containsWith_toB_good hg k m,
    readAllMarked_toB_good hg k, readAll_toB_good hg k⟩

/-- **`end_to_end_offload_transparent`**: for every history of operations (with metadata) with off-loading calls —
    `offloadBlob`, `offloadBuffer needed level` — interleaved anywhere, on the byte-level storage (dumped indexes held
    as the bytes of their files, off-loaded bloom filters probed with `read_meta_at` on those bytes):

    * the byte-level run is the translation of the structured run;
    * NO ANSWER CHANGES: `read` / `read_with`, `contains` / `contains_with`, `read_all_with_deletion_marker`, `read_all`
      answer as after the same history WITHOUT the off-loading calls (`SameAnswers`);
    * hence they are the answers of the specification for the history without the off-loading calls. -/
theorem end_to_end_offload_transparent {cfg : Cfg} {sha : List Nat → List Nat} (hB : BytesOK cfg sha)
    (ops : List OOp) (hops : ∀ op ∈ ops, op.OK cfg)
    (hsz : StoreIdxSized cfg ((Store.init cfg.allowDup).run ((OOp.erase ops).map MOp.abs))) :
    let b := (BState.init cfg).runBO cfg sha ops
    let b0 := (BState.init cfg).runB cfg sha (OOp.erase ops)
    let h := ((Store.init cfg.allowDup).run ((OOp.erase ops).map MOp.abs)).history
    b = ((CState.init cfg).runO cfg ops).toB sha ∧
    SameAnswers cfg b0 b ∧
    ∀ k,
      b.readWithOpt cfg k none = .ok ((Spec.latest h k).map (fun p => dataOf p.r.data)) ∧
      b.containsWith cfg k none = .ok ((Spec.latest h k).map (·.r.ts)) ∧
      (∀ m, MetaOK m →
        b.readWithOpt cfg k (some m) = .ok ((Spec.readWith h k m).map (fun p => dataOf p.r.data)) ∧
        b.containsWith cfg k (some m) = .ok ((Spec.readWith h k m).map (·.r.ts))) ∧
      (∃ es, b.readAllMarked cfg k = .ok es ∧ es.map entryView = (Spec.allCut h k).map (fun p => recView p.r)) ∧
      (∃ es, b.readAll cfg k = .ok es ∧ es.map entryView = (Spec.allLive h k).map (fun p => recView p.r)) := by
  intro b b0 h
  have hb : b = ((CState.init cfg).runO cfg ops).toB sha := runBO_eq hB ops hops hsz
  have hops0 := erase_ok hops
  obtain ⟨hb0, habs0, hinv0, hmeta0⟩ : b0 = _ ∧ _ := runB_ref hB _ hops0 hsz
  obtain ⟨habs, hinv, hmeta⟩ := runO_ref hB.ok ops hops hsz.toStoreSized
  have hsame : SameAnswers cfg b0 b := by
    rw [hb, hb0]
    exact sameAnswers_of_abs hB hinv0.toCInvO hinv hmeta0 (habs0 ▸ hsz) (habs.trans habs0.symm)
  exact ⟨hb, hsame, fun k => hsame.specAnswers (end_to_end_read_bytes_inputs hB (OOp.erase ops) hops0 hsz k).2.2.2.2⟩

/-- the same on the structured storage (index files as `IndexFile`, `read_meta_at` = `metaReadByte`) -/
theorem end_to_end_offload_transparent_structured {cfg : Cfg} (hcfg : cfg.OK) (ops : List OOp)
    (hops : ∀ op ∈ ops, op.OK cfg)
    (hsz : StoreSized cfg.klen ((Store.init cfg.allowDup).run ((OOp.erase ops).map MOp.abs))) (k : Key) :
    let c := (CState.init cfg).runO cfg ops
    let c0 := (CState.init cfg).runM cfg (OOp.erase ops)
    (∀ m, (∀ x, m = some x → MetaOK x) → c.readWithOpt cfg k m = c0.readWithOpt cfg k m) ∧
    (∀ m, (∀ x, m = some x → MetaOK x) → c.containsWith cfg k m = c0.containsWith cfg k m) := by
  intro c c0
  obtain ⟨habs, hinv, hmeta⟩ := runO_ref hcfg ops hops hsz
  obtain ⟨habs0, hinv0, hmeta0⟩ := runM_ref hcfg (OOp.erase ops) (erase_ok hops) hsz
  have hmeta' : StoreMetaOK ((c.reload cfg).abs cfg) := by rw [reload_abs]; exact hmeta
  refine ⟨fun m hm => ?_, fun m hm => ?_⟩
  · rw [← readWithOpt_reload hinv, readWithOpt_eq hcfg hinv.inv hmeta' k m hm,
      readWithOpt_eq hcfg hinv0 hmeta0 k m hm, reload_abs, habs, habs0]
  · rw [← containsWith_reload hinv, containsWith_eq hcfg hinv.inv hmeta' k m hm,
      containsWith_eq hcfg hinv0 hmeta0 k m hm, reload_abs, habs, habs0]

/-- **start-up with index files after a history with off-loading**: the start-up does not look at the filters held
    in memory; so from the state after ANY history with off-loading calls, and for every directory of absent / current
    / stale / rejected index files, `restartWithIndexes` behaves as `end_to_end_restart_with_indexes` says, the storage
    it returns is the translation of a state satisfying `CInv` (nothing off-loaded: the filters were re-read from the
    index files or recomputed), and it is the state reached by the history `ops ++ [restart lazy]` — so any further
    history, with further off-loading, is covered by `end_to_end_offload_transparent` again -/
theorem end_to_end_offload_then_restart_with_indexes {cfg : Cfg} {sha : List Nat → List Nat} (hB : BytesOK cfg sha)
    (ops : List OOp) (hops : ∀ op ∈ ops, op.OK cfg)
    (hsz : StoreIdxSized cfg ((Store.init cfg.allowDup).run ((OOp.erase ops).map MOp.abs)))
    (dir : Nat → Option (List Nat))
    (hdir : ∀ x ∈ ((Store.init cfg.allowDup).run ((OOp.erase ops).map MOp.abs)).blobs,
      IdxChoice cfg sha x.recs (dir x.id))
    (lazy : Bool) :
    let b := (BState.init cfg).runBO cfg sha ops
    let s := (Store.init cfg.allowDup).run ((OOp.erase ops).map MOp.abs)
    (b.restartWithIndexes cfg sha dir lazy = none ↔ ∃ x ∈ s.blobs, x.recs = [] ∧ (dir x.id).isSome = true) ∧
    ∀ b', b.restartWithIndexes cfg sha dir lazy = some b' →
      b' = b.restart cfg sha lazy ∧ b' = (BState.init cfg).runBO cfg sha (ops ++ [.op (.restart lazy)]) ∧
      SameAnswers cfg b b' := by
  intro b s
  have hb : b = ((CState.init cfg).runO cfg ops).toB sha := runBO_eq hB ops hops hsz
  obtain ⟨habs, hinv, hmeta⟩ := runO_ref hB.ok ops hops hsz.toStoreSized
  obtain ⟨h1, h2⟩ := restartWithIndexes_of_invO hB hinv hmeta (habs ▸ run_blobs_ne_nil _ _) (habs ▸ hsz) dir
    (dirChoice_of_abs (habs ▸ hdir)) lazy
  rw [hb]
  refine ⟨by rw [h1, indexBesideEmpty_iff cfg, habs], fun b' hb' => ?_⟩
  obtain ⟨e1, _, _, e4⟩ := h2 b' hb'
  refine ⟨e1, ?_, e4⟩
  rw [e1]
  show _ = List.foldl _ _ _
  rw [List.foldl_append]
  show _ = ((BState.init cfg).runBO cfg sha ops).stepBO cfg sha (.op (.restart lazy))
  rw [runBO_eq hB ops hops hsz]
  rfl

/-- **the filters re-read at start-up probe the same bits**: for a blob of a state reached by any history (with
    off-loading), the index file dumped for its records is accepted at start-up with the filter of the blob and the
    `bloom_offset = 8 + |range filter|` that `serialize_filters` computed (`deserialize_filters` recomputes it from
    the 8-byte length prefix), and when the re-read filter is off-loaded, the probes `read_meta_at(i + bloom_offset)`
    on the BYTES of the file answer, for every key, exactly as the resident filter -/
theorem reread_filters_probe_same_bits {cfg : Cfg} {sha : List Nat → List Nat} (hB : BytesOK cfg sha)
    (ops : List OOp) (hops : ∀ op ∈ ops, op.OK cfg)
    (hsz : StoreIdxSized cfg ((Store.init cfg.allowDup).run ((OOp.erase ops).map MOp.abs)))
    (x : Blob) (hx : x ∈ ((Store.init cfg.allowDup).run ((OOp.erase ops).map MOp.abs)).blobs) (hne : x.recs ≠ []) :
    ∃ mb off img, serializeFilters cfg.klen (filterOf cfg x.recs) = some (mb, off) ∧
      dumpedImage cfg sha x.recs = some img ∧
      openIndex cfg (blobFileLen cfg x.recs) img = .accepted (filterOf cfg x.recs) off ∧
      ∀ k, ({ id := x.id, file := blobBytes cfg.klen (full x.recs), index := .disk img off,
              filter := (filterOf cfg x.recs).offload.1 } : BBlob).checkFilter cfg k
            = (filterOf cfg x.recs).containsFast cfg.h k := by
  obtain ⟨habs, hinv, _⟩ := runO_ref hB.ok ops hops hsz.toStoreSized
  rw [← habs, abs_blobs] at hx
  obtain ⟨b, hb, rfl⟩ := List.mem_map.mp hx
  -- `b.reload cfg` has the id, the file and the records of `b`
  have hR : BlobInv cfg (b.reload cfg) := hinv.blobInv hb
  have hfile : b.file = blobBytes cfg.klen (full b.ghost) := hR.file
  have hok : RecsOK cfg b.ghost := hR.recsOK
  have hne : b.ghost ≠ [] := hne
  obtain ⟨mb, off, hs⟩ := serializeFilters_filterOf cfg b.ghost
  obtain ⟨p1, p2⟩ := reread_filter_probes (sha := sha) hB hR hne (hsz b.abs (habs ▸ mem_abs_blobs cfg hb)) hs
  refine ⟨mb, off, imageRecs cfg sha b.ghost mb, hs, ?_, ?_, fun k => ?_⟩
  · exact (dumpedImage_eq sha hok).trans (by rw [if_neg hne, hs]; rfl)
  · exact (show b.file.length = blobFileLen cfg b.ghost by rw [blobFileLen_eq hok, hfile]) ▸ p1
  · exact hfile ▸ p2 k

/-! ## the storage WITH its directory of index files

`runD` (`Pearl/Model/EndToEndStart.lean`) runs a history on the byte-level storage together with the directory of index
files it leaves (`dirAfter`: a dump writes the file of the blob, nothing else touches one), and every `restart` of the
history is the REAL start-up `restartWithIndexes` on the files that are there. -/

/-- **`end_to_end_real_directory`**: for every history from the empty directory, with off-loading calls and restarts
    anywhere: the index files the history leaves are, for every blob, absent, current or stale (never next to a blob
    without records), so every start-up that reads them reaches the storage of the start-up that regenerates every
    index: `runD` and `runBO` reach the SAME storage — whose answers are those of the specification
    (`end_to_end_offload_transparent`) -/
theorem end_to_end_real_directory {cfg : Cfg} {sha : List Nat → List Nat} (hB : BytesOK cfg sha)
    (ops : List OOp) (hops : ∀ op ∈ ops, op.OK cfg)
    (hsz : StoreIdxSized cfg ((Store.init cfg.allowDup).run ((OOp.erase ops).map MOp.abs))) :
    ∃ dir', runD cfg sha (BState.init cfg, fun _ => none) ops = ((BState.init cfg).runBO cfg sha ops, dir') ∧
      (∀ x ∈ ((Store.init cfg.allowDup).run ((OOp.erase ops).map MOp.abs)).blobs,
        IdxChoice cfg sha x.recs (dir' x.id) ∧ (x.recs = [] → dir' x.id = none) ∧
        (x.onDisk = true → dir' x.id = dumpedImage cfg sha x.recs)) ∧
      (∀ id, (∀ x ∈ ((Store.init cfg.allowDup).run ((OOp.erase ops).map MOp.abs)).blobs, x.id ≠ id) →
        dir' id = none) := by
  obtain ⟨dir', h1, h2⟩ := runD_eq hB ops hops hsz
  exact ⟨dir', h1, fun x hx => ⟨(h2.blob x hx).choice, (h2.blob x hx).empty, fun hd => ((h2.blob x hx).1 hd).2⟩,
    h2.free⟩

/-! ## non-vacuity: off-loading, and the directory a history leaves -/

namespace DemoO

theorem ops_ok : ∀ op ∈ ops, op.OK Demo.cfg := by decide

theorem store_idx_sized :
    StoreIdxSized Demo.cfg ((Store.init Demo.cfg.allowDup).run ((OOp.erase ops).map MOp.abs)) :=
  (storeIdxSized_iff _ _).mpr (by decide)

end DemoO

-- evaluated: `offload_buffer(1000, 1)` frees 32 bytes (16 of blob 0, 16 of the root node); afterwards the bloom filter of
-- blob 0 is off-loaded and holds no memory, so is the filter of the root node
set_option maxRecDepth 1000000 in
example : (DemoO.s4.offloadBuffer Demo.cfg 1000 1).2 = 32 ∧ (DemoO.s4.offloadBuffer Demo.cfg 1000 0).2 = 16 ∧
    DemoO.s4.blobs.map (fun b => (b.id, b.index.onDisk, b.filter.isOffloaded, b.filter.memoryAllocated))
      = [(0, true, false, 16)] ∧
    DemoO.s.blobs.map (fun b => (b.id, b.index.onDisk, b.filter.isOffloaded, b.filter.memoryAllocated))
      = [(0, true, true, 0), (1, false, false, 16)] ∧
    DemoO.nodesOffloaded DemoO.s4 = [some false, none] ∧ DemoO.nodesOffloaded DemoO.s = [some true, none] :=
  DemoO.offloading.1.elim

-- evaluated: the off-loaded filter of blob 0 still PRUNES — key 3 lies inside its range [1, 5] and the probe of the
-- bytes of the index file answers `NotContains`, keys 1 and 5 pass; the reads find every record (they are those of
-- the L2 store)
set_option maxRecDepth 1000000 in
example : (DemoO.s.blobs.head?.map (fun b => (b.checkFilter Demo.cfg 1, b.checkFilter Demo.cfg 3, b.checkFilter Demo.cfg 5)))
      = some (.needAdditionalCheck, .notContains, .needAdditionalCheck) ∧
    DemoO.s.readWithOpt Demo.cfg 1 none = .ok (.found [1, 47]) ∧
    DemoO.s.readWithOpt Demo.cfg 5 (some (some [4])) = .ok (.found [2]) ∧
    DemoO.s.readWithOpt Demo.cfg 3 none = .ok (.found [9]) ∧
    DemoO.s.readWithOpt Demo.cfg 4 none = .ok .notFound := by
  obtain ⟨habs, hinv, hmeta⟩ := runO_ref Demo.cfg_ok DemoO.ops DemoO.ops_ok DemoO.store_idx_sized.toStoreSized
  have hb : DemoO.s = _ := runBO_eq DemoB.ok DemoO.ops DemoO.ops_ok DemoO.store_idx_sized
  -- the reads are those of the L2 store of the history without the off-loading calls
  have hl := fun k => (l2Answers_of_good DemoB.ok hinv hmeta
    (goodB_of_store DemoB.ok hinv (habs ▸ DemoO.store_idx_sized)) k).1
  refine ⟨DemoO.offloading.2.1.elim, ?_⟩
  rw [hb, hl 1 none nofun, hl 5 (some (some [4])) (by decide), hl 3 none nofun, hl 4 none nofun, habs]
  decide +kernel

example (k : Key) (m : Meta) (hm : MetaOK m) :
    DemoO.s.readWithOpt Demo.cfg k (some m) =
      ((BState.init Demo.cfg).runB Demo.cfg DemoB.sha (OOp.erase DemoO.ops)).readWithOpt Demo.cfg k (some m) :=
  (((end_to_end_offload_transparent DemoB.ok DemoO.ops DemoO.ops_ok DemoO.store_idx_sized).2.1 k).1 (some m)
    (metaOK_some hm))

example (k : Key) : DemoO.s.readWithOpt Demo.cfg k none =
    .ok ((Spec.latest ((Store.init true).run ((OOp.erase DemoO.ops).map MOp.abs)).history k).map
      (fun p => dataOf p.r.data)) :=
  ((end_to_end_offload_transparent DemoB.ok DemoO.ops DemoO.ops_ok DemoO.store_idx_sized).2.2 k).1

example : CInvO Demo.cfg ((CState.init Demo.cfg).runO Demo.cfg DemoO.ops) :=
  (refinement_offload_run Demo.cfg_ok DemoO.ops DemoO.ops_ok DemoO.store_idx_sized.toStoreSized).2

-- evaluated: start-up WITH the index file of blob 0 after the off-loading: the filter is re-read from the file (nothing
-- is off-loaded any more); it is off-loaded again and still answers
set_option maxRecDepth 1000000 in
example :
    let dir : Nat → Option (List Nat) := fun i =>
      if i = 0 then dumpedImage Demo.cfg DemoB.sha [⟨1, 5, false, none, ⟨2, 1⟩⟩, ⟨5, 6, false, some [4], ⟨1, 2⟩⟩] else none
    (DemoO.s.restartWithIndexes Demo.cfg DemoB.sha dir true).map
      (fun b => (b.blobs.map (fun x => (x.id, x.index.onDisk, x.filter.isOffloaded)),
        (b.offloadBuffer Demo.cfg 1000 1).1.readWithOpt Demo.cfg 5 (some (some [4]))))
      = some ([(0, true, false), (1, true, false)], .ok (.found [2])) :=
  DemoO.offloading.2.2.elim

/-- **the `bloom_offset` matters** (the 8-byte length prefix of the range filter): blob 0 of `DemoO` on the structured
    storage, filter off-loaded.  Probing at `bloom_offset` passes keys 1 and 5; probing 8 bytes too early
    (`bloom_offset` without the length prefix) or 8 bytes too late answers `NotContains` for keys the blob HOLDS — a
    lost record.  So `deserialize_filters` must return exactly `8 + range_size`, which is what
    `openIndex_current` / `reread_filters_probe_same_bits` prove it does. -/
theorem bloom_offset_matters :
    (((CState.init Demo.cfg).runO Demo.cfg DemoO.ops).blobs.head?.map (fun b =>
      match b.index with
      | .disk _ mb off =>
        (off, b.filter.isOffloaded,
          [b.filter.contains Demo.cfg.h (metaReadByte mb off) 1, b.filter.contains Demo.cfg.h (metaReadByte mb off) 5,
           b.filter.contains Demo.cfg.h (metaReadByte mb (off - 8)) 1,
           b.filter.contains Demo.cfg.h (metaReadByte mb (off - 8)) 5,
           b.filter.contains Demo.cfg.h (metaReadByte mb (off + 8)) 1])
      | .mem _ => (0, false, [])))
    = some (27, true, [.needAdditionalCheck, .needAdditionalCheck, .notContains, .notContains, .notContains]) := by
  decide +kernel

-- the directory, evaluated on `DemoM.ops` (blob 0 dumped after three records, then re-loaded by a delete that appends a
-- marker): the file of blob 0 is the STALE image; after a (real) restart it is the current one; nothing lies next to
-- the active blob; and the storage is the one of the model
set_option maxRecDepth 1000000 in
example :
    let ops : List OOp := DemoM.ops.map OOp.op
    let st := runD Demo.cfg DemoB.sha (BState.init Demo.cfg, fun _ => none) ops
    let st' := runD Demo.cfg DemoB.sha (BState.init Demo.cfg, fun _ => none) (ops ++ [.op (.restart false)])
    st.2 0 = dumpedImage Demo.cfg DemoB.sha (DemoS.recs0.take 3) ∧ (st.2 0).isSome = true ∧ st.2 1 = none ∧
    st.1.blobs.map (fun b => (b.id, b.index.onDisk)) = [(0, false), (1, false)] ∧
    st'.2 0 = dumpedImage Demo.cfg DemoB.sha DemoS.recs0 ∧ st'.2 0 ≠ st.2 0 ∧ st'.2 1 = none ∧
    st'.1.blobs.map (fun b => (b.id, b.index.onDisk)) = [(0, true), (1, false)] ∧
    st'.1.readWithOpt Demo.cfg 2 none = .ok (.deleted 9) :=
  DemoS.startups.2.1

example : ∃ dir', runD Demo.cfg DemoB.sha (BState.init Demo.cfg, fun _ => none) DemoO.ops = (DemoO.s, dir') :=
  let ⟨d, h, _⟩ := end_to_end_real_directory DemoB.ok DemoO.ops DemoO.ops_ok DemoO.store_idx_sized
  ⟨d, h⟩

end Pearl.E2E

#print axioms Pearl.E2E.end_to_end_real_directory
#print axioms Pearl.E2E.bloom_offset_matters
#print axioms Pearl.E2E.refinement_offload
#print axioms Pearl.E2E.refinement_offload_run
#print axioms Pearl.E2E.offload_reads_of_inv
#print axioms Pearl.E2E.end_to_end_offload_transparent
#print axioms Pearl.E2E.end_to_end_offload_transparent_structured
#print axioms Pearl.E2E.end_to_end_offload_then_restart_with_indexes
#print axioms Pearl.E2E.reread_filters_probe_same_bits

/-! # Sessions with DIFFERENT bloom configurations on one directory (C10 / C17)

Model: `Pearl/Model/EndToEndCfg.lean` (`XState`: the storage with the configuration of the running session;
`restartWith bloom lazy`: close + `init` under a configuration that differs in `bloom_config`: other element count,
hasher count, bit count, or no bloom filter; index files are kept and their filters read back WITH THE GEOMETRY THEY
WERE WRITTEN WITH, other blobs are regenerated with a filter of the new configuration, the container is rebuilt with
`push` = `merge_filters`).

The invariant (`MC.CInvC` over `MC.BlobInvC`) is the invariant `CInv` with the equation `b.filter = filterOf cfg b.ghost`
replaced by the properties C10 needs of a filter — well-formed, covering every key of the blob, resident — for ANY
geometry; it does not mention the bloom configuration (`MC.CInvC.withBloom`), and `CInv` is an instance
(`MC.CInvC.ofCInv`). -/
namespace Pearl.E2E
open Pearl Pearl.BPTree Pearl.Container

/-- refinement along every history of sessions: the L2 history (a `restartWith` is the L2 `restart`) and the
    invariant under the configuration running at the end -/
theorem refinement_cfgs {cfg : Cfg} (hcfg : cfg.OK) (ops : List XOp) (hops : ∀ op ∈ ops, op.OK cfg)
    (hsz : StoreSized cfg.klen ((Store.init cfg.allowDup).run (ops.map XOp.abs))) :
    ((XState.init cfg).run ops).abs = (Store.init cfg.allowDup).run (ops.map XOp.abs) ∧
      MC.CInvC ((XState.init cfg).run ops).cfg ((XState.init cfg).run ops).st ∧
      ((XState.init cfg).run ops).cfg = cfg.withBloom (((XOp.blooms ops).getLast?).getD cfg.bloom) := by
  obtain ⟨h1, h2⟩ := MC.xrun_ref hcfg ops hops hsz
  exact ⟨h1, h2.inv, MC.xrun_cfg cfg ops (XState.init cfg) ⟨cfg.bloom, rfl⟩⟩

theorem read_of_inv_cfgs {cfg : Cfg} (hcfg : cfg.OK) (c : CState) (hinv : MC.CInvC cfg c) (k : Key) :
    c.read cfg k = .ok ((Spec.latest (c.abs cfg).history k).map (fun p => dataOf p.r.data)) ∧
    c.contains cfg k = .ok ((Spec.latest (c.abs cfg).history k).map (·.r.ts)) := by
  refine ⟨?_, ?_⟩
  · rw [MC.read_eq hcfg hinv k, read_eq_spec hinv.wf k, ReadResult.map_map]
  · rw [MC.contains_eq hcfg hinv k, contains_eq_spec hinv.wf k]

/-- **`end_to_end_read_cfgs`**: for every history from the empty storage with ANY number of `restartWith` steps —
    any sequence of bloom configurations, including bloom off / on — and every key, the concrete read of the running
    session (active blob, `iter_possible_childs_rev` with the node filters the start-ups merged, per blob
    `check_filter` with the filter the blob has — of whatever geometry —, index look-up, `Entry::load`) returns
    without error exactly what `Spec.latest` of the L2 history says. -/
theorem end_to_end_read_cfgs {cfg : Cfg} (hcfg : cfg.OK) (ops : List XOp) (hops : ∀ op ∈ ops, op.OK cfg)
    (hsz : StoreSized cfg.klen ((Store.init cfg.allowDup).run (ops.map XOp.abs))) (k : Key) :
    ((XState.init cfg).run ops).read k =
      .ok ((Spec.latest ((Store.init cfg.allowDup).run (ops.map XOp.abs)).history k).map
        (fun p => dataOf p.r.data)) ∧
    ((XState.init cfg).run ops).contains k =
      .ok ((Spec.latest ((Store.init cfg.allowDup).run (ops.map XOp.abs)).history k).map (·.r.ts)) := by
  obtain ⟨habs, hx⟩ := MC.xrun_ref hcfg ops hops hsz
  have := read_of_inv_cfgs hx.ok _ hx.inv k
  unfold XState.abs at habs
  rw [habs] at this
  exact this

theorem end_to_end_read_cfgs_cases {cfg : Cfg} (hcfg : cfg.OK) (ops : List XOp) (hops : ∀ op ∈ ops, op.OK cfg)
    (hsz : StoreSized cfg.klen ((Store.init cfg.allowDup).run (ops.map XOp.abs))) (k : Key) :
    let h := ((Store.init cfg.allowDup).run (ops.map XOp.abs)).history
    (∀ p, Spec.latest h k = .found p → ((XState.init cfg).run ops).read k = .ok (.found (dataOf p.r.data))) ∧
    (∀ ts, Spec.latest h k = .deleted ts → ((XState.init cfg).run ops).read k = .ok (.deleted ts)) ∧
    (Spec.latest h k = .notFound → ((XState.init cfg).run ops).read k = .ok .notFound) := by
  intro h
  have := (end_to_end_read_cfgs hcfg ops hops hsz k).1
  refine ⟨fun p hp => ?_, fun ts hp => ?_, fun hp => ?_⟩ <;> rw [this, hp] <;> rfl

theorem restart_with_config_of_inv {cfg : Cfg} (hcfg : cfg.OK) (c : CState) (hinv : MC.CInvC cfg c)
    (bloom : Option (BloomConfig × Nat)) (hbl : BloomOK bloom) (lazy : Bool) (k : Key) :
    (c.restartWith (cfg.withBloom bloom) lazy).read (cfg.withBloom bloom) k = c.read cfg k ∧
    (c.restartWith (cfg.withBloom bloom) lazy).contains (cfg.withBloom bloom) k = c.contains cfg k ∧
    MC.CInvC (cfg.withBloom bloom) (c.restartWith (cfg.withBloom bloom) lazy) := by
  have hok' := hcfg.withBloom hbl
  obtain ⟨habs, hinv'⟩ := MC.restartWith_ref hok' (hinv.withBloom bloom) lazy
  have hans := restart_answers hinv.wf lazy k
  have habs' : (c.restartWith (cfg.withBloom bloom) lazy).abs (cfg.withBloom bloom) = (c.abs cfg).restart lazy := habs
  refine ⟨?_, ?_, hinv'⟩
  · rw [MC.read_eq hok' hinv' k, MC.read_eq hcfg hinv k, habs', hans.1]
  · rw [MC.contains_eq hok' hinv' k, MC.contains_eq hcfg hinv k, habs', hans.2.2.1]

/-- **`no_false_negative_across_configs`**: after every history with any number of `restartWith` steps, every
    stored key of every blob (`ghost` = the records of the blob in the L2 history, first conjunct) passes every filter
    consulted on its path: the blob's own `check_filter` (whatever geometry its filter has), and the filter of every
    inner node of the container below which the blob hangs (`None` passes) — so `iter_possible_childs_rev(key)` as
    written yields the blob and the read path consults it. -/
theorem no_false_negative_across_configs {cfg : Cfg} (hcfg : cfg.OK) (ops : List XOp) (hops : ∀ op ∈ ops, op.OK cfg)
    (hsz : StoreSized cfg.klen ((Store.init cfg.allowDup).run (ops.map XOp.abs))) :
    let x := (XState.init cfg).run ops
    ((Store.init cfg.allowDup).run (ops.map XOp.abs)).blobs = x.st.blobs.map CBlob.abs ∧
    (∀ b ∈ x.st.blobs, ∀ r ∈ b.ghost, b.checkFilter x.cfg r.key ≠ .notContains) ∧
    (∀ j lf, x.st.cont.getChild j = some lf → ∀ r ∈ lf.data.ghost,
      (∀ id nd, x.st.cont.getInner id = some (.node nd) →
        j ∈ Container.leavesBelow x.st.cont (x.st.cont.inner.length + 2) id →
        (fops x.cfg).coversOpt nd.filter r.key) ∧
      j ∈ Container.iterPossibleStack (fops x.cfg) x.st.cont true r.key ∧
      lf.data ∈ x.st.consulted x.cfg r.key) := by
  intro x
  obtain ⟨habs, hx⟩ := MC.xrun_ref hcfg ops hops hsz
  have hinv : MC.CInvC x.cfg x.st := hx.inv
  refine ⟨?_, ?_, ?_⟩
  · rw [← habs]; exact abs_blobs x.cfg x.st
  · intro b hb r hr
    exact (CInvG.blobInv hinv hb).checkFilter_no_fn r.key ⟨r, hr, rfl⟩
  · intro j lf hlf r hr
    obtain ⟨g, hci, hcov⟩ := hinv.cont
    have hc := hcov j lf.data (getChild_some_slots hlf) r hr
    have hj := (C10.possible_rev_complete_stack x.st.cont g r.key hci).2.2.2 j lf hlf hc
    refine ⟨?_, hj, ?_⟩
    · intro id nd hn hbelow
      exact Container.node_filter_sup_arena x.st.cont g hci id nd hn j hbelow r.key hc
    · unfold CState.consulted
      apply List.mem_append_right
      exact List.mem_filterMap.mpr ⟨j, hj, by rw [hlf]; rfl⟩

/-- **the merge rule** of `Bloom::checked_add_assign` (the model function is `Bloom.merge` of `Filter.lean`, which has
    the guard of the code — no finding): the merge succeeds ONLY for equal hasher count AND equal bit count AND
    neither side off-loaded; a refused merge leaves `self` untouched; the empty bloom (`bits_count = 0`) merges only
    with an empty bloom. -/
theorem bloom_merge_rule (b o : Bloom) (hb : b.WF) (ho : o.WF) :
    ((b.merge o).2 = true ↔ b.k = o.k ∧ b.bits = o.bits ∧ b.isOffloaded = false ∧ o.isOffloaded = false) ∧
    ((b.merge o).2 = false → (b.merge o).1 = b) ∧
    (b.bits = 0 → (b.merge o).2 = true → o.bits = 0) ∧
    (o.bits = 0 → (b.merge o).2 = true → b.bits = 0) :=
  ⟨MC.bloom_merge_succeeds_iff b o hb ho, MC.bloom_merge_refused b o,
    fun hz hm => ((MC.bloom_merge_succeeds_iff b o hb ho).mp hm).2.1 ▸ hz,
    fun hz hm => ((MC.bloom_merge_succeeds_iff b o hb ho).mp hm).2.1.symm ▸ hz⟩

/-- … and of `Inner::merge_filters` over `CombinedFilter::checked_add_assign`: the node filter stays `Some` exactly
    when both filters are there and their bloom parts are both absent or merge by the rule above; **in every other
    case the node becomes `None`** (and then passes every key) — never the stale filter. -/
theorem merge_filters_rule (h : Nat → Key → Nat) (dest source : Option Combined)
    (hd : ∀ d, dest = some d → d.WF) (hs : ∀ s, source = some s → s.WF) :
    ((Container.mergeFilters (combinedOps h) dest source).isSome = true ↔
      ∃ d s, dest = some d ∧ source = some s ∧
        ((d.bloom = none ∧ s.bloom = none) ∨
          ∃ x y, d.bloom = some x ∧ s.bloom = some y ∧
            x.k = y.k ∧ x.bits = y.bits ∧ x.isOffloaded = false ∧ y.isOffloaded = false)) ∧
    (∀ k, (combinedOps h).coversOpt (none : Option Combined) k) := by
  refine ⟨(MC.mergeFilters_isSome_iff h dest source).trans ?_, fun _ => trivial⟩
  -- the two sides differ in the condition on the bloom parts only; for well-formed blooms `Mergeable` is the rule
  exact exists_congr fun d => exists_congr fun s => and_congr_right fun hd' => and_congr_right fun hs' =>
    or_congr_right <| exists_congr fun x => exists_congr fun y => and_congr_right fun hx => and_congr_right fun hy =>
      (MC.bloom_merge_true_iff x y).symm.trans
        (MC.bloom_merge_succeeds_iff x y ((hd d hd').2 x hx) ((hs s hs').2 y hy))

/-- what makes the rule sufficient: a merge that succeeds covers what either side covered, a refused one yields
    `None` (the `FilterLaws` instance the container proofs of C10 are run with) -/
theorem merge_filters_sound (h : Nat → Key → Nat) (d s : Option Combined) (hd : ∀ x, d = some x → x.WF)
    (hs : ∀ x, s = some x → x.WF) (k : Key)
    (hk : (combinedOps h).coversOpt d k ∨ (combinedOps h).coversOpt s k) :
    (combinedOps h).coversOpt (Container.mergeFilters (combinedOps h) d s) k :=
  Container.mergeFilters_sup (combinedLaws h) d s hd hs k hk

namespace DemoX

theorem ops_ok : ∀ op ∈ ops, op.OK Demo.cfg := by decide

theorem ops_sized : StoreSized Demo.cfg.klen ((Store.init Demo.cfg.allowDup).run (ops.map XOp.abs)) :=
  (storeSized_iff _ _).mpr (by decide)

end DemoX

-- the blobs of the last session: three geometries side by side; blob 1 keeps the 3-hasher filter of its index file,
-- blob 0 the one with 2 hashers / 100 bits (the delete of key 2 loaded its index again, with the filter of the
-- file), blob 2 was written by the bloom-less session (the empty bloom in its file) and, being the last blob of a
-- non-lazy start-up, became the active one: `load_index` read the EMPTY bloom back
set_option maxRecDepth 1000000 in
example : DemoX.x.st.blobs.map (fun b => (b.id, b.index.onDisk, DemoX.geom b.filter))
    = [(0, false, some (2, 100)), (1, true, some (3, 64)), (2, false, some (0, 0))] ∧
    DemoX.x.cfg.bloom = some (⟨10, 2, 100, 1, 0⟩, 100) := DemoX.last_session.1.elim

-- the node filter above blobs 0 and 1: the merge was refused (2 ≠ 3 hashers), so it is `None`
set_option maxRecDepth 1000000 in
example : (DemoX.x.st.cont.inner.filterMap (fun o => match o with
      | some (.node n) => some (n.filter.map DemoX.geom)
      | _ => none)) = [none, none] := DemoX.last_session.2.1.elim

-- the reads (those of the L2 store, which is evaluated): every key written in any session is found, key 2 is deleted,
-- key 6 is absent
set_option maxRecDepth 1000000 in
example : DemoX.x.read 1 = .ok (.found (dataOf ⟨2, 1⟩)) ∧ DemoX.x.read 3 = .ok (.found (dataOf ⟨1, 3⟩)) ∧
    DemoX.x.read 4 = .ok (.found (dataOf ⟨1, 4⟩)) ∧ DemoX.x.read 5 = .ok (.found (dataOf ⟨1, 5⟩)) ∧
    DemoX.x.read 2 = .ok (.deleted 10) ∧ DemoX.x.read 6 = .ok .notFound := by
  obtain ⟨habs, hx⟩ : DemoX.x.st.abs DemoX.x.cfg = _ ∧ MC.XInv Demo.cfg DemoX.x :=
    MC.xrun_ref Demo.cfg_ok DemoX.ops DemoX.ops_ok DemoX.ops_sized
  simp only [XState.read, MC.read_eq hx.ok hx.inv, habs]
  decide +kernel

example (k : Key) : DemoX.x.read k =
    .ok ((Spec.latest ((Store.init true).run (DemoX.ops.map XOp.abs)).history k).map (fun p => dataOf p.r.data)) :=
  (end_to_end_read_cfgs Demo.cfg_ok DemoX.ops DemoX.ops_ok DemoX.ops_sized k).1

example : ∀ b ∈ DemoX.x.st.blobs, ∀ r ∈ b.ghost, b.checkFilter DemoX.x.cfg r.key ≠ .notContains :=
  (no_false_negative_across_configs Demo.cfg_ok DemoX.ops DemoX.ops_ok DemoX.ops_sized).2.1

example : MC.CInvC DemoX.x.cfg DemoX.x.st :=
  (refinement_cfgs Demo.cfg_ok DemoX.ops DemoX.ops_ok DemoX.ops_sized).2.1

-- pruning still happens where the geometries agree: in a two-session history with EQUAL geometry the node filter is
-- kept and prunes key 40
set_option maxRecDepth 1000000 in
example :
    let y := (XState.init Demo.cfg).run
      [.op (.write 1 5 ⟨2, 1⟩), .op .closeActive, .op .settle, .restartWith (some (⟨99, 2, 7, 1, 0⟩, 100)) true,
       .op (.write 3 7 ⟨1, 3⟩), .op .closeActive, .op .settle, .restartWith (some (⟨10, 2, 100, 1, 0⟩, 100)) true]
    (y.st.cont.inner.filterMap (fun o => match o with
      | some (.node n) => some (n.filter.map DemoX.geom)
      | _ => none)) = [some (some (2, 100)), some (some (2, 100))] ∧
    (y.st.consulted y.cfg 40).map (·.id) = [] ∧ (y.st.consulted y.cfg 3).map (·.id) = [1, 0] := by decide +kernel

example : ((Bloom.new ⟨10, 2, 100, 1, 0⟩ 100).merge (Bloom.new ⟨10, 3, 100, 1, 0⟩ 100)).2 = false ∧
    ((Bloom.new ⟨10, 2, 100, 1, 0⟩ 100).merge (Bloom.new ⟨10, 2, 64, 1, 0⟩ 64)).2 = false ∧
    ((Bloom.new ⟨10, 2, 100, 1, 0⟩ 100).merge Bloom.empty).2 = false ∧
    (Bloom.empty.merge Bloom.empty).2 = true ∧
    ((Bloom.new ⟨10, 2, 100, 1, 0⟩ 100).merge (Bloom.new ⟨77, 2, 5, 9, 3⟩ 100)).2 = true ∧
    ((Bloom.new ⟨10, 2, 100, 1, 0⟩ 100).merge (Bloom.new ⟨10, 2, 100, 1, 0⟩ 100).offload.1).2 = false := by decide

-- the third conjunct of `no_false_negative_across_configs` on the four-session history: blob 1 (3 hashers / 64 bits)
-- sits in slot 1 below the root and one group node; its key 3 passes both and the blob is consulted
set_option maxRecDepth 1000000 in
example : (DemoX.x.st.cont.getChild 1).map (fun lf => (lf.data.id, lf.data.ghost.map (·.key))) = some (1, [3]) ∧
    Container.leavesBelow DemoX.x.st.cont (DemoX.x.st.cont.inner.length + 2) DemoX.x.st.cont.root = [0, 1] ∧
    (DemoX.x.st.consulted DemoX.x.cfg 3).map (·.id) = [2, 1, 0] := DemoX.last_session.2.2.elim

example (lf : FLeaf CBlob) (h : DemoX.x.st.cont.getChild 1 = some lf) (r : Rec) (hr : r ∈ lf.data.ghost) :
    (∀ id nd, DemoX.x.st.cont.getInner id = some (.node nd) →
      1 ∈ Container.leavesBelow DemoX.x.st.cont (DemoX.x.st.cont.inner.length + 2) id →
      (fops DemoX.x.cfg).coversOpt nd.filter r.key) ∧
    lf.data ∈ DemoX.x.st.consulted DemoX.x.cfg r.key :=
  let t := (no_false_negative_across_configs Demo.cfg_ok DemoX.ops DemoX.ops_ok DemoX.ops_sized).2.2 1 lf h r hr
  ⟨t.1, t.2.2⟩

-- a start-up of the single-configuration demo storage under two other configurations, by the theorem
example (k : Key) :
    (Demo.s.restartWith (Demo.cfg.withBloom none) true).read (Demo.cfg.withBloom none) k = Demo.s.read Demo.cfg k ∧
    (Demo.s.restartWith (Demo.cfg.withBloom (some (⟨10, 5, 64, 1, 0⟩, 64))) false).read
      (Demo.cfg.withBloom (some (⟨10, 5, 64, 1, 0⟩, 64))) k = Demo.s.read Demo.cfg k :=
  have hinv := MC.CInvC.ofCInv Demo.cfg_ok (refinement_run Demo.cfg_ok Demo.ops Demo.ops_ok Demo.ops_sized).2
  ⟨(restart_with_config_of_inv Demo.cfg_ok Demo.s hinv none (by decide) true k).1,
    (restart_with_config_of_inv Demo.cfg_ok Demo.s hinv _ (by decide) false k).1⟩

example : ((Bloom.new ⟨10, 2, 100, 1, 0⟩ 100).merge (Bloom.new ⟨10, 3, 100, 1, 0⟩ 100)).2 = true ↔
    (2 : Nat) = 3 ∧ (100 : Nat) = 100 ∧ false = false ∧ false = false :=
  (bloom_merge_rule _ _ (Bloom.new_WF _ _) (Bloom.new_WF _ _)).1

example : (Container.mergeFilters (combinedOps Demo.cfg.h)
      (some { bloom := some (Bloom.new ⟨10, 2, 100, 1, 0⟩ 100), range := Range.new })
      (some { bloom := some Bloom.empty, range := Range.new })) = none ∧
    (Container.mergeFilters (combinedOps Demo.cfg.h)
      (some { bloom := some (Bloom.new ⟨10, 2, 100, 1, 0⟩ 100), range := Range.new })
      (some { bloom := none, range := Range.new })) = none ∧
    (Container.mergeFilters (combinedOps Demo.cfg.h)
      (some { bloom := some (Bloom.new ⟨10, 2, 100, 1, 0⟩ 100), range := Range.new })
      (some { bloom := some (Bloom.new ⟨11, 2, 50, 2, 1⟩ 100), range := Range.new })).isSome = true := by decide

/-! ## the three seeded variants of the merge rule, as counter-models

Each variant is a `FilterOps` (`Pearl/Model/EndToEndCfg.lean`) used by the start-up to merge the node filters
(`XState.runOps`); everything else — blobs, index files, read path — is the model of the theorems above.  On a
concrete history of two or three sessions a stored key is filtered out by a node filter: the read answers `NotFound`
for a key `Spec.latest` finds — while the real rule (`XState.run`) on the same history finds it. -/

namespace DemoBad

/-- the L2 answer for key 3 of a history (decidable form) -/
def l2 (ops : List XOp) : ReadResult Rec := ((Store.init true).run (ops.map XOp.abs)).read 3 none

/-- 3 hashers / 100 bits, then 1 hasher / 100 bits: equal bit counts, different hasher counts -/
def cfg3 : Cfg := { Demo.cfg with bloom := some (⟨10, 3, 100, 1, 0⟩, 100) }

def opsHashers : List XOp :=
  [.op (.write 1 5 ⟨2, 1⟩), .op .closeActive, .op .settle,
   .restartWith (some (⟨10, 1, 100, 1, 0⟩, 100)) true,
   .op (.write 3 7 ⟨1, 3⟩),
   .restartWith (some (⟨10, 1, 100, 1, 0⟩, 100)) true]

/-- 2 hashers / 100 bits, then 3 hashers / 64 bits: the merge is refused -/
def opsStale : List XOp :=
  [.op (.write 1 5 ⟨2, 1⟩), .op .closeActive, .op .settle,
   .restartWith (some (⟨10, 3, 64, 1, 0⟩, 64)) true,
   .op (.write 3 7 ⟨1, 3⟩),
   .restartWith (some (⟨10, 3, 64, 1, 0⟩, 64)) true]

/-- 2 hashers / 100 bits, then NO bloom filter (the index file of blob 1 holds `Bloom::empty()`), then 2 / 100 again -/
def opsEmpty : List XOp :=
  [.op (.write 1 5 ⟨2, 1⟩), .op .closeActive, .op .settle,
   .restartWith none true,
   .op (.write 3 7 ⟨1, 3⟩), .op .closeActive, .op .settle,
   .restartWith (some (⟨10, 2, 100, 1, 0⟩, 100)) true]

/-- the node filters of the arena, as geometries -/
def nodes (x : XState) : List (Option (Option (Nat × Nat))) :=
  x.st.cont.inner.filterMap (fun o => match o with
    | some (.node n) => some (n.filter.map DemoX.geom)
    | _ => none)

end DemoBad

/-- **seeded variant 1, blooms with different hasher counts merged**: the node filter keeps the 3 hashers of the
    first blob and the bits the 1-hasher blob set; key 3 (stored in blob 1) is probed at 3 positions, 2 of which
    nobody set — filtered out.  The real rule refuses the merge (`None`) and finds the key. -/
theorem seeded_hashers_merged_loses_key :
    let bad := XState.runOps (opsNoHashers Demo.cfg.h) (XState.init DemoBad.cfg3) DemoBad.opsHashers
    let good := (XState.init DemoBad.cfg3).run DemoBad.opsHashers
    DemoBad.l2 DemoBad.opsHashers = .found ⟨3, 7, false, none, ⟨1, 3⟩⟩ ∧
    bad.read 3 = .ok .notFound ∧ DemoBad.nodes bad = [some (some (3, 100)), some (some (3, 100))] ∧
    (bad.st.blobs.map (fun b => (b.id, b.ghost.map (·.key), DemoX.geom b.filter)))
      = [(0, [1], some (3, 100)), (1, [3], some (1, 100))] ∧
    good.read 3 = .ok (.found (dataOf ⟨1, 3⟩)) ∧ DemoBad.nodes good = [none, none] := by decide +kernel

/-- **seeded variant 2, a refused merge keeping the stale node filter**: the merge of the 3-hasher / 64-bit filter of
    blob 1 into the 2-hasher / 100-bit node filter is refused, the node keeps the bloom part of blob 0 alone; key 3
    is not in it — filtered out.  The real `merge_filters` sets the node to `None`. -/
theorem seeded_stale_node_filter_loses_key :
    let bad := XState.runOps (opsKeepStale Demo.cfg.h) (XState.init Demo.cfg) DemoBad.opsStale
    let good := (XState.init Demo.cfg).run DemoBad.opsStale
    DemoBad.l2 DemoBad.opsStale = .found ⟨3, 7, false, none, ⟨1, 3⟩⟩ ∧
    bad.read 3 = .ok .notFound ∧ DemoBad.nodes bad = [some (some (2, 100)), some (some (2, 100))] ∧
    (bad.st.blobs.map (fun b => (b.id, b.ghost.map (·.key), DemoX.geom b.filter)))
      = [(0, [1], some (2, 100)), (1, [3], some (3, 64))] ∧
    good.read 3 = .ok (.found (dataOf ⟨1, 3⟩)) ∧ DemoBad.nodes good = [none, none] := by decide +kernel

/-- **seeded variant 3, the empty bloom treated as mergeable**: blob 1 was written by the bloom-less session, its
    index file holds `Bloom::empty()`; the session with a bloom filter reads it back (`bits_count = 0`, no hashers),
    the merge into the node filter "succeeds" without adding anything; key 3 is not in the node's bloom — filtered
    out.  The real rule refuses (0 ≠ 2 hashers) and the node becomes `None`. -/
theorem seeded_empty_bloom_merged_loses_key :
    let bad := XState.runOps (opsEmptyOk Demo.cfg.h) (XState.init Demo.cfg) DemoBad.opsEmpty
    let good := (XState.init Demo.cfg).run DemoBad.opsEmpty
    DemoBad.l2 DemoBad.opsEmpty = .found ⟨3, 7, false, none, ⟨1, 3⟩⟩ ∧
    bad.read 3 = .ok .notFound ∧ DemoBad.nodes bad = [some (some (2, 100)), some (some (2, 100))] ∧
    (bad.st.blobs.map (fun b => (b.id, b.ghost.map (·.key), DemoX.geom b.filter)))
      = [(0, [1], some (2, 100)), (1, [3], some (0, 0))] ∧
    good.read 3 = .ok (.found (dataOf ⟨1, 3⟩)) ∧ DemoBad.nodes good = [none, none] := by decide +kernel

/-- the variants differ from the real rule exactly where the rule refuses: on filters the rule merges, `mergeVia` over
    the real bloom merge is the real `checked_add_assign` -/
theorem merge_via_real (c o : Combined) : Combined.mergeVia Bloom.merge c o = c.merge o := by
  unfold Combined.mergeVia Combined.merge Range.merge Combined.bloomMerge
  cases c.bloom <;> cases o.bloom <;> rfl

-- the three refusals the variants drop, on the filters of the counter-models
example :
    ((Bloom.new ⟨10, 3, 100, 1, 0⟩ 100).merge (Bloom.new ⟨10, 1, 100, 1, 0⟩ 100)).2 = false ∧
    (Bloom.mergeNoHashers (Bloom.new ⟨10, 3, 100, 1, 0⟩ 100) (Bloom.new ⟨10, 1, 100, 1, 0⟩ 100)).2 = true ∧
    ((Bloom.new ⟨10, 2, 100, 1, 0⟩ 100).merge Bloom.empty).2 = false ∧
    (Bloom.mergeEmptyOk (Bloom.new ⟨10, 2, 100, 1, 0⟩ 100) Bloom.empty).2 = true := by decide

end Pearl.E2E

#print axioms Pearl.E2E.refinement_cfgs
#print axioms Pearl.E2E.read_of_inv_cfgs
#print axioms Pearl.E2E.end_to_end_read_cfgs
#print axioms Pearl.E2E.end_to_end_read_cfgs_cases
#print axioms Pearl.E2E.restart_with_config_of_inv
#print axioms Pearl.E2E.no_false_negative_across_configs
#print axioms Pearl.E2E.bloom_merge_rule
#print axioms Pearl.E2E.merge_filters_rule
#print axioms Pearl.E2E.merge_filters_sound
#print axioms Pearl.E2E.seeded_hashers_merged_loses_key
#print axioms Pearl.E2E.seeded_stale_node_filter_loses_key
#print axioms Pearl.E2E.seeded_empty_bloom_merged_loses_key
#print axioms Pearl.E2E.merge_via_real

/-
NOT PROVED, LIMITS OF THE MODEL, FINDINGS
* concurrency: the concrete operations are sequential (the read-side LTS of C08 is not composed with the bytes);
* byte level of the index file (`end_to_end_read_bytes`): SHA-256 is not modelled — `hash` is an uninterpreted 32-byte field, so
  the check `hash_valid` of `get_records_headers` is the one step of the index code that `BIdx.load` does not perform;
  `BIdx` re-reads header, tree meta and root node with `from_file` at every access instead of caching them in the
  struct (the cached values are what `from_file` reads);
* the input-level size condition `StoreIdxSized` is sufficient, not necessary (it bounds the index file by three
  times the blob file; the exact condition is `IdxSized`, used by `end_to_end_read_bytes`);
* the meta maps have at most one entry (as in the L5 model); `Meta` equality of `filter_entries` is equality of the
  deserialised entry lists, which coincides with `HashMap` equality only for such maps;
* start-up WITH index files (`end_to_end_restart_with_indexes`):
  - the directory of index files is an argument of `restartWithIndexes` and the theorem quantifies over every choice
    of absent / current / stale / rejected files per blob; `end_to_end_real_directory` proves that the directory a
    history itself leaves behind (`runD`: dumps write files, nothing removes one) is always absent / current / stale.
    External damage between close and `init` is the quantified case (iii); a crash in the middle of a dump
    (`written` bit clear, truncated) is C03b `damage_never_accepted`, i.e. rejected, i.e. case (iii);
  - case (iv), accepted bytes that are not an image of the records, is outside the theorem: what the validation
    checks is `accepted_index_checked_fields`, and `accepted_but_wrong_index` is a one-byte change inside a record
    header that passes it and loses a record (the boundary of C03; C03b `accepted_is_faithful_general_false`).  For the
    LAST blob with `lazy = false` the Rust code calls `load_index`, whose hash check would catch it and regenerate;
    `loadIndexOrRegenB` has that fallback but, the hash being uninterpreted, never takes it for this reason;
  - FINDING `restart_with_indexes_fails_on_empty_blob`: a rejected index file next to a blob file that holds the
    header only makes `Blob::from_file` fail: `restartWithIndexes` answers `none`.  What the storage then does — the
    decision of `should_save_corrupted_blob` — is `fromFileQ`, `StartOutcome.ofInit`, `BState.recoverWithIndexes` of
    `Pearl/Model/EndToEndCrashIdx.lean`: the blob is quarantined (`crash_index_beside_header_only` of
    `Pearl/Props/EndToEndCrash.lean`);
  - FINDING `index_with_short_filter_section_panics`: a file that passes the header checks but whose filter section
    is shorter than its own length prefix makes `deserialize_filters` panic (`split_at`) instead of being rejected;
  - `bloom_is_on` (or the bloom geometry) changing between the dump and the start-up is not covered by the BYTE-level
    theorems of this section (the configuration is the same before and after); it is covered at the level of the
    structured index file by the extension "sessions with different bloom configurations" (`end_to_end_read_cfgs`);
* bloom off-loading (`end_to_end_offload_transparent`): the `freed` count returned by `offload_buffer` is modelled
  (`offloadBuffer … .2`, equal at both levels: `offloadBuffer_toB`) but nothing is proved about its value;
  `filter_memory_allocated` is not composed.
* sessions with different bloom configurations (`end_to_end_read_cfgs`, `no_false_negative_across_configs`):
  - stated on the structured storage `CState` (index file = B+tree image + filter section `metaBuf`), not on the bytes
    of the index file (`BState`), and without metadata / `read_all` / bloom off-loading: the operations of a session
    are `COp`; the merge rule is proved also for off-loaded sides (`bloom_merge_rule`), but no off-loading operation
    occurs in the multi-configuration histories;
  - "the index file of a blob exists" is identified with "the index of the blob is on disk when the storage is closed";
    a blob whose index is in memory at that moment is regenerated with the NEW configuration.  The remaining real case —
    an index file left by an earlier dump next to a blob that was loaded again and NOT written since (e.g.
    `restore_active_blob` directly followed by a restart) is accepted by the code and keeps the OLD geometry — is not
    a separate case of `reopen`; the invariant `MC.BlobInvC` is indifferent to the geometry and `restartG_ref_of` proves
    the start-up theorem for ANY per-blob reopening function that keeps id, records and `MC.BlobInvC` (so also for one
    that keeps the old filter there), but that reopening function is not in the model;
  - only `bloom_config` changes between sessions: `K::LEN` (the code rejects index files of another key size),
    `bloom_filter_group_size`, `allow_duplicates`, `validate_data_during_index_regen` stay; the hash family is the
    parameter `Cfg.h`, the same for all sessions (hasher `j` is `AHasher::new_with_keys(j+1, j+2)` in every
    configuration);
  - the three seeded variants are refuted on concrete histories (`seeded_*_loses_key`, by evaluation); that EVERY
    weakening of the guard loses a key on some history is not a theorem;
  - `bits_count` of a configuration is an input (`Cfg.bloom : Option (BloomConfig × Nat)`), as everywhere in the
    model (the `f64` formula is not modelled); the theorems hold for every value, so also for the one the formula
    yields.
-/
