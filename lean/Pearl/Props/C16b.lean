import Pearl.Proofs.ToolsManyDemo
import Pearl.Proofs.ToolsReaderSt
import Pearl.Props.C16
/-
C16b: the offline tools on a blob with SEVERAL damaged records (C16 has one).

Vocabulary (Pearl/Proofs/ToolsMany.lean):
  * `FlipStep klen recs i base input` : `input` is `base` with at most 4 adjacent bytes altered inside the
    region of record `i` of the produced blob, in its data or in its header outside the length fields
    (`FlipIn klen recs i input` is `FlipStep klen recs i (blobBytes klen recs) input`);
  * `FlipMany klen recs D input` : one `FlipStep` per index listed in `D`, starting from the produced blob;
    the indices are pairwise distinct, in any order (`flipMany_singleton`: `D = [i]` is `FlipIn`);
  * `eraseIdxs D recs` : `recs` without the records whose index is in `D`;
  * `skipKeeps D 0 recs` : what the reader with `skip_wrong_record` keeps: it steps over ONE unreadable
    record per `read_record` call; if the record after it is unreadable too, `read_record` fails and
    `process_blob_with` stops.
Model of the reader with the field `latest_wrong_header` explicit, and of the seeded variant C16-7:
Pearl/Model/ToolsReaderSt.lean; lemmas: Pearl/Proofs/ToolsReaderSt.lean.
-/
namespace Pearl.C16b
open Pearl

theorem flipMany_singleton (klen : Nat) (recs : List (Rec × List UInt8)) (i : Nat) (input : List UInt8) :
    FlipMany klen recs [i] input ↔ FlipIn klen recs i input :=
  ⟨fun | .cons .nil _ hstep => hstep, FlipMany.cons FlipMany.nil (by simp)⟩

theorem eraseIdxs_singleton (recs : List (Rec × List UInt8)) (i : Nat) :
    eraseIdxs [i] recs = recs.eraseIdx i := by
  simpa [eraseIdxs] using dropIdxs_singleton recs 0 i

/-- `validate_blob` rejects a blob with at least one altered record -/
theorem validate_rejects_flip_many (klen : Nat) (recs : List (Rec × List UInt8)) (D : List Nat)
    (input : List UInt8) (hlen : (blobBytes klen recs).length < 2 ^ 64) (hts : ∀ x ∈ recs, x.1.ts < 2 ^ 64)
    (hflip : FlipMany klen recs D input) (hD : D ≠ []) : ∃ e, validateBlob input = .error e :=
  flipMany_validate klen recs D input hlen hts hflip hD

/-- Under the hypotheses of `recover_skip`, with the records listed in `D` altered and no two of them
    adjacent: recovery with `skip_wrong_record` returns the blob of exactly the other records; recovery
    without returns the records before the least element of `D` -/
theorem recover_skip_many (klen : Nat) (recs : List (Rec × List UInt8)) (D : List Nat) (input : List UInt8)
    (hlen : (blobBytes klen recs).length < 2 ^ 64) (hts : ∀ x ∈ recs, x.1.ts < 2 ^ 64)
    (hflip : FlipMany klen recs D input) (hsep : ∀ a ∈ D, a + 1 ∉ D) :
    recoveryBlob input true = .ok (blobBytes klen (eraseIdxs D recs)) ∧
    ∀ m ∈ D, (∀ j ∈ D, m ≤ j) → recoveryBlob input false = .ok (blobBytes klen (recs.take m)) := by
  obtain ⟨h1, h3⟩ := flipMany_tools klen recs D input hlen hts hflip
  rw [skipKeeps_separated hsep] at h1
  exact ⟨h1.run, fun m hm hmin => (h3 m hm hmin).run⟩

/-- `recover_skip_many` for every `validate_every` -/
theorem recover_skip_many_every (klen : Nat) (recs : List (Rec × List UInt8)) (D : List Nat)
    (input : List UInt8) (ve : Nat)
    (hlen : (blobBytes klen recs).length < 2 ^ 64) (hts : ∀ x ∈ recs, x.1.ts < 2 ^ 64)
    (hflip : FlipMany klen recs D input) (hsep : ∀ a ∈ D, a + 1 ∉ D) :
    recoveryBlobV ve input true = .ok (blobBytes klen (eraseIdxs D recs)) ∧
    ∀ m ∈ D, (∀ j ∈ D, m ≤ j) → recoveryBlobV ve input false = .ok (blobBytes klen (recs.take m)) := by
  obtain ⟨h1, h3⟩ := flipMany_tools klen recs D input hlen hts hflip
  rw [skipKeeps_separated hsep] at h1
  exact ⟨h1.runV ve, fun m hm hmin => (h3 m hm hmin).runV ve⟩

/-- `validate_every_irrelevant` for several altered records: no separation hypothesis needed -/
theorem validate_every_irrelevant_many (klen : Nat) (recs : List (Rec × List UInt8)) (D : List Nat)
    (input : List UInt8) (ve : Nat)
    (hlen : (blobBytes klen recs).length < 2 ^ 64) (hts : ∀ x ∈ recs, x.1.ts < 2 ^ 64)
    (hflip : FlipMany klen recs D input) (hD : D ≠ []) (skip : Bool) :
    recoveryBlobV ve input skip = liftW (recoveryBlob input skip) := by
  obtain ⟨h1, h3⟩ := flipMany_tools klen recs D input hlen hts hflip
  cases skip
  · obtain ⟨m, hm, hmin⟩ : ∃ m ∈ D, ∀ j ∈ D, m ≤ j := by
      cases h : D.min? with
      | none => exact absurd (List.min?_eq_none_iff.mp h) hD
      | some m => exact ⟨m, List.min?_eq_some_iff.mp h⟩
    rw [(h3 m hm hmin).run, (h3 m hm hmin).runV ve]; rfl
  · rw [h1.run, h1.runV ve]; rfl

/-- `recover_prefix` for several altered records (pairwise at least 2 apart; for adjacent ones see
    `recover_skip_general`): the output validates, is made of original records, and starts with all the
    records before the first altered one -/
theorem recover_prefix_many (klen : Nat) (recs : List (Rec × List UInt8)) (D : List Nat) (input : List UInt8)
    (hlen : (blobBytes klen recs).length < 2 ^ 64) (hts : ∀ x ∈ recs, x.1.ts < 2 ^ 64)
    (hflip : FlipMany klen recs D input) (hsep : ∀ a ∈ D, a + 1 ∉ D) (m : Nat) (hmin : ∀ j ∈ D, m ≤ j) :
    ∃ S, recoveryBlob input true = .ok (blobBytes klen S) ∧ validateBlob (blobBytes klen S) = .ok () ∧
      recs.take m <+: S ∧ S.Sublist recs ∧ (∀ i x, i ∉ D → recs[i]? = some x → x ∈ S) := by
  refine ⟨eraseIdxs D recs, (recover_skip_many klen recs D input hlen hts hflip hsep).1, ?_, ?_, ?_, ?_⟩
  · have hsub : (eraseIdxs D recs).Sublist recs := dropIdxs_sublist D 0 recs
    exact C16.validate_accepts_produced klen _ (Nat.lt_of_le_of_lt (blobBytes_sublist_length_le klen hsub) hlen)
      (fun x hx => hts x (hsub.subset hx))
  · exact dropIdxs_take_prefix recs 0 m (by simpa using hmin)
  · exact dropIdxs_sublist D 0 recs
  · intro i x hi hx
    exact mem_dropIdxs recs 0 i x (by simpa using hi) (by simpa using hx)

/-! ## adjacent altered records

`read_record(skip_wrong = true)` retries `read_single_record` exactly once (blob_reader.rs, the `Err` arm
of `read_record`): after a record that failed it reads the next one, and if that one fails too the error is
returned and `process_blob_with` leaves its loop (`break`).  The real reader therefore behaves as the
model: everything from the first PAIR of adjacent altered records on is lost, although every record after
the pair may be intact.  (This is the behaviour of the code at /repo, not a modelling artefact.) -/

/-- no hypothesis on `D` beyond what `FlipMany` says (pairwise distinct): the output is determined by
    `skipKeeps` -/
theorem recover_skip_general (klen : Nat) (recs : List (Rec × List UInt8)) (D : List Nat) (input : List UInt8)
    (ve : Nat) (hlen : (blobBytes klen recs).length < 2 ^ 64) (hts : ∀ x ∈ recs, x.1.ts < 2 ^ 64)
    (hflip : FlipMany klen recs D input) :
    recoveryBlob input true = .ok (blobBytes klen (skipKeeps D 0 recs)) ∧
    recoveryBlobV ve input true = .ok (blobBytes klen (skipKeeps D 0 recs)) :=
  ⟨(flipMany_tools klen recs D input hlen hts hflip).1.run, (flipMany_tools klen recs D input hlen hts hflip).1.runV ve⟩

/-- if `c, c + 1` is the first pair of adjacent altered records, recovery with `skip_wrong_record` returns
    the unaltered records BEFORE `c` and nothing else -/
theorem recover_skip_adjacent (klen : Nat) (recs : List (Rec × List UInt8)) (D : List Nat) (input : List UInt8)
    (hlen : (blobBytes klen recs).length < 2 ^ 64) (hts : ∀ x ∈ recs, x.1.ts < 2 ^ 64)
    (hflip : FlipMany klen recs D input) (c : Nat) (hc : c ∈ D) (hc1 : c + 1 ∈ D)
    (hfirst : ∀ a < c, a ∈ D → a + 1 ∉ D) :
    recoveryBlob input true = .ok (blobBytes klen (eraseIdxs D (recs.take c))) := by
  rw [(flipMany_tools klen recs D input hlen hts hflip).1.run,
    skipKeeps_adjacent hc hc1 recs 0 c (Nat.zero_add c) (fun a _ ha => hfirst a ha)]
  rfl

/-! ## the field `latest_wrong_header`, and the seeded variant C16-7

`Model/Tools.lean` has no reader state besides the position: the wrong header travels in the error value
`headerValidation h pos`.  `Model/ToolsReaderSt.lean` is a second model of `blob_reader.rs`, written from
the code with the field explicit.  They agree on every file: -/

/-- for the real code (and for each edit of the seeded change alone) recovery over the reader with the
    explicit field is `recoveryBlob`, on ALL inputs, with and without `skip_wrong_record` -/
theorem latest_wrong_header_faithful (input : List UInt8) (skip : Bool) :
    recoveryBlobSt .real input skip = recoveryBlob input skip ∧
    recoveryBlobSt .editA input skip = recoveryBlob input skip ∧
    recoveryBlobSt .editB input skip = recoveryBlob input skip :=
  ⟨recoveryBlobSt_harmless _ (by decide) input skip, recoveryBlobSt_harmless _ (by decide) input skip,
   recoveryBlobSt_harmless _ (by decide) input skip⟩

/-- one instance: `recover_skip_many` (with skipping) for the reader with the explicit field; the other recovery
    theorems carry over the same way, through `latest_wrong_header_faithful` -/
theorem recover_skip_many_st (klen : Nat) (recs : List (Rec × List UInt8)) (D : List Nat) (input : List UInt8)
    (hlen : (blobBytes klen recs).length < 2 ^ 64) (hts : ∀ x ∈ recs, x.1.ts < 2 ^ 64)
    (hflip : FlipMany klen recs D input) (hsep : ∀ a ∈ D, a + 1 ∉ D) :
    recoveryBlobSt .real input true = .ok (blobBytes klen (eraseIdxs D recs)) := by
  rw [(latest_wrong_header_faithful input true).1]
  exact (recover_skip_many klen recs D input hlen hts hflip hsep).1

/-- the seeded variant, call by call, on ALL files: (i) a `read_record(true)` call of the seeded reader
    agrees with the real one (same record and position, or both fail) unless the field is set and the record
    at the position fails its DATA checksum; (ii) in that case the real reader continues at the end `p` of
    the failed record, the seeded one `data_size + meta_size` of the remembered header after `p`;
    (iii) the field, once set by a header failure, is never cleared -/
theorem stale_reader_mechanism (file : List UInt8) (st : ReaderSt) :
    ((st.lwh = none ∨ ∀ p, readSingleRecord file st.pos ≠ .error (.recordValidation p)) →
      ReadAgree (readRecord file true st.pos) (readRecordSt .stale file true st)) ∧
    (∀ h0 p, st.lwh = some h0 → readSingleRecord file st.pos = .error (.recordValidation p) →
      readRecord file true st.pos = readSingleRecord file p ∧
      readRecordSt .stale file true st =
        match skipWrongRecordData file.length h0 p with
        | .error e => (.error e, ⟨p, some h0⟩)
        | .ok p' => readSingleRecordSt .stale file ⟨p', some h0⟩) ∧
    ((readSingleRecordSt .stale file st).2.lwh = st.lwh ∨
      ∃ h p, readSingleRecord file st.pos = .error (.headerValidation h p) ∧
        (readSingleRecordSt .stale file st).2.lwh = some h) := by
  refine ⟨readRecordSt_stale_agree file st, fun h0 p hl hd => ⟨by simp only [readRecord, hd, ↓reduceIte], ?_⟩, ?_⟩
  · rcases readSingleRecordSt_spec .stale file st with ⟨r, p', h1, _⟩ | ⟨h, p', h1, _⟩ | ⟨p', h1, h2⟩ | ⟨h1, _⟩
    · rw [hd] at h1; cases h1
    · rw [hd] at h1; cases h1
    · rw [hd] at h1
      cases h1
      rw [readRecordSt, if_pos rfl, h2, hl]
      simp only [ReaderVariant.stale, Bool.false_eq_true, ↓reduceIte, skipWrongRecordDataSt_some]
      cases skipWrongRecordData file.length h0 p <;> rfl
    · rw [hd] at h1; cases h1
  · rcases readSingleRecordSt_spec .stale file st with ⟨r, p, _, h2⟩ | ⟨h, p, h1, h2⟩ | ⟨p, _, h2⟩ | ⟨_, p, l, h2, hl⟩
    · left; rw [h2]; rfl
    · right; exact ⟨h, p, h1, by rw [h2]⟩
    · left; rw [h2]; rfl
    · left; rw [h2]; rcases hl with rfl | rfl <;> rfl

/-! ## non-vacuity: the 6-record blob `b6` of `recs6` (Pearl/Proofs/ToolsManyDemo.lean) -/

-- record boundaries 20, 104, 191, 263, 352, 420, 490
theorem b6_hyps : b6.length = 490 ∧ b6.length < 2 ^ 64 ∧ (∀ x ∈ recs6, x.1.ts < 2 ^ 64) ∧
    recs6.length = 6 := by rw [blobBytes_length]; decide

/-- `FlipStep` from one decidable conjunction -/
theorem flipStep_of {klen : Nat} {recs : List (Rec × List UInt8)} {i : Nat} {base input : List UInt8}
    (p w1 w2 s : List UInt8) (h : RecHeader)
    (hall : base = p ++ w1 ++ s ∧ input = p ++ w2 ++ s ∧ w1.length = w2.length ∧ w1.length ≤ 4 ∧ w1 ≠ w2 ∧
      (blobHeaders klen recs)[i]? = some h ∧ (InData h p.length w1.length ∨ InHeaderNoLen h p.length w1.length)) :
    FlipStep klen recs i base input := ⟨p, w1, w2, s, h, hall⟩

/-- byte 148 (a timestamp byte in the HEADER of record 1: 102 → 0xAA) and byte 349 (the first DATA byte of
    record 3: 5 → 0xAA) -/
abbrev b6_1h_3d : List UInt8 := (b6.set 148 0xAA).set 349 0xAA

theorem flip_1h : FlipIn 3 recs6 1 (b6.set 148 0xAA) :=
  FlipStep.set 148 102 0xAA (by decide) (by simp only [b6_eq, blobHeaders_recs6]; decide +kernel)

theorem flip_1h_3d : FlipMany 3 recs6 [3, 1] b6_1h_3d :=
  FlipMany.cons (base := b6.set 148 0xAA) ((flipMany_singleton 3 recs6 1 _).mpr flip_1h) (by simp)
    (FlipStep.set 349 5 0xAA (by decide) (by simp only [b6_eq, blobHeaders_recs6]; decide +kernel))

/-- `recover_skip_many` on it: records 0, 2, 4, 5 with skipping, record 0 without -/
example : recoveryBlob b6_1h_3d true = .ok (blobBytes 3 (eraseIdxs [3, 1] recs6)) ∧
    eraseIdxs [3, 1] recs6 = [recs6[0], recs6[2], recs6[4], recs6[5]] ∧
    recoveryBlob b6_1h_3d false = .ok (blobBytes 3 (recs6.take 1)) :=
  ⟨(recover_skip_many 3 recs6 [3, 1] _ b6_hyps.2.1 b6_hyps.2.2.1 flip_1h_3d (by decide)).1, rfl,
   (recover_skip_many 3 recs6 [3, 1] _ b6_hyps.2.1 b6_hyps.2.2.1 flip_1h_3d (by decide)).2 1 (by decide)
     (by decide)⟩

example (ve : Nat) : recoveryBlobV ve b6_1h_3d true = .ok (blobBytes 3 (eraseIdxs [3, 1] recs6)) :=
  (recover_skip_many_every 3 recs6 [3, 1] _ ve b6_hyps.2.1 b6_hyps.2.2.1 flip_1h_3d (by decide)).1

example : ∃ e, validateBlob b6_1h_3d = .error e :=
  validate_rejects_flip_many 3 recs6 [3, 1] _ b6_hyps.2.1 b6_hyps.2.2.1 flip_1h_3d (by simp)

example : ∃ S, recoveryBlob b6_1h_3d true = .ok (blobBytes 3 S) ∧ validateBlob (blobBytes 3 S) = .ok () ∧
    recs6.take 1 <+: S ∧ S.Sublist recs6 ∧ (∀ i x, i ∉ [3, 1] → recs6[i]? = some x → x ∈ S) :=
  recover_prefix_many 3 recs6 [3, 1] _ b6_hyps.2.1 b6_hyps.2.2.1 flip_1h_3d (by decide) 1 (by decide)

-- the two outputs with the surviving records spelled out
theorem b6_1h_3d_eval :
    recoveryBlob b6_1h_3d true = .ok (blobBytes 3 [recs6[0], recs6[2], recs6[4], recs6[5]]) ∧
    recoveryBlob b6_1h_3d false = .ok (blobBytes 3 [recs6[0]]) :=
  have h := recover_skip_many 3 recs6 [3, 1] _ b6_hyps.2.1 b6_hyps.2.2.1 flip_1h_3d (by decide)
  ⟨h.1, h.2 1 (by decide) (by decide)⟩

/-- the boundary of `recover_skip_many`: the headers of records 1 AND 2 altered (bytes 148 and 235, timestamp bytes).
    Records 0, 3, 4, 5 are intact; recovery with `skip_wrong_record` returns record 0 only. -/
abbrev b6_1h_2h : List UInt8 := (b6.set 148 0xAA).set 235 0xAA

theorem flip_1h_2h : FlipMany 3 recs6 [2, 1] b6_1h_2h :=
  FlipMany.cons (base := b6.set 148 0xAA) ((flipMany_singleton 3 recs6 1 _).mpr flip_1h) (by simp)
    (FlipStep.set 235 103 0xAA (by decide) (by simp only [b6_eq, blobHeaders_recs6]; decide +kernel))

/-- the statement of `recover_skip_many` FAILS without the separation hypothesis: by `recover_skip_adjacent` the
    output is the blob of record 0, shorter than the blob of the four unaltered records -/
theorem adjacent_boundary :
    recoveryBlob b6_1h_2h true = .ok (blobBytes 3 [recs6[0]]) ∧
    recoveryBlob b6_1h_2h true ≠ .ok (blobBytes 3 (eraseIdxs [2, 1] recs6)) ∧
    eraseIdxs [2, 1] recs6 = [recs6[0], recs6[3], recs6[4], recs6[5]] := by
  have h : recoveryBlob b6_1h_2h true = .ok (blobBytes 3 [recs6[0]]) :=
    recover_skip_adjacent 3 recs6 [2, 1] _ b6_hyps.2.1 b6_hyps.2.2.1 flip_1h_2h 1 (by decide) (by decide) (by decide)
  refine ⟨h, fun he => ?_, rfl⟩
  have hl := congrArg List.length (Except.ok.inj (h.symm.trans he))
  rw [blobBytes_length, blobBytes_length] at hl
  revert hl
  decide

/-- the same in the vocabulary of `recover_skip_adjacent` -/
example : recoveryBlob b6_1h_2h true = .ok (blobBytes 3 (eraseIdxs [2, 1] (recs6.take 1))) ∧
    eraseIdxs [2, 1] (recs6.take 1) = [recs6[0]] :=
  ⟨recover_skip_adjacent 3 recs6 [2, 1] _ b6_hyps.2.1 b6_hyps.2.2.1 flip_1h_2h 1 (by decide) (by decide)
    (by decide), rfl⟩

/-- the seeded variant C16-7 (field not cleared after a valid header; data failures routed to
    `skip_wrong_record_data`, which accepts an empty field) on the blob with the header of record 1 and the
    data of record 3 altered: the real reader returns the four intact records 0, 2, 4, 5; the seeded one
    loses the intact records 4 and 5 (after the data failure of record 3 it seeks on by the sizes of the
    stale header of record 1, lands inside record 4 and gives up).  Each edit alone changes nothing; and
    with one of the two damages only, the seeded variant is indistinguishable from the real reader. -/
theorem stale_reader_loses_records :
    recoveryBlobSt .real b6_1h_3d true = .ok (blobBytes 3 [recs6[0], recs6[2], recs6[4], recs6[5]]) ∧
    recoveryBlobSt .stale b6_1h_3d true = .ok (blobBytes 3 [recs6[0], recs6[2]]) ∧
    recoveryBlobSt .editA b6_1h_3d true = recoveryBlobSt .real b6_1h_3d true ∧
    recoveryBlobSt .editB b6_1h_3d true = recoveryBlobSt .real b6_1h_3d true := by
  have h := latest_wrong_header_faithful b6_1h_3d true
  refine ⟨?_, by simp only [b6_1h_3d, b6, b6_eq]; decide +kernel, by rw [h.1, h.2.1], by rw [h.1, h.2.2]⟩
  rw [h.1]
  exact b6_1h_3d_eval.1

/-- the mechanism on the witness: reading at record 1 (offset 104) the seeded reader steps over the altered
    header, returns record 2 and stands at 263 with the header of record 1 (`meta_size` 27, `data_size` 0)
    still remembered; record 3 at 263 fails its data checksum at 352; the real reader continues at 352 and
    returns record 4 (ending at 420); the seeded one seeks to 352 + 27 = 379, inside record 4, and fails -/
theorem stale_reader_trace :
    ∃ h0, (readRecordSt .stale b6_1h_3d true ⟨104, none⟩).2 = ⟨263, some h0⟩ ∧
      h0.metaSize = 27 ∧ h0.dataSize = 0 ∧
      readSingleRecord b6_1h_3d 263 = .error (.recordValidation 352) ∧
      skipWrongRecordData b6_1h_3d.length h0 352 = .ok 379 ∧
      (readRecord b6_1h_3d true 263).toOption.map Prod.snd = some 420 ∧
      (readRecordSt .stale b6_1h_3d true ⟨263, some h0⟩).1 = .error .other :=
  ⟨((readRecordSt .stale b6_1h_3d true ⟨104, none⟩).2.lwh).get!, by simp only [b6_1h_3d, b6, b6_eq]; decide +kernel⟩

/-- with ONE of the two damages (or none) the seeded variant returns what the real reader returns
    (`C16.recover_skip`, `C16.recover_intact`): it survives every single-damage check -/
theorem stale_reader_single_damage :
    recoveryBlobSt .stale (b6.set 148 0xAA) true = .ok (blobBytes 3 (recs6.eraseIdx 1)) ∧
    recoveryBlobSt .stale (b6.set 349 0xAA) true = .ok (blobBytes 3 (recs6.eraseIdx 3)) ∧
    recoveryBlobSt .stale b6 true = .ok b6 := by
  have h3 : FlipIn 3 recs6 3 (b6.set 349 0xAA) :=
    FlipStep.set 349 5 0xAA (by decide) (by simp only [b6_eq, blobHeaders_recs6]; decide +kernel)
  have hs : ∀ {D input}, (∀ a ∈ D, ∀ b ∈ D, a = b) → FlipMany 3 recs6 D input →
      recoveryBlobSt .stale input true = recoveryBlob input true := fun hD hf =>
    recoveryBlobSt_stale_flips b6_hyps.2.1 b6_hyps.2.2.1 hf (safeAt_single _ hD _ _ _ _ (fun h => by cases h))
  rw [hs (by simp +contextual) ((flipMany_singleton 3 recs6 1 _).mpr flip_1h),
    hs (by simp +contextual) ((flipMany_singleton 3 recs6 3 _).mpr h3), hs (D := []) (by simp) .nil]
  exact ⟨C16.recover_skip 3 recs6 1 _ b6_hyps.2.1 b6_hyps.2.2.1 flip_1h,
    C16.recover_skip 3 recs6 3 _ b6_hyps.2.1 b6_hyps.2.2.1 h3,
    C16.recover_intact 3 recs6 true b6_hyps.2.1 b6_hyps.2.2.1⟩

/-- the other pairings of two isolated damages are handled by the seeded variant as by the real reader:
    data then header (bytes 259 of record 2, 396 of record 4), two headers (148, 396), two data (259, 349) -/
theorem stale_reader_other_pairings :
    recoveryBlobSt .stale ((b6.set 259 0xAA).set 396 0xAA) true =
      recoveryBlobSt .real ((b6.set 259 0xAA).set 396 0xAA) true ∧
    recoveryBlobSt .stale ((b6.set 148 0xAA).set 396 0xAA) true =
      recoveryBlobSt .real ((b6.set 148 0xAA).set 396 0xAA) true ∧
    recoveryBlobSt .stale ((b6.set 259 0xAA).set 349 0xAA) true =
      recoveryBlobSt .real ((b6.set 259 0xAA).set 349 0xAA) true := by
  have flip (n : Nat) (w : UInt8) {i : Nat} {base : List UInt8} (hi : i < (blobHeaders 3 recs6).length)
      (h : base[n]? = some w ∧ w ≠ 0xAA ∧
        (InData (blobHeaders 3 recs6)[i] n 1 ∨ InHeaderNoLen (blobHeaders 3 recs6)[i] n 1)) :
      FlipStep 3 recs6 i base (base.set n 0xAA) := FlipStep.set n w 0xAA hi h
  have f2 : FlipMany 3 recs6 [2] (b6.set 259 0xAA) :=
    .cons .nil nofun (flip 259 1 (by decide) (by simp only [b6_eq, blobHeaders_recs6]; decide +kernel))
  have f24 : FlipMany 3 recs6 [4, 2] ((b6.set 259 0xAA).set 396 0xAA) :=
    .cons f2 (by simp) (flip 396 105 (by decide) (by simp only [b6_eq, blobHeaders_recs6]; decide +kernel))
  have f14 : FlipMany 3 recs6 [4, 1] ((b6.set 148 0xAA).set 396 0xAA) :=
    .cons ((flipMany_singleton 3 recs6 1 _).mpr flip_1h) (by simp)
      (flip 396 105 (by decide) (by simp only [b6_eq, blobHeaders_recs6]; decide +kernel))
  have f23 : FlipMany 3 recs6 [3, 2] ((b6.set 259 0xAA).set 349 0xAA) :=
    .cons f2 (by simp) (flip 349 5 (by decide) (by simp only [b6_eq, blobHeaders_recs6]; decide +kernel))
  simp only [recoveryBlobSt_harmless .real (by decide)]
  exact ⟨recoveryBlobSt_stale_flips b6_hyps.2.1 b6_hyps.2.2.1 f24 (by simp only [b6_eq]; decide +kernel),
    recoveryBlobSt_stale_flips b6_hyps.2.1 b6_hyps.2.2.1 f14 (by simp only [b6_eq]; decide +kernel),
    recoveryBlobSt_stale_flips b6_hyps.2.1 b6_hyps.2.2.1 f23 (by simp only [b6_eq]; decide +kernel)⟩

/-- the seeded variant is not `Harmless`; the real reader and the single edits are -/
example : ¬ ReaderVariant.stale.Harmless ∧ ReaderVariant.real.Harmless ∧ ReaderVariant.editA.Harmless ∧
    ReaderVariant.editB.Harmless := by decide

end Pearl.C16b

#print axioms Pearl.C16b.flipMany_singleton
#print axioms Pearl.C16b.eraseIdxs_singleton
#print axioms Pearl.C16b.validate_rejects_flip_many
#print axioms Pearl.C16b.recover_skip_many
#print axioms Pearl.C16b.recover_skip_many_every
#print axioms Pearl.C16b.validate_every_irrelevant_many
#print axioms Pearl.C16b.recover_prefix_many
#print axioms Pearl.C16b.recover_skip_general
#print axioms Pearl.C16b.recover_skip_adjacent
#print axioms Pearl.C16b.latest_wrong_header_faithful
#print axioms Pearl.C16b.recover_skip_many_st
#print axioms Pearl.C16b.flip_1h_3d
#print axioms Pearl.C16b.flip_1h_2h
#print axioms Pearl.C16b.b6_1h_3d_eval
#print axioms Pearl.C16b.adjacent_boundary
#print axioms Pearl.C16b.stale_reader_mechanism
#print axioms Pearl.C16b.stale_reader_trace
#print axioms Pearl.C16b.stale_reader_loses_records
#print axioms Pearl.C16b.stale_reader_single_damage
#print axioms Pearl.C16b.stale_reader_other_pairings

/-
NOT PROVED: boundaries of the statements above, and possible strengthenings

1. `FlipMany` lists one `FlipStep` per record: at most 4 adjacent bytes altered in EACH listed record, in the
   classes `FlipIn` covers (data, or header outside key length / meta_size / data_size).  Two windows in the same
   record, and alterations of a length field, are outside (as in C16, item 1 there).
2. The order of `D` is the order in which the alterations are applied; no theorem says that `FlipMany` is
   invariant under permutation of `D` (the results do not depend on the order: they are stated with `∈ D`).
3. Adjacent altered records (`recover_skip_adjacent`, `adjacent_boundary`): the output stops before the first
   adjacent pair.  This is what `read_record` does (one retry, then `Err`, then `break` in `process_blob_with`);
   it is a LOSS of intact records that the property text ("after an isolated damaged record") does not cover.
4. The seeded variant (`ReaderVariant.stale`).  General (all files): one `read_record` call
   (`stale_reader_mechanism`); the harmless variants (`recoveryBlobSt_harmless`: real, edit (a) alone, edit (b)
   alone); and whole runs along which no record fails its data checksum after a header failure
   (`recoveryBlobSt_stale_safe`: there the seeded variant returns what the real reader returns).  In the vocabulary
   of `FlipMany` (`recoveryBlobSt_stale_flips`): the condition holds when no altered record fails its data checksum
   after an altered record failed its header validation (`safeAt`, which reads the altered records only; evaluated
   on the files of `stale_reader_other_pairings`), in particular when at most one record is altered (`safeAt_single`,
   `stale_reader_single_damage`).
   The run that loses records is characterised on the witness blob only (`stale_reader_loses_records`,
   `stale_reader_trace`, by evaluation).  Not proved: the converse, that the seeded variant loses records when a
   data failure does follow a header failure (and the failing record is not the last); nor which `FlipStep`s fail in
   which way (a window in the header may leave the header valid and break the data checksum: `header_window`).
5. The reader with the explicit field is compared with `recoveryBlob` (`validate_every = 0`); for
   `validate_every ≠ 0` the writer side is unchanged (`recover_skip_many_every` is about `recoveryBlobV`
   over the reader of `Model/Tools.lean`).
-/
