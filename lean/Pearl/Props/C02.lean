import Pearl.Proofs.StoreLemmas
/-
C02: `read_all_with_deletion_marker`, `read_all`, `read_with`, `delete`, and the duplicate check of
`write`, against the rank order of the specification.
-/
namespace Pearl

theorem readAllMarked_eq_spec {s : Store} (hwf : s.WF) (k : Key) :
    s.readAllMarked k = (Spec.allCut s.history k).map (·.r) := by
  rw [Store.readAllMarked_eq_P]
  exact congrArg (List.map (·.r)) (Store.readAllMarkedP_eq hwf k)

theorem readAll_eq_spec {s : Store} (hwf : s.WF) (k : Key) :
    s.readAll k = (Spec.allLive s.history k).map (·.r) := by
  rw [Store.readAll_def, readAllMarked_eq_spec hwf k]
  unfold Spec.allLive Spec.allCut
  rw [← cutHdrs_map_r, stripLastR_cutHdrs, cutHdrs_map_r, List.filter_map]
  rfl

/-- per blob: first match above the local marker, else `Deleted(local marker)`; merged with
    `ReadResult::latest` (strict `>`, first seen wins) newest blob first -/
theorem readWith_eq_spec {s : Store} (hwf : s.WF) (k : Key) (m : Meta) :
    s.read k (some m) = (Spec.readWith s.history k m).map (·.r) := by
  rw [Spec.readWith_eq, ← List.head?_filter, Spec.all_eq_sortedBy,
    filter_sortedBy _ _ hwf.history_nodup]
  exact Store.getLatestEntry_eq_sortedBy hwf k (some m) _ (fun b => b.getWithMeta_eq k m)

/-- the liveness test of the specification is the one `Blob::delete` performs -/
theorem liveIn_iff_getLatest (b : Blob) (k : Key) :
    Spec.liveIn b.id b.recs k = (b.getLatest k).isFound := b.liveIn_eq k

/-- `delete` appends the marker to the active blob when `!only_if_presented`, and to every blob in
    which the key is live; everything else is unchanged; the returned number counts the marked blobs -/
theorem delete_spec (s : Store) (k : Key) (ts : Nat) (m : Option Meta) (oip : Bool) :
    let s0 := if oip then s else s.ensureActive
    let mk := fun b : Blob =>
      ({ b with
          recs := b.recs ++ [{ key := k, ts := ts, del := true, mt := m.getD none, data := ⟨0, 0⟩ }]
          onDisk := false } : Blob)
    let hitClosed := fun b : Blob => Spec.liveIn b.id b.recs k
    let hitActive := fun b : Blob => !oip || Spec.liveIn b.id b.recs k
    (s.delete k ts m oip).1.blobs =
        s0.closed.map (fun b => if hitClosed b then mk b else b) ++
          s0.active.toList.map (fun b => if hitActive b then mk b else b) ∧
      (s.delete k ts m oip).2 =
        (s0.closed.filter hitClosed).length + (s0.active.toList.filter hitActive).length ∧
      (s.delete k ts m oip).1.nextId = s0.nextId ∧
      (s.delete k ts m oip).1.allowDup = s0.allowDup := by
  intro s0 mk hitClosed hitActive
  refine ⟨?_, ?_, Store.delete_nextId s k ts m oip, Store.delete_allowDup s k ts m oip⟩
  · rw [Store.delete_blobs]
    simp only [Store.blobDelete_liveIn]
    rfl
  · rw [Store.delete_count, Nat.add_comm]
    simp only [Store.blobDelete_liveIn]
    rfl

theorem dedup_write (s : Store) (k : Key) (ts : Nat) (m : Option Meta) (d : Data)
    (hd : s.allowDup = false) (hf : (s.ensureActive.getLatestEntry k m).isFound = true) :
    s.write k ts m d = s.ensureActive := by
  simp [Store.write, Store.ensureActive_allowDup, hd, hf]

/-- a write that is not refused as a duplicate appends its record to the active blob of
    `s.ensureActive`; nothing else changes -/
theorem write_appends (s : Store) (k : Key) (ts : Nat) (m : Option Meta) (d : Data)
    (h : s.allowDup = true ∨ (s.ensureActive.getLatestEntry k m).isFound = false) :
    ∃ a, s.ensureActive.active = some a ∧
      s.write k ts m d =
        { s.ensureActive with
          active := some (a.append { key := k, ts := ts, del := false, mt := m.getD none, data := d }) } := by
  obtain ⟨a, ha⟩ := s.ensureActive_active
  refine ⟨a, ha, ?_⟩
  have hc : (!s.ensureActive.allowDup && (s.ensureActive.getLatestEntry k m).isFound) = false := by
    rw [Store.ensureActive_allowDup]
    rcases h with h | h <;> simp [h]
  simp only [Store.write, hc, Bool.false_eq_true, if_false, ha]

/-- the duplicate check in the specification's terms (no metadata given): with duplicates
    disallowed a key whose first-ranked record is not a marker is not written again -/
theorem dedup_write_spec {s : Store} (hwf : s.WF) (k : Key) (ts : Nat) (d : Data)
    (hd : s.allowDup = false) (hf : (Spec.latest s.ensureActive.history k).isFound = true) :
    s.write k ts none d = s.ensureActive := by
  apply dedup_write s k ts none d hd
  have := Store.getLatestEntry_eq_sortedBy (Store.ensureActive_WF hwf) k none _
    (fun b => b.getLatest_eq k)
  rw [this, ReadResult.isFound_map, ← Spec.all_eq_sortedBy, ← Spec.latest_eq]
  exact hf

theorem run_readAllMarked_eq_spec (d : Bool) (ops : List Op) (k : Key) :
    let s := (Store.init d).run ops
    s.readAllMarked k = (Spec.allCut s.history k).map (·.r) :=
  readAllMarked_eq_spec (Store.run_init_WF d ops) k

theorem run_readAll_eq_spec (d : Bool) (ops : List Op) (k : Key) :
    let s := (Store.init d).run ops
    s.readAll k = (Spec.allLive s.history k).map (·.r) :=
  readAll_eq_spec (Store.run_init_WF d ops) k

theorem run_readWith_eq_spec (d : Bool) (ops : List Op) (k : Key) (m : Meta) :
    let s := (Store.init d).run ops
    s.read k (some m) = (Spec.readWith s.history k m).map (·.r) :=
  readWith_eq_spec (Store.run_init_WF d ops) k m

-- cross-blob tie at ts 5 (stable sort keeps the newer blob's record first)
example : Demo.s1.readAllMarked 1 =
    [⟨1, 5, false, some [7], ⟨3, 3⟩⟩, ⟨1, 5, false, none, ⟨1, 1⟩⟩] := by decide
example : (Spec.allCut Demo.s1.history 1).map (·.r) =
    [⟨1, 5, false, some [7], ⟨3, 3⟩⟩, ⟨1, 5, false, none, ⟨1, 1⟩⟩] := by
  rw [← readAllMarked_eq_spec Demo.s1_WF]; decide
-- three blobs, two markers at ts 9, a newer record: the list is cut after the first marker
example : Demo.s2.readAllMarked 1 = [⟨1, 12, false, none, ⟨4, 4⟩⟩, ⟨1, 9, true, none, ⟨0, 0⟩⟩] := by
  decide
example : (Spec.allLive Demo.s2.history 1).map (·.r) = [⟨1, 12, false, none, ⟨4, 4⟩⟩] := by
  rw [← readAll_eq_spec Demo.s2_WF]; decide
-- `read_with`: found below a non-matching newer record; `Deleted` when the match is below the marker
example : (Spec.readWith Demo.s1.history 1 none).map (·.r) = .found ⟨1, 5, false, none, ⟨1, 1⟩⟩ := by
  rw [← readWith_eq_spec Demo.s1_WF]; decide
example : (Spec.readWith Demo.s2.history 1 (some [7])).map (·.r) = .deleted 9 := by
  rw [← readWith_eq_spec Demo.s2_WF]; decide
-- `delete` with `only_if_presented` marks both blobs holding key 1 and reports 2
example : (Demo.s1.delete 1 9 none true).2 = 2 := by decide
example : ((Demo.s1.delete 1 9 none true).1.blobs.map (·.recs.length)) = [3, 2] := by decide
example : (Demo.s1.delete 2 9 none false).2 = 2 ∧ (Demo.s1.delete 3 9 none false).2 = 1 := by decide
example : Spec.liveIn 0 [⟨1, 5, false, none, ⟨1, 1⟩⟩] 1 = true := by
  rw [liveIn_iff_getLatest ⟨0, [⟨1, 5, false, none, ⟨1, 1⟩⟩], false⟩]; decide
-- duplicate check: the hypotheses of `dedup_write` are satisfiable; a refused write stores nothing,
-- an accepted one stores one record
example : ∃ s : Store, s.allowDup = false ∧ (s.ensureActive.getLatestEntry 1 none).isFound = true :=
  ⟨(Store.init false).run [.write 1 5 none ⟨1, 1⟩, .closeActive], by decide, by decide⟩
example : (((Store.init false).run [.write 1 5 none ⟨1, 1⟩]).write 1 6 none ⟨2, 2⟩).recordsCount = 1 := by
  decide
example : (Demo.s1.write 1 6 none ⟨2, 2⟩).recordsCount = Demo.s1.recordsCount + 1 := by decide

end Pearl
