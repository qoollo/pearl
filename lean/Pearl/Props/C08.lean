import Pearl.Proofs.LtsLemmas
import Pearl.Proofs.ConcRWResp
/-
C08.  First half: the storage lock, the observer channel and the worker as the transition system `Pearl.Lts`
(`Pearl/Model/Lts.lean`): `N` writers into a full active blob, a channel of capacity `C`
(`OBSERVER_CHANNEL_SIZE_LIMIT = 1024` in `src/storage/observer.rs`), the lock `Inner::safe` (tokio `RwLock`,
write-preferring), under the two client protocols
* `Proto.sendUnderLock`    — /repo up to eb0e048: `send` on the bounded channel while the shared lock is held
  (deadlocks with `C + 2` writers, not with fewer; kept as the record of the defect);
* `Proto.sendAfterRelease` — /repo since fe5e781 (`CURRENT`): decide under the lock, `drop(safe)`, then `send`;
and the per-blob append section `Pearl.Append`, which does not depend on the protocol.
Second half: the data path `Pearl.ConcRW` (`Pearl/Model/ConcRW.lean`: `N` clients doing
`write | read | contains | delete` in the atomic steps of the code over the L2 `Store`, with rotation and index
dumps) and its product `Pearl.ConcBytes` with the byte ranges of `Pearl.Append` and the file layout of `Pearl.Fs`.
What is false has a witness here; what is not proved is listed at the end of the file.
The docstrings number the results: D1-D4 deadlock freedom and termination (D4 on the data path), A1-A4 the append
section (byte ranges, the upgradable lock), R1-R8 what reads, acknowledgements and the final store are worth under
concurrency (R4a, R5a, R6a are the companions of R4, R5, R6), B1-B4 the byte ranges of `Pearl.ConcBytes`.
-/
namespace Pearl
namespace C08

open Pearl.Lts Pearl.Append

/-- the protocol of the shipped code -/
abbrev CURRENT : Proto := .sendAfterRelease

/-- C08/D1: under `sendAfterRelease`, for every channel capacity `C > 0` and EVERY number `N` of clients, every
    reachable state that is not final has a successor.

    Invariants: `Lts.Inv` (the shared holders are exactly the clients at `append`/`send`/`release`/`relSend`;
    the writer side of the lock mirrors the worker's program counter) and "no client is at `send`"
    (`noSend_reach`: nobody waits on the channel with the lock in hand).  So whoever holds the lock shared can
    always move, the readers drain, the worker is granted the lock; senders wait outside the lock and the
    worker in `recv` empties the channel for them. -/
theorem no_deadlock (C N : Nat) (hC : 0 < C) (s : LState)
    (hreach : Reach CURRENT C (init N) s) (hnf : ¬ final s) : ∃ s', Step CURRENT C s s' :=
  no_deadlock_from (inv_init N) (noSend_init N) hC hreach hnf

/-- the same from the state in which all clients already hold the lock shared (the starting point of the old
    deadlock) -/
theorem no_deadlock_inside (C N : Nat) (hC : 0 < C) (s : LState)
    (hreach : Reach CURRENT C (initInside N) s) (hnf : ¬ final s) : ∃ s', Step CURRENT C s s' :=
  no_deadlock_from (inv_initInside N) (noSend_initInside N) hC hreach hnf

theorem no_stuck (C N : Nat) (hC : 0 < C) (s : LState) (hreach : Reach CURRENT C (init N) s) :
    ¬ Stuck CURRENT C s := by
  rintro ⟨hnf, hno⟩
  obtain ⟨s', hs⟩ := no_deadlock C N hC s hreach hnf
  exact hno s' hs

/-- C08/D2 (termination measure, both protocols): every step decreases `Lts.measure`; the bound on
    schedules is `every_run_is_finite` -/
theorem every_step_decreases (proto : Proto) (C : Nat) (s s' : LState) (h : Step proto C s s') :
    Lts.measure s' < Lts.measure s := measure_step h

theorem measure_init (N : Nat) : Lts.measure (init N) = 16 * N := by
  simp [Lts.measure, init, CPc.weight, WPc.weight, Nat.mul_comm]

theorem every_run_is_finite (proto : Proto) (C N : Nat) (sched : List Label) (s' : LState)
    (h : runSched proto C sched (init N) = some s') : sched.length ≤ 16 * N := by
  have := runSched_length_le sched (init N) s' h
  rw [measure_init] at this
  omega

/-- C08/D3: under `sendAfterRelease` every reachable state can be run to a final state: all clients done, the
    channel empty, the worker back in `recv` -/
theorem all_clients_finish (C N : Nat) (hC : 0 < C) (s : LState) (hreach : Reach CURRENT C (init N) s) :
    ∃ (sched : List Label) (s' : LState), runSched CURRENT C sched s = some s' ∧ final s' :=
  finish_from (inv_init N) (noSend_init N) hC hreach

theorem all_clients_finish_inside (C N : Nat) (hC : 0 < C) (s : LState)
    (hreach : Reach CURRENT C (initInside N) s) :
    ∃ (sched : List Label) (s' : LState), runSched CURRENT C sched s = some s' ∧ final s' :=
  finish_from (inv_initInside N) (noSend_initInside N) hC hreach

theorem maximal_run_is_final (C N : Nat) (hC : 0 < C) (sched : List Label) (s : LState)
    (hrun : runSched CURRENT C sched (init N) = some s) (hmax : ∀ s', ¬ Step CURRENT C s s') : final s := by
  refine Decidable.byContradiction fun hf => ?_
  obtain ⟨s', hs⟩ := no_deadlock C N hC s (runSched_reach CURRENT C sched (init N) (init N) s .refl hrun) hf
  exact hmax s' hs

theorem old_deadlock_unreachable (C N : Nat) : ¬ Reach CURRENT C (initInside N) (witnessState C) := by
  intro h
  have := noSend_reach (noSend_initInside N) h
  apply this
  cases C <;> simp [witnessState]

-- non-vacuity: the workload of the old deadlock (`C = 2`, 4 writers inside the shared section) runs to the end;
-- on the way the channel is full and the worker queued for the lock, but the blocked senders hold no lock
example : runSched CURRENT 2
      [.cAppend 0, .cAppend 1, .cAppend 2, .cAppend 3, .cRelease 0, .cRelease 1, .cRelease 2, .cSend 0, .cSend 1,
       .wRecv, .cSend 2] (initInside 4) =
    some { clients := [.done, .done, .done, .relSend], chan := 2, wpc := .waitWrite, readers := 1,
           writer := .waiting, full := true } := by decide
example : runSched CURRENT 2
      [.cAppend 0, .cAppend 1, .cAppend 2, .cAppend 3, .cRelease 0, .cRelease 1, .cRelease 2, .cSend 0, .cSend 1,
       .wRecv, .cSend 2, .cRelease 3, .wGrant, .wSwitch, .wRecv, .cSend 3, .wRecv, .wRecv] (initInside 4) =
    some { clients := [.done, .done, .done, .done], chan := 0, wpc := .recv, readers := 0,
           writer := .idle, full := false } := by decide
example : final { clients := [.done, .done, .done, .done], chan := 0, wpc := .recv, readers := 0,
                  writer := .idle, full := false } := by decide
-- a reachable non-final state exists (so `no_deadlock` says something), here with far more writers than slots
example : ∃ s, Reach CURRENT 1 (init 5) s ∧ ¬ final s := ⟨init 5, .refl, by decide⟩
-- the capacity of the real channel (1024), 3000 writers
example (s : LState) (h : Reach CURRENT 1024 (init 3000) s) : ¬ Stuck CURRENT 1024 s :=
  no_stuck 1024 3000 (by decide) s h
example : Lts.measure (initInside 4) = 48 ∧ Lts.measure (init 4) = 64 := by decide

/-- `sendUnderLock` (/repo up to eb0e048), the defect: for every channel capacity `C`, `C + 2` clients that are all
    inside the shared section of the storage lock can be scheduled into a deadlock.  For `C ≥ 1` the deadlocked
    state `witnessState C` is: one client blocked in `send` on a full channel while holding the shared lock, the
    worker queued for the exclusive lock with one message in its hands, everybody else gone.  (`C = 0`: two
    clients in `send` on a channel that never transmits.) -/
theorem deadlock_witness_before_fix :
    ∀ C : Nat, ∃ (sched : List Label) (s : LState),
      runSched .sendUnderLock C sched (initInside (C + 2)) = some s ∧ Stuck .sendUnderLock C s :=
  fun C => ⟨witnessSched C, witnessState C, witnessSched_runs C, witnessState_stuck .sendUnderLock C⟩

/-- the same, from the state in which no client has asked for the lock yet -/
theorem deadlock_witness_from_start_before_fix :
    ∀ C : Nat, ∃ (sched : List Label) (s : LState),
      runSched .sendUnderLock C sched (init (C + 2)) = some s ∧ Stuck .sendUnderLock C s := by
  intro C
  refine ⟨(List.range' 0 (C + 2)).map .cAcquire ++ witnessSched C, witnessState C, ?_,
    witnessState_stuck .sendUnderLock C⟩
  rw [runSched_append, init_to_inside]
  exact witnessSched_runs C

theorem deadlock_reachable_before_fix (C : Nat) :
    ∃ s, Reach .sendUnderLock C (initInside (C + 2)) s ∧ Stuck .sendUnderLock C s :=
  ⟨witnessState C, runSched_reach .sendUnderLock C _ _ _ _ .refl (witnessSched_runs C),
    witnessState_stuck .sendUnderLock C⟩

-- the schedule for `C = 2` (4 clients) and its last state
example : witnessSched 2 =
    [.cAppend 0, .cAppend 1, .cAppend 2, .cAppend 3, .cSend 0, .cSend 1, .wRecv, .cSend 2,
     .cRelease 0, .cRelease 1, .cRelease 2] := by decide
example : runSched .sendUnderLock 2 (witnessSched 2) (initInside 4) =
    some { clients := [.done, .done, .done, .send], chan := 2, wpc := .waitWrite, readers := 1,
           writer := .waiting, full := true } := by decide
-- there the blocked client cannot send and the worker cannot be granted the lock
example : ¬ final (witnessState 2) := by decide
example : fire .sendUnderLock 2 (.cSend 3) (witnessState 2) = none ∧
    fire .sendUnderLock 2 .wGrant (witnessState 2) = none := by decide
-- the capacity of the real channel
example : ∃ sched s, runSched .sendUnderLock 1024 sched (initInside 1026) = some s ∧ Stuck .sendUnderLock 1024 s :=
  deadlock_witness_before_fix 1024

/-- with at most `C + 1` clients (all inside the shared section) the old protocol had no deadlock: every
    reachable state that is not final has a successor.  (`0 < C`: tokio's `channel(0)` panics; a zero-capacity
    channel in this model never transmits.)

    Invariant (`Lts.Inv`): `chan + (1 if the worker has a message in its hands) ≤ #release + #done` — a message
    exists only if its sender is past `send`.  A blocked sender therefore sees `chan + busy ≤ N - 1 ≤ C`: either
    the channel has room, or the worker is in `recv` with a non-empty channel. -/
theorem no_deadlock_bounded_before_fix (C N : Nat) (hC : 0 < C) (hN : N ≤ C + 1) (s : LState)
    (hreach : Reach .sendUnderLock C (initInside N) s) (hnf : ¬ final s) : ∃ s', Step .sendUnderLock C s s' :=
  progress (inv_reach (inv_initInside N) hreach) hC hN hnf

theorem no_stuck_bounded_before_fix (C N : Nat) (hC : 0 < C) (hN : N ≤ C + 1) (s : LState)
    (hreach : Reach .sendUnderLock C (initInside N) s) : ¬ Stuck .sendUnderLock C s := by
  rintro ⟨hnf, hno⟩
  obtain ⟨s', hs⟩ := no_deadlock_bounded_before_fix C N hC hN s hreach hnf
  exact hno s' hs

/-- the same when the clients have yet to take the shared lock (late readers queue behind the writer) -/
theorem no_deadlock_bounded_from_start_before_fix (C N : Nat) (hC : 0 < C) (hN : N ≤ C + 1) (s : LState)
    (hreach : Reach .sendUnderLock C (init N) s) (hnf : ¬ final s) : ∃ s', Step .sendUnderLock C s s' :=
  progress (inv_reach (inv_init N) hreach) hC hN hnf

-- non-vacuity: `C = 2`, `N = 3` runs to the end under the old protocol
example : runSched .sendUnderLock 2 [.cAppend 0, .cAppend 1, .cAppend 2, .cSend 0, .cSend 1, .wRecv, .cSend 2,
      .cRelease 0, .cRelease 1, .cRelease 2, .wGrant, .wSwitch, .wRecv, .wRecv] (initInside 3) =
    some { clients := [.done, .done, .done], chan := 0, wpc := .recv, readers := 0, writer := .idle,
           full := false } := by decide
example : ∃ s, Reach .sendUnderLock 2 (initInside 3) s ∧ ¬ final s :=
  ⟨initInside 3, .refl, by decide⟩
-- the threshold was exact: `N = C + 1` safe, `N = C + 2` not
example (C : Nat) (hC : 0 < C) :
    (∀ s, Reach .sendUnderLock C (initInside (C + 1)) s → ¬ Stuck .sendUnderLock C s) ∧
    (∃ s, Reach .sendUnderLock C (initInside (C + 2)) s ∧ Stuck .sendUnderLock C s) :=
  ⟨fun s h => no_stuck_bounded_before_fix C (C + 1) hC (Nat.le_refl _) s h, deadlock_reachable_before_fix C⟩

/-- the lock is a lock: in every reachable state (either protocol, any number of clients) the worker is inside
    its exclusive section only while no client is inside the shared one, and the readers count is exactly the
    number of clients between `acquire` and `release` -/
theorem rw_exclusion (proto : Proto) (C N : Nat) (s : LState) (hreach : Reach proto C (init N) s) :
    (s.writer = .holding → s.readers = 0) ∧
    s.readers = s.clients.count .append + s.clients.count .send + s.clients.count .release +
      s.clients.count .relSend := by
  have hi := inv_reach (inv_init N) hreach
  refine ⟨?_, hi.readers⟩
  intro hw
  apply hi.excl
  have := hi.writer
  cases hwp : s.wpc <;> simp [hwp, writerOf, hw] at this ⊢

-- non-vacuity: a reachable state in which the worker does hold the lock, under each protocol
example : (runSched .sendUnderLock 1 [.cAcquire 0, .cAppend 0, .cSend 0, .wRecv, .cRelease 0, .wGrant] (init 1)).map
    (·.writer) = some .holding := by decide
example : (runSched .sendAfterRelease 1 [.cAcquire 0, .cAppend 0, .cRelease 0, .cSend 0, .wRecv, .wGrant] (init 1)).map
    (·.writer) = some .holding := by decide
-- writer preference: while the worker waits, a late client cannot take the lock shared
example : (runSched .sendAfterRelease 1 [.cAcquire 0, .cAppend 0, .cRelease 0, .cSend 0, .cAcquire 1, .wRecv]
      (init 3)).bind (fire .sendAfterRelease 1 (.cAcquire 2)) = none := by decide

/-- C08/A1: offsets reserved by successive `fetch_add len` on the file size, starting from
    any size and for any lengths, give ranges `[off, off + len)` that are pairwise disjoint — they are laid out
    one after the other in the order the atomic operations took effect, start at or after the old size, and
    end at the new size. -/
theorem ranges_disjoint (size : Nat) (lens : List Nat) :
    (reserveAll size lens).Pairwise Range.Disjoint ∧
    (reserveAll size lens).Pairwise (fun a b => a.stop ≤ b.off) ∧
    (∀ r ∈ reserveAll size lens, size ≤ r.off ∧ r.stop ≤ size + lens.sum) ∧
    (reserveAll size lens).map (·.len) = lens :=
  ⟨(reserveAll_sorted lens size).imp .inl, reserveAll_sorted lens size, reserveAll_mem lens size,
    reserveAll_lens lens size⟩

example : reserveAll 100 [10, 0, 5] = [⟨100, 10⟩, ⟨110, 0⟩, ⟨110, 5⟩] := by decide
example : ¬ Range.Disjoint ⟨100, 10⟩ ⟨105, 10⟩ := by simp [Range.Disjoint, Range.stop]

/-- C08/A2: for ANY interleaving of the writers' steps (lock, `fetch_add`, `write_all_at`, unlock), with or
    without the upgradable lock, the ranges owned by different writers never share a byte, and every range
    lies inside the file -/
theorem ranges_disjoint_interleaved (useLock : Bool) (size : Nat) (lens : List Nat) (s : AState)
    (hreach : AReach useLock (ainit size lens) s) :
    (∀ i j ri rj, i ≠ j → rng s.ws i = some ri → rng s.ws j = some rj → ri.Disjoint rj) ∧
    (∀ i r, rng s.ws i = some r → r.stop ≤ s.size) :=
  let h := ainv_reach (ainv_init size lens) hreach
  ⟨h.disj, h.bound⟩

/-- C08/A3: records never overlap in the file: once a writer's bytes have landed (`written` / `done`) every
    byte of its range still carries its mark, whatever the other writers did since; and every byte in the file
    lies in the range of the writer that wrote it -/
theorem written_bytes_intact (useLock : Bool) (size : Nat) (lens : List Nat) (s : AState)
    (hreach : AReach useLock (ainit size lens) s) :
    (∀ i pc r, s.ws[i]? = some pc → pc.landed = some r → ∀ o, r.off ≤ o → o < r.stop → s.file o = some i) ∧
    (∀ o i, s.file o = some i → ∃ r, rng s.ws i = some r ∧ r.off ≤ o ∧ o < r.stop) :=
  let h := ainv_reach (ainv_init size lens) hreach
  ⟨h.intact, h.own⟩

/-- C08/A4: under the upgradable lock at most one writer is between `lock` and `unlock`
    (so reservation order = file order = index push order), and whoever is inside holds the lock -/
theorem append_cs_atomic (size : Nat) (lens : List Nat) (s : AState)
    (hreach : AReach true (ainit size lens) s) :
    (∀ (i j : Nat) (pi pj : APc), s.ws[i]? = some pi → s.ws[j]? = some pj →
        pi.inCs = true → pj.inCs = true → i = j) ∧
    (∀ (i : Nat) (pi : APc), s.ws[i]? = some pi → pi.inCs = true → s.locked = true) :=
  let h := aexcl_reach (aexcl_init size lens) hreach
  ⟨h.one, h.held⟩

def arun (useLock : Bool) : List ALabel → AState → Option AState
  | [], s => some s
  | l :: ls, s => match afire useLock l s with
    | some s' => arun useLock ls s'
    | none => none

theorem arun_reach (ul : Bool) (sched : List ALabel) (s0 s s' : AState)
    (h0 : AReach ul s0 s) (h : arun ul sched s = some s') : AReach ul s0 s' :=
  (IsRun.mk (f := fun s l => afire ul l s) (r := fun s ls => arun ul ls s) (fun _ => rfl)
    fun s l ls => by show arun ul (l :: ls) s = _; rw [arun]; cases afire ul l s <;> rfl).reach
    (fun _ l _ hr hl => .step hr ⟨l, hl⟩) h0 h

-- non-vacuity: without the lock two writers interleave `reserve`/`write` in opposite orders; their ranges are
-- different and disjoint, and the file carries both marks
example :
    ((arun false [.lock 0, .lock 1, .reserve 1, .reserve 0, .write 0, .write 1] (ainit 7 [3, 2])).map
      (fun s => (s.size, s.ws, [s.file 7, s.file 8, s.file 9, s.file 10, s.file 11, s.file 12]))) =
    some (12, [.written ⟨9, 3⟩, .written ⟨7, 2⟩], [some 1, some 1, some 0, some 0, some 0, none]) := by decide
-- with the lock the second writer cannot enter while the first is inside …
example : (arun true [.lock 0, .lock 1] (ainit 7 [3, 2])).isNone = true := by decide
-- … and can after it left
example : ((arun true [.lock 0, .reserve 0, .write 0, .unlock 0, .lock 1, .reserve 1] (ainit 7 [3, 2])).map
      (fun s => (s.locked, s.ws))) = some (true, [.done ⟨7, 3⟩, .reserved ⟨10, 2⟩]) := by decide


/-! ## concurrent reads, writes, probes and deletes (`Pearl.ConcRW`, `Pearl/Model/ConcRW.lean`)

`N` clients, one operation each (`write k ts d | read k | contains k | delete k ts oip`), split into the atomic
steps of the code, over the L2 store; a worker that rotates the active blob whenever nobody holds the storage
lock shared, and dumps indexes at any time.  All theorems are for every reachable state = every schedule, every
`N`, every starting store that is well-formed and has an active blob.

In `/repo` (fe5e781):
* a read keeps ONE shared guard of `Inner::safe` over both look-ups and the data load
  (`read_with_optional_meta`: `let safe = self.inner.safe.read().await; get_latest_entry(&safe, ..)`, guard dropped
  at return), and rotation needs `safe.write()`: no rotation inside a read.  But the read is not a snapshot: the
  guard of the active blob (`ablob.read().await`) is a temporary dropped before `safe.blobs.read().await`; a
  writer (`upgradable_read`) or deleter (`active_blob.write()`, `blobs.write()`) gets in between.
  Freshness (`read_fresh`) survives this; linearizability does not (`read_not_linearizable_with_delete`).
* `write_with_optional_meta` checks for a duplicate under its own guard (`contains_with`) and appends under a
  second one: with `allow_duplicates = false` two concurrent writes of one key are both stored
  (`duplicate_check_race`).
* `delete_core` marks the active blob, releases its lock, then takes `blobs.write()`: two deletes can pass each
  other between the phases (`delete_phase_race`).
-/

open ConcRW (COp Resp Ev Client CState Wit InStore AckedBefore LinBefore wrec)

/-- C08/R1: in every reachable state, for every schedule and any number of clients, a
    completed `read k` answers with a `ReadResult` (never `torn`: the bytes a found header points to are in the
    file), and if it is `Found r` then `r` is a live record of key `k` that the store holds, and it was either in
    the store from the start or is exactly the record `wrec k ts d` of a client `j` whose operation is
    `write k ts d` and which has pushed it (`Ev.push j r` is in the trace). -/
theorem read_returns_written {st : Store} {ops : List COp} {s : CState} (hwf : st.WF)
    (ha : ∃ a, st.active = some a) (hr : ConcRW.Reach (ConcRW.init st ops) s)
    {i : Nat} {c : Client} {k : Key} {resp : Resp}
    (hc : s.clients[i]? = some c) (hop : c.op = .read k) (hd : c.pc = .done resp) :
    ∃ res, resp = .value res ∧
      ∀ r, res = .found r →
        r.key = k ∧ r.del = false ∧ r ∈ s.landed ∧ InStore s.store r ∧
          (InStore st r ∨
            ∃ j ts d, ops[j]? = some (COp.write k ts d) ∧ r = wrec k ts d ∧ Ev.push j r ∈ s.trace) := by
  obtain ⟨hi, ht⟩ := ConcRW.tinv_reach hwf ha hr
  obtain ⟨res, rfl, hres, hland⟩ := (hop ▸ ConcRW.done_respOK hi hc hd).read
  refine ⟨res, rfl, ?_⟩
  rintro r rfl
  obtain ⟨q, hq1, hq2, rfl, hq4⟩ := hres.1 (by simp)
  have hin := ConcRW.inStore_of_positioned hq1
  exact ⟨hq2, hq4, hland _ rfl, hin, ht.provenance hin hq4 hq2⟩

/-- C08/R2: if write `w` stored its record at `p` and was acknowledged before read `r` of the same
    key was invoked (`AckedBefore w r`), then `r` does not answer `NotFound`: its answer classifies a record `q` of
    that key in the store (`Wit`: for `Found x`, `q.r = x` live; for `Deleted t`, `q` is a marker with timestamp
    `t` — the Spec's deletion semantics: the first-ranked record decides) and `q` is ranked at least as high as
    `p` (timestamp, then blob id, then position).  This holds although a read is NOT an atomic snapshot (active
    blob first, closed blobs later, writes and deletes in between): see `read_not_linearizable_with_delete`. -/
theorem read_fresh {st : Store} {ops : List COp} {s : CState} (hwf : st.WF)
    (ha : ∃ a, st.active = some a) (hr : ConcRW.Reach (ConcRW.init st ops) s)
    {w r : Nat} {cw cr : Client} {k : Key} {p : PRec} {resp : Resp}
    (hab : AckedBefore w r s.trace)
    (hcw : s.clients[w]? = some cw) (hw : cw.pc = .done (.wrote (some p))) (hpk : p.r.key = k)
    (hcr : s.clients[r]? = some cr) (hop : cr.op = .read k) (hd : cr.pc = .done resp) :
    ∃ res q, resp = .value res ∧ Wit s.store k res q ∧ rankLe q p = true := by
  obtain ⟨hi, ht⟩ := ConcRW.tinv_reach hwf ha hr
  obtain ⟨res, rfl, hres, -⟩ := (hop ▸ ConcRW.done_respOK hi hcr hd).read
  obtain ⟨q, hq, hle⟩ := hres.2 p (ht.acked w r cw cr p hab hcw hcr hw) hpk
  exact ⟨res, q, rfl, hq, hle⟩

theorem rankLe_ts {q p : PRec} (h : rankLe q p = true) : p.r.ts ≤ q.r.ts := by
  rw [rankLe_iff, rankBefore_iff] at h
  omega

/-- `read_fresh`, timestamp form: the answer carries a timestamp, and it is not older than the write's -/
theorem read_fresh_ts {st : Store} {ops : List COp} {s : CState} (hwf : st.WF)
    (ha : ∃ a, st.active = some a) (hr : ConcRW.Reach (ConcRW.init st ops) s)
    {w r : Nat} {cw cr : Client} {k : Key} {p : PRec} {resp : Resp}
    (hab : AckedBefore w r s.trace)
    (hcw : s.clients[w]? = some cw) (hw : cw.pc = .done (.wrote (some p))) (hpk : p.r.key = k)
    (hcr : s.clients[r]? = some cr) (hop : cr.op = .read k) (hd : cr.pc = .done resp) :
    ∃ res t, resp = .value res ∧ res.ts? = some t ∧ p.r.ts ≤ t := by
  obtain ⟨res, q, h1, h2, h3⟩ := read_fresh hwf ha hr hab hcw hw hpk hcr hop hd
  have hts := rankLe_ts h3
  obtain ⟨_, _, h4⟩ := h2
  cases res with
  | found x => exact ⟨_, x.ts, h1, rfl, by rw [← h4.1]; exact hts⟩
  | deleted t => exact ⟨_, t, h1, rfl, by rw [← h4.2]; exact hts⟩
  | notFound => exact absurd h4 id

/-- `read_fresh` absent a delete: if the store holds no marker of the key, the read finds a value, not older than
    the acknowledged write -/
theorem read_fresh_found {st : Store} {ops : List COp} {s : CState} (hwf : st.WF)
    (ha : ∃ a, st.active = some a) (hr : ConcRW.Reach (ConcRW.init st ops) s)
    {w r : Nat} {cw cr : Client} {k : Key} {p : PRec} {resp : Resp}
    (hab : AckedBefore w r s.trace)
    (hcw : s.clients[w]? = some cw) (hw : cw.pc = .done (.wrote (some p))) (hpk : p.r.key = k)
    (hcr : s.clients[r]? = some cr) (hop : cr.op = .read k) (hd : cr.pc = .done resp)
    (hnm : ∀ x, InStore s.store x → x.key = k → x.del = false) :
    ∃ x, resp = .value (.found x) ∧ x.key = k ∧ p.r.ts ≤ x.ts := by
  obtain ⟨res, q, h1, h2, h3⟩ := read_fresh hwf ha hr hab hcw hw hpk hcr hop hd
  have hts := rankLe_ts h3
  obtain ⟨hq1, hq2, h4⟩ := h2
  cases res with
  | found x => exact ⟨x, h1, by rw [← h4.1]; exact hq2, by rw [← h4.1]; exact hts⟩
  | deleted t =>
    have := hnm q.r (ConcRW.inStore_of_positioned hq1) hq2
    rw [h4.1] at this; cases this
  | notFound => exact absurd h4 id

/-- the same for `contains` -/
theorem contains_fresh {st : Store} {ops : List COp} {s : CState} (hwf : st.WF)
    (ha : ∃ a, st.active = some a) (hr : ConcRW.Reach (ConcRW.init st ops) s)
    {w r : Nat} {cw cr : Client} {k : Key} {p : PRec} {resp : Resp}
    (hab : AckedBefore w r s.trace)
    (hcw : s.clients[w]? = some cw) (hw : cw.pc = .done (.wrote (some p))) (hpk : p.r.key = k)
    (hcr : s.clients[r]? = some cr) (hop : cr.op = .contains k) (hd : cr.pc = .done resp) :
    ∃ res q, resp = .has (res.map (·.ts)) ∧ Wit s.store k res q ∧ rankLe q p = true := by
  obtain ⟨hi, ht⟩ := ConcRW.tinv_reach hwf ha hr
  obtain ⟨res, rfl, hres⟩ := (hop ▸ ConcRW.done_respOK hi hcr hd).contains
  obtain ⟨q, hq, hle⟩ := hres.2 p (ht.acked w r cw cr p hab hcw hcr hw) hpk
  exact ⟨res, q, rfl, hq, hle⟩

theorem respOf_done {s : CState} {i : Nat} {c : Client} {r : Resp} (hc : s.clients[i]? = some c)
    (hd : c.pc = .done r) : ConcRW.respOf s i = some r :=
  ConcRW.respOf_eq_some.2 ⟨c, hc, hd⟩

theorem respOf_some {s : CState} {i : Nat} {r : Resp} (h : ConcRW.respOf s i = some r) :
    ∃ c, s.clients[i]? = some c ∧ c.pc = .done r :=
  ConcRW.respOf_eq_some.1 h

/-- `read_fresh` in terms of the responses and the operation list -/
theorem read_fresh_resp {st : Store} {ops : List COp} {s : CState} (hwf : st.WF)
    (ha : ∃ a, st.active = some a) (hr : ConcRW.Reach (ConcRW.init st ops) s)
    {w r : Nat} {k : Key} {p : PRec} {resp : Resp}
    (hab : AckedBefore w r s.trace) (hw : ConcRW.respOf s w = some (.wrote (some p))) (hpk : p.r.key = k)
    (hop : ops[r]? = some (.read k)) (hd : ConcRW.respOf s r = some resp) :
    ∃ res q, resp = .value res ∧ Wit s.store k res q ∧ rankLe q p = true := by
  obtain ⟨cw, hcw, hwd⟩ := respOf_some hw
  obtain ⟨cr, hcr, hrd⟩ := respOf_some hd
  have ht := (ConcRW.tinv_reach hwf ha hr).2
  exact read_fresh hwf ha hr hab hcw hwd hpk hcr
    (Option.some.inj ((ConcRW.ops_getElem? ht hcr).symm.trans hop)) hrd

/-- C08/R3: a write whose response `Ok(())` is in the history with a place `p` (it stored; the
    place is ghost) belongs to a `write k ts d` client, `p.r` is exactly that record, its push is in the trace, and
    the record stays at that place (same blob id, same position) in EVERY later state: rotations, dumps, other
    writes and deletes never remove or move it. -/
theorem no_lost_ack {st : Store} {ops : List COp} {s : CState} (hwf : st.WF)
    (ha : ∃ a, st.active = some a) (hr : ConcRW.Reach (ConcRW.init st ops) s)
    {i : Nat} {p : PRec} (hack : Ev.res i (.wrote (some p)) ∈ s.trace) :
    (∃ k ts d, ops[i]? = some (COp.write k ts d) ∧ p.r = wrec k ts d) ∧ Ev.push i p.r ∈ s.trace ∧
      ∀ s', ConcRW.Reach s s' → p ∈ History.positioned s'.store.history := by
  obtain ⟨hi, ht⟩ := ConcRW.tinv_reach hwf ha hr
  obtain ⟨c, hc, hd⟩ := ht.res i _ hack
  obtain ⟨hp, k, ts, d, hop, hpr⟩ := ConcRW.done_respOK hi hc hd
  refine ⟨⟨k, ts, d, by rw [ConcRW.ops_getElem? ht hc, hop], hpr⟩, ?_, ?_⟩
  · exact (ConcRW.hcinv_reach hr i c hc).pushed p (by rw [hd]; rfl)
  · intro s' hr'
    exact ConcRW.reach_sub hi hr' p hp

/-- … and a sequential read of that key, in every later state, answers with that record or a higher-ranked
    one (a marker included) -/
theorem acked_write_readable {st : Store} {ops : List COp} {s : CState} (hwf : st.WF)
    (ha : ∃ a, st.active = some a) (hr : ConcRW.Reach (ConcRW.init st ops) s)
    {i : Nat} {p : PRec} (hack : Ev.res i (.wrote (some p)) ∈ s.trace) (s' : CState) (hr' : ConcRW.Reach s s') :
    ∃ q, Wit s'.store p.r.key (s'.store.read p.r.key none) q ∧ rankLe q p = true := by
  have hp := (no_lost_ack hwf ha hr hack).2.2 s' hr'
  have hi' := (ConcRW.tinv_reach hwf ha (ConcRW.reach_trans hr hr')).1
  exact (ConcRW.getLatestEntry_resOK hi'.wf p.r.key).2 p hp rfl

/-- a write that was acknowledged without storing anything saw a live record of its key -/
theorem skipped_write_saw_live {st : Store} {ops : List COp} {s : CState} (hwf : st.WF)
    (ha : ∃ a, st.active = some a) (hr : ConcRW.Reach (ConcRW.init st ops) s)
    {i : Nat} (hack : Ev.res i (.wrote none) ∈ s.trace) :
    ∃ k ts d, ops[i]? = some (COp.write k ts d) ∧ ∃ q x, Wit s.store k (.found x) q := by
  obtain ⟨hi, ht⟩ := ConcRW.tinv_reach hwf ha hr
  obtain ⟨c, hc, hd⟩ := ht.res i _ hack
  obtain ⟨⟨k, ts, d, hop⟩, q, x, hq⟩ := ConcRW.done_respOK hi hc hd
  rw [hop] at hq
  exact ⟨k, ts, d, by rw [ConcRW.ops_getElem? ht hc, hop], q, x, hq⟩

/-- C08/R4a: in every reachable state the store is the replay, on the starting store, of the trace's mutation
    events in the order they took effect (`push` = the index push of a write, the two marker phases of a delete,
    rotation, dump); it is well-formed, so by C01 every sequential read on it answers per `Spec` -/
theorem store_eq_replay {st : Store} {ops : List COp} {s : CState} (hwf : st.WF)
    (ha : ∃ a, st.active = some a) (hr : ConcRW.Reach (ConcRW.init st ops) s) :
    s.store = ConcRW.replay st s.trace ∧ s.store.WF ∧
      ∀ k, s.store.read k none = (Spec.latest s.store.history k).map (·.r) := by
  obtain ⟨hi, ht⟩ := ConcRW.tinv_reach hwf ha hr
  exact ⟨ht.replay, hi.wf, fun k => read_eq_spec hi.wf k⟩

/-- … and that replay is a run of the sequential model `Store.run` on the operations the events stand for
    (`Store.write` per push, `Store.delete` per pair of delete phases, `replaceActive`, `settle`), provided
    (1) the two phases of every delete are adjacent among the mutations (`coalesce` succeeds) and
    (2) no write is one that the sequential duplicate check would have skipped (`NoSkip`). -/
theorem equals_sequential_partial {st : Store} {ops : List COp} {s : CState} (hwf : st.WF)
    (ha : ∃ a, st.active = some a) (hr : ConcRW.Reach (ConcRW.init st ops) s) {seq : List Op}
    (hc : ConcRW.coalesce (ConcRW.muts s.trace) = some seq) (hns : ConcRW.NoSkip st seq) :
    s.store = st.run seq := by
  obtain ⟨hi, ht⟩ := ConcRW.tinv_reach hwf ha hr
  rw [ht.replay, ConcRW.replay_eq_muts]
  refine ConcRW.applyAll_eq_run _ _ _ hc hns ha ?_
  intro i r hm
  obtain ⟨k, ts, d, _, rfl⟩ := ht.push i r (ConcRW.mem_muts.1 hm).1
  rfl

/-- C08/R4 (under the two hypotheses above; both are needed, see `duplicate_check_race` and
    `delete_phase_race`): when every client has returned, the store equals the
    sequential model run over the writes/deletes in the order of their linearization points; every `write` client
    either has its record pushed (and then it is one of the writes of that run) or was acknowledged as a duplicate;
    and every later sequential `read`/`contains` answers per `Spec` on that run's history (C01). -/
theorem quiescent_equals_sequential_partial {st : Store} {ops : List COp} {s : CState} (hwf : st.WF)
    (ha : ∃ a, st.active = some a) (hr : ConcRW.Reach (ConcRW.init st ops) s) (hq : ConcRW.quiescent s)
    {seq : List Op} (hc : ConcRW.coalesce (ConcRW.muts s.trace) = some seq) (hns : ConcRW.NoSkip st seq) :
    s.store = st.run seq ∧
      (∀ i k ts d, ops[i]? = some (COp.write k ts d) →
        Ev.push i (wrec k ts d) ∈ s.trace ∨ ConcRW.respOf s i = some (.wrote none)) ∧
      (∀ k, s.store.read k none = (Spec.latest (st.run seq).history k).map (·.r)) ∧
      (∀ k, s.store.contains k = (Spec.latest (st.run seq).history k).map (·.r.ts)) := by
  have heq := equals_sequential_partial hwf ha hr hc hns
  obtain ⟨hi, ht⟩ := ConcRW.tinv_reach hwf ha hr
  refine ⟨heq, ?_, ?_, ?_⟩
  · intro i k ts d hop
    obtain ⟨c, hc', hcop⟩ := ht.client_of_op hop
    obtain ⟨r, hd⟩ := hq c (List.mem_of_getElem? hc')
    rcases (hcop ▸ ConcRW.done_respOK hi hc' hd).write with rfl | ⟨p, rfl, hp⟩
    · exact .inr (respOf_done hc' hd)
    · exact .inl (hp ▸ (ConcRW.hcinv_reach hr i c hc').pushed p (by rw [hd]; rfl))
  · intro k
    rw [← heq]
    exact read_eq_spec hi.wf k
  · intro k
    rw [← heq]
    exact contains_eq_spec hi.wf k

/-- C08/R4 without side conditions: duplicates allowed, no deletes -/
theorem quiescent_equals_sequential {st : Store} {ops : List COp} {s : CState} (hwf : st.WF)
    (ha : ∃ a, st.active = some a) (hdup : st.allowDup = true) (hdf : ∀ op ∈ ops, op.isDelete = false)
    (hr : ConcRW.Reach (ConcRW.init st ops) s) :
    ∃ seq, ConcRW.coalesce (ConcRW.muts s.trace) = some seq ∧ s.store = st.run seq := by
  obtain ⟨seq, hs⟩ := (ConcRW.tinv_reach hwf ha hr).2.coalesce_of_no_delete hdf
  exact ⟨seq, hs, equals_sequential_partial hwf ha hr hs (ConcRW.noSkip_of_allowDup _ _ hdup)⟩

/-- C08/R5a (deletes included): the order of the linearization events in the trace (write: its
    push; read / `contains` / skipped write: its first look-up; delete: its first marker phase) extends real time:
    if `i` got its response before `j` was invoked, then `i`'s point precedes `j`'s -/
theorem real_time_order {st : Store} {ops : List COp} {s : CState}
    (hr : ConcRW.Reach (ConcRW.init st ops) s) {i j : Nat} {cj : Client}
    (hcj : s.clients[j]? = some cj) (hl : cj.pc.hasLin = true) (hab : AckedBefore i j s.trace) :
    LinBefore i j s.trace :=
  ConcRW.ackedBefore_linBefore (ConcRW.traceOK_reach hr).1 ((ConcRW.hcinv_reach hr j cj hcj).lin hl) hab

/-- C08/R5 (for systems without `delete` operations): every completed operation has its
    linearization event in the trace (between its invocation and its response, `real_time_order`), a client looks
    at most once, and the answer is the sequential model's answer on the store replayed up to that event:
    `read` → `Store.read`, `contains` → `Store.contains`, a skipped `write` → the duplicate check of `Store.write`
    succeeds there; a stored write's push is in the trace (`store_eq_replay`: it is an append there). -/
theorem linearizable_partial {st : Store} {ops : List COp} {s : CState} (hwf : st.WF)
    (ha : ∃ a, st.active = some a) (hdf : ∀ op ∈ ops, op.isDelete = false)
    (hr : ConcRW.Reach (ConcRW.init st ops) s) {i : Nat} {c : Client} {r : Resp}
    (hc : s.clients[i]? = some c) (hd : c.pc = .done r) :
    (∃ x ∈ s.trace, Ev.linOf i x = true) ∧ s.trace.count (.look i) ≤ 1 ∧
    (∀ k res, c.op = .read k → r = .value res →
      ∃ l1 past, s.trace = l1 ++ Ev.look i :: past ∧ res = (ConcRW.replay st past).read k none) ∧
    (∀ k x, c.op = .contains k → r = .has x →
      ∃ l1 past, s.trace = l1 ++ Ev.look i :: past ∧ x = (ConcRW.replay st past).contains k) ∧
    (∀ k ts d, c.op = .write k ts d → r = .wrote none →
      ∃ l1 past, s.trace = l1 ++ Ev.look i :: past ∧
        ((ConcRW.replay st past).getLatestEntry k none).isFound = true) ∧
    (∀ p, r = .wrote (some p) → Ev.push i p.r ∈ s.trace) := by
  have hh := ConcRW.hcinv_reach hr i c hc
  have hdi := (ConcRW.rinv_reach hwf ha hr i c hc).2
  unfold ConcRW.RCInv2 at hdi
  rw [hd] at hdi
  -- nobody deletes: the two instants of a look-up see the same closed blobs
  replace hdi := hdi.seqResp (fun j k ts h => (ConcRW.tinv_reach hwf ha hr).2.no_delete hdf j k ts (.inr h))
  refine ⟨hh.lin (by rw [hd]; rfl), (ConcRW.traceOK_reach hr).2 i, ?_, ?_, ?_, ?_⟩
  · rintro k res hop rfl
    rw [hop] at hdi
    exact hdi
  · rintro k x hop rfl
    rw [hop] at hdi
    obtain ⟨res, h1, l1, past, h2, h3⟩ := hdi
    exact ⟨l1, past, h2, by rw [h1, h3]; rfl⟩
  · rintro k ts d hop rfl
    rw [hop] at hdi
    obtain ⟨res, h1, l1, past, h2, h3⟩ := hdi
    exact ⟨l1, past, h2, by rw [h3] at h1; exact h1⟩
  · rintro p rfl
    exact hh.pushed p (by rw [hd]; rfl)

/-- at most one client is inside `Blob::write`'s upgradable section, and it is the holder of the blob lock -/
theorem blob_lock_exclusive {st : Store} {ops : List COp} {s : CState}
    (hr : ConcRW.Reach (ConcRW.init st ops) s) {i j : Nat} {ci cj : Client}
    (hi : s.clients[i]? = some ci) (hj : s.clients[j]? = some cj)
    (hbi : ci.pc.holdsB = true) (hbj : cj.pc.holdsB = true) : i = j ∧ s.blobLock = some i := by
  have hb := ConcRW.binv_reach hr
  exact ⟨(hb.excl hi hbi hj hbj).symm, hb.inside i ci hi hbi⟩

/-- C08/D4 (no deadlock on the data path): a client that has not returned can take its next step, unless it
    waits for the blob lock — and then the holder is another client inside the critical section, which can take
    its next step.  (Storage lock: rotation is a single step taken when no client holds the lock shared, so the
    shared side is never refused here; writer preference and the bounded channel are `no_deadlock` above.) -/
theorem client_progress {st : Store} {ops : List COp} {s : CState} (hwf : st.WF)
    (ha : ∃ a, st.active = some a) (hr : ConcRW.Reach (ConcRW.init st ops) s) {i : Nat} {c : Client}
    (hc : s.clients[i]? = some c) (hnd : ∀ r, c.pc ≠ .done r) :
    (∃ s', ConcRW.fire (.step i) s = some s') ∨
      ∃ x cx, x ≠ i ∧ s.blobLock = some x ∧ s.clients[x]? = some cx ∧ cx.pc.holdsB = true ∧
        ∃ s', ConcRW.fire (.step x) s = some s' := by
  obtain ⟨a', ha'⟩ := (ConcRW.tinv_reach hwf ha hr).1.active
  have hb := ConcRW.binv_reach hr
  cases hbl : s.blobLock with
  | none => exact .inl (hb.client_can_step ha' hc hnd (.inl hbl))
  | some x =>
    obtain ⟨cx, hcx, hbx⟩ := hb.holder x hbl
    obtain ⟨hndx, hnw⟩ := ConcRW.Pc.not_waiting_of_holdsB hbx
    have hx := hb.client_can_step ha' hcx hndx (.inr hnw)
    by_cases hxi : x = i
    · exact .inl (hxi ▸ hx)
    · exact .inr ⟨x, cx, hxi, rfl, hcx, hbx, hx⟩

/-- every client step uses up one of the at most 17 steps of its client: no schedule contains more than `17·N`
    client steps (the worker's rotations and dumps are not bounded and need not be) -/
theorem client_steps_bounded (st : Store) (ops : List COp) (sched : List ConcRW.Label) (s : CState)
    (h : ConcRW.runSched sched (ConcRW.init st ops) = some s) :
    (sched.filter ConcRW.Label.isStep).length ≤ 17 * ops.length := by
  have := ConcRW.runSched_measure sched _ _ h
  rw [ConcRW.measure_init] at this
  omega

/-- store: blob 0 (closed) holds key 1 @ ts 3, blob 1 (active) holds key 1 @ ts 4 -/
def nlSt : Store := (Store.init true).run [.write 1 3 none ⟨1, 1⟩, .replaceActive, .write 1 4 none ⟨2, 2⟩]
def nlOps : List COp := [.read 1, .write 1 10 ⟨3, 3⟩, .delete 1 5 false]
/-- the reader looks into the active blob (sees ts 4); the writer runs from invocation to acknowledgement
    (ts 10 into the active blob); then the delete runs from invocation to response (marker ts 5 into the active
    blob — below ts 10 — and into the closed blob); the reader looks into the closed blob (sees the marker) -/
def nlSched : List ConcRW.Label :=
  [.step 0, .step 0, .step 0] ++ List.replicate 9 (.step 1) ++ List.replicate 6 (.step 2) ++
    List.replicate 4 (.step 0)
def nlW : Op := .write 1 10 none ⟨3, 3⟩
def nlD : Op := .delete 1 5 none false

/-- C08/R5 is FALSE with deletes: a read that spans a write acknowledged before a delete was invoked answers
    `Deleted(5)`; in the only order of the two mutations that real time admits (write, then delete) the sequential
    model answers `Found(ts 4)` before both, `Found(ts 10)` between them and `Found(ts 10)` after both.
    (`read_fresh` is not violated: the write was not acknowledged before the read started.) -/
theorem read_not_linearizable_with_delete :
    ∃ s, ConcRW.runSched nlSched (ConcRW.init nlSt nlOps) = some s ∧
      s.trace.reverse.filter (fun e => !e.mutates && e != .look 0) =
        [.inv 0 (.read 1), .inv 1 (.write 1 10 ⟨3, 3⟩),
         .res 1 (.wrote (some ⟨⟨1, 10, false, none, ⟨3, 3⟩⟩, 1, 1⟩)),
         .inv 2 (.delete 1 5 false), .res 2 (.deleted 2), .res 0 (.value (.deleted 5))] ∧
      AckedBefore 1 2 s.trace ∧
      ConcRW.respOf s 0 = some (.value (.deleted 5)) ∧
      nlSt.read 1 none = .found ⟨1, 4, false, none, ⟨2, 2⟩⟩ ∧
      (nlSt.run [nlW]).read 1 none = .found ⟨1, 10, false, none, ⟨3, 3⟩⟩ ∧
      (nlSt.run [nlW, nlD]).read 1 none = .found ⟨1, 10, false, none, ⟨3, 3⟩⟩ :=
  exists_of_eval (by decide +kernel)

def dupOps : List COp := [.write 1 5 ⟨1, 1⟩, .write 1 9 ⟨2, 2⟩]
/-- both writers finish `contains_with` (NotFound) before either appends -/
def dupSched : List ConcRW.Label :=
  List.replicate 5 (.step 0) ++ List.replicate 5 (.step 1) ++ List.replicate 8 (.step 0) ++
    List.replicate 8 (.step 1)

/-- C08/R4 needs `NoSkip`: with `allow_duplicates = false` two concurrent writes of one key are both stored and
    both acknowledged; the sequential model stores one, in either order -/
theorem duplicate_check_race :
    ∃ s, ConcRW.runSched dupSched (ConcRW.init (Store.init false) dupOps) = some s ∧
      ConcRW.quiescent s ∧
      s.store.history = [(0, [wrec 1 5 ⟨1, 1⟩, wrec 1 9 ⟨2, 2⟩])] ∧
      ((Store.init false).run [.write 1 5 none ⟨1, 1⟩, .write 1 9 none ⟨2, 2⟩]).history = [(0, [wrec 1 5 ⟨1, 1⟩])] ∧
      ((Store.init false).run [.write 1 9 none ⟨2, 2⟩, .write 1 5 none ⟨1, 1⟩]).history = [(0, [wrec 1 9 ⟨2, 2⟩])] ∧
      (s.store.readAll 1).length = 2 :=
  exists_of_eval (by decide +kernel)

/-- store: blob 0 (closed) and blob 1 (active) both hold key 1 @ ts 5 -/
def delSt : Store := (Store.init true).run [.write 1 5 none ⟨1, 1⟩, .replaceActive, .write 1 5 none ⟨2, 2⟩]
def delOps : List COp := [.delete 1 10 true, .delete 1 3 true]
/-- active phases in the order 0, 1; closed phases in the order 1, 0 -/
def delSched : List ConcRW.Label :=
  List.replicate 3 (.step 0) ++ List.replicate 4 (.step 1) ++ List.replicate 3 (.step 0) ++
    List.replicate 2 (.step 1)

/-- C08/R4 needs adjacent delete phases: two concurrent deletes of one key whose phases cross leave a store that
    no sequential order of the two produces, and return counts (2 and 1) that no sequential order returns -/
theorem delete_phase_race :
    ∃ s, ConcRW.runSched delSched (ConcRW.init delSt delOps) = some s ∧
      ConcRW.muts s.trace = [.delA 0 1 10 true, .delA 1 1 3 true, .delC 1 1 3, .delC 0 1 10] ∧
      ConcRW.coalesce (ConcRW.muts s.trace) = none ∧
      [ConcRW.respOf s 0, ConcRW.respOf s 1] = [some (.deleted 2), some (.deleted 1)] ∧
      s.store.history ≠ (delSt.run [.delete 1 10 none true, .delete 1 3 none true]).history ∧
      s.store.history ≠ (delSt.run [.delete 1 3 none true, .delete 1 10 none true]).history ∧
      ((delSt.delete 1 10 none true).2, ((delSt.delete 1 10 none true).1.delete 1 3 none true).2) = (2, 0) ∧
      ((delSt.delete 1 3 none true).2, ((delSt.delete 1 3 none true).1.delete 1 10 none true).2) = (2, 2) :=
  exists_of_eval (by decide +kernel)

/-! ### non-vacuity: three clients, a rotation in the middle, the read overlaps the write — both outcomes -/

/-- blob 0 (active) holds key 1 @ ts 3 and key 2 @ ts 7 -/
def rwSt : Store := (Store.init true).run [.write 1 3 none ⟨1, 1⟩, .write 2 7 none ⟨3, 3⟩]
def rwOps : List COp := [.write 1 10 ⟨2, 2⟩, .read 1, .contains 2]
/-- all invoked; rotation; the reader looks into the new (empty) active blob; the writer appends there and is
    acknowledged; the reader looks into the closed blob: the OLD value -/
def rwSchedOld : List ConcRW.Label :=
  [.step 0, .step 1, .step 2, .rotate, .step 1, .step 1,
   .step 0, .step 0, .step 0, .step 0, .step 0, .step 0, .step 0, .step 0,
   .step 1, .step 1, .step 1, .step 1, .dump, .step 2, .step 2, .step 2, .step 2, .step 2]
/-- all invoked; rotation; the writer pushes; the reader looks (active blob, then closed): the NEW value;
    responses in either order -/
def rwSchedNew : List ConcRW.Label :=
  [.step 0, .step 1, .step 2, .rotate,
   .step 0, .step 0, .step 0, .step 0, .step 0, .step 1, .step 1, .step 0, .step 0, .step 0,
   .step 1, .step 1, .step 1, .step 1, .dump, .step 2, .step 2, .step 2, .step 2, .step 2]

example : (ConcRW.runSched rwSchedOld (ConcRW.init rwSt rwOps)).map
      (fun s => [ConcRW.respOf s 0, ConcRW.respOf s 1, ConcRW.respOf s 2]) =
    some [some (.wrote (some ⟨⟨1, 10, false, none, ⟨2, 2⟩⟩, 1, 0⟩)),
          some (.value (.found ⟨1, 3, false, none, ⟨1, 1⟩⟩)), some (.has (.found 7))] := by decide +kernel
example : (ConcRW.runSched rwSchedNew (ConcRW.init rwSt rwOps)).map
      (fun s => [ConcRW.respOf s 0, ConcRW.respOf s 1, ConcRW.respOf s 2]) =
    some [some (.wrote (some ⟨⟨1, 10, false, none, ⟨2, 2⟩⟩, 1, 0⟩)),
          some (.value (.found ⟨1, 10, false, none, ⟨2, 2⟩⟩)), some (.has (.found 7))] := by decide +kernel
-- the history of the second run: the read overlaps the write (both invoked before either responds), the
-- rotation lies between the invocations and the push
example : (ConcRW.runSched rwSchedNew (ConcRW.init rwSt rwOps)).map (fun s => s.trace.reverse.take 7) =
    some [.inv 0 (.write 1 10 ⟨2, 2⟩), .inv 1 (.read 1), .inv 2 (.contains 2), .rot,
          .push 0 (wrec 1 10 ⟨2, 2⟩), .look 1,
          .res 0 (.wrote (some ⟨⟨1, 10, false, none, ⟨2, 2⟩⟩, 1, 0⟩))] := by decide +kernel
-- the hypotheses of the theorems hold for this start, and the final states are reachable and quiescent
theorem rwSt_ok : rwSt.WF ∧ ∃ a, rwSt.active = some a := ⟨run_WF true _, _, rfl⟩
example : ∃ s, ConcRW.Reach (ConcRW.init rwSt rwOps) s ∧ ConcRW.respOf s 1 = some (.value (.found (wrec 1 3 ⟨1, 1⟩))) :=
  ⟨_, ConcRW.runSched_reach rwSchedOld _ _ _ .refl rfl, by decide +kernel⟩
-- `read_returns_written` on the second run: the value read is the one client 0 pushed
example (s : CState) (h : ConcRW.runSched rwSchedNew (ConcRW.init rwSt rwOps) = some s) (c : Client)
    (hc : s.clients[1]? = some c) (hop : c.op = .read 1) (r : Resp) (hd : c.pc = .done r) :
    ∃ res, r = .value res ∧ ∀ x, res = .found x → x.key = 1 ∧ x.del = false ∧ x ∈ s.landed :=
  let ⟨res, h1, h2⟩ := read_returns_written rwSt_ok.1 rwSt_ok.2
    (ConcRW.runSched_reach rwSchedNew _ _ _ .refl h) hc hop hd
  ⟨res, h1, fun x hx => let ⟨a, b, c, _⟩ := h2 x hx; ⟨a, b, c⟩⟩
-- `read_fresh` is not vacuous: a third schedule in which the write IS acknowledged before the read is invoked
def rwSchedAfter : List ConcRW.Label :=
  List.replicate 9 (.step 0) ++ [.rotate] ++ List.replicate 7 (.step 1)
example : (ConcRW.runSched rwSchedAfter (ConcRW.init rwSt rwOps)).map
      (fun s => (decide (AckedBefore 0 1 s.trace), ConcRW.respOf s 1)) =
    some (true, some (.value (.found (wrec 1 10 ⟨2, 2⟩)))) := by decide +kernel
-- … and `read_fresh` applied to that run, every hypothesis discharged: the write (client 0) is acknowledged at
-- blob 0, position 2; the active blob is rotated; the read (client 1) must answer with a record ranked at least
-- as high
example (s : CState) (h : ConcRW.runSched rwSchedAfter (ConcRW.init rwSt rwOps) = some s) :
    ∃ res q, ConcRW.respOf s 1 = some (.value res) ∧ Wit s.store 1 res q ∧
      rankLe q ⟨wrec 1 10 ⟨2, 2⟩, 0, 2⟩ = true := by
  obtain ⟨e1, e2, e3⟩ : AckedBefore 0 1 s.trace ∧
      ConcRW.respOf s 0 = some (.wrote (some ⟨wrec 1 10 ⟨2, 2⟩, 0, 2⟩)) ∧ (ConcRW.respOf s 1).isSome = true :=
    of_eval h (by decide +kernel)
  obtain ⟨resp, e3⟩ := Option.isSome_iff_exists.1 e3
  obtain ⟨res, q, h1, h2, h3⟩ := read_fresh_resp rwSt_ok.1 rwSt_ok.2
    (ConcRW.runSched_reach rwSchedAfter _ _ _ .refl h) e1 e2 rfl (by decide) e3
  exact ⟨res, q, by rw [e3, h1], h2, h3⟩
-- `no_lost_ack` on the first run: the acknowledged record is still at blob 1, position 0 after any continuation
example (s : CState) (h : ConcRW.runSched rwSchedOld (ConcRW.init rwSt rwOps) = some s) (s' : CState)
    (h' : ConcRW.Reach s s') : (⟨wrec 1 10 ⟨2, 2⟩, 1, 0⟩ : PRec) ∈ History.positioned s'.store.history := by
  have e : Ev.res 0 (.wrote (some ⟨wrec 1 10 ⟨2, 2⟩, 1, 0⟩)) ∈ s.trace := of_eval h (by decide +kernel)
  exact (no_lost_ack rwSt_ok.1 rwSt_ok.2 (ConcRW.runSched_reach rwSchedOld _ _ _ .refl h) e).2.2 s' h'
-- `linearizable_partial` applies to these runs: nobody deletes
example : ∀ op ∈ rwOps, op.isDelete = false := by decide
-- delete-free, duplicates allowed: the final store of the first run is the sequential run over the two
-- mutations in trace order (`quiescent_equals_sequential`)
example : (ConcRW.runSched rwSchedOld (ConcRW.init rwSt rwOps)).map
      (fun s => (ConcRW.muts s.trace, (ConcRW.coalesce (ConcRW.muts s.trace)).map List.length)) =
    some ([.rot, .push 0 (wrec 1 10 ⟨2, 2⟩), .dump], some 3) := by decide +kernel
-- the blocked case of `client_progress`: client 1 waits for the blob lock that client 0 holds
example : ((ConcRW.runSched [.step 0, .step 0, .step 0, .step 1, .step 1] (ConcRW.init (Store.init true) dupOps)).bind
      (fun s => (ConcRW.fire (.step 1) s).map (fun _ => ()))) = none := by decide

/-! ### the window of a two-phase look-up; crossed deletes -/

/-- the window of a two-phase look-up (`read`, `contains`, the duplicate check of `write`) recorded by the invariant
    `ConcRW.RCInv` (`ConcRW.rinv_reach`), in terms of reachable states -/
theorem lookup_window {st : Store} {ops : List COp} {s : CState} (hwf : st.WF)
    (ha : ∃ a, st.active = some a) (hr : ConcRW.Reach (ConcRW.init st ops) s)
    {i : Nat} {op : COp} {res : ReadResult Rec} {fin : Option Resp}
    (h2 : ConcRW.TwoPh st s.trace i op res fin) :
    ∃ (l1 l2 past : List Ev) (s1 s2 : CState) (a1 a2 : Blob),
      s.trace = l1 ++ (l2 ++ Ev.look i :: past) ∧ Ev.inv i op ∈ past ∧ (∀ r, fin = some r → Ev.res i r ∈ l1) ∧
      Ev.rot ∉ l2 ∧
      ConcRW.Reach (ConcRW.init st ops) s1 ∧ ConcRW.Reach s1 s2 ∧ ConcRW.Reach s2 s ∧
      s1.trace = past ∧ s2.trace = l2 ++ Ev.look i :: past ∧
      s1.store.active = some a1 ∧ s2.store.active = some a2 ∧ a2.id = a1.id ∧ a1.recs <+: a2.recs ∧
      res = (ConcRW.lookActive s1.store op.key).latest (ConcRW.lookClosed s2.store op.key .notFound) ∧
      ConcRW.lookActive s1.store op.key = (Spec.latest [(a1.id, a1.recs)] op.key).map (·.r) ∧
      ConcRW.lookClosed s2.store op.key .notFound =
        (Spec.latest (s2.store.closed.map Blob.hist) op.key).map (·.r) ∧
      res = (Spec.latest ((s2.store.closed ++ [a1]).map Blob.hist) op.key).map (·.r) ∧
      (∀ p ∈ History.positioned s1.store.history, p.r.key = op.key →
        ∃ q, Wit s2.store op.key res q ∧ rankLe q p = true) ∧
      (res ≠ .notFound → ∃ q top, Wit s2.store op.key res q ∧
        Wit s2.store op.key (s2.store.read op.key none) top ∧ rankLe top q = true) := by
  obtain ⟨l1, l2, past, a1, a2, h⟩ := h2
  obtain ⟨s2, r2, r2s, t2, e2, hwf2⟩ := ConcRW.reach_at hwf ha hr h.split
  obtain ⟨s1, r1, r12, t1, e1, -⟩ :=
    ConcRW.reach_at hwf ha r2 (l := l2 ++ [Ev.look i]) (t := past) (by rw [t2]; simp)
  have hres := h.resOK
  rw [← e1, ← e2] at hres
  refine ⟨l1, l2, past, s1, s2, a1, a2, h.split, h.inv, h.fin, h.noRot, r1, r12, r2s, t1, t2,
    by rw [e1]; exact h.act1, by rw [e2]; exact h.act2, h.ble.1, h.ble.2, by rw [e1, e2]; exact h.merged,
    ConcRW.lookActive_eq_spec (by rw [e1]; exact h.act1) op.key, ConcRW.lookClosed_eq_spec hwf2 op.key,
    by rw [e2]; exact h.hybrid, hres.2, ?_⟩
  intro hne
  obtain ⟨q, hq⟩ := hres.1 hne
  obtain ⟨top, ht, hle⟩ := ConcRW.top_bound hwf2 hq.1 hq.2.1
  exact ⟨q, top, hq, ht, hle q hq.1 hq.2.1⟩

/-- C08/R6 (deletes, writes, dumps and other reads running concurrently).  A completed `read k`
    that answered `res` has, in the trace, its invocation, then its look into the active blob (INSTANT 1, state
    `s1`), then — with no rotation in between (`a2` is the same blob as `a1`, grown) — its look into the closed blobs
    (INSTANT 2, state `s2`), then its response; `s1`, `s2` are reachable states on the way to `s`, and

    * each COMPONENT look-up is the `Spec` answer of that component at its own instant: the active blob at instant
      1, the closed blobs at instant 2, merged by `ReadResult::latest` (the later one wins only with a strictly
      greater timestamp);
    * the answer is the `Spec` answer on the HYBRID history "closed blobs of instant 2 + active blob of instant 1";
    * RANK SANDWICH: the answer classifies a record of the store of instant 2 that is ranked at least as high as
      every record of the key in the store of instant 1 (this strengthens `read_fresh`: instant 1 is not earlier
      than the invocation) and no higher than the first-ranked record of the store of instant 2.

    The answer need NOT be the `Spec` answer of any single store between invocation and response:
    `read_not_regular_with_delete`. -/
theorem read_interval {st : Store} {ops : List COp} {s : CState} (hwf : st.WF)
    (ha : ∃ a, st.active = some a) (hr : ConcRW.Reach (ConcRW.init st ops) s)
    {i : Nat} {c : Client} {k : Key} {res : ReadResult Rec}
    (hc : s.clients[i]? = some c) (hop : c.op = .read k) (hd : c.pc = .done (.value res)) :
    ∃ (l1 l2 past : List Ev) (s1 s2 : CState) (a1 a2 : Blob),
      s.trace = l1 ++ (l2 ++ Ev.look i :: past) ∧ Ev.inv i (.read k) ∈ past ∧ Ev.res i (.value res) ∈ l1 ∧
      Ev.rot ∉ l2 ∧
      ConcRW.Reach (ConcRW.init st ops) s1 ∧ ConcRW.Reach s1 s2 ∧ ConcRW.Reach s2 s ∧
      s1.trace = past ∧ s2.trace = l2 ++ Ev.look i :: past ∧
      s1.store.active = some a1 ∧ s2.store.active = some a2 ∧ a2.id = a1.id ∧ a1.recs <+: a2.recs ∧
      res = (ConcRW.lookActive s1.store k).latest (ConcRW.lookClosed s2.store k .notFound) ∧
      ConcRW.lookActive s1.store k = (Spec.latest [(a1.id, a1.recs)] k).map (·.r) ∧
      ConcRW.lookClosed s2.store k .notFound = (Spec.latest (s2.store.closed.map Blob.hist) k).map (·.r) ∧
      res = (Spec.latest ((s2.store.closed ++ [a1]).map Blob.hist) k).map (·.r) ∧
      (∀ p ∈ History.positioned s1.store.history, p.r.key = k →
        ∃ q, Wit s2.store k res q ∧ rankLe q p = true) ∧
      (res ≠ .notFound → ∃ q top, Wit s2.store k res q ∧ Wit s2.store k (s2.store.read k none) top ∧
        rankLe top q = true) := by
  obtain ⟨_, h2⟩ := ConcRW.rinv_reach hwf ha hr i c hc
  unfold ConcRW.RCInv2 at h2
  rw [hd, hop] at h2
  obtain ⟨l1, l2, past, s1, s2, a1, a2, g1, g2, g3, g⟩ :=
    lookup_window hwf ha hr (op := .read k) (fin := some (.value res)) h2
  exact ⟨l1, l2, past, s1, s2, a1, a2, g1, g2, g3 _ rfl, g⟩

/-- the same window for `contains k`: its answer is the timestamp form of a look-up `res` with that window -/
theorem contains_interval {st : Store} {ops : List COp} {s : CState} (hwf : st.WF)
    (ha : ∃ a, st.active = some a) (hr : ConcRW.Reach (ConcRW.init st ops) s)
    {i : Nat} {c : Client} {k : Key} {x : ReadResult Nat}
    (hc : s.clients[i]? = some c) (hop : c.op = .contains k) (hd : c.pc = .done (.has x)) :
    ∃ (res : ReadResult Rec) (l1 l2 past : List Ev) (s1 s2 : CState) (a1 : Blob),
      x = res.map (·.ts) ∧
      s.trace = l1 ++ (l2 ++ Ev.look i :: past) ∧ Ev.inv i (.contains k) ∈ past ∧ Ev.res i (.has x) ∈ l1 ∧
      Ev.rot ∉ l2 ∧ ConcRW.Reach (ConcRW.init st ops) s1 ∧ ConcRW.Reach s1 s2 ∧ ConcRW.Reach s2 s ∧
      s1.trace = past ∧ s2.trace = l2 ++ Ev.look i :: past ∧ s1.store.active = some a1 ∧
      res = (ConcRW.lookActive s1.store k).latest (ConcRW.lookClosed s2.store k .notFound) ∧
      res = (Spec.latest ((s2.store.closed ++ [a1]).map Blob.hist) k).map (·.r) ∧
      (∀ p ∈ History.positioned s1.store.history, p.r.key = k →
        ∃ q, Wit s2.store k res q ∧ rankLe q p = true) := by
  obtain ⟨_, h2⟩ := ConcRW.rinv_reach hwf ha hr i c hc
  unfold ConcRW.RCInv2 at h2
  rw [hd, hop] at h2
  obtain ⟨res, hx, h2⟩ : ∃ res : ReadResult Rec, x = res.map (·.ts) ∧
      ConcRW.TwoPh st s.trace i (.contains k) res (some (.has x)) := h2
  obtain ⟨l1, l2, past, s1, s2, a1, a2, g1, g2, g3, g4, g5, g6, g7, g8, g9, g10, _, _, _, g14, _, _, g17, g18, _⟩ :=
    lookup_window hwf ha hr h2
  exact ⟨res, l1, l2, past, s1, s2, a1, hx, g1, g2, g3 _ rfl, g4, g5, g6, g7, g8, g9, g10, g14, g17, g18⟩

/-- … and for a `write k ts d` acknowledged as a duplicate (`allow_duplicates = false`): the check that skipped it
    found a live record `x`, by a look-up with that window -/
theorem skipped_write_interval {st : Store} {ops : List COp} {s : CState} (hwf : st.WF)
    (ha : ∃ a, st.active = some a) (hr : ConcRW.Reach (ConcRW.init st ops) s)
    {i : Nat} {c : Client} {k : Key} {ts : Nat} {d : Data}
    (hc : s.clients[i]? = some c) (hop : c.op = .write k ts d) (hd : c.pc = .done (.wrote none)) :
    ∃ (x : Rec) (l1 l2 past : List Ev) (s1 s2 : CState) (a1 : Blob),
      s.trace = l1 ++ (l2 ++ Ev.look i :: past) ∧ Ev.inv i (.write k ts d) ∈ past ∧
      Ev.res i (.wrote none) ∈ l1 ∧ Ev.rot ∉ l2 ∧
      ConcRW.Reach (ConcRW.init st ops) s1 ∧ ConcRW.Reach s1 s2 ∧ ConcRW.Reach s2 s ∧
      s1.trace = past ∧ s2.trace = l2 ++ Ev.look i :: past ∧ s1.store.active = some a1 ∧
      ReadResult.found x = (ConcRW.lookActive s1.store k).latest (ConcRW.lookClosed s2.store k .notFound) ∧
      ReadResult.found x = (Spec.latest ((s2.store.closed ++ [a1]).map Blob.hist) k).map (·.r) := by
  obtain ⟨_, h2⟩ := ConcRW.rinv_reach hwf ha hr i c hc
  unfold ConcRW.RCInv2 at h2
  rw [hd, hop] at h2
  obtain ⟨res, hf, h2⟩ : ∃ res : ReadResult Rec, res.isFound = true ∧
      ConcRW.TwoPh st s.trace i (.write k ts d) res (some (.wrote none)) := h2
  obtain ⟨l1, l2, past, s1, s2, a1, a2, g1, g2, g3, g4, g5, g6, g7, g8, g9, g10, _, _, _, g14, _, _, g17, _, _⟩ :=
    lookup_window hwf ha hr h2
  cases res with
  | found x => exact ⟨x, l1, l2, past, s1, s2, a1, g1, g2, g3 _ rfl, g4, g5, g6, g7, g8, g9, g10, g14, g17⟩
  | deleted t => simp [ReadResult.isFound] at hf
  | notFound => simp [ReadResult.isFound] at hf

/-- C08/R6a: the matching upper bound to `read_fresh`, at the RESPONSE and ever after: in
    every state `s'` from the read's completion on, the record the answer classifies (`Found x`: `x` itself, live;
    `Deleted t`: a marker with timestamp `t`) is in the store and is ranked no higher than the first-ranked record of
    the key there — the one a sequential `read` on that store classifies, which bounds every record of the key.
    An answer `NotFound` means the store held no record of the key when the read was invoked. -/
theorem read_upper_bound {st : Store} {ops : List COp} {s : CState} (hwf : st.WF)
    (ha : ∃ a, st.active = some a) (hr : ConcRW.Reach (ConcRW.init st ops) s)
    {i : Nat} {c : Client} {k : Key} {resp : Resp}
    (hc : s.clients[i]? = some c) (hop : c.op = .read k) (hd : c.pc = .done resp) :
    ∃ res, resp = .value res ∧
      (res ≠ .notFound → ∃ q, Wit s.store k res q ∧ ∀ s', ConcRW.Reach s s' →
        ∃ top, Wit s'.store k res q ∧ Wit s'.store k (s'.store.read k none) top ∧ rankLe top q = true ∧
          ∀ p ∈ History.positioned s'.store.history, p.r.key = k → rankLe top p = true) ∧
      (res = .notFound → ∀ p ∈ History.positioned c.born.history, p.r.key ≠ k) := by
  obtain ⟨hi, -⟩ := ConcRW.tinv_reach hwf ha hr
  obtain ⟨res, rfl, hres, -⟩ := (hop ▸ ConcRW.done_respOK hi hc hd).read
  refine ⟨res, rfl, fun hne => ?_, ?_⟩
  · obtain ⟨q, hq⟩ := hres.1 hne
    refine ⟨q, hq, fun s' hr' => ?_⟩
    have hq' : Wit s'.store k res q := hq.mono (ConcRW.reach_sub hi hr')
    have hwf' := (ConcRW.tinv_reach hwf ha (ConcRW.reach_trans hr hr')).1.wf
    obtain ⟨top, h1, h2⟩ := ConcRW.top_bound hwf' hq'.1 hq'.2.1
    exact ⟨top, hq', h1, h2 q hq'.1 hq'.2.1, h2⟩
  · rintro rfl p hp hk
    obtain ⟨q, hq, -⟩ := hres.2 p hp hk
    exact hq.2.2

/-- the stores a schedule passes through, the starting one included -/
def storesAlong : List ConcRW.Label → CState → List Store
  | [], s => [s.store]
  | l :: ls, s => s.store :: match ConcRW.fire l s with
    | some s' => storesAlong ls s'
    | none => []

/-- A read is NOT a regular register when deletes run concurrently (the schedule of
    `read_not_linearizable_with_delete`): the read answers `Deleted(5)`, and NO store between its invocation and its
    response — none of the 23 stores the schedule passes through, first and last included — has `Deleted(5)` as
    its sequential / `Spec` answer for the key (they answer `Found(ts 4)` and, from the write's push on,
    `Found(ts 10)`).  What holds is `read_interval`: active blob at instant 1 (`Found(ts 4)`), closed blobs at
    instant 2 (`Deleted(5)`), merged. -/
theorem read_not_regular_with_delete :
    ∃ s, ConcRW.runSched nlSched (ConcRW.init nlSt nlOps) = some s ∧
      ConcRW.respOf s 0 = some (.value (.deleted 5)) ∧
      (storesAlong nlSched (ConcRW.init nlSt nlOps)).length = nlSched.length + 1 ∧
      (storesAlong nlSched (ConcRW.init nlSt nlOps)).getLast?.map (·.history) = some s.store.history ∧
      ∀ st' ∈ storesAlong nlSched (ConcRW.init nlSt nlOps), st'.read 1 none ≠ .deleted 5 :=
  exists_of_eval (by decide +kernel)

-- non-vacuity of `read_interval` on that run: the trace, instant 1 (after 2 steps: the active blob answers
-- `Found(ts 4)`), instant 2 (after 18 steps: the closed blob answers `Deleted(5)`, which wins with 5 > 4)
theorem nlSt_ok : nlSt.WF ∧ ∃ a, nlSt.active = some a := ⟨run_WF true _, _, rfl⟩
example : (ConcRW.runSched nlSched (ConcRW.init nlSt nlOps)).map (fun s => s.trace.reverse) =
    some [.inv 0 (.read 1), .look 0, .inv 1 (.write 1 10 ⟨3, 3⟩), .push 1 (wrec 1 10 ⟨3, 3⟩),
      .res 1 (.wrote (some ⟨wrec 1 10 ⟨3, 3⟩, 1, 1⟩)), .inv 2 (.delete 1 5 false), .delA 2 1 5 false, .delC 2 1 5,
      .res 2 (.deleted 2), .res 0 (.value (.deleted 5))] := by decide +kernel
example : (ConcRW.runSched (nlSched.take 2) (ConcRW.init nlSt nlOps)).map
      (fun s => (s.trace, ConcRW.lookActive s.store 1)) =
    some ([.inv 0 (.read 1)], .found ⟨1, 4, false, none, ⟨2, 2⟩⟩) := by decide
example : (ConcRW.runSched (nlSched.take 18) (ConcRW.init nlSt nlOps)).map
      (fun s => (s.trace.length, ConcRW.lookClosed s.store 1 .notFound)) = some (9, .deleted 5) := by decide +kernel
example : (ReadResult.found ⟨1, 4, false, none, ⟨2, 2⟩⟩ : ReadResult Rec).latest (.deleted 5) = .deleted 5 := by
  decide
-- `read_interval` and `read_upper_bound` applied to that run, every hypothesis discharged
example (s : CState) (h : ConcRW.runSched nlSched (ConcRW.init nlSt nlOps) = some s) :
    ∃ (s1 s2 : CState), ConcRW.Reach s1 s2 ∧ ConcRW.Reach s2 s ∧
      ReadResult.deleted 5 =
        (ConcRW.lookActive s1.store 1).latest (ConcRW.lookClosed s2.store 1 .notFound) ∧
      ∃ q top, Wit s2.store 1 (.deleted 5) q ∧ Wit s2.store 1 (s2.store.read 1 none) top ∧
        rankLe top q = true := by
  obtain ⟨c, hc, hop, hd⟩ := ConcRW.client_of_run h 0 (.read 1) (.value (.deleted 5)) (by decide +kernel)
  obtain ⟨l1, l2, past, s1, s2, a1, a2, _, _, _, _, _, r12, r2s, _, _, _, _, _, _, hm, _, _, _, _, hub⟩ :=
    read_interval nlSt_ok.1 nlSt_ok.2 (ConcRW.runSched_reach nlSched _ _ _ .refl h) hc hop hd
  obtain ⟨q, top, h1, h2, h3⟩ := hub (by simp)
  exact ⟨s1, s2, r12, r2s, hm, q, top, h1, h2, h3⟩
example (s : CState) (h : ConcRW.runSched nlSched (ConcRW.init nlSt nlOps) = some s) (s' : CState)
    (h' : ConcRW.Reach s s') :
    ∃ q top, Wit s'.store 1 (.deleted 5) q ∧ Wit s'.store 1 (s'.store.read 1 none) top ∧ rankLe top q = true := by
  obtain ⟨c, hc, hop, hd⟩ := ConcRW.client_of_run h 0 (.read 1) (.value (.deleted 5)) (by decide +kernel)
  obtain ⟨res, h1, h2, _⟩ := read_upper_bound nlSt_ok.1 nlSt_ok.2
    (ConcRW.runSched_reach nlSched _ _ _ .refl h) hc hop hd
  cases h1
  obtain ⟨q, _, hq⟩ := h2 (by simp)
  obtain ⟨top, g1, g2, g3, _⟩ := hq s' h'
  exact ⟨q, top, g1, g2, g3⟩
-- … and the sequential answer in that final store is `Found(ts 10)`, ranked above the marker the read returned
example : (ConcRW.runSched nlSched (ConcRW.init nlSt nlOps)).map (fun s => s.store.read 1 none) =
    some (.found (wrec 1 10 ⟨3, 3⟩)) := by decide +kernel
-- `contains_interval` on the run `rwSchedNew` (client 2 probes key 2: `Found(7)`), every hypothesis discharged
example (s : CState) (h : ConcRW.runSched rwSchedNew (ConcRW.init rwSt rwOps) = some s) :
    ∃ (res : ReadResult Rec) (s1 s2 : CState), ReadResult.found 7 = res.map (·.ts) ∧ ConcRW.Reach s1 s2 ∧
      ConcRW.Reach s2 s ∧
      res = (ConcRW.lookActive s1.store 2).latest (ConcRW.lookClosed s2.store 2 .notFound) := by
  obtain ⟨c, hc, hop, hd⟩ := ConcRW.client_of_run h 2 (.contains 2) (.has (.found 7)) (by decide +kernel)
  obtain ⟨res, _, _, _, s1, s2, _, g0, _, _, _, _, _, g6, g7, _, _, _, g11, _⟩ :=
    contains_interval rwSt_ok.1 rwSt_ok.2 (ConcRW.runSched_reach rwSchedNew _ _ _ .refl h) hc hop hd
  exact ⟨res, s1, s2, g0, g6, g7, g11⟩
/-- `allow_duplicates = false`: the first write runs to its acknowledgement, then the second one is skipped -/
def skSched : List ConcRW.Label := List.replicate 13 (.step 0) ++ List.replicate 6 (.step 1)
example : (ConcRW.runSched skSched (ConcRW.init (Store.init false) dupOps)).map
      (fun s => (ConcRW.respOf s 0, ConcRW.respOf s 1)) =
    some (some (.wrote (some ⟨wrec 1 5 ⟨1, 1⟩, 0, 0⟩)), some (.wrote none)) := by decide
-- `skipped_write_interval` on that run: the check found a live record of key 1
example (s : CState) (h : ConcRW.runSched skSched (ConcRW.init (Store.init false) dupOps) = some s) :
    ∃ (x : Rec) (s1 s2 : CState), ConcRW.Reach s1 s2 ∧ ConcRW.Reach s2 s ∧
      ReadResult.found x = (ConcRW.lookActive s1.store 1).latest (ConcRW.lookClosed s2.store 1 .notFound) := by
  obtain ⟨c, hc, hop, hd⟩ := ConcRW.client_of_run h 1 (.write 1 9 ⟨2, 2⟩) (.wrote none) (by decide +kernel)
  obtain ⟨x, _, _, _, s1, s2, _, _, _, _, _, _, g6, g7, _, _, _, g11, _⟩ :=
    skipped_write_interval (init_WF false) ⟨_, rfl⟩ (ConcRW.runSched_reach skSched _ _ _ .refl h) hc hop hd
  exact ⟨x, s1, s2, g6, g7, g11⟩

open CrossDel (ObsEq crossedDel)

/-- the trace of `delete_phase_race` — first phases in the order `i`, `j`, second phases in the order `j`, `i` —
    replays to `crossedDel` -/
theorem crossed_deletes_replay (st : Store) (i j : Nat) (k0 : Key) (ts0 : Nat) (o0 : Bool) (k1 : Key) (ts1 : Nat)
    (o1 : Bool) :
    ConcRW.replay st [.delC i k0 ts0, .delC j k1 ts1, .delA j k1 ts1 o1, .delA i k0 ts0 o0] =
      crossedDel st k0 ts0 o0 k1 ts1 o1 := rfl

/-- C08/R7: for EVERY well-formed store with an active blob and every pair
    of deletes (any keys, timestamps, `only_if_presented` flags), the store left by the crossed schedule — active
    phase of delete 0, active phase of delete 1, closed phase of delete 1, closed phase of delete 0 — is
    OBSERVATIONALLY equal to the store of one of the two sequential orders: `read`, `contains`,
    `read_all_with_deletion_marker` and `read_all` answer the same for every key (`CrossDel.ObsEq`), although the
    stores themselves differ from both (`delete_phase_race`) and the returned counts match neither.

    Which order: with different keys, both.  With one key: the order 0;1 whenever the active blob ends up with a marker
    at least as new as both deletes' timestamps (then everything the orders disagree on lies behind that marker:
    `Abs.cut_sort_invisible`); otherwise delete 1 is the newer one and found the key already dead in the active
    blob, and the answer depends on whether a closed blob visited before the first disputed one carries a marker as new
    as delete 1 (`CrossDel.cross_claim`). -/
theorem crossed_deletes_observational {s : Store} (hwf : s.WF) (ha : ∃ a, s.active = some a)
    (k0 : Key) (ts0 : Nat) (o0 : Bool) (k1 : Key) (ts1 : Nat) (o1 : Bool) :
    ObsEq (crossedDel s k0 ts0 o0 k1 ts1 o1) ((s.delete k0 ts0 none o0).1.delete k1 ts1 none o1).1 ∨
    ObsEq (crossedDel s k0 ts0 o0 k1 ts1 o1) ((s.delete k1 ts1 none o1).1.delete k0 ts0 none o0).1 := by
  have hwX := CrossDel.crossedDel_wf hwf ha k0 ts0 o0 k1 ts1 o1
  obtain ⟨w0, a0⟩ := CrossDel.wf_delete hwf ha k0 ts0 o0
  have hw01 := (CrossDel.wf_delete w0 a0 k1 ts1 o1).1
  obtain ⟨w1, a1⟩ := CrossDel.wf_delete hwf ha k1 ts1 o1
  have hw10 := (CrossDel.wf_delete w1 a1 k0 ts0 o0).1
  obtain ⟨a, ha'⟩ := ha
  have eX : ∀ k', (crossedDel s k0 ts0 o0 k1 ts1 o1).readAllMarked k' = Abs.visOf _ := fun k' => by
    rw [Store.readAllMarked_eq_vis hwX, Store.vis_eq_segs hwX, CrossDel.crossedDel_eq, CrossDel.segs_two ha']
  have e01 : ∀ k', ((s.delete k0 ts0 none o0).1.delete k1 ts1 none o1).1.readAllMarked k' = Abs.visOf _ := fun k' => by
    rw [Store.readAllMarked_eq_vis hw01, Store.vis_eq_segs hw01, CrossDel.seqDel_eq hwf ⟨a, ha'⟩, CrossDel.segs_two ha']
  have e10 : ∀ k', ((s.delete k1 ts1 none o1).1.delete k0 ts0 none o0).1.readAllMarked k' = Abs.visOf _ := fun k' => by
    rw [Store.readAllMarked_eq_vis hw10, Store.vis_eq_segs hw10, CrossDel.seqDel_eq hwf ⟨a, ha'⟩, CrossDel.segs_two ha']
  by_cases hk : k0 = k1
  · subst hk
    have hcore := CrossDel.cross_summaries (m0 := Store.marker k0 ts0 none) (m1 := Store.marker k0 ts1 none) rfl rfl o0 o1
      (Store.seg k0 a) (s.closed.reverse.map (Store.seg k0))
    have hother : ∀ k', k0 ≠ k' → ∀ (t t' : Nat) (o o' : Bool) (c : List Rec),
        CrossDel.del' k0 t o k' (CrossDel.del' k0 t' o' k' c) = c := by
      intro k' hne t t' o o' c; simp [CrossDel.del', hne]
    rcases hcore with hc | hc
    · left
      apply CrossDel.obsEq_of_readAllMarked hwX hw01
      intro k'
      rw [eX, e01]
      by_cases hkk : k0 = k'
      · subst hkk
        simp only [CrossDel.del', ↓reduceIte]
        exact hc
      · simp only [hother k' hkk]
    · right
      apply CrossDel.obsEq_of_readAllMarked hwX hw10
      intro k'
      rw [eX, e10]
      by_cases hkk : k0 = k'
      · subst hkk
        simp only [CrossDel.del', ↓reduceIte]
        exact hc
      · simp only [hother k' hkk]
  · left
    apply CrossDel.obsEq_of_readAllMarked hwX hw01
    intro k'
    rw [eX, e01]
    congr 2
    apply List.map_congr_left
    intro c _
    exact CrossDel.del'_comm hk ts0 ts1 true true k' c

/-- … in terms of `Spec`: the two histories give the same `Spec.latest`, `Spec.allCut` and `Spec.allLive` records for
    every key -/
theorem crossed_deletes_spec {s : Store} (hwf : s.WF) (ha : ∃ a, s.active = some a)
    (k0 : Key) (ts0 : Nat) (o0 : Bool) (k1 : Key) (ts1 : Nat) (o1 : Bool) :
    ∃ seq : Store, (seq = ((s.delete k0 ts0 none o0).1.delete k1 ts1 none o1).1 ∨
        seq = ((s.delete k1 ts1 none o1).1.delete k0 ts0 none o0).1) ∧
      ∀ k, (Spec.latest (crossedDel s k0 ts0 o0 k1 ts1 o1).history k).map (·.r) =
          (Spec.latest seq.history k).map (·.r) ∧
        (Spec.allCut (crossedDel s k0 ts0 o0 k1 ts1 o1).history k).map (·.r) =
          (Spec.allCut seq.history k).map (·.r) ∧
        (Spec.allLive (crossedDel s k0 ts0 o0 k1 ts1 o1).history k).map (·.r) =
          (Spec.allLive seq.history k).map (·.r) := by
  have hwX := CrossDel.crossedDel_wf hwf ha k0 ts0 o0 k1 ts1 o1
  obtain ⟨w0, a0⟩ := CrossDel.wf_delete hwf ha k0 ts0 o0
  obtain ⟨w1, a1⟩ := CrossDel.wf_delete hwf ha k1 ts1 o1
  rcases crossed_deletes_observational hwf ha k0 ts0 o0 k1 ts1 o1 with h | h
  · exact ⟨_, .inl rfl, h.spec hwX (CrossDel.wf_delete w0 a0 k1 ts1 o1).1⟩
  · exact ⟨_, .inr rfl, h.spec hwX (CrossDel.wf_delete w1 a1 k0 ts0 o0).1⟩

theorem delSt_ok : delSt.WF ∧ ∃ a, delSt.active = some a := ⟨run_WF true _, _, rfl⟩

/-- … applied to `delete_phase_race`: the store that schedule ends in differs from both sequential stores, and is
    observationally equal to one of them (here, concretely, to both: every order leaves `Deleted(10)`) -/
theorem delete_phase_race_observational (s : CState)
    (h : ConcRW.runSched delSched (ConcRW.init delSt delOps) = some s) :
    s.store = crossedDel delSt 1 10 true 1 3 true ∧
    (ObsEq s.store ((delSt.delete 1 10 none true).1.delete 1 3 none true).1 ∨
      ObsEq s.store ((delSt.delete 1 3 none true).1.delete 1 10 none true).1) := by
  have hr := ConcRW.runSched_reach delSched _ _ _ .refl h
  have e : ConcRW.muts s.trace = [.delA 0 1 10 true, .delA 1 1 3 true, .delC 1 1 3, .delC 0 1 10] :=
    of_eval h (by decide +kernel)
  have hs : s.store = crossedDel delSt 1 10 true 1 3 true := by
    rw [(store_eq_replay delSt_ok.1 delSt_ok.2 hr).1, ConcRW.replay_eq_muts, e]
    rfl
  refine ⟨hs, ?_⟩
  rw [hs]
  exact crossed_deletes_observational delSt_ok.1 delSt_ok.2 1 10 true 1 3 true

-- the crossed store, the two sequential stores, and what a reader sees of key 1
example : (crossedDel delSt 1 10 true 1 3 true).history =
    [(0, [wrec 1 5 ⟨1, 1⟩, ConcBytes.dmark 1 3, ConcBytes.dmark 1 10]), (1, [wrec 1 5 ⟨2, 2⟩, ConcBytes.dmark 1 10])] := by
  decide
example : ((delSt.delete 1 10 none true).1.delete 1 3 none true).1.history =
    [(0, [wrec 1 5 ⟨1, 1⟩, ConcBytes.dmark 1 10]), (1, [wrec 1 5 ⟨2, 2⟩, ConcBytes.dmark 1 10])] := by decide
example : ((delSt.delete 1 3 none true).1.delete 1 10 none true).1.history =
    [(0, [wrec 1 5 ⟨1, 1⟩, ConcBytes.dmark 1 3, ConcBytes.dmark 1 10]),
     (1, [wrec 1 5 ⟨2, 2⟩, ConcBytes.dmark 1 3, ConcBytes.dmark 1 10])] := by decide
example : [(crossedDel delSt 1 10 true 1 3 true).readAllMarked 1,
      ((delSt.delete 1 10 none true).1.delete 1 3 none true).1.readAllMarked 1,
      ((delSt.delete 1 3 none true).1.delete 1 10 none true).1.readAllMarked 1] =
    [[ConcBytes.dmark 1 10], [ConcBytes.dmark 1 10], [ConcBytes.dmark 1 10]] := by decide +kernel
-- a case in which only ONE order matches: three blobs (0, 1 closed; 2 active), each holding key 1 @ ts 5; delete 0
-- has ts 10, delete 1 has ts 20.  Crossed: the active blob gets marker 10 from delete 0, after which the key is dead
-- there and delete 1 adds nothing; the closed blobs get marker 20 from delete 1, after which delete 0 adds nothing.
-- A reader sees `Deleted(20)` — as after the order 1;0 (marker 20 everywhere); the order 0;1 leaves marker 10
-- everywhere and shows `Deleted(10)`
def xSt : Store := (Store.init true).run [.write 1 5 none ⟨1, 1⟩, .replaceActive, .write 1 5 none ⟨2, 2⟩,
  .replaceActive, .write 1 5 none ⟨3, 3⟩]
example : [(crossedDel xSt 1 10 true 1 20 true).readAllMarked 1,
      ((xSt.delete 1 10 none true).1.delete 1 20 none true).1.readAllMarked 1,
      ((xSt.delete 1 20 none true).1.delete 1 10 none true).1.readAllMarked 1] =
    [[ConcBytes.dmark 1 20], [ConcBytes.dmark 1 10], [ConcBytes.dmark 1 20]] := by decide +kernel
example : xSt.WF ∧ ∃ a, xSt.active = some a := ⟨run_WF true _, _, rfl⟩
example : ObsEq (crossedDel xSt 1 10 true 1 20 true) ((xSt.delete 1 10 none true).1.delete 1 20 none true).1 ∨
    ObsEq (crossedDel xSt 1 10 true 1 20 true) ((xSt.delete 1 20 none true).1.delete 1 10 none true).1 :=
  crossed_deletes_observational (run_WF true _) ⟨_, rfl⟩ 1 10 true 1 20 true
-- … and it is the second alternative that holds here: the first one is refuted by key 1
example : ¬ ObsEq (crossedDel xSt 1 10 true 1 20 true) ((xSt.delete 1 10 none true).1.delete 1 20 none true).1 := by
  intro h
  have := (h 1).2.2.1
  revert this
  decide +kernel

/-! ### `read_all` under concurrency

`Storage::read_all_with_deletion_marker` is not an operation of `Pearl.ConcRW`, but it has the shape of `read`: one
shared guard of the storage lock over both phases, the active blob listed under a temporary `ablob.read()`, then the
closed blobs under `blobs.read()`.  It changes nothing, so a run of it is a pair of instants `s1` (active blob listed)
and `s2` (closed blobs listed) of a run of the other clients with no rotation in between; what it returns is
`read_all_with_deletion_marker` of the hybrid store `hyb s2.store a1`. -/

/-- C08/R8: `read_all_with_deletion_marker k` whose two phases fall on the instants `s1`,
    `s2` (no rotation in between: it holds the storage lock shared) returns
    1. the `Spec` list (rank order, cut behind the first marker) of the hybrid history;
    2. PROVENANCE: only records of key `k` that the store holds at instant 2, and every listed non-marker has its
       bytes in the file and was in the starting store or is the record `wrec k ts d` pushed by a `write k ts d`
       client;
    3. FRESHNESS, for every listed version: every record of the key that the store held at instant 1 — in
       particular the record of every write acknowledged before — is listed at its place, unless the list ends in a
       marker that is ranked above it. -/
theorem read_all_concurrent {st : Store} {ops : List COp} {s1 s2 : CState} (hwf : st.WF)
    (ha : ∃ a, st.active = some a) (r1 : ConcRW.Reach (ConcRW.init st ops) s1) (r12 : ConcRW.Reach s1 s2)
    {l2 : List Ev} (ht : s2.trace = l2 ++ s1.trace) (hnr : Ev.rot ∉ l2) {a1 : Blob}
    (ha1 : s1.store.active = some a1) (k : Key) :
    (ConcRW.hyb s2.store a1).readAllMarked k =
        (Spec.allCut (ConcRW.hyb s2.store a1).history k).map (·.r) ∧
    (∀ q ∈ Spec.allCut (ConcRW.hyb s2.store a1).history k,
      q.r.key = k ∧ q ∈ History.positioned s2.store.history ∧
        (q.r.del = false → q.r ∈ s2.landed ∧ (InStore st q.r ∨
          ∃ j ts d, ops[j]? = some (COp.write k ts d) ∧ q.r = wrec k ts d ∧ Ev.push j q.r ∈ s2.trace))) ∧
    (∀ p ∈ History.positioned s1.store.history, p.r.key = k →
      p ∈ Spec.allCut (ConcRW.hyb s2.store a1).history k ∨
        ∃ d ∈ Spec.allCut (ConcRW.hyb s2.store a1).history k, d.r.del = true ∧ rankBefore d p = true) ∧
    (∀ w p, Ev.res w (.wrote (some p)) ∈ s1.trace → p ∈ History.positioned s1.store.history) := by
  obtain ⟨hi1, ht1⟩ := ConcRW.tinv_reach hwf ha r1
  obtain ⟨hi2, ht2⟩ := ConcRW.tinv_reach hwf ha (ConcRW.reach_trans r1 r12)
  obtain ⟨a2, ha2, hble, hsub⟩ := ConcRW.norot_reach hi1 r12 l2 ht hnr a1 ha1
  have hwfh : (ConcRW.hyb s2.store a1).WF := ConcRW.hyb_wf hi2.wf ha2 hble.1.symm
  have hsub2 : ConcRW.Sub (ConcRW.hyb s2.store a1) s2.store := ConcRW.hyb_sub_self ha2 hble
  have hsorted := Spec.all_sorted (ConcRW.hyb s2.store a1).history k hwfh.history_nodup
  refine ⟨readAllMarked_eq_spec hwfh k, ?_, ?_, ?_⟩
  · intro q hq
    obtain ⟨hq1, hq2⟩ := mem_all_iff.1 ((cut_sublist _).subset hq)
    have hq3 := hsub2 q hq1
    refine ⟨hq2, hq3, fun hd => ?_⟩
    have hin := ConcRW.inStore_of_positioned hq3
    exact ⟨hi2.landed _ hin hd, ht2.provenance hin hd hq2⟩
  · intro p hp hk
    exact Decidable.or_iff_not_imp_left.2
      (exists_del_cut_before hsorted (mem_all_iff.2 ⟨hsub p hp, hk⟩))
  · intro w p hack
    obtain ⟨c, hc, hd⟩ := ht1.res w _ hack
    exact (ConcRW.done_respOK hi1 hc hd).1

-- non-vacuity on the schedule of `read_not_linearizable_with_delete`: instant 1 after 2 steps, instant 2 after 18
-- steps (the write and the delete lie in between, no rotation): the list is `[marker 5]` — the hybrid history
-- holds the marker of the closed blob and, of the active blob, only the record @ ts 4 below it
example : (ConcRW.runSched (nlSched.take 2) (ConcRW.init nlSt nlOps)).bind (fun s1 =>
      (ConcRW.runSched ((nlSched.take 18).drop 2) s1).bind (fun s2 =>
        s1.store.active.map (fun a1 =>
          (decide (s2.trace = s2.trace.take 8 ++ s1.trace ∧ Ev.rot ∉ s2.trace.take 8),
            (ConcRW.hyb s2.store a1).readAllMarked 1, s2.store.readAllMarked 1)))) =
    some (true, [ConcBytes.dmark 1 5], [wrec 1 10 ⟨3, 3⟩, ConcBytes.dmark 1 5]) := by decide +kernel
-- `read_all_concurrent` applied to these two instants, every hypothesis discharged: the record @ ts 4 that the store
-- held at instant 1 (blob 1, position 0) is listed or lies behind a listed marker
example (s1 s2 : CState) (h1 : ConcRW.runSched (nlSched.take 2) (ConcRW.init nlSt nlOps) = some s1)
    (h2 : ConcRW.runSched ((nlSched.take 18).drop 2) s1 = some s2) (a1 : Blob) (ha1 : s1.store.active = some a1) :
    (⟨⟨1, 4, false, none, ⟨2, 2⟩⟩, 1, 0⟩ : PRec) ∈ Spec.allCut (ConcRW.hyb s2.store a1).history 1 ∨
      ∃ d ∈ Spec.allCut (ConcRW.hyb s2.store a1).history 1, d.r.del = true ∧
        rankBefore d ⟨⟨1, 4, false, none, ⟨2, 2⟩⟩, 1, 0⟩ = true := by
  have r1 := ConcRW.runSched_reach _ _ _ _ .refl h1
  have r12 := ConcRW.runSched_reach _ _ _ _ .refl h2
  have e : (ConcRW.runSched (nlSched.take 2) (ConcRW.init nlSt nlOps)).bind (fun s1 =>
      (ConcRW.runSched ((nlSched.take 18).drop 2) s1).map (fun s2 =>
        (decide (s2.trace = s2.trace.take 8 ++ s1.trace ∧ Ev.rot ∉ s2.trace.take 8),
          decide ((⟨⟨1, 4, false, none, ⟨2, 2⟩⟩, 1, 0⟩ : PRec) ∈ History.positioned s1.store.history)))) =
      some (true, true) := by decide +kernel
  rw [h1] at e
  simp only [Option.bind_some, h2, Option.map_some, Option.some.injEq, Prod.mk.injEq, decide_eq_true_eq] at e
  exact (read_all_concurrent nlSt_ok.1 nlSt_ok.2 r1 r12 e.1.1 e.1.2 ha1 1).2.2.1 _ e.2 rfl

/-! ### the product with the byte ranges (`Pearl.ConcBytes`, `Pearl/Model/ConcBytes.lean`)

`Pearl.ConcRW` says "the bytes of `r` are in the file" (`landed`); `Pearl.Append` says which bytes a `fetch_add`
hands out.  The product gives every byte-producing step of `Pearl.ConcRW` its `Pearl.Append` meaning: the
`wBlob → wReserved` step of a write is `size.fetch_add(Fs.recLen klen r)` on the file of the active (= landing) blob,
`wReserved → wWritten` is `write_all_at` into that range, and the marker phases of a delete reserve and fill
`Fs.recLen klen marker` bytes per marked blob. -/

open ConcBytes (BState BReach binit brun Alloc sizeOf)

/-- C08/B1: in every reachable state of the product, for every schedule, any number of
    clients, any key length:
    1. the byte ranges of ALL reservations of one blob file — landed records (`written`), in-flight records (not
       yet `written`), markers — are pairwise disjoint; more precisely they lie one after the other in the order of
       the `fetch_add`s;
    2. each starts at or above the length the file had initially (the records the store started with are never
       touched), ends at or below the file's size counter, and has the length of its record;
    3. the reservations not yet filled are exactly the writes in flight: each belongs to a client at `wReserved`,
       and a client at `wReserved` has one, in the active blob, for its record;
    4. every record `Pearl.ConcRW` calls `landed` was in the starting store or has a FILLED range;
    5. every byte of a filled range carries the mark of the client that filled it, and every written byte lies in a
       filled range of its writer: nobody writes outside what it reserved. -/
theorem landed_ranges_disjoint {klen : Nat} {st : Store} {ops : List COp} {b : BState} (hwf : st.WF)
    (ha : ∃ a, st.active = some a) (hr : BReach klen (binit klen st ops) b) :
    b.y.allocs.Pairwise (fun x z => x.blob = z.blob → z.rng.stop ≤ x.rng.off ∧ x.rng.Disjoint z.rng) ∧
    (∀ x ∈ b.y.allocs, sizeOf klen st x.blob ≤ x.rng.off ∧ x.rng.stop ≤ b.y.size x.blob ∧
      x.rng.len = Fs.recLen klen x.r) ∧
    (∀ x ∈ b.y.allocs, x.written = false → ∃ c, b.c.clients[x.client]? = some c ∧ c.pc = .wReserved) ∧
    (∀ i c, b.c.clients[i]? = some c → c.pc = .wReserved →
      ∃ x ∈ b.y.allocs, x.client = i ∧ x.written = false ∧ (∃ a, b.c.store.active = some a ∧ x.blob = a.id) ∧
        ∃ k ts d, c.op = .write k ts d ∧ x.r = wrec k ts d) ∧
    (∀ r ∈ b.c.landed, InStore st r ∨ ∃ x ∈ b.y.allocs, x.written = true ∧ x.r = r) ∧
    (∀ x ∈ b.y.allocs, x.written = true → ∀ o, x.rng.off ≤ o → o < x.rng.stop →
      b.y.file x.blob o = some x.client) ∧
    (∀ bl o i, b.y.file bl o = some i → ∃ x ∈ b.y.allocs, x.client = i ∧ x.blob = bl ∧ x.written = true ∧
      x.rng.off ≤ o ∧ o < x.rng.stop) := by
  have hp := ConcBytes.pinv_reach hwf ha hr
  have hb := ConcRW.binv_reach (ConcBytes.breach_reach hr)
  refine ⟨hp.ok.sorted.imp (fun h hb => ⟨h hb, Or.inr (h hb)⟩),
    fun x hx => ⟨hp.ok.base x hx, hp.ok.bound x hx, hp.len x hx⟩, hp.inflight, ?_, hp.landed, hp.ok.intact,
    hp.ok.own⟩
  intro i c hc hpc
  obtain ⟨x, hx, g1, g2, g3, g4⟩ := (hp.client i c hc).1 hpc
  obtain ⟨k, ts, d, hop⟩ := ConcBytes.typed_write (hb.typed c (List.mem_of_getElem? hc)) (.inr hpc)
  exact ⟨x, hx, g1, g2, g3, k, ts, d, hop, g4 k ts d hop⟩

/-- C08/B2: a write acknowledged with place `p` owns a filled range of
    `Fs.recLen klen p.r` bytes in the file of blob `p.blob`, and in EVERY later state that range is still its
    reservation, every byte of it still carries its mark, and every other reservation of that file — whoever makes it,
    whenever — is disjoint from it: an acknowledged record's bytes are never written again. -/
theorem acked_range_never_rewritten {klen : Nat} {st : Store} {ops : List COp} {b : BState} (hwf : st.WF)
    (ha : ∃ a, st.active = some a) (hr : BReach klen (binit klen st ops) b)
    {i : Nat} {p : PRec} (hack : Ev.res i (.wrote (some p)) ∈ b.c.trace) :
    ∃ x ∈ b.y.allocs, x.client = i ∧ x.blob = p.blob ∧ x.r = p.r ∧ x.written = true ∧
      x.rng.len = Fs.recLen klen p.r ∧ sizeOf klen st p.blob ≤ x.rng.off ∧
      ∀ b', BReach klen b b' →
        x ∈ b'.y.allocs ∧ x.rng.stop ≤ b'.y.size p.blob ∧
        (∀ o, x.rng.off ≤ o → o < x.rng.stop → b'.y.file p.blob o = some i) ∧
        ∀ z ∈ b'.y.allocs, z ≠ x → z.blob = p.blob → x.rng.Disjoint z.rng := by
  have hp := ConcBytes.pinv_reach hwf ha hr
  obtain ⟨x, hx, g1, g2, g3, g4⟩ := ConcBytes.acked_alloc hwf ha hr hack
  refine ⟨x, hx, g1, g3, g4, g2, by rw [hp.len x hx, g4], by rw [← g3]; exact hp.ok.base x hx, ?_⟩
  intro b' hr'
  have hp' := ConcBytes.pinv_reach hwf ha (ConcBytes.breach_trans hr hr')
  have hx' := ConcBytes.breach_written hr' x hx g2
  refine ⟨hx', by rw [← g3]; exact hp'.ok.bound x hx', ?_, ?_⟩
  · intro o h1 h2
    rw [← g3, ← g1]
    exact hp'.ok.intact x hx' g2 o h1 h2
  · intro z hz hne hzb
    rcases ConcBytes.pairwise_forall hp'.ok.sorted x hx' z hz (Ne.symm hne) with h | h
    · exact Or.inr (h (by rw [g3, hzb]))
    · exact Or.inl (h (by rw [g3, hzb]))

-- non-vacuity: the schedule of `read_not_linearizable_with_delete` at key length 4 — a write of 72 bytes and two
-- markers of 69 bytes; blob file 1 was 91 bytes long: the record at [91, 163), the marker at [163, 232); blob file 0
-- was 90 bytes long: the marker at [90, 159)
example : (brun 4 nlSched (binit 4 nlSt nlOps)).map
      (fun b => (b.y.allocs, b.y.size 0, b.y.size 1, sizeOf 4 nlSt 0, sizeOf 4 nlSt 1)) =
    some ([⟨2, 0, ⟨90, 69⟩, ConcBytes.dmark 1 5, true⟩, ⟨2, 1, ⟨163, 69⟩, ConcBytes.dmark 1 5, true⟩,
           ⟨1, 1, ⟨91, 72⟩, wrec 1 10 ⟨3, 3⟩, true⟩], 159, 232, 90, 91) := by decide +kernel
example : (brun 4 nlSched (binit 4 nlSt nlOps)).map
      (fun b => [b.y.file 1 90, b.y.file 1 91, b.y.file 1 162, b.y.file 1 163, b.y.file 1 231, b.y.file 1 232,
                 b.y.file 0 89, b.y.file 0 90]) =
    some [none, some 1, some 1, some 2, some 2, none, none, some 2] := by decide +kernel
-- an in-flight reservation: after 7 steps the writer (client 1) has reserved and not yet written
example : (brun 4 (nlSched.take 7) (binit 4 nlSt nlOps)).map
      (fun b => (b.y.allocs, b.c.clients.map (fun c => decide (c.pc.weight = 9)), b.y.file 1 91)) =
    some ([⟨1, 1, ⟨91, 72⟩, wrec 1 10 ⟨3, 3⟩, false⟩], [false, true, false], none) := by decide +kernel
-- `landed_ranges_disjoint` applied to the state with the write in flight: the reservation is the client's, in the
-- active blob, of the length of its record, above the 91 bytes the file had
example (b : BState) (h : brun 4 (nlSched.take 7) (binit 4 nlSt nlOps) = some b) :
    ∃ x ∈ b.y.allocs, x.client = 1 ∧ x.written = false ∧ x.r = wrec 1 10 ⟨3, 3⟩ ∧ 91 ≤ x.rng.off ∧
      x.rng.len = 72 ∧ x.rng.stop ≤ b.y.size x.blob := by
  obtain ⟨e1, e2⟩ : b.c.clients[1]?.map (fun c => (c.op, c.pc.weight)) = some (.write 1 10 ⟨3, 3⟩, 9) ∧
      b.c.store.active.map (·.id) = some 1 := of_eval h (by decide +kernel)
  obtain ⟨c, hc, e1⟩ := Option.map_eq_some_iff.1 e1
  obtain ⟨e1, e3⟩ := Prod.mk.inj e1
  have hpc : c.pc = .wReserved := by
    cases hp : c.pc <;> simp [hp, ConcRW.Pc.weight] at e3
    rfl
  obtain ⟨-, h2, -, h4, -⟩ :=
    landed_ranges_disjoint nlSt_ok.1 nlSt_ok.2 (ConcBytes.brun_reach 4 _ _ _ _ .refl h)
  obtain ⟨x, hx, g1, g2, ⟨a, ga, gb⟩, k, ts, d, gop, gr⟩ := h4 1 c hc hpc
  rw [e1] at gop; cases gop
  obtain ⟨f1, f2, f3⟩ := h2 x hx
  rw [ga] at e2
  rw [gb, show a.id = 1 from Option.some.inj e2, show sizeOf 4 nlSt 1 = 91 by decide] at f1
  exact ⟨x, hx, g1, g2, gr, f1, by rw [f3, gr]; decide, f2⟩
-- `acked_range_never_rewritten` applied to the full run, every hypothesis discharged
example (b : BState) (h : brun 4 nlSched (binit 4 nlSt nlOps) = some b) (b' : BState) (h' : BReach 4 b b') :
    ∃ x : Alloc, x.rng.len = 72 ∧ x ∈ b'.y.allocs ∧
      (∀ o, x.rng.off ≤ o → o < x.rng.stop → b'.y.file 1 o = some 1) := by
  have e : Ev.res 1 (.wrote (some ⟨wrec 1 10 ⟨3, 3⟩, 1, 1⟩)) ∈ b.c.trace := of_eval h (by decide +kernel)
  obtain ⟨x, _, _, _, _, _, h5, _, h7⟩ := acked_range_never_rewritten nlSt_ok.1 nlSt_ok.2
    (ConcBytes.brun_reach 4 nlSched _ _ _ .refl h) e
  obtain ⟨g1, _, g3, _⟩ := h7 b' h'
  exact ⟨x, by rw [h5]; decide, g1, g3⟩

/-- C08/B3: the offsets the `fetch_add`s hand out are the offsets of the sequential file
    layout `Fs.contentLen` (`Pearl/Model/Fs.lean`: header, then the records one after the other).  In every reachable
    state of the product:
    1. the size counter of every closed blob file is `Fs.contentLen klen` of its records; that of the active blob
       file is `Fs.contentLen klen` of its records plus `ConcBytes.pend`, the bytes of the write between its
       `fetch_add` and its `index.push` — and `pend` is 0 when no client is there (at `wReserved` / `wWritten`);
    2. a blob that does not exist yet has a file of `blobHeaderSize` bytes;
    3. every reservation is PLACED — it starts at `Fs.contentLen klen (bl.recs.take n)` for a position `n` of its
       blob `bl` that holds its record, and has that record's length — or it is the reservation of the write in
       flight, which starts exactly where the active blob's records end;
    4. when nobody is in flight — in particular in every quiescent state — every reservation is placed and every size
       counter is the `Fs.contentLen` of its blob: the file the concurrent run builds is the file of the sequential
       model. -/
theorem ranges_follow_layout {klen : Nat} {st : Store} {ops : List COp} {b : BState} (hwf : st.WF)
    (ha : ∃ a, st.active = some a) (hr : BReach klen (binit klen st ops) b) :
    (∀ bl ∈ b.c.store.closed, b.y.size bl.id = Fs.contentLen klen bl.recs) ∧
    (∀ a, b.c.store.active = some a →
      b.y.size a.id = Fs.contentLen klen a.recs + ConcBytes.pend klen b.c.clients) ∧
    (∀ id, b.c.store.nextId ≤ id → b.y.size id = blobHeaderSize) ∧
    (∀ x ∈ b.y.allocs, x.rng.len = Fs.recLen klen x.r ∧
      (ConcBytes.Placed klen b.c.store x ∨
        ∃ c a, b.c.clients[x.client]? = some c ∧ (c.pc = .wReserved ∨ c.pc = .wWritten) ∧
          b.c.store.active = some a ∧ x.blob = a.id ∧ x.rng.off = Fs.contentLen klen a.recs ∧
          ∀ k ts d, c.op = .write k ts d → x.r = wrec k ts d)) ∧
    ((∀ c ∈ b.c.clients, c.pc ≠ .wReserved ∧ c.pc ≠ .wWritten) →
      (∀ bl ∈ b.c.store.blobs, b.y.size bl.id = Fs.contentLen klen bl.recs) ∧
      ∀ x ∈ b.y.allocs, ConcBytes.Placed klen b.c.store x) := by
  have hl := ConcBytes.layinv_reach hwf ha hr
  have hp := ConcBytes.pinv_reach hwf ha hr
  refine ⟨hl.closed, hl.active, hl.fresh, fun x hx => ⟨hp.len x hx, hl.place x hx⟩, ?_⟩
  intro hq
  have h0 := ConcBytes.pend_zero (klen := klen) hq
  refine ⟨?_, ?_⟩
  · intro bl hbl
    simp only [Store.blobs, List.mem_append, Option.mem_toList] at hbl
    rcases hbl with hbl | hbl
    · exact hl.closed bl hbl
    · have := hl.active bl hbl
      omega
  · intro x hx
    rcases hl.place x hx with h1 | ⟨c, _, h1, h2, _⟩
    · exact h1
    · have := hq c (List.mem_of_getElem? h1)
      rcases h2 with h2 | h2
      · exact absurd h2 this.1
      · exact absurd h2 this.2

-- non-vacuity: at the end of the run above nobody is in flight; blob file 1 holds 3 records in 232 bytes, and the
-- acknowledged record (position 1 of blob 1) starts at `contentLen` of the one record before it
example : (brun 4 nlSched (binit 4 nlSt nlOps)).map (fun b =>
      (b.c.clients.map (fun c => decide (c.pc.weight = 0)),
       b.c.store.blobs.map (fun bl => (bl.id, b.y.size bl.id, Fs.contentLen 4 bl.recs)),
       Fs.contentLen 4 [⟨1, 4, false, none, ⟨2, 2⟩⟩])) =
    some ([true, true, true], [(0, 159, 159), (1, 232, 232)], 91) := by decide +kernel
-- `ranges_follow_layout` applied to the end of that run (nobody in flight), every hypothesis discharged
example (b : BState) (h : brun 4 nlSched (binit 4 nlSt nlOps) = some b) :
    (∀ bl ∈ b.c.store.blobs, b.y.size bl.id = Fs.contentLen 4 bl.recs) ∧
      ∀ x ∈ b.y.allocs, ConcBytes.Placed 4 b.c.store x := by
  have e : ∀ c ∈ b.c.clients, c.pc.weight = 0 := of_eval h (by decide +kernel)
  refine (ranges_follow_layout nlSt_ok.1 nlSt_ok.2 (ConcBytes.brun_reach 4 nlSched _ _ _ .refl h)).2.2.2.2 ?_
  intro c hc
  have := e c hc
  constructor <;> intro hp <;> rw [hp] at this <;> cases this
-- … and while the write is in flight (7 steps) the counter of the active blob file runs ahead of the index by the
-- 72 bytes of that record
example : (brun 4 (nlSched.take 7) (binit 4 nlSt nlOps)).map (fun b =>
      (b.c.store.blobs.map (fun bl => (bl.id, b.y.size bl.id, Fs.contentLen 4 bl.recs)),
       ConcBytes.pend 4 b.c.clients)) =
    some ([(0, 90, 90), (1, 163, 91)], 72) := by decide +kernel

/-- C08/B4: the bytes of an acknowledged write are exactly where the sequential file
    layout puts its acknowledged place: in EVERY later state the blob `p.blob` holds `p.r` at position `p.seq`, and the
    write's filled range is `[Fs.contentLen klen (records before position p.seq), + Fs.recLen klen p.r)` — the range
    `Pearl.Fs` (C06) assigns to the `p.seq`-th record of that blob file. -/
theorem acked_range_at_place {klen : Nat} {st : Store} {ops : List COp} {b : BState} (hwf : st.WF)
    (ha : ∃ a, st.active = some a) (hr : BReach klen (binit klen st ops) b)
    {i : Nat} {p : PRec} (hack : Ev.res i (.wrote (some p)) ∈ b.c.trace) :
    ∃ x ∈ b.y.allocs, x.client = i ∧ x.written = true ∧ x.blob = p.blob ∧ x.r = p.r ∧
      ∀ b', BReach klen b b' → x ∈ b'.y.allocs ∧
        ∃ bl ∈ b'.c.store.blobs, bl.id = p.blob ∧ bl.recs[p.seq]? = some p.r ∧
          x.rng = ⟨Fs.contentLen klen (bl.recs.take p.seq), Fs.recLen klen p.r⟩ := by
  obtain ⟨x, hx, g1, g2, g3, g4⟩ := ConcBytes.acked_alloc hwf ha hr hack
  refine ⟨x, hx, g1, g2, g3, g4, fun b' hr' => ?_⟩
  have hr2 := ConcBytes.breach_trans hr hr'
  have hx' := ConcBytes.breach_written hr' x hx g2
  obtain ⟨c', hc', hd'⟩ := (ConcRW.tinv_reach hwf ha (ConcBytes.breach_reach hr2)).2.res i _
    (ConcBytes.mem_trace_of_breach hr' hack)
  obtain ⟨_, bl, hbl, h1, h2, h3⟩ :=
    (ConcBytes.seqinv_reach hwf ha hr2).seq i c' p hc' (by rw [hd']; rfl) x hx' g1
  refine ⟨hx', bl, hbl, h1, h2, ?_⟩
  show (⟨x.rng.off, x.rng.len⟩ : Range) = _
  rw [h3, (ConcBytes.pinv_reach hwf ha hr2).len x hx', g4]

-- `acked_range_at_place` on the run above: the record acknowledged at blob 1, position 1 lies at
-- `[contentLen [record @ ts 4], + 72) = [91, 163)`, in every later state
example (b : BState) (h : brun 4 nlSched (binit 4 nlSt nlOps) = some b) (b' : BState) (h' : BReach 4 b b') :
    ∃ bl ∈ b'.c.store.blobs, bl.id = 1 ∧ bl.recs[1]? = some (wrec 1 10 ⟨3, 3⟩) ∧
      (⟨1, 1, ⟨Fs.contentLen 4 (bl.recs.take 1), 72⟩, wrec 1 10 ⟨3, 3⟩, true⟩ : Alloc) ∈ b'.y.allocs := by
  have e : Ev.res 1 (.wrote (some ⟨wrec 1 10 ⟨3, 3⟩, 1, 1⟩)) ∈ b.c.trace := of_eval h (by decide +kernel)
  obtain ⟨x, _, g1, g2, g3, g4, h7⟩ := acked_range_at_place nlSt_ok.1 nlSt_ok.2
    (ConcBytes.brun_reach 4 nlSched _ _ _ .refl h) e
  obtain ⟨hx', bl, hbl, k1, k2, k3⟩ := h7 b' h'
  refine ⟨bl, hbl, k1, k2, ?_⟩
  have : x = ⟨1, 1, ⟨Fs.contentLen 4 (bl.recs.take 1), 72⟩, wrec 1 10 ⟨3, 3⟩, true⟩ := by
    cases x with
    | mk cl blb rng r w =>
      simp only at g1 g2 g3 g4 k3
      subst g1 g2 g3 g4
      rw [k3]
      rfl
  rw [← this]; exact hx'

end C08
end Pearl

/-
NOT PROVED, FALSE, OR ASSUMED (C08, second half)

* Linearizability of `read`/`contains` under concurrent deletes is false (`read_not_linearizable_with_delete`), and so
  is the regular-register property "the answer is the `Spec` answer of SOME store between invocation and response"
  (`read_not_regular_with_delete`).  What holds is the lower bound `read_fresh`, the upper bound `read_upper_bound`
  and the window `read_interval` (`contains_interval`, `skipped_write_interval`).
* Store equality with the sequential model is false for crossing delete phases and for the duplicate-check race
  (`delete_phase_race`, `duplicate_check_race`).  For two crossed deletes the store is observationally equal to one of
  the two sequential orders (`crossed_deletes_observational`); the returned counts are not.  Not proved: more than two
  overlapping deletes, and deletes crossed with writes of the same key between the phases (the combinatorial core
  `CrossDel.cross_summaries` is for two deletes and nothing in between).  The duplicate-check race is observable:
  `read_all` lists two records.
* `read_with` / `write_with` / `delete_with` (metadata) under concurrency are not modelled (the sequential versions
  are C02).  `read_all` / `read_all_with_deletion_marker` are not operations of `Pearl.ConcRW`; `read_all_concurrent`
  treats a run of them as a pair of instants of a run of the other clients (sound because they change nothing and
  hold the storage lock shared), and does not cover their data loads (`Entry::load` of every listed entry happens
  after the listing; a listed live record has its bytes in the file already: clause 2).
* The model assumes an active blob throughout (no concurrent `close_active_blob` / `restore_active_blob`), no I/O
  errors, and filters that are transparent (C10) and updated before a header becomes visible (`IndexStruct::push`
  adds the key to the filter before inserting, under the index write lock).
* `client_progress` says that some enabled step exists; fairness of tokio's scheduler and of `async_lock::RwLock` is
  not modelled.  The storage lock's writer preference and the worker channel are the subject of `no_deadlock`, not of
  `Pearl.ConcRW`, where rotation is one atomic step.
* Byte offsets (`Pearl.ConcBytes`): every reservation sits at `Fs.contentLen` of a prefix of its blob that ends just
  before a copy of its record (`ranges_follow_layout`); for an acknowledged write that position is its acknowledged
  place (`acked_range_at_place`).  Not proved: the same pinning for the markers of deletes (a delete's response
  carries no place; `LayInv.place` says "a position holding that marker").  Two-pass writes (`Fs.recWrites`: header
  and data as two `write_all_at` calls into the one reserved range) are one `land` step.  The ranges of the records the
  store started with are not reservations (they lie below `sizeOf klen st`, which every reservation respects).
-/
