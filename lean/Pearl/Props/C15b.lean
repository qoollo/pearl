import Pearl.Proofs.ConcCreate
/-
C15 (accounting: "`next_blob_id` … always equal the values implied by the history … blobs that currently exist, files
on disk") and C08 (concurrency: "a blob id that was ever used is never assigned to a new blob") for CONCURRENT first
operations: `Pearl.ConcCreate` (`Pearl/Model/ConcCreate.lean`; invariant `ConcCreate.Inv` and its preservation in
`Pearl/Proofs/ConcCreate.lean`).

`N` clients, each running `firstOp` (the head of `Storage::write_with_optional_meta` = `try_create_active_blob` =
`Inner::create_active_blob`: unlocked pre-check, exclusive lock, `ensure_active_blob_exists`; the no-active-blob
branch of `delete_with_optional_meta` has the same shape) or `closeActive` (`Inner::close_active_blob`), in the atomic
steps of the code, any interleaving, `open_new` / `fsyncdata` allowed to fail at their suspension points.
No bound on `N` or on the length of the schedule: induction over the run with the explicit invariant.

The theorems are about every state reachable from a state `s0` with `Start s0` (= both invariants; `start_initAt n`: a
directory holding the closed blobs `0 … n-1` and no active blob, `init` = the empty directory; `start_initActive n`:
the same plus the active blob `n`, what `Storage::init` leaves behind).  `taking` / `uninstalled` are `[id]` exactly
while the lock holder stands between "`id` taken from `next_blob_id`" and "file created", resp. between "file `id`
created" and "installed".  The seeded variant is `ensureSeeded` (`next_blob_name()` hoisted above the test); the window
the code does have is the FIXME at `next_blob_name` (`failed_creation_burns_id`).
-/
namespace Pearl
namespace C15b

open ConcCreate

/-- three clients (two first operations, one close), all of `Demo.sched3ok`: quiescent -/
def demoEnd : State :=
  { active := none, closed := [0], files := [0], nextId := 1, lock := .free, burned := []
    clients := [⟨.firstOp, .done (.created 0)⟩, ⟨.firstOp, .done .raced⟩, ⟨.closeActive, .done (.closed 0)⟩] }

theorem demoEnd_run : runSched false Demo.sched3ok (init Demo.kinds3) = some demoEnd := by decide

theorem demoEnd_reach : Reach false (initAt 0 Demo.kinds3) demoEnd := reach_of_sched demoEnd_run

/-- the same run stopped after client 0 took its id (both pre-checks done, client 1 waiting for the lock) -/
def demoMid : State :=
  { active := none, closed := [], files := [], nextId := 1, lock := .excl 0, burned := []
    clients := [⟨.firstOp, .creating 0⟩, ⟨.firstOp, .preDone false⟩, ⟨.closeActive, .start⟩] }

theorem demoMid_run : runSched false (Demo.sched3.take 6) (init Demo.kinds3) = some demoMid := by decide

theorem demoMid_reach : Reach false (initAt 0 Demo.kinds3) demoMid := reach_of_sched demoMid_run

/-- … and one step later: the file exists, the blob is not installed -/
def demoMid2 : State :=
  { active := none, closed := [], files := [0], nextId := 1, lock := .excl 0, burned := []
    clients := [⟨.firstOp, .created 0⟩, ⟨.firstOp, .preDone false⟩, ⟨.closeActive, .start⟩] }

theorem demoMid2_reach : Reach false (initAt 0 Demo.kinds3) demoMid2 :=
  reach_of_sched (ls := Demo.sched3.take 7) (by decide)

/-- `Reach` is "some schedule runs" -/
theorem reach_iff_sched {sd : Bool} {s0 s : State} : Reach sd s0 s ↔ ∃ ls, runSched sd ls s0 = some s :=
  ⟨sched_of_reach, fun ⟨_, h⟩ => reach_of_sched h⟩

/-- the invariant holds in every reachable state of the code as it is (failing I/O included) -/
theorem inv_reachable {s0 s : State} (h0 : Start s0) (hr : Reach false s0 s) : Inv s :=
  (h0.reach hr).inv

/-- … and it is inductive: a run may start in ANY state satisfying it -/
theorem inv_inductive {s s' : State} (h : Inv s) (hs : Step false s s') : Inv s' := by
  obtain ⟨l, hl⟩ := hs; exact h.fire hl

example : Inv demoMid := inv_reachable (start_initAt 0 _) demoMid_reach

/-- at most one client is inside the exclusive section -/
theorem lock_exclusive {s0 s : State} (h0 : Start s0) (hr : Reach false s0 s)
    {i j : Nat} {ci cj : Client} (hi : s.clients[i]? = some ci) (hj : s.clients[j]? = some cj)
    (hxi : ci.pc.holdsX = true) (hxj : cj.pc.holdsX = true) : i = j ∧ s.lock = .excl i :=
  ⟨(inv_reachable h0 hr).exclusive hi hj hxi hxj, (inv_reachable h0 hr).mutex i ci hi hxi⟩

/-- no file without an owner, no owner without a file; as lists, in the order of creation -/
theorem owners_are_files {s0 s : State} (h0 : Start s0) (hr : Reach false s0 s) :
    s.closed ++ s.active.toList ++ uninstalled s = s.files :=
  (inv_reachable h0 hr).own

example : demoMid2.closed ++ demoMid2.active.toList ++ uninstalled demoMid2 = demoMid2.files ∧
    uninstalled demoMid2 = [0] ∧ demoMid2.closed ++ demoMid2.active.toList ≠ demoMid2.files :=
  ⟨owners_are_files (start_initAt 0 _) demoMid2_reach, by decide, by decide⟩

/-- C08: ids are handed out once (burned ones are not reused either) and increase in creation order -/
theorem ids_used_once {s0 s : State} (h0 : Start s0) (hr : Reach false s0 s) :
    (s.files ++ taking s ++ s.burned).Nodup ∧ s.files.Nodup ∧
      (s.files ++ taking s).Pairwise (· < ·) ∧ s.files.Pairwise (· < ·) ∧
      (∀ x ∈ s.files ++ taking s ++ s.burned, x < s.nextId) := by
  have h := inv_reachable h0 hr
  refine ⟨h.ids_nodup, ?_, h.files_sorted, ?_, ?_⟩
  · exact (List.nodup_append.1 (List.nodup_append.1 h.ids_nodup).1).1
  · exact (List.pairwise_append.1 h.files_sorted).1
  · intro x hx
    rcases List.mem_append.1 hx with hx | hx
    · exact (h.mem_ids.1 hx).1
    · exact h.burn x hx

/-- `taking` and `uninstalled`, read off the lock holder in the model, are what the program counters of ALL the
    clients say -/
theorem in_ensure_precise {s0 s : State} (h0 : Start s0) (hr : Reach false s0 s) :
    (∀ (i : Nat) (c : Client) (id : Nat), s.clients[i]? = some c → c.pc = .creating id →
        taking s = [id] ∧ uninstalled s = [] ∧ s.active = none) ∧
    (∀ (i : Nat) (c : Client) (id : Nat), s.clients[i]? = some c → c.pc = .created id →
        taking s = [] ∧ uninstalled s = [id] ∧ s.active = none) ∧
    (∀ id, taking s = [id] → ∃ i c, s.lock = .excl i ∧ s.clients[i]? = some c ∧ c.pc = .creating id) ∧
    (∀ id, uninstalled s = [id] → ∃ i c, s.lock = .excl i ∧ s.clients[i]? = some c ∧ c.pc = .created id) ∧
    ((∀ c ∈ s.clients, ∀ id, c.pc ≠ .creating id) → taking s = []) ∧
    ((∀ c ∈ s.clients, ∀ id, c.pc ≠ .created id) → uninstalled s = []) :=
  ⟨fun _ _ _ hc hpc => (inv_reachable h0 hr).of_creating hc hpc,
   fun _ _ _ hc hpc => (inv_reachable h0 hr).of_created hc hpc,
   fun _ h => exists_of_mem_taking (h ▸ List.mem_singleton_self _),
   fun _ h => exists_of_mem_uninstalled (h ▸ List.mem_singleton_self _),
   taking_nil_of_no_creating, uninstalled_nil_of_no_created⟩

example : taking demoMid = [0] ∧ uninstalled demoMid = [] ∧ demoMid.active = none :=
  (in_ensure_precise (start_initAt 0 _) demoMid_reach).1 0 _ 0 rfl rfl

/-- no creation failed so far: the ids of the files, then the id in flight, are exactly `0, 1, …, nextId-1` -/
theorem next_id_tight {s0 s : State} (h0 : Start s0) (hr : Reach false s0 s)
    (hb : s.burned = []) :
    s.files ++ taking s = List.range s.nextId ∧ s.nextId = maxSucc (s.files ++ taking s) ∧
      s.nextId = s.files.length + (taking s).length :=
  ⟨(inv_reachable h0 hr).files_eq_range hb, (inv_reachable h0 hr).nextId_eq_maxSucc hb, by
    have := (inv_reachable h0 hr).cnt; rw [hb] at this; simpa using this.symm⟩

example : demoMid.files ++ taking demoMid = List.range demoMid.nextId ∧ demoMid.nextId = 1 ∧
    maxSucc demoMid.files = 0 :=
  ⟨(next_id_tight (start_initAt 0 _) demoMid_reach rfl).1, rfl, rfl⟩

/-- nothing failed and nobody stands between "id taken" and "file created" ⇒
    `next_blob_id` = largest file id + 1 (0 without files), the files are `0 … nextId-1` -/
theorem next_id_is_max_file_plus_one {s0 s : State} (h0 : Start s0)
    (hr : Reach false s0 s) (hb : s.burned = [])
    (hno : ∀ c ∈ s.clients, ∀ id, c.pc ≠ .creating id) :
    s.nextId = maxSucc s.files ∧ s.files = List.range s.nextId ∧ s.nextId = s.files.length := by
  have ht := taking_nil_of_no_creating hno
  have := next_id_tight h0 hr hb
  rw [ht] at this
  simp only [List.append_nil, List.length_nil, Nat.add_zero] at this
  exact ⟨this.2.1, this.1, this.2.2⟩

example : demoMid2.nextId = maxSucc demoMid2.files ∧ demoMid2.files = List.range demoMid2.nextId ∧
    demoMid2.nextId = demoMid2.files.length :=
  next_id_is_max_file_plus_one (start_initAt 0 _) demoMid2_reach rfl (by
    intro c hc id
    simp only [demoMid2, List.mem_cons, List.not_mem_nil, or_false] at hc
    rcases hc with rfl | rfl | rfl <;> simp)

/-- what stays true when creations fail: the counter bounds the file ids, and counts every id handed out -/
theorem next_id_bound {s0 s : State} (h0 : Start s0) (hr : Reach false s0 s) :
    maxSucc s.files ≤ s.nextId ∧ maxSucc (s.files ++ taking s) ≤ s.nextId ∧
      s.nextId = maxSucc (s.files ++ taking s ++ s.burned) ∧
      s.nextId = s.files.length + (taking s).length + s.burned.length ∧
      (s.burned = [] → s.nextId = maxSucc (s.files ++ taking s)) := by
  have h := inv_reachable h0 hr
  exact ⟨maxSucc_le fun x hx => (h.mem_ids.1 (List.mem_append_left _ hx)).1, maxSucc_le fun _ hx => (h.mem_ids.1 hx).1,
    h.nextId_eq_maxSucc_all, h.cnt.symm, h.nextId_eq_maxSucc⟩

/-- along a run: the counter never goes back, files are only appended, burned ids stay burned -/
theorem counter_and_files_monotone {sd : Bool} {s0 s : State} (hr : Reach sd s0 s) :
    s0.nextId ≤ s.nextId ∧ s0.files <+: s.files ∧ s0.burned <:+ s.burned ∧ s.clients.length = s0.clients.length := by
  refine hr.induction ?_ ?_
  · exact ⟨Nat.le_refl _, List.prefix_refl _, List.suffix_refl _, rfl⟩
  · intro _ _ _ ih hl
    obtain ⟨h1, h2, h3, h4, _⟩ := fire_mono hl
    exact ⟨Nat.le_trans ih.1 h1, ih.2.1.trans h2, ih.2.2.1.trans h3, h4.trans ih.2.2.2⟩

/-- everybody returned: nobody is inside `ensure`; every id handed out is a file or was burned by a failed creation;
    every file is closed or active -/
theorem quiescent_ids_accounted {s0 s : State} (h0 : Start s0) (hr : Reach false s0 s)
    (hq : quiescent s) :
    taking s = [] ∧ uninstalled s = [] ∧ s.closed ++ s.active.toList = s.files ∧
      s.nextId = s.files.length + s.burned.length ∧
      s.files = (List.range s.nextId).filter (fun x => decide (x ∉ s.burned)) := by
  have h := inv_reachable h0 hr
  have ht := taking_nil_of_quiescent hq
  have hu := uninstalled_nil_of_quiescent hq
  refine ⟨ht, hu, ?_, ?_, ?_⟩
  · rw [← h.own, hu, List.append_nil]
  · rw [← h.cnt, ht]; rfl
  · rw [← h.ids, ht, List.append_nil]

/-- all clients finished, no creation failed: exactly one id per blob that exists, whatever `N` and the
    schedule were; from the empty directory (`n = 0`) or from `n` closed blobs -/
theorem quiescent_one_id_per_blob {s0 s : State} (h0 : Start s0) (hr : Reach false s0 s)
    (hq : quiescent s) (hb : s.burned = []) :
    s.nextId = s.files.length ∧ s.files = List.range s.nextId ∧ s.nextId = maxSucc s.files ∧
      s.closed ++ s.active.toList = s.files := by
  obtain ⟨ht, _, ho, hc, _⟩ := quiescent_ids_accounted h0 hr hq
  have := next_id_tight h0 hr hb
  rw [ht] at this
  exact ⟨by rw [hc, hb]; rfl, by simpa using this.1, by simpa using this.2.1, ho⟩

/-- the same, on schedules: a schedule without failing I/O that runs everybody to the end -/
theorem quiescent_one_id_per_blob_sched {kinds : List Kind} {ls : List Label} {s : State}
    (hrun : runSched false ls (init kinds) = some s) (hok : ∀ l ∈ ls, l.isFail = false) (hq : quiescent s) :
    s.nextId = s.files.length ∧ s.files = List.range s.nextId ∧ s.closed ++ s.active.toList = s.files := by
  have hb : s.burned = [] := burned_of_failure_free hrun hok
  have := quiescent_one_id_per_blob (start_initAt 0 kinds) (reach_of_sched hrun) hq hb
  exact ⟨this.1, this.2.1, this.2.2.2⟩

example : quiescent demoEnd ∧ demoEnd.nextId = 1 ∧ demoEnd.files = [0] := by decide
example : demoEnd.nextId = demoEnd.files.length ∧ demoEnd.files = List.range demoEnd.nextId ∧
    demoEnd.closed ++ demoEnd.active.toList = demoEnd.files :=
  quiescent_one_id_per_blob_sched demoEnd_run (by decide) (by decide)

/-- three racing first operations and nothing else: one blob, one id -/
example : (runSched false
      [.step 0, .step 1, .step 2, .step 0, .step 1, .step 2,                       -- three pre-checks: "none"
       .step 2, .step 2, .step 2, .step 2, .step 2,                                -- 2 creates blob 0
       .step 0, .step 0, .step 0, .step 1, .step 1, .step 1]                       -- 0 and 1 lose the race
      (init [.firstOp, .firstOp, .firstOp])).map (fun s => (decide (quiescent s), s.nextId, s.files, s.active)) =
    some (true, 1, [0], some 0) := by decide

/-- the usual start: an active blob exists (`initActive 0`: blob 0); a close, then two racing first operations:
    one new blob, one new id -/
def demoActiveSched : List Label :=
  [.step 0, .step 0, .step 0, .step 0, .step 0, .step 0,               -- 0 closes blob 0
   .step 1, .step 2, .step 1, .step 2,                                  -- both pre-checks: "none"
   .step 2, .step 2, .step 2, .step 2, .step 2,                         -- 2 creates blob 1
   .step 1, .step 1, .step 1]                                           -- 1 loses the race

example : (runSched false demoActiveSched (initActive 0 [.closeActive, .firstOp, .firstOp])).map
      (fun s => (decide (quiescent s), s.nextId, s.files, s.closed, s.active)) =
    some (true, 2, [0, 1], [0], some 1) := by decide

example : ∀ s, runSched false demoActiveSched (initActive 0 [.closeActive, .firstOp, .firstOp]) = some s →
    quiescent s → s.nextId = s.files.length ∧ s.files = List.range s.nextId :=
  fun s h hq =>
    have hb : s.burned = [] := burned_of_failure_free h (by decide)
    ⟨(quiescent_one_id_per_blob (start_initActive 0 _) (reach_of_sched h) hq hb).1,
     (quiescent_one_id_per_blob (start_initActive 0 _) (reach_of_sched h) hq hb).2.1⟩

/-- where the seeded variant ends `Demo.sched2` -/
def seededEnd : State :=
  { active := some 0, closed := [], files := [0], nextId := 2, lock := .free, burned := []
    clients := [⟨.firstOp, .done (.created 0)⟩, ⟨.firstOp, .done .raced⟩] }

/-- `next_blob_name()` hoisted above the "already active" test: two simultaneous first operations (both pre-checks
    before either creation) leave `next_blob_id = 2` with the single file `0`; nothing failed; the invariant and
    the equation `nextId = maxSucc files` are false in that (quiescent) state.  The code as it is ends the same
    schedule with `next_blob_id = 1`. -/
theorem seeded_burns_ids :
    (∃ s, runSched true Demo.sched2 (init [.firstOp, .firstOp]) = some s ∧
      Reach true (init [.firstOp, .firstOp]) s ∧ quiescent s ∧
      s.nextId = 2 ∧ s.files = [0] ∧ s.active = some 0 ∧ s.closed = [] ∧ s.burned = [] ∧
      s.nextId ≠ maxSucc s.files ∧ s.nextId ≠ s.files.length ∧ ¬ Inv s) ∧
    (∃ s, runSched false Demo.sched2 (init [.firstOp, .firstOp]) = some s ∧ quiescent s ∧
      s.nextId = 1 ∧ s.files = [0] ∧ s.active = some 0) := by
  refine ⟨⟨seededEnd, ?_⟩,
          ⟨{ active := some 0, closed := [], files := [0], nextId := 1, lock := .free, burned := []
             clients := [⟨.firstOp, .done (.created 0)⟩, ⟨.firstOp, .done .raced⟩] }, by decide⟩⟩
  have hrun : runSched true Demo.sched2 (init [.firstOp, .firstOp]) = some seededEnd := by decide
  refine ⟨hrun, reach_of_sched hrun, by decide, rfl, rfl, rfl, rfl, rfl, by decide, by decide, ?_⟩
  intro h
  exact absurd h.cnt (by decide)

/-- the same with three clients (two racing first operations, then a close and a THIRD first operation that has to
    create): the seeded variant leaves a hole in the file ids -/
example : (runSched true
      (Demo.sched2 ++ [.step 2, .step 2, .step 2, .step 2, .step 2, .step 2,      -- 2 closes blob 0
                       .step 3, .step 3, .step 3, .step 3, .step 3, .step 3, .step 3])
      (init [.firstOp, .firstOp, .closeActive, .firstOp])).map (fun s => (s.nextId, s.files, s.closed, s.active)) =
    some (3, [0, 2], [0], some 2) := by decide

example : (runSched false
      (Demo.sched2 ++ [.step 2, .step 2, .step 2, .step 2, .step 2, .step 2,
                       .step 3, .step 3, .step 3, .step 3, .step 3, .step 3, .step 3])
      (init [.firstOp, .firstOp, .closeActive, .firstOp])).map (fun s => (s.nextId, s.files, s.closed, s.active)) =
    some (2, [0, 1], [0], some 1) := by decide

/-- what the seeded variant does keep (so the change is invisible to every check that only asks for "the counter is
    above the ids in use"): for BOTH variants, failures included, every file id and every id in flight is below the
    counter -/
theorem seeded_only_overcounts {sd : Bool} {s0 s : State} (h0 : Bounded s0) (hr : Reach sd s0 s) :
    maxSucc s.files ≤ s.nextId ∧
      ∀ c ∈ s.clients, ∀ id, (c.pc = .creating id ∨ c.pc = .created id) → id < s.nextId :=
  ⟨maxSucc_le (h0.reach hr).1, (h0.reach hr).2⟩

example : maxSucc seededEnd.files ≤ seededEnd.nextId :=
  (seeded_only_overcounts (bounded_initAt 0 _)
    (reach_of_sched (sd := true) (ls := Demo.sched2) (s0 := init [.firstOp, .firstOp]) (by decide))).1

/-- `open_new` fails after the id was taken (the FIXME at `next_blob_name`): the id is gone.  Right after the
    failure `next_blob_id = 1` over an empty directory; after the next creation the only file is `1`.
    `next_id_tight` does not apply (`burned ≠ []`); `next_id_bound` does. -/
theorem failed_creation_burns_id :
    (∃ s, runSched false (Demo.sched3fail.take 8) (init Demo.kinds3) = some s ∧
      s.nextId = 1 ∧ s.files = [] ∧ s.burned = [0] ∧ taking s = [] ∧ s.nextId ≠ maxSucc s.files) ∧
    (∃ s, runSched false Demo.sched3fail (init Demo.kinds3) = some s ∧ quiescent s ∧
      s.nextId = 2 ∧ s.files = [1] ∧ s.closed = [1] ∧ s.burned = [0] ∧
      s.nextId ≠ s.files.length ∧ s.nextId = s.files.length + s.burned.length) := by
  refine ⟨⟨{ active := none, closed := [], files := [], nextId := 1, lock := .free, burned := [0]
             clients := [⟨.firstOp, .done (.createFailed 0)⟩, ⟨.firstOp, .preDone false⟩, ⟨.closeActive, .start⟩] },
           by decide⟩,
          ⟨{ active := none, closed := [1], files := [1], nextId := 2, lock := .free, burned := [0]
             clients := [⟨.firstOp, .done (.createFailed 0)⟩, ⟨.firstOp, .done (.created 1)⟩,
                         ⟨.closeActive, .done (.closed 1)⟩] },
           by decide⟩⟩

example : ∀ s, runSched false Demo.sched3fail (init Demo.kinds3) = some s →
    maxSucc s.files ≤ s.nextId ∧ s.nextId = s.files.length + (taking s).length + s.burned.length :=
  fun _ h => ⟨(next_id_bound (start_initAt 0 _) (reach_of_sched h)).1, (next_id_bound (start_initAt 0 _) (reach_of_sched h)).2.2.2.1⟩

/-- as long as somebody has not returned, some client can do its next step (no failing I/O needed), whatever `N` -/
theorem no_deadlock {s0 s : State} (h0 : Start s0) (hr : Reach false s0 s)
    (hnq : ¬ quiescent s) : ∃ i s', fire false (.step i) s = some s' :=
  (h0.reach hr).no_deadlock hnq

example : ∃ i s', fire false (.step i) demoMid = some s' := no_deadlock (start_initAt 0 _) demoMid_reach (by decide)

/-- no schedule (of either variant, failures included) is longer than `7·N`: every step uses up `Pc.weight` -/
theorem every_run_is_finite {sd : Bool} {ls : List Label} {s0 s : State} (h : runSched sd ls s0 = some s) :
    ls.length + ConcCreate.measure s ≤ ConcCreate.measure s0 ∧
      ∀ n kinds, ConcCreate.measure (initAt n kinds) = 7 * kinds.length ∧
        ConcCreate.measure (initActive n kinds) = 7 * kinds.length :=
  ⟨run_length_bound h, fun _ kinds => ⟨measure_fresh kinds, measure_fresh kinds⟩⟩

example : Demo.sched3ok.length = 18 ∧ 7 * Demo.kinds3.length = 21 ∧ ConcCreate.measure demoEnd = 0 := by decide

/-- from every reachable state some failure-free schedule lets everybody return -/
theorem all_clients_finish {s0 s : State} (h0 : Start s0) (hr : Reach false s0 s) :
    ∃ ls s', runSched false ls s = some s' ∧ quiescent s' ∧ (∀ l ∈ ls, l.isFail = false) :=
  (h0.reach hr).finish

theorem lock_free_at_quiescence {s0 s : State} (h0 : Start s0) (hr : Reach false s0 s)
    (hq : quiescent s) : s.lock = .free :=
  (h0.reach hr).lock_free hq

/-- the lock counts its shared holders: `shared n` ⇔ exactly `n ≥ 1` clients are inside `has_active_blob`,
    `free`/`excl` ⇒ none -/
theorem shared_count {s0 s : State} (h0 : Start s0) (hr : Reach false s0 s) :
    lockOK s.lock (readersOf s.clients) :=
  (h0.reach hr).lock

example : (runSched false (Demo.sched3.take 2) (init Demo.kinds3)).map (fun s => (s.lock, readersOf s.clients)) =
    some (.shared 2, 2) := by decide

#print axioms no_deadlock
#print axioms every_run_is_finite
#print axioms all_clients_finish
#print axioms lock_free_at_quiescence
#print axioms shared_count
#print axioms inv_reachable
#print axioms inv_inductive
#print axioms lock_exclusive
#print axioms owners_are_files
#print axioms ids_used_once
#print axioms in_ensure_precise
#print axioms next_id_tight
#print axioms next_id_is_max_file_plus_one
#print axioms next_id_bound
#print axioms counter_and_files_monotone
#print axioms quiescent_ids_accounted
#print axioms quiescent_one_id_per_blob
#print axioms quiescent_one_id_per_blob_sched
#print axioms seeded_burns_ids
#print axioms seeded_only_overcounts
#print axioms failed_creation_burns_id

/-
NOT YET PROVED (C15b):
* the link between `ConcCreate.cstep` and `src/storage/core.rs` is by reading the code (the table at the head of
  `Pearl/Model/ConcCreate.lean`); unlike the sequential models it is not covered by the differential correspondence
  check, whose scripts are sequential — the generated "simultaneous first operations" runs observe only the final
  `next_blob_id` / file list, which is what `quiescent_one_id_per_blob` and `seeded_burns_ids` speak about;
* `restore_active_blob` (last closed blob becomes active again; takes no id) and the worker's
  `replace_active_blob` (takes an id under the same exclusive lock while an active blob EXISTS) are not clients of
  this system; with the latter `closed ++ active ++ uninstalled = files` needs a second "being installed" slot;
* the no-active-blob branch of `delete_with_optional_meta` is `firstOp` here only as far as this state goes; its
  `delete_core` under the exclusive lock is not modelled;
* files are never removed here (no `delete_blob`/`offload`), so "files" = "every blob ever created";
* the fairness of tokio's `RwLock` is not modelled (more interleavings are admitted than the runtime produces).
-/

end C15b
end Pearl
