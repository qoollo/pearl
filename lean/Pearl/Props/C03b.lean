import Pearl.Proofs.IndexValidateLemmas
/-
C03, byte level — "an index file never contributes information that is not recomputed from its blob …
when any subset of index files is missing, truncated at any length, left half-written, or stale".

Model: `Pearl/Model/IndexValidate.lean`, `acceptIndex K blobSize file` = start-up (`Blob::from_file` →
`IndexStruct::from_file` → `BPTreeFileIndex::from_file` + `validate`) USES the index file `file` for a
blob file of `blobSize` bytes; `false` = the index is regenerated from the blob (`indexSource`).
The file is always the byte image `indexFileBytes (build (Params.real K) metaLen m) metaBuf hash blobSize`
that `from_records` leaves on disk (`Pearl/Model/BPTreeBytes.lean`, compared byte for byte with
real `.index` files by `Pearl/Model/BPTreeFileCheck.lean`).

Standing hypotheses: `K ≤ 2032` (as in C09: the fan-out is at least 3, so the written nodes have the
size the offset arithmetic assumes; it implies `K < 2^16`), `metaBuf.length = metaLen`,
`hash.length = 32`, file size `< 2^64`; `blobSize < 2^64` where the recorded size must be read back.
`m` need not be well-formed or non-empty for any of the statements (for an empty map the Rust code
writes no file at all).

Most theorems have an example on the running files `f1`, `f2` beside them.
-/
namespace Pearl.C03b
open Pearl Pearl.BPTree

/-! ### the running example: 1-byte keys, 3 headers, a 2-byte filter section, a 100-byte blob -/

def hd (k ts : Nat) : RawHeader := ⟨k, 0, 3, 0, 40 + ts, ts, 1, 2⟩
def m1 : InMem RawHeader := [(3, [hd 3 1, hd 3 2]), (7, [hd 7 3])]
def F1 : IndexFile RawHeader := build (Params.real 1) 2 m1
def hash1 : List Nat := List.replicate 32 0
/-- 83 (header) + 2 (filters) + 16 (tree meta) + 3 · 58 (record headers) = 275 bytes -/
def f1 : List Nat := indexFileBytes F1 [9, 9] hash1 100

theorem F1_size : F1.fileSize < 2 ^ 64 := by decide

theorem f1_length : f1.length = 275 :=
  (build_bytes_length 1 (by decide) m1 [9, 9] hash1 100 rfl).trans (by decide)
example : F1.nodes = [] ∧ F1.leavesOffset = 101 ∧ F1.treeOffset = 101 := by decide

/-! ### what the storage wrote is accepted -/

/-- the file `from_records` leaves on disk is used at the next start-up, when the blob has the recorded
    size and the key size is the compile-time one -/
theorem accept_produced (K : Nat) (hK : K ≤ 2032) (metaLen : Nat) (m : InMem RawHeader)
    (metaBuf hash : List Nat) (blobSize : Nat) (hmeta : metaBuf.length = metaLen) (hhash : hash.length = 32)
    (hsize : (build (Params.real K) metaLen m).fileSize < 2 ^ 64) (hblob : blobSize < 2 ^ 64) :
    acceptIndex K blobSize (indexFileBytes (build (Params.real K) metaLen m) metaBuf hash blobSize) = true := by
  rw [indexFileBytes_eq_V]
  exact (accept_full_iff (build_imageOK K hK metaLen m metaBuf hash hmeta hhash hsize)
    13 blobSize K blobSize).2 ⟨rfl, rfl, Nat.mod_eq_of_lt (by rw [pow_256_8]; omega)⟩

example : acceptIndex 1 100 f1 = true :=
  accept_produced 1 (by decide) 2 m1 [9, 9] hash1 100 rfl rfl F1_size (by decide)
set_option maxRecDepth 100000 in
example : acceptIndex 1 100 f1 = true := by decide +kernel
example : indexSource 1 100 (some f1) = .file := by
  have h : acceptIndex 1 100 f1 = true :=
    accept_produced 1 (by decide) 2 m1 [9, 9] hash1 100 rfl rfl F1_size (by decide)
  simp [indexSource, h]
/-- a missing index file: regenerated -/
example : indexSource 1 100 none = .regenerated := rfl

/-! ### truncated -/

/-- EVERY proper prefix of the file is rejected — for any key size and any blob size.  This is what
    `check_file_size` guarantees: the header and the tree meta fix the length of the file. -/
theorem index_validate_rejects_truncated (K : Nat) (hK : K ≤ 2032) (metaLen : Nat) (m : InMem RawHeader)
    (metaBuf hash : List Nat) (blobSize : Nat) (hmeta : metaBuf.length = metaLen) (hhash : hash.length = 32)
    (hsize : (build (Params.real K) metaLen m).fileSize < 2 ^ 64) (K' actual : Nat) :
    ∀ t, t < (indexFileBytes (build (Params.real K) metaLen m) metaBuf hash blobSize).length →
      acceptIndex K' actual ((indexFileBytes (build (Params.real K) metaLen m) metaBuf hash blobSize).take t)
        = false := by
  intro t ht
  have ok := build_imageOK K hK metaLen m metaBuf hash hmeta hhash hsize
  rw [indexFileBytes_eq_V, ok.image_length] at ht
  rw [indexFileBytes_eq_V, Bool.eq_false_iff]
  exact fun h => Nat.not_le_of_lt ht ((accept_image_iff _ metaBuf hash ok 13 blobSize K' actual t).1 h).1

example : ∀ t, t < 275 → acceptIndex 1 100 (f1.take t) = false := fun t ht =>
  index_validate_rejects_truncated 1 (by decide) 2 m1 [9, 9] hash1 100 rfl rfl F1_size 1 100 t
    (show t < f1.length from f1_length ▸ ht)
set_option maxRecDepth 100000 in
/-- cut inside the record headers, inside the tree meta, inside the header, and the empty file -/
example : acceptIndex 1 100 (f1.take 200) = false ∧ acceptIndex 1 100 (f1.take 90) = false ∧
    acceptIndex 1 100 (f1.take 50) = false ∧ acceptIndex 1 100 [] = false :=
  ⟨index_validate_rejects_truncated 1 (by decide) 2 m1 [9, 9] hash1 100 rfl rfl F1_size 1 100 200
      (show 200 < f1.length from f1_length ▸ by decide), by decide +kernel⟩

/-- WITHOUT the size check (the code before the repair) a file cut inside the record-header region was
    accepted — here after the first of three headers, in the middle of the second, and with no header
    left at all: the index would answer `NotFound` for keys the blob holds -/
theorem truncated_accepted_before_fix :
    acceptIndexNoSizeCheck 1 100 (f1.take 159) = true ∧ acceptIndexNoSizeCheck 1 100 (f1.take 200) = true ∧
    acceptIndexNoSizeCheck 1 100 (f1.take 101) = true ∧ f1.length = 275 ∧ F1.leavesOffset = 101 := by
  have old := build_truncated_accepted_noSizeCheck 1 (by decide) 2 m1 [9, 9] hash1 100 rfl rfl F1_size (by decide)
  exact ⟨old 159 (by decide), old 200 (by decide), old 101 (by decide), f1_length, by decide⟩

/-- a larger file: 80 keys, two leaves, one inner node (the root, bytes 99 … 123), 4764 bytes -/
def m2 : InMem RawHeader := (List.range 80).map fun i => (i + 1, [hd (i + 1) i])
def F2 : IndexFile RawHeader := build (Params.real 1) 0 m2
def f2 : List Nat := indexFileBytes F2 [] hash1 5000

/-- before the repair even a file cut in the middle of the ROOT NODE was accepted (`read_root` reads
    "whatever is there"); now the complete file is accepted and both cuts are rejected -/
theorem truncated_in_tree_accepted_before_fix :
    F2.nodes.length = 1 ∧ F2.treeOffset = 99 ∧ F2.leavesOffset = 124 ∧ f2.length = 4764 ∧
    acceptIndexNoSizeCheck 1 5000 (f2.take 110) = true ∧ acceptIndexNoSizeCheck 1 5000 (f2.take 4763) = true ∧
    acceptIndex 1 5000 (f2.take 110) = false ∧ acceptIndex 1 5000 (f2.take 4763) = false ∧
    acceptIndex 1 5000 f2 = true := by
  obtain ⟨hn, hto, hlo, hfs⟩ :
      F2.nodes.length = 1 ∧ F2.treeOffset = 99 ∧ F2.leavesOffset = 124 ∧ F2.fileSize = 4764 := by
    decide +kernel
  have hsize : F2.fileSize < 2 ^ 64 := by rw [hfs]; decide
  have hlen : f2.length = 4764 := (build_bytes_length 1 (by decide) m2 [] hash1 5000 rfl).trans hfs
  have old := build_truncated_accepted_noSizeCheck 1 (by decide) 0 m2 [] hash1 5000 rfl rfl hsize (by decide)
  have new := fun t (ht : t < 4764) =>
    index_validate_rejects_truncated 1 (by decide) 0 m2 [] hash1 5000 rfl rfl hsize 1 5000 t
      (show t < f2.length from hlen ▸ ht)
  exact ⟨hn, hto, hlo, hlen, old 110 (by decide), old 4763 (by decide), new 110 (by decide), new 4763 (by decide),
    accept_produced 1 (by decide) 0 m2 [] hash1 5000 rfl rfl hsize (by decide)⟩

/-! ### half-written -/

/-- the image `from_records` leaves when it is interrupted after writing the buffer and before rewriting
    the header with the `written` bit: rejected -/
theorem written_clear_rejects (K : Nat) (hK : K ≤ 2032) (metaLen : Nat) (m : InMem RawHeader)
    (metaBuf hash : List Nat) (blobSize : Nat) (hmeta : metaBuf.length = metaLen) (hhash : hash.length = 32)
    (hsize : (build (Params.real K) metaLen m).fileSize < 2 ^ 64) (K' actual : Nat) :
    acceptIndex K' actual
      (indexHeaderBytes (build (Params.real K) metaLen m) hash false blobSize ++ metaBuf
        ++ treeMetaBytes (build (Params.real K) metaLen m)
        ++ (build (Params.real K) metaLen m).nodes.flatMap (Node.bytes K)
        ++ (build (Params.real K) metaLen m).leaves.flatMap (RawHeader.bytes K)) = false := by
  have ok := build_imageOK K hK metaLen m metaBuf hash hmeta hhash hsize
  have h := accept_unwritten_header ok blobSize K' actual
    (indexBodyBytes (build (Params.real K) metaLen m) metaBuf)
  simp only [indexBodyBytes, ← List.append_assoc] at h
  exact h

/-- … and so is every prefix of it (the buffer write itself was interrupted) -/
theorem written_clear_prefix_rejects (K : Nat) (hK : K ≤ 2032) (metaLen : Nat) (m : InMem RawHeader)
    (metaBuf hash : List Nat) (blobSize : Nat) (hmeta : metaBuf.length = metaLen) (hhash : hash.length = 32)
    (hsize : (build (Params.real K) metaLen m).fileSize < 2 ^ 64) (K' actual t : Nat) :
    acceptIndex K' actual
      ((indexFileBytesUnwritten (build (Params.real K) metaLen m) metaBuf hash blobSize).take t) = false := by
  have ok := build_imageOK K hK metaLen m metaBuf hash hmeta hhash hsize
  rw [indexFileBytesUnwritten_eq_V, Bool.eq_false_iff]
  intro h
  have := ((accept_image_iff _ metaBuf hash ok 12 blobSize K' actual t).1 h).2.1
  omega

set_option maxRecDepth 100000 in
example : acceptIndex 1 100 (indexFileBytesUnwritten F1 [9, 9] hash1 100) = false ∧
    (indexFileBytesUnwritten F1 [9, 9] hash1 100).length = 275 ∧
    (indexFileBytesUnwritten F1 [9, 9] hash1 100).drop 73 = f1.drop 73 ∧
    (indexFileBytesUnwritten F1 [9, 9] hash1 100).take 72 = f1.take 72 ∧
    (indexFileBytesUnwritten F1 [9, 9] hash1 100)[72]? = some 12 ∧ f1[72]? = some 13 := by
  have h : acceptIndex 1 100 ((indexFileBytesUnwritten F1 [9, 9] hash1 100).take
      (indexFileBytesUnwritten F1 [9, 9] hash1 100).length) = false :=
    written_clear_prefix_rejects 1 (by decide) 2 m1 [9, 9] hash1 100 rfl rfl F1_size 1 100 _
  rw [List.take_length] at h
  -- the two images differ in byte 72 only
  obtain ⟨A, B, hA, hsplit⟩ := indexHeaderBytesV_split F1 hash1 100 (indexBodyBytes F1 [9, 9]) rfl
  have hu : indexFileBytesUnwritten F1 [9, 9] hash1 100 = A ++ 12 :: B := hsplit 12
  have hf : f1 = A ++ 13 :: B := (indexFileBytes_eq_V F1 [9, 9] hash1 100).trans (hsplit 13)
  have hl := f1_length
  rw [hf, List.length_append, List.length_cons] at hl
  obtain ⟨u1, u2, u3⟩ := append_cons_at A B 12 hA
  obtain ⟨f1', f2', f3'⟩ := append_cons_at A B 13 hA
  refine ⟨h, ?_⟩
  rw [hu, hf]
  exact ⟨by rw [List.length_append, List.length_cons]; exact hl, u2.trans f2'.symm, u1.trans f1'.symm, u3, f3'⟩

/-- header only: the first 83 bytes of the file (an instance of truncation), and the header with the
    `written` bit clear followed by anything at all -/
theorem header_only_rejects (K : Nat) (hK : K ≤ 2032) (metaLen : Nat) (m : InMem RawHeader)
    (metaBuf hash : List Nat) (blobSize : Nat) (hmeta : metaBuf.length = metaLen) (hhash : hash.length = 32)
    (hsize : (build (Params.real K) metaLen m).fileSize < 2 ^ 64) (K' actual : Nat) :
    acceptIndex K' actual ((indexFileBytes (build (Params.real K) metaLen m) metaBuf hash blobSize).take 83)
      = false ∧
    ∀ rest, acceptIndex K' actual
      (indexHeaderBytes (build (Params.real K) metaLen m) hash false blobSize ++ rest) = false := by
  have ok := build_imageOK K hK metaLen m metaBuf hash hmeta hhash hsize
  constructor
  · apply index_validate_rejects_truncated K hK metaLen m metaBuf hash blobSize hmeta hhash hsize
    rw [indexFileBytes_eq_V, ok.image_length]
    have := ok.treeMeta_le
    omega
  · intro rest
    exact accept_unwritten_header ok blobSize K' actual rest

set_option maxRecDepth 100000 in
example : acceptIndex 1 100 (f1.take 83) = false ∧
    acceptIndex 1 100 (indexHeaderBytes F1 hash1 false 100 ++ f1.drop 83) = false ∧
    acceptIndex 1 100 (indexHeaderBytes F1 hash1 false 100) = false := by
  have h := header_only_rejects 1 (by decide) 2 m1 [9, 9] hash1 100 rfl rfl F1_size 1 100
  exact ⟨h.1, h.2 _, List.append_nil (indexHeaderBytes F1 hash1 false 100) ▸ h.2 []⟩

/-! ### stale -/

/-- the index describes a blob of another size (shorter: records were appended after the dump;
    longer: the blob was truncated or replaced): rejected, in both directions -/
theorem stale_size_rejects (K : Nat) (hK : K ≤ 2032) (metaLen : Nat) (m : InMem RawHeader)
    (metaBuf hash : List Nat) (blobSize : Nat) (hmeta : metaBuf.length = metaLen) (hhash : hash.length = 32)
    (hsize : (build (Params.real K) metaLen m).fileSize < 2 ^ 64) (hblob : blobSize < 2 ^ 64)
    (blobSize' : Nat) (hne : blobSize' ≠ blobSize) :
    acceptIndex K blobSize' (indexFileBytes (build (Params.real K) metaLen m) metaBuf hash blobSize) = false := by
  have ok := build_imageOK K hK metaLen m metaBuf hash hmeta hhash hsize
  rw [indexFileBytes_eq_V, Bool.eq_false_iff]
  intro h
  have h3 := ((accept_full_iff ok 13 blobSize K blobSize').1 h).2.2
  rw [Nat.mod_eq_of_lt (by rw [pow_256_8]; omega)] at h3
  exact hne h3.symm

set_option maxRecDepth 100000 in
example : acceptIndex 1 99 f1 = false ∧ acceptIndex 1 101 f1 = false ∧ acceptIndex 1 0 f1 = false := by
  have h := stale_size_rejects 1 (by decide) 2 m1 [9, 9] hash1 100 rfl rfl F1_size (by decide)
  exact ⟨h 99 (by decide), h 101 (by decide), h 0 (by decide)⟩
example : acceptIndex 1 158 f1 = false :=
  stale_size_rejects 1 (by decide) 2 m1 [9, 9] hash1 100 rfl rfl F1_size (by decide) 158 (by decide)

/-! ### written by another build -/

theorem key_size_mismatch_rejects (K : Nat) (hK : K ≤ 2032) (metaLen : Nat) (m : InMem RawHeader)
    (metaBuf hash : List Nat) (blobSize : Nat) (hmeta : metaBuf.length = metaLen) (hhash : hash.length = 32)
    (hsize : (build (Params.real K) metaLen m).fileSize < 2 ^ 64) (K' : Nat) (hne : K' ≠ K) (actual : Nat) :
    acceptIndex K' actual (indexFileBytes (build (Params.real K) metaLen m) metaBuf hash blobSize) = false := by
  have ok := build_imageOK K hK metaLen m metaBuf hash hmeta hhash hsize
  rw [indexFileBytes_eq_V, Bool.eq_false_iff]
  intro h
  exact hne ((accept_full_iff ok 13 blobSize K' actual).1 h).2.1

set_option maxRecDepth 100000 in
example : acceptIndex 2 100 f1 = false ∧ acceptIndex 0 100 f1 = false := by
  have h := key_size_mismatch_rejects 1 (by decide) 2 m1 [9, 9] hash1 100 rfl rfl F1_size
  exact ⟨h 2 (by decide) 100, h 0 (by decide) 100⟩

/-- any other value of the version byte (`version << 1 | written`): another `HEADER_VERSION`, written or
    not, and version 6 not written -/
theorem version_mismatch_rejects (K : Nat) (hK : K ≤ 2032) (metaLen : Nat) (m : InMem RawHeader)
    (metaBuf hash : List Nat) (blobSize : Nat) (hmeta : metaBuf.length = metaLen) (hhash : hash.length = 32)
    (hsize : (build (Params.real K) metaLen m).fileSize < 2 ^ 64) (vb : Nat)
    (hne : vb ≠ indexHeaderVersion * 2 + 1) (K' actual : Nat) :
    acceptIndex K' actual
      (indexHeaderBytesV (build (Params.real K) metaLen m) hash vb blobSize
        ++ indexBodyBytes (build (Params.real K) metaLen m) metaBuf) = false := by
  have ok := build_imageOK K hK metaLen m metaBuf hash hmeta hhash hsize
  rw [Bool.eq_false_iff]
  intro h
  exact hne ((accept_full_iff ok vb blobSize K' actual).1 h).1

/-- (the image with version byte 13 is the file itself, so the theorem is about real alternatives) -/
example : indexHeaderBytesV F1 hash1 13 100 ++ indexBodyBytes F1 [9, 9] = f1 :=
  (indexFileBytes_eq_V F1 [9, 9] hash1 100).symm
set_option maxRecDepth 100000 in
/-- version 5 written, version 7 written -/
example : acceptIndex 1 100 (indexHeaderBytesV F1 hash1 11 100 ++ indexBodyBytes F1 [9, 9]) = false ∧
    acceptIndex 1 100 (indexHeaderBytesV F1 hash1 15 100 ++ indexBodyBytes F1 [9, 9]) = false := by
  have h := version_mismatch_rejects 1 (by decide) 2 m1 [9, 9] hash1 100 rfl rfl F1_size
  exact ⟨h 11 (by decide) 1 100, h 15 (by decide) 1 100⟩

/-! ### the property: no damaged image is ever used -/

/-- the damage patterns of the property, applied to the file the storage wrote (and their combinations
    with truncation) -/
inductive Damage where
  | intact
  /-- truncated at any length -/
  | truncated (t : Nat)
  /-- half-written: buffer written, header not yet rewritten with the `written` bit -/
  | halfWritten
  /-- half-written, the buffer write itself cut short -/
  | halfWrittenTruncated (t : Nat)
  /-- the not-yet-rewritten header followed by anything -/
  | headerThenAnything (rest : List Nat)
  /-- stale: the `blob_size` field is that of another blob -/
  | blobSizeField (b : Nat)
  /-- stale and truncated -/
  | blobSizeFieldTruncated (b t : Nat)

/-- the bytes found on disk -/
def Damage.image (f : IndexFile RawHeader) (metaBuf hash : List Nat) (blobSize : Nat) : Damage → List Nat
  | .intact => indexFileBytes f metaBuf hash blobSize
  | .truncated t => (indexFileBytes f metaBuf hash blobSize).take t
  | .halfWritten => indexFileBytesUnwritten f metaBuf hash blobSize
  | .halfWrittenTruncated t => (indexFileBytesUnwritten f metaBuf hash blobSize).take t
  | .headerThenAnything rest => indexHeaderBytes f hash false blobSize ++ rest
  | .blobSizeField b => indexFileBytes f metaBuf hash b
  | .blobSizeFieldTruncated b t => (indexFileBytes f metaBuf hash b).take t

/-- whatever the damage and whatever the actual size of the blob: the image found on disk is used at
    start-up if and only if it is, byte for byte, the file the storage writes for a blob of exactly the
    actual size.  Every other image is discarded and the index is recomputed from the blob. -/
theorem damage_never_accepted (K : Nat) (hK : K ≤ 2032) (metaLen : Nat) (m : InMem RawHeader)
    (metaBuf hash : List Nat) (blobSize : Nat) (hmeta : metaBuf.length = metaLen) (hhash : hash.length = 32)
    (hsize : (build (Params.real K) metaLen m).fileSize < 2 ^ 64) (d : Damage) (actual : Nat) :
    acceptIndex K actual (d.image (build (Params.real K) metaLen m) metaBuf hash blobSize) = true ↔
      (actual < 2 ^ 64 ∧ d.image (build (Params.real K) metaLen m) metaBuf hash blobSize
        = indexFileBytes (build (Params.real K) metaLen m) metaBuf hash actual) := by
  have ok := build_imageOK K hK metaLen m metaBuf hash hmeta hhash hsize
  constructor
  · -- every image is a whole image or a prefix of one (version byte 13 or 12, any blob-size field), or the
    -- unwritten header followed by anything
    intro h
    cases d with
    | intact | halfWritten | blobSizeField _ =>
      simp only [Damage.image, indexFileBytes_eq_V, indexFileBytesUnwritten_eq_V] at h ⊢
      exact accepted_image_eq ok h
    | truncated _ | halfWrittenTruncated _ | blobSizeFieldTruncated _ _ =>
      simp only [Damage.image, indexFileBytes_eq_V, indexFileBytesUnwritten_eq_V] at h ⊢
      exact accepted_prefix_eq ok h
    | headerThenAnything rest =>
      cases (accept_unwritten_header ok blobSize K actual rest).symm.trans h
  · rintro ⟨hlt, heq⟩
    rw [heq]
    exact accept_produced K hK metaLen m metaBuf hash actual hmeta hhash hsize hlt

/-- with the blob unchanged: the only accepted image is the undamaged file -/
theorem damage_never_accepted_same_blob (K : Nat) (hK : K ≤ 2032) (metaLen : Nat) (m : InMem RawHeader)
    (metaBuf hash : List Nat) (blobSize : Nat) (hmeta : metaBuf.length = metaLen) (hhash : hash.length = 32)
    (hsize : (build (Params.real K) metaLen m).fileSize < 2 ^ 64) (hblob : blobSize < 2 ^ 64) (d : Damage) :
    acceptIndex K blobSize (d.image (build (Params.real K) metaLen m) metaBuf hash blobSize) = true ↔
      d.image (build (Params.real K) metaLen m) metaBuf hash blobSize
        = indexFileBytes (build (Params.real K) metaLen m) metaBuf hash blobSize := by
  rw [damage_never_accepted K hK metaLen m metaBuf hash blobSize hmeta hhash hsize d blobSize]
  exact ⟨fun h => h.2, fun h => ⟨hblob, h⟩⟩

set_option maxRecDepth 100000 in
/-- both sides of the equivalence occur: a cut file is not the file, and is rejected; a "stale" field that
    happens to be the right one gives the file back, and is accepted -/
example :
    acceptIndex 1 100 ((Damage.truncated 200).image F1 [9, 9] hash1 100) = false ∧
    (Damage.truncated 200).image F1 [9, 9] hash1 100 ≠ f1 ∧
    acceptIndex 1 100 ((Damage.blobSizeField 100).image F1 [9, 9] hash1 100) = true ∧
    acceptIndex 1 100 ((Damage.blobSizeField 99).image F1 [9, 9] hash1 100) = false ∧
    acceptIndex 1 100 ((Damage.truncated 275).image F1 [9, 9] hash1 100) = true := by
  have iff := damage_never_accepted_same_blob 1 (by decide) 2 m1 [9, 9] hash1 100 rfl rfl F1_size (by decide)
  have cut : acceptIndex 1 100 (f1.take 200) = false :=
    index_validate_rejects_truncated 1 (by decide) 2 m1 [9, 9] hash1 100 rfl rfl F1_size 1 100 200
      (show 200 < f1.length from f1_length ▸ by decide)
  exact ⟨cut, fun h => Bool.false_ne_true (cut.symm.trans ((iff (.truncated 200)).2 h)),
    (iff (.blobSizeField 100)).2 rfl,
    stale_size_rejects 1 (by decide) 2 m1 [9, 9] hash1 99 rfl rfl F1_size (by decide) 100 (by decide),
    (iff (.truncated 275)).2 (List.take_of_length_le (Nat.le_of_eq f1_length))⟩
example (d : Damage) (h : acceptIndex 1 100 (d.image F1 [9, 9] hash1 100) = true) :
    d.image F1 [9, 9] hash1 100 = f1 :=
  (damage_never_accepted_same_blob 1 (by decide) 2 m1 [9, 9] hash1 100 rfl rfl F1_size (by decide) d).1 h

/-! ### arbitrary byte strings -/

/-- whatever bytes are found: if start-up uses them, then the header has the `written` bit, the current
    version, the compile-time key size and the size of the blob file, and the length of the file is the
    one its own header and tree meta declare -/
theorem accepted_has_declared_length (K blobSize : Nat) (g : List Nat) (h : acceptIndex K blobSize g = true) :
    ∃ hd tm, readIndexHeader g = some hd ∧ readTreeMeta g hd = some tm ∧
      hd.isWritten = true ∧ hd.version = indexHeaderVersion ∧ hd.keySize = K ∧ hd.blobSize = blobSize ∧
      hd.magic = magicByte ∧ tm.treeOffset ≤ tm.leavesOffset ∧
      g.length = hd.recordsCount * hd.recordHeaderSize + tm.leavesOffset ∧
      hd.serializedSize + hd.metaSize + treeMetaSize ≤ g.length :=
  accept_sound K blobSize g h

/-- `accepted_is_faithful`, the part that holds: ANY byte string `g` that start-up uses and that agrees
    with a produced file on the header, the filter section and the tree meta (the first
    `83 + metaLen + 16` bytes) has exactly the length of that file, and the key size and the blob size
    are the recorded ones.  (So no shorter or longer file can pass for it.) -/
theorem accepted_is_faithful_partial (K : Nat) (hK : K ≤ 2032) (metaLen : Nat) (m : InMem RawHeader)
    (metaBuf hash : List Nat) (blobSize : Nat) (hmeta : metaBuf.length = metaLen) (hhash : hash.length = 32)
    (hsize : (build (Params.real K) metaLen m).fileSize < 2 ^ 64) (hblob : blobSize < 2 ^ 64)
    (K' actual : Nat) (g : List Nat)
    (hpre : g.take (83 + metaLen + 16)
      = (indexFileBytes (build (Params.real K) metaLen m) metaBuf hash blobSize).take (83 + metaLen + 16))
    (h : acceptIndex K' actual g = true) :
    g.length = (indexFileBytes (build (Params.real K) metaLen m) metaBuf hash blobSize).length ∧
      K' = K ∧ actual = blobSize := by
  have ok := build_imageOK K hK metaLen m metaBuf hash hmeta hhash hsize
  rw [indexFileBytes_eq_V] at hpre ⊢
  obtain ⟨h1, _, h2, h3⟩ := (accept_same_prefix ok 13 blobSize K' actual g hpre).1 h
  rw [Nat.mod_eq_of_lt (by rw [pow_256_8]; omega)] at h3
  exact ⟨h1.trans (ok.image_length 13 blobSize).symm, h2, h3.symm⟩

/-- the file with every byte after the first record header replaced -/
def g1 : List Nat := f1.take 159 ++ List.replicate 116 255

/-- `accepted_is_faithful` for arbitrary byte strings is FALSE of the code: the start-up test does not
    look at the tree or at the record headers (`validate`: "FIXME: check hash here?"; the SHA-256 stored in
    the header, computed over the whole file buffer, is compared only by `get_records_headers`, when the whole
    index is loaded).  A file of the
    right length whose record headers were overwritten is used.  This damage — content changed, length
    kept — is not among the patterns of the property (missing, truncated, half-written, stale). -/
theorem accepted_is_faithful_general_false :
    g1 ≠ f1 ∧ g1.length = f1.length ∧ g1.take 159 = f1.take 159 ∧ acceptIndex 1 100 g1 = true := by
  have hcut : (f1.take 159).length = 159 := by rw [List.length_take, f1_length]; rfl
  have hlen : g1.length = f1.length := by
    rw [g1, List.length_append, hcut, List.length_replicate, f1_length]
  have hpre : g1.take 159 = f1.take 159 := List.take_left' hcut
  refine ⟨by decide +kernel, hlen, hpre, ?_⟩
  -- the test reads the first 101 bytes and the length, and nothing else
  have ok : ImageOK F1 [9, 9] hash1 := build_imageOK 1 (by decide) 2 m1 [9, 9] hash1 rfl rfl F1_size
  have hf : f1 = indexHeaderBytesV F1 hash1 13 100 ++ indexBodyBytes F1 [9, 9] := indexFileBytes_eq_V ..
  refine (accept_same_prefix ok 13 100 1 100 g1 ?_).2 ⟨?_, rfl, rfl, rfl⟩
  · rw [← hf]
    show g1.take 101 = f1.take 101
    simpa [List.take_take] using congrArg (List.take 101) hpre
  · rw [hlen, hf, ok.image_length]

example : g1.length = f1.length :=
  (accepted_is_faithful_partial 1 (by decide) 2 m1 [9, 9] hash1 100 rfl rfl F1_size (by decide) 1 100 g1
    (show g1.take 101 = f1.take 101 by
      simpa [List.take_take] using congrArg (List.take 101) accepted_is_faithful_general_false.2.2.1)
    accepted_is_faithful_general_false.2.2.2).1

end Pearl.C03b
