import Pearl.Proofs.EndToEndCrashE8
import Pearl.Proofs.EndToEndCrashIdx
import Pearl.Proofs.EndToEndCrashDecide
import Pearl.Proofs.EndToEndCrashDemo
import Pearl.Props.EndToEnd
/-
End-to-end crash recovery (property C06 on the composed storage).

C06: after a crash at any point (process kill = every issued write survives; power loss = any prefix of the un-synced
tail of each file may survive), start-up succeeds, every record acknowledged before the last sync of its blob is
served, records are served only if complete in the surviving prefix (known exception E8), no foreign bytes are ever
returned, and writes made after recovery are durable.

Model: `Pearl/Model/EndToEndCrash.lean`: `CState.crash cfg c cut` cuts the file of every blob
at `cut id` (index files removed, in-memory state gone), `CState.recover` is `Storage::init` on that directory with
the quarantine decision of `read_blobs` (`CState.restart` when no file is rejected), `crashRecover`
their composition; `Store.crash` / `Store.crashRecover` the same at L2; `cutKind` / `fate` classify a cut.

The last part of the file: the index files are THERE after the crash, at every written length
(`Pearl/Model/EndToEndCrashIdx.lean`): `truncated_index_rejected`,
`crash_with_indexes{,_noTorn,_torn,_run}`, `crash_with_indexes_spec{,_run}`; finding `crash_index_beside_header_only`.

All theorems are about an ARBITRARY state satisfying the invariant `CInv` — which holds after every history of
operations from the empty storage (`refinement_run`, `refinement_meta_run`); the `_run` versions say so.

Findings (statements that are FALSE of the model, refuted below on concrete witnesses):
* the statement "a cut anywhere inside the NEXT record's header leaves the records complete in the surviving prefix
  served" — is false: the scan hits the end of the file inside the header (`Bincode`), the WHOLE blob is moved to the
  corrupted directory, complete records included (C06 `scan_prefix_in_header`); reads then answer from the older
  blobs: a stale value resurfaces (`crash_in_header_quarantines`).  True: `crash_recover` (quarantined blobs are left
  out of the L2 store), `crash_prefix` (cuts at record boundaries / process kill).
* the statement "every record that ended at or before the synced size is served after recovery" — is false for the
  same reason: a power loss that cuts the un-synced tail inside a record header quarantines the blob together with
  its synced records (`synced_record_quarantined`).  True: `crash_synced_served` — the record is complete in the
  surviving file and loads from it with its original bytes; start-up either opens the blob with the record in it, or
  quarantines the blob (the file, with the record intact, is in the corrupted directory).
* the statement "after a torn tail accepted by the non-validating start-up and further writes, the second start-up
  quarantines the blob" does not hold in general: (a) the appended bytes may by accident continue the torn record (C06); (b) when the records appended after
  the first recovery do not reach the claimed end of the torn record, the second non-validating scan stops silently at
  the torn record — no quarantine, the blob is opened, and the acknowledged post-recovery writes are not indexed:
  they are lost without any error (`two_crash_silent_loss`, general; `two_crash_silent_witness`).  The quarantine
  case is stated on the witness (`two_crash_witness`).
* "start-up with the index files a crash can leave = start-up with the index files removed" is false for ONE cut: a blob
  file cut back to exactly its 20 header bytes is opened (empty) without an index file and QUARANTINED when a truncated /
  stale / half-written index file lies next to it (`crash_index_beside_header_only`,
  `crash_with_indexes_header_only_false`).  True: `crash_with_indexes` (hypothesis: no index file next to such a blob).
-/
namespace Pearl.E2E
open Pearl Pearl.BPTree Pearl.Container

/-- **`init_total` on the composed storage**: for every state satisfying the invariant and EVERY cut — clean, inside
    a blob header, inside a record header, inside meta / data — start-up on the crashed directory does not fail -/
theorem crash_init_total {cfg : Cfg} {c : CState} (hinv : CInv cfg c) (cut : Nat → Nat) (lazy : Bool) :
    ∃ c₁, c.crashRecover cfg cut lazy = some c₁ :=
  ⟨_, crashRecover_eq hinv cut lazy⟩

/-- the history variable `ghost` (which `crash` truncates to the records complete in the surviving prefix) is not read
    by crash + start-up: for ANY state, the physical part — files, indexes, filters, container, `next_blob_id` — of
    the recovered storage is a function of the physical part of the state before the crash; and start-up with
    quarantine is `restart` whenever that does not fail -/
theorem crash_ghost_not_read (cfg : Cfg) (c : CState) (cut : Nat → Nat) (lazy : Bool) :
    (c.eraseGhost.crashRecover cfg cut lazy).map CState.eraseGhost =
      (c.crashRecover cfg cut lazy).map CState.eraseGhost ∧
    (∀ bs, regenAll cfg (sortById c.blobs) = some bs → c.recover cfg lazy = some (c.restart cfg lazy)) :=
  ⟨crashRecover_ghost_irrelevant cfg c cut lazy, fun bs h => recover_eq_restart cfg c lazy bs h⟩

/-- what the history variable of a crashed blob is (`complete`, computed from the record lengths), in terms of the
    BYTES of the file: the blob file of the records it keeps fits into the surviving prefix and is its beginning;
    the blob file of one more record does not fit -/
theorem crash_ghost_spec {cfg : Cfg} {c : CState} (hinv : CInv cfg c) (b : CBlob) (hb : b ∈ c.blobs) (t : Nat)
    (h20 : blobHeaderSize ≤ t) :
    (blobBytes cfg.klen (full (b.crash cfg t).ghost)).length ≤ t ∧
    (b.crash cfg t).file.take (blobBytes cfg.klen (full (b.crash cfg t).ghost)).length =
      blobBytes cfg.klen (full (b.crash cfg t).ghost) ∧
    ((b.crash cfg t).ghost.length < b.ghost.length →
      t < (blobBytes cfg.klen (full (b.ghost.take ((b.crash cfg t).ghost.length + 1)))).length) := by
  have hbi : BlobInv cfg b := CInvG.blobInv hinv hb
  obtain ⟨h1, h2⟩ := complete_spec cfg.klen b.ghost t h20
  have hle := complete_le cfg.klen b.ghost t
  have hg : (b.crash cfg t).ghost = b.ghost.take (complete cfg.klen b.ghost t) := rfl
  have hl : (b.crash cfg t).ghost.length = complete cfg.klen b.ghost t := by
    rw [hg, List.length_take]; omega
  rw [hl, hg, file_length, file_length]
  refine ⟨h1, ?_, h2⟩
  show (b.file.take t).take _ = _
  rw [List.take_take, Nat.min_eq_left h1, hbi.file, ← boundary_length, full_take]
  exact blobBytes_take_boundary cfg.klen (full b.ghost) _

/-- **`crash_prefix`**: every cut at a record boundary (`CleanCuts`: the end of a record, the end of the blob
    header, or at / after the end of the file).  Then start-up with quarantine is `restart` of the
    crashed directory; the state after crash + restart satisfies `CInv`; the crashed directory abstracts to the L2
    store in which each blob holds exactly the records that are complete in its surviving prefix
    (`Store.crash`: `recs.take (complete klen recs (cut id))`), the restarted storage to its `Store.restart`; and reads
    answer per `Spec` on that pruned history -/
theorem crash_prefix {cfg : Cfg} (hcfg : cfg.OK) {c : CState} (hinv : CInv cfg c) (cut : Nat → Nat) (lazy : Bool)
    (hclean : CleanCuts cfg c cut) :
    c.crashRecover cfg cut lazy = some ((c.crash cfg cut).restart cfg lazy) ∧
    CInv cfg ((c.crash cfg cut).restart cfg lazy) ∧
    (c.crash cfg cut).abs cfg = (c.abs cfg).crash cfg.klen cut ∧
    ((c.crash cfg cut).restart cfg lazy).abs cfg = ((c.abs cfg).crash cfg.klen cut).restart lazy ∧
    (∀ k, ((c.crash cfg cut).restart cfg lazy).read cfg k =
      .ok ((Spec.latest ((c.abs cfg).crash cfg.klen cut).history k).map (fun p => dataOf p.r.data))) ∧
    (∀ k, ((c.crash cfg cut).restart cfg lazy).contains cfg k =
      .ok ((Spec.latest ((c.abs cfg).crash cfg.klen cut).history k).map (·.r.ts))) := by
  have h1 := crashRecover_eq_restart hinv cut lazy hclean.noQuarantine
  obtain ⟨c₁, hc₁, hinv₁, habs₁⟩ := crash_recover_ref hcfg hinv cut lazy hclean.noTorn
  rw [h1] at hc₁
  cases hc₁
  rw [Store.crashRecover_clean hinv.wf cut lazy hclean.abs] at habs₁
  refine ⟨h1, hinv₁, crash_abs cfg c cut, habs₁, fun k => ?_, fun k => ?_⟩
  · rw [(read_of_inv hcfg _ hinv₁ k).1, habs₁, Store.crash_restart_latest hinv.wf cut lazy k]
  · rw [(read_of_inv hcfg _ hinv₁ k).2, habs₁, Store.crash_restart_latest hinv.wf cut lazy k]

/-- **process kill** (every issued write survives: every `cut ≥` the file length): crash + index-less start-up
    changes no answer -/
theorem crash_process_kill {cfg : Cfg} (hcfg : cfg.OK) {c : CState} (hinv : CInv cfg c) (cut : Nat → Nat) (lazy : Bool)
    (hkill : ∀ b ∈ c.blobs, b.file.length ≤ cut b.id) :
    c.crashRecover cfg cut lazy = some ((c.crash cfg cut).restart cfg lazy) ∧
    CInv cfg ((c.crash cfg cut).restart cfg lazy) ∧
    (∀ k, ((c.crash cfg cut).restart cfg lazy).read cfg k = c.read cfg k) ∧
    (∀ k, ((c.crash cfg cut).restart cfg lazy).contains cfg k = c.contains cfg k) := by
  obtain ⟨h1, h2, _, _, h5, h6⟩ := crash_prefix hcfg hinv cut lazy (cleanCuts_of_ge hinv hkill)
  have hhist : ((c.abs cfg).crash cfg.klen cut).history = (c.abs cfg).history := by
    apply Store.crash_history_of_ge
    refine forall_abs_blobs.mpr fun b0 hb0 => ?_
    have := hkill b0 hb0
    rw [(CInvG.blobInv hinv hb0).file, file_length] at this
    exact this
  refine ⟨h1, h2, fun k => ?_, fun k => ?_⟩
  · rw [h5 k, hhist, (read_of_inv hcfg c hinv k).1]
  · rw [h6 k, hhist, (read_of_inv hcfg c hinv k).2]

theorem crash_history (cfg : Cfg) (c : CState) (cut : Nat → Nat) :
    ((c.abs cfg).crash cfg.klen cut).history =
      (c.abs cfg).history.map (fun p => (p.1, p.2.take (complete cfg.klen p.2 (cut p.1)))) :=
  Store.crash_history cfg.klen (c.abs cfg) cut

theorem crash_prefix_run {cfg : Cfg} (hcfg : cfg.OK) (ops : List MOp) (hops : ∀ op ∈ ops, op.OK cfg)
    (hsz : StoreSized cfg.klen ((Store.init cfg.allowDup).run (ops.map MOp.abs))) (cut : Nat → Nat) (lazy : Bool)
    (hclean : CleanCuts cfg ((CState.init cfg).runM cfg ops) cut) :
    let c := (CState.init cfg).runM cfg ops
    let s := (Store.init cfg.allowDup).run (ops.map MOp.abs)
    c.crashRecover cfg cut lazy = some ((c.crash cfg cut).restart cfg lazy) ∧
    CInv cfg ((c.crash cfg cut).restart cfg lazy) ∧
    ((c.crash cfg cut).restart cfg lazy).abs cfg = (s.crash cfg.klen cut).restart lazy ∧
    (∀ k, ((c.crash cfg cut).restart cfg lazy).read cfg k =
      .ok ((Spec.latest (s.crash cfg.klen cut).history k).map (fun p => dataOf p.r.data))) := by
  intro c s
  obtain ⟨habs, hinv, _⟩ := runM_ref hcfg ops hops hsz
  have := crash_prefix hcfg hinv cut lazy hclean
  rw [habs] at this
  exact ⟨this.1, this.2.1, this.2.2.2.1, this.2.2.2.2.1⟩

/-- the two ways to a clean cut: record boundaries, and process kill (every issued write survives) -/
theorem clean_cuts {cfg : Cfg} {c : CState} (hinv : CInv cfg c) (cut : Nat → Nat) :
    ((∀ b ∈ c.blobs, ∃ n, n ≤ b.ghost.length ∧ cut b.id = Fs.contentLen cfg.klen (b.ghost.take n)) →
      CleanCuts cfg c cut) ∧
    ((∀ b ∈ c.blobs, b.file.length ≤ cut b.id) → CleanCuts cfg c cut) :=
  ⟨cleanCuts_of_boundary, cleanCuts_of_ge hinv⟩

/-- the end of record `n - 1` in the bytes of the file is `Fs.contentLen` of the first `n` records -/
theorem boundary_is_contentLen {cfg : Cfg} {c : CState} (hinv : CInv cfg c) (b : CBlob) (hb : b ∈ c.blobs) (n : Nat) :
    (blobBytes cfg.klen ((b.ghost.take n).map (fun r => (r, dataOf r.data)))).length =
      Fs.contentLen cfg.klen (b.ghost.take n) ∧
    b.file.length = Fs.contentLen cfg.klen b.ghost :=
  ⟨file_length cfg.klen (b.ghost.take n), by rw [(CInvG.blobInv hinv hb).file]; exact file_length cfg.klen b.ghost⟩

/-- **`crash_recover`**, the general form of `crash_prefix`: for EVERY cut at which no blob is opened with a torn tail record (finding E8 — excluded
    e.g. by `validate_data_during_index_regen` when every record has data), start-up succeeds, the recovered
    storage satisfies `CInv` and abstracts to `Store.crashRecover`: the blobs whose blob header or next record header
    is cut are quarantined (left out, their ids reserved), every other blob holds exactly the records that are
    complete in its surviving prefix; reads answer per `Spec` on that history -/
theorem crash_recover {cfg : Cfg} (hcfg : cfg.OK) {c : CState} (hinv : CInv cfg c) (cut : Nat → Nat) (lazy : Bool)
    (hnt : NoTorn cfg c cut) :
    ∃ c₁, c.crashRecover cfg cut lazy = some c₁ ∧ CInv cfg c₁ ∧
      c₁.abs cfg = (c.abs cfg).crashRecover cfg.klen cfg.validateData cut lazy ∧
      (StoreMetaOK (c.abs cfg) → StoreMetaOK (c₁.abs cfg)) ∧
      (∀ k, c₁.read cfg k = .ok ((Spec.latest
        ((c.abs cfg).crashRecover cfg.klen cfg.validateData cut lazy).history k).map (fun p => dataOf p.r.data))) := by
  obtain ⟨c₁, hc₁, hinv₁, habs₁⟩ := crash_recover_ref hcfg hinv cut lazy hnt
  refine ⟨c₁, hc₁, hinv₁, habs₁, fun hm => ?_, fun k => ?_⟩
  · rw [habs₁]; exact crashRecover_metaOK hinv.wf hm cut lazy
  · rw [(read_of_inv hcfg _ hinv₁ k).1, habs₁]

/-- with data validation at index regeneration and only records with data, no cut is accepted torn -/
theorem noTorn_of_validate {cfg : Cfg} {c : CState} (cut : Nat → Nat) (hv : cfg.validateData = true)
    (hdata : ∀ b ∈ c.blobs, ∀ r ∈ b.ghost, hasData r = true) : NoTorn cfg c cut := by
  intro b hb n hf
  obtain ⟨_, r, hr, hvd⟩ := fate_opened_true hf
  rw [hv, hdata b hb r (List.mem_of_getElem? hr)] at hvd
  cases hvd

/-- **`crash_synced_served`**, for any `synced ≤ cut` per blob (the file layer provides one: `syncedOf` of `Pearl/Model/EndToEndCrash.lean`):
    a record that ended at or before the synced size of its blob
    (a) is complete in the surviving prefix,
    (b) loads from the surviving file with its original bytes (`Entry::load` with header and data checksum
        validation, by the header that was pushed for it),
    (c) after start-up, is a record of the opened blob — same position, the surviving file —, or the blob is
        quarantined: no blob of the recovered storage has its id (the file, with the record intact, is in the
        corrupted directory).  Quarantine does happen: `synced_record_quarantined`. -/
theorem crash_synced_served {cfg : Cfg} (hcfg : cfg.OK) {c : CState} (hinv : CInv cfg c) (cut synced : Nat → Nat)
    (hcut : ∀ b ∈ c.blobs, synced b.id ≤ cut b.id) {b : CBlob} (hb : b ∈ c.blobs) {j : Nat} {r : Rec}
    (hr : b.ghost[j]? = some r) (hsync : Fs.contentLen cfg.klen (b.ghost.take (j + 1)) ≤ synced b.id) :
    j < complete cfg.klen b.ghost (cut b.id) ∧
    (∃ h, (hdrsOf cfg b.ghost)[j]? = some h ∧
      entryLoad (b.file.take (cut b.id)) h = .ok (serMeta r.mt, if r.del then [] else dataOf r.data)) ∧
    (∀ lazy, ∃ c₁, c.crashRecover cfg cut lazy = some c₁ ∧
      ((fate cfg.klen cfg.validateData b.ghost (cut b.id) = .quarantined ∧ ∀ b₁ ∈ c₁.blobs, b₁.id ≠ b.id) ∨
       (∃ b₁ ∈ c₁.blobs, b₁.id = b.id ∧ b₁.file = b.file.take (cut b.id) ∧ b₁.ghost[j]? = some r))) := by
  have hjl : j < b.ghost.length := (List.getElem?_eq_some_iff.mp hr).1
  have hend : Fs.contentLen cfg.klen (b.ghost.take (j + 1)) ≤ cut b.id := Nat.le_trans hsync (hcut b hb)
  have hcomp := lt_complete_of_end_le cfg.klen b.ghost (cut b.id) j hjl hend
  have hbi : BlobInv cfg b := CInvG.blobInv hinv hb
  have hjh : j < (hdrsOf cfg b.ghost).length := by rw [hdrsOf_length]; exact hjl
  refine ⟨hcomp, ⟨_, List.getElem?_eq_getElem hjh,
    entryLoad_of_end_le hbi (cut b.id) j r _ hr (List.getElem?_eq_getElem hjh) hend⟩, fun lazy => ?_⟩
  refine ⟨_, crashRecover_eq hinv cut lazy, ?_⟩
  cases hf : fate cfg.klen cfg.validateData b.ghost (cut b.id) with
  | quarantined =>
    exact Or.inl ⟨rfl, quarantined_not_in_recovered hcfg hinv cut lazy (crashRecover_eq hinv cut lazy) hb hf⟩
  | opened n torn =>
    right
    obtain ⟨b₁, hb₁, h1, h2, h3, _⟩ :=
      survivor_in_recovered hcfg hinv cut lazy (crashRecover_eq hinv cut lazy) hb hf
    refine ⟨b₁, hb₁, h1, h2, ?_⟩
    rw [h3, List.getElem?_take, if_pos (by rw [fate_complete hf]; exact hcomp)]
    exact hr

/-- … so the record is a record of the pruned history on which `crash_prefix` / `crash_recover` say the reads
    answer (at the same position of the same blob) -/
theorem crash_synced_in_history {cfg : Cfg} {c : CState} (cut synced : Nat → Nat)
    (hcut : ∀ b ∈ c.blobs, synced b.id ≤ cut b.id) {b : CBlob} (hb : b ∈ c.blobs) {j : Nat} {r : Rec}
    (hr : b.ghost[j]? = some r) (hsync : Fs.contentLen cfg.klen (b.ghost.take (j + 1)) ≤ synced b.id) :
    ∃ recs, (b.id, recs) ∈ ((c.abs cfg).crash cfg.klen cut).history ∧ recs[j]? = some r := by
  have hjl : j < b.ghost.length := (List.getElem?_eq_some_iff.mp hr).1
  have hcomp := lt_complete_of_end_le cfg.klen b.ghost (cut b.id) j hjl (Nat.le_trans hsync (hcut b hb))
  refine ⟨b.ghost.take (complete cfg.klen b.ghost (cut b.id)), ?_, ?_⟩
  · rw [Store.crash_history]
    apply List.mem_map.mpr
    refine ⟨(b.id, b.ghost), ?_, rfl⟩
    rw [Store.history_eq_map, abs_blobs, List.map_map]
    exact List.mem_map.mpr ⟨b, hb, rfl⟩
  · rw [List.getElem?_take, if_pos hcomp]; exact hr

/-- **`crash_synced_served` with the synced sizes of the file layer** (`Pearl/Model/Fs.lean`: the header sync at creation, the sync
    before a dump, the sync when a blob is closed, `fsyncdata`).  `s` is a state of the file layer whose L2 store is
    the abstraction of `c`, with the invariants `Fs.Full` and `Fs.CountersOK` that hold on every run of the file
    layer (`Fs.run_full`, `Fs.run_diskInv`).  For every power-loss cut (`syncedOf s id ≤ cut id`):
    the conclusions of `crash_synced_served` for `synced = syncedOf s`, and no blob header is ever cut (it was
    synced when the blob was created) -/
theorem crash_synced_served_fs {cfg : Cfg} (hcfg : cfg.OK) {c : CState} (hinv : CInv cfg c) (s : Fs.FsState)
    (hs : s.store = c.abs cfg) (hk : s.klen = cfg.klen) (hfull : Fs.Full s) (hcnt : Fs.CountersOK s.disk)
    (cut : Nat → Nat) (hcut : ∀ b ∈ c.blobs, syncedOf s b.id ≤ cut b.id) :
    (∀ b ∈ c.blobs, blobHeaderSize ≤ syncedOf s b.id ∧ syncedOf s b.id ≤ b.file.length ∧
      cutKind cfg.klen b.ghost (cut b.id) ≠ .blobHeader) ∧
    (∀ b ∈ c.blobs, ∀ j r, b.ghost[j]? = some r →
      Fs.contentLen cfg.klen (b.ghost.take (j + 1)) ≤ syncedOf s b.id →
      j < complete cfg.klen b.ghost (cut b.id) ∧
      (∃ h, (hdrsOf cfg b.ghost)[j]? = some h ∧
        entryLoad (b.file.take (cut b.id)) h = .ok (serMeta r.mt, if r.del then [] else dataOf r.data)) ∧
      (∀ lazy, ∃ c₁, c.crashRecover cfg cut lazy = some c₁ ∧
        ((fate cfg.klen cfg.validateData b.ghost (cut b.id) = .quarantined ∧ ∀ b₁ ∈ c₁.blobs, b₁.id ≠ b.id) ∨
         (∃ b₁ ∈ c₁.blobs, b₁.id = b.id ∧ b₁.file = b.file.take (cut b.id) ∧ b₁.ghost[j]? = some r)))) := by
  refine ⟨fun b hb => ?_, fun b hb j r hr hsync => crash_synced_served hcfg hinv cut (syncedOf s) hcut hb hr hsync⟩
  obtain ⟨h1, h2⟩ := syncedOf_bounds hinv s hs hk hfull hcnt b hb
  refine ⟨h1, h2, fun hk => ?_⟩
  have := cutKind_blobHeader hk
  have := hcut b hb
  omega

/-- … in particular for every run of the file layer: its final state has both invariants -/
theorem crash_synced_served_fs_run {cfg : Cfg} (hcfg : cfg.OK) {c : CState} (hinv : CInv cfg c)
    (dup : Bool) (limit : Nat) (unc rs : Bool) (fops : List Fs.FsOp)
    (hs : (Fs.run dup limit cfg.klen unc rs fops).1.store = c.abs cfg)
    (cut : Nat → Nat) (hcut : ∀ b ∈ c.blobs, syncedOf (Fs.run dup limit cfg.klen unc rs fops).1 b.id ≤ cut b.id)
    {b : CBlob} (hb : b ∈ c.blobs) {j : Nat} {r : Rec} (hr : b.ghost[j]? = some r)
    (hsync : Fs.contentLen cfg.klen (b.ghost.take (j + 1)) ≤ syncedOf (Fs.run dup limit cfg.klen unc rs fops).1 b.id) :
    cutKind cfg.klen b.ghost (cut b.id) ≠ .blobHeader ∧
    j < complete cfg.klen b.ghost (cut b.id) ∧
    (∃ h, (hdrsOf cfg b.ghost)[j]? = some h ∧
      entryLoad (b.file.take (cut b.id)) h = .ok (serMeta r.mt, if r.del then [] else dataOf r.data)) := by
  have := crash_synced_served_fs hcfg hinv (Fs.run dup limit cfg.klen unc rs fops).1 hs
    (Fs.run_config dup limit cfg.klen unc rs fops).1 (Fs.run_full dup limit cfg.klen unc rs fops)
    (Fs.run_diskInv dup limit cfg.klen unc rs fops).counters cut hcut
  exact ⟨(this.1 b hb).2.2, (this.2 b hb j r hr hsync).1, (this.2 b hb j r hr hsync).2.1⟩

/-- the validating scan rejects a tail cut inside meta / data exactly when the record has data -/
theorem fate_body {klen : Nat} {v : Bool} {recs : List Rec} {t n : Nat} {r : Rec}
    (hk : cutKind klen recs t = .body n) (hr : recs[n]? = some r) :
    fate klen v recs t = if v && hasData r then .quarantined else .opened n true := by
  unfold fate
  rw [hk]
  simp only [hr]

/-- **`crash_torn_tail_E8`, the bytes**: the tail record `n` of a blob cut inside meta / data with its header
    complete.  The surviving file is the torn file of `C05.torn_tail_general`; the NON-validating scan returns
    the headers of the first `n + 1` records — the torn one included —, the validating scan does so iff the record has
    no data and fails the whole blob with `Bincode` otherwise, and `Entry::load` of the torn record's header fails
    with `Bincode` -/
theorem crash_torn_tail_E8_bytes {cfg : Cfg} {b : CBlob} (hb : BlobInv cfg b) {t n : Nat} (r : Rec)
    (hk : cutKind cfg.klen b.ghost t = .body n) (hr : b.ghost[n]? = some r) :
    ∃ cutBytes,
      b.file.take t = C05.tornFile (recordsOf cfg.klen (full (b.ghost.take n))) (recOf cfg.klen r) cutBytes ∧
      cutBytes <+: serMeta (recOf cfg.klen r).mt ++ (recOf cfg.klen r).data ∧
      cutBytes ≠ serMeta (recOf cfg.klen r).mt ++ (recOf cfg.klen r).data ∧
      rawRecordsLoad cfg.klen false (b.file.take t) = .ok ((hdrsOf cfg b.ghost).take (n + 1)) ∧
      rawRecordsLoad cfg.klen true (b.file.take t) =
        (if hasData r then .error (.load .bincode) else .ok ((hdrsOf cfg b.ghost).take (n + 1))) ∧
      (∀ h, (hdrsOf cfg b.ghost)[n]? = some h → entryLoad (b.file.take t) h = .error .bincode) := by
  obtain ⟨cutBytes, hfile, hp, hne⟩ := crash_file_torn hb r hk hr
  obtain ⟨hc, hge⟩ := cutIn_of_body hk
  have hscan := fun v => (C06.scan_prefix_cut cfg.klen v (full b.ghost) n t r _ (full_getElem? b.ghost n r hr)
    hb.bytes_lt hb.full_ts hc).1
  refine ⟨cutBytes, hfile, hp, hne, ?_, ?_, fun h hh => ?_⟩
  · rw [hb.file, hscan, if_neg (by omega), if_neg (by simp)]; rfl
  · rw [hb.file, hscan, if_neg (by omega)]
    by_cases hdata : hasData r = true
    · rw [if_pos ⟨rfl, (hasData_iff r).mpr hdata⟩, if_pos hdata]
    · rw [if_neg (fun h => hdata ((hasData_iff r).mp h.2)), if_neg hdata]; rfl
  · rw [hb.file]
    exact C06.torn_record_unreadable cfg.klen (full b.ghost) n t h hb.full_ts hc hh

/-- **`crash_torn_tail_E8`, the storage** (`torn_recover`): the tail record `n` of the active blob `a` is cut inside
    meta / data and accepted (`fate = .opened n true`: the non-validating restart, or a record without data).
    Start-up yields `c₁` whose active blob holds the cut file, the `n` complete records as its history, and an index
    with `n + 1` headers — the torn record is indexed.  With `c₂` the storage recovered had the record been written
    completely (`cutPlus`; `c₂` satisfies `CInv`, so it answers per `Spec` on the history that contains the torn
    record): `c₁` is `c₂` with the cut file in the active blob; `contains` answers alike — the torn record is
    reported present —; `read` answers alike or fails with the load error: it NEVER returns foreign bytes -/
theorem crash_torn_tail_E8 {cfg : Cfg} (hcfg : cfg.OK) {c : CState} (hinv : CInv cfg c) {a : CBlob}
    (ha : c.active = some a) (cut : Nat → Nat) {n : Nat}
    (hf : fate cfg.klen cfg.validateData a.ghost (cut a.id) = .opened n true)
    (hclosed : ∀ b ∈ closedBlobs c.cont, ∀ m, fate cfg.klen cfg.validateData b.ghost (cut b.id) ≠ .opened m true) :
    ∃ c₁ c₂, c.crashRecover cfg cut false = some c₁ ∧
      c.crashRecover cfg (cutPlus cfg a n cut) false = some c₂ ∧
      CInv cfg c₂ ∧
      c₂.abs cfg = (c.abs cfg).crashRecover cfg.klen cfg.validateData (cutPlus cfg a n cut) false ∧
      c₁ = { c₂ with active := some (recovered cfg a (cut a.id) n (n + 1)) } ∧
      (∀ k, c₁.contains cfg k = c₂.contains cfg k) ∧
      (∀ k, c₁.read cfg k = c₂.read cfg k ∨ c₁.read cfg k = .error (.load .bincode)) ∧
      (∀ k data, c₁.read cfg k = .ok (.found data) →
        ∃ p, Spec.latest (c₂.abs cfg).history k = .found p ∧ data = dataOf p.r.data) := by
  obtain ⟨c₁, c₂, h1, h2, h3, h4, _, h6, _, h8, h9⟩ := torn_recover hcfg hinv ha cut hf hclosed
  refine ⟨c₁, c₂, h1, h2, h3, h4, h6, h8, h9, ?_⟩
  intro k data hd
  refine found_per_spec hcfg h3 ?_
  rcases h9 k with h | h
  · rw [← h]; exact hd
  · rw [h] at hd; cases hd

/-- **`crash_torn_tail_E8` for ANY blob and both start-up modes** (`torn_recover_any`): the torn tail may be that of a
    closed blob (a deletion marker appended by `delete`), `lazy` is arbitrary.  The recovered storage `c₁` is `c₂` —
    the storage recovered had the record been written completely, which satisfies `CInv` — with the cut file in the
    blob of that id, wherever it sits (active, or a child of the container, dumped or not); `contains` answers
    alike, `read` answers alike or fails with the load error, and never returns foreign bytes -/
theorem crash_torn_tail_E8_any {cfg : Cfg} (hcfg : cfg.OK) {c : CState} (hinv : CInv cfg c) {b₀ : CBlob}
    (hb₀ : b₀ ∈ c.blobs) (cut : Nat → Nat) (lazy : Bool) {n : Nat}
    (hf : fate cfg.klen cfg.validateData b₀.ghost (cut b₀.id) = .opened n true)
    (hothers : ∀ b ∈ c.blobs, b ≠ b₀ → ∀ m, fate cfg.klen cfg.validateData b.ghost (cut b.id) ≠ .opened m true) :
    ∃ c₁ c₂, c.crashRecover cfg cut lazy = some c₁ ∧
      c.crashRecover cfg (cutPlus cfg b₀ n cut) lazy = some c₂ ∧
      CInv cfg c₂ ∧
      c₂.abs cfg = (c.abs cfg).crashRecover cfg.klen cfg.validateData (cutPlus cfg b₀ n cut) lazy ∧
      c₁ = c₂.mapBlobs (refileId b₀.id (b₀.file.take (cut b₀.id)) (b₀.ghost.take n)) ∧
      (∀ k, c₁.contains cfg k = c₂.contains cfg k) ∧
      (∀ k, c₁.read cfg k = c₂.read cfg k ∨ c₁.read cfg k = .error (.load .bincode)) ∧
      (∀ k data, c₁.read cfg k = .ok (.found data) →
        ∃ p, Spec.latest (c₂.abs cfg).history k = .found p ∧ data = dataOf p.r.data) := by
  obtain ⟨c₁, c₂, h1, h2, h3, h4, h5, h6, h7⟩ := torn_recover_any hcfg hinv hb₀ cut lazy hf hothers
  refine ⟨c₁, c₂, h1, h2, h3, h4, h5, h6, h7, ?_⟩
  intro k data hd
  refine found_per_spec hcfg h3 ?_
  rcases h7 k with h | h
  · rw [← h]; exact hd
  · rw [h] at hd; cases hd

/-- **… and `read` of the torn record's key fails with the load error** when the read path ranks the torn record
    first (it is not a deletion marker; no earlier record of its key in the active blob and no record of its key in a
    closed blob has a greater timestamp), while `contains` reports it present -/
theorem crash_torn_tail_E8_read_fails {cfg : Cfg} (hcfg : cfg.OK) {c : CState} (hinv : CInv cfg c) {a : CBlob}
    (ha : c.active = some a) (cut : Nat → Nat) {n : Nat}
    (hf : fate cfg.klen cfg.validateData a.ghost (cut a.id) = .opened n true)
    (hclosed : ∀ b ∈ closedBlobs c.cont, ∀ m, fate cfg.klen cfg.validateData b.ghost (cut b.id) ≠ .opened m true)
    (r : Rec) (hr : a.ghost[n]? = some r) (hdel : r.del = false)
    (hA : ∀ j r', j < n → a.ghost[j]? = some r' → r'.key = r.key → r'.ts ≤ r.ts)
    (hB : ∀ b ∈ closedBlobs c.cont, ∀ r' ∈ b.ghost, r'.key = r.key → r'.ts ≤ r.ts) :
    ∃ c₁, c.crashRecover cfg cut false = some c₁ ∧ c₁.read cfg r.key = .error (.load .bincode) ∧
      c₁.contains cfg r.key = .ok (.found r.ts) := by
  obtain ⟨c₁, c₂, hc₁, _, hinv₂, _, hact₂, hrel, hcl, _, _⟩ := torn_recover hcfg hinv ha cut hf hclosed
  refine ⟨c₁, hc₁, ?_⟩
  have hba : BlobInv cfg a := (hinv.active a ha).1
  obtain ⟨hkind, _, _, _⟩ := fate_opened_true hf
  obtain ⟨h, hh, hts, hans⟩ := torn_active_answer hba (cut a.id) n r hr hdel hA
  -- the closed blobs answer with timestamps `≤ r.ts`
  have hrest : ∀ b ∈ (Container.iterPossibleStack (fops cfg) c₂.cont true r.key).filterMap
      (fun j => (c₂.cont.getChild j).map (·.data)),
      ∃ x, b.getLatestEntry cfg r.key = .ok x ∧ (entryTs? x = none ∨ ∃ t, entryTs? x = some t ∧ t ≤ r.ts) := by
    intro b hb
    have hbc : b ∈ closedBlobs c₂.cont := mem_consulted_closed hb
    have hbi : BlobInv cfg b := hinv₂.closed b (mem_closedBlobs.mp hbc)
    obtain ⟨x, hx, hxt⟩ := getLatestEntry_ts hcfg hbi r.key
    refine ⟨x, hx, ?_⟩
    rcases hxt with h0 | ⟨r', hr', hk', ht'⟩
    · exact Or.inl h0
    · right
      refine ⟨r'.ts, ht', ?_⟩
      rw [hcl] at hbc
      obtain ⟨y, hy, rfl⟩ := List.mem_map.mp hbc
      obtain ⟨b0, hb0, hs0⟩ := List.mem_filterMap.mp hy
      rw [(dump_fields cfg y).2.2.1] at hr'
      obtain ⟨_, _, _, rfl⟩ := surv_some hs0
      exact hB b0 hb0 r' (List.mem_of_mem_take hr') hk'
  have hget : c₁.getLatestEntry cfg r.key = .ok (.found ⟨h, a.file.take (cut a.id)⟩) := by
    rw [hrel]
    unfold CState.getLatestEntry CState.consulted
    simp only [Option.toList_some, List.singleton_append, foldEntries, hans, entryLatest_notFound_left]
    obtain ⟨y, hy, hyt⟩ := foldEntries_bound (fun b => b.getLatestEntry cfg r.key) r.ts _ .notFound hrest
      (Or.inl rfl)
    rw [foldEntries_acc, hy]
    simp only []
    unfold entryLatest
    rw [if_neg]
    have hts' : entryTs? (.found ⟨h, a.file.take (cut a.id)⟩ : ReadResult CEntry) = some r.ts := by
      simp [entryTs?, hts]
    rw [hts']
    rcases hyt with h0 | ⟨t, ht, hle⟩
    · rw [h0]; simp [optGt]
    · rw [ht]; simp [optGt]; omega
  refine ⟨?_, ?_⟩
  · unfold CState.read
    rw [hget]
    simp only []
    have hfail := C06.torn_record_unreadable cfg.klen (full a.ghost) n (cut a.id) h
      hba.full_ts (cutIn_of_body hkind).1 hh
    rw [← hba.file] at hfail
    rw [hfail]
  · unfold CState.contains
    rw [hget]
    simp only [ReadResult.map, hts]

/-- **the validating restart** (`validate_data_during_index_regen`): the same cut, the record has data — the blob is
    quarantined: start-up succeeds, the recovered storage satisfies `CInv`, holds no blob with that id, and answers
    per `Spec` on the history without that blob (`Store.crashRecover`) -/
theorem crash_torn_tail_validating {cfg : Cfg} (hcfg : cfg.OK) {c : CState} (hinv : CInv cfg c) {a : CBlob}
    (ha : a ∈ c.blobs) (cut : Nat → Nat) (lazy : Bool) {n : Nat} {r : Rec}
    (hk : cutKind cfg.klen a.ghost (cut a.id) = .body n) (hr : a.ghost[n]? = some r)
    (hv : cfg.validateData = true) (hdata : hasData r = true)
    (hothers : ∀ b ∈ c.blobs, b ≠ a → ∀ m, fate cfg.klen cfg.validateData b.ghost (cut b.id) ≠ .opened m true) :
    fate cfg.klen cfg.validateData a.ghost (cut a.id) = .quarantined ∧
    ∃ c₁, c.crashRecover cfg cut lazy = some c₁ ∧ CInv cfg c₁ ∧ (∀ b₁ ∈ c₁.blobs, b₁.id ≠ a.id) ∧
      c₁.abs cfg = (c.abs cfg).crashRecover cfg.klen cfg.validateData cut lazy := by
  have hfate : fate cfg.klen cfg.validateData a.ghost (cut a.id) = .quarantined := by
    rw [fate_body hk hr, hv, hdata]; rfl
  have hnt : NoTorn cfg c cut := by
    intro b hb m
    by_cases hba : b = a
    · subst hba; rw [hfate]; intro h; cases h
    · exact hothers b hb hba m
  obtain ⟨c₁, hc₁, hinv₁, habs₁⟩ := crash_recover_ref hcfg hinv cut lazy hnt
  exact ⟨hfate, c₁, hc₁, hinv₁, quarantined_not_in_recovered hcfg hinv cut lazy hc₁ ha hfate, habs₁⟩

/-- **the second start-up after an accepted torn tail, the SILENT case** (general, on a blob of the storage): record
    `n` of `b` was cut at `t` inside meta / data and accepted by the first (non-validating) start-up; then `R'` was
    appended — an acknowledged write; `Blob::write` puts it at the end of the file, `t`, inside the region the torn
    header claims — without reaching the claimed end of the torn record.  The next non-validating index-less
    start-up does NOT fail and does NOT quarantine: it opens the blob with the headers of the first `n + 1` records;
    `R'` is not indexed — the acknowledged post-recovery write is silently lost -/
theorem two_crash_silent_loss {cfg : Cfg} {b : CBlob} (hb : BlobInv cfg b) {t n : Nat}
    (hk : cutKind cfg.klen b.ghost t = .body n) (R' : Record)
    (hsmall : t + (R'.image t).length ≤ Fs.contentLen cfg.klen (b.ghost.take (n + 1))) :
    rawRecordsLoad cfg.klen false (appendRecord (b.file.take t) R') = .ok ((hdrsOf cfg b.ghost).take (n + 1)) ∧
    openBlob cfg.klen false (appendRecord (b.file.take t) R') = .ok ((hdrsOf cfg b.ghost).take (n + 1)) := by
  obtain ⟨hc, hge⟩ := cutIn_of_body hk
  have hlen := hb.bytes_lt
  have hts := hb.full_ts
  have htl : (b.file.take t).length = t := by
    rw [List.length_take, hb.file]
    have := hc.2.2
    have := blobBytes_take_length_le cfg.klen (full b.ghost) (n + 1)
    omega
  have hload : rawRecordsLoad cfg.klen false (appendRecord (b.file.take t) R') =
      .ok ((hdrsOf cfg b.ghost).take (n + 1)) := by
    rw [appendRecord_eq, htl, hb.file]
    apply rawRecordsLoad_torn_then cfg.klen (full b.ghost) n t _ hlen hts hc
    · unfold headerSize at hge; exact hge
    · rw [boundary_length]; exact hsmall
  refine ⟨hload, ?_⟩
  have h20 : (b.file.take t) = serBlobHeader ++ (tailOf 20 (recordsOf cfg.klen (full b.ghost))).take (t - 20) := by
    rw [hb.file]
    apply blobBytes_take_ge20
    have := hc.2.1
    have := _root_.Pearl.blobBytes_length_ge cfg.klen ((full b.ghost).take n)
    omega
  have hform : appendRecord (b.file.take t) R' =
      serBlobHeader ++ ((tailOf 20 (recordsOf cfg.klen (full b.ghost))).take (t - 20) ++ R'.image t) := by
    rw [appendRecord_eq, htl, h20, List.append_assoc]
  rw [hform] at hload ⊢
  rw [openBlob_of_load, hload]
  intro h0
  have := congrArg List.length h0
  rw [List.length_append, Record.image_length] at this
  simp at this

/-- **`post_recovery_write_durable`**: `c₁` is any state satisfying the invariant — in particular the storage
    recovered by `crash_prefix` / `crash_recover`.  An operation on it (a write, a delete, …), followed by a crash that
    loses nothing of it (process kill, or the bytes were synced: every `cut ≥` the file length) and another index-less
    start-up: the storage answers exactly as before that crash — per `Spec` on the history that contains the
    post-recovery operation -/
theorem post_recovery_write_durable {cfg : Cfg} (hcfg : cfg.OK) {c₁ : CState} (hinv₁ : CInv cfg c₁) (op : COp)
    (hop : op.OK cfg) (hsz : StoreSized cfg.klen ((c₁.abs cfg).apply op.abs)) (cut' : Nat → Nat) (lazy : Bool)
    (hcut' : ∀ b ∈ (c₁.step cfg op).blobs, b.file.length ≤ cut' b.id) :
    (c₁.step cfg op).crashRecover cfg cut' lazy = some (((c₁.step cfg op).crash cfg cut').restart cfg lazy) ∧
    CInv cfg (((c₁.step cfg op).crash cfg cut').restart cfg lazy) ∧
    (∀ k, (((c₁.step cfg op).crash cfg cut').restart cfg lazy).read cfg k = (c₁.step cfg op).read cfg k) ∧
    (∀ k, (c₁.step cfg op).read cfg k =
      .ok ((Spec.latest ((c₁.abs cfg).apply op.abs).history k).map (fun p => dataOf p.r.data))) := by
  obtain ⟨habs₂, hinv₂⟩ := step_ref hcfg hinv₁ op hop hsz
  obtain ⟨h1, h2, h3, _⟩ := crash_process_kill hcfg hinv₂ cut' lazy hcut'
  exact ⟨h1, h2, h3, fun k => habs₂ ▸ (read_of_inv hcfg _ hinv₂ k).1⟩

/-! ## non-vacuity, and the refutations

Key length 1, two blobs: blob 0 is closed and dumped (records of keys 1 and 2; ends of records at 88 and 155),
blob 1 is active (a newer record of key 1, then a record of key 3; ends of records at 89 and 159).  A record header
is 58 bytes. -/
namespace CrashDemo

theorem cfg_ok : cfg.OK := ⟨Demo.cfg_ok.klen, Demo.cfg_ok.group, Demo.cfg_ok.bloom⟩

theorem ops_ok : ∀ op ∈ ops, op.OK cfg := by decide
theorem ops_okV : ∀ op ∈ ops, op.OK cfgV := by decide

theorem ops_sized : StoreSized cfg.klen ((Store.init cfg.allowDup).run (ops.map COp.abs)) :=
  (storeSized_iff _ _).mpr (by decide)

theorem s_inv : CInv cfg s := (run_ref cfg_ok ops ops_ok ops_sized).2
theorem sV_inv : CInv cfgV sV := (run_ref Demo.cfg_ok ops ops_okV ops_sized).2

theorem s_isSome : s.active.isSome = true := by decide +kernel
theorem sV_isSome : sV.active.isSome = true := by decide +kernel

/-- the active blob (blob 1) -/
def a1 : CBlob := s.active.get s_isSome
def a1V : CBlob := sV.active.get sV_isSome

theorem s_active : s.active = some a1 := (Option.some_get s_isSome).symm
theorem sV_active : sV.active = some a1V := (Option.some_get sV_isSome).symm
theorem a1_mem : a1 ∈ s.blobs := mem_blobs_active s_active
theorem a1V_mem : a1V ∈ sV.blobs := mem_blobs_active sV_active

end CrashDemo

example : CrashDemo.s.blobs.map (fun b => (b.id, b.file.length, b.ghost.length, b.index.onDisk)) =
    [(0, 155, 2, true), (1, 159, 2, false)] := by decide +kernel
example : CrashDemo.s.blobs.map (fun b => (List.range 3).map (fun n => Fs.contentLen 1 (b.ghost.take n))) =
    [[20, 88, 155], [20, 89, 159]] := by decide +kernel
example : CrashDemo.s.blobs.map (fun b => cutKind 1 b.ghost (CrashDemo.cutB b.id)) = [.clean 2, .clean 1] ∧
    CrashDemo.s.blobs.map (fun b => cutKind 1 b.ghost (CrashDemo.cutH b.id)) = [.clean 2, .recHeader 1] ∧
    CrashDemo.s.blobs.map (fun b => cutKind 1 b.ghost (CrashDemo.cutT b.id)) = [.clean 2, .body 1] ∧
    CrashDemo.s.blobs.map (fun b => cutKind 1 b.ghost (CrashDemo.cutZ b.id)) = [.clean 2, .blobHeader] := by decide +kernel

namespace CrashDemo

theorem cutB_clean : CleanCuts cfg s cutB := by
  have h : ∀ b ∈ s.blobs, cutKind cfg.klen b.ghost (cutB b.id) = .clean (complete cfg.klen b.ghost (cutB b.id)) := by
    decide +kernel
  exact fun b hb => ⟨_, h b hb⟩

end CrashDemo

-- `crash_prefix` on it: the theorem, and what it gives (the pruned L2 store is evaluated) — the record of key 3 is
-- gone, the newer record of key 1 (complete in the surviving prefix) is served
example := crash_prefix CrashDemo.cfg_ok CrashDemo.s_inv CrashDemo.cutB false CrashDemo.cutB_clean

example :
    let c₁ := (CrashDemo.s.crash CrashDemo.cfg CrashDemo.cutB).restart CrashDemo.cfg false
    (c₁.abs CrashDemo.cfg).history.map (fun p => (p.1, p.2.length)) = [(0, 2), (1, 1)] ∧
    c₁.read CrashDemo.cfg 1 = .ok (.found (dataOf ⟨3, 3⟩)) ∧ c₁.read CrashDemo.cfg 2 = .ok (.found (dataOf ⟨1, 2⟩)) ∧
    c₁.read CrashDemo.cfg 3 = .ok .notFound := by
  intro c₁
  obtain ⟨_, hinv, _, habs, _⟩ : _ ∧ CInv CrashDemo.cfg c₁ ∧ _ ∧ c₁.abs CrashDemo.cfg = _ ∧ _ :=
    crash_prefix CrashDemo.cfg_ok CrashDemo.s_inv CrashDemo.cutB false CrashDemo.cutB_clean
  simp only [read_eq CrashDemo.cfg_ok hinv, habs, show CrashDemo.s.abs CrashDemo.cfg = _ from
    (run_ref CrashDemo.cfg_ok CrashDemo.ops CrashDemo.ops_ok CrashDemo.ops_sized).1]
  decide +kernel

example (k : Key) : ((CrashDemo.s.crash CrashDemo.cfg CrashDemo.cutB).restart CrashDemo.cfg false).read CrashDemo.cfg k =
    .ok ((Spec.latest ((CrashDemo.s.abs CrashDemo.cfg).crash 1 CrashDemo.cutB).history k).map
      (fun p => dataOf p.r.data)) :=
  (crash_prefix CrashDemo.cfg_ok CrashDemo.s_inv CrashDemo.cutB false CrashDemo.cutB_clean).2.2.2.2.1 k

example := crash_prefix_run CrashDemo.cfg_ok (CrashDemo.ops.map COp.toM) (by decide +kernel)
  ((storeSized_iff _ _).mpr (by decide)) CrashDemo.cutB true
  ((runM_toM CrashDemo.cfg CrashDemo.ops (CState.init CrashDemo.cfg)).symm ▸ CrashDemo.cutB_clean)

/-- **`crash_prefix` does NOT extend to a cut inside the next record's header**: blob 1 is cut 11 bytes into the header of
    its second record.  Start-up quarantines the whole blob — its first record, complete in the surviving prefix, is
    not served: `read 1` returns the OLDER value of blob 0, where the L2 store of the records complete in the
    surviving prefixes answers with the newer one; the recovered storage holds blob 0 only -/
theorem crash_in_header_quarantines :
    (∀ b ∈ CrashDemo.s.blobs, ∃ n, cutKind CrashDemo.cfg.klen b.ghost (CrashDemo.cutH b.id) = .clean n ∨
      cutKind CrashDemo.cfg.klen b.ghost (CrashDemo.cutH b.id) = .recHeader n) ∧
    (CrashDemo.s.crashRecover CrashDemo.cfg CrashDemo.cutH false).map
      (fun c₁ => (c₁.blobs.map (·.id), c₁.nextId, c₁.read CrashDemo.cfg 1)) =
        some ([0], 2, .ok (.found (dataOf ⟨2, 1⟩))) ∧
    (((CrashDemo.s.abs CrashDemo.cfg).crash 1 CrashDemo.cutH).restart false).read 1 none =
      .found ⟨1, 7, false, none, ⟨3, 3⟩⟩ ∧
    ((CrashDemo.s.abs CrashDemo.cfg).crash 1 CrashDemo.cutH).blobs.map (fun b => (b.id, b.recs.length)) =
      [(0, 2), (1, 1)] := by
  refine ⟨?_, (CrashDemo.startups_noTorn CrashDemo.cfg_ok CrashDemo.ops_ok CrashDemo.ops_sized).1.map_eq fun _ h => by simp only [h.1, h.2.1, h.2.2.2], by decide +kernel,
    by decide +kernel⟩
  have h : ∀ b ∈ CrashDemo.s.blobs,
      cutKind CrashDemo.cfg.klen b.ghost (CrashDemo.cutH b.id) = .clean 2 ∨
      cutKind CrashDemo.cfg.klen b.ghost (CrashDemo.cutH b.id) = .recHeader 1 := by decide +kernel
  intro b hb
  rcases h b hb with h | h
  · exact ⟨2, Or.inl h⟩
  · exact ⟨1, Or.inr h⟩

/-- … hence the statement "for cuts at a record boundary or inside the next record's header, the recovered storage
    abstracts to the L2 store of the records complete in the surviving prefixes" has no proof -/
theorem crash_prefix_in_header_false :
    ¬ (∀ (cfg : Cfg) (c : CState) (cut : Nat → Nat), cfg.OK → CInv cfg c →
        (∀ b ∈ c.blobs, ∃ n, cutKind cfg.klen b.ghost (cut b.id) = .clean n ∨
          cutKind cfg.klen b.ghost (cut b.id) = .recHeader n) →
        ∀ c₁, c.crashRecover cfg cut false = some c₁ →
          c₁.abs cfg = ((c.abs cfg).crash cfg.klen cut).restart false) := by
  intro hall
  obtain ⟨c₁, hc₁, _, _, h2, _⟩ := (CrashDemo.startups_noTorn CrashDemo.cfg_ok CrashDemo.ops_ok CrashDemo.ops_sized).1.elim
  have := hall CrashDemo.cfg CrashDemo.s CrashDemo.cutH CrashDemo.cfg_ok CrashDemo.s_inv
    crash_in_header_quarantines.1 c₁ hc₁
  rw [this] at h2
  revert h2
  decide +kernel

-- … while the true general form applies: `crash_recover` (here no cut is accepted torn)
example : ∃ c₁, CrashDemo.s.crashRecover CrashDemo.cfg CrashDemo.cutH false = some c₁ ∧ CInv CrashDemo.cfg c₁ ∧
    c₁.abs CrashDemo.cfg = (CrashDemo.s.abs CrashDemo.cfg).crashRecover 1 false CrashDemo.cutH false := by
  obtain ⟨c₁, h1, h2, h3, _⟩ :=
    crash_recover CrashDemo.cfg_ok CrashDemo.s_inv CrashDemo.cutH false (by decide +kernel)
  exact ⟨c₁, h1, h2, h3⟩

-- a cut inside the blob header: the blob is quarantined, the last surviving blob becomes the active one
example : (CrashDemo.s.crashRecover CrashDemo.cfg CrashDemo.cutZ false).map
    (fun c₁ => (c₁.blobs.map (fun b => (b.id, b.index.onDisk)), c₁.nextId)) = some ([(0, false)], 2) ∧
    (CrashDemo.s.crashRecover CrashDemo.cfg CrashDemo.cutZ true).map
    (fun c₁ => (c₁.blobs.map (fun b => (b.id, b.index.onDisk)), c₁.active.isSome, c₁.nextId)) =
      some ([(0, true)], false, 2) := by
  obtain ⟨_, h3, h4⟩ := CrashDemo.startups_noTorn CrashDemo.cfg_ok CrashDemo.ops_ok CrashDemo.ops_sized
  exact ⟨h3.map_eq fun _ h => by simp only [h.1, h.2], h4.map_eq fun _ h => by simp only [h.1, h.2.1, h.2.2]⟩

namespace CrashDemo

/-- the same history at the file layer: the explicit `fsyncdata` after the first write into blob 1 syncs 89 bytes -/
def fops : List Fs.FsOp :=
  [.write 1 5 none ⟨2, 1⟩ false, .write 2 6 none ⟨1, 2⟩ false, .closeActive, .createActive,
   .write 1 7 none ⟨3, 3⟩ false, .fsync, .write 3 8 none ⟨4, 4⟩ false]

def fs : Fs.FsState := (Fs.run true 33554432 1 true true fops).1

theorem fs_store : fs.store = s.abs cfg := by
  apply Store.ext' <;> decide +kernel

end CrashDemo

-- blob 0 was synced when it was closed (155 bytes), blob 1 by the explicit fsync (89 bytes)
example : syncedOf CrashDemo.fs 0 = 155 ∧ syncedOf CrashDemo.fs 1 = 89 := by decide +kernel

-- every cut of the demo except `cutZ` is a power-loss cut for these synced sizes
example : (∀ b ∈ CrashDemo.s.blobs, syncedOf CrashDemo.fs b.id ≤ CrashDemo.cutH b.id) ∧
    (∀ b ∈ CrashDemo.s.blobs, syncedOf CrashDemo.fs b.id ≤ CrashDemo.cutT b.id) ∧
    (∀ b ∈ CrashDemo.s.blobs, syncedOf CrashDemo.fs b.id ≤ CrashDemo.cutB b.id) := by decide +kernel

-- `crash_synced_served_fs_run` on it: the first record of blob 1 (synced) survives the cut `cutT` inside the second
example := crash_synced_served_fs_run CrashDemo.cfg_ok CrashDemo.s_inv true 33554432 true true CrashDemo.fops
  CrashDemo.fs_store CrashDemo.cutT (by decide +kernel)
  (b := CrashDemo.a1) CrashDemo.a1_mem (j := 0) (r := ⟨1, 7, false, none, ⟨3, 3⟩⟩) (by decide +kernel) (by decide +kernel)

/-- **a synced record need not be served**: the first record of blob 1 ended at byte 89, which is synced (`syncedOf fs 1 = 89`);
    the power-loss cut `cutH` (≥ the synced sizes) falls inside the header of the next record; start-up quarantines
    blob 1 and `read 1` returns the older value of blob 0, not the synced record -/
theorem synced_record_quarantined :
    (∀ b ∈ CrashDemo.s.blobs, syncedOf CrashDemo.fs b.id ≤ CrashDemo.cutH b.id) ∧
    CrashDemo.a1.id = 1 ∧
    Fs.contentLen 1 (CrashDemo.a1.ghost.take 1) ≤ syncedOf CrashDemo.fs CrashDemo.a1.id ∧
    CrashDemo.a1.ghost[0]? = some ⟨1, 7, false, none, ⟨3, 3⟩⟩ ∧
    (CrashDemo.s.crashRecover CrashDemo.cfg CrashDemo.cutH false).map
      (fun c₁ => (c₁.blobs.map (·.id), c₁.read CrashDemo.cfg 1)) = some ([0], .ok (.found (dataOf ⟨2, 1⟩))) ∧
    dataOf ⟨2, 1⟩ ≠ dataOf ⟨3, 3⟩ := by
  refine ⟨?_, ?_, ?_, ?_, (CrashDemo.startups_noTorn CrashDemo.cfg_ok CrashDemo.ops_ok CrashDemo.ops_sized).1.map_eq fun _ h => by simp only [h.1, h.2.2.2], ?_⟩ <;>
    decide +kernel

namespace CrashDemo

theorem cutT_fate : fate cfg.klen cfg.validateData a1.ghost (cutT a1.id) = .opened 1 true := by
  decide +kernel

theorem cutT_closed : ∀ b ∈ closedBlobs s.cont, ∀ m,
    fate cfg.klen cfg.validateData b.ghost (cutT b.id) ≠ .opened m true := by
  decide +kernel

end CrashDemo

example := crash_torn_tail_E8 CrashDemo.cfg_ok CrashDemo.s_inv CrashDemo.s_active CrashDemo.cutT
  CrashDemo.cutT_fate CrashDemo.cutT_closed

example : ∃ c₁, CrashDemo.s.crashRecover CrashDemo.cfg CrashDemo.cutT false = some c₁ ∧
    c₁.read CrashDemo.cfg 3 = .error (.load .bincode) ∧ c₁.contains CrashDemo.cfg 3 = .ok (.found 8) := by
  have hg : CrashDemo.a1.ghost = [⟨1, 7, false, none, ⟨3, 3⟩⟩, ⟨3, 8, false, none, ⟨4, 4⟩⟩] := by decide +kernel
  refine crash_torn_tail_E8_read_fails CrashDemo.cfg_ok CrashDemo.s_inv CrashDemo.s_active CrashDemo.cutT
    CrashDemo.cutT_fate CrashDemo.cutT_closed ⟨3, 8, false, none, ⟨4, 4⟩⟩ (by rw [hg]; rfl) rfl ?_ (by decide +kernel)
  intro j r' hj hr' hk
  obtain rfl : j = 0 := by omega
  rw [hg] at hr'
  cases hr'
  exact absurd hk (by decide)

-- the same on the recovered storage (`CrashDemo.startups`): the torn record is indexed (two headers, one complete
-- record), `read 3` fails with the load error, `contains 3` says found, the other keys are served
example : (CrashDemo.s.crashRecover CrashDemo.cfg CrashDemo.cutT false).map
    (fun c₁ => (c₁.blobs.map (fun b => (b.id, b.file.length, b.ghost.length)), c₁.read CrashDemo.cfg 3)) =
    some ([(0, 155, 2), (1, 150, 1)], .error (.load .bincode)) :=
  CrashDemo.startups.1.map_eq fun _ h => by simp only [h.1, h.2.2.2.1]

example : (CrashDemo.s.crashRecover CrashDemo.cfg CrashDemo.cutT false).map
    (fun c₁ => (c₁.read CrashDemo.cfg 1, c₁.read CrashDemo.cfg 2)) =
    some (.ok (.found (dataOf ⟨3, 3⟩)), .ok (.found (dataOf ⟨1, 2⟩))) :=
  CrashDemo.startups.1.map_eq fun _ h => by simp only [h.2.1, h.2.2.1]

example : (CrashDemo.s.crashRecover CrashDemo.cfg CrashDemo.cutT false).map
    (fun c₁ => (c₁.contains CrashDemo.cfg 3).toOption) = some (some (.found 8)) :=
  CrashDemo.startups.1.map_eq fun _ h => by simp only [h.2.2.2.2]

example := crash_torn_tail_E8_bytes (CInvG.blobInv CrashDemo.s_inv CrashDemo.a1_mem)
  (t := 150) (n := 1) ⟨3, 8, false, none, ⟨4, 4⟩⟩ (by decide +kernel) (by decide +kernel)

-- the validating restart quarantines the blob (the record has data): theorem and evaluation
example := crash_torn_tail_validating Demo.cfg_ok CrashDemo.sV_inv CrashDemo.a1V_mem
  CrashDemo.cutT false (n := 1) (r := ⟨3, 8, false, none, ⟨4, 4⟩⟩) (by decide +kernel) (by decide +kernel) rfl (by decide +kernel)
  (others_of_id CrashDemo.sV_inv CrashDemo.a1V_mem (by decide +kernel))

example : (CrashDemo.sV.crashRecover CrashDemo.cfgV CrashDemo.cutT false).map
    (fun c₁ => (c₁.blobs.map (·.id), c₁.read CrashDemo.cfgV 3, c₁.read CrashDemo.cfgV 1)) =
    some ([0], .ok .notFound, .ok (.found (dataOf ⟨2, 1⟩))) :=
  (CrashDemo.startupsV_noTorn Demo.cfg_ok CrashDemo.ops_okV CrashDemo.ops_sized).map_eq fun _ h => by simp only [h.1, h.2.1, h.2.2]

/-! ### the torn tail of a closed blob: a torn deletion marker

`delete 2` appends a marker to the closed blob 0 (records end at 88, 155, 221; the marker's header ends at 213).  A cut
inside the marker's meta is accepted by the VALIDATING start-up too (the marker has no data); both blobs are in the
container (`init_lazy`); the torn marker is served as a deletion. -/

namespace CrashDemo

theorem opsD_ok : ∀ op ∈ opsD, op.OK cfgV := by decide +kernel

theorem opsD_sized : StoreSized cfgV.klen ((Store.init cfgV.allowDup).run (opsD.map COp.abs)) :=
  (storeSized_iff _ _).mpr (by decide)

theorem sD_inv : CInv cfgV sD := (run_ref Demo.cfg_ok opsD opsD_ok opsD_sized).2

theorem sD_len : 0 < sD.blobs.length := by decide +kernel

/-- the closed blob 0 -/
def b0 : CBlob := sD.blobs[0]'sD_len

theorem b0_mem : b0 ∈ sD.blobs := List.getElem_mem sD_len

end CrashDemo

example : CrashDemo.sD.blobs.map (fun b => (b.id, b.file.length, b.ghost.length)) = [(0, 221, 3), (1, 159, 2)] ∧
    CrashDemo.sD.blobs.map (fun b => fate 1 true b.ghost (CrashDemo.cutD b.id)) = [.opened 2 true, .opened 2 false] := by
  decide +kernel

example := crash_torn_tail_E8_any Demo.cfg_ok CrashDemo.sD_inv CrashDemo.b0_mem CrashDemo.cutD true (n := 2)
  (by decide +kernel)
  (others_of_id CrashDemo.sD_inv CrashDemo.b0_mem (by decide +kernel))

example : (CrashDemo.sD.crashRecover CrashDemo.cfgV CrashDemo.cutD true).map
    (fun c₁ => c₁.blobs.map (fun b => (b.id, b.file.length, b.ghost.length, b.index.onDisk))) =
    some [(0, 216, 2, true), (1, 159, 2, true)] :=
  (CrashDemo.startupsV CrashDemo.sD_inv).map_eq fun _ h => h.1

example : (CrashDemo.sD.crashRecover CrashDemo.cfgV CrashDemo.cutD true).map
    (fun c₁ => (c₁.read CrashDemo.cfgV 2, c₁.read CrashDemo.cfgV 1)) =
    some (.ok (.deleted 9), .ok (.found (dataOf ⟨3, 3⟩))) :=
  (CrashDemo.startupsV CrashDemo.sD_inv).map_eq fun _ h => by simp only [h.2.1, h.2.2]

/-! ### after the recovery: a write, the next crash, the next start-up -/

namespace CrashDemo

theorem r1_inv : CInv cfg r1 := (crash_prefix cfg_ok s_inv cutB false cutB_clean).2.1

end CrashDemo

-- `post_recovery_write_durable` after `crash_prefix`: a write, a crash that loses nothing, another index-less start
example :=
  have R := CrashDemo.r1_write CrashDemo.cfg_ok (refinement_run CrashDemo.cfg_ok CrashDemo.ops CrashDemo.ops_ok
    CrashDemo.ops_sized).1 CrashDemo.r1_inv
    (crash_prefix CrashDemo.cfg_ok CrashDemo.s_inv CrashDemo.cutB false CrashDemo.cutB_clean).2.2.2.1
  post_recovery_write_durable CrashDemo.cfg_ok CrashDemo.r1_inv (.write 4 9 ⟨2, 5⟩) (by decide) R.1
    (fun _ => 1000) false R.2.1

example :
    let c₂ := CrashDemo.r1.step CrashDemo.cfg (.write 4 9 ⟨2, 5⟩)
    ((c₂.crash CrashDemo.cfg (fun _ => 1000)).restart CrashDemo.cfg false).read CrashDemo.cfg 4 =
      .ok (.found (dataOf ⟨2, 5⟩)) ∧
    ((c₂.crash CrashDemo.cfg (fun _ => 1000)).restart CrashDemo.cfg false).read CrashDemo.cfg 1 =
      .ok (.found (dataOf ⟨3, 3⟩)) := by
  have R := CrashDemo.r1_write CrashDemo.cfg_ok (run_ref CrashDemo.cfg_ok CrashDemo.ops CrashDemo.ops_ok
    CrashDemo.ops_sized).1 CrashDemo.r1_inv
    (crash_prefix CrashDemo.cfg_ok CrashDemo.s_inv CrashDemo.cutB false CrashDemo.cutB_clean).2.2.2.1
  obtain ⟨_, _, h3, _⟩ := post_recovery_write_durable CrashDemo.cfg_ok CrashDemo.r1_inv (.write 4 9 ⟨2, 5⟩)
    (by decide) R.1 (fun _ => 1000) false R.2.1
  intro c₂
  rw [h3, h3]
  exact R.2.2

/-- **the two-crash witness of C06 on the composed storage** (finding E8): (1) the tail record of blob 1 is cut
    inside its data; the non-validating start-up opens the blob with the torn record indexed; (2) a write of key 4 is
    acknowledged — it is appended at the end of the file, inside the region the torn header claims — and served;
    (3) at the next index-less start-up (nothing is lost in between) the scan fails in both modes and blob 1 is
    quarantined: the acknowledged post-recovery write is gone (`read 4 = NotFound`), and `read 1` returns the older
    value of blob 0.  `CState.restart` models the failed scan as "`init` fails, state unchanged". -/
theorem two_crash_witness :
    CrashDemo.t1.blobs.map (fun b => (b.id, b.file.length)) = [(0, 155), (1, 218)] ∧
    CrashDemo.t1.read CrashDemo.cfg 4 = .ok (.found (dataOf ⟨2, 5⟩)) ∧
    CrashDemo.t1.read CrashDemo.cfg 3 = .error (.load .bincode) ∧
    (CrashDemo.t1.recover CrashDemo.cfg false).map
      (fun c₃ => (c₃.blobs.map (·.id), c₃.read CrashDemo.cfg 4, c₃.read CrashDemo.cfg 1)) =
        some ([0], .ok .notFound, .ok (.found (dataOf ⟨2, 1⟩))) ∧
    (CrashDemo.t1.recover CrashDemo.cfgV false).map
      (fun c₃ => (c₃.blobs.map (·.id), c₃.read CrashDemo.cfgV 4)) = some ([0], .ok .notFound) ∧
    regenAll CrashDemo.cfg (sortById CrashDemo.t1.blobs) = none := by
  obtain ⟨h1, h2, h3, h4, h5, h6⟩ := CrashDemo.startups.2
  exact ⟨h1, h2, h3, h4.map_eq fun _ h => by simp only [h.1, h.2.1, h.2.2],
    h5.map_eq fun _ h => by simp only [h.1, h.2], h6⟩

/-- **the silent variant of the two-crash history**: one blob; its tail record (key 3, 100 data bytes, claimed end 254)
    is cut at 164, inside its data; the non-validating start-up accepts it; a write of key 4 (68 bytes) is
    acknowledged and served; at the next non-validating index-less start-up the blob is opened (232 bytes, nothing
    quarantined, no error) — and `read 4 = NotFound`: the acknowledged write is silently gone.  The validating
    start-up quarantines the blob instead (the data of the torn record extends beyond the end of the file). -/
theorem two_crash_silent_witness :
    let s := (CState.init CrashDemo.cfg).run CrashDemo.cfg [.write 1 5 ⟨2, 1⟩, .write 3 8 ⟨100, 4⟩]
    let c₁ := (s.crashRecover CrashDemo.cfg (fun _ => 164) false).getD s
    let c₂ := c₁.write CrashDemo.cfg 4 9 ⟨2, 5⟩
    s.blobs.map (fun b => fate 1 false b.ghost 164) = [.opened 1 true] ∧
    c₂.blobs.map (fun b => (b.id, b.file.length)) = [(0, 232)] ∧
    c₂.read CrashDemo.cfg 4 = .ok (.found (dataOf ⟨2, 5⟩)) ∧
    (c₂.recover CrashDemo.cfg false).map (fun c₃ => (c₃.blobs.map (fun b => (b.id, b.file.length)),
      c₃.read CrashDemo.cfg 4, c₃.read CrashDemo.cfg 1)) =
        some ([(0, 232)], .ok .notFound, .ok (.found (dataOf ⟨2, 1⟩))) ∧
    (c₂.recover CrashDemo.cfgV false).map (fun c₃ => c₃.blobs.map (fun b => (b.id, b.file.length))) =
      some [(1, 20)] := by decide +kernel

namespace CrashDemo

def opsL : List COp := [.write 1 5 ⟨2, 1⟩, .write 3 8 ⟨100, 4⟩]
def sL : CState := (CState.init cfg).run cfg opsL

theorem sL_inv : CInv cfg sL :=
  (run_ref cfg_ok opsL (by decide +kernel) ((storeSized_iff _ _).mpr (by decide))).2

theorem sL_isSome : sL.active.isSome = true := by decide +kernel
def bL : CBlob := sL.active.get sL_isSome
theorem bL_mem : bL ∈ sL.blobs := mem_blobs_active (Option.some_get sL_isSome).symm

end CrashDemo

-- `two_crash_silent_loss` on the blob of that history (the record `Storage::write` builds for key 4)
example := two_crash_silent_loss (CInvG.blobInv CrashDemo.sL_inv CrashDemo.bL_mem) (t := 164) (n := 1) (by decide +kernel)
  (recordOf 1 ⟨4, 9, false, none, ⟨2, 5⟩⟩ (dataOf ⟨2, 5⟩)) (by decide +kernel)

end Pearl.E2E

#print axioms Pearl.E2E.crash_init_total
#print axioms Pearl.E2E.crash_ghost_not_read
#print axioms Pearl.E2E.crash_ghost_spec
#print axioms Pearl.E2E.crash_prefix
#print axioms Pearl.E2E.crash_process_kill
#print axioms Pearl.E2E.crash_history
#print axioms Pearl.E2E.crash_synced_in_history
#print axioms Pearl.E2E.crash_prefix_run
#print axioms Pearl.E2E.clean_cuts
#print axioms Pearl.E2E.boundary_is_contentLen
#print axioms Pearl.E2E.crash_recover
#print axioms Pearl.E2E.noTorn_of_validate
#print axioms Pearl.E2E.crash_synced_served
#print axioms Pearl.E2E.crash_synced_served_fs
#print axioms Pearl.E2E.crash_synced_served_fs_run
#print axioms Pearl.E2E.fate_body
#print axioms Pearl.E2E.crash_torn_tail_E8_bytes
#print axioms Pearl.E2E.crash_torn_tail_E8
#print axioms Pearl.E2E.crash_torn_tail_E8_any
#print axioms Pearl.E2E.crash_torn_tail_E8_read_fails
#print axioms Pearl.E2E.crash_torn_tail_validating
#print axioms Pearl.E2E.post_recovery_write_durable
#print axioms Pearl.E2E.crash_in_header_quarantines
#print axioms Pearl.E2E.crash_prefix_in_header_false
#print axioms Pearl.E2E.synced_record_quarantined
#print axioms Pearl.E2E.two_crash_witness
#print axioms Pearl.E2E.two_crash_silent_loss
#print axioms Pearl.E2E.two_crash_silent_witness
#print axioms Pearl.E2E.recover_eq_restart

/-! # Crash recovery WITH index files at every written length

The C06 quantifier: "every per-file truncation length beyond the last sync (every byte of the tail record, index files
at every written length)".  Above, the index files are taken as removed; here they are there.

Model: `Pearl/Model/EndToEndCrashIdx.lean`, whose head says what is modelled: the two-phase dump of an index file and
what a crash leaves of it (`DumpStage`), the directory after the crash (`BState.crash`, `IdxAtCrash`), start-up with
quarantine and index files (`fromFileQ`, `BState.recoverWithIndexes`).  Tied to the earlier models here:
`dumpedImage` of `EndToEndStart.lean` is the `done` stage (`dumpedImage_eq_parts`), the `ok` arm of `fromFileQ` IS
`fromFileB` (`fromFileQ_ok_iff`), `recoverWithIndexes` returns what `restartWithIndexes` returns whenever that succeeds
(`recover_with_indexes_extends_restart`).

FINDING (a blob is quarantined BECAUSE of its index file).  `Blob::from_file` calls `try_regenerate_index` for a
rejected index file even when the blob file holds the bare header; `RawRecords::start` then reads past the end of the
file: `Bincode` — which `should_save_corrupted_blob` accepts.  So a blob file cut back to exactly its 20 header bytes
is opened (empty) when no index file lies next to it, and MOVED TO THE CORRUPTED DIRECTORY when a truncated / stale /
half-written index file does (`crash_index_beside_header_only`; this is the start-up failure of
`restart_with_indexes_fails_on_empty_blob`, with the quarantine decision).  The statement "start-up with the index
files a crash can leave = start-up without them" is therefore false for that one cut and is proved under the hypothesis `cut id = 20 → no index file`
(`crash_with_indexes`).  With the order of `Blob::dump` (`fsyncdata` of the blob BEFORE the index file is created,
`Pearl/Model/Fs.lean` `Act.dump`) a power loss cannot produce it: `dirAtCrash_of_synced`.
-/
namespace Pearl.E2E
open Pearl Pearl.BPTree Pearl.Container

/-- **`truncated_index_rejected`**: `img` is the index file the storage dumps for a blob holding the records `recs`
    (`3 · blob length + filter section + 4200 < 2^64`, as everywhere at byte level).  For a blob file of ANY length
    `blobSize`, `IndexStruct::from_file` REJECTS (never accepts, never panics)
    * every proper prefix of `img` — in particular the empty file and the header-only file (83 bytes);
    * every prefix of the phase-1 buffer of the two-phase dump, the complete buffer included (`written` clear);
    and every stage of the two-phase dump leaves `img` itself or a rejected file: the header rewrite (phase 2) changes
    one byte (offset 72), so a partial rewrite is the phase-1 buffer or the finished file. -/
theorem truncated_index_rejected {cfg : Cfg} {sha : List Nat → List Nat} (hB : BytesOK cfg sha) {recs : List Rec}
    (hok : RecsOK cfg recs) (h3 : Sized3 cfg recs) {img : List Nat} (hi : dumpedImage cfg sha recs = some img)
    (blobSize : Nat) :
    (∀ t, t < img.length → openIndex cfg blobSize (img.take t) = .rejected) ∧
    openIndex cfg blobSize [] = .rejected ∧
    openIndex cfg blobSize (img.take indexHeaderSize) = .rejected ∧
    ∃ f mb, dumpedParts cfg recs = some (f, mb) ∧ img = DumpStage.done.bytes sha f mb (blobFileLen cfg recs) ∧
      (∀ t, openIndex cfg blobSize ((DumpStage.appending t).bytes sha f mb (blobFileLen cfg recs)) = .rejected) ∧
      openIndex cfg blobSize (imageOfUnwritten sha f mb (blobFileLen cfg recs)) = .rejected ∧
      (∀ j, (DumpStage.rewriting j).bytes sha f mb (blobFileLen cfg recs) =
        if j ≤ 72 then imageOfUnwritten sha f mb (blobFileLen cfg recs) else img) ∧
      (∀ st : DumpStage, st.bytes sha f mb (blobFileLen cfg recs) = img ∨
        openIndex cfg blobSize (st.bytes sha f mb (blobFileLen cfg recs)) = .rejected) := by
  have hpre := fun t ht => dumped_prefix_rejected hB hok h3 hi blobSize t ht
  have hlen : 99 ≤ img.length := by
    obtain ⟨_, mb, off, _, rfl⟩ := dumpedImage_some hok hi
    unfold imageRecs
    rw [imageOf_eq_V, List.length_append, indexHeaderBytesV_length _ _ _ _ (show (imageHash sha _ mb _).length = 32 from hB.shaLen _)]
    have := indexBodyBytes_length_ge (rawFile (fileRecs cfg recs mb)) mb
    omega
  have hparts := dumpedImage_eq_parts sha hok (cfg := cfg)
  rw [hi] at hparts
  cases hp : dumpedParts cfg recs with
  | none => rw [hp] at hparts; cases hparts
  | some p =>
    obtain ⟨f, mb⟩ := p
    rw [hp] at hparts
    simp only [Option.map_some, Option.some.injEq] at hparts
    have hunw := unwritten_prefix_rejected hB hok h3 hp (blobFileLen cfg recs) blobSize
    have hfull : openIndex cfg blobSize (imageOfUnwritten sha f mb (blobFileLen cfg recs)) = .rejected := by
      have := hunw (imageOfUnwritten sha f mb (blobFileLen cfg recs)).length
      rwa [List.take_length] at this
    refine ⟨hpre, ?_, hpre _ (by show 83 < _; omega), f, mb, rfl, hparts, hunw, hfull, fun j => ?_, fun st => ?_⟩
    · have := hpre 0 (by omega)
      rwa [List.take_zero] at this
    · rw [rewriting_bytes sha f mb _ j (hB.shaLen _), hparts]; rfl
    · rcases dump_stage_cases hB hok h3 hp st with h | h
      · left; rw [hi] at h; exact (Option.some.inj h).symm
      · exact Or.inr (h blobSize)

/-- **the `blob_size` check, in the direction a crash adds**: the complete image of the dump made when the blob held
    `ghost.take m` lies next to the blob file cut at `t`, and the surviving file is SHORTER than the blob file the
    index was dumped for (the index describes records the cut has removed) — or longer (the stale-index rule E4):
    rejected; the index is regenerated from what the blob file still holds -/
theorem index_beyond_cut_rejected {cfg : Cfg} {sha : List Nat → List Nat} (hB : BytesOK cfg sha) {b : CBlob}
    (hb : BlobInv cfg b) (h3 : Sized3 cfg b.ghost) {m : Nat} {img : List Nat}
    (hi : dumpedImage cfg sha (b.ghost.take m) = some img) (t : Nat) :
    ((b.file.take t).length < Fs.contentLen cfg.klen (b.ghost.take m) →
      openIndex cfg (b.file.take t).length img = .rejected) ∧
    (Fs.contentLen cfg.klen (b.ghost.take m) < (b.file.take t).length →
      openIndex cfg (b.file.take t).length img = .rejected) := by
  have hpre : b.ghost.take m <+: b.ghost := List.take_prefix m b.ghost
  rcases openIndex_dumped hB (hb.recsOK.prefix hpre) (h3.prefix hpre) hi (b.file.take t).length with
    h | ⟨_, _, _, _, _, h⟩
  · exact ⟨fun _ => h, fun _ => h⟩
  · exact ⟨fun hlt => absurd h (Nat.ne_of_lt hlt), fun hgt => absurd h (Nat.ne_of_gt hgt)⟩

/-- every index-file content a crash can leave, against a blob file of ANY length `L`: rejected — never a panic —
    unless it is the complete image of the dump of `recs.take m` and `L` is exactly the length of the blob file of
    those records -/
theorem index_at_crash_rejected_or_current {cfg : Cfg} {sha : List Nat → List Nat} (hB : BytesOK cfg sha)
    {recs : List Rec} (hok : RecsOK cfg recs) (h3 : Sized3 cfg recs) {img : List Nat}
    (hc : IdxAtCrash cfg sha recs (some img)) (L : Nat) :
    openIndex cfg L img = .rejected ∨
    ∃ m, m ≤ recs.length ∧ dumpedImage cfg sha (recs.take m) = some img ∧
      L = Fs.contentLen cfg.klen (recs.take m) := by
  rcases openIndex_at_crash hB hok h3 hc L with h | ⟨m, mb, off, hm, hne, hs, himg, hL⟩
  · exact Or.inl h
  · refine Or.inr ⟨m, hm, ?_, hL⟩
    rw [dumpedImage_eq sha (hok.prefix (List.take_prefix m recs)), if_neg hne, hs, himg]
    rfl

/-- **`crash_with_indexes`** (any state satisfying the invariant): every blob file cut at `cut id` — clean, inside the
    blob header, inside a record header, inside meta / data (torn) —; next to every blob file any index-file content a
    crash can leave (`IdxAtCrash`: absent, the complete image of ANY earlier dump of that blob, any proper prefix of
    one, any stage of an interrupted two-phase dump); no index file next to a blob cut back to its bare header
    (`h20`, see the FINDING).  Then `Storage::init` on that directory
    * returns exactly the storage it returns with every index file REMOVED (`dir = fun _ => none`),
    * which is the translation to bytes of `CState.crashRecover` — the subject of every theorem above
      (`crash_recover`, `crash_prefix`, `crash_synced_served`, `crash_torn_tail_E8{,_any}`) —, and start-up does
      not fail.
    No `NoTorn` hypothesis: an accepted torn tail is accepted with or without the index files. -/
theorem crash_with_indexes {cfg : Cfg} {sha : List Nat → List Nat} (hB : BytesOK cfg sha) {c : CState}
    (hinv : CInv cfg c) (hsz : StoreIdxSized cfg (c.abs cfg)) (cut : Nat → Nat) (dir : Nat → Option (List Nat))
    (hdir : ∀ b ∈ c.blobs, IdxAtCrash cfg sha b.ghost (dir b.id))
    (h20 : ∀ b ∈ c.blobs, cut b.id = blobHeaderSize → dir b.id = none) (lazy : Bool) :
    (c.toB sha).crashRecoverWithIndexes cfg sha cut dir lazy =
      (c.toB sha).crashRecoverWithIndexes cfg sha cut (fun _ => none) lazy ∧
    ∃ c₁, c.crashRecover cfg cut lazy = some c₁ ∧
      (c.toB sha).crashRecoverWithIndexes cfg sha cut dir lazy = some (c₁.toB sha) := by
  have h3 := sized3_of_store hsz
  have h1 := crashRecoverWithIndexes_toB hB hinv h3 cut dir (dirAtCrash_of_cut hinv cut dir hdir h20) lazy
  have h2 := crashRecoverWithIndexes_toB hB hinv h3 cut (fun _ => none)
    (dirAtCrash_of_cut hinv cut _ (fun _ _ => .absent) (fun _ _ _ => rfl)) lazy
  obtain ⟨c₁, hc₁⟩ := crash_init_total hinv cut lazy
  refine ⟨by rw [h1, h2], c₁, hc₁, ?_⟩
  rw [h1, hc₁]; rfl

/-- **… the `NoTorn` case**: the recovered byte-level storage is the translation of a storage `c₁` satisfying the
    invariant, whose abstraction is `Store.crashRecover` (quarantined blobs left out, every other blob holding exactly
    the records complete in its surviving prefix); its index files are short enough (`IdxSized`), so every look-up on
    the bytes answers as the structured storage (`bytes_of_inv`) -/
theorem crash_with_indexes_noTorn {cfg : Cfg} {sha : List Nat → List Nat} (hB : BytesOK cfg sha) {c : CState}
    (hinv : CInv cfg c) (hsz : StoreIdxSized cfg (c.abs cfg)) (hne : (c.abs cfg).blobs ≠ []) (cut : Nat → Nat)
    (dir : Nat → Option (List Nat)) (hdir : ∀ b ∈ c.blobs, IdxAtCrash cfg sha b.ghost (dir b.id))
    (h20 : ∀ b ∈ c.blobs, cut b.id = blobHeaderSize → dir b.id = none) (lazy : Bool) (hnt : NoTorn cfg c cut) :
    ∃ c₁, (c.toB sha).crashRecoverWithIndexes cfg sha cut dir lazy = some (c₁.toB sha) ∧
      c.crashRecover cfg cut lazy = some c₁ ∧ CInv cfg c₁ ∧ c₁.IdxSized ∧
      c₁.abs cfg = (c.abs cfg).crashRecover cfg.klen cfg.validateData cut lazy ∧
      (StoreMetaOK (c.abs cfg) → StoreMetaOK (c₁.abs cfg)) := by
  obtain ⟨_, c₁, hc₁, hB₁⟩ := crash_with_indexes hB hinv hsz cut dir hdir h20 lazy
  obtain ⟨c₁', hc₁', hinv₁, habs₁, hmeta₁, _⟩ := crash_recover hB.ok hinv cut lazy hnt
  rw [hc₁] at hc₁'
  cases hc₁'
  have hne' : c.blobs ≠ [] := by
    intro h0; apply hne; rw [abs_blobs, h0]; rfl
  have hs₁ : c₁.IdxSized := idxSized_of_store hB.ok hinv₁
    (recovered_idxSized hB.ok hinv (sized3_of_store hsz) hne' cut lazy hc₁)
  exact ⟨c₁, hB₁, hc₁, hinv₁, hs₁, habs₁, hmeta₁⟩

/-- **… the torn case** (finding E8, `crash_torn_tail_E8_any`): the tail record `n` of blob `b₀` is cut inside meta /
    data and accepted.  With the index files of `IdxAtCrash` next to the blob files the start-up returns the same
    storage `c₁` as without — the torn record indexed: `c₁` is `c₂` (the storage recovered had the record been written
    completely, which satisfies the invariant) with the cut file in blob `b₀`; `contains` answers alike, `read` answers
    alike or fails with the load error.  In particular no index file of `IdxAtCrash` is accepted for the torn blob:
    its `blob_size` is a record boundary, the cut is not. -/
theorem crash_with_indexes_torn {cfg : Cfg} {sha : List Nat → List Nat} (hB : BytesOK cfg sha) {c : CState}
    (hinv : CInv cfg c) (hsz : StoreIdxSized cfg (c.abs cfg)) (cut : Nat → Nat) (dir : Nat → Option (List Nat))
    (hdir : ∀ b ∈ c.blobs, IdxAtCrash cfg sha b.ghost (dir b.id))
    (h20 : ∀ b ∈ c.blobs, cut b.id = blobHeaderSize → dir b.id = none) (lazy : Bool)
    {b₀ : CBlob} (hb₀ : b₀ ∈ c.blobs) {n : Nat}
    (hf : fate cfg.klen cfg.validateData b₀.ghost (cut b₀.id) = .opened n true)
    (hothers : ∀ b ∈ c.blobs, b ≠ b₀ → ∀ m, fate cfg.klen cfg.validateData b.ghost (cut b.id) ≠ .opened m true) :
    (∀ img, dir b₀.id = some img → openIndex cfg (b₀.file.take (cut b₀.id)).length img = .rejected) ∧
    ∃ c₁ c₂, (c.toB sha).crashRecoverWithIndexes cfg sha cut dir lazy = some (c₁.toB sha) ∧
      c.crashRecover cfg (cutPlus cfg b₀ n cut) lazy = some c₂ ∧ CInv cfg c₂ ∧
      c₁ = c₂.mapBlobs (refileId b₀.id (b₀.file.take (cut b₀.id)) (b₀.ghost.take n)) ∧
      (∀ k, c₁.contains cfg k = c₂.contains cfg k) ∧
      (∀ k, c₁.read cfg k = c₂.read cfg k ∨ c₁.read cfg k = .error (.load .bincode)) := by
  obtain ⟨_, c₁, hc₁, hB₁⟩ := crash_with_indexes hB hinv hsz cut dir hdir h20 lazy
  obtain ⟨c₁', c₂, h1, h2, h3, _, h5, h6, h7, _⟩ := crash_torn_tail_E8_any hB.ok hinv hb₀ cut lazy hf hothers
  rw [hc₁] at h1
  cases h1
  refine ⟨fun img hd => ?_, c₁, c₂, hB₁, h2, h3, h5, h6, h7⟩
  have hbi : BlobInv cfg b₀ := CInvG.blobInv hinv hb₀
  have hc := hdir b₀ hb₀
  rw [hd] at hc
  rcases openIndex_at_crash hB hbi.recsOK (sized3_of_store hsz b₀ hb₀) hc (b₀.file.take (cut b₀.id)).length with
    h | ⟨m, _, _, hm, _, _, _, hL⟩
  · exact h
  · exfalso
    have hk := cutKind_of_length_boundary hbi hm hL
    rw [(fate_opened_true hf).1] at hk
    cases hk

/-- **`crash_with_indexes_spec`**: under the hypotheses of `crash_with_indexes`, at a cut where no blob is opened with
    a torn tail record (`NoTorn`), the storage recovered WITH the index files answers per `Spec` on the history of
    `Store.crashRecover` (the records complete in the surviving prefixes of the blobs that are not quarantined):
    `read` / `contains`, `read_with` / `contains_with` for every meta, `read_all_with_deletion_marker`, `read_all` —
    all through the byte-level look-ups -/
theorem crash_with_indexes_spec {cfg : Cfg} {sha : List Nat → List Nat} (hB : BytesOK cfg sha) {c : CState}
    (hinv : CInv cfg c) (hmeta : StoreMetaOK (c.abs cfg)) (hsz : StoreIdxSized cfg (c.abs cfg))
    (hne : (c.abs cfg).blobs ≠ []) (cut : Nat → Nat)
    (dir : Nat → Option (List Nat)) (hdir : ∀ b ∈ c.blobs, IdxAtCrash cfg sha b.ghost (dir b.id))
    (h20 : ∀ b ∈ c.blobs, cut b.id = blobHeaderSize → dir b.id = none) (lazy : Bool) (hnt : NoTorn cfg c cut) :
    ∃ b₁, (c.toB sha).crashRecoverWithIndexes cfg sha cut dir lazy = some b₁ ∧
      ∀ k,
        let H := ((c.abs cfg).crashRecover cfg.klen cfg.validateData cut lazy).history
        b₁.readWithOpt cfg k none = .ok ((Spec.latest H k).map (fun p => dataOf p.r.data)) ∧
        b₁.containsWith cfg k none = .ok ((Spec.latest H k).map (·.r.ts)) ∧
        (∀ m, MetaOK m →
          b₁.readWithOpt cfg k (some m) = .ok ((Spec.readWith H k m).map (fun p => dataOf p.r.data)) ∧
          b₁.containsWith cfg k (some m) = .ok ((Spec.readWith H k m).map (·.r.ts))) ∧
        (∃ es, b₁.readAllMarked cfg k = .ok es ∧ es.map entryView = (Spec.allCut H k).map (fun p => recView p.r)) ∧
        (∃ es, b₁.readAll cfg k = .ok es ∧ es.map entryView = (Spec.allLive H k).map (fun p => recView p.r)) := by
  obtain ⟨c₁, hB₁, _, hinv₁, hs₁, habs₁, hmeta₁⟩ :=
    crash_with_indexes_noTorn hB hinv hsz hne cut dir hdir h20 lazy hnt
  exact ⟨c₁.toB sha, hB₁, fun k => habs₁ ▸ specAnswers_of_inv hB hinv₁ (hmeta₁ hmeta) hs₁ k⟩

/-- **`crash_with_indexes` for every history** of operations (with metadata) from the empty directory, the hypotheses
    on the L2 store of the history: `b` is the byte-level storage the history leaves, every blob file is cut, every
    blob has any index-file content a crash can leave next to it (none next to a blob cut back to 20 bytes).
    Start-up with the index files = start-up without = the translation of `crashRecover`. -/
theorem crash_with_indexes_run {cfg : Cfg} {sha : List Nat → List Nat} (hB : BytesOK cfg sha) (ops : List MOp)
    (hops : ∀ op ∈ ops, op.OK cfg) (hsz : StoreIdxSized cfg ((Store.init cfg.allowDup).run (ops.map MOp.abs)))
    (cut : Nat → Nat) (dir : Nat → Option (List Nat))
    (hdir : ∀ x ∈ ((Store.init cfg.allowDup).run (ops.map MOp.abs)).blobs, IdxAtCrash cfg sha x.recs (dir x.id))
    (h20 : ∀ x ∈ ((Store.init cfg.allowDup).run (ops.map MOp.abs)).blobs,
      cut x.id = blobHeaderSize → dir x.id = none) (lazy : Bool) :
    let b := (BState.init cfg).runB cfg sha ops
    let c := (CState.init cfg).runM cfg ops
    b.crashRecoverWithIndexes cfg sha cut dir lazy = b.crashRecoverWithIndexes cfg sha cut (fun _ => none) lazy ∧
    ∃ c₁, c.crashRecover cfg cut lazy = some c₁ ∧ b.crashRecoverWithIndexes cfg sha cut dir lazy = some (c₁.toB sha) := by
  intro b c
  obtain ⟨hb, habs, hinv, _⟩ : b = c.toB sha ∧ _ := runB_ref hB ops hops hsz
  rw [hb]
  exact crash_with_indexes hB hinv (habs ▸ hsz) cut dir (forall_abs_blobs.mp (habs ▸ hdir))
    (forall_abs_blobs.mp (habs ▸ h20)) lazy

theorem crash_with_indexes_spec_run {cfg : Cfg} {sha : List Nat → List Nat} (hB : BytesOK cfg sha) (ops : List MOp)
    (hops : ∀ op ∈ ops, op.OK cfg) (hsz : StoreIdxSized cfg ((Store.init cfg.allowDup).run (ops.map MOp.abs)))
    (cut : Nat → Nat) (dir : Nat → Option (List Nat))
    (hdir : ∀ x ∈ ((Store.init cfg.allowDup).run (ops.map MOp.abs)).blobs, IdxAtCrash cfg sha x.recs (dir x.id))
    (h20 : ∀ x ∈ ((Store.init cfg.allowDup).run (ops.map MOp.abs)).blobs,
      cut x.id = blobHeaderSize → dir x.id = none) (lazy : Bool)
    (hnt : ∀ x ∈ ((Store.init cfg.allowDup).run (ops.map MOp.abs)).blobs, ∀ n,
      fate cfg.klen cfg.validateData x.recs (cut x.id) ≠ .opened n true) :
    let s := (Store.init cfg.allowDup).run (ops.map MOp.abs)
    ∃ b₁, ((BState.init cfg).runB cfg sha ops).crashRecoverWithIndexes cfg sha cut dir lazy = some b₁ ∧
      ∀ k,
        let H := (s.crashRecover cfg.klen cfg.validateData cut lazy).history
        b₁.readWithOpt cfg k none = .ok ((Spec.latest H k).map (fun p => dataOf p.r.data)) ∧
        b₁.containsWith cfg k none = .ok ((Spec.latest H k).map (·.r.ts)) ∧
        (∀ m, MetaOK m →
          b₁.readWithOpt cfg k (some m) = .ok ((Spec.readWith H k m).map (fun p => dataOf p.r.data)) ∧
          b₁.containsWith cfg k (some m) = .ok ((Spec.readWith H k m).map (·.r.ts))) ∧
        (∃ es, b₁.readAllMarked cfg k = .ok es ∧ es.map entryView = (Spec.allCut H k).map (fun p => recView p.r)) ∧
        (∃ es, b₁.readAll cfg k = .ok es ∧ es.map entryView = (Spec.allLive H k).map (fun p => recView p.r)) := by
  intro s
  obtain ⟨hb, habs, hinv, hmeta⟩ := runB_ref hB ops hops hsz
  have := crash_with_indexes_spec hB hinv hmeta (habs ▸ hsz) (habs ▸ run_blobs_ne_nil _ _) cut dir
    (forall_abs_blobs.mp (habs ▸ hdir)) (forall_abs_blobs.mp (habs ▸ h20)) lazy
    (fun b hb => forall_abs_blobs.mp (habs ▸ hnt) b hb)
  rw [habs, ← hb] at this
  exact this

/-- the start-up with index files without quarantine (`restartWithIndexes`: a failing `Blob::from_file` fails `init`) is the
    special case of `recoverWithIndexes` in which nothing has to be quarantined -/
theorem recover_with_indexes_extends_restart {cfg : Cfg} {sha : List Nat → List Nat} (c : BState)
    (dir : Nat → Option (List Nat)) (lazy : Bool) {b' : BState}
    (h : c.restartWithIndexes cfg sha dir lazy = some b') : c.recoverWithIndexes cfg sha dir lazy = some b' := by
  unfold BState.restartWithIndexes at h
  unfold BState.recoverWithIndexes BState.ofBlobsIdx
  cases hs : startAllB cfg dir (sortByIdB c.blobs) with
  | none => rw [hs] at h; cases h
  | some bs =>
    rw [hs] at h
    obtain ⟨h1, h2⟩ := readBlobsIdx_of_startAllB dir _ bs hs
    have hmax : (sortByIdB c.blobs).foldl (fun m b => max m (b.id + 1)) 0
        = bs.foldl (fun m b => max m (b.id + 1)) 0 :=
      foldl_maxSucc_congr BBlob.id BBlob.id _ _ 0 h2.symm
    rw [h1]
    simp only [] at h ⊢
    rw [hmax]
    cases lazy with
    | true => exact h
    | false =>
      simp only [Bool.false_eq_true, if_false] at h ⊢
      cases hl : bs.getLast? with
      | none =>
        rw [hl] at h
        rw [List.getLast?_eq_none_iff.mp hl]
        exact h
      | some a => rw [hl] at h; exact h

end Pearl.E2E

/-! ## non-vacuity (crash recovery with index files), and the refutation

The history of `CrashDemo` at byte level (key length 1; blob 0 closed and dumped: two records, 155 bytes, index file
314 bytes; blob 1 active: records ending at 89 and 159, never dumped), `DemoB.sha` for SHA-256. -/
namespace Pearl.E2E
open Pearl Pearl.BPTree Pearl.Container

namespace CrashIdxDemo

theorem ok : BytesOK CrashDemo.cfg DemoB.sha := ⟨CrashDemo.cfg_ok, fun _ => by simp [DemoB.sha]⟩

theorem mops_ok : ∀ op ∈ mops, op.OK CrashDemo.cfg := by decide

theorem store_idx_sized :
    StoreIdxSized CrashDemo.cfg ((Store.init CrashDemo.cfg.allowDup).run (mops.map MOp.abs)) :=
  (storeIdxSized_iff _ _).mpr (by decide)

theorem blobs_eq : ((Store.init CrashDemo.cfg.allowDup).run (mops.map MOp.abs)).blobs
    = [{ id := 0, recs := recs0, onDisk := true }, { id := 1, recs := recs1 }] := by decide +kernel

theorem img0_length : (dumpedImage CrashDemo.cfg DemoB.sha (recs0.take 2)).map (·.length) = some 314 := by
  decide +kernel

theorem dirCur_ok : ∀ x ∈ ((Store.init CrashDemo.cfg.allowDup).run (mops.map MOp.abs)).blobs,
    IdxAtCrash CrashDemo.cfg DemoB.sha x.recs (dirCur x.id) := by
  rw [blobs_eq]
  refine List.forall_mem_cons.mpr ⟨?_, List.forall_mem_singleton.mpr ?_⟩
  · exact IdxAtCrash.of_dumped_take _ _ recs0 2 (by decide)
  · exact IdxAtCrash.of_dumped_take _ _ recs1 1 (by decide)

theorem dirMore_ok : ∀ x ∈ ((Store.init CrashDemo.cfg.allowDup).run (mops.map MOp.abs)).blobs,
    IdxAtCrash CrashDemo.cfg DemoB.sha x.recs (dirMore x.id) := by
  rw [blobs_eq]
  refine List.forall_mem_cons.mpr ⟨?_, List.forall_mem_singleton.mpr ?_⟩
  · refine IdxAtCrash.of_truncated_take _ _ recs0 2 200 (by decide) (fun img hd => ?_)
    have hl := img0_length
    rw [hd] at hl
    simp only [Option.map_some, Option.some.injEq] at hl
    omega
  · exact IdxAtCrash.of_dumped_take _ _ recs1 2 (by decide)

theorem dirHalf_ok : ∀ x ∈ ((Store.init CrashDemo.cfg.allowDup).run (mops.map MOp.abs)).blobs,
    IdxAtCrash CrashDemo.cfg DemoB.sha x.recs (dirHalf x.id) := by
  rw [blobs_eq]
  refine List.forall_mem_cons.mpr ⟨?_, List.forall_mem_singleton.mpr ?_⟩
  · exact IdxAtCrash.of_interrupted_take _ _ recs0 2 (.rewriting 40) (by decide)
  · exact IdxAtCrash.of_interrupted_take _ _ recs1 1 (.appending 50) (by decide)

theorem h20 (cut : Nat → Nat) (dir : Nat → Option (List Nat)) (h : cut 0 ≠ 20 ∧ cut 1 ≠ 20) :
    ∀ x ∈ ((Store.init CrashDemo.cfg.allowDup).run (mops.map MOp.abs)).blobs,
      cut x.id = blobHeaderSize → dir x.id = none := by
  rw [blobs_eq]
  refine List.forall_mem_cons.mpr ⟨?_, List.forall_mem_singleton.mpr ?_⟩
  · intro h0; exact absurd h0 h.1
  · intro h1; exact absurd h1 h.2

end CrashIdxDemo

-- `truncated_index_rejected` on the index file of blob 0 (314 bytes), and evaluated: the empty file, the header
-- only, a cut inside the record headers, the phase-1 buffer, are rejected for the blob of 155 bytes; the file is used
set_option maxRecDepth 1000000 in
example (img : List Nat) (hi : dumpedImage CrashDemo.cfg DemoB.sha CrashIdxDemo.recs0 = some img) (blobSize : Nat) :=
  truncated_index_rejected CrashIdxDemo.ok (recs := CrashIdxDemo.recs0)
    ⟨by decide +kernel, by decide +kernel, by decide +kernel⟩ (by unfold Sized3; decide +kernel) hi blobSize

set_option maxRecDepth 1000000 in
example : (dumpedImage CrashDemo.cfg DemoB.sha CrashIdxDemo.recs0).map (·.length) = some 314 ∧
    (dumpedImage CrashDemo.cfg DemoB.sha CrashIdxDemo.recs0).map
      (fun img => [0, 83, 200, 313].map (fun t => openIndex CrashDemo.cfg 155 (img.take t)))
      = some [.rejected, .rejected, .rejected, .rejected] ∧
    ((dumpedImage CrashDemo.cfg DemoB.sha CrashIdxDemo.recs0).map (openIndex CrashDemo.cfg 155)).isSome = true ∧
    (dumpedImage CrashDemo.cfg DemoB.sha CrashIdxDemo.recs0).map (openIndex CrashDemo.cfg 155) ≠ some .rejected ∧
    (dumpedImage CrashDemo.cfg DemoB.sha CrashIdxDemo.recs0).map (openIndex CrashDemo.cfg 155) ≠ some .panic ∧
    (CrashIdxDemo.dirHalf 0).map (openIndex CrashDemo.cfg 155) = some .rejected ∧
    (CrashIdxDemo.dirHalf 0).map (·.length) = some 314 :=
  CrashIdxDemo.startups.1.elim

-- the `blob_size` check: the index file of BOTH records of blob 1 next to the blob cut at 89 (it says more than the
-- blob holds) is rejected; the index file of its first record is accepted for the blob cut at 89 and rejected for the
-- intact blob (159 bytes)
set_option maxRecDepth 1000000 in
example : (CrashIdxDemo.dirMore 1).map (openIndex CrashDemo.cfg 89) = some .rejected ∧
    (CrashIdxDemo.dirCur 1).map (openIndex CrashDemo.cfg 159) = some .rejected ∧
    ((CrashIdxDemo.dirCur 1).map (openIndex CrashDemo.cfg 89)).isSome = true ∧
    (CrashIdxDemo.dirCur 1).map (openIndex CrashDemo.cfg 89) ≠ some .rejected ∧
    (CrashIdxDemo.dirCur 1).map (openIndex CrashDemo.cfg 89) ≠ some .panic :=
  CrashIdxDemo.startups.2.1.elim

-- `crash_with_indexes_run` on the three directories: the clean cut `cutB` (blob 1 at 89), the cut inside a record
-- header `cutH` (blob 1 is quarantined), the torn cut `cutT` (blob 1 at 150, inside the data of its second record)
example (lazy : Bool) := crash_with_indexes_run CrashIdxDemo.ok CrashIdxDemo.mops CrashIdxDemo.mops_ok
  CrashIdxDemo.store_idx_sized CrashDemo.cutB CrashIdxDemo.dirCur CrashIdxDemo.dirCur_ok
  (CrashIdxDemo.h20 _ _ (by decide)) lazy
example (lazy : Bool) := crash_with_indexes_run CrashIdxDemo.ok CrashIdxDemo.mops CrashIdxDemo.mops_ok
  CrashIdxDemo.store_idx_sized CrashDemo.cutH CrashIdxDemo.dirMore CrashIdxDemo.dirMore_ok
  (CrashIdxDemo.h20 _ _ (by decide)) lazy
example (lazy : Bool) := crash_with_indexes_run CrashIdxDemo.ok CrashIdxDemo.mops CrashIdxDemo.mops_ok
  CrashIdxDemo.store_idx_sized CrashDemo.cutT CrashIdxDemo.dirHalf CrashIdxDemo.dirHalf_ok
  (CrashIdxDemo.h20 _ _ (by decide)) lazy

-- with the current index files (`init_lazy`) both are USED (`OnDisk`), without them (or with rejected ones) the
-- indexes are regenerated and dumped — the same storage (read off the L2 store); the torn record is indexed either
-- way (evaluated)
set_option maxRecDepth 1000000 in
example :
    (CrashIdxDemo.b.crashRecoverWithIndexes CrashDemo.cfg DemoB.sha CrashDemo.cutB CrashIdxDemo.dirCur true).map
      CrashIdxDemo.view = some ([(0, 155, true), (1, 89, true)], none, 2) ∧
    (CrashIdxDemo.b.crashRecoverWithIndexes CrashDemo.cfg DemoB.sha CrashDemo.cutB CrashIdxDemo.dirMore false).map
      CrashIdxDemo.view = some ([(0, 155, true), (1, 89, false)], some 1, 2) ∧
    (CrashIdxDemo.b.crashRecoverWithIndexes CrashDemo.cfg DemoB.sha CrashDemo.cutH CrashIdxDemo.dirMore false).map
      CrashIdxDemo.view = some ([(0, 155, false)], some 0, 2) ∧
    (CrashIdxDemo.b.crashRecoverWithIndexes CrashDemo.cfg DemoB.sha CrashDemo.cutT CrashIdxDemo.dirHalf false).map
      CrashIdxDemo.view = some ([(0, 155, true), (1, 150, false)], some 1, 2) ∧
    (CrashIdxDemo.b.crashRecoverWithIndexes CrashDemo.cfg DemoB.sha CrashDemo.cutT CrashIdxDemo.dirHalf false).map
      (fun b₁ => (b₁.readWithOpt CrashDemo.cfg 3 none, (b₁.containsWith CrashDemo.cfg 3 none).toOption))
      = some (.error (.load .bincode), some (.found 8)) := by
  obtain ⟨h1, h2, h3, _, _, h4⟩ := CrashIdxDemo.startups_covered CrashIdxDemo.ok CrashIdxDemo.mops_ok CrashIdxDemo.store_idx_sized
    CrashIdxDemo.dirCur_ok CrashIdxDemo.dirMore_ok CrashIdxDemo.dirHalf_ok
  exact ⟨h1.map_eq fun _ h => h.1, h2.map_eq fun _ h => h, h3.map_eq fun _ h => h, h4.map_eq fun _ h => h.1,
    h4.map_eq fun _ h => by simp only [h.2.1, h.2.2]⟩

example (lazy : Bool) := crash_with_indexes_spec_run CrashIdxDemo.ok CrashIdxDemo.mops CrashIdxDemo.mops_ok
  CrashIdxDemo.store_idx_sized CrashDemo.cutB CrashIdxDemo.dirCur CrashIdxDemo.dirCur_ok
  (CrashIdxDemo.h20 _ _ (by decide)) lazy
  (by decide)

set_option maxRecDepth 1000000 in
example :
    (CrashIdxDemo.b.crashRecoverWithIndexes CrashDemo.cfg DemoB.sha CrashDemo.cutB CrashIdxDemo.dirCur true).map
      (fun b₁ => (b₁.readWithOpt CrashDemo.cfg 1 none, b₁.readWithOpt CrashDemo.cfg 2 none,
        b₁.readWithOpt CrashDemo.cfg 3 none)) =
      some (.ok (.found (dataOf ⟨3, 3⟩)), .ok (.found (dataOf ⟨1, 2⟩)), .ok .notFound) :=
  (CrashIdxDemo.startups_covered CrashIdxDemo.ok CrashIdxDemo.mops_ok CrashIdxDemo.store_idx_sized
    CrashIdxDemo.dirCur_ok CrashIdxDemo.dirMore_ok CrashIdxDemo.dirHalf_ok).1.map_eq
    fun _ h => by simp only [h.2.1, h.2.2.1, h.2.2.2]

namespace CrashIdxDemo

theorem dirE_ok : ∀ x ∈ ((Store.init CrashDemo.cfg.allowDup).run (mops.map MOp.abs)).blobs,
    IdxAtCrash CrashDemo.cfg DemoB.sha x.recs (dirE x.id) := by
  rw [blobs_eq]
  refine List.forall_mem_cons.mpr ⟨?_, List.forall_mem_singleton.mpr ?_⟩
  · exact .absent
  · have hl : (dumpedImage CrashDemo.cfg DemoB.sha (recs1.take 1)).map (·.length) = some 256 := by decide +kernel
    refine IdxAtCrash.of_truncated_take _ _ recs1 1 0 (by decide) (fun img hd => ?_)
    rw [hd] at hl
    simp only [Option.map_some, Option.some.injEq] at hl
    omega

end CrashIdxDemo

/-- **`crash_with_indexes` needs `h20`: it is FALSE for the cut at exactly 20 bytes** (the FINDING): blob 1 is cut back to its blob header and
    an empty index file lies next to it.  Without the index file the blob is opened (empty) and becomes the active
    blob; WITH it `Blob::from_file` rejects the index, sets `is_index_corrupted`, runs `try_regenerate_index` on the
    header-only file, which fails with `Bincode`, and `read_blobs` moves blob 1 to the corrupted directory: blob 0
    becomes the active blob (its index loaded into memory).  The index file satisfies `IdxAtCrash`; only `h20` fails.
    The answers do not change (the blob held no record any more). -/
theorem crash_index_beside_header_only :
    (∀ x ∈ ((Store.init CrashDemo.cfg.allowDup).run (CrashIdxDemo.mops.map MOp.abs)).blobs,
      IdxAtCrash CrashDemo.cfg DemoB.sha x.recs (CrashIdxDemo.dirE x.id)) ∧
    CrashIdxDemo.dirE 1 = some [] ∧ openIndex CrashDemo.cfg 20 [] = .rejected ∧
    (CrashIdxDemo.b.crashRecoverWithIndexes CrashDemo.cfg DemoB.sha CrashIdxDemo.cut20 CrashIdxDemo.dirE false).map
      CrashIdxDemo.view = some ([(0, 155, false)], some 0, 2) ∧
    (CrashIdxDemo.b.crashRecoverWithIndexes CrashDemo.cfg DemoB.sha CrashIdxDemo.cut20 (fun _ => none) false).map
      CrashIdxDemo.view = some ([(0, 155, true), (1, 20, false)], some 1, 2) ∧
    (CrashIdxDemo.b.crashRecoverWithIndexes CrashDemo.cfg DemoB.sha CrashIdxDemo.cut20 CrashIdxDemo.dirE true).map
      CrashIdxDemo.view = some ([(0, 155, true)], none, 2) ∧
    (CrashIdxDemo.b.crashRecoverWithIndexes CrashDemo.cfg DemoB.sha CrashIdxDemo.cut20 (fun _ => none) true).map
      CrashIdxDemo.view = some ([(0, 155, true), (1, 20, false)], none, 2) ∧
    (CrashIdxDemo.b.crashRecoverWithIndexes CrashDemo.cfg DemoB.sha CrashIdxDemo.cut20 CrashIdxDemo.dirE false).map
      (fun b₁ => [1, 2, 3].map (fun k => b₁.readWithOpt CrashDemo.cfg k none)) =
    (CrashIdxDemo.b.crashRecoverWithIndexes CrashDemo.cfg DemoB.sha CrashIdxDemo.cut20 (fun _ => none) false).map
      (fun b₁ => [1, 2, 3].map (fun k => b₁.readWithOpt CrashDemo.cfg k none)) := by
  obtain ⟨_, _, h5, h7⟩ := CrashIdxDemo.startups
  obtain ⟨_, _, _, h6, h8, _⟩ := CrashIdxDemo.startups_covered CrashIdxDemo.ok CrashIdxDemo.mops_ok CrashIdxDemo.store_idx_sized
    CrashIdxDemo.dirCur_ok CrashIdxDemo.dirMore_ok CrashIdxDemo.dirHalf_ok
  exact ⟨CrashIdxDemo.dirE_ok, by decide +kernel, by decide +kernel, h5.map_eq fun _ h => h.1,
    h6.map_eq fun _ h => h.1, h7.map_eq fun _ h => h, h8.map_eq fun _ h => h,
    (h5.map_eq fun _ h => h.2).trans (h6.map_eq fun _ h => h.2).symm⟩

/-- … hence `crash_with_indexes_run` without the hypothesis `h20` has no proof -/
theorem crash_with_indexes_header_only_false :
    ¬ (∀ (cfg : Cfg) (sha : List Nat → List Nat) (ops : List MOp) (cut : Nat → Nat) (dir : Nat → Option (List Nat))
        (lazy : Bool), BytesOK cfg sha → (∀ op ∈ ops, op.OK cfg) →
        StoreIdxSized cfg ((Store.init cfg.allowDup).run (ops.map MOp.abs)) →
        (∀ x ∈ ((Store.init cfg.allowDup).run (ops.map MOp.abs)).blobs, IdxAtCrash cfg sha x.recs (dir x.id)) →
        ((BState.init cfg).runB cfg sha ops).crashRecoverWithIndexes cfg sha cut dir lazy =
          ((BState.init cfg).runB cfg sha ops).crashRecoverWithIndexes cfg sha cut (fun _ => none) lazy) := by
  intro hall
  obtain ⟨h1, _, _, h4, h5, _⟩ := crash_index_beside_header_only
  have := hall CrashDemo.cfg DemoB.sha CrashIdxDemo.mops CrashIdxDemo.cut20 CrashIdxDemo.dirE false
    CrashIdxDemo.ok CrashIdxDemo.mops_ok CrashIdxDemo.store_idx_sized h1
  have h6 := congrArg (Option.map CrashIdxDemo.view) this
  rw [show (BState.init CrashDemo.cfg).runB CrashDemo.cfg DemoB.sha CrashIdxDemo.mops = CrashIdxDemo.b from rfl,
    h4, h5] at h6
  revert h6
  decide +kernel

end Pearl.E2E

#print axioms Pearl.E2E.truncated_index_rejected
#print axioms Pearl.E2E.index_beyond_cut_rejected
#print axioms Pearl.E2E.index_at_crash_rejected_or_current
#print axioms Pearl.E2E.crash_with_indexes
#print axioms Pearl.E2E.crash_with_indexes_noTorn
#print axioms Pearl.E2E.crash_with_indexes_torn
#print axioms Pearl.E2E.recover_with_indexes_extends_restart
#print axioms Pearl.E2E.crash_with_indexes_spec
#print axioms Pearl.E2E.crash_with_indexes_run
#print axioms Pearl.E2E.crash_with_indexes_spec_run
#print axioms Pearl.E2E.crash_index_beside_header_only
#print axioms Pearl.E2E.crash_with_indexes_header_only_false
#print axioms Pearl.E2E.fromFileQ_ok_iff
#print axioms Pearl.E2E.dirAtCrash_of_synced

/-
NOT YET PROVED
  * the general (non-witness) form of the QUARANTINE half of the two-crash history: "after an accepted torn tail, records
    appended afterwards that reach beyond the claimed end of the torn record make the next index-less scan fail".  It
    does not hold in this generality (the appended bytes can by accident continue the torn record consistently, C06);
    a correct statement needs a hypothesis on the bytes at the claimed end of the torn record (`NoAccident` of
    `Pearl/Proofs/ScanRegions.lean`).  The SILENT half (appended records that do not reach the claimed end) is proved
    in general at blob level (`two_crash_silent_loss`); its storage-level form (the state after the second start-up)
    is stated on the witness only: the state between the two start-ups does not satisfy `CInv`.
  * `crash_torn_tail_E8_read_fails` (the sufficient condition for the failing read) is stated for the ACTIVE blob and
    `lazy = false` — the blob being appended to when the crash happens; `crash_torn_tail_E8_any` (read = the read of
    the completed storage, or the load error) covers every blob and both start-up modes.
  * ONE accepted torn tail per crash: `crash_torn_tail_E8{,_any}` ask that no OTHER blob has an accepted torn tail
    (several blobs torn at once — deletion markers being appended to several closed blobs when the power fails — is
    the same argument blob by blob, not done).
  * `crash_torn_tail_E8_read_fails` gives a sufficient condition for the failing read (timestamps); the exact
    condition in terms of `Spec` ("the first-ranked record of the key is the torn one") needs a position-aware
    refinement relation (`RR` relates records, not positions).
  * index files that are present after the crash: PROVED for the contents of `IdxAtCrash` (absent, the complete image of
    any earlier dump of the blob, any proper prefix of one, any stage of an interrupted two-phase dump) —
    `crash_with_indexes`.  Not covered: (a) index-file bytes outside that class (a foreign file; bytes changed in place,
    length kept: `accepted_but_wrong_index` of `Props/EndToEnd.lean` shows such a file can be accepted); (b) pages of
    the phase-1 buffer reaching the disk OUT OF ORDER (the crash model is "a prefix of each write survives"; a file
    with the complete header, `written` SET, and holes in the body cannot arise from `from_records` under that model,
    since the `written` byte is only set by the second write, after the whole buffer — it would need reordering across
    the two writes, which only the final `fsyncdata` orders); (c) the index file of a QUARANTINED blob stays in the
    working directory (`save_corrupted_blob` moves the blob file only) — not modelled, it is never opened again
    because `read_blobs` iterates over blob files.
  * the cut at exactly 20 bytes WITH an index file next to it: stated on the witness
    (`crash_index_beside_header_only`: the blob is quarantined, the answers do not change); the general form "the
    recovered storage is the index-less one minus that empty blob, same answers" is not done.
Statements FALSE of the model, refuted above: see the header of this file.
-/

