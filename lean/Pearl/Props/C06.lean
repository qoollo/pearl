import Pearl.Model.Tools
import Pearl.Proofs.CrashDemo
import Pearl.Props.C05
import Pearl.Gen.Consts
/-
C06 "Crash recovery", byte level: what start-up (`Blob::from_file` without an index file, then
`Storage::read_blobs` / `should_save_corrupted_blob`) does with every prefix of a produced blob — the
states a crash can leave when the file only grows by appends.

Model: Pearl/Model/{Record,Crash}.lean, and `recoveryBlob` of Pearl/Model/Tools.lean in `two_crash_witness`.
Lemmas: Pearl/Proofs/CrashLemmas.lean (the scan and `openBlob` on prefixes, `openBlob_true_of_false_quarantine`);
Pearl/Proofs/BlobProduced.lean for the decomposition of a blob around a record (`CutIn`, `IsBoundary`, `ProducedAt`,
`ProducedAt.take_cut`); the facts about the demo blobs in CrashDemo.lean and BlobDemo.lean.
A theorem named `_partial` is the true version, with an extra hypothesis, of a statement that is false
without it (the refutation stands next to it).  Throughout, `b = blobBytes klen recs`, `B n` =
`(blobBytes klen (recs.take n)).length` is the end of record `n - 1` (`B 0 = 20`: the blob header),
`CutIn klen recs i t` says `B i < t < B (i+1)`.
-/
namespace Pearl.C06
open Pearl

/-- the table the model uses is the one the translator extracted from `should_save_corrupted_blob` -/
theorem classify_table_tied :
    Pearl.SAVE_CORRUPTED_BINCODE = Gen.SAVE_CORRUPTED_BINCODE ∧
    Pearl.SAVE_CORRUPTED_VALIDATION_EXCEPT = Gen.SAVE_CORRUPTED_VALIDATION_EXCEPT ∧
    Pearl.SAVE_CORRUPTED_OTHER = Gen.SAVE_CORRUPTED_OTHER := by decide

/-- `shouldSaveCorruptedBlob` written with the extracted constants -/
theorem should_save_tied (c : ErrClass) :
    shouldSaveCorruptedBlob c =
      match c with
      | .bincode => Gen.SAVE_CORRUPTED_BINCODE
      | .validation kind => kind != Gen.SAVE_CORRUPTED_VALIDATION_EXCEPT
      | .other => Gen.SAVE_CORRUPTED_OTHER := by
  cases c <;> rfl

/-- the resulting classification of every error the byte-level start-up can produce -/
theorem classify_spec :
    classifyHeaderErr .bincode = .quarantine ∧ classifyHeaderErr .blobMagicByte = .quarantine ∧
    classifyHeaderErr .blobVersion = .fail ∧
    (∀ e, classifyScanErr (.load e) = .quarantine) ∧ classifyScanErr .blobKeySize = .quarantine := by
  refine ⟨by decide, by decide, by decide, ?_, by decide⟩
  intro e; cases e <;> decide

/-- the case analysis below is exhaustive -/
theorem prefix_cases (klen : Nat) (recs : List (Rec × List UInt8)) (t : Nat)
    (ht : t ≤ (blobBytes klen recs).length) :
    t < 20 ∨ IsBoundary klen recs t ∨ ∃ i, CutIn klen recs i t :=
  Pearl.prefix_cases klen recs t ht

/-- cut inside the blob header: `Header::from_file` hits the end of the file (Bincode) → quarantine -/
theorem scan_prefix_blob_header (klen : Nat) (v : Bool) (recs : List (Rec × List UInt8)) (t : Nat)
    (ht : t < 20) :
    blobHeaderFromFile ((blobBytes klen recs).take t) = .error .bincode ∧
    openBlob klen v ((blobBytes klen recs).take t) = .quarantine := by
  have hl : ((blobBytes klen recs).take t).length < 20 := by rw [List.length_take]; omega
  exact ⟨blobHeaderFromFile_short _ hl, openBlob_short klen v _ hl⟩

/-- exactly the blob header: `from_file` does not run the scan (`size > header_size` is false) and opens
    the blob empty — although the scan itself would fail on that file -/
theorem scan_prefix_header_only (klen : Nat) (v : Bool) (recs : List (Rec × List UInt8)) :
    (blobBytes klen recs).take 20 = serBlobHeader ∧
    openBlob klen v ((blobBytes klen recs).take 20) = .ok [] ∧
    rawRecordsLoad klen v ((blobBytes klen recs).take 20) = .error (.load .bincode) := by
  have h : (blobBytes klen recs).take 20 = serBlobHeader := by
    rw [blobBytes_take_ge20 klen recs 20 (Nat.le_refl _)]; simp
  rw [h]
  exact ⟨rfl, openBlob_header_only klen v, rfl⟩

/-- cut at the end of record `n - 1` (`n ≥ 1`): exactly the headers of the records before the cut -/
theorem scan_prefix_boundary (klen : Nat) (v : Bool) (recs : List (Rec × List UInt8)) (n : Nat)
    (hn1 : 1 ≤ n) (hn : n ≤ recs.length)
    (hlen : (blobBytes klen recs).length < 2 ^ 64) (hts : ∀ x ∈ recs, x.1.ts < 2 ^ 64) :
    rawRecordsLoad klen v ((blobBytes klen recs).take (blobBytes klen (recs.take n)).length) =
      .ok ((blobHeaders klen recs).take n) ∧
    openBlob klen v ((blobBytes klen recs).take (blobBytes klen (recs.take n)).length) =
      .ok ((blobHeaders klen recs).take n) := by
  have hload := rawRecordsLoad_boundary klen recs v n hn1 hn hlen hts
  refine ⟨hload, ?_⟩
  have hge : 20 < (blobBytes klen (recs.take n)).length := by
    rw [blobBytes_length, recordsOf_take]
    have := sum_size_ge ((recordsOf klen recs).take n)
    rw [List.length_take, recordsOf_length] at this
    have : 1 ≤ min n recs.length := by omega
    omega
  have hle := blobBytes_take_length_le klen recs n
  rw [openBlob_take klen v recs _ hge (by omega), hload]

/-- the general form for a cut strictly inside record `i`, `k = t - B i` bytes into it -/
theorem scan_prefix_cut (klen : Nat) (v : Bool) (recs : List (Rec × List UInt8)) (i t : Nat)
    (r : Rec) (d : List UInt8) (hr : recs[i]? = some (r, d))
    (hlen : (blobBytes klen recs).length < 2 ^ 64) (hts : ∀ x ∈ recs, x.1.ts < 2 ^ 64)
    (hc : CutIn klen recs i t) :
    rawRecordsLoad klen v ((blobBytes klen recs).take t) =
      (if t - (blobBytes klen (recs.take i)).length < headerSize klen then .error (.load .bincode)
       else if v = true ∧ (if r.del then [] else d) ≠ [] then .error (.load .bincode)
       else .ok ((blobHeaders klen recs).take (i + 1))) ∧
    openBlob klen v ((blobBytes klen recs).take t) =
      (if t - (blobBytes klen (recs.take i)).length < headerSize klen then .quarantine
       else if v = true ∧ (if r.del then [] else d) ≠ [] then .quarantine
       else .ok ((blobHeaders klen recs).take (i + 1))) := by
  have hload := rawRecordsLoad_cut klen recs v i t r d [] hr hlen hts hc (Nat.le_of_lt hc.2.2) (fun _ => rfl)
    (fun _ _ => hc.2.2)
  rw [List.append_nil] at hload
  refine ⟨hload, ?_⟩
  have h20 : 20 < t := by
    have := hc.2.1
    have := blobBytes_length_ge klen (recs.take i)
    omega
  have htl : t < (blobBytes klen recs).length := by
    have := hc.2.2
    have := blobBytes_take_length_le klen recs (i + 1)
    omega
  rw [openBlob_take klen v recs t h20 (by omega), hload]
  unfold headerSize
  by_cases h1 : t - (blobBytes klen (recs.take i)).length < 57 + klen
  · rw [if_pos h1, if_pos h1]; rfl
  · rw [if_neg h1, if_neg h1]
    by_cases h2 : v = true ∧ (if r.del then [] else d) ≠ []
    · rw [if_pos h2, if_pos h2]; rfl
    · rw [if_neg h2, if_neg h2]

/-- cut inside the header of record `i`: the header read hits the end of the file (Bincode) → quarantine
    of the whole blob, also of the intact records before the cut -/
theorem scan_prefix_in_header (klen : Nat) (v : Bool) (recs : List (Rec × List UInt8)) (i t : Nat)
    (r : Rec) (d : List UInt8) (hr : recs[i]? = some (r, d))
    (hlen : (blobBytes klen recs).length < 2 ^ 64) (hts : ∀ x ∈ recs, x.1.ts < 2 ^ 64)
    (hc : CutIn klen recs i t) (hk : t - (blobBytes klen (recs.take i)).length < headerSize klen) :
    rawRecordsLoad klen v ((blobBytes klen recs).take t) = .error (.load .bincode) ∧
    openBlob klen v ((blobBytes klen recs).take t) = .quarantine := by
  have := scan_prefix_cut klen v recs i t r d hr hlen hts hc
  rw [if_pos hk, if_pos hk] at this
  exact this

/-- FINDING E8. Cut inside meta / data of record `i`, scan WITHOUT data validation (the default):
    the torn record's header is returned and the blob is opened with it in the index -/
theorem scan_prefix_in_body_unvalidated (klen : Nat) (recs : List (Rec × List UInt8)) (i t : Nat)
    (r : Rec) (d : List UInt8) (hr : recs[i]? = some (r, d))
    (hlen : (blobBytes klen recs).length < 2 ^ 64) (hts : ∀ x ∈ recs, x.1.ts < 2 ^ 64)
    (hc : CutIn klen recs i t) (hk : headerSize klen ≤ t - (blobBytes klen (recs.take i)).length) :
    rawRecordsLoad klen false ((blobBytes klen recs).take t) = .ok ((blobHeaders klen recs).take (i + 1)) ∧
    openBlob klen false ((blobBytes klen recs).take t) = .ok ((blobHeaders klen recs).take (i + 1)) := by
  have := scan_prefix_cut klen false recs i t r d hr hlen hts hc
  have h1 : ¬ t - (blobBytes klen (recs.take i)).length < headerSize klen := by omega
  have h2 : ¬ (false = true ∧ (if r.del then [] else d) ≠ []) := by simp
  rw [if_neg h1, if_neg h1, if_neg h2, if_neg h2] at this
  exact this

/-- cut inside meta / data of record `i`, scan WITH data validation, record with data:
    reading the data hits the end of the file (Bincode) → quarantine -/
theorem scan_prefix_in_body_validated_partial (klen : Nat) (recs : List (Rec × List UInt8)) (i t : Nat)
    (r : Rec) (d : List UInt8) (hr : recs[i]? = some (r, d))
    (hlen : (blobBytes klen recs).length < 2 ^ 64) (hts : ∀ x ∈ recs, x.1.ts < 2 ^ 64)
    (hc : CutIn klen recs i t) (hk : headerSize klen ≤ t - (blobBytes klen (recs.take i)).length)
    (hdata : (if r.del then [] else d) ≠ []) :
    rawRecordsLoad klen true ((blobBytes klen recs).take t) = .error (.load .bincode) ∧
    openBlob klen true ((blobBytes klen recs).take t) = .quarantine := by
  have := scan_prefix_cut klen true recs i t r d hr hlen hts hc
  have h1 : ¬ t - (blobBytes klen (recs.take i)).length < headerSize klen := by omega
  have h2 : true = true ∧ (if r.del then [] else d) ≠ [] := ⟨rfl, hdata⟩
  rw [if_neg h1, if_neg h1, if_pos h2, if_pos h2] at this
  exact this

/-- FALSE without `hdata`: for a record WITHOUT data (a deletion marker, or an empty value) the cut can
    only be inside its meta; the validating scan reads 0 data bytes (which succeeds at any offset), the
    checksum of the empty data matches, and the torn record is accepted also WITH validation -/
theorem scan_prefix_in_body_validated_empty (klen : Nat) (recs : List (Rec × List UInt8)) (i t : Nat)
    (r : Rec) (d : List UInt8) (hr : recs[i]? = some (r, d))
    (hlen : (blobBytes klen recs).length < 2 ^ 64) (hts : ∀ x ∈ recs, x.1.ts < 2 ^ 64)
    (hc : CutIn klen recs i t) (hk : headerSize klen ≤ t - (blobBytes klen (recs.take i)).length)
    (hdata : (if r.del then [] else d) = []) :
    rawRecordsLoad klen true ((blobBytes klen recs).take t) = .ok ((blobHeaders klen recs).take (i + 1)) ∧
    openBlob klen true ((blobBytes klen recs).take t) = .ok ((blobHeaders klen recs).take (i + 1)) := by
  have := scan_prefix_cut klen true recs i t r d hr hlen hts hc
  have h1 : ¬ t - (blobBytes klen (recs.take i)).length < headerSize klen := by omega
  have h2 : ¬ (true = true ∧ (if r.del then [] else d) ≠ []) := fun h => h.2 hdata
  rw [if_neg h1, if_neg h1, if_neg h2, if_neg h2] at this
  exact this

/-- whenever start-up opens a prefix of a produced blob, the index holds a prefix of the acknowledged
    order, and every record of it loads with its original bytes — except possibly the last one, which
    does when the cut is at or after its end (`B n ≤ t`) -/
theorem served_is_prefix (klen : Nat) (v : Bool) (recs : List (Rec × List UInt8)) (t : Nat)
    (hlen : (blobBytes klen recs).length < 2 ^ 64) (hts : ∀ x ∈ recs, x.1.ts < 2 ^ 64)
    (ht : t ≤ (blobBytes klen recs).length) (hs : List RecHeader)
    (hopen : openBlob klen v ((blobBytes klen recs).take t) = .ok hs) :
    ∃ n, n ≤ recs.length ∧ hs = (blobHeaders klen recs).take n ∧
      ∀ j h r d, (j + 1 < n ∨ (j < n ∧ (blobBytes klen (recs.take n)).length ≤ t)) →
        (blobHeaders klen recs)[j]? = some h → recs[j]? = some (r, d) →
        entryLoad ((blobBytes klen recs).take t) h = .ok (serMeta r.mt, if r.del then [] else d) := by
  rcases Pearl.prefix_cases klen recs t ht with h20 | ⟨n, hn, rfl⟩ | ⟨i, hc⟩
  · rw [(scan_prefix_blob_header klen v recs t h20).2] at hopen
    cases hopen
  · refine ⟨n, hn, ?_, ?_⟩
    · cases n with
      | zero =>
        rw [List.take_zero, blobBytes_nil_length, (scan_prefix_header_only klen v recs).2.1] at hopen
        cases hopen
        rfl
      | succ n =>
        rw [(scan_prefix_boundary klen v recs (n + 1) (by omega) hn hlen hts).2] at hopen
        cases hopen
        rfl
    · intro j h r d hj hh hr
      have hjn : j < n := by omega
      rw [blobBytes_take_boundary]
      have := entryLoad_prefix klen recs hlen n j hjn [] h r d hh hr
      rw [List.append_nil] at this
      exact this
  · obtain ⟨hi, h1, h2⟩ := hc
    obtain ⟨x, hx⟩ : ∃ x, recs[i]? = some x := ⟨recs[i], List.getElem?_eq_getElem hi⟩
    obtain ⟨ri, di⟩ := x
    have hcut := (scan_prefix_cut klen v recs i t ri di hx hlen hts ⟨hi, h1, h2⟩).2
    rw [hcut] at hopen
    have hhs : hs = (blobHeaders klen recs).take (i + 1) := by
      by_cases c1 : t - (blobBytes klen (recs.take i)).length < headerSize klen
      · rw [if_pos c1] at hopen; cases hopen
      · rw [if_neg c1] at hopen
        by_cases c2 : v = true ∧ (if ri.del then [] else di) ≠ []
        · rw [if_pos c2] at hopen; cases hopen
        · rw [if_neg c2] at hopen; cases hopen; rfl
    refine ⟨i + 1, by omega, hhs, ?_⟩
    intro j h r d hj hh hr
    have hji : j < i := by omega
    rw [((producedAt klen recs i ri di hx).take_cut ⟨hi, h1, h2⟩).1]
    exact entryLoad_prefix klen recs hlen i j hji _ h r d hh hr

/-- the torn last record is in the index but cannot be loaded -/
theorem torn_record_unreadable (klen : Nat) (recs : List (Rec × List UInt8)) (i t : Nat) (h : RecHeader)
    (hts : ∀ x ∈ recs, x.1.ts < 2 ^ 64) (hc : CutIn klen recs i t)
    (hh : (blobHeaders klen recs)[i]? = some h) :
    entryLoad ((blobBytes klen recs).take t) h = .error .bincode := by
  have s := producedAt klen recs i _ _ (List.getElem?_eq_getElem hc.1)
  rw [(s.take_cut hc).1, Option.some.inj (hh.symm.trans s.hdr)]
  exact entryLoad_torn _ _ s.wf _ _ rfl (s.take_cut hc).2

/-- start-up never fails on a prefix of a produced blob: it opens it or quarantines it
    (no hypothesis on sizes is needed) -/
theorem init_total (klen : Nat) (v : Bool) (recs : List (Rec × List UInt8)) (t : Nat) :
    openBlob klen v ((blobBytes klen recs).take t) ≠ .fail :=
  openBlob_ne_fail klen v _ (blobBytes_take_cases klen recs t)

-- ... while a blob with another version in its header does make start-up fail (not quarantine)
set_option maxRecDepth 1000000 in
example : openBlob 3 false ((blobBytes 3 C05.recs4).set 8 0) = .fail := by
  rw [blobBytes_eq_of_headers, show blobHeaders 3 C05.recs4 = _ from BlobDemo.blobHeaders_recs4]
  decide +kernel

/-- for every prefix length `t` of a produced blob exactly one of the following describes start-up:
    (1) `t < 20`: quarantine; (2) `t = 20`: opened empty, no scan; (3) `t` is the end of record `n - 1`:
    opened with the first `n` headers; (4) `t` is strictly inside record `i`, `k = t - B i` bytes into it:
    `k <` header size → quarantine; otherwise quarantine iff the scan validates data and the record has
    data, else the blob is opened with the first `i + 1` headers, the torn record's header included -/
theorem scan_prefix (klen : Nat) (v : Bool) (recs : List (Rec × List UInt8)) (t : Nat)
    (hlen : (blobBytes klen recs).length < 2 ^ 64) (hts : ∀ x ∈ recs, x.1.ts < 2 ^ 64)
    (ht : t ≤ (blobBytes klen recs).length) :
    (t < 20 ∧ blobHeaderFromFile ((blobBytes klen recs).take t) = .error .bincode ∧
      openBlob klen v ((blobBytes klen recs).take t) = .quarantine) ∨
    (t = 20 ∧ openBlob klen v ((blobBytes klen recs).take t) = .ok []) ∨
    (∃ n, 1 ≤ n ∧ n ≤ recs.length ∧ t = (blobBytes klen (recs.take n)).length ∧
      rawRecordsLoad klen v ((blobBytes klen recs).take t) = .ok ((blobHeaders klen recs).take n) ∧
      openBlob klen v ((blobBytes klen recs).take t) = .ok ((blobHeaders klen recs).take n)) ∨
    (∃ i r d, CutIn klen recs i t ∧ recs[i]? = some (r, d) ∧
      rawRecordsLoad klen v ((blobBytes klen recs).take t) =
        (if t - (blobBytes klen (recs.take i)).length < headerSize klen then .error (.load .bincode)
         else if v = true ∧ (if r.del then [] else d) ≠ [] then .error (.load .bincode)
         else .ok ((blobHeaders klen recs).take (i + 1))) ∧
      openBlob klen v ((blobBytes klen recs).take t) =
        (if t - (blobBytes klen (recs.take i)).length < headerSize klen then .quarantine
         else if v = true ∧ (if r.del then [] else d) ≠ [] then .quarantine
         else .ok ((blobHeaders klen recs).take (i + 1)))) := by
  rcases Pearl.prefix_cases klen recs t ht with h20 | ⟨n, hn, rfl⟩ | ⟨i, hc⟩
  · exact Or.inl ⟨h20, scan_prefix_blob_header klen v recs t h20⟩
  · cases n with
    | zero =>
      right; left
      rw [List.take_zero, blobBytes_nil_length]
      exact ⟨rfl, (scan_prefix_header_only klen v recs).2.1⟩
    | succ n =>
      right; right; left
      exact ⟨n + 1, by omega, hn, rfl, scan_prefix_boundary klen v recs (n + 1) (by omega) hn hlen hts⟩
  · right; right; right
    obtain ⟨x, hx⟩ : ∃ x, recs[i]? = some x := ⟨recs[i]'hc.1, List.getElem?_eq_getElem hc.1⟩
    obtain ⟨r, d⟩ := x
    exact ⟨i, r, d, hc, hx, scan_prefix_cut klen v recs i t r d hx hlen hts hc⟩

example : (List.range 5).map (fun n => (blobBytes 3 (C05.recs4.take n)).length) = [20, 104, 191, 259, 327] := by
  simp only [blobBytes_length]; decide

-- a cut inside the header of record 1, inside the data of record 0, inside the meta of the deletion marker
example : CutIn 3 C05.recs4 1 120 ∧ 120 - (blobBytes 3 (C05.recs4.take 1)).length < headerSize 3 :=
  CrashDemo.recs4_cut_header
example : CutIn 3 C05.recs4 0 95 ∧ headerSize 3 ≤ 95 - (blobBytes 3 (C05.recs4.take 0)).length :=
  CrashDemo.recs4_cut_data
example : CutIn 3 C05.recs4 2 255 ∧ headerSize 3 ≤ 255 - (blobBytes 3 (C05.recs4.take 2)).length :=
  CrashDemo.recs4_cut_meta

example : openBlob 3 false ((blobBytes 3 C05.recs4).take 120) = .quarantine :=
  (scan_prefix_in_header 3 false C05.recs4 1 120 _ _ rfl CrashDemo.recs4_len CrashDemo.recs4_ts CrashDemo.recs4_cut_header.1
    CrashDemo.recs4_cut_header.2).2

example : openBlob 3 false ((blobBytes 3 C05.recs4).take 95) = .ok ((blobHeaders 3 C05.recs4).take 1) :=
  (scan_prefix_in_body_unvalidated 3 C05.recs4 0 95 _ _ rfl CrashDemo.recs4_len CrashDemo.recs4_ts CrashDemo.recs4_cut_data.1
    CrashDemo.recs4_cut_data.2).2

example : openBlob 3 true ((blobBytes 3 C05.recs4).take 95) = .quarantine :=
  (scan_prefix_in_body_validated_partial 3 C05.recs4 0 95 _ _ rfl CrashDemo.recs4_len CrashDemo.recs4_ts CrashDemo.recs4_cut_data.1
    CrashDemo.recs4_cut_data.2 (by decide)).2

/-- the deletion marker (record 2, no data) cut inside its meta is accepted by the VALIDATING scan:
    the hypothesis `hdata` of `scan_prefix_in_body_validated_partial` cannot be dropped -/
theorem validated_scan_accepts_torn_marker :
    openBlob 3 true ((blobBytes 3 C05.recs4).take 255) = .ok ((blobHeaders 3 C05.recs4).take 3) ∧
    ¬ (∀ (klen : Nat) (recs : List (Rec × List UInt8)) (i t : Nat), CutIn klen recs i t →
        headerSize klen ≤ t - (blobBytes klen (recs.take i)).length →
        openBlob klen true ((blobBytes klen recs).take t) = .quarantine) := by
  have h := (scan_prefix_in_body_validated_empty 3 C05.recs4 2 255 _ _ rfl CrashDemo.recs4_len CrashDemo.recs4_ts
    CrashDemo.recs4_cut_meta.1 CrashDemo.recs4_cut_meta.2 (by decide)).2
  refine ⟨h, fun hall => ?_⟩
  have := hall 3 C05.recs4 2 255 CrashDemo.recs4_cut_meta.1 CrashDemo.recs4_cut_meta.2
  rw [h] at this
  cases this

-- the same by evaluation of the model on the concrete file
example : openBlob 3 true ((blobBytes 3 C05.recs4).take 255) = .ok ((blobHeaders 3 C05.recs4).take 3) := by
  rw [blobBytes_eq_of_headers, show blobHeaders 3 C05.recs4 = _ from BlobDemo.blobHeaders_recs4]
  decide +kernel

/-- the record the storage appends after the first recovery -/
def lateRec : Record := Record.create 3 4 105 none [1, 2, 3, 4, 5, 6, 7, 8]

/-- E8 as a two-crash history: (1) the tail record of `C05.recs3` is cut 5 bytes before its end (inside its
    data); start-up without data validation opens the blob with all three headers (an instance of
    `scan_prefix_in_body_unvalidated`), although the third record cannot be loaded
    (`torn_record_unreadable`); (2) the storage appends an acknowledged record at the end of the file —
    inside the region the torn header claims; (3) at the next start without an index file the scan fails in
    both modes and the whole blob, the acknowledged post-recovery write included, is quarantined;
    (4) `recovery_blob` (with or without skipping) keeps only the two records before the torn one: the
    acknowledged write is not recoverable by the tool.  (3) rests on the last clause of `C05.torn_tail_witness`, (4) is checked by evaluation. -/
theorem two_crash_witness :
    CutIn 3 C05.recs3 2 C05.tornData.length ∧
    C05.tornData = (blobBytes 3 C05.recs3).take C05.tornData.length ∧
    openBlob 3 false C05.tornData = .ok (blobHeaders 3 C05.recs3) ∧
    (∀ h, (blobHeaders 3 C05.recs3)[2]? = some h → entryLoad C05.tornData h = .error .bincode) ∧
    openBlob 3 false (appendRecord C05.tornData lateRec) = .quarantine ∧
    openBlob 3 true (appendRecord C05.tornData lateRec) = .quarantine ∧
    recoveryBlob (appendRecord C05.tornData lateRec) true = .ok (blobBytes 3 (C05.recs3.take 2)) ∧
    recoveryBlob (appendRecord C05.tornData lateRec) false = .ok (blobBytes 3 (C05.recs3.take 2)) := by
  refine ⟨CrashDemo.tornData_cut.1, CrashDemo.tornData_take, ?_, fun h hh => ?_, ?_⟩
  · rw [CrashDemo.tornData_take, (scan_prefix_in_body_unvalidated 3 C05.recs3 2 _ _ _ rfl CrashDemo.recs3_len
      CrashDemo.recs3_ts CrashDemo.tornData_cut.1 CrashDemo.tornData_cut.2).2]
    rfl
  · rw [CrashDemo.tornData_take]
    exact torn_record_unreadable 3 C05.recs3 2 _ h CrashDemo.recs3_ts CrashDemo.tornData_cut.1 hh
  · -- (3): the scan without validation fails by `C05.torn_tail_witness`; validation cannot open what the plain
    -- scan does not, and start-up does not fail on a file that begins with the blob header
    obtain ⟨rest, hne, hF⟩ := CrashDemo.tornData_append (lateRec.image C05.tornData.length)
    have h5 : openBlob 3 false (appendRecord C05.tornData lateRec) = .quarantine := by
      rw [appendRecord_eq, hF, openBlob_of_load 3 false rest hne, ← hF,
        ← appendRecord_eq C05.tornData lateRec MAX_SINGLE_PASS_DATA_SIZE,
        show rawRecordsLoad 3 false (appendRecord C05.tornData lateRec) = _ from
          C05.torn_tail_witness.2.2.2.2.2]
      rfl
    refine ⟨h5, openBlob_true_of_false_quarantine 3 _ h5 (Or.inr ⟨rest, by rw [appendRecord_eq, hF]⟩), ?_⟩
    -- (4): no theorem covers the tools on this file; by evaluation, on the images written with the header table
    rw [C05.tornData, blobBytes_eq_of_headers 3 (C05.recs3.take 2), blobHeaders_take,
      blobBytes_eq_of_headers 3 C05.recs3, show blobHeaders 3 C05.recs3 = _ from BlobDemo.blobHeaders_recs3]
    decide +kernel

-- the general theorem gives the first step of the witness
example : openBlob 3 false C05.tornData = .ok ((blobHeaders 3 C05.recs3).take 3) := by
  rw [CrashDemo.tornData_take]
  exact (scan_prefix_in_body_unvalidated 3 C05.recs3 2 _ _ _ rfl CrashDemo.recs3_len CrashDemo.recs3_ts
    CrashDemo.tornData_cut.1 CrashDemo.tornData_cut.2).2

end Pearl.C06

/-
Statements that are FALSE of the model and are kept as refutation + `_partial` version:
  * "a cut inside meta/data of the last record of the prefix is an error when the scan validates data":
    false for records without data (deletion markers, empty values) → `validated_scan_accepts_torn_marker`,
    `scan_prefix_in_body_validated_empty`; true with `hdata` → `scan_prefix_in_body_validated_partial`.

NOT PROVED
  * a general (non-witness) form of the second half of `two_crash_witness`. As "for every produced blob cut
    inside the data of its last record and every record appended afterwards, the next index-less scan fails"
    it is false: the appended bytes could by accident continue the torn record consistently. A true general
    statement needs a hypothesis on the bytes at the claimed end of the torn record; none is stated here.
-/

