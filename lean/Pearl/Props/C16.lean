import Pearl.Proofs.ToolsMany
import Pearl.Proofs.ToolsWriterBuggy
import Pearl.Proofs.ToolsDemo
import Pearl.Props.C05
/-
C16 "Offline tools validate exactly well-formed files and recover without loss": `validate_blob`,
`recovery_blob` (with and without `skip_wrong_record`) and `migrate_blob` on blobs as the storage's record writer
produces them (`blobBytes klen recs`, Pearl/Model/Record.lean; not the tools' `BlobWriter`), intact, truncated, or
with at most 4 adjacent bytes altered.

The file has four parts: the theorems for `validate_every = 0` with their examples; four findings, each a witness on a
concrete file (the blind spot of the header checksum, the ignored blob version, the unprotected metadata, a record
with trailing meta bytes); the `BlobWriter` with its read-back validation for any `validate_every`, with the two
seeded variants of it and the exact condition under which each is invisible; a closing note on what is not proved.

Model: Pearl/Model/Tools.lean, Pearl/Model/ToolsWriter.lean.  The vocabulary of the statements is defined in the proof
files (the produced blob: Pearl/Proofs/BlobLemmas.lean; the alterations: Pearl/Proofs/ToolsLemmas.lean):
  * `IsBoundary klen recs t` : `t` is the end of the blob header or of a record;
  * `CutIn klen recs i t`    : `t` lies strictly inside record `i`;
  * `InData h p w` / `InHeaderNoLen h p w` : the window `[p, p + w)` lies in the data of the record with
    index header `h` / in its serialised header outside key length, meta_size and data_size;
  * `FlipIn klen recs i input` : `input` is the blob with at most 4 adjacent bytes altered in record `i`,
    in one of those two places.
Throughout, `hlen` bounds the blob size by 2^64 and `hts` the timestamps (they are `u64` in the code).
-/
namespace Pearl.C16
open Pearl

theorem validate_accepts_produced (klen : Nat) (recs : List (Rec × List UInt8))
    (hlen : (blobBytes klen recs).length < 2 ^ 64) (hts : ∀ x ∈ recs, x.1.ts < 2 ^ 64) :
    validateBlob (blobBytes klen recs) = .ok () :=
  (produced_tools klen recs false hlen hts).valid

/-- at a record boundary the prefix IS the blob of the records before it ... -/
theorem prefix_at_boundary_is_blob (klen : Nat) (recs : List (Rec × List UInt8)) (n : Nat) :
    (blobBytes klen recs).take (blobBytes klen (recs.take n)).length = blobBytes klen (recs.take n) :=
  blobBytes_take_boundary klen recs n

/-- ... hence accepted -/
theorem validate_accepts_boundary (klen : Nat) (recs : List (Rec × List UInt8))
    (hlen : (blobBytes klen recs).length < 2 ^ 64) (hts : ∀ x ∈ recs, x.1.ts < 2 ^ 64) (t : Nat)
    (hb : IsBoundary klen recs t) : validateBlob ((blobBytes klen recs).take t) = .ok () := by
  obtain ⟨n, _, rfl⟩ := hb
  rw [prefix_at_boundary_is_blob]
  have := blobBytes_take_length_le klen recs n
  exact validate_accepts_produced klen _ (by omega) (fun x hx => hts x (List.mem_of_mem_take hx))

/-- every proper prefix that does not end at a record boundary is rejected -/
theorem validate_rejects_truncated (klen : Nat) (recs : List (Rec × List UInt8))
    (hlen : (blobBytes klen recs).length < 2 ^ 64) (hts : ∀ x ∈ recs, x.1.ts < 2 ^ 64) (t : Nat)
    (ht : t < (blobBytes klen recs).length) (hnb : ¬ IsBoundary klen recs t) :
    ∃ e, validateBlob ((blobBytes klen recs).take t) = .error e := by
  by_cases h20 : t < 20
  · have hp : parseBlobHeader ((blobBytes klen recs).take t) = none :=
      parseBlobHeader_short (by rw [List.length_take]; omega)
    have : readBlobHeader ((blobBytes klen recs).take t) = .error .other := by
      unfold readBlobHeader; rw [hp]
    exact ⟨_, (tools_header_error this).1⟩
  · obtain ⟨i, hc⟩ := cutIn_of_not_boundary klen recs t (by omega) ht hnb
    exact (cutIn_tools klen recs i t hlen hts hc).1

/-- at most 4 adjacent bytes altered inside a record — in its data, or in its header outside the three
    length fields — are detected -/
theorem validate_rejects_flip (klen : Nat) (recs : List (Rec × List UInt8)) (i : Nat) (input : List UInt8)
    (hlen : (blobBytes klen recs).length < 2 ^ 64) (hts : ∀ x ∈ recs, x.1.ts < 2 ^ 64)
    (hflip : FlipIn klen recs i input) : ∃ e, validateBlob input = .error e :=
  (flipIn_tools klen recs i input hlen hts hflip).1

/-- the data case spelled out (the checksum argument is `crc32c_window_split`, stated in C05 as
    `crc32c_detects_window_split`) -/
theorem validate_rejects_flip_data (klen : Nat) (recs : List (Rec × List UInt8)) (i : Nat)
    (p w1 w2 s : List UInt8) (h : RecHeader)
    (hlen : (blobBytes klen recs).length < 2 ^ 64) (hts : ∀ x ∈ recs, x.1.ts < 2 ^ 64)
    (hb : blobBytes klen recs = p ++ w1 ++ s) (hl : w1.length = w2.length) (h4 : w1.length ≤ 4)
    (hne : w1 ≠ w2) (hh : (blobHeaders klen recs)[i]? = some h)
    (hin1 : h.dataOffset ≤ p.length) (hin2 : p.length + w1.length ≤ h.dataOffset + h.dataSize) :
    ∃ e, validateBlob (p ++ w2 ++ s) = .error e :=
  validate_rejects_flip klen recs i _ hlen hts
    ⟨p, w1, w2, s, h, hb, rfl, hl, h4, hne, hh, Or.inl ⟨hin1, hin2⟩⟩

/-- the header case spelled out: the window lies in the magic byte (bytes 0..8 of the header), in the key,
    or in flags / blob_offset / timestamp / data_checksum / header_checksum.
    When the window straddles data_checksum and header_checksum the header CRC alone does not decide
    (the checksum field is not part of the checksummed bytes); then the altered data checksum fails
    against the data -/
theorem validate_rejects_flip_header (klen : Nat) (recs : List (Rec × List UInt8)) (i : Nat)
    (p w1 w2 s : List UInt8) (h : RecHeader)
    (hlen : (blobBytes klen recs).length < 2 ^ 64) (hts : ∀ x ∈ recs, x.1.ts < 2 ^ 64)
    (hb : blobBytes klen recs = p ++ w1 ++ s) (hl : w1.length = w2.length) (h4 : w1.length ≤ 4)
    (hne : w1 ≠ w2) (hh : (blobHeaders klen recs)[i]? = some h)
    (hin1 : h.blobOffset ≤ p.length) (hin2 : p.length + w1.length ≤ h.blobOffset + (57 + h.key.length))
    (hnolen : p.length + w1.length ≤ h.blobOffset + 8 ∨
      (h.blobOffset + 16 ≤ p.length ∧ p.length + w1.length ≤ h.blobOffset + 16 + h.key.length) ∨
      h.blobOffset + 32 + h.key.length ≤ p.length) :
    ∃ e, validateBlob (p ++ w2 ++ s) = .error e :=
  validate_rejects_flip klen recs i _ hlen hts
    ⟨p, w1, w2, s, h, hb, rfl, hl, h4, hne, hh, Or.inr ⟨hin1, hin2, hnolen⟩⟩

/-- any alteration inside the 8 magic bytes of the blob header is detected, and the other tools refuse
    the file with the same error, before writing anything -/
theorem validate_rejects_flip_magic (klen : Nat) (recs : List (Rec × List UInt8))
    (p w1 w2 s : List UInt8) (hb : blobBytes klen recs = p ++ w1 ++ s) (hl : w1.length = w2.length)
    (hne : w1 ≠ w2) (h8 : p.length + w1.length ≤ 8) :
    ∃ e, validateBlob (p ++ w2 ++ s) = .error e ∧ (∀ skip, recoveryBlob (p ++ w2 ++ s) skip = .error e) ∧
      migrateBlob (p ++ w2 ++ s) = .error e := by
  obtain ⟨e, he⟩ := magicFlip_header klen recs p w1 w2 s hb hl hne h8
  obtain ⟨h1, h2, h3⟩ := tools_header_error he
  exact ⟨e, h1, h2, h3 _⟩

/-- an intact blob is reproduced byte for byte, with and without skipping -/
theorem recover_intact (klen : Nat) (recs : List (Rec × List UInt8)) (skip : Bool)
    (hlen : (blobBytes klen recs).length < 2 ^ 64) (hts : ∀ x ∈ recs, x.1.ts < 2 ^ 64) :
    recoveryBlob (blobBytes klen recs) skip = .ok (blobBytes klen recs) :=
  (produced_tools klen recs skip hlen hts).run

/-- without skipping, recovery of a blob with record `i` altered keeps exactly the records before it -/
theorem recover_noskip (klen : Nat) (recs : List (Rec × List UInt8)) (i : Nat) (input : List UInt8)
    (hlen : (blobBytes klen recs).length < 2 ^ 64) (hts : ∀ x ∈ recs, x.1.ts < 2 ^ 64)
    (hflip : FlipIn klen recs i input) :
    recoveryBlob input false = .ok (blobBytes klen (recs.take i)) :=
  (flipIn_tools klen recs i input hlen hts hflip).2.1.run

/-- with `skip_wrong_record`, the output is the blob of exactly the records `0 .. i-1` and `i+1 ..` of
    the original — same keys, timestamps, flags, meta and data, re-addressed to their new positions -/
theorem recover_skip (klen : Nat) (recs : List (Rec × List UInt8)) (i : Nat) (input : List UInt8)
    (hlen : (blobBytes klen recs).length < 2 ^ 64) (hts : ∀ x ∈ recs, x.1.ts < 2 ^ 64)
    (hflip : FlipIn klen recs i input) :
    recoveryBlob input true = .ok (blobBytes klen (recs.eraseIdx i)) :=
  (flipIn_tools klen recs i input hlen hts hflip).2.2.run

/-- a blob truncated inside record `i` is recovered to the records before it, in both modes -/
theorem recover_truncated (klen : Nat) (recs : List (Rec × List UInt8)) (i t : Nat) (skip : Bool)
    (hlen : (blobBytes klen recs).length < 2 ^ 64) (hts : ∀ x ∈ recs, x.1.ts < 2 ^ 64)
    (hc : CutIn klen recs i t) :
    recoveryBlob ((blobBytes klen recs).take t) skip = .ok (blobBytes klen (recs.take i)) :=
  ((cutIn_tools klen recs i t hlen hts hc).2 skip).run

/-- whatever recovery returns for a blob damaged in record `i` (altered or truncated there) is a valid
    blob made of original records, starting with all the records before the damaged one; and recovery
    does return -/
theorem recover_prefix (klen : Nat) (recs : List (Rec × List UInt8)) (i : Nat) (input : List UInt8)
    (hlen : (blobBytes klen recs).length < 2 ^ 64) (hts : ∀ x ∈ recs, x.1.ts < 2 ^ 64)
    (hdam : FlipIn klen recs i input ∨ ∃ t, CutIn klen recs i t ∧ input = (blobBytes klen recs).take t)
    (skip : Bool) :
    (∃ out, recoveryBlob input skip = .ok out) ∧
    ∀ out, recoveryBlob input skip = .ok out →
      validateBlob out = .ok () ∧
      ∃ S, out = blobBytes klen S ∧ recs.take i <+: S ∧ S.Sublist recs := by
  have key : ∃ S, recoveryBlob input skip = .ok (blobBytes klen S) ∧ recs.take i <+: S ∧ S.Sublist recs := by
    rcases hdam with hflip | ⟨t, hc, rfl⟩
    · cases skip
      · exact ⟨recs.take i, recover_noskip klen recs i input hlen hts hflip, List.prefix_refl _,
          List.take_sublist _ _⟩
      · refine ⟨recs.eraseIdx i, recover_skip klen recs i input hlen hts hflip, ?_, List.eraseIdx_sublist _ _⟩
        rw [List.eraseIdx_eq_take_drop_succ]
        exact List.prefix_append _ _
    · exact ⟨recs.take i, recover_truncated klen recs i t skip hlen hts hc, List.prefix_refl _,
        List.take_sublist _ _⟩
  obtain ⟨S, hS, hpre, hsub⟩ := key
  refine ⟨⟨_, hS⟩, fun out hout => ?_⟩
  rw [hS] at hout
  cases hout
  exact ⟨validate_accepts_produced klen S (Nat.lt_of_le_of_lt (blobBytes_sublist_length_le klen hsub) hlen)
    (fun x hx => hts x (hsub.subset hx)), S, rfl, hpre, hsub⟩

/-- what recovery with skipping wrote is addressable: it is the blob the storage would have written for
    the surviving records, so every header's `blob_offset` is its position in the output, the header
    parses there, its checksum is valid, the start-up scan returns exactly these headers (provided a record
    survives, `recs.eraseIdx i ≠ []`: the scan fails on a file that is a blob header only), and the storage
    serves each record with its original bytes (C05 `load_roundtrip`) -/
theorem recover_addressable (klen : Nat) (recs : List (Rec × List UInt8)) (i : Nat) (input out : List UInt8)
    (hlen : (blobBytes klen recs).length < 2 ^ 64) (hts : ∀ x ∈ recs, x.1.ts < 2 ^ 64)
    (hflip : FlipIn klen recs i input) (hrec : recoveryBlob input true = .ok out) :
    out = blobBytes klen (recs.eraseIdx i) ∧
    (∀ v, recs.eraseIdx i ≠ [] → rawRecordsLoad klen v out = .ok (blobHeaders klen (recs.eraseIdx i))) ∧
    ∀ j h r d, (blobHeaders klen (recs.eraseIdx i))[j]? = some h → (recs.eraseIdx i)[j]? = some (r, d) →
      h.blobOffset = (blobBytes klen ((recs.eraseIdx i).take j)).length ∧
      parseHeader klen (out.drop h.blobOffset) = some h ∧
      headerValidate h = .ok () ∧
      entryLoad out h = .ok (serMeta r.mt, if r.del then [] else d) ∧
      loadData out h = .ok (if r.del then [] else d) := by
  rw [recover_skip klen recs i input hlen hts hflip] at hrec
  cases hrec
  have hle := blobBytes_eraseIdx_length_le klen recs i
  have hts' : ∀ x ∈ recs.eraseIdx i, x.1.ts < 2 ^ 64 :=
    fun x hx => hts x ((List.eraseIdx_sublist _ _).subset hx)
  refine ⟨rfl, fun v hne => C05.load_roundtrip_scan_partial klen v _ hne (by omega) hts', ?_⟩
  intro j h r d hh hr
  obtain ⟨a1, a2, a3, a4⟩ := produced_addressable klen _ (by omega) hts' j h r d hh hr
  exact ⟨a1, a2, a3, a4, (C05.load_roundtrip klen _ (by omega) j h r d hh hr).2⟩

/-- migrating the version-0 image of a produced blob (version field 0, key bytes reversed, checksums
    accordingly) yields the blob; migrating a version-1 blob is the identity -/
theorem migrate_preserves (klen : Nat) (recs : List (Rec × List UInt8))
    (hlen : (blobBytes klen recs).length < 2 ^ 64) (hts : ∀ x ∈ recs, x.1.ts < 2 ^ 64) :
    migrateBlob (blobBytesV0 klen recs) = .ok (blobBytes klen recs) ∧
    migrateBlob (blobBytes klen recs) = .ok (blobBytes klen recs) :=
  ⟨(migrate_tools klen recs hlen hts).1.1, (migrate_tools klen recs hlen hts).2.1⟩

/-- on every input, none of the tools returns the model artefact `fuel` -/
theorem tools_total (input : List UInt8) (skip : Bool) (target : Nat) :
    validateBlob input ≠ .error .fuel ∧ recoveryBlob input skip ≠ .error .fuel ∧
    migrateBlob input target ≠ .error .fuel :=
  ⟨validateBlob_ne_fuel input, recoveryBlob_ne_fuel input skip, migrateBlob_ne_fuel input target⟩

/-! ## non-vacuity -/

/-- `C05.recs4`: a plain record, an empty record with meta, a deletion marker, an empty record -/
abbrev b4 : List UInt8 := blobBytes 3 C05.recs4

-- record boundaries 20, 104, 191, 259, 327; `b4` satisfies the size and timestamp hypotheses
example : b4.length = 327 ∧ b4.length < 2 ^ 64 ∧ ∀ x ∈ C05.recs4, x.1.ts < 2 ^ 64 := recs4_hyps
example : IsBoundary 3 C05.recs4 191 := ⟨2, by decide, by rw [blobBytes_length]; decide⟩
example : CutIn 3 C05.recs4 1 150 := recs4_cut
example : ¬ IsBoundary 3 C05.recs4 150 := recs4_cut.not_boundary

/-- one data byte of record 0 altered (byte 91: 9 → 0xAA) -/
theorem flip_data_example : FlipIn 3 C05.recs4 0 (b4.set 91 0xAA) := by
  refine FlipStep.set 91 9 0xAA (by rw [BlobDemo.blobHeaders_recs4]; decide) ?_
  simp only [blobBytes_eq_of_headers 3 C05.recs4, BlobDemo.blobHeaders_recs4]
  decide +kernel

/-- one timestamp byte in the header of record 1 altered (byte 148: 102 → 0xAA) -/
theorem flip_header_example : FlipIn 3 C05.recs4 1 (b4.set 148 0xAA) := by
  refine FlipStep.set 148 102 0xAA (by rw [BlobDemo.blobHeaders_recs4]; decide) ?_
  simp only [blobBytes_eq_of_headers 3 C05.recs4, BlobDemo.blobHeaders_recs4]
  decide +kernel

example : ∃ e, validateBlob (b4.set 91 0xAA) = .error e :=
  validate_rejects_flip 3 C05.recs4 0 _ recs4_hyps.2.1 recs4_hyps.2.2 flip_data_example

example : recoveryBlob (b4.set 91 0xAA) true = .ok (blobBytes 3 (C05.recs4.eraseIdx 0)) ∧
    recoveryBlob (b4.set 91 0xAA) false = .ok (blobBytes 3 []) :=
  ⟨recover_skip 3 C05.recs4 0 _ recs4_hyps.2.1 recs4_hyps.2.2 flip_data_example,
   recover_noskip 3 C05.recs4 0 _ recs4_hyps.2.1 recs4_hyps.2.2 flip_data_example⟩

example : recoveryBlob (b4.set 148 0xAA) true = .ok (blobBytes 3 (C05.recs4.eraseIdx 1)) :=
  recover_skip 3 C05.recs4 1 _ recs4_hyps.2.1 recs4_hyps.2.2 flip_header_example

-- the error `validate_blob` reports is the position after the altered data (by evaluation); with the
-- recovery results of both modes
example : validateBlob (b4.set 91 0xAA) = .error (.recordValidation 104) ∧
    recoveryBlob (b4.set 91 0xAA) true = .ok (blobBytes 3 (C05.recs4.eraseIdx 0)) ∧
    recoveryBlob (b4.set 148 0xAA) true = .ok (blobBytes 3 (C05.recs4.eraseIdx 1)) ∧
    recoveryBlob (b4.set 148 0xAA) false = .ok (blobBytes 3 (C05.recs4.take 1)) := by
  refine ⟨?_, recover_skip 3 C05.recs4 0 _ recs4_hyps.2.1 recs4_hyps.2.2 flip_data_example,
    recover_skip 3 C05.recs4 1 _ recs4_hyps.2.1 recs4_hyps.2.2 flip_header_example,
    recover_noskip 3 C05.recs4 1 _ recs4_hyps.2.1 recs4_hyps.2.2 flip_header_example⟩
  unfold b4
  rw [blobBytes_eq_of_headers, BlobDemo.blobHeaders_recs4]
  decide +kernel

example : ∃ e, validateBlob (b4.take 150) = .error e :=
  (cutIn_tools 3 C05.recs4 1 150 recs4_hyps.2.1 recs4_hyps.2.2 recs4_cut).1

example : recoveryBlob (b4.take 150) true = .ok (blobBytes 3 (C05.recs4.take 1)) :=
  recover_truncated 3 C05.recs4 1 150 true recs4_hyps.2.1 recs4_hyps.2.2 recs4_cut

example : blobBytesV0 3 C05.recs4 ≠ b4 ∧ migrateBlob (blobBytesV0 3 C05.recs4) = .ok b4 :=
  ⟨blobBytesV0_ne 3 C05.recs4, (migrate_preserves 3 C05.recs4 recs4_hyps.2.1 recs4_hyps.2.2).1⟩

/-- after recovery with skipping, the record that followed the damaged one is served by the storage read
    path from the recovered file with its original bytes (it moved from offset 104 to offset 20) -/
example : ∀ out, recoveryBlob (b4.set 91 0xAA) true = .ok out →
    ∃ h, (blobHeaders 3 (C05.recs4.eraseIdx 0))[0]? = some h ∧ h.blobOffset = 20 ∧
      entryLoad out h = .ok (serMeta (some [9, 8]), []) := by
  intro out hout
  obtain ⟨_, _, hall⟩ := recover_addressable 3 C05.recs4 0 _ out recs4_hyps.2.1 recs4_hyps.2.2 flip_data_example hout
  obtain ⟨h, hh⟩ : ∃ h, (blobHeaders 3 (C05.recs4.eraseIdx 0))[0]? = some h := ⟨_, rfl⟩
  obtain ⟨a1, _, _, a4, _⟩ := hall 0 h _ _ hh rfl
  exact ⟨h, hh, by rw [a1]; decide, a4⟩

/-! ## findings (witnesses on concrete files)

Finding 1. The header checksum has a blind spot: the checksum field itself is zeroed before the CRC is taken, so a
change that straddles `data_checksum | header_checksum` is not a burst for the header CRC. Witness: 4
adjacent bytes (74..77 of `b4`: the last two of `data_checksum`, the first two of `header_checksum` of
record 0) altered such that `Header::validate` still ACCEPTS the header. `validate_blob` rejects the file
only because the altered data checksum no longer matches the data (this is the second branch in
`validate_rejects_flip_header`); the start-up scan without data validation accepts the altered header. -/

def b4Straddle : List UInt8 := b4.take 74 ++ [160, 216, 0, 195] ++ b4.drop 78

theorem header_crc_blind_spot :
    b4 = b4.take 74 ++ [107, 14, 49, 67] ++ b4.drop 78 ∧
    (deserHeader (b4Straddle.drop 20)).map headerValidate = some (.ok ()) ∧
    validateBlob b4Straddle = .error (.recordValidation 104) ∧
    (∃ hs, rawRecordsLoad 3 false b4Straddle = .ok hs ∧ hs ≠ blobHeaders 3 C05.recs4) := by
  unfold b4Straddle b4
  rw [blobBytes_eq_of_headers, BlobDemo.blobHeaders_recs4]
  exact and_exists_ok_of_decide (by decide +kernel)

/-- the general theorem covers it (window in the header, after the length fields) -/
example : ∃ e, validateBlob b4Straddle = .error e := by
  refine validate_rejects_flip_header 3 C05.recs4 0 (b4.take 74) [107, 14, 49, 67] [160, 216, 0, 195]
    (b4.drop 78) (blobHeaders 3 C05.recs4)[0]! recs4_hyps.2.1 recs4_hyps.2.2 header_crc_blind_spot.1 rfl
    (by decide) (by decide) (by decide +kernel) ?_ ?_ (Or.inr (Or.inr ?_))
  all_goals
    unfold b4
    rw [blobBytes_eq_of_headers, BlobDemo.blobHeaders_recs4]
    decide +kernel

/-- Finding 2. The tools do not look at the blob version (`validate_without_version`) nor at the flags:
    `validate_blob` accepts a blob that the storage refuses to open (`BlobVersion`: start-up FAILS, the
    one validation error that is not quarantined). -/
theorem validate_ignores_version :
    validateBlob (b4.set 8 7) = .ok () ∧ blobHeaderFromFile (b4.set 8 7) = .error .blobVersion := by
  rw [blobBytes_set_version7]
  exact other_version 3 _ recs4_hyps.2.1 recs4_hyps.2.2 7 (by decide) (by decide)

/-- Finding 3. The metadata bytes are covered by no checksum: an altered meta value passes `validate_blob`, is
    copied by `recovery_blob`, and is served by `Entry::load`. (Byte 189 of `b4` is the first byte of the
    meta value `[9, 8]` of record 1.) -/
theorem meta_not_protected :
    validateBlob (b4.set 189 0xAA) = .ok () ∧
    recoveryBlob (b4.set 189 0xAA) true = .ok (b4.set 189 0xAA) ∧
    (∀ h, (blobHeaders 3 C05.recs4)[1]? = some h →
      entryLoad (b4.set 189 0xAA) h = .ok (serMeta (some [0xAA, 8]), [])) := by
  -- the altered file is the blob the storage writes (`blobBytes`) for the same records with meta value `[0xAA, 8]`:
  -- same index headers (`blobHeaders_congr`), hence the same image up to that byte
  have hh : blobHeaders 3 (C05.recs4.set 1
      ({ key := 2, ts := 102, del := false, mt := some [0xAA, 8], data := ⟨0, 0⟩ }, [])) =
      blobHeaders 3 C05.recs4 := blobHeaders_congr 3 _ _ (by decide +kernel)
  have hb : b4.set 189 0xAA = blobBytes 3 (C05.recs4.set 1
      ({ key := 2, ts := 102, del := false, mt := some [0xAA, 8], data := ⟨0, 0⟩ }, [])) := by
    unfold b4
    rw [blobBytes_eq_of_headers 3 C05.recs4, blobBytes_eq_of_headers, hh,
      BlobDemo.blobHeaders_recs4]
    decide +kernel
  have hlen := recs4_hyps.2.1
  rw [← List.length_set (i := 189) (a := 0xAA), show (blobBytes 3 C05.recs4).set 189 0xAA = _ from hb] at hlen
  refine ⟨?_, ?_, ?_⟩
  · rw [hb]
    exact validate_accepts_produced 3 _ hlen (by decide)
  · rw [hb]
    exact recover_intact 3 _ true hlen (by decide)
  · unfold b4
    rw [blobBytes_eq_of_headers, BlobDemo.blobHeaders_recs4]
    decide +kernel

/-- Finding 4. Outside the scope of the property (the input is not something the storage writes): the tools
    deserialise the metadata and serialise it again, but keep the header's `meta_size`. A record whose
    meta region carries a trailing byte (bincode `deserialize` allows trailing bytes) is valid for the
    storage, the start-up scan and `validate_blob`; `recovery_blob` run with `validate_every = 0` writes an
    output whose meta is one byte shorter than the header claims,
    and that output is no longer a valid blob.  (With `validate_every ≠ 0` the read-back fails instead:
    `validate_every_relevant_for_noncanonical_meta`.) -/
theorem recovery_output_invalid_for_noncanonical_meta :
    validateBlob oddFile = .ok () ∧ rawRecordsLoad 3 true oddFile = .ok [oddHdr] ∧
    entryLoad oddFile oddHdr = .ok (le64 0 ++ [0xFF], [1, 2, 3]) ∧
    ∃ out, recoveryBlob oddFile true = .ok out ∧ out.length + 1 = oddFile.length ∧
      validateBlob out = .error .other := by
  unfold oddFile
  rw [oddHdr_eq]
  exact and_exists_ok_of_decide (by decide +kernel)

/-! ## the writer's read-back validation (`validate_every ≠ 0`)

Model: Pearl/Model/ToolsWriter.lean (`Writer`: output file, cursor, `written`, `written_cached`, `cache`;
`write_record`, `validate_written_records`, `clear_cache` in the order of `process_blob_with`).
Lemmas: Pearl/Proofs/ToolsWriter.lean (invariant, general theorem), ToolsMany.lean (the C16
inputs), ToolsWriterBuggy.lean (the two seeded variants).  `recoveryBlobV ve`, `migrateBlobV ve`,
`processBlobWithV ve` are the tools run with `validate_every = ve`; `liftW` reads a result of the
`validate_every = 0` model (`recoveryBlob`, ...) as a result of this one.

Three statements, referred to below as (1), (2), (3):
(1) `validate_every` does not change what the tools return;
(2) the read-back comparison never fails on what the writer itself wrote;
(3) each of the two seeded variants of the writer breaks one of them, under an exact condition. -/

/-- (1), general form.  For every input (any bytes), every pair of preprocessors and every
    `validate_every`, the run with read-back validation returns the output bytes / the error of the
    `validate_every = 0` model, PROVIDED every record handed to `write_record` is canonical
    (`ToolRecord.Canon`: header sizes = sizes of the re-serialised meta and of the data, data checksum
    valid, meta re-serialises to itself, `u64` fields in range) and the output stays below 2^64 bytes.
    For `ve = 0` nothing is assumed.  Without the first hypothesis the statement is false, see
    `validate_every_relevant_for_noncanonical_meta`. -/
theorem validate_every_irrelevant_partial (ve : Nat) (input : List UInt8) (skip : Bool)
    (fRec : Nat → ToolRecord → Except ToolErr ToolRecord)
    (fHdr : Nat → BlobHeader → Except ToolErr BlobHeader)
    (hcan : ve ≠ 0 → ∀ r ∈ writtenRecords input skip fRec fHdr, r.Canon)
    (hsz : ve ≠ 0 → ∀ out, processBlobWith input skip fRec fHdr = .ok out → out.length < 2 ^ 64) :
    processBlobWithV ve input skip fRec fHdr = liftW (processBlobWith input skip fRec fHdr) :=
  processBlobWithV_eq ve input skip fRec fHdr hcan hsz

/-- (1) is false for arbitrary input bytes: on `oddFile` (finding 4 above: a record that the
    storage, the scan and `validate_blob` accept, whose meta region carries a trailing byte) recovery with
    `validate_every = 0` succeeds, and with `validate_every = 1` fails in the read-back: the record
    written is one byte shorter than its header says, so reading it back runs into the end of the file -/
theorem validate_every_relevant_for_noncanonical_meta :
    (∃ out, recoveryBlob oddFile true = .ok out ∧ recoveryBlobV 0 oddFile true = .ok out) ∧
    recoveryBlobV 1 oddFile true = .error (.tool .other) ∧
    recoveryBlobV 1 oddFile true ≠ liftW (recoveryBlob oddFile true) ∧
    ¬ ∀ r ∈ writtenRecords oddFile true (fun _ r => .ok r) (fun _ h => .ok h), r.Canon := by
  obtain ⟨out, hout, hlen, _⟩ := recovery_output_invalid_for_noncanonical_meta.2.2.2
  have h0 := validate_every_irrelevant_partial 0 oddFile true (fun _ r => .ok r) (fun _ h => .ok h)
    (fun h => absurd rfl h) (fun h => absurd rfl h)
  have h1 : recoveryBlobV 1 oddFile true = .error (.tool .other) := by
    unfold oddFile
    rw [oddHdr_eq]
    decide +kernel
  have hne : recoveryBlobV 1 oddFile true ≠ liftW (recoveryBlob oddFile true) := by
    rw [h1, hout]
    intro h
    cases h
  refine ⟨⟨out, hout, h0.trans (congrArg liftW hout)⟩, h1, hne, fun hcan => hne ?_⟩
  -- were the written records canonical, the general theorem would apply
  refine validate_every_irrelevant_partial 1 oddFile true _ _ (fun _ => hcan) (fun _ o ho => ?_)
  have h92 : oddFile.length = 92 := by decide +kernel
  cases hout.symm.trans ho
  omega

/-- (1) on the inputs of the C16 statements: a produced blob, intact, with one record altered, or
    truncated inside a record, and the version-0 image of a produced blob.  For every `validate_every`
    the tools return exactly what the `validate_every = 0` model returns. -/
theorem validate_every_irrelevant (klen : Nat) (recs : List (Rec × List UInt8)) (ve : Nat)
    (hlen : (blobBytes klen recs).length < 2 ^ 64) (hts : ∀ x ∈ recs, x.1.ts < 2 ^ 64) :
    (∀ skip, recoveryBlobV ve (blobBytes klen recs) skip = liftW (recoveryBlob (blobBytes klen recs) skip)) ∧
    (∀ i input, FlipIn klen recs i input → ∀ skip,
      recoveryBlobV ve input skip = liftW (recoveryBlob input skip)) ∧
    (∀ i t, CutIn klen recs i t → ∀ skip,
      recoveryBlobV ve ((blobBytes klen recs).take t) skip =
        liftW (recoveryBlob ((blobBytes klen recs).take t) skip)) ∧
    migrateBlobV ve (blobBytesV0 klen recs) = liftW (migrateBlob (blobBytesV0 klen recs)) ∧
    migrateBlobV ve (blobBytes klen recs) = liftW (migrateBlob (blobBytes klen recs)) := by
  refine ⟨fun skip => ?_, fun i input hflip skip => ?_, fun i t hc skip => ?_, ?_, ?_⟩
  · rw [(produced_tools klen recs skip hlen hts).runV ve, recover_intact klen recs skip hlen hts]; rfl
  · obtain ⟨_, h0, h1⟩ := flipIn_tools klen recs i input hlen hts hflip
    cases skip
    · rw [h0.run, h0.runV ve]; rfl
    · rw [h1.run, h1.runV ve]; rfl
  · have h := (cutIn_tools klen recs i t hlen hts hc).2 skip
    rw [h.run, h.runV ve]; rfl
  · rw [(migrate_tools klen recs hlen hts).1.2 ve, (migrate_preserves klen recs hlen hts).1]; rfl
  · rw [(migrate_tools klen recs hlen hts).2.2 ve, (migrate_preserves klen recs hlen hts).2]; rfl

theorem liftW_eq_ok {x : Except ToolErr (List UInt8)} {out : List UInt8} :
    liftW x = .ok out ↔ x = .ok out := by
  cases x <;> simp [liftW]

/-- `recover_intact`, `recover_noskip`, `recover_skip`, `recover_truncated` for every batch size -/
theorem recover_every (klen : Nat) (recs : List (Rec × List UInt8)) (ve : Nat)
    (hlen : (blobBytes klen recs).length < 2 ^ 64) (hts : ∀ x ∈ recs, x.1.ts < 2 ^ 64) :
    (∀ skip, recoveryBlobV ve (blobBytes klen recs) skip = .ok (blobBytes klen recs)) ∧
    (∀ i input, FlipIn klen recs i input →
      recoveryBlobV ve input false = .ok (blobBytes klen (recs.take i)) ∧
      recoveryBlobV ve input true = .ok (blobBytes klen (recs.eraseIdx i))) ∧
    (∀ i t skip, CutIn klen recs i t →
      recoveryBlobV ve ((blobBytes klen recs).take t) skip = .ok (blobBytes klen (recs.take i))) :=
  ⟨fun skip => (produced_tools klen recs skip hlen hts).runV ve,
   fun i input hflip => ⟨(flipIn_tools klen recs i input hlen hts hflip).2.1.runV ve,
     (flipIn_tools klen recs i input hlen hts hflip).2.2.runV ve⟩,
   fun i t skip hc => ((cutIn_tools klen recs i t hlen hts hc).2 skip).runV ve⟩

theorem recover_prefix_every (klen : Nat) (recs : List (Rec × List UInt8)) (i : Nat) (input : List UInt8)
    (ve : Nat) (hlen : (blobBytes klen recs).length < 2 ^ 64) (hts : ∀ x ∈ recs, x.1.ts < 2 ^ 64)
    (hdam : FlipIn klen recs i input ∨ ∃ t, CutIn klen recs i t ∧ input = (blobBytes klen recs).take t)
    (skip : Bool) :
    (∃ out, recoveryBlobV ve input skip = .ok out) ∧
    ∀ out, recoveryBlobV ve input skip = .ok out →
      validateBlob out = .ok () ∧
      ∃ S, out = blobBytes klen S ∧ recs.take i <+: S ∧ S.Sublist recs := by
  have heq : recoveryBlobV ve input skip = liftW (recoveryBlob input skip) := by
    rcases hdam with hflip | ⟨t, hc, rfl⟩
    · exact ((validate_every_irrelevant klen recs ve hlen hts).2.1 i input hflip) skip
    · exact ((validate_every_irrelevant klen recs ve hlen hts).2.2.1 i t hc) skip
  obtain ⟨⟨out, hout⟩, hall⟩ := recover_prefix klen recs i input hlen hts hdam skip
  rw [heq]
  exact ⟨⟨out, liftW_eq_ok.mpr hout⟩, fun out' h => hall out' (liftW_eq_ok.mp h)⟩

theorem migrate_preserves_every (klen : Nat) (recs : List (Rec × List UInt8)) (ve : Nat)
    (hlen : (blobBytes klen recs).length < 2 ^ 64) (hts : ∀ x ∈ recs, x.1.ts < 2 ^ 64) :
    migrateBlobV ve (blobBytesV0 klen recs) = .ok (blobBytes klen recs) ∧
    migrateBlobV ve (blobBytes klen recs) = .ok (blobBytes klen recs) :=
  ⟨(migrate_tools klen recs hlen hts).1.2 ve, (migrate_tools klen recs hlen hts).2.2 ve⟩

/-- (2) the invariant.  `Writer.Inv w`: cursor = `written` = length of the output file, and if there is a
    cache then the file is `base ++` the images of the cached records, the cache holds exactly those
    records (each with the header it was written with, `blob_offset` = its position), `written_cached` is
    the length of those images (so `written - written_cached` is the offset of the first cached record),
    and they are canonical.  The invariant holds after `write_header`, is kept by `write_record` and
    `clear_cache`, and in a state that satisfies it `validate_written_records` succeeds and changes
    nothing. -/
theorem readback_invariant :
    (∀ (c : Bool) (o : List UInt8), o.length = 20 → (Writer.afterHeader c o).Inv) ∧
    (∀ (w : Writer) (r : ToolRecord), w.Inv → (w.cache.isSome → r.Canon) → (w.writeRecord r).Inv) ∧
    (∀ w : Writer, w.Inv → w.clearCache.Inv) ∧
    (∀ w : Writer, w.Inv → (w.cache.isSome → w.file.length < 2 ^ 64) →
      w.validateWrittenRecords = .ok w) :=
  ⟨fun c _ ho => Writer.afterHeader_inv c ho, fun _ _ hi hc => hi.writeRecord hc,
   fun _ hi => hi.clearCache, fun _ hi hl => hi.validate_ok hl⟩

/-- (2) for whole runs: the read-back comparison never fails for records the writer itself wrote.  Under
    the hypotheses of (1), a run with any `validate_every` does not end with "Written and cached records
    is not equal", nor with the `expect` panic, and every error it does end with is the error the
    `validate_every = 0` run ends with (i.e. it comes from reading / rewriting the blob header) -/
theorem readback_never_fails_on_own_output (ve : Nat) (input : List UInt8) (skip : Bool)
    (fRec : Nat → ToolRecord → Except ToolErr ToolRecord)
    (fHdr : Nat → BlobHeader → Except ToolErr BlobHeader)
    (hcan : ve ≠ 0 → ∀ r ∈ writtenRecords input skip fRec fHdr, r.Canon)
    (hsz : ve ≠ 0 → ∀ out, processBlobWith input skip fRec fHdr = .ok out → out.length < 2 ^ 64) :
    processBlobWithV ve input skip fRec fHdr ≠ .error .notEqual ∧
    processBlobWithV ve input skip fRec fHdr ≠ .error .subPanic ∧
    ∀ e, processBlobWithV ve input skip fRec fHdr = .error (.tool e) →
      processBlobWith input skip fRec fHdr = .error e := by
  rw [processBlobWithV_eq ve input skip fRec fHdr hcan hsz]
  cases processBlobWith input skip fRec fHdr with
  | error e0 =>
    refine ⟨(by intro h; cases h), (by intro h; cases h), fun e h => ?_⟩
    cases h; rfl
  | ok out => exact ⟨(by intro h; cases h), (by intro h; cases h), fun e h => by cases h⟩

/-- (2) on the C16 inputs: no hypothesis left -/
theorem readback_never_fails_on_produced (klen : Nat) (recs : List (Rec × List UInt8)) (ve : Nat)
    (hlen : (blobBytes klen recs).length < 2 ^ 64) (hts : ∀ x ∈ recs, x.1.ts < 2 ^ 64)
    (input : List UInt8)
    (hin : input = blobBytes klen recs ∨ (∃ i, FlipIn klen recs i input) ∨
      ∃ i t, CutIn klen recs i t ∧ input = (blobBytes klen recs).take t) (skip : Bool) :
    ∃ out, recoveryBlobV ve input skip = .ok out := by
  rcases hin with rfl | ⟨i, hflip⟩ | ⟨i, t, hc, rfl⟩
  · exact ⟨_, (recover_every klen recs ve hlen hts).1 skip⟩
  · cases skip
    · exact ⟨_, ((recover_every klen recs ve hlen hts).2.1 i input hflip).1⟩
    · exact ⟨_, ((recover_every klen recs ve hlen hts).2.1 i input hflip).2⟩
  · exact ⟨_, (recover_every klen recs ve hlen hts).2.2 i t skip hc⟩

/-! ### (3) the two seeded variants -/

/-- variant 1 (`written` advances only when `cache.is_some()`), exact condition: for every input and all
    preprocessors it behaves as the real code iff `validate_every ≠ 0` or at most one record is written
    (with `validate_every = 0` there is no cache, `written` never moves, and every record is addressed to
    offset 20).  `hsz`: the first record ends below 2^64. -/
theorem buggyOffset_invisible_iff (ve : Nat) (input : List UInt8) (skip : Bool)
    (fRec : Nat → ToolRecord → Except ToolErr ToolRecord)
    (fHdr : Nat → BlobHeader → Except ToolErr BlobHeader)
    (hsz : ∀ r ∈ (writtenRecords input skip fRec fHdr).head?,
      20 + (Writer.recordImage r 20).length < 2 ^ 64) :
    processBlobWithW stepBuggyOffset ve input skip fRec fHdr = processBlobWithV ve input skip fRec fHdr ↔
      (ve ≠ 0 ∨ (writtenRecords input skip fRec fHdr).length ≤ 1) := by
  by_cases hve : ve = 0
  · subst hve
    rw [processBlobWithW_buggyOffset_zero,
      processBlobWithV_eq 0 input skip fRec fHdr (fun h => absurd rfl h) (fun h => absurd rfl h)]
    simp only [ne_eq, not_true_eq_false, false_or]
    rw [← flatImages_eq_imagesOf_iff _ hsz]
    cases hp : processBlobWith input skip fRec fHdr with
    | error e => simp only [liftW, true_iff]
                 rcases processBlobWithW_cases input skip fRec fHdr with ⟨_, _, h0, _⟩ | ⟨_, _, _, _, h2, _⟩
                 · rw [h0]; rfl
                 · rw [h2] at hp; cases hp
    | ok out =>
      obtain ⟨o, ho, hout⟩ := processBlobWith_eq_written hp
      simp only [liftW, Except.ok.injEq]
      have h20 : out.take 20 = o := by
        rw [hout, List.take_left' ho]
      rw [h20]
      conv => lhs; rhs; rw [hout]
      exact List.append_right_inj _
  · simp only [ne_eq, hve, not_false_eq_true, true_or, iff_true]
    exact buggyOffset_invisible_of_ne_zero ve hve input skip fRec fHdr

/-- variant 1 on produced blobs: recovery reproduces the blob iff `validate_every ≠ 0` or the blob has at
    most one record -/
theorem buggyOffset_on_produced (klen : Nat) (recs : List (Rec × List UInt8)) (ve : Nat) (skip : Bool)
    (hlen : (blobBytes klen recs).length < 2 ^ 64) (hts : ∀ x ∈ recs, x.1.ts < 2 ^ 64) :
    processBlobWithW stepBuggyOffset ve (blobBytes klen recs) skip (fun _ r => .ok r) (fun _ h => .ok h) =
        .ok (blobBytes klen recs) ↔ (ve ≠ 0 ∨ recs.length ≤ 1) := by
  have hint := recover_intact klen recs skip hlen hts
  have := buggyOffset_invisible_iff ve (blobBytes klen recs) skip (fun _ r => .ok r)
    (fun _ h => .ok h) (head_size_of_output hint hlen)
  rw [(produced_tools klen recs skip hlen hts).count] at this
  rw [← this]
  rw [show processBlobWithV ve (blobBytes klen recs) skip (fun _ r => .ok r) (fun _ h => .ok h) =
    recoveryBlobV ve (blobBytes klen recs) skip from rfl, (produced_tools klen recs skip hlen hts).runV ve]

/-- variant 2 (`clear_cache` keeps `written_cached`), exact condition: under the hypotheses of (1) it
    behaves as the real code iff `validate_every = 0` or at most `validate_every` records are written;
    otherwise the run fails with "Written and cached records is not equal"
    (`processBlobWithW_buggyClear`) -/
theorem buggyClear_invisible_iff (ve : Nat) (input : List UInt8) (skip : Bool)
    (fRec : Nat → ToolRecord → Except ToolErr ToolRecord)
    (fHdr : Nat → BlobHeader → Except ToolErr BlobHeader)
    (hcan : ∀ r ∈ writtenRecords input skip fRec fHdr, r.Canon)
    (hsz : ∀ out, processBlobWith input skip fRec fHdr = .ok out → out.length < 2 ^ 64) :
    processBlobWithW stepBuggyClear ve input skip fRec fHdr = processBlobWithV ve input skip fRec fHdr ↔
      (ve = 0 ∨ (writtenRecords input skip fRec fHdr).length ≤ ve) := by
  by_cases hve : ve = 0
  · subst hve
    simp only [true_or, iff_true]
    exact buggyClear_invisible_zero input skip fRec fHdr
  · rw [processBlobWithW_buggyClear ve hve input skip fRec fHdr hcan hsz]
    by_cases hle : (writtenRecords input skip fRec fHdr).length ≤ ve
    · simp [hle]
    · rw [if_neg hle]
      simp only [hve, hle, or_self, iff_false]
      rw [processBlobWithV_eq ve input skip fRec fHdr (fun _ => hcan) (fun _ => hsz)]
      exact fun h => liftW_ne_notEqual _ h.symm

theorem buggyClear_on_produced (klen : Nat) (recs : List (Rec × List UInt8)) (ve : Nat) (skip : Bool)
    (hlen : (blobBytes klen recs).length < 2 ^ 64) (hts : ∀ x ∈ recs, x.1.ts < 2 ^ 64) :
    processBlobWithW stepBuggyClear ve (blobBytes klen recs) skip (fun _ r => .ok r) (fun _ h => .ok h) =
      if ve = 0 ∨ recs.length ≤ ve then .ok (blobBytes klen recs) else .error .notEqual := by
  have hint := recover_intact klen recs skip hlen hts
  have hV := (produced_tools klen recs skip hlen hts).runV ve
  by_cases hve : ve = 0
  · subst hve
    rw [buggyClear_invisible_zero, if_pos (Or.inl rfl)]
    exact hV
  · rw [processBlobWithW_buggyClear ve hve _ skip _ _ (produced_tools klen recs skip hlen hts).canon
      (fun out hout => by
        rw [show processBlobWith (blobBytes klen recs) skip (fun _ r => .ok r) (fun _ h => .ok h) =
          recoveryBlob (blobBytes klen recs) skip from rfl, hint] at hout
        cases hout; exact hlen),
      (produced_tools klen recs skip hlen hts).count]
    by_cases hle : recs.length ≤ ve
    · rw [if_pos hle, if_pos (Or.inr hle)]; exact hV
    · rw [if_neg hle, if_neg (by omega)]

/-! ### non-vacuity of the writer theorems: a 5-record blob, `validate_every` = 0, 2, 5, 7 -/

/-- `C05.recs4` and a record with meta and data -/
def recs5 : List (Rec × List UInt8) :=
  C05.recs4 ++ [({ key := 4, ts := 105, del := false, mt := some [7], data := ⟨3, 0⟩ }, [5, 6, 7])]

abbrev b5 : List UInt8 := blobBytes 3 recs5

theorem b5_hyps : b5.length = 416 ∧ b5.length < 2 ^ 64 ∧ (∀ x ∈ recs5, x.1.ts < 2 ^ 64) ∧ recs5.length = 5 := by
  have h : b5.length = 416 := by
    unfold b5
    rw [blobBytes_length]
    decide +kernel
  exact ⟨h, by rw [h]; decide, by decide, rfl⟩

/-- the real writer on `b5`: batches of 2, of exactly 5 and of more than 5 records, and no read-back -/
theorem b5_real :
    recoveryBlobV 0 b5 true = .ok b5 ∧ recoveryBlobV 2 b5 true = .ok b5 ∧
    recoveryBlobV 5 b5 true = .ok b5 ∧ recoveryBlobV 7 b5 true = .ok b5 :=
  have h := fun ve => (recover_every 3 recs5 ve b5_hyps.2.1 b5_hyps.2.2.1).1 true
  ⟨h 0, h 2, h 5, h 7⟩

/-- all batch sizes and both modes at once -/
example (ve : Nat) (skip : Bool) : recoveryBlobV ve b5 skip = .ok b5 :=
  (recover_every 3 recs5 ve b5_hyps.2.1 b5_hyps.2.2.1).1 skip

/-- the hypotheses of (1) / (2) hold for `b5` -/
example : (∀ r ∈ writtenRecords b5 true (fun _ r => .ok r) (fun _ h => .ok h), r.Canon) ∧
    (writtenRecords b5 true (fun _ r => .ok r) (fun _ h => .ok h)).length = 5 :=
  ⟨(produced_tools 3 recs5 true b5_hyps.2.1 b5_hyps.2.2.1).canon,
   by rw [(produced_tools 3 recs5 true b5_hyps.2.1 b5_hyps.2.2.1).count]; rfl⟩

/-- damaged blobs (the examples `flip_data_example`, `flip_header_example` and the cut above), the
    version-0 image: every batch size -/
example (ve : Nat) : recoveryBlobV ve (b4.set 91 0xAA) true = .ok (blobBytes 3 (C05.recs4.eraseIdx 0)) ∧
    recoveryBlobV ve (b4.set 91 0xAA) false = .ok (blobBytes 3 []) :=
  ⟨((recover_every 3 C05.recs4 ve recs4_hyps.2.1 recs4_hyps.2.2).2.1 0 _ flip_data_example).2,
   ((recover_every 3 C05.recs4 ve recs4_hyps.2.1 recs4_hyps.2.2).2.1 0 _ flip_data_example).1⟩

example (ve : Nat) : recoveryBlobV ve (b4.set 148 0xAA) true = .ok (blobBytes 3 (C05.recs4.eraseIdx 1)) :=
  ((recover_every 3 C05.recs4 ve recs4_hyps.2.1 recs4_hyps.2.2).2.1 1 _ flip_header_example).2

example (ve : Nat) (skip : Bool) : recoveryBlobV ve (b4.take 150) skip = .ok (blobBytes 3 (C05.recs4.take 1)) :=
  (recover_every 3 C05.recs4 ve recs4_hyps.2.1 recs4_hyps.2.2).2.2 1 150 skip recs4_cut

example (ve : Nat) : migrateBlobV ve (blobBytesV0 3 recs5) = .ok b5 :=
  (migrate_preserves_every 3 recs5 ve b5_hyps.2.1 b5_hyps.2.2.1).1

/-- variant 1 breaks (1): with `validate_every = 0` the output is not the blob (the records after the
    first carry `blob_offset` 20), with `validate_every = 2` it is -/
theorem buggyOffset_breaks_irrelevance :
    processBlobWithW stepBuggyOffset 0 b5 true (fun _ r => .ok r) (fun _ h => .ok h) ≠ .ok b5 ∧
    processBlobWithW stepBuggyOffset 2 b5 true (fun _ r => .ok r) (fun _ h => .ok h) = .ok b5 := by
  have h := fun ve => buggyOffset_on_produced 3 recs5 ve true b5_hyps.2.1 b5_hyps.2.2.1
  have h5 := b5_hyps.2.2.2
  exact ⟨fun h0 => by have := (h 0).mp h0; omega, (h 2).mpr (by omega)⟩

/-- the exact condition for `b5` -/
example (ve : Nat) :
    processBlobWithW stepBuggyOffset ve b5 true (fun _ r => .ok r) (fun _ h => .ok h) = .ok b5 ↔ ve ≠ 0 := by
  rw [buggyOffset_on_produced 3 recs5 ve true b5_hyps.2.1 b5_hyps.2.2.1, b5_hyps.2.2.2]
  omega

/-- variant 2 breaks (2): 5 records, `validate_every = 2`: the second read-back fails on the writer's own
    output; `validate_every = 5` hides the bug (and so do 0 and 7, next example) -/
theorem buggyClear_breaks_readback :
    processBlobWithW stepBuggyClear 2 b5 true (fun _ r => .ok r) (fun _ h => .ok h) = .error .notEqual ∧
    processBlobWithW stepBuggyClear 5 b5 true (fun _ r => .ok r) (fun _ h => .ok h) = .ok b5 := by
  have h := fun ve => buggyClear_on_produced 3 recs5 ve true b5_hyps.2.1 b5_hyps.2.2.1
  have h5 := b5_hyps.2.2.2
  exact ⟨(h 2).trans (if_neg (by omega)), (h 5).trans (if_pos (by omega))⟩

/-- the exact condition for `b5` -/
example (ve : Nat) :
    processBlobWithW stepBuggyClear ve b5 true (fun _ r => .ok r) (fun _ h => .ok h) =
      if ve = 0 ∨ 5 ≤ ve then .ok b5 else .error .notEqual := by
  rw [buggyClear_on_produced 3 recs5 ve true b5_hyps.2.1 b5_hyps.2.2.1, b5_hyps.2.2.2]

end Pearl.C16

/-
Not proved (possible strengthenings)

1. `validate_rejects_flip` / `recover_skip` for alterations that touch one of the three length fields of a
   record header. The header CRC still rejects the header (≤ 4 adjacent bytes), so `validate_blob` fails;
   but `skip_wrong_record_data` then trusts the altered `meta_size` / `data_size` (or the altered key length
   moves every later field), so where recovery continues is not determined by the original blob.
2. The read-back validation:
   * that every record `read_single_record` accepts is canonical except for the length of its re-serialised
     meta (plausible: the other fields of `ToolRecord.Canon` are checked by the reader); it would reduce the
     hypothesis of `validate_every_irrelevant_partial` to "no record of the input has trailing bytes in its
     meta region";
   * preprocessors other than identity / `migrate`: the hypothesis is on what they return;
   * the `HashMap` comparison of `record != &written_record` is modelled on entry lists in stream order
     (item 3).
3. Metadata maps with more than one entry: the tools re-serialise a `HashMap`, whose iteration order is not
   determined; the model (and the storage model) only has maps with at most one entry.
-/
