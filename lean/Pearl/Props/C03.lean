import Pearl.Proofs.MaintLemmas
import Pearl.Props.C04
import Pearl.Props.C15
/-
C03, logical level: closing the storage and opening it again on the same (undamaged) directory is
invisible.  `Store.restart lazy` is the model of close + init; the byte-level statement (what is on
disk after close is what init reads back) belongs to the layers below.
-/
namespace Pearl

theorem restart_WF {s : Store} (hwf : s.WF) (lazy : Bool) : (s.restart lazy).WF :=
  apply_WF hwf (.restart lazy)

/-- the history is literally unchanged (a storage with at least one blob, as on every run) -/
theorem restart_history {s : Store} (hwf : s.WF) (hne : s.blobs ≠ []) (lazy : Bool) :
    (s.restart lazy).history = s.history :=
  (Store.restart_of_ne_nil hwf lazy hne).1

/-- without any blob, `restart false` creates blob 0 (`init_new`): the only way the history changes -/
theorem restart_history_needs_blobs :
    ∃ s : Store, s.WF ∧ (s.restart false).history ≠ s.history :=
  ⟨{ nextId := 5 }, ⟨by decide, by decide⟩, by decide⟩

/-- the records are unchanged, with or without blobs -/
theorem restart_records {s : Store} (hwf : s.WF) (lazy : Bool) :
    History.positioned (s.restart lazy).history = History.positioned s.history ∧
      (History.positioned (s.restart lazy).history).Perm (History.positioned s.history) :=
  ⟨maint_records_eq (m := .restart lazy) hwf rfl, maint_records (m := .restart lazy) hwf rfl⟩

/-- all queries: `read`, `read_with`, `contains`, `read_all_with_deletion_marker`, `read_all`,
    `get_latest_entry` -/
theorem restart_answers {s : Store} (hwf : s.WF) (lazy : Bool) (k : Key) :
    (s.restart lazy).read k none = s.read k none ∧
      (∀ mt, (s.restart lazy).read k (some mt) = s.read k (some mt)) ∧
      (s.restart lazy).contains k = s.contains k ∧
      (s.restart lazy).readAllMarked k = s.readAllMarked k ∧
      (s.restart lazy).readAll k = s.readAll k ∧
      (∀ mo, (s.restart lazy).getLatestEntry k mo = s.getLatestEntry k mo) :=
  maint_answers (m := .restart lazy) hwf rfl k

theorem restart_counts {s : Store} (hwf : s.WF) (lazy : Bool) :
    (s.restart lazy).recordsCount = s.recordsCount :=
  maint_counts (m := .restart lazy) hwf rfl

/-- with at least one blob, also the per-blob counts and the number of blobs -/
theorem restart_counts_detailed {s : Store} (hwf : s.WF) (hne : s.blobs ≠ []) (lazy : Bool) :
    (s.restart lazy).recordsCountDetailed = s.recordsCountDetailed ∧
      (s.restart lazy).blobsCount = s.blobsCount := by
  rw [recordsCountDetailed_eq, recordsCountDetailed_eq, blobsCount_eq, blobsCount_eq,
    restart_history hwf hne lazy]
  exact ⟨rfl, rfl⟩

/-- the write duplicate check behaves as before -/
theorem restart_dedups {s : Store} (hwf : s.WF) (lazy : Bool) (k : Key) (mo : Option Meta) :
    (s.restart lazy).dedups k mo = s.dedups k mo :=
  maint_dedups (m := .restart lazy) hwf rfl k mo

/-- `next_blob_id` is recomputed as greatest id + 1, hence above every id present -/
theorem restart_nextId {s : Store} (hwf : s.WF) (hne : s.blobs ≠ []) (lazy : Bool) :
    (s.restart lazy).nextId = s.maxId + 1 ∧
      (∀ b ∈ s.blobs, b.id < (s.restart lazy).nextId) ∧
      (∀ b ∈ (s.restart lazy).blobs, b.id < (s.restart lazy).nextId) := by
  have h := restart_nextId_eq hwf hne lazy
  refine ⟨h, ?_, (restart_WF hwf lazy).2⟩
  intro b hb
  rw [h, ← Store.idBound_eq_maxId hne]
  exact Store.idBound_gt s b hb

/-- on every state reachable from `init`, `restart` does not move `nextId` at all -/
theorem run_restart_nextId (d : Bool) (ops : List Op) (lazy : Bool) :
    let s := (Store.init d).run ops
    (s.restart lazy).nextId = s.nextId := by
  intro s
  rw [(restart_nextId (run_WF d ops) (run_blobs_ne_nil d ops) lazy).1]
  exact (run_nextId_tight d ops).2.symm

theorem restart_idempotent_answers {s : Store} (hwf : s.WF) (l₁ l₂ : Bool) (k : Key) :
    (∀ mo, ((s.restart l₁).restart l₂).read k mo = (s.restart l₁).read k mo) ∧
      ((s.restart l₁).restart l₂).contains k = (s.restart l₁).contains k ∧
      ((s.restart l₁).restart l₂).readAllMarked k = (s.restart l₁).readAllMarked k ∧
      ((s.restart l₁).restart l₂).readAll k = (s.restart l₁).readAll k ∧
      ((s.restart l₁).restart l₂).recordsCount = (s.restart l₁).recordsCount := by
  have hwf₁ := restart_WF hwf l₁
  have h := restart_answers hwf₁ l₂ k
  exact ⟨fun mo => h.2.2.2.2.2 mo, h.2.2.1, h.2.2.2.1, h.2.2.2.2.1, restart_counts hwf₁ l₂⟩

/-- in the same mode even the state is a fixed point -/
theorem restart_idempotent {s : Store} (hwf : s.WF) (lazy : Bool) :
    (s.restart lazy).restart lazy = s.restart lazy := by
  have hwf' : (s.restart lazy).WF := Store.apply_WF' hwf (.restart lazy)
  cases lazy with
  | true =>
    have hb : (s.restart true).blobs = s.blobs.map dumpFlag := Store.restart_lazy_blobs hwf
    have hi : (s.restart true).idBound = s.idBound :=
      Store.idBound_congr (by rw [hb]; simp [List.map_map, Function.comp_def, dumpFlag_id])
    rw [Store.restart_true_eq hwf', hb, hi, Store.restart_true_eq hwf]
    simp [List.map_map, Function.comp_def, dumpFlag_idem]
  | false =>
    cases hl : s.blobs.getLast? with
    | none =>
      have h0 : s.blobs = [] := List.getLast?_eq_none_iff.1 hl
      have h1 := Store.restart_false_nil h0
      have hb : (s.restart false).blobs = [] ++ [{ id := 0, recs := [] }] := by
        rw [h1]; simp [Store.blobs, Store.closed]
      rw [Store.restart_false_eq hwf' hb]
      have hi : (s.restart false).idBound = 1 := by unfold Store.idBound; rw [hb]; rfl
      rw [hi, h1]
      rfl
    | some a =>
      obtain ⟨ys, hys⟩ := List.getLast?_eq_some_iff.1 hl
      have h1 := Store.restart_false_eq hwf hys
      have hb := Store.restart_false_blobs hwf hys
      have hi : (s.restart false).idBound = s.idBound :=
        Store.idBound_congr (by rw [hb, hys]; simp [List.map_map, Function.comp_def, dumpFlag_id])
      rw [Store.restart_false_eq hwf' hb, hi, h1]
      simp [List.map_map, Function.comp_def, dumpFlag_idem]

/-- history and `nextId` are fixed points after the first restart -/
theorem restart_idempotent_history {s : Store} (hwf : s.WF) (hne : s.blobs ≠ []) (l₁ l₂ : Bool) :
    ((s.restart l₁).restart l₂).history = (s.restart l₁).history ∧
      ((s.restart l₁).restart l₂).nextId = (s.restart l₁).nextId := by
  have hwf₁ := restart_WF hwf l₁
  have hh₁ := restart_history hwf hne l₁
  have hne₁ : (s.restart l₁).blobs ≠ [] := (Store.run_inv hwf hne [.restart l₁]).2
  refine ⟨restart_history hwf₁ hne₁ l₂, ?_⟩
  have hids : (s.restart l₁).ids = s.ids := by rw [← Store.history_ids, hh₁, Store.history_ids]
  rw [restart_nextId_eq hwf₁ hne₁ l₂, restart_nextId_eq hwf hne l₁]
  unfold Store.maxId
  exact congrArg (fun l => List.foldl max 0 l + 1) hids

/-- the restart equivalence in its general form: any two well-formed stores holding the same
    records (per blob id and position) answer every query identically — whatever `init` rebuilds,
    as long as it finds the same records in the same blobs -/
theorem answers_of_same_records {s s' : Store} (hwf : s.WF) (hwf' : s'.WF)
    (hp : (History.positioned s'.history).Perm (History.positioned s.history)) (k : Key) :
    (∀ mo, s'.read k mo = s.read k mo) ∧ s'.contains k = s.contains k ∧
      s'.readAllMarked k = s.readAllMarked k ∧ s'.readAll k = s.readAll k := by
  refine Store.answers_of_vis_eq hwf hwf' (Store.vis_of_mem_iff hwf hwf' k fun p => ?_)
  rw [Spec.all_eq_sortedBy, Spec.all_eq_sortedBy, mem_sortedBy, mem_sortedBy, hp.mem_iff]

/-- the model's per-key index vector is a function of the blob's records only … -/
theorem vec_is_function_of_recs (b b' : Blob) (k : Key) (h : b.recs = b'.recs) : b.vec k = b'.vec k := by
  unfold Blob.vec; rw [h]

/-- … so are all per-blob answers … -/
theorem blob_answers_function_of_recs (b b' : Blob) (k : Key) (mo : Option Meta) (h : b.recs = b'.recs) :
    b.getLatestEntry k mo = b'.getLatestEntry k mo ∧ b.getAllCut k = b'.getAllCut k := by
  have hv := vec_is_function_of_recs b b' k h
  constructor
  · cases mo with
    | none => show latestOfVec (b.vec k) = latestOfVec (b'.vec k); rw [hv]
    | some m => unfold Blob.getLatestEntry Blob.getWithMeta Blob.getAllCut; rw [hv]
  · unfold Blob.getAllCut; rw [hv]

/-- … in particular they do not depend on index residence (memory / disk) -/
theorem onDisk_irrelevant (b : Blob) (x : Bool) (k : Key) (mo : Option Meta) :
    ({ b with onDisk := x } : Blob).getLatestEntry k mo = b.getLatestEntry k mo ∧
      ({ b with onDisk := x } : Blob).getAllCut k = b.getAllCut k :=
  blob_answers_function_of_recs _ _ k mo rfl

/-- an index regenerated by scanning the blob file (push every header, in file order, into the
    vector of its key) is the index the blob had -/
theorem regen_eq (b : Blob) (k : Key) : rebuildIndex b.recs k = b.vec k :=
  foldl_rebuild k b.recs _

/-- if reopening yields, for every blob, the records that were in
    its file (`hrecs`: same ids, same records, i.e. close flushed everything and init read it back),
    then with a *regenerated* index every answer is the old one.  `hrecs` is what the byte-level
    properties have to supply; the index itself needs no hypothesis (`regen_eq`). -/
theorem restart_with_regenerated_index {s s' : Store} (hwf : s.WF) (hwf' : s'.WF)
    (hrecs : s'.history = s.history) (k : Key) :
    (∀ b' ∈ s'.blobs, rebuildIndex b'.recs k = b'.vec k) ∧
      (∀ mo, s'.read k mo = s.read k mo) ∧ s'.contains k = s.contains k ∧
      s'.readAllMarked k = s.readAllMarked k ∧ s'.readAll k = s.readAll k :=
  ⟨fun b' _ => regen_eq b' k, answers_of_same_records hwf hwf' (by rw [hrecs]) k⟩

-- restart changes the representation (blob 1 was active with its index in memory) …
example : (Demo.s1.restart true).active = none ∧ Demo.s1.active ≠ none ∧
    (Demo.s1.restart true).blobs ≠ Demo.s1.blobs := by decide
example : (Demo.s1.restart false).blobs.map (·.onDisk) = [true, false] := by decide
-- … not the history, the answers, the counts
example : (Demo.s1.restart true).history = Demo.s1.history := restart_history Demo.s1_WF (by decide) true
example : (Demo.s1.restart true).read 1 none = .found ⟨1, 5, false, some [7], ⟨3, 3⟩⟩ := by
  rw [(restart_answers Demo.s1_WF true 1).1]; decide
example : (Demo.s2.restart false).readAll 1 = [⟨1, 12, false, none, ⟨4, 4⟩⟩] := by
  rw [(restart_answers Demo.s2_WF false 1).2.2.2.2.1]; decide
example : (Demo.s2.restart true).recordsCountDetailed = [3, 2, 1] := by
  rw [(restart_counts_detailed Demo.s2_WF (by decide) true).1]; decide
example : (Demo.s2.restart true).nextId = 3 ∧ Demo.s2.maxId = 2 := by decide
example : ((Demo.s2.restart true).restart true).blobs = (Demo.s2.restart true).blobs ∧
    (Demo.s2.restart true).blobs ≠ Demo.s2.blobs := by decide
-- the regenerated index of a blob with out-of-order timestamps
example : rebuildIndex [⟨1, 7, false, none, ⟨1, 1⟩⟩, ⟨2, 1, false, none, ⟨1, 1⟩⟩, ⟨1, 3, true, none, ⟨0, 0⟩⟩] 1
    = [⟨1, 3, true, none, ⟨0, 0⟩⟩, ⟨1, 7, false, none, ⟨1, 1⟩⟩] := by decide
-- `answers_of_same_records` applies to genuinely different states
example : (∀ mo, (Demo.s1.apply .closeActive).read 2 mo = Demo.s1.read 2 mo) :=
  (answers_of_same_records Demo.s1_WF (apply_WF Demo.s1_WF .closeActive)
    (maint_records (m := .closeActive) Demo.s1_WF rfl) 2).1

end Pearl
