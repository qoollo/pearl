import Pearl.Proofs.MaintLemmas
import Pearl.Props.C01
import Pearl.Props.C02
import Pearl.Proofs.AbstractRefine
/-
C04: representation transparency.  Lifecycle and maintenance operations (`closeActive`,
`createActive`, `restoreActive`, `replaceActive`, `settle`, `restart`; `Op.isMaint`) never change
the answer of any query, nor the record counts; afterwards the storage accepts writes and deletes
exactly as before; lifecycle calls succeed whenever their documented precondition holds.

Second half (from "the answers are a function of the data operations"): refinement of the blob-free
specification `Pearl/Model/Abstract.lean`.  Every history refines the nondeterministic specification
(`run_refines_abstract`); histories of data operations only, and histories whose `only_if_presented`
deletes are safe, refine the deterministic one (`run_data_refines_abstract`,
`run_refines_abstract_partial` and its corollaries); without the safety condition that is false
(`run_refines_abstract_false`, `answers_depend_on_interleaved_maintenance`).  The closing note says
what is not proved and not true.
-/
namespace Pearl

/-- a maintenance operation leaves the history alone, except that empty blobs may appear at its end
    (in particular blobs keep their relative order, although they may move between the closed
    container and the active slot) -/
theorem maint_history {s : Store} (hwf : s.WF) {m : Op} (hm : m.isMaint = true) :
    ∃ e : History, (s.apply m).history = s.history ++ e ∧ ∀ b ∈ e, b.2 = [] :=
  (Store.apply_maint_step hwf hm).history_ext

/-- a maintenance operation leaves the list of positioned records literally unchanged -/
theorem maint_records_eq {s : Store} (hwf : s.WF) {m : Op} (hm : m.isMaint = true) :
    History.positioned (s.apply m).history = History.positioned s.history := by
  obtain ⟨e, he, hempty⟩ := maint_history hwf hm
  rw [he, positioned_append_empty _ hempty]

/-- the multiset form of `maint_records_eq` -/
theorem maint_records {s : Store} (hwf : s.WF) {m : Op} (hm : m.isMaint = true) :
    (History.positioned (s.apply m).history).Perm (History.positioned s.history) := by
  rw [maint_records_eq hwf hm]

/-- any two histories with pairwise distinct blob ids and the same multiset of positioned records
    have the same rank order (uniqueness of rank-sorted permutations) -/
theorem spec_all_of_perm {h h' : History} (hn' : (h'.map (·.1)).Nodup)
    (hp : h.positioned.Perm h'.positioned) (k : Key) : Spec.all h k = Spec.all h' k :=
  -- the positions of `h` are pairwise distinct because those of `h'` are
  sortedBy_unique hn' ((List.mergeSort_perm _ _).trans (hp.filter _))
    (sortedBy_sorted_of_distinct _
      ((List.Perm.pairwise_iff (fun hab => PDistinct.symm hab) hp).2 (positioned_distinct hn')))

/-- every function of the specification has the same value before and after a maintenance operation -/
theorem maint_spec {s : Store} (hwf : s.WF) {m : Op} (hm : m.isMaint = true) (k : Key) :
    Spec.all (s.apply m).history k = Spec.all s.history k ∧
      Spec.allCut (s.apply m).history k = Spec.allCut s.history k ∧
      Spec.allLive (s.apply m).history k = Spec.allLive s.history k ∧
      Spec.latest (s.apply m).history k = Spec.latest s.history k ∧
      ∀ mt, Spec.readWith (s.apply m).history k mt = Spec.readWith s.history k mt :=
  have hp := maint_records_eq hwf hm
  ⟨Spec.all_congr hp k, Spec.allCut_congr hp k, Spec.allLive_congr hp k, Spec.latest_congr hp k,
    fun mt => Spec.readWith_congr hp k mt⟩

/-- invariance of `Spec.all` through the multiset argument (`maint_records` + `WF` of the new state) -/
theorem maint_spec_all_via_perm {s : Store} (hwf : s.WF) {m : Op} (hm : m.isMaint = true) (k : Key) :
    Spec.all (s.apply m).history k = Spec.all s.history k :=
  spec_all_of_perm hwf.history_nodup (maint_records hwf hm) k

/-- `read` (`mo = none`) and `read_with` (`mo = some meta`).  The four answers go through the visible
    records (`Store.vis`, of which every answer is a function) rather than through `maint_spec`:
    one equation of views gives all of them. -/
theorem maint_read {s : Store} (hwf : s.WF) {m : Op} (hm : m.isMaint = true) (k : Key)
    (mo : Option Meta) : (s.apply m).read k mo = s.read k mo :=
  (Store.answers_of_vis_eq hwf (apply_WF hwf m) (Store.vis_maint hwf hm k)).1 mo

theorem maint_contains {s : Store} (hwf : s.WF) {m : Op} (hm : m.isMaint = true) (k : Key) :
    (s.apply m).contains k = s.contains k :=
  (Store.answers_of_vis_eq hwf (apply_WF hwf m) (Store.vis_maint hwf hm k)).2.1

theorem maint_readAllMarked {s : Store} (hwf : s.WF) {m : Op} (hm : m.isMaint = true) (k : Key) :
    (s.apply m).readAllMarked k = s.readAllMarked k :=
  (Store.answers_of_vis_eq hwf (apply_WF hwf m) (Store.vis_maint hwf hm k)).2.2.1

theorem maint_readAll {s : Store} (hwf : s.WF) {m : Op} (hm : m.isMaint = true) (k : Key) :
    (s.apply m).readAll k = s.readAll k :=
  (Store.answers_of_vis_eq hwf (apply_WF hwf m) (Store.vis_maint hwf hm k)).2.2.2

/-- the merged index lookup all point queries go through, also when filters prune blobs
    (`prune` may reject a blob only if it does not hold the key, cf. `prune_transparent`) -/
theorem maint_getLatestEntryP {s : Store} (hwf : s.WF) {m : Op} (hm : m.isMaint = true) (k : Key)
    (mo : Option Meta) (prune prune' : Blob → Key → Bool)
    (hp : ∀ b ∈ s.blobs, prune b k = true → ∀ r ∈ b.recs, r.key ≠ k)
    (hp' : ∀ b ∈ (s.apply m).blobs, prune' b k = true → ∀ r ∈ b.recs, r.key ≠ k) :
    (s.apply m).getLatestEntryP prune' k mo = s.getLatestEntryP prune k mo := by
  rw [prune_transparent _ _ _ _ hp, prune_transparent _ _ _ _ hp']
  exact maint_read hwf hm k mo

/-- all query functions: `read`, `read_with`, `contains`, `read_all_with_deletion_marker`,
    `read_all`, and the underlying `get_latest_entry` -/
theorem maint_answers {s : Store} (hwf : s.WF) {m : Op} (hm : m.isMaint = true) (k : Key) :
    (s.apply m).read k none = s.read k none ∧
      (∀ mt, (s.apply m).read k (some mt) = s.read k (some mt)) ∧
      (s.apply m).contains k = s.contains k ∧
      (s.apply m).readAllMarked k = s.readAllMarked k ∧
      (s.apply m).readAll k = s.readAll k ∧
      (∀ mo, (s.apply m).getLatestEntry k mo = s.getLatestEntry k mo) :=
  ⟨maint_read hwf hm k none, fun mt => maint_read hwf hm k (some mt), maint_contains hwf hm k,
    maint_readAllMarked hwf hm k, maint_readAll hwf hm k, fun mo => maint_read hwf hm k mo⟩

theorem maint_counts {s : Store} (hwf : s.WF) {m : Op} (hm : m.isMaint = true) :
    (s.apply m).recordsCount = s.recordsCount := by
  obtain ⟨e, he, hempty⟩ := maint_history hwf hm
  rw [Store.recordsCount_eq_count, Store.recordsCount_eq_count, he, count_append_empty _ hempty]

/-- per blob: the old counts, followed by zeros for the blobs that appeared -/
theorem maint_counts_detailed {s : Store} (hwf : s.WF) {m : Op} (hm : m.isMaint = true) :
    ∃ n, (s.apply m).recordsCountDetailed = s.recordsCountDetailed ++ List.replicate n 0 := by
  obtain ⟨e, he, hempty⟩ := maint_history hwf hm
  refine ⟨e.length, ?_⟩
  have h1 : ∀ t : Store, t.recordsCountDetailed = t.history.map (·.2.length) := by
    intro t; simp only [Store.recordsCountDetailed, Store.history, List.map_map]; rfl
  rw [h1, h1, he, List.map_append]
  congr 1
  rw [List.eq_replicate_iff]
  refine ⟨by simp, ?_⟩
  intro x hx
  obtain ⟨b, hb, rfl⟩ := List.mem_map.1 hx
  rw [hempty b hb]; rfl

/-- whether a write is refused as a duplicate is not changed by maintenance -/
theorem maint_dedups {s : Store} (hwf : s.WF) {m : Op} (hm : m.isMaint = true) (k : Key)
    (mo : Option Meta) : (s.apply m).dedups k mo = s.dedups k mo := by
  unfold Store.dedups
  rw [Store.apply_allowDup, Store.ensureActive_eq_apply, Store.ensureActive_eq_apply]
  have h1 : ((s.apply m).apply .createActive).getLatestEntry k mo = (s.apply m).getLatestEntry k mo :=
    maint_read (apply_WF hwf m) rfl k mo
  have h2 : (s.apply .createActive).getLatestEntry k mo = s.getLatestEntry k mo :=
    maint_read hwf rfl k mo
  have h3 : (s.apply m).getLatestEntry k mo = s.getLatestEntry k mo := maint_read hwf hm k mo
  rw [h1, h2, h3]

/-- after any maintenance operation: a write is stored (one more record, appended to the active
    blob) unless it is refused as a duplicate, and it is refused exactly when it would have been
    refused before; a delete without `only_if_presented` always appends at least one marker -/
theorem maint_then_accepts {s : Store} (hwf : s.WF) {m : Op} (hm : m.isMaint = true)
    (k : Key) (ts : Nat) (mo : Option Meta) (d : Data) :
    let s' := s.apply m
    (((s'.write k ts mo d).recordsCount = s'.recordsCount + 1 ∧
        ∃ a, s'.ensureActive.active = some a ∧
          (s'.write k ts mo d).active =
            some (a.append { key := k, ts := ts, del := false, mt := mo.getD none, data := d })) ∨
      (s.dedups k mo = true ∧ s'.allowDup = false ∧
        (s'.ensureActive.getLatestEntry k mo).isFound = true ∧
        s'.write k ts mo d = s'.ensureActive ∧ (s'.write k ts mo d).recordsCount = s'.recordsCount)) ∧
    1 ≤ (s'.delete k ts mo false).2 ∧
    (s'.delete k ts mo false).1.recordsCount = s'.recordsCount + (s'.delete k ts mo false).2 := by
  intro s'
  refine ⟨?_, Store.delete_false_pos s' k ts mo, Store.delete_recordsCount s' k ts mo false⟩
  have hd : s'.dedups k mo = s.dedups k mo := maint_dedups hwf hm k mo
  have hc := Store.write_recordsCount s' k ts mo d
  cases hdd : s'.dedups k mo with
  | false =>
    left
    rw [hdd] at hc
    refine ⟨by simpa using hc, ?_⟩
    have hcond : s'.allowDup = true ∨ (s'.ensureActive.getLatestEntry k mo).isFound = false := by
      unfold Store.dedups at hdd
      cases ha : s'.allowDup with
      | true => exact Or.inl rfl
      | false => right; simpa [ha] using hdd
    obtain ⟨a, ha, hw⟩ := write_appends s' k ts mo d hcond
    exact ⟨a, ha, by rw [hw]⟩
  | true =>
    right
    rw [hdd] at hc
    have h2 : s'.allowDup = false ∧ (s'.ensureActive.getLatestEntry k mo).isFound = true := by
      unfold Store.dedups at hdd
      simpa using hdd
    exact ⟨by rw [← hd, hdd], h2.1, h2.2, dedup_write s' k ts mo d h2.1 h2.2, by simpa using hc⟩

/-- `delete` with `only_if_presented` marks exactly the blobs in which the key is live, and their
    number is not changed by maintenance (new blobs are empty) -/
theorem maint_delete_present_count {s : Store} (hwf : s.WF) {m : Op} (hm : m.isMaint = true)
    (k : Key) (ts : Nat) (mo : Option Meta) :
    (s.delete k ts mo true).2 = (s.history.filter (fun h => Spec.liveIn h.1 h.2 k)).length ∧
      ((s.apply m).delete k ts mo true).2 = (s.delete k ts mo true).2 := by
  refine ⟨Store.delete_true_count s k ts mo, ?_⟩
  obtain ⟨e, he, hempty⟩ := maint_history hwf hm
  rw [Store.delete_true_count, Store.delete_true_count, he, List.filter_append, List.length_append]
  have : e.filter (fun h => Spec.liveIn h.1 h.2 k) = [] := by
    rw [List.filter_eq_nil_iff]
    intro b hb
    rw [hempty b hb, liveIn_nil]
    simp
  rw [this]; rfl

/-- lifecycle calls succeed whenever their documented precondition holds -/
theorem lifecycle_preconditions (s : Store) :
    ((∃ s', s.closeActive = .ok s') ↔ s.active.isSome = true) ∧
      ((∃ s', s.tryCreateActive = .ok s') ↔ s.active.isNone = true) ∧
      ((∃ s', s.restoreActive = .ok s') ↔ s.active.isNone = true ∧ s.closed ≠ []) := by
  refine ⟨?_, ?_, ?_⟩
  · unfold Store.closeActive
    cases s.active <;> simp
  · unfold Store.tryCreateActive
    cases s.active <;> simp
  · unfold Store.restoreActive
    cases s.active with
    | some a => simp
    | none =>
      cases hl : Store.lastPresent s.slots with
      | none => simp [Store.closed, Store.lastPresent_none hl]
      | some p =>
        obtain ⟨i, b⟩ := p
        have := Store.lastPresent_some hl
        simp only [Except.ok.injEq, exists_eq', Option.isNone_none, true_and, true_iff]
        unfold Store.closed
        rw [← this]; simp

/-- and they fail with the documented error otherwise -/
theorem lifecycle_errors (s : Store) :
    (s.active = none → s.closeActive = .error .activeBlobDoesntExist) ∧
      (s.active.isSome = true → s.tryCreateActive = .error .activeBlobExists) ∧
      (s.active.isSome = true → s.restoreActive = .error .activeBlobExists) ∧
      (s.active = none → s.closed = [] → s.restoreActive = .error .uninitialized) := by
  refine ⟨?_, ?_, ?_, ?_⟩
  · intro h; simp [Store.closeActive, h]
  · intro h; unfold Store.tryCreateActive; cases ha : s.active <;> simp_all
  · intro h; unfold Store.restoreActive; cases ha : s.active <;> simp_all
  · intro h hc
    unfold Store.restoreActive
    rw [h]
    cases hl : Store.lastPresent s.slots with
    | none => rfl
    | some p =>
      obtain ⟨i, b⟩ := p
      have := Store.lastPresent_some hl
      unfold Store.closed at hc
      rw [hc] at this
      simp at this

theorem run_maint_answers (d : Bool) (ops : List Op) (m : Op) (hm : m.isMaint = true) (k : Key) :
    let s := (Store.init d).run ops
    (s.apply m).read k none = s.read k none ∧
      (∀ mt, (s.apply m).read k (some mt) = s.read k (some mt)) ∧
      (s.apply m).contains k = s.contains k ∧
      (s.apply m).readAllMarked k = s.readAllMarked k ∧
      (s.apply m).readAll k = s.readAll k ∧
      (∀ mo, (s.apply m).getLatestEntry k mo = s.getLatestEntry k mo) :=
  maint_answers (run_WF d ops) hm k

theorem run_maint_counts (d : Bool) (ops : List Op) (m : Op) (hm : m.isMaint = true) :
    let s := (Store.init d).run ops
    (s.apply m).recordsCount = s.recordsCount :=
  maint_counts (run_WF d ops) hm

/-- any block of maintenance operations leaves the positioned records unchanged -/
theorem maints_records {s : Store} (hwf : s.WF) :
    ∀ ms : List Op, (∀ m ∈ ms, m.isMaint = true) →
      History.positioned (s.run ms).history = History.positioned s.history
  | [], _ => rfl
  | m :: ms, h => by
    rw [Store.run_cons, maints_records (apply_WF hwf m) ms (fun x hx => h x (by simp [hx])),
      maint_records_eq hwf (h m (by simp))]

theorem maints_answers {s : Store} (hwf : s.WF) (ms : List Op) (hms : ∀ m ∈ ms, m.isMaint = true)
    (k : Key) :
    (∀ mo, (s.run ms).read k mo = s.read k mo) ∧
      (s.run ms).contains k = s.contains k ∧
      (s.run ms).readAllMarked k = s.readAllMarked k ∧
      (s.run ms).readAll k = s.readAll k :=
  Store.answers_of_vis_eq hwf (Store.run_WF_from hwf ms) (Store.vis_congr (maints_records hwf ms hms) k)

/-- after every history, any block of maintenance operations is invisible to all queries -/
theorem run_maints_answers (d : Bool) (ops ms : List Op) (hms : ∀ m ∈ ms, m.isMaint = true) (k : Key) :
    let s := (Store.init d).run ops
    let s' := (Store.init d).run (ops ++ ms)
    (∀ mo, s'.read k mo = s.read k mo) ∧ s'.contains k = s.contains k ∧
      s'.readAllMarked k = s.readAllMarked k ∧ s'.readAll k = s.readAll k := by
  intro s s'
  have : s' = s.run ms := by simp [s, s', Store.run, List.foldl_append]
  rw [this]
  exact maints_answers (run_WF d ops) ms hms k

/-- what is *not* true: maintenance commutes with later data operations only as far as the answers
    go; a later `delete` (without `only_if_presented`) marks the closed old blob *and* the new active
    one, so the record count of a history does depend on where maintenance was interleaved -/
theorem counts_depend_on_interleaved_maintenance :
    ((Store.init true).run [.write 1 5 none ⟨1, 1⟩, .delete 1 9 none false]).recordsCount = 2 ∧
      ((Store.init true).run [.write 1 5 none ⟨1, 1⟩, .replaceActive, .delete 1 9 none false]).recordsCount = 3 ∧
      ((Store.init true).run [.write 1 5 none ⟨1, 1⟩, .delete 1 9 none false]).readAllMarked 1 =
        ((Store.init true).run [.write 1 5 none ⟨1, 1⟩, .replaceActive, .delete 1 9 none false]).readAllMarked 1 := by
  decide

-- the operations are maintenance operations, the hypotheses hold, the states do change …
example : (Op.closeActive).isMaint = true ∧ (Op.restart true).isMaint = true ∧
    (Op.write 1 1 none ⟨1, 1⟩).isMaint = false := by decide
example : (Demo.s1.apply .closeActive).active = none ∧ Demo.s1.active ≠ none := by decide
example : (Demo.s1.apply .replaceActive).history = Demo.s1.history ++ [(2, [])] := by decide
example : ((Demo.s1.apply .closeActive).apply .restoreActive).blobs = Demo.s1.blobs := by decide
example : (Demo.s2.apply (.restart true)).blobs ≠ Demo.s2.blobs := by decide
-- … and the answers are non-trivial and unchanged
example : (Demo.s1.apply .closeActive).read 1 none = .found ⟨1, 5, false, some [7], ⟨3, 3⟩⟩ := by
  rw [maint_read Demo.s1_WF rfl]; decide
example : (Demo.s2.apply (.restart true)).readAllMarked 1 =
    [⟨1, 12, false, none, ⟨4, 4⟩⟩, ⟨1, 9, true, none, ⟨0, 0⟩⟩] := by
  rw [maint_readAllMarked Demo.s2_WF rfl]; decide
example : (Demo.s2.apply .settle).recordsCount = 6 := by
  rw [maint_counts Demo.s2_WF rfl]; decide
-- `write` / `delete` are not maintenance operations and do change answers
example : (Demo.s1.apply (.delete 1 9 none true)).read 1 none ≠ Demo.s1.read 1 none := by decide
-- both alternatives of `maint_then_accepts` occur
example : ((Store.init false).run [.write 1 5 none ⟨1, 1⟩, .closeActive]).dedups 1 none = true ∧
    ((Store.init false).run [.write 1 5 none ⟨1, 1⟩, .closeActive]).dedups 2 none = false := by decide
example : ((Demo.s1.apply .closeActive).delete 1 9 none true).2 = 2 := by
  rw [(maint_delete_present_count Demo.s1_WF rfl 1 9 none).2]; decide
-- lifecycle preconditions: both sides occur
example : ∃ s', Demo.s1.closeActive = .ok s' := (lifecycle_preconditions Demo.s1).1.2 (by decide)
example : ¬ ∃ s', Demo.s1.tryCreateActive = .ok s' :=
  fun h => absurd ((lifecycle_preconditions Demo.s1).2.1.1 h) (by decide)
example : ∃ s', (Demo.s1.apply .closeActive).restoreActive = .ok s' :=
  (lifecycle_preconditions _).2.2.2 (by decide)

/-! ### the answers are a function of the data operations (refinement of `Pearl/Model/Abstract.lean`)

The abstract specification `Abs` has no blobs: its state is the list of data operations applied so
far (`dataOps ops`: the writes and deletes of the history `ops`, everything else erased), and
`Abs.read`, `Abs.contains`, `Abs.readAll`, `Abs.readAllMarked` are functions of that list.

Failing data operations: a `write` / `delete` never fails for want of an active blob in the model
(`Storage::write` and `delete(only_if_presented = false)` create one), so no `create_active`-style
precondition is needed; the only refusals are the duplicate check of `write` and the liveness test
of `delete(only_if_presented = true)`, and the abstract step carries the same guards, evaluated on
the abstract state.
-/

/-- all record-level answers of a well-formed storage are read off the visible records of the key -/
theorem answers_of_vis {s : Store} (hwf : s.WF) {dup : Bool} {a : List DOp} {k : Key}
    (hv : s.vis k = Abs.view dup a k) :
    s.readAllMarked k = Abs.readAllMarked dup a k ∧ s.readAll k = Abs.readAll dup a k ∧
      (∀ mo, s.read k mo = Abs.read dup a k mo) ∧ s.contains k = Abs.contains dup a k := by
  refine ⟨?_, ?_, fun mo => ?_, ?_⟩
  · rw [Store.readAllMarked_eq_vis hwf, hv]; rfl
  · rw [Store.readAll_eq_vis hwf, hv]; rfl
  · rw [Store.read_eq_vis hwf, hv]; rfl
  · rw [Store.contains_eq_vis hwf, hv]; rfl

/-- REFINEMENT, all histories, no hypothesis: after every history every answer about key `k` is read off
    one of the views the *nondeterministic* abstract specification allows for the data operations of
    the history (`Abs.nviews`: an `only_if_presented` delete either makes its marker the visible one
    or has no visible effect, see `Abs.oipOutcomes`; everything else is deterministic).  This is all
    the dependence on blob boundaries there is. -/
theorem run_refines_abstract (d : Bool) (ops : List Op) (k : Key) :
    let s := (Store.init d).run ops
    ∃ v ∈ Abs.nviews d (dataOps ops) k,
      s.readAllMarked k = v ∧ s.readAll k = v.filter (fun r => !r.del) ∧
        (∀ mo, s.read k mo = Abs.readOf v mo) ∧ s.contains k = (Abs.latestOf v).map (·.ts) := by
  intro s
  have hwf : s.WF := run_WF d ops
  have := Store.vis_run_nviews k ops (vs := [[]]) (init_WF d) (Store.allowDup_init d)
    (by rw [Store.vis_init]; simp)
  exact ⟨s.vis k, this, Store.readAllMarked_eq_vis hwf k, Store.readAll_eq_vis hwf k,
    fun mo => Store.read_eq_vis hwf k mo, Store.contains_eq_vis hwf k⟩

/-- the deterministic specification `Abs.view` always is one of the allowed views -/
theorem abstract_view_allowed (d : Bool) (ops : List Op) (k : Key) :
    Abs.view d (dataOps ops) k ∈ Abs.nviews d (dataOps ops) k :=
  Abs.view_mem_nviews d _ k

/-- REFINEMENT, histories without maintenance: after every history of data operations every answer
    is the one the abstract specification computes (no hypothesis on the operations: refused
    duplicates, `only_if_presented` deletes of dead or absent keys, … are all covered) -/
theorem run_data_refines_abstract (d : Bool) (ops : List Op) (hdata : ∀ op ∈ ops, op.isData = true)
    (k : Key) :
    let s := (Store.init d).run ops
    s.readAllMarked k = Abs.readAllMarked d (dataOps ops) k ∧
      s.readAll k = Abs.readAll d (dataOps ops) k ∧
      (∀ mo, s.read k mo = Abs.read d (dataOps ops) k mo) ∧
      s.contains k = Abs.contains d (dataOps ops) k := by
  intro s
  exact answers_of_vis (run_WF d ops) (Store.vis_run_data k ops (init_WF d) (Store.allowDup_init d)
    (Store.vis_init d k) (Store.closed_init d) hdata)

/-- REFINEMENT, histories with maintenance (`…_partial`: the unrestricted statement is false, see
    `run_refines_abstract_false`): after every history – data operations interleaved with
    `closeActive`, `createActive`, `restoreActive`, `replaceActive`, `settle`, `restart` in any way –
    all of whose `only_if_presented` deletes of key `k` are safe (`Abs.safeK`, a condition on the data
    operations only), every answer about `k` is the one the abstract specification computes from the
    data operations of the history -/
theorem run_refines_abstract_partial (d : Bool) (ops : List Op) (k : Key)
    (hs : Abs.safeK d k (dataOps ops) = true) :
    let s := (Store.init d).run ops
    s.readAllMarked k = Abs.readAllMarked d (dataOps ops) k ∧
      s.readAll k = Abs.readAll d (dataOps ops) k ∧
      (∀ mo, s.read k mo = Abs.read d (dataOps ops) k mo) ∧
      s.contains k = Abs.contains d (dataOps ops) k := by
  intro s
  exact answers_of_vis (run_WF d ops)
    (Store.vis_run_safe k ops (init_WF d) (Store.allowDup_init d) (Store.vis_init d k) hs)

/-- the same from any well-formed storage `s` (for instance any reachable one): what a further
    history does to the visible records of `k` is what the abstract steps do to them -/
theorem run_from_refines_abstract_partial {s : Store} (hwf : s.WF) (ops : List Op) (k : Key)
    (hs : Abs.safeFrom s.allowDup k (s.vis k) (dataOps ops) = true) :
    (s.run ops).readAllMarked k = Abs.viewFrom s.allowDup k (s.readAllMarked k) (dataOps ops) := by
  rw [Store.readAllMarked_eq_vis (Store.run_WF_from hwf ops), Store.readAllMarked_eq_vis hwf]
  exact Store.vis_run_safe k ops hwf rfl rfl hs

/-- … for all keys at once, under the decidable check `Abs.safeAll` -/
theorem run_refines_abstract_of_safe (d : Bool) (ops : List Op)
    (hs : Abs.safeAll d (dataOps ops) = true) (k : Key) :
    let s := (Store.init d).run ops
    s.readAllMarked k = Abs.readAllMarked d (dataOps ops) k ∧
      s.readAll k = Abs.readAll d (dataOps ops) k ∧
      (∀ mo, s.read k mo = Abs.read d (dataOps ops) k mo) ∧
      s.contains k = Abs.contains d (dataOps ops) k :=
  run_refines_abstract_partial d ops k ((Abs.safe_iff d _).2 hs k)

/-- … in particular for every history whose deletes do not use `only_if_presented` -/
theorem run_refines_abstract_of_noOip (d : Bool) (ops : List Op)
    (hn : Abs.noOip (dataOps ops) = true) (k : Key) :
    let s := (Store.init d).run ops
    s.readAllMarked k = Abs.readAllMarked d (dataOps ops) k ∧
      s.readAll k = Abs.readAll d (dataOps ops) k ∧
      (∀ mo, s.read k mo = Abs.read d (dataOps ops) k mo) ∧
      s.contains k = Abs.contains d (dataOps ops) k :=
  run_refines_abstract_partial d ops k (Abs.safe_of_noOip d hn k)

/-- under the safety condition the answers after a history are those after the same history with all
    maintenance operations erased (without the condition this is false, see
    `run_answers_depend_on_data_ops_only_false`) -/
theorem run_answers_depend_on_data_ops_only_partial (d : Bool) (ops : List Op) (k : Key)
    (hs : Abs.safeK d k (dataOps ops) = true) :
    let s := (Store.init d).run ops
    let s' := (Store.init d).run (ops.filter Op.isData)
    s.readAllMarked k = s'.readAllMarked k ∧ s.readAll k = s'.readAll k ∧
      (∀ mo, s.read k mo = s'.read k mo) ∧ s.contains k = s'.contains k := by
  intro s s'
  obtain ⟨h1, h2, h3, h4⟩ := run_refines_abstract_partial d ops k hs
  obtain ⟨g1, g2, g3, g4⟩ := run_data_refines_abstract d (ops.filter Op.isData)
    (fun op hop => (List.mem_filter.1 hop).2) k
  rw [dataOps_filter_isData] at g1 g2 g3 g4
  exact ⟨h1.trans g1.symm, h2.trans g2.symm, fun mo => (h3 mo).trans (g3 mo).symm, h4.trans g4.symm⟩

theorem run_answers_depend_on_data_ops_only_of_noOip (d : Bool) (ops : List Op)
    (hn : Abs.noOip (dataOps ops) = true) (k : Key) :
    let s := (Store.init d).run ops
    let s' := (Store.init d).run (ops.filter Op.isData)
    s.readAllMarked k = s'.readAllMarked k ∧ s.readAll k = s'.readAll k ∧
      (∀ mo, s.read k mo = s'.read k mo) ∧ s.contains k = s'.contains k :=
  run_answers_depend_on_data_ops_only_partial d ops k (Abs.safe_of_noOip d hn k)

/-- where (and which) maintenance operations are interleaved does not matter: two histories with the
    same data operations, safe for `k`, answer alike -/
theorem run_answers_eq_of_same_data_ops (d : Bool) (ops₁ ops₂ : List Op) (k : Key)
    (hsame : dataOps ops₁ = dataOps ops₂) (hs : Abs.safeK d k (dataOps ops₁) = true) :
    let s₁ := (Store.init d).run ops₁
    let s₂ := (Store.init d).run ops₂
    s₁.readAllMarked k = s₂.readAllMarked k ∧ s₁.readAll k = s₂.readAll k ∧
      (∀ mo, s₁.read k mo = s₂.read k mo) ∧ s₁.contains k = s₂.contains k := by
  intro s₁ s₂
  obtain ⟨h1, h2, h3, h4⟩ := run_refines_abstract_partial d ops₁ k hs
  obtain ⟨g1, g2, g3, g4⟩ := run_refines_abstract_partial d ops₂ k (by rw [← hsame]; exact hs)
  rw [← hsame] at g1 g2 g3 g4
  exact ⟨h1.trans g1.symm, h2.trans g2.symm, fun mo => (h3 mo).trans (g3 mo).symm, h4.trans g4.symm⟩

/-! #### what is false: `only_if_presented` deletes that are not safe make blob boundaries observable

`Blob::delete(.., only_if_presented = true)` tests liveness in *that blob*.  Below, key 1 is deleted
at ts 10 and written again at ts 5: it is dead (`Deleted(10)`).  If the blob was rotated in between,
the record of ts 5 is the only record of its blob, the key is live there, and a later
`delete(1, ts 12, only_if_presented)` – which by the documentation of `only_if_presented` should do
nothing – stores a marker of ts 12 that outranks everything.  `read` then answers `Deleted(12)`
instead of `Deleted(10)`, and a subsequent write at ts 11 is invisible instead of `Found`. -/

/-- the history with one rotation … -/
def Demo.opsRot : List Op :=
  [.delete 1 10 none false, .replaceActive, .write 1 5 none ⟨1, 1⟩, .delete 1 12 none true]

/-- … and a continuation -/
def Demo.opsRot' : List Op := Demo.opsRot ++ [.write 1 11 none ⟨2, 2⟩]

theorem answers_depend_on_interleaved_maintenance :
    -- `read` / `contains`: the timestamp of the deletion differs
    ((Store.init true).run Demo.opsRot).read 1 none = .deleted 12 ∧
      ((Store.init true).run (Demo.opsRot.filter Op.isData)).read 1 none = .deleted 10 ∧
      ((Store.init true).run Demo.opsRot).contains 1 = .deleted 12 ∧
      ((Store.init true).run (Demo.opsRot.filter Op.isData)).contains 1 = .deleted 10 ∧
      -- one more write: `Deleted` against `Found`, nothing against one record
      ((Store.init true).run Demo.opsRot').read 1 none = .deleted 12 ∧
      ((Store.init true).run (Demo.opsRot'.filter Op.isData)).read 1 none =
        .found ⟨1, 11, false, none, ⟨2, 2⟩⟩ ∧
      ((Store.init true).run Demo.opsRot').readAll 1 = [] ∧
      ((Store.init true).run (Demo.opsRot'.filter Op.isData)).readAll 1 =
        [⟨1, 11, false, none, ⟨2, 2⟩⟩] ∧
      -- the abstract specification sides with the history without maintenance
      Abs.read true (dataOps Demo.opsRot') 1 none = .found ⟨1, 11, false, none, ⟨2, 2⟩⟩ ∧
      -- and the delete is reported as not safe
      Abs.safeK true 1 (dataOps Demo.opsRot) = false := by
  decide

/-- "the answers after a run are those after the run with all maintenance operations erased" is
    false without a hypothesis on the `only_if_presented` deletes (also with duplicates disallowed) -/
theorem run_answers_depend_on_data_ops_only_false :
    ¬ ∀ (d : Bool) (ops : List Op) (k : Key),
      ((Store.init d).run ops).read k none =
        ((Store.init d).run (ops.filter Op.isData)).read k none := by
  intro h
  exact absurd (h false Demo.opsRot 1) (by decide)

/-- and so is the refinement without the safety hypothesis -/
theorem run_refines_abstract_false :
    ¬ ∀ (d : Bool) (ops : List Op) (k : Key),
      ((Store.init d).run ops).read k none = Abs.read d (dataOps ops) k none := by
  intro h
  exact absurd (h false Demo.opsRot 1) (by decide)

/-- a second way: the key is live, the visible marker and the new one have the same timestamp but
    different metadata.  Which of the two `read_all_with_deletion_marker` returns depends on the blob
    boundaries; `read`, `read_with`, `contains`, `read_all` do not see the difference. -/
theorem marker_meta_depends_on_interleaved_maintenance :
    let ops : List Op := [.write 1 20 none ⟨1, 1⟩, .replaceActive,
      .delete 1 10 (some (some [1])) false, .delete 1 10 (some (some [2])) true]
    let s := (Store.init true).run ops
    let s' := (Store.init true).run (ops.filter Op.isData)
    s.readAllMarked 1 = [⟨1, 20, false, none, ⟨1, 1⟩⟩, ⟨1, 10, true, some [1], ⟨0, 0⟩⟩] ∧
      s'.readAllMarked 1 = [⟨1, 20, false, none, ⟨1, 1⟩⟩, ⟨1, 10, true, some [2], ⟨0, 0⟩⟩] ∧
      s.readAll 1 = s'.readAll 1 ∧ s.read 1 none = s'.read 1 none ∧ s.contains 1 = s'.contains 1 ∧
      Abs.safeK true 1 (dataOps ops) = false := by
  decide

/-- key 1 written, the blob rotated, key 1 written again (newer), the blob closed, key 1 deleted
    `only_if_presented` at a timestamp between the two writes – the marker goes into *both* closed
    blobs, there is no active one –, a restart, another key, the index dumps, one more rotation, an unconditional
    delete (the marker goes into the active blob and into the closed blob 1, where the key is live),
    a write at the timestamp of that marker, and a write that is refused as a duplicate -/
def Demo.opsAbs : List Op :=
  [.write 1 5 none ⟨1, 1⟩, .replaceActive, .write 1 7 (some (some [3])) ⟨2, 2⟩, .closeActive,
   .delete 1 6 none true, .restart false, .write 2 1 none ⟨3, 3⟩, .settle, .replaceActive,
   .delete 1 9 none false, .write 1 9 none ⟨4, 4⟩, .write 1 8 none ⟨5, 5⟩]

-- the hypothesis holds (for key 1, and for all keys) …
example : Abs.safeK false 1 (dataOps Demo.opsAbs) = true := by decide
example : Abs.Safe false (dataOps Demo.opsAbs) := (Abs.safe_iff _ _).2 (by decide)
-- … the storage really has several blobs, and the `only_if_presented` delete marked two of them …
example : ((Store.init false).run Demo.opsAbs).recordsCountDetailed = [2, 4, 2] := by decide
example : (((Store.init false).run (Demo.opsAbs.take 4)).delete 1 6 none true).2 = 2 := by decide
-- … the abstract state is the seven data operations …
example : (dataOps Demo.opsAbs).length = 7 := by decide
-- … and the answers are not trivial: after the marker of ts 6 only the write of ts 7 is visible,
example : Abs.readAllMarked false (dataOps (Demo.opsAbs.take 5)) 1 =
    [⟨1, 7, false, some [3], ⟨2, 2⟩⟩, ⟨1, 6, true, none, ⟨0, 0⟩⟩] := by decide
example : ((Store.init false).run (Demo.opsAbs.take 5)).readAllMarked 1 =
    [⟨1, 7, false, some [3], ⟨2, 2⟩⟩, ⟨1, 6, true, none, ⟨0, 0⟩⟩] := by
  rw [(run_refines_abstract_partial false (Demo.opsAbs.take 5) 1 (by decide)).1]; decide
-- at the end: written at ts 9 after the delete of ts 9; the write of ts 8 was refused (duplicate)
example : ((Store.init false).run Demo.opsAbs).read 1 none = .found ⟨1, 9, false, none, ⟨4, 4⟩⟩ := by
  rw [(run_refines_abstract_partial false Demo.opsAbs 1 (by decide)).2.2.1]; decide
example : ((Store.init false).run Demo.opsAbs).read 1 (some (some [3])) = .deleted 9 := by
  rw [(run_refines_abstract_partial false Demo.opsAbs 1 (by decide)).2.2.1]; decide
example : ((Store.init false).run Demo.opsAbs).readAll 1 = [⟨1, 9, false, none, ⟨4, 4⟩⟩] := by
  rw [(run_refines_abstract_partial false Demo.opsAbs 1 (by decide)).2.1]; decide
example : ((Store.init false).run Demo.opsAbs).contains 2 = .found 1 := by
  rw [(run_refines_abstract_of_safe false Demo.opsAbs (by decide) 2).2.2.2]; decide
-- maintenance erased: same answers, different storage
example :
    ((Store.init false).run Demo.opsAbs).readAllMarked 1 =
      ((Store.init false).run (Demo.opsAbs.filter Op.isData)).readAllMarked 1 :=
  (run_answers_depend_on_data_ops_only_partial false Demo.opsAbs 1 (by decide)).1
example : ((Store.init false).run (Demo.opsAbs.filter Op.isData)).recordsCountDetailed = [6] ∧
    ((Store.init false).run Demo.opsAbs).recordsCount = 8 := by decide
-- the duplicate guard of the abstract step is exercised (`allow_duplicates = false`: the second
-- write of an existing key/meta is refused, concretely and abstractly) …
example : Abs.readAllMarked false (dataOps [.write 1 5 none ⟨1, 1⟩, .closeActive, .write 1 6 none ⟨2, 2⟩]) 1
    = [⟨1, 5, false, none, ⟨1, 1⟩⟩] := by decide
-- … and so is the `only_if_presented` guard on a history without maintenance (not safe, but covered)
example : Abs.safeK true 1 (dataOps (Demo.opsRot.filter Op.isData)) = false := by decide
example : ((Store.init true).run (Demo.opsRot.filter Op.isData)).read 1 none = .deleted 10 := by
  rw [(run_data_refines_abstract true _ (by decide) 1).2.2.1]; decide
-- the nondeterministic specification: both outcomes of the `only_if_presented` delete of `opsRot`
-- are allowed (and both occur, see `answers_depend_on_interleaved_maintenance`); a safe history
-- has a single allowed view
example : Abs.nviews true (dataOps Demo.opsRot) 1 =
    [[⟨1, 12, true, none, ⟨0, 0⟩⟩], [⟨1, 10, true, none, ⟨0, 0⟩⟩]] := by decide
example : Abs.nviews false (dataOps Demo.opsAbs) 1 =
    [[⟨1, 9, false, none, ⟨4, 4⟩⟩, ⟨1, 9, true, none, ⟨0, 0⟩⟩]] := by decide
example : ∃ v ∈ Abs.nviews true (dataOps Demo.opsRot) 1,
    ((Store.init true).run Demo.opsRot).read 1 none = Abs.readOf v none :=
  let ⟨v, hv, _, _, h, _⟩ := run_refines_abstract true Demo.opsRot 1
  ⟨v, hv, h none⟩
-- the declarative reading of the abstract specification: one log, sorted and cut
example : Abs.log false (dataOps Demo.opsAbs) =
    [⟨1, 5, false, none, ⟨1, 1⟩⟩, ⟨1, 7, false, some [3], ⟨2, 2⟩⟩, ⟨1, 6, true, none, ⟨0, 0⟩⟩,
     ⟨2, 1, false, none, ⟨3, 3⟩⟩, ⟨1, 9, true, none, ⟨0, 0⟩⟩, ⟨1, 9, false, none, ⟨4, 4⟩⟩] := by
  decide
example : Abs.view false (dataOps Demo.opsAbs) 1 =
    [⟨1, 9, false, none, ⟨4, 4⟩⟩, ⟨1, 9, true, none, ⟨0, 0⟩⟩] := by
  rw [Abs.view_eq_visOfLog]; decide

/-
Do the answers after a run depend on its data operations only, i.e. are they those after the run
with all maintenance operations erased?

  * Not in general: `run_answers_depend_on_data_ops_only_false`,
    `answers_depend_on_interleaved_maintenance` (`read` / `contains` / `read_all` differ, even
    `Found` against `Deleted`), `marker_meta_depends_on_interleaved_maintenance` (only
    `read_all_with_deletion_marker` differs), next to `counts_depend_on_interleaved_maintenance`.
    The cause is `delete(only_if_presented = true)`, whose liveness test is per blob.
  * For all histories, without hypothesis (`run_refines_abstract`): the answers are read off one
    of the views of the nondeterministic blob-free specification (`Abs.nviews`), in which an
    `only_if_presented` delete has at most two outcomes.
  * For every history whose `only_if_presented` deletes are safe (`Abs.safeK`, decidable, on
    the data operations only; all histories without `only_if_presented`) they do:
    `run_answers_depend_on_data_ops_only_partial`, `…_of_noOip`, `run_answers_eq_of_same_data_ops`,
    as corollaries of the refinement theorems `run_refines_abstract_partial` (with maintenance) and
    `run_data_refines_abstract` (without maintenance, unconditional) against the blob-free
    specification `Pearl/Model/Abstract.lean`.

NOT PROVED, and not true: that `Abs.safeK` is the weakest such condition on the data operations.  It is
sufficient, and the witnesses above show it cannot simply be dropped, but e.g. the data operations
`[delete 1 5 none false, delete 1 7 none true]` violate it although no blob can ever hold key 1 live
(there is no write), so no interleaving of maintenance changes an answer.  Likewise `Abs.nviews`
over-approximates: it allows the marker of an `only_if_presented` delete of a dead key to become
visible whenever the key has a visible record, without tracking whether some hidden record can be
live in a blob of its own.  A tight condition needs that extra state in the abstract specification.
Record counts are not part of the abstract specification (they do depend on blob boundaries).
-/

end Pearl
